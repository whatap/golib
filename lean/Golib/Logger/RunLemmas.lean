/-
  Golib.Logger.RunLemmas — one operation of the logger, and what follows for histories.

  Every operation is written as an equation: a call sets settings, performs its `Put` on the id
  cache and appends to the open file (`step_call`); a retention pass filters the directory and
  logs its panics (`clearOld_eq`); a cycle is a retention pass at most once a minute, then the
  rotation (`process_eq`: `retain`, `reopenFile`).  What a field is afterwards is read off these;
  what happens to the files of the directory is `Dir.Grows` of each (`clearOld_grows`,
  `openFile_grows`, `process_grows`).  `St.Inv` — the open file is the one named at the last
  opening — is kept by every operation, and a cycle re-establishes the name for its day
  (`reopenFile_spec`, `process_rotates`).
  The statements of Props/C17.lean are written with the definitions made here: `emit`/`emits` and
  `Op.isCall` (the chunks a history hands to the file), `ratedOf`/`putOf`/`dictAfter` (its `Put`s),
  `St.nameAt`, `St.Inv`.
-/
import Golib.Logger.RetentionLemmas
import Golib.Logger.DirLemmas
import Golib.Logger.CheckOkLemmas

namespace Logger

/-- the chunks a call appends to the open file, in order (cycle operations are not calls) -/
def emit (st : St) : Op → List Chunk
  | .log t m id msg => if (logDecide t m id msg st).1 = .written then [lineOf m id msg] else []
  | .read t file endpos length snap =>
    match read st.home file snap endpos length with
    | .nilOpenErr =>
      if (checkOk st.cache (truncate (asc "Read log file  ") idLen) st.conf.interval t).1
      then [.toReset (ansiRed ++ asc "[Error] " ++ asc "Read log file  ")] else []
    | .nilReadErr =>
      if (checkOk st.cache (truncate (asc "WA1000901  Read Error  ") idLen) st.conf.interval t).1
      then [.toReset (ansiRed ++ asc "[Error] " ++ asc "WA1000901  Read Error  ")] else []
    | _ => []
  | _ => []

/-- a call, as opposed to a background cycle -/
def Op.isCall : Op → Bool
  | .proc _ | .clr _ => false
  | _ => true

/-- the rate-limited line an operation writes, as (id, time) -/
def ratedOf (st : St) : Op → List (Bytes × Int)
  | .log t m id msg =>
    match m.rateId id (if m.ln then msg ++ [cNl] else msg) with
    | some rid => if (logDecide t m id msg st).1 = .written then [(rid, t)] else []
    | none => []
  | .read t file endpos length snap =>
    match read st.home file snap endpos length with
    | .nilOpenErr =>
      if (checkOk st.cache (truncate (asc "Read log file  ") idLen) st.conf.interval t).1
      then [(truncate (asc "Read log file  ") idLen, t)] else []
    | .nilReadErr =>
      if (checkOk st.cache (truncate (asc "WA1000901  Read Error  ") idLen) st.conf.interval t).1
      then [(truncate (asc "WA1000901  Read Error  ") idLen, t)] else []
    | _ => []
  | _ => []

/-- the `lastLog.Put(id, now)` an operation performs (rate-limited line written with a positive interval) -/
def putOf (st : St) (op : Op) : List (Bytes × Int) :=
  if st.conf.interval > 0 then ratedOf st op else []

/-- the dictionary after a list of `Put`s -/
def dictAfter (c : Cache) (ps : List (Bytes × Int)) : Cache := ps.foldl (fun c e => cachePut c e.1 e.2) c

/-- the settings after an operation: `SetLevel` and `ApplyConfig` set theirs, nothing else does -/
def confAfter (c : Conf) : Op → Conf
  | .setLevel lv => { c with level := lv }
  | .applyConfig rot keep interval level =>
    { c with rotation := rot, keepDays := keep, interval := interval, level := logLevel level }
  | _ => c

theorem confAfter_names (c : Conf) (op : Op) : (confAfter c op).logID = c.logID ∧ (confAfter c op).oname = c.oname := by
  cases op <;> exact ⟨rfl, rfl⟩

theorem checkOk_snd (c : Cache) (id : Bytes) (sec now : Int) :
    (checkOk c id sec now).2 =
      dictAfter c (if sec > 0 then (if (checkOk c id sec now).1 then [(id, now)] else []) else []) := by
  rcases checkOk_cases c id sec now with ⟨h1, hc⟩ | ⟨h1, _, hc⟩ | ⟨h1, _, hc⟩ <;> rw [hc] <;> simp [h1, dictAfter]

theorem logDecide_snd (t : Int) (m : Meth) (id msg : Bytes) (st : St) :
    (logDecide t m id msg st).2 = dictAfter st.cache (putOf st (.log t m id msg)) := by
  unfold putOf
  simp only [ratedOf]
  rcases logDecide_cases t m id msg st with ⟨_, hd⟩ | ⟨_, hr, hd⟩ | ⟨rid, _, hr, hok, hd⟩ | ⟨rid, _, hr, hok, hd⟩ <;>
    rw [hd]
  · cases m.rateId id (if m.ln = true then msg ++ [cNl] else msg) <;> simp [dictAfter]
  · simp [hr, dictAfter]
  · simp only [hr, if_true, checkOk_snd, hok]
  · simp [hr, dictAfter]

/-- a log call performs its `Put` on the id cache and appends what it emits to the open file -/
theorem logCall_eq (t : Int) (m : Meth) (id msg : Bytes) (st : St) :
    (logCall t m id msg st).1 =
      ({ st with cache := dictAfter st.cache (putOf st (.log t m id msg)) } : St).append (emit st (.log t m id msg)) := by
  simp only [logCall, emit, logDecide_snd]

/-- a call, in one equation: it sets the settings it was asked to set, performs its `Put` on the
    id cache, and appends what it emits to the open file; every other field is as it was -/
theorem step_call (cal : Cal) (st : St) (op : Op) (hc : op.isCall = true) :
    (step cal st op).1 =
      ({ st with conf := confAfter st.conf op, cache := dictAfter st.cache (putOf st op) } : St).append (emit st op) := by
  cases op with
  | proc t => cases hc
  | clr t => cases hc
  | log t m id msg => exact logCall_eq t m id msg st
  | setLevel lv => simp only [step, emit, confAfter, putOf, ratedOf, St.append_nil]; split <;> rfl
  | applyConfig rot keep interval level => simp only [step, emit, confAfter, putOf, ratedOf, St.append_nil]; split <;> rfl
  | read t file endpos length snap =>
    simp only [step, emit, confAfter, putOf, ratedOf]
    cases hr : read st.home file snap endpos length with
    | nilQuiet => simp only [St.append_nil]; split <;> rfl
    | data d => simp only [St.append_nil]; split <;> rfl
    | nilOpenErr => simp only [logInternalError, checkOk_snd]
    | nilReadErr => simp only [logInternalError, checkOk_snd]

/-- an operation is a call, a retention pass or a cycle -/
@[elab_as_elim] theorem Op.byKind {P : Op → Prop} (call : ∀ op, op.isCall = true → P op)
    (clr : ∀ t, P (.clr t)) (proc : ∀ t, P (.proc t)) : ∀ op, P op
  | .clr t => clr t
  | .proc t => proc t
  | .log .. => call _ rfl
  | .setLevel .. => call _ rfl
  | .applyConfig .. => call _ rfl
  | .read .. => call _ rfl

theorem putOf_cycle (st : St) (t : Int) : putOf st (.clr t) = [] ∧ putOf st (.proc t) = [] := by
  unfold putOf
  constructor <;> split <;> rfl

/-- everything a sequence of calls emits, in call order -/
def emits (cal : Cal) (st : St) : List Op → List Chunk
  | [] => []
  | o :: r => emit st o ++ emits cal (step cal st o).1 r

theorem run_cons (cal : Cal) (st : St) (o : Op) (r : List Op) :
    run cal st (o :: r) = run cal (step cal st o).1 r := rfl

/-- between two cycles: the open file does not change and receives exactly the emitted
    chunks, whole and in call order; nothing else in the directory changes -/
theorem calls_in_order (cal : Cal) (st : St) (ops : List Op) (h : ∀ o ∈ ops, o.isCall = true) :
    (run cal st ops).cur = st.cur ∧ (run cal st ops).dir = (st.append (emits cal st ops)).dir := by
  induction ops generalizing st with
  | nil => exact ⟨rfl, by rw [emits, St.append_nil]; rfl⟩
  | cons o r ih =>
    obtain ⟨c2, d2⟩ := ih (step cal st o).1 fun o' hm => h o' (List.mem_cons_of_mem _ hm)
    rw [run_cons, c2, d2, emits]
    generalize emits cal (step cal st o).1 r = es
    rw [step_call cal st o (h o List.mem_cons_self)]
    simp only [St.append_eq]
    cases st.cur with
    | none => exact ⟨trivial, rfl⟩
    | some n => exact ⟨trivial, dirAppend_append ..⟩

/-- a retention pass, in one equation (retention on or off): the condemned files leave the
    directory, their names are reported, and the open file receives one `WA10006` line for every
    date the calendar panicked on -/
theorem clearOld_eq (cal : Cal) (now : Int) (st : St) : ∃ p,
    clearOld cal now st =
      (({ st with dir := st.dir.filter fun e =>
            !deleted cal st.conf.rotation st.conf.logID st.conf.keepDays (unit now) e.1 } : St).append
          (List.replicate p panicLine),
       (st.dir.filter fun e => deleted cal st.conf.rotation st.conf.logID st.conf.keepDays (unit now) e.1).map (·.1)) := by
  unfold clearOld deleted
  split
  · rename_i hon
    refine ⟨(clearDir cal st.conf.logID st.conf.keepDays (unit now) st.dir).2.2, ?_⟩
    simp only [hon, Bool.true_and, clearDir_del, clearDir_fst, bne]
  · rename_i hoff
    refine ⟨0, ?_⟩
    simp only [Bool.not_eq_true] at hoff
    simp only [hoff, Bool.false_and, Bool.not_false, List.replicate, St.append_nil, List.filter_eq_self.mpr fun _ _ => rfl]
    simp

/-- a pass changes nothing but the directory -/
theorem clearOld_fst (cal : Cal) (now : Int) (st : St) : ∃ d, (clearOld cal now st).1 = { st with dir := d } := by
  obtain ⟨p, h⟩ := clearOld_eq cal now st
  exact ⟨_, by rw [h, St.append_eq]⟩

/-- the names removed by one retention pass -/
theorem clearOld_removed (cal : Cal) (now : Int) (st : St) (n : Bytes) :
    n ∈ (clearOld cal now st).2 ↔
      (∃ f, (n, f) ∈ st.dir) ∧ deleted cal st.conf.rotation st.conf.logID st.conf.keepDays (unit now) n = true := by
  obtain ⟨p, h⟩ := clearOld_eq cal now st
  rw [h]
  simp only [List.mem_map, List.mem_filter]
  exact ⟨fun ⟨⟨_, f⟩, ⟨hm, hd⟩, e⟩ => e ▸ ⟨⟨f, hm⟩, hd⟩, fun ⟨⟨f, hm⟩, hd⟩ => ⟨(n, f), ⟨hm, hd⟩, rfl⟩⟩

/-- what a pass does not condemn stays, and only the open file can have grown -/
theorem clearOld_grows (cal : Cal) (now : Int) (st : St) :
    Dir.Grows (deleted cal st.conf.rotation st.conf.logID st.conf.keepDays (unit now) · = false) (st.cur = some ·)
      st.dir (clearOld cal now st).1.dir := by
  obtain ⟨p, h⟩ := clearOld_eq cal now st
  rw [h]
  exact ((Dir.grows_filter (fun n => !deleted cal st.conf.rotation st.conf.logID st.conf.keepDays (unit now) n) st.dir).trans
    (St.grows_append { st with dir := _ } _)).mono (fun n _ _ hn => ⟨by rw [hn]; rfl, trivial⟩) (fun n hn => hn.elim False.elim id)

/-- and what the directory holds afterwards is not condemned -/
theorem clearOld_dir_sub (cal : Cal) (now : Int) (st : St) {n : Bytes} {g : File} (h : (n, g) ∈ (clearOld cal now st).1.dir) :
    deleted cal st.conf.rotation st.conf.logID st.conf.keepDays (unit now) n = false := by
  obtain ⟨p, e⟩ := clearOld_eq cal now st
  rw [e] at h
  obtain ⟨x, hx⟩ := St.mem_append_dir h
  simpa using (List.mem_filter.mp hx).2

/-- the same with "not reported as removed" for "not condemned" -/
theorem clearOld_keeps (cal : Cal) (now : Int) (st : St) :
    Dir.Grows (· ∉ (clearOld cal now st).2) (st.cur = some ·) st.dir (clearOld cal now st).1.dir :=
  (clearOld_grows cal now st).mono
    (fun n f hf hn => Bool.eq_false_iff.mpr fun hd => hn ((clearOld_removed cal now st n).mpr ⟨⟨f, hf⟩, hd⟩)) (fun _ h => h)

/-- the name under which the logger would open its file now -/
def St.nameAt (cal : Cal) (st : St) (rot : Bool) (u : Int) : Bytes :=
  fileName cal st.conf.logID st.conf.oname rot u

/-- the open file is the one named for the date and rotation flag of the last (re)opening -/
def St.Inv (cal : Cal) (st : St) : Prop :=
  ∀ n, st.cur = some n → n = st.nameAt cal st.lastRot st.lastUnit

theorem openFile_cur (cal : Cal) (now : Int) (st : St) :
    (openFile cal now st).cur = (match st.cur with | some n => some n | none => some (st.nameAt cal st.conf.rotation (unit now))) := by
  unfold openFile
  cases h : st.cur with
  | some n => simp [h]
  | none => simp [St.nameAt]

/-- opening a file changes nothing but the handle and the directory -/
theorem openFile_fst (cal : Cal) (now : Int) (st : St) : ∃ c d, openFile cal now st = { st with cur := c, dir := d } := by
  obtain ⟨_, _, _, cur, _, _, _, _⟩ := st
  cases cur <;> exact ⟨_, _, rfl⟩

/-- the invariant, from what was recorded at the last opening -/
theorem St.inv_of_opened {cal : Cal} {st st' : St} {rot : Bool} {u : Int} (hc : st'.cur = some (st.nameAt cal rot u))
    (hk : st'.conf = st.conf) (hr : st'.lastRot = rot) (hu : st'.lastUnit = u) : st'.Inv cal := by
  intro n hn
  rw [hc] at hn
  rw [← Option.some.inj hn, hr, hu, St.nameAt, St.nameAt, hk]

theorem new_inv (cal : Cal) (t0 : Int) (conf : Conf) (home : Bytes) (dir : Dir) :
    (St.new cal t0 conf home dir).Inv cal :=
  St.inv_of_opened (st := ⟨conf, home, [], none, t0, unit t0, conf.rotation, dir⟩) rfl rfl rfl rfl

/-- opening a file never alters what a file already holds: it appends the header to the file it
    opens (creating it empty when absent) -/
theorem openFile_grows (cal : Cal) (now : Int) (st : St) :
    Dir.Grows (fun _ => True) (· = st.nameAt cal st.conf.rotation (unit now)) st.dir (openFile cal now st).dir := by
  unfold openFile
  cases st.cur with
  | some m => exact Dir.Grows.refl _ _ _
  | none =>
    simp only []
    split
    · exact Dir.grows_dirAppend _ _ _
    · exact ((Dir.grows_snoc _ _).trans (Dir.grows_dirAppend _ _ _)).mono (fun _ _ _ _ => ⟨trivial, trivial⟩)
        (fun _ h => h.elim False.elim id)

/-- the two halves of `process`: the retention pass, at most once a minute … -/
def retain (cal : Cal) (t : Int) (st : St) : St × List Bytes :=
  if t > st.last + 60000 then clearOld cal t { st with last := t } else (st, [])

/-- … and the rotation: the handle is dropped when the date or the rotation setting has changed
    (or none is open), then a file is opened -/
def reopenFile (cal : Cal) (t : Int) (st : St) : St :=
  openFile cal t (if st.lastRot != st.conf.rotation || st.lastUnit != unit t || st.cur.isNone then
    { st with cur := none, lastRot := st.conf.rotation, lastUnit := unit t } else st)

theorem process_eq (cal : Cal) (t : Int) (st : St) :
    process cal t st = (reopenFile cal t (retain cal t st).1, (retain cal t st).2) := rfl

/-- the retention half changes nothing but the time of the last pass and the directory -/
theorem retain_fst (cal : Cal) (t : Int) (st : St) : ∃ l d, (retain cal t st).1 = { st with last := l, dir := d } := by
  unfold retain
  split
  · obtain ⟨d, h⟩ := clearOld_fst cal t { st with last := t }
    exact ⟨t, d, h⟩
  · exact ⟨st.last, st.dir, rfl⟩

/-- a cycle changes neither the settings nor the id cache -/
theorem process_frame (cal : Cal) (t : Int) (st : St) :
    (process cal t st).1.conf = st.conf ∧ (process cal t st).1.cache = st.cache := by
  obtain ⟨l, d, h⟩ := retain_fst cal t st
  rw [process_eq, h]
  unfold reopenFile
  obtain ⟨c, d', h'⟩ := openFile_fst cal t
    (if st.lastRot != st.conf.rotation || st.lastUnit != unit t || st.cur.isNone then
      { st with last := l, dir := d, cur := none, lastRot := st.conf.rotation, lastUnit := unit t }
     else { st with last := l, dir := d })
  rw [h']
  split <;> exact ⟨rfl, rfl⟩

/-- the rotation half of a cycle leaves the file named for the day of `t` open, and records under
    which setting and day it did so -/
theorem reopenFile_spec (cal : Cal) (t : Int) (st : St) (hi : st.Inv cal) :
    (reopenFile cal t st).cur = some (st.nameAt cal st.conf.rotation (unit t)) ∧ (reopenFile cal t st).conf = st.conf ∧
    (reopenFile cal t st).lastRot = st.conf.rotation ∧ (reopenFile cal t st).lastUnit = unit t := by
  unfold reopenFile
  split
  · simp [openFile, St.nameAt]
  · rename_i h
    simp only [Bool.or_eq_true, bne_iff_ne, ne_eq, not_or, Decidable.not_not, Option.isNone_iff_eq_none] at h
    obtain ⟨⟨hr, hu⟩, hn⟩ := h
    obtain ⟨n, hc⟩ := Option.ne_none_iff_exists'.mp hn
    simp only [openFile, hc]
    exact ⟨by rw [hi n hc, hr, hu], trivial, hr, hu⟩

/-- after a cycle at time `t` the open file is the one named for the day of `t` (and the
    rotation setting in force); the invariant is kept -/
theorem process_rotates (cal : Cal) (t : Int) (st : St) (hi : st.Inv cal) :
    let st' := (process cal t st).1
    st'.cur = some (st.nameAt cal st.conf.rotation (unit t)) ∧ st'.Inv cal ∧
    st'.conf = st.conf ∧ st'.lastRot = st.conf.rotation ∧ st'.lastUnit = unit t := by
  obtain ⟨l, d, h⟩ := retain_fst cal t st
  obtain ⟨a, b, c, e⟩ := reopenFile_spec cal t (retain cal t st).1 (by rw [h]; exact hi)
  rw [h] at a b c e
  rw [process_eq, h]
  exact ⟨a, St.inv_of_opened a b c e, b, c, e⟩

/-- the names a cycle removes are exactly the condemned names of the directory, and only
    when more than a minute has passed since the last retention pass -/
theorem process_removed (cal : Cal) (t : Int) (st : St) (n : Bytes) :
    n ∈ (process cal t st).2 ↔
      t > st.last + 60000 ∧ (∃ f, (n, f) ∈ st.dir) ∧
      deleted cal st.conf.rotation st.conf.logID st.conf.keepDays (unit t) n = true := by
  show n ∈ (retain cal t st).2 ↔ _
  unfold retain
  split
  · rename_i ht
    simp only [ht, true_and]
    exact clearOld_removed cal t { st with last := t } n
  · rename_i ht
    simp [ht]

/-- a cycle: a file is removed (and reported), or stays and holds what it held; only the file
    that was open and the file that is opened can have grown -/
theorem process_grows (cal : Cal) (t : Int) (st : St) :
    Dir.Grows (· ∉ (process cal t st).2) (fun n => st.cur = some n ∨ n = st.nameAt cal st.conf.rotation (unit t))
      st.dir (process cal t st).1.dir := by
  rw [process_eq]
  have h1 : Dir.Grows (· ∉ (retain cal t st).2) (st.cur = some ·) st.dir (retain cal t st).1.dir := by
    unfold retain
    split
    · exact clearOld_keeps cal t { st with last := t }
    · exact Dir.Grows.refl _ _ _
  obtain ⟨l, d, h⟩ := retain_fst cal t st
  have h2 : Dir.Grows (fun _ => True) (· = st.nameAt cal st.conf.rotation (unit t))
      (retain cal t st).1.dir (reopenFile cal t (retain cal t st).1).dir := by
    rw [h]
    unfold reopenFile
    split
    · exact openFile_grows cal t { st with last := l, dir := d, cur := none, lastRot := st.conf.rotation, lastUnit := unit t }
    · exact openFile_grows cal t { st with last := l, dir := d }
  exact (h1.trans h2).mono (fun _ _ _ h => ⟨h, trivial⟩) (fun _ h => h)

/-- every operation keeps the invariant -/
theorem step_inv (cal : Cal) (st : St) (op : Op) (hi : st.Inv cal) : (step cal st op).1.Inv cal := by
  induction op using Op.byKind with
  | call op hc =>
    rw [step_call cal st op hc, St.append_eq]
    intro n hn
    simp only [St.nameAt, confAfter_names]
    exact hi n hn
  | clr t =>
    obtain ⟨d, h⟩ := clearOld_fst cal t st
    show (clearOld cal t st).1.Inv cal
    rw [h]
    exact hi
  | proc t => exact (process_rotates cal t st hi).2.1

theorem run_inv (cal : Cal) (st : St) (ops : List Op) (hi : st.Inv cal) : (run cal st ops).Inv cal := by
  induction ops generalizing st with
  | nil => exact hi
  | cons o r ih => rw [run_cons]; exact ih _ (step_inv cal st o hi)

end Logger
