/-
  Golib.Logger.HistoryLemmas — statements over whole histories (`run` = foldl step) with an
  arbitrary directory: the settings keep the log id and object name; `removedBy` collects what a
  history removes; and the directory is append-only (`run_grows`): a file is removed by a retention
  pass or still holds what it held, and only files that carry the logger's prefix ever grow.
-/
import Golib.Logger.RunLemmas

namespace Logger

theorem run_append (cal : Cal) (st : St) (a b : List Op) : run cal st (a ++ b) = run cal (run cal st a) b := by
  simp [run, List.foldl_append]

theorem fileName_prefix (cal : Cal) (logID oname : Bytes) (rot : Bool) (u : Int) :
    (logID ++ [cDash]) <+: fileName cal logID oname rot u := by
  unfold fileName
  split
  · exact ⟨oname ++ [cDash] ++ cal.ymd u ++ asc ".log", by simp⟩
  · exact ⟨oname ++ asc ".log", by simp⟩

/-- the open file always carries the logger's own prefix -/
theorem cur_has_prefix (cal : Cal) (st : St) (hi : st.Inv cal) (m : Bytes) (hm : st.cur = some m) :
    (st.conf.logID ++ [cDash]) <+: m := by
  rw [hi m hm]
  exact fileName_prefix cal _ _ _ _

theorem step_conf_names (cal : Cal) (st : St) (op : Op) :
    (step cal st op).1.conf.logID = st.conf.logID ∧ (step cal st op).1.conf.oname = st.conf.oname := by
  induction op using Op.byKind with
  | call op hc => rw [step_call cal st op hc, St.append_eq]; exact confAfter_names st.conf op
  | clr t =>
    obtain ⟨d, h⟩ := clearOld_fst cal t st
    show (clearOld cal t st).1.conf.logID = _ ∧ (clearOld cal t st).1.conf.oname = _
    rw [h]; exact ⟨rfl, rfl⟩
  | proc t =>
    show (process cal t st).1.conf.logID = _ ∧ (process cal t st).1.conf.oname = _
    rw [(process_frame cal t st).1]; exact ⟨rfl, rfl⟩

theorem run_conf_names (cal : Cal) (st : St) (ops : List Op) :
    (run cal st ops).conf.logID = st.conf.logID ∧ (run cal st ops).conf.oname = st.conf.oname := by
  induction ops generalizing st with
  | nil => exact ⟨rfl, rfl⟩
  | cons o r ih =>
    rw [run_cons]
    obtain ⟨a, b⟩ := ih (step cal st o).1
    obtain ⟨c, d⟩ := step_conf_names cal st o
    exact ⟨a.trans c, b.trans d⟩

/-- the names removed by the cycles and retention passes of a history, in order -/
def removedBy (cal : Cal) (st : St) : List Op → List Bytes
  | [] => []
  | o :: r => (match (step cal st o).2 with | .del d => d | _ => []) ++ removedBy cal (step cal st o).1 r

/-- the names an operation reports as removed -/
def Out.removed : Out → List Bytes
  | .del d => d
  | _ => []

theorem removedBy_cons (cal : Cal) (st : St) (o : Op) (r : List Op) :
    removedBy cal st (o :: r) = (step cal st o).2.removed ++ removedBy cal (step cal st o).1 r := by
  simp only [removedBy]
  cases (step cal st o).2 <;> rfl

/-- whatever an operation removes was condemned by the settings in force, on the day of the operation -/
theorem step_removed (cal : Cal) (st : St) (op : Op) (n : Bytes) (h : n ∈ (step cal st op).2.removed) :
    ∃ t, deleted cal st.conf.rotation st.conf.logID st.conf.keepDays (unit t) n = true := by
  cases op with
  | proc t => exact ⟨t, ((process_removed cal t st n).mp h).2.2⟩
  | clr t => exact ⟨t, ((clearOld_removed cal t st n).mp h).2⟩
  | read t file e l snap => simp only [step] at h; split at h <;> cases h
  | _ => cases h

/-- one operation: a file is removed (and reported), or stays and holds what it held; only the
    logger's own files grow -/
theorem step_grows (cal : Cal) (st : St) (op : Op) (hi : st.Inv cal) :
    Dir.Grows (· ∉ (step cal st op).2.removed) ((st.conf.logID ++ [cDash]) <+: ·) st.dir (step cal st op).1.dir := by
  have hcur : ∀ n, st.cur = some n → (st.conf.logID ++ [cDash]) <+: n := fun n h => cur_has_prefix cal st hi n h
  induction op using Op.byKind with
  | call op hc =>
    rw [step_call cal st op hc]
    exact (St.grows_append { st with conf := confAfter st.conf op, cache := dictAfter st.cache (putOf st op) }
      (emit st op)).mono (fun _ _ _ _ => trivial) hcur
  | clr t => exact (clearOld_keeps cal t st).mono (fun _ _ _ h => h) hcur
  | proc t =>
    exact (process_grows cal t st).mono (fun _ _ _ h => h)
      (fun n h => h.elim (hcur n) fun e => e ▸ fileName_prefix cal _ _ _ _)

/-- over any history the directory is append-only: a file is removed by a retention pass, or is
    still there holding what it held, possibly more; files without the logger's prefix are unchanged -/
theorem run_grows (cal : Cal) (st : St) (ops : List Op) (hi : st.Inv cal) :
    Dir.Grows (· ∉ removedBy cal st ops) ((st.conf.logID ++ [cDash]) <+: ·) st.dir (run cal st ops).dir := by
  induction ops generalizing st with
  | nil => exact Dir.Grows.refl _ _ _
  | cons o r ih =>
    rw [run_cons, removedBy_cons]
    refine ((step_grows cal st o hi).trans (ih _ (step_inv cal st o hi))).mono
      (fun n _ _ h => ⟨fun a => h (List.mem_append_left _ a), fun a => h (List.mem_append_right _ a)⟩) (fun n h => ?_)
    rw [(step_conf_names cal st o).1] at h
    exact h.elim id id

/-- every name a history removes was condemned by a retention pass of this logger, under the
    settings and on the day of that pass -/
theorem removedBy_deleted (cal : Cal) (st : St) (ops : List Op) (n : Bytes) (h : n ∈ removedBy cal st ops) :
    ∃ rot keep u, deleted cal rot st.conf.logID keep u n = true := by
  induction ops generalizing st with
  | nil => cases h
  | cons o r ih =>
    rw [removedBy_cons] at h
    rcases List.mem_append.mp h with h | h
    · exact (step_removed cal st o n h).elim fun t hd => ⟨_, _, _, hd⟩
    · rw [← (step_conf_names cal st o).1]
      exact ih _ h

/-- over any history: a file without the logger's prefix is still there, byte for byte -/
theorem run_foreign (cal : Cal) (st : St) (ops : List Op) (hi : st.Inv cal) (n : Bytes) (f : File) (h : (n, f) ∈ st.dir)
    (hp : ¬ (st.conf.logID ++ [cDash]) <+: n) : (n, f) ∈ (run cal st ops).dir := by
  obtain ⟨g, hg, _, e⟩ := run_grows cal st ops hi n f h fun hr =>
    (removedBy_deleted cal st ops n hr).elim fun _ ⟨_, _, hd⟩ => hp ((deleted_iff ..).mp hd).2.2.1
  exact e hp ▸ hg

end Logger
