/-
  Golib.Logger.Files — `FileLogger.GetLogFiles()` and `GetLogFilePath()` over an abstract listing.

  `GetLogFiles` walks `ioutil.ReadDir(<home>/logs)` (sorted by name) and lists name ↦ size of the
  regular files that are the hook log (`whatap-hook.log`) or carry the prefix `logID-oname-`
  followed by exactly 8 bytes up to the FIRST dot; it stops after 100 entries.  Quirk kept in
  the model: the date part is cut as `name[len(prefix)+1 : x]` with `x = strings.Index(name, ".")`
  outside any recover, so a dot inside `logID`/`oname` makes the call panic on the logger's own files.
  The call does not change the logger (it is a query: not an `Op`).

  Not modelled: the extra entry for `%ProgramData%/WhaTap/dotnet-profiler.log` (absent in the check's
  environment).
-/
import Golib.Logger.Read

namespace Logger

/-- `strings.Index(name, ".")` -/
def indexDot : Bytes → Option Nat
  | [] => none
  | b :: r => if b = cDot then some 0 else (indexDot r).map (· + 1)

def hookName : Bytes := asc "whatap-hook.log"

/-- one entry of `ioutil.ReadDir` -/
structure DirEnt where
  name : Bytes
  isDir : Bool
  size : Int
deriving Repr, DecidableEq

inductive FV where
  | skip | list | panic
deriving Repr, DecidableEq

/-- `whatapPrefix + "-"` -/
def filesPrefix (logID oname : Bytes) : Bytes := logID ++ [cDash] ++ oname ++ [cDash]

/-- the loop body of `GetLogFiles` for one entry -/
def filesVerdict (logID oname : Bytes) (e : DirEnt) : FV :=
  if e.isDir then .skip
  else
    match indexDot e.name with
    | none => .skip
    | some x =>
      if e.name = hookName then .list
      else if (filesPrefix logID oname).isPrefixOf e.name then
        if x < (filesPrefix logID oname).length then .panic
        else if x - (filesPrefix logID oname).length = 8 then .list else .skip
      else .skip

def filesMax : Nat := 100

/-- the loop: `n` entries are in the result already (`n < 100`); `none` = the call panics -/
def logFilesLoop (logID oname : Bytes) : List DirEnt → Nat → Option (List (Bytes × Int))
  | [], _ => some []
  | e :: r, n =>
    match filesVerdict logID oname e with
    | .skip => logFilesLoop logID oname r n
    | .panic => none
    | .list =>
      if n + 1 ≥ filesMax then some [(e.name, e.size)]
      else (logFilesLoop logID oname r (n + 1)).map ((e.name, e.size) :: ·)

/-- `GetLogFiles()` on the listing of `<home>/logs` in `ReadDir` order -/
def logFiles (logID oname : Bytes) (ents : List DirEnt) : Option (List (Bytes × Int)) :=
  logFilesLoop logID oname ents 0

/-- `GetLogFilePath()`: `filepath.Join(homePath, logfile.Name())`, where `logfile.Name()` is the path the
    file was opened with — `filepath.Join(home, "logs", name)` — so an absolute home appears twice -/
def logFilePath (home name : Bytes) : List Bytes :=
  normAbs (splitSlash home ++ (splitSlash home ++ [logsSeg] ++ splitSlash name))

end Logger
