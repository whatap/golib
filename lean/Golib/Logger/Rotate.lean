/-
  Golib.Logger.Rotate — rotation against concurrent writers, on atomic actions.

  All goroutines write through one `log.Logger`, whose mutex serialises `Output` (format +
  one `Write`) and `SetOutput`; so the writers form one sequence of `write` actions, and a
  rotation is two more actions somewhere in that sequence: closing the old handle and
  installing the new file as the logger's output.

    code before the repair:  closeOld … install      (process(): Close, then openFile/SetOutput)
    repaired code:           install … closeOld      (proposed/C17/fix-D35.diff)

  A write that finds the output still pointing at the closed handle fails and is dropped
  (`log.Logger` ignores the error).  What the runtime contributes (atomicity of one `Write`
  with O_APPEND, the scheduler) is assumed, not proved.

  This is the one-writer case on plain lists of lines, with the two concrete orders side by
  side (`fixedSchedule` keeps every line, `oldSchedule` loses those in between).  The same
  machine with named writers, an abstract append-only file and any schedule that obeys the
  repaired order is `Logger.Conc` (Concurrent.lean): `Conc.rotated` is `fixedSchedule` there and
  `Conc.all_lines_kept` the general form of `fixed_keeps_all`.
-/
import Golib.Basic

namespace Logger.Rot

structure RS where
  /-- the logger's output has been switched to the new file -/
  toNew : Bool
  oldOpen : Bool
  oldF : List Bytes
  newF : List Bytes
deriving DecidableEq, Repr

inductive RAct where
  | write (l : Bytes)
  | closeOld
  | install
deriving DecidableEq, Repr

def rstep (s : RS) : RAct → RS
  | .write l =>
    if s.toNew then { s with newF := s.newF ++ [l] }
    else if s.oldOpen then { s with oldF := s.oldF ++ [l] }
    else s
  | .closeOld => { s with oldOpen := false }
  | .install => { s with toNew := true }

def rrun (s : RS) (as : List RAct) : RS := as.foldl rstep s

def writes (ws : List Bytes) : List RAct := ws.map .write

theorem rrun_append (s : RS) (a b : List RAct) : rrun s (a ++ b) = rrun (rrun s a) b := by
  simp [rrun, List.foldl_append]

theorem rrun_writes (s : RS) (ws : List Bytes) :
    rrun s (writes ws) =
      if s.toNew then { s with newF := s.newF ++ ws }
      else if s.oldOpen then { s with oldF := s.oldF ++ ws }
      else s := by
  induction ws generalizing s with
  | nil => cases s; simp [rrun, writes]
  | cons w r ih =>
    have : rrun s (writes (w :: r)) = rrun (rstep s (.write w)) (writes r) := rfl
    rw [this, ih]
    cases s with
    | mk tn oo o n => cases tn <;> cases oo <;> simp [rstep]

/-- the start: output on the old file, which is open and holds `init` -/
def start (init : List Bytes) : RS := ⟨false, true, init, []⟩

/-- repaired order, any position of the two rotation actions among the writes -/
def fixedSchedule (w1 w2 w3 : List Bytes) : List RAct :=
  writes w1 ++ [.install] ++ writes w2 ++ [.closeOld] ++ writes w3

/-- order of the code before the repair -/
def oldSchedule (w1 w2 w3 : List Bytes) : List RAct :=
  writes w1 ++ [.closeOld] ++ writes w2 ++ [.install] ++ writes w3

/-- repaired order: every line is kept, whole and in order, old file first -/
theorem fixed_keeps_all (init w1 w2 w3 : List Bytes) :
    let s := rrun (start init) (fixedSchedule w1 w2 w3)
    s.oldF = init ++ w1 ∧ s.newF = w2 ++ w3 := by
  simp only [fixedSchedule, rrun_append, rrun_writes, start]
  simp [rrun, rstep]

/-- order before the repair: exactly the lines written between the two actions are dropped -/
theorem old_drops_between (init w1 w2 w3 : List Bytes) :
    let s := rrun (start init) (oldSchedule w1 w2 w3)
    s.oldF = init ++ w1 ∧ s.newF = w3 := by
  simp only [oldSchedule, rrun_append, rrun_writes, start]
  simp [rrun, rstep]

end Logger.Rot
