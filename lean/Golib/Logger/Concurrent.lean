/-
  Golib.Logger.Concurrent — lines in order under any number of concurrent writers.

  Atomic-action model.  Every goroutine that logs goes through the one `log.Logger`, whose mutex
  serialises `Output` (format the line, one `Write`) and `SetOutput`; a schedule is therefore a
  sequence of actions: `write (writer, line)`, `install` (openFile: the new file becomes the
  logger's output) and `closeOld` (the old handle is closed).  The discipline of the repaired
  `process()` is `Safe`: the old handle is closed only after the new file is installed.

  What the operating system contributes is an explicit assumption, the field `atomic` of
  `AppendFS`: one write on an O_APPEND descriptor places its bytes, whole and contiguous, at
  the end of the file.  Nothing else about the runtime is assumed; the scheduler is the
  universally quantified schedule.

  `Logger.Rot` (Rotate.lean) is this machine for one writer on plain lists of lines, where the
  order before the repair is also run and shown to lose lines; here the writers are named, the
  file is abstract, and the statements hold for every `Safe` schedule (`rotated a b c` with `NoRot a`,
  `NoRot b`, `NoRot c`, as in `rotated_safe`, is `Rot.fixedSchedule` with arbitrary writes of any writers in the three gaps).
-/
import Golib.Basic

namespace Logger.Conc

/-- the file system as far as the logger relies on it -/
structure AppendFS where
  F : Type
  content : F → Bytes
  append : F → Bytes → F
  /-- ASSUMPTION (OS): a single `write(2)` with O_APPEND appends its bytes whole and contiguous -/
  atomic : ∀ (f : F) (bs : Bytes), content (append f bs) = content f ++ bs

structure Line where
  writer : Nat
  text : Bytes
deriving DecidableEq, Repr

inductive Act where
  | write (l : Line)
  | install
  | closeOld
deriving DecidableEq, Repr

/-- the lines a schedule writes, in schedule order -/
def writesOf : List Act → List Line
  | [] => []
  | .write l :: r => l :: writesOf r
  | _ :: r => writesOf r

/-- repaired discipline: `closeOld` only after `install` -/
def Safe : Bool → List Act → Prop
  | _, [] => True
  | tn, .write _ :: r => Safe tn r
  | _, .install :: r => Safe true r
  | tn, .closeOld :: r => tn = true ∧ Safe tn r

variable (fs : AppendFS)

structure CS where
  toNew : Bool
  oldOpen : Bool
  oldF : fs.F
  newF : fs.F
  /-- ghost: the lines that reached each file, in order -/
  oldL : List Line
  newL : List Line

def cstep (s : CS fs) : Act → CS fs
  | .write l =>
    if s.toNew then { s with newF := fs.append s.newF l.text, newL := s.newL ++ [l] }
    else if s.oldOpen then { s with oldF := fs.append s.oldF l.text, oldL := s.oldL ++ [l] }
    else s   -- a write on a closed handle fails; log.Logger drops the error
  | .install => { s with toNew := true }
  | .closeOld => { s with oldOpen := false }

def crun (s : CS fs) (as : List Act) : CS fs := as.foldl (cstep fs) s

def texts (ls : List Line) : Bytes := (ls.map (·.text)).flatten

theorem texts_append (a b : List Line) : texts (a ++ b) = texts a ++ texts b := by
  simp [texts]

/-- what a schedule does, in one statement: each file receives a list of whole lines at its end
    (`atomic`), and under the discipline `Safe` with an output that is open, the two lists are
    the written lines cut in two — first those that went to the old file, then those that went to the new -/
theorem crun_split (s : CS fs) (as : List Act) :
    ∃ lo ln, (crun fs s as).oldL = s.oldL ++ lo ∧ (crun fs s as).newL = s.newL ++ ln ∧
      fs.content (crun fs s as).oldF = fs.content s.oldF ++ texts lo ∧
      fs.content (crun fs s as).newF = fs.content s.newF ++ texts ln ∧
      (Safe s.toNew as → (s.toNew = true ∨ s.oldOpen = true) →
        lo ++ ln = writesOf as ∧ (s.toNew = true → lo = [])) := by
  induction as generalizing s with
  | nil => exact ⟨[], [], by simp [crun], by simp [crun], by simp [crun, texts], by simp [crun, texts], fun _ _ => ⟨rfl, fun _ => rfl⟩⟩
  | cons a r ih =>
    have hr : crun fs s (a :: r) = crun fs (cstep fs s a) r := rfl
    rw [hr]
    obtain ⟨lo, ln, h1, h2, h3, h4, h5⟩ := ih (cstep fs s a)
    cases a with
    | write l =>
      simp only [cstep, Safe, writesOf] at h1 h2 h3 h4 h5 ⊢
      cases htn : s.toNew with
      | true =>
        simp only [htn, if_true] at h1 h2 h3 h4 h5 ⊢
        refine ⟨lo, l :: ln, h1, by rw [h2]; simp, h3, by rw [h4, fs.atomic]; simp [texts], fun hs _ => ?_⟩
        obtain ⟨a, b⟩ := h5 hs (.inl trivial)
        rw [b trivial] at a ⊢
        exact ⟨congrArg (l :: ·) a, fun _ => rfl⟩
      | false =>
        cases ho : s.oldOpen with
        | true =>
          simp only [htn, ho, Bool.false_eq_true, if_false, if_true] at h1 h2 h3 h4 h5 ⊢
          refine ⟨l :: lo, ln, by rw [h1]; simp, h2, by rw [h3, fs.atomic]; simp [texts], h4, fun hs _ => ?_⟩
          exact ⟨congrArg (l :: ·) (h5 hs (.inr trivial)).1, nofun⟩
        | false =>
          simp only [htn, ho, Bool.false_eq_true, if_false] at h1 h2 h3 h4 h5 ⊢
          exact ⟨lo, ln, h1, h2, h3, h4, fun _ h => by simp at h⟩
    | install =>
      refine ⟨lo, ln, h1, h2, h3, h4, fun hs _ => ?_⟩
      obtain ⟨a, b⟩ := h5 hs (.inl rfl)
      exact ⟨a, fun _ => b rfl⟩
    | closeOld =>
      refine ⟨lo, ln, h1, h2, h3, h4, fun hs _ => ?_⟩
      exact h5 hs.2 (.inl hs.1)

/-- no line is lost or duplicated, whatever the schedule: the two files together hold the
    earlier lines followed by every written line, in schedule order -/
theorem all_lines_kept (s : CS fs) (as : List Act) (hs : Safe s.toNew as)
    (hopen : s.toNew = true ∨ s.oldOpen = true) (hnew : s.toNew = false → s.newL = []) :
    (crun fs s as).oldL ++ (crun fs s as).newL = s.oldL ++ s.newL ++ writesOf as := by
  obtain ⟨lo, ln, h1, h2, _, _, h5⟩ := crun_split fs s as
  obtain ⟨a, b⟩ := h5 hs hopen
  rw [h1, h2, ← a]
  cases htn : s.toNew with
  | true => simp [b htn]
  | false => simp [hnew htn]

/-- per-writer order: the lines of each writer appear in the order that writer issued them
    (old file first), for any number of writers -/
theorem writer_order_kept (s : CS fs) (as : List Act) (hs : Safe s.toNew as)
    (hopen : s.toNew = true ∨ s.oldOpen = true) (hnew : s.toNew = false → s.newL = []) (w : Nat) :
    ((crun fs s as).oldL ++ (crun fs s as).newL).filter (fun l => l.writer == w) =
      (s.oldL ++ s.newL).filter (fun l => l.writer == w) ++ (writesOf as).filter (fun l => l.writer == w) := by
  rw [all_lines_kept fs s as hs hopen hnew, List.filter_append]

/-- every line is whole: with the OS assumption, the bytes of each file are the bytes it had
    followed by the concatenation of the whole lines that reached it -/
theorem files_hold_whole_lines (s : CS fs) (as : List Act) :
    ∃ lo ln, (crun fs s as).oldL = s.oldL ++ lo ∧ (crun fs s as).newL = s.newL ++ ln ∧
      fs.content (crun fs s as).oldF = fs.content s.oldF ++ texts lo ∧
      fs.content (crun fs s as).newF = fs.content s.newF ++ texts ln :=
  (crun_split fs s as).imp fun _ h => h.imp fun _ h => ⟨h.1, h.2.1, h.2.2.1, h.2.2.2.1⟩

/-- a logger in its steady state: output on the old file, open, nothing in the new file -/
def steady (oldF newF : fs.F) (oldL : List Line) : CS fs := ⟨false, true, oldF, newF, oldL, []⟩

/-- the repaired rotation at any two positions of any schedule of any number of writers -/
def rotated (a b c : List Act) : List Act := a ++ [.install] ++ b ++ [.closeOld] ++ c

def NoRot : List Act → Prop
  | [] => True
  | .write _ :: r => NoRot r
  | _ :: _ => False

theorem safe_noRot (tn : Bool) (as : List Act) (h : NoRot as) : Safe tn as := by
  fun_induction NoRot as with
  | case1 => trivial
  | case2 l r ih => exact ih h
  | case3 => exact h.elim

theorem safe_append (tn : Bool) (a b : List Act) (ha : NoRot a) (hb : Safe tn b) : Safe tn (a ++ b) := by
  fun_induction NoRot a with
  | case1 => exact hb
  | case2 l r ih => exact ih ha
  | case3 => exact ha.elim

theorem rotated_safe (a b c : List Act) (ha : NoRot a) (hb : NoRot b) (hc : NoRot c) : Safe false (rotated a b c) := by
  unfold rotated
  have h3 : Safe true ([Act.closeOld] ++ c) := ⟨rfl, safe_noRot true c hc⟩
  have h2 : Safe true (b ++ ([Act.closeOld] ++ c)) := safe_append true b _ hb h3
  have h1 : Safe false ([Act.install] ++ (b ++ ([Act.closeOld] ++ c))) := h2
  have := safe_append false a _ ha h1
  simpa [List.append_assoc] using this

end Logger.Conc
