/-
  Golib.Logger.RateLemmas — the per-id rate limiter.

  One operation changes the id cache by at most one `Put` (`step_cache`), so the cache after a
  history is `dictAfter` of the history's `Put`s (`run_cache`); what holds of every cache so
  built (its entries are written lines, it never holds the empty id) is read off that.  Below
  capacity the cache is a plain map, which `RInv` relates to the list of written lines.
-/
import Golib.Logger.RunLemmas

namespace Logger

/-- all rate-limited lines a history writes -/
def rated (cal : Cal) (st : St) : List Op → List (Bytes × Int)
  | [] => []
  | o :: r => ratedOf st o ++ rated cal (step cal st o).1 r

def puts (cal : Cal) (st : St) : List Op → List (Bytes × Int)
  | [] => []
  | o :: r => putOf st o ++ puts cal (step cal st o).1 r

/-- a log call writes no rate-limited line, or one: its id at its time -/
theorem ratedOf_log (st : St) (t : Int) (m : Meth) (id msg : Bytes) :
    ratedOf st (.log t m id msg) = [] ∨
    ∃ rid, m.rateId id (if m.ln then msg ++ [cNl] else msg) = some rid ∧ ratedOf st (.log t m id msg) = [(rid, t)] := by
  simp only [ratedOf]
  cases m.rateId id (if m.ln then msg ++ [cNl] else msg) with
  | none => exact .inl rfl
  | some rid =>
    by_cases h : (logDecide t m id msg st).1 = .written
    · exact .inr ⟨rid, rfl, if_pos h⟩
    · exact .inl (if_neg h)

theorem logCall_cache (t : Int) (m : Meth) (id msg : Bytes) (st : St) :
    (logCall t m id msg st).1.cache = dictAfter st.cache (putOf st (.log t m id msg)) := by
  rw [logCall_eq, St.append_eq]

theorem logCall_conf (t : Int) (m : Meth) (id msg : Bytes) (st : St) :
    (logCall t m id msg st).1.conf = st.conf := by
  rw [logCall_eq, St.append_eq]

/-- one operation changes the cache by exactly its `Put` -/
theorem step_cache (cal : Cal) (st : St) (op : Op) :
    (step cal st op).1.cache = dictAfter st.cache (putOf st op) := by
  induction op using Op.byKind with
  | call op hc => rw [step_call cal st op hc, St.append_eq]
  | clr t =>
    obtain ⟨d, h⟩ := clearOld_fst cal t st
    show (clearOld cal t st).1.cache = _
    rw [(putOf_cycle st t).1, h]; rfl
  | proc t => rw [(putOf_cycle st t).2]; exact (process_frame cal t st).2

theorem dictAfter_append (c : Cache) (a b : List (Bytes × Int)) : dictAfter c (a ++ b) = dictAfter (dictAfter c a) b := by
  simp [dictAfter, List.foldl_append]

/-- after any history the cache is the dictionary after the history's `Put`s, in order -/
theorem run_cache (cal : Cal) (st : St) (ops : List Op) :
    (run cal st ops).cache = dictAfter st.cache (puts cal st ops) := by
  induction ops generalizing st with
  | nil => rfl
  | cons o r ih =>
    rw [run_cons, ih, step_cache]
    simp only [puts]
    rw [dictAfter_append]

theorem mem_dictAfter {c : Cache} {ps : List (Bytes × Int)} {e : Bytes × Int} (h : e ∈ dictAfter c ps) :
    e ∈ c ∨ e ∈ ps := by
  induction ps generalizing c with
  | nil => exact .inl h
  | cons p r ih =>
    rcases ih (c := cachePut c p.1 p.2) h with h | h
    · rcases mem_cachePut h with h | h
      · exact .inl h
      · exact .inr (by rw [h]; exact List.mem_cons_self)
    · exact .inr (List.mem_cons_of_mem _ h)

theorem puts_sub_rated (cal : Cal) (st : St) (ops : List Op) {e : Bytes × Int} (h : e ∈ puts cal st ops) :
    e ∈ rated cal st ops := by
  induction ops generalizing st with
  | nil => exact h
  | cons o r ih =>
    simp only [puts, rated, List.mem_append] at h ⊢
    refine h.imp (fun h => ?_) (ih _)
    unfold putOf at h
    split at h
    · exact h
    · cases h

structure Call where
  t : Int
  m : Meth
  id : Bytes
  msg : Bytes

def Call.rid (c : Call) : Option Bytes := c.m.rateId c.id (if c.m.ln then c.msg ++ [cNl] else c.msg)

def Call.op (c : Call) : Op := .log c.t c.m c.id c.msg

def Call.passesGate (c : Call) (st : St) : Bool := c.m.passes st.conf.level

/-- the rate-limited lines written so far, newest first -/
def writesAcc (st : St) (W : List (Bytes × Int)) : List Call → List (Bytes × Int)
  | [] => W
  | c :: r => writesAcc (logCall c.t c.m c.id c.msg st).1 ((ratedOf st c.op).reverse ++ W) r

def runCalls (st : St) : List Call → St
  | [] => st
  | c :: r => runCalls (logCall c.t c.m c.id c.msg st).1 r

/-- constant interval `s`: the cache answers like the list `W` of written lines (newest first,
    times up to `tl`); that there are fewer than 1000 calls is `hcap` of the lemmas below -/
structure RInv (s : Int) (st : St) (W : List (Bytes × Int)) (tl : Int) : Prop where
  interval : st.conf.interval = s
  get : ∀ i, i ≠ [] → cacheGet st.cache i = cacheGet W i
  len : st.cache.length ≤ W.length
  le : ∀ e ∈ W, e.2 ≤ tl
  sorted : List.Pairwise (fun a b => b.2 ≤ a.2) W

theorem rinv_step (s : Int) (hs : 0 < s) (st : St) (W : List (Bytes × Int)) (tl : Int) (c : Call)
    (hi : RInv s st W tl) (ht : tl ≤ c.t) (hcap : W.length < cacheMax) :
    RInv s (logCall c.t c.m c.id c.msg st).1 ((ratedOf st c.op).reverse ++ W) c.t := by
  have hconf : (logCall c.t c.m c.id c.msg st).1.conf.interval = s := by rw [logCall_conf]; exact hi.interval
  have hcache : (logCall c.t c.m c.id c.msg st).1.cache = dictAfter st.cache (ratedOf st c.op) := by
    rw [logCall_cache, putOf, if_pos (by rw [hi.interval]; exact hs)]; rfl
  have hle : ∀ e ∈ W, e.2 ≤ c.t := fun e he => Int.le_trans (hi.le e he) ht
  have hclen : st.cache.length < cacheMax := by have := hi.len; omega
  rcases ratedOf_log st c.t c.m c.id c.msg with h | ⟨rid, _, h⟩ <;> rw [Call.op, h] at hcache ⊢
  · exact ⟨hconf, by rw [hcache]; exact hi.get, by rw [hcache]; exact hi.len, hle, hi.sorted⟩
  · -- one line written: `W` gains `(rid, c.t)` in front, the cache the `Put` of it
    have hcache : (logCall c.t c.m c.id c.msg st).1.cache = cachePut st.cache rid c.t := hcache
    show RInv s _ ((rid, c.t) :: W) c.t
    refine ⟨hconf, ?_, ?_, ?_, List.Pairwise.cons hle hi.sorted⟩
    · intro i hne
      rw [hcache]
      by_cases hrid : rid = []
      · subst hrid
        have : cachePut st.cache [] c.t = st.cache := by simp [cachePut]
        rw [this, hi.get i hne]
        have : ¬ ([] : Bytes) = i := fun e => hne e.symm
        simp [cacheGet, this]
      · rw [cacheGet_cachePut c.t i hrid hclen, hi.get i hne]
        simp only [cacheGet]
        by_cases hk : i = rid
        · simp [hk]
        · have : ¬ rid = i := fun e => hk e.symm
          simp [hk, this]
    · rw [hcache]
      have := length_cachePut st.cache rid c.t hclen
      have := hi.len
      simp only [List.length_cons]
      omega
    · intro e he
      rcases List.mem_cons.mp he with he | he
      · rw [he]; exact Int.le_refl _
      · exact hle e he

def timesFrom (tl : Int) : List Call → Prop
  | [] => True
  | c :: r => tl ≤ c.t ∧ timesFrom c.t r

theorem rinv_run (s : Int) (hs : 0 < s) (calls : List Call) (st : St) (W : List (Bytes × Int)) (tl : Int)
    (hi : RInv s st W tl) (ht : timesFrom tl calls) (hcap : W.length + calls.length < cacheMax) :
    ∃ tl', RInv s (runCalls st calls) (writesAcc st W calls) tl' := by
  induction calls generalizing st W tl with
  | nil => exact ⟨tl, hi⟩
  | cons c r ih =>
    simp only [runCalls, writesAcc]
    simp only [List.length_cons] at hcap
    refine ih _ _ c.t (rinv_step s hs st W tl c hi ht.1 (by omega)) ht.2 ?_
    · have : (ratedOf st c.op).length ≤ 1 := by
        rcases ratedOf_log st c.t c.m c.id c.msg with h | ⟨_, _, h⟩ <;> rw [Call.op, h] <;> simp
      simp only [List.length_append, List.length_reverse]
      omega

/-- with the writes sorted newest first, "some line with this id within the interval" is
    decided by the newest one -/
theorem within_iff_newest {W : List (Bytes × Int)} {i : Bytes} {t k : Int}
    (hsorted : List.Pairwise (fun a b => b.2 ≤ a.2) W) (hk : k ≤ t) :
    (∃ t', (i, t') ∈ W ∧ t < t' + k) ↔ t < cacheGet W i + k := by
  fun_induction cacheGet W i with
  | case1 => simp only [List.not_mem_nil, false_and, exists_false, false_iff]; omega
  | case2 b r i =>
    refine ⟨fun ⟨t', hm, hlt⟩ => ?_, fun hlt => ⟨b, List.mem_cons_self, hlt⟩⟩
    rcases List.mem_cons.mp hm with hm | hm
    · cases hm; exact hlt
    · have := (List.pairwise_cons.mp hsorted).1 _ hm
      simp only [] at this
      omega
  | case3 a b r i ha ih =>
    rw [← ih (List.pairwise_cons.mp hsorted).2]
    refine exists_congr fun t' => and_congr_left fun _ => ⟨fun hm => ?_, List.mem_cons_of_mem _⟩
    rcases List.mem_cons.mp hm with hm | hm
    · exact absurd (Prod.mk.inj hm).1.symm ha
    · exact hm

def Cache.noEmpty (c : Cache) : Prop := ∀ e ∈ c, e.1 ≠ []

theorem cachePut_noEmpty {c : Cache} (k : Bytes) (v : Int) (h : Cache.noEmpty c) : Cache.noEmpty (cachePut c k v) := by
  intro e he
  by_cases hk : k = []
  · have : cachePut c k v = c := by simp [cachePut, hk]
    rw [this] at he
    exact h e he
  · rcases mem_cachePut he with he | he
    · exact h e he
    · rw [he]; exact hk

theorem dictAfter_noEmpty {c : Cache} (ps : List (Bytes × Int)) (h : Cache.noEmpty c) :
    Cache.noEmpty (dictAfter c ps) := by
  induction ps generalizing c with
  | nil => exact h
  | cons p r ih => exact ih (cachePut_noEmpty p.1 p.2 h)

end Logger
