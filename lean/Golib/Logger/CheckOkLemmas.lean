/-
  Golib.Logger.CheckOkLemmas — one decision of the rate limiter: `checkOk` and `logDecide` case by
  case, when exactly a call is suppressed, and how the list operations of the id cache
  (`cacheGet`, `cacheSet`, `cachePut`) act on each other.
-/
import Golib.Logger.Model

namespace Logger

theorem cacheGet_mem {c : Cache} {k : Bytes} (h : cacheGet c k ≠ 0) : (k, cacheGet c k) ∈ c := by
  fun_induction cacheGet c k with
  | case1 => exact absurd rfl h
  | case2 => exact List.mem_cons_self
  | case3 a b r k hk ih => exact List.mem_cons_of_mem _ (ih h)

theorem mem_cacheSet {c : Cache} {k : Bytes} {v : Int} {e : Bytes × Int} (h : e ∈ cacheSet c k v) :
    e ∈ c ∨ e = (k, v) := by
  fun_induction cacheSet c k v with
  | case1 => cases h
  | case2 b r k v =>
    rcases List.mem_cons.mp h with h | h
    · exact .inr h
    · exact .inl (List.mem_cons_of_mem _ h)
  | case3 a b r k v hk ih =>
    rcases List.mem_cons.mp h with h | h
    · exact .inl (h ▸ List.mem_cons_self)
    · exact (ih h).imp_left (List.mem_cons_of_mem _)

theorem mem_cachePut {c : Cache} {k : Bytes} {v : Int} {e : Bytes × Int} (h : e ∈ cachePut c k v) :
    e ∈ c ∨ e = (k, v) := by
  unfold cachePut at h
  split at h
  · left; exact h
  · split at h
    · exact mem_cacheSet h
    · rcases List.mem_append.mp h with h | h
      · left
        split at h
        · exact List.mem_of_mem_drop h
        · exact h
      · right; simpa using h

theorem checkOk_cases (c : Cache) (id : Bytes) (sec now : Int) :
    (¬ 0 < sec ∧ checkOk c id sec now = (true, c)) ∨
    (0 < sec ∧ now < cacheGet c id + sec * 1000 ∧ checkOk c id sec now = (false, c)) ∨
    (0 < sec ∧ ¬ now < cacheGet c id + sec * 1000 ∧ checkOk c id sec now = (true, cachePut c id now)) := by
  unfold checkOk
  by_cases h1 : sec > 0
  · by_cases h2 : now < cacheGet c id + sec * 1000
    · right; left; simp [h1, h2]
    · right; right; simp [h1, h2]
  · left; simp [h1]

theorem logDecide_cases (t : Int) (m : Meth) (id msg : Bytes) (st : St) :
    (m.passes st.conf.level = false ∧ logDecide t m id msg st = (.gate, st.cache)) ∨
    (m.passes st.conf.level = true ∧ m.rateId id (if m.ln then msg ++ [cNl] else msg) = none ∧
      logDecide t m id msg st = (.written, st.cache)) ∨
    (∃ rid, m.passes st.conf.level = true ∧ m.rateId id (if m.ln then msg ++ [cNl] else msg) = some rid ∧
      (checkOk st.cache rid st.conf.interval t).1 = true ∧
      logDecide t m id msg st = (.written, (checkOk st.cache rid st.conf.interval t).2)) ∨
    (∃ rid, m.passes st.conf.level = true ∧ m.rateId id (if m.ln then msg ++ [cNl] else msg) = some rid ∧
      (checkOk st.cache rid st.conf.interval t).1 = false ∧
      logDecide t m id msg st = (.rate, st.cache)) := by
  unfold logDecide
  cases hp : m.passes st.conf.level with
  | false => left; simp
  | true =>
    right
    cases hr : m.rateId id (if m.ln = true then msg ++ [cNl] else msg) with
    | none => left; simp
    | some rid =>
      right
      cases hok : (checkOk st.cache rid st.conf.interval t).1 with
      | true => left; exact ⟨rid, rfl, rfl, hok, by simp [hok]⟩
      | false => right; exact ⟨rid, rfl, rfl, hok, by simp [hok]⟩

theorem checkOk_refuses (c : Cache) (id : Bytes) (sec now : Int) :
    (checkOk c id sec now).1 = false ↔ 0 < sec ∧ now < cacheGet c id + sec * 1000 := by
  rcases checkOk_cases c id sec now with ⟨h1, hc⟩ | ⟨h1, h2, hc⟩ | ⟨_, h2, hc⟩ <;> rw [hc]
  · exact ⟨nofun, fun h => absurd h.1 h1⟩
  · exact ⟨fun _ => ⟨h1, h2⟩, fun _ => rfl⟩
  · exact ⟨nofun, fun h => absurd h.2 h2⟩

theorem logDecide_rate_iff (t : Int) (m : Meth) (id msg : Bytes) (st : St) :
    (logDecide t m id msg st).1 = .rate ↔
      m.passes st.conf.level = true ∧ ∃ i, m.rateId id (if m.ln then msg ++ [cNl] else msg) = some i ∧
        0 < st.conf.interval ∧ t < cacheGet st.cache i + st.conf.interval * 1000 := by
  rcases logDecide_cases t m id msg st with ⟨hp, hd⟩ | ⟨_, hr, hd⟩ | ⟨rid, _, hr, hok, hd⟩ | ⟨rid, hp, hr, hok, hd⟩ <;>
    rw [hd]
  · exact ⟨nofun, fun h => by rw [hp] at h; cases h.1⟩
  · exact ⟨nofun, fun ⟨_, i, hi, _⟩ => by rw [hr] at hi; cases hi⟩
  · refine ⟨nofun, fun ⟨_, i, hi, h⟩ => ?_⟩
    rw [hr] at hi; cases hi
    rw [(checkOk_refuses ..).mpr h] at hok; cases hok
  · exact ⟨fun _ => ⟨hp, rid, hr, (checkOk_refuses ..).mp hok⟩, fun _ => rfl⟩

theorem logDecide_written_iff {t : Int} {m : Meth} {id msg i : Bytes} {st : St}
    (hp : m.passes st.conf.level = true) (hid : m.rateId id (if m.ln then msg ++ [cNl] else msg) = some i) :
    (logDecide t m id msg st).1 = .written ↔ ¬ (logDecide t m id msg st).1 = .rate := by
  rcases logDecide_cases t m id msg st with ⟨hp', _⟩ | ⟨_, hr, _⟩ | ⟨_, _, _, _, hd⟩ | ⟨_, _, _, _, hd⟩
  · rw [hp] at hp'; cases hp'
  · rw [hid] at hr; cases hr
  · rw [hd]; exact ⟨fun _ => nofun, fun _ => rfl⟩
  · rw [hd]; exact ⟨nofun, fun h => absurd rfl h⟩

theorem cacheGet_cacheSet {c : Cache} {k : Bytes} (v : Int) (k' : Bytes) (h : cacheHas c k = true) :
    cacheGet (cacheSet c k v) k' = if k' = k then v else cacheGet c k' := by
  fun_induction cacheSet c k v with
  | case1 => cases h
  | case2 b r k v =>
    simp only [cacheGet]
    by_cases hk : k = k'
    · simp [hk]
    · simp [hk, Ne.symm hk]
  | case3 a b r k v hak ih =>
    simp only [cacheHas, hak, if_false] at h
    simp only [cacheGet]
    by_cases hk : a = k'
    · have : ¬ k' = k := fun e => hak (hk.trans e)
      simp [hk, this]
    · simp only [hk, if_false]
      exact ih h

theorem cacheGet_append_new {c : Cache} {k : Bytes} (v : Int) (k' : Bytes) (h : cacheHas c k = false) :
    cacheGet (c ++ [(k, v)]) k' = if k' = k then v else cacheGet c k' := by
  fun_induction cacheHas c k with
  | case1 k =>
    simp only [List.nil_append, cacheGet]
    by_cases hk : k = k'
    · simp [hk]
    · simp [hk, Ne.symm hk]
  | case2 => cases h
  | case3 a b r k hak ih =>
    simp only [List.cons_append, cacheGet]
    by_cases hk : a = k'
    · have : ¬ k' = k := fun e => hak (hk.trans e)
      simp [hk, this]
    · simp only [hk, if_false]
      exact ih h

theorem length_cacheSet (c : Cache) (k : Bytes) (v : Int) : (cacheSet c k v).length = c.length := by
  fun_induction cacheSet c k v <;> simp [*]

/-- below capacity the cache is a plain map -/
theorem cacheGet_cachePut {c : Cache} {k : Bytes} (v : Int) (k' : Bytes) (hk : k ≠ [])
    (hl : c.length < cacheMax) :
    cacheGet (cachePut c k v) k' = if k' = k then v else cacheGet c k' := by
  unfold cachePut
  rw [if_neg hk]
  cases hh : cacheHas c k with
  | true => simp only [if_true]; exact cacheGet_cacheSet v k' hh
  | false =>
    have : ¬ c.length ≥ cacheMax := by omega
    simp only [Bool.false_eq_true, if_false, this]
    exact cacheGet_append_new v k' hh

theorem length_cachePut (c : Cache) (k : Bytes) (v : Int) (hl : c.length < cacheMax) :
    (cachePut c k v).length ≤ c.length + 1 := by
  unfold cachePut
  split
  · omega
  · split
    · rw [length_cacheSet]; omega
    · have : ¬ c.length ≥ cacheMax := by omega
      simp [this]

end Logger
