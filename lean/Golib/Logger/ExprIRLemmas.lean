/-
  Golib.Logger.ExprIRLemmas — `eval` one node at a time, and the model's parse of a file name in
  the terms the interpreted source uses.

  `eval` matches on string literals, so unfolding it decides a string equality per alternative.
  An expression whose names occur once is best computed whole, by `rfl`.  Where a subterm recurs
  many times (`clearOldLog`), `eval_node` and `binop_val` pay for each literal once; rewriting with
  them matches the literals syntactically, and the expression is computed bottom-up without
  unfolding `eval` again.
-/
import Golib.Logger.ExprIR
import Golib.Logger.RetentionLemmas

namespace Logger.IR

variable (ρ : Env) (l : Nat)

theorem eval_node :
    eval ρ l (.var "#l0") = .i l ∧
    (∀ i, eval ρ l (.int i) = .i i) ∧
    (∀ s, eval ρ l (.str s) = .s (strBytes s)) ∧
    (∀ op a b, eval ρ l (.bin op a b) = binop op (eval ρ l a) (eval ρ l b)) ∧
    (∀ a,
      eval ρ l (.un "!" a) = (match eval ρ l a with | .b x => .b (!x) | _ => .bad) ∧
      eval ρ l (.un "-" a) = (match eval ρ l a with | .i x => .i (-x) | _ => .bad) ∧
      eval ρ l (.call1 "len" a) = (match eval ρ l a with | .s bs => .i bs.length | _ => .bad) ∧
      eval ρ l (.call1 "int64" a) = eval ρ l a ∧
      eval ρ l (.call1 "int" a) = eval ρ l a ∧
      eval ρ l (.call1 "float64" a) = eval ρ l a) ∧
    (∀ a b,
      eval ρ l (.call2 "math.Max" a b) =
        (match eval ρ l a, eval ρ l b with | .i x, .i y => .i (max x y) | _, _ => .bad) ∧
      eval ρ l (.call2 "math.Min" a b) =
        (match eval ρ l a, eval ρ l b with | .i x, .i y => .i (min x y) | _, _ => .bad) ∧
      eval ρ l (.call2 "strings.LastIndex" a b) =
        (match eval ρ l a, eval ρ l b with | .s x, .s y => lastIndexV x y | _, _ => .bad) ∧
      eval ρ l (.call2 "strings.HasPrefix" a b) =
        (match eval ρ l a, eval ρ l b with | .s x, .s y => .b (y.isPrefixOf x) | _, _ => .bad) ∧
      eval ρ l (.call2 "strings.IndexFunc" a (.pred b)) =
        (match eval ρ l a with
         | .s x => .i (indexFunc (fun c => eval ρ c b == .b true) x 0)
         | _ => .bad)) :=
  ⟨rfl, fun _ => rfl, fun _ => rfl, fun _ _ _ => rfl, fun _ => ⟨rfl, rfl, rfl, rfl, rfl, rfl⟩,
    fun _ _ => ⟨rfl, rfl, rfl, rfl, rfl⟩⟩

theorem eval_slice (x lo hi : E) :
    eval ρ l (.slice x lo hi) =
      match eval ρ l x, eval ρ l lo, eval ρ l hi with
      | .s bs, .i a, .i b => .s ((bs.drop a.toNat).take (b.toNat - a.toNat))
      | _, _, _ => .bad := rfl

/-- operators on values of the right sort -/
theorem binop_val :
    (∀ a b : Int,
      binop "+" (.i a) (.i b) = .i (a + b) ∧ binop "-" (.i a) (.i b) = .i (a - b) ∧
      binop "*" (.i a) (.i b) = .i (a * b) ∧
      binop "<" (.i a) (.i b) = .b (decide (a < b)) ∧ binop "<=" (.i a) (.i b) = .b (decide (a ≤ b)) ∧
      binop ">" (.i a) (.i b) = .b (decide (a > b)) ∧ binop ">=" (.i a) (.i b) = .b (decide (a ≥ b)) ∧
      binop "!=" (.i a) (.i b) = .b (decide (a ≠ b))) ∧
    (∀ a b : Bytes,
      binop "+" (.s a) (.s b) = .s (a ++ b) ∧ binop "==" (.s a) (.s b) = .b (decide (a = b))) ∧
    (∀ a b : Bool,
      binop "==" (.b a) (.b b) = .b (decide (a = b)) ∧ binop "||" (.b a) (.b b) = .b (a || b)) :=
  ⟨fun _ _ => ⟨rfl, rfl, rfl, rfl, rfl, rfl, rfl, rfl⟩, fun _ _ => ⟨rfl, rfl⟩, fun _ _ => ⟨rfl, rfl⟩⟩

@[simp] theorem vb_beq_true (x : Bool) : (V.b x == V.b true) = x := by cases x <;> rfl

theorem strBytes_dot : strBytes "." = [cDot] := rfl
theorem strBytes_dash : strBytes "-" = [cDash] := rfl

theorem evalB_of {e : E} {x : Bool} (h : eval ρ 0 e = .b x) : evalB ρ e = x := by
  rw [evalB, h]; cases x <;> rfl

/-- `strings.LastIndex(s, string(c))` as Go returns it -/
def lastIndexZ (c : Nat) (s : Bytes) : Int :=
  match lastIndexOf c s with
  | some i => i
  | none => -1

theorem lastIndexV_one (s : Bytes) (c : Nat) : lastIndexV s [c] = .i (lastIndexZ c s) := by
  rw [lastIndexV, lastIndexZ]; cases lastIndexOf c s <;> rfl

theorem indexFunc_nonneg (p : Nat → Bool) (bs : Bytes) (i : Nat) :
    decide (indexFunc p bs i ≥ 0) = bs.any p := by
  fun_induction indexFunc p bs i with
  | case1 => rfl
  | case2 b r i hb => simp [hb]
  | case3 b r i hb ih => simp [hb, ih]

/-- `name[LastIndex(name, "-")+1 : LastIndex(name, ".")]` -/
def goDate (name : Bytes) : Bytes :=
  (name.drop (lastIndexZ cDash name + 1).toNat).take
    ((lastIndexZ cDot name).toNat - (lastIndexZ cDash name + 1).toNat)

/-- the model's date part in the code's terms: the two `LastIndex` tests, then the slice -/
theorem datePart_eq (name : Bytes) :
    datePart name =
      if lastIndexZ cDot name < 0 ∨ lastIndexZ cDash name < 0 ∨ lastIndexZ cDash name ≥ lastIndexZ cDot name - 1
      then none else some (goDate name) := by
  unfold datePart goDate lastIndexZ
  cases lastIndexOf cDot name with
  | none => simp
  | some x =>
    cases lastIndexOf cDash name with
    | none => simp
    | some s =>
      dsimp only
      by_cases h : s + 1 ≥ x
      · rw [if_pos h, if_pos]; omega
      · rw [if_neg h, if_neg (by omega)]
        have e1 : ((s : Int) + 1).toNat = s + 1 := by omega
        have e2 : (x : Int).toNat = x := by omega
        simp only [e1, e2]

theorem any_not_digit (d : Bytes) :
    d.any (fun c => decide ((c : Int) < 48) || decide ((c : Int) > 57)) = !d.all isDigit := by
  have h (c : Nat) : (decide ((c : Int) < 48) || decide ((c : Int) > 57)) = !isDigit c := by
    rw [isDigit, Bool.eq_iff_iff]; simp; omega
  simp only [h, List.any_eq_not_all_not, Bool.not_not]

/-- `candidate` refuses a name exactly when one of the code's skip tests fires -/
theorem candidate_isNone (logID name : Bytes) :
    (candidate logID name).isNone =
      (!(logID ++ [cDash]).isPrefixOf name ||
        (decide (lastIndexZ cDot name < 0) ||
          (decide (lastIndexZ cDash name < 0) || decide (lastIndexZ cDash name ≥ lastIndexZ cDot name - 1) ||
            (decide (((goDate name).length : Int) ≠ 8) || !(goDate name).all isDigit)))) := by
  rw [candidate, datePart_eq]
  cases (logID ++ [cDash]).isPrefixOf name
  · rfl
  · by_cases h : lastIndexZ cDot name < 0 ∨ lastIndexZ cDash name < 0 ∨ lastIndexZ cDash name ≥ lastIndexZ cDot name - 1
    · rw [if_pos h]
      rcases h with h | h | h <;> simp [h]
    · rw [if_neg h]
      simp only [not_or] at h
      by_cases hl : (goDate name).length = 8 <;> cases hd : (goDate name).all isDigit <;> simp [h, hl, hd] <;> omega

theorem goDate_of_candidate {logID name d : Bytes} (hc : candidate logID name = some d) : goDate name = d := by
  have h := (candidate_some hc).2.1
  rw [datePart_eq] at h
  split at h
  · cases h
  · exact Option.some.inj h

end Logger.IR
