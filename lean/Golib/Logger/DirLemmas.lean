/-
  Golib.Logger.DirLemmas — the directory as the logger changes it.  Appending to a file
  (`dirAppend`, `St.append`), dropping condemned files (a `filter`) and creating a file (a new
  last entry) are all the changes there are; `Dir.Grows` says what any composition of them does
  to a file that was there before.
-/
import Golib.Logger.Model

namespace Logger

theorem dirAppend_nil (dir : Dir) (n : Bytes) : dirAppend dir n [] = dir := by
  induction dir with
  | nil => rfl
  | cons e r ih =>
    obtain ⟨k, f⟩ := e
    simp only [dirAppend]
    split
    · simp
    · rw [ih]

theorem dirAppend_append (dir : Dir) (n : Bytes) (a b : List Chunk) :
    dirAppend (dirAppend dir n a) n b = dirAppend dir n (a ++ b) := by
  fun_induction dirAppend dir n a with
  | case1 => rfl
  | case2 f r n a => simp [dirAppend]
  | case3 k f r n a hk ih => simp only [dirAppend, hk, if_false, ih]

theorem dirGet_dirAppend_same (dir : Dir) (n : Bytes) (cs : List Chunk) :
    dirGet (dirAppend dir n cs) n = (dirGet dir n).map (fun f => { f with recs := cs.reverse ++ f.recs }) := by
  fun_induction dirAppend dir n cs with
  | case1 => rfl
  | case2 f r n cs => simp [dirGet]
  | case3 k f r n cs hk ih => simp only [dirGet, hk, if_false, ih]

theorem dirGet_dirAppend_other (dir : Dir) (n m : Bytes) (cs : List Chunk) (h : m ≠ n) :
    dirGet (dirAppend dir n cs) m = dirGet dir m := by
  fun_induction dirAppend dir n cs with
  | case1 => rfl
  | case2 f r n cs => simp [dirGet, h.symm]
  | case3 k f r n cs hk ih => simp only [dirGet, ih h]

/-- `dirAppend` brings no new name -/
theorem mem_dirAppend {d : Dir} {m n : Bytes} {cs : List Chunk} {g : File} (h : (n, g) ∈ dirAppend d m cs) :
    ∃ f, (n, f) ∈ d := by
  fun_induction dirAppend d m cs with
  | case1 => cases h
  | case2 f r m cs =>
    rcases List.mem_cons.mp h with h | h
    · exact ⟨f, by rw [(Prod.mk.inj h).1]; exact List.mem_cons_self⟩
    · exact ⟨g, List.mem_cons_of_mem _ h⟩
  | case3 k f r m cs hk ih =>
    rcases List.mem_cons.mp h with h | h
    · exact ⟨g, by rw [h]; exact List.mem_cons_self⟩
    · exact (ih h).imp fun _ hx => List.mem_cons_of_mem _ hx

/-- `g` holds what `f` held, and possibly more at the end -/
def File.extends (g f : File) : Prop := g.init = f.init ∧ ∃ cs, g.recs = cs ++ f.recs

theorem File.extends_refl (f : File) : f.extends f := ⟨rfl, [], rfl⟩

theorem File.extends_trans {a b c : File} (h1 : a.extends b) (h2 : b.extends c) : a.extends c := by
  obtain ⟨i1, c1, r1⟩ := h1
  obtain ⟨i2, c2, r2⟩ := h2
  exact ⟨i1.trans i2, c1 ++ c2, by rw [r1, r2, List.append_assoc]⟩

/-- in call order: the chunks of `f` are a prefix of the chunks of an extension -/
theorem File.extends_chunks {g f : File} (h : g.extends f) : f.chunks <+: g.chunks := by
  obtain ⟨_, cs, r⟩ := h
  exact ⟨cs.reverse, by simp [File.chunks, r]⟩

/-- from `d` to `d'` files are only appended to: every file of `d` whose name `keep`s is in `d'`
    and holds what it held, possibly more at the end, and exactly what it held unless its name is
    one of `touch`.  Files whose names do not `keep` may be gone (`os.Remove`); nothing is said
    of files that are new in `d'`. -/
def Dir.Grows (keep touch : Bytes → Prop) (d d' : Dir) : Prop :=
  ∀ n f, (n, f) ∈ d → keep n → ∃ g, (n, g) ∈ d' ∧ g.extends f ∧ (¬ touch n → g = f)

theorem Dir.Grows.refl (keep touch : Bytes → Prop) (d : Dir) : Dir.Grows keep touch d d :=
  fun _ f h _ => ⟨f, h, File.extends_refl f, fun _ => rfl⟩

theorem Dir.Grows.trans {k k' t t' : Bytes → Prop} {d d' d'' : Dir}
    (h : Dir.Grows k t d d') (h' : Dir.Grows k' t' d' d'') :
    Dir.Grows (fun n => k n ∧ k' n) (fun n => t n ∨ t' n) d d'' := by
  intro n f hf ⟨hk, hk'⟩
  obtain ⟨g, hg, e, q⟩ := h n f hf hk
  obtain ⟨g', hg', e', q'⟩ := h' n g hg hk'
  exact ⟨g', hg', File.extends_trans e' e, fun hn => (q' fun x => hn (.inr x)).trans (q fun x => hn (.inl x))⟩

/-- fewer names kept (judged on the files of `d`), more names allowed to grow -/
theorem Dir.Grows.mono {k k' t t' : Bytes → Prop} {d d' : Dir} (h : Dir.Grows k t d d')
    (hk : ∀ n f, (n, f) ∈ d → k' n → k n) (ht : ∀ n, t n → t' n) : Dir.Grows k' t' d d' := by
  intro n f hf hk'
  obtain ⟨g, hg, e, q⟩ := h n f hf (hk n f hf hk')
  exact ⟨g, hg, e, fun hn => q fun x => hn (ht n x)⟩

theorem Dir.grows_dirAppend (d : Dir) (m : Bytes) (cs : List Chunk) :
    Dir.Grows (fun _ => True) (· = m) d (dirAppend d m cs) := by
  intro n f h _
  fun_induction dirAppend d m cs with
  | case1 => cases h
  | case2 f0 r m cs =>
    rcases List.mem_cons.mp h with h | h
    · cases h
      exact ⟨_, List.mem_cons_self, ⟨rfl, cs.reverse, rfl⟩, fun hne => absurd rfl hne⟩
    · exact ⟨f, List.mem_cons_of_mem _ h, File.extends_refl f, fun _ => rfl⟩
  | case3 k f0 r m cs hk ih =>
    rcases List.mem_cons.mp h with h | h
    · cases h
      exact ⟨f, List.mem_cons_self, File.extends_refl f, fun _ => rfl⟩
    · obtain ⟨g, hg, he, hn⟩ := ih h
      exact ⟨g, List.mem_cons_of_mem _ hg, he, hn⟩

theorem Dir.grows_filter (p : Bytes → Bool) (d : Dir) :
    Dir.Grows (p · = true) (fun _ => False) d (d.filter fun e => p e.1) :=
  fun _ f h hp => ⟨f, List.mem_filter.mpr ⟨h, hp⟩, File.extends_refl f, fun _ => rfl⟩

theorem Dir.grows_snoc (d : Dir) (x : Bytes × File) : Dir.Grows (fun _ => True) (fun _ => False) d (d ++ [x]) :=
  fun _ f h _ => ⟨f, List.mem_append_left _ h, File.extends_refl f, fun _ => rfl⟩

/-- all `St.append` changes is the open file's entry in the directory -/
theorem St.append_eq (st : St) (cs : List Chunk) :
    st.append cs = { st with dir := (match st.cur with | some n => dirAppend st.dir n cs | none => st.dir) } := by
  obtain ⟨_, _, _, cur, _, _, _, _⟩ := st
  cases cur <;> rfl

theorem St.append_nil (st : St) : st.append [] = st := by
  rw [St.append_eq]
  obtain ⟨_, _, _, cur, _, _, _, _⟩ := st
  cases cur
  · rfl
  · simp only [dirAppend_nil]

theorem St.grows_append (st : St) (cs : List Chunk) :
    Dir.Grows (fun _ => True) (st.cur = some ·) st.dir (st.append cs).dir := by
  rw [St.append_eq]
  cases st.cur with
  | none => exact Dir.Grows.refl _ _ _
  | some m => exact (Dir.grows_dirAppend st.dir m cs).mono (fun _ _ _ h => h) (fun _ h => by rw [h])

/-- … and `St.append` brings no new name -/
theorem St.mem_append_dir {st : St} {cs : List Chunk} {n : Bytes} {g : File} (h : (n, g) ∈ (st.append cs).dir) :
    ∃ f, (n, f) ∈ st.dir := by
  rw [St.append_eq] at h
  cases hc : st.cur with
  | none => rw [hc] at h; exact ⟨g, h⟩
  | some m => rw [hc] at h; exact mem_dirAppend h

end Logger
