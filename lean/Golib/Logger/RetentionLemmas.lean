/-
  Golib.Logger.RetentionLemmas — what `clearOldLog` removes, characterised.
-/
import Golib.Logger.Model
import Golib.Ext.StrLib

namespace Logger

open Ext.Str (lastIndexB lastIndexB_none)

theorem lastIdxAux_eq (c : Nat) : ∀ (bs : Bytes) (i : Nat) (acc : Option Nat),
    lastIdxAux c bs i acc = (match lastIndexB c bs with | some j => some (i + j) | none => acc)
  | [], _, _ => rfl
  | b :: r, i, acc => by
    rw [lastIdxAux, lastIdxAux_eq c r, lastIndexB]
    cases lastIndexB c r with
    | some p => exact congrArg some (by rw [Nat.add_assoc, Nat.add_comm 1 p])
    | none => simp only; split <;> rfl

theorem lastIndexOf_eq (c : Nat) (bs : Bytes) : lastIndexOf c bs = lastIndexB c bs := by
  rw [lastIndexOf, lastIdxAux_eq]; cases lastIndexB c bs <;> simp

/-- the last occurrence splits the string: `c` does not occur after it -/
theorem lastIdx_some {c : Nat} {bs : Bytes} {j : Nat} (h : lastIndexB c bs = some j) :
    ∃ pre post, bs = pre ++ c :: post ∧ pre.length = j ∧ c ∉ post := by
  fun_induction lastIndexB c bs generalizing j with
  | case1 => cases h
  | case2 b r k hr ih =>
    obtain ⟨pre, post, e, hl, hn⟩ := ih hr
    cases h
    exact ⟨b :: pre, post, by rw [e]; rfl, by simp [hl], hn⟩
  | case3 r hr ih => cases h; exact ⟨[], r, rfl, rfl, (lastIndexB_none _ _).mp hr⟩
  | case4 b r hr hb ih => cases h

theorem lastIdx_of_split {c : Nat} (pre post : Bytes) (hn : c ∉ post) :
    lastIndexB c (pre ++ c :: post) = some pre.length := by
  induction pre with
  | nil => simp [lastIndexB, (lastIndexB_none _ _).mpr hn]
  | cons b r ih => simp only [List.cons_append, lastIndexB, ih, List.length_cons]

/-- shape of a name that has a date part `d`: `pre-d.ext` where the dash is the last dash of the
    whole name, the dot the last dot, and `d` is not empty -/
theorem datePart_some {name d : Bytes} (h : datePart name = some d) :
    ∃ pre ext, name = pre ++ cDash :: (d ++ cDot :: ext) ∧ d ≠ [] ∧
      cDot ∉ ext ∧ cDash ∉ d ∧ cDash ∉ ext := by
  unfold datePart at h
  rw [lastIndexOf_eq, lastIndexOf_eq] at h
  cases hx : lastIndexB cDot name with
  | none => rw [hx] at h; cases h
  | some x =>
    rw [hx] at h
    simp only [] at h
    cases hs : lastIndexB cDash name with
    | none => rw [hs] at h; cases h
    | some s =>
      rw [hs] at h
      simp only [] at h
      split at h
      · cases h
      · rename_i hlt
        injection h with h
        obtain ⟨p1, e1, n1, l1, nd⟩ := lastIdx_some hx
        obtain ⟨p2, e2, n2, l2, ns⟩ := lastIdx_some hs
        -- name = p1 ++ '.' :: e1 = p2 ++ '-' :: e2 with |p2| + 1 < |p1|
        have hlen : p2.length + 1 < p1.length := by omega
        -- p1 = p2 ++ '-' :: m  and  e2 = m ++ '.' :: e1
        have hp : p1 = (p1.take (p2.length + 1)) ++ p1.drop (p2.length + 1) := (List.take_append_drop _ _).symm
        have htake : p1.take (p2.length + 1) = p2 ++ [cDash] := by
          have h1 : (p1 ++ cDot :: e1).take (p2.length + 1) = p1.take (p2.length + 1) := by
            rw [List.take_append_of_le_length (by omega)]
          have h2 : (p2 ++ cDash :: e2).take (p2.length + 1) = p2 ++ [cDash] := by
            rw [List.take_append, List.take_of_length_le (by omega)]
            simp
          rw [← h1, ← n1, n2, h2]
        let m := p1.drop (p2.length + 1)
        have hp1 : p1 = p2 ++ cDash :: m := by
          rw [hp, htake]; simp [m]
        have he2 : e2 = m ++ cDot :: e1 := by
          have : p2 ++ cDash :: e2 = p2 ++ cDash :: (m ++ cDot :: e1) := by
            rw [← n2, n1, hp1]; simp
          have := List.append_cancel_left this
          injection this
        have hd : d = m := by
          rw [← h, n1, hp1, ← l1, ← l2, hp1]
          simp
          have : p2.length + (m.length + 1) - (p2.length + 1) = m.length := by omega
          rw [this, List.take_left]
        subst hd
        refine ⟨p2, e1, ?_, ?_, nd, ?_, ?_⟩
        · rw [n1, hp1]; simp
        · intro hm
          have : p1.length = p2.length + 1 := by rw [hp1, hm]; simp
          omega
        · intro hin; exact ns (by rw [he2]; simp [hin])
        · intro hin; exact ns (by rw [he2]; simp [hin])

/-- conversely every name of that shape has that date part -/
theorem datePart_of_shape (pre d ext : Bytes) (hd : d ≠ []) (h1 : cDot ∉ ext) (h2 : cDash ∉ d)
    (h3 : cDash ∉ ext) : datePart (pre ++ cDash :: (d ++ cDot :: ext)) = some d := by
  unfold datePart
  rw [lastIndexOf_eq, lastIndexOf_eq]
  have e1 : pre ++ cDash :: (d ++ cDot :: ext) = (pre ++ cDash :: d) ++ cDot :: ext := by simp
  have hx : lastIndexB cDot (pre ++ cDash :: (d ++ cDot :: ext)) = some (pre ++ cDash :: d).length := by
    rw [e1]; exact lastIdx_of_split _ _ h1
  have hs : lastIndexB cDash (pre ++ cDash :: (d ++ cDot :: ext)) = some pre.length := by
    apply lastIdx_of_split
    intro hin
    rcases List.mem_append.mp hin with h | h
    · exact h2 h
    · rcases List.mem_cons.mp h with h | h
      · exact absurd h (by decide)
      · exact h3 h
  rw [hx, hs]
  simp only []
  have hdl : 0 < d.length := List.length_pos_iff.mpr hd
  have : ¬ (pre.length + 1 ≥ (pre ++ cDash :: d).length) := by simp; omega
  rw [if_neg this]
  congr 1
  have e2 : pre ++ cDash :: (d ++ cDot :: ext) = (pre ++ [cDash]) ++ (d ++ cDot :: ext) := by simp
  have e3 : pre.length + 1 = (pre ++ [cDash]).length := by simp
  rw [e2, e3, List.drop_left]
  have : (pre ++ cDash :: d).length - (pre ++ [cDash]).length = d.length := by simp; omega
  rw [this, List.take_left]

theorem candidate_some {logID name d : Bytes} (h : candidate logID name = some d) :
    (logID ++ [cDash]) <+: name ∧ datePart name = some d ∧ d.length = 8 ∧ ∀ b ∈ d, isDigit b = true := by
  unfold candidate at h
  split at h
  · rename_i hp
    cases hd : datePart name with
    | none => rw [hd] at h; cases h
    | some d' =>
      rw [hd] at h
      simp only [] at h
      split at h
      · rename_i hc
        injection h with h
        subst h
        exact ⟨List.isPrefixOf_iff_prefix.mp hp, rfl, hc.1, List.all_eq_true.mp hc.2⟩
      · cases h
  · cases h

theorem candidate_of {logID name d : Bytes} (hp : (logID ++ [cDash]) <+: name) (hd : datePart name = some d)
    (hl : d.length = 8) (hg : ∀ b ∈ d, isDigit b = true) : candidate logID name = some d := by
  unfold candidate
  rw [if_pos (List.isPrefixOf_iff_prefix.mpr hp), hd]
  simp only []
  rw [if_pos ⟨hl, List.all_eq_true.mpr hg⟩]

/-- `clearOldLog`'s decision for one name, with the parse (`candidate`) and the calendar lookup kept apart -/
theorem deleted_eq (cal : Cal) (rot : Bool) (logID : Bytes) (keep nowUnit : Int) (name : Bytes) :
    deleted cal rot logID keep nowUnit name =
      (retentionOn rot keep &&
        match candidate logID name with
        | none => false
        | some d => match cal.unitOf d with | some u => decide (nowUnit - u > keep) | none => false) := by
  unfold deleted verdict
  cases candidate logID name with
  | none => rfl
  | some d =>
    dsimp only
    cases cal.unitOf d with
    | none => rfl
    | some u => by_cases h : nowUnit - u > keep <;> simp [h]

theorem deleted_of_candidate (cal : Cal) (rot : Bool) (logID name d : Bytes) (keep nowUnit u : Int)
    (hc : candidate logID name = some d) (hu : cal.unitOf d = some u) :
    deleted cal rot logID keep nowUnit name = true ↔ rot = true ∧ keep > 0 ∧ nowUnit - u > keep := by
  simp [deleted_eq, retentionOn, hc, hu, and_assoc]

/-- a file is removed exactly when: retention is on, the name carries the logger's id prefix,
    its date part is 8 digits, the calendar knows the date, and it is older than keep days -/
theorem deleted_iff (cal : Cal) (rotation : Bool) (logID : Bytes) (keep nowUnit : Int) (name : Bytes) :
    deleted cal rotation logID keep nowUnit name = true ↔
      rotation = true ∧ keep > 0 ∧ (logID ++ [cDash]) <+: name ∧
      ∃ d, datePart name = some d ∧ d.length = 8 ∧ (∀ b ∈ d, isDigit b = true) ∧
        ∃ u, cal.unitOf d = some u ∧ nowUnit - u > keep := by
  rw [deleted_eq, retentionOn]
  constructor
  · intro h
    simp only [Bool.and_eq_true, decide_eq_true_eq] at h
    obtain ⟨⟨hr, hk⟩, hv⟩ := h
    split at hv
    · cases hv
    · rename_i d hc
      obtain ⟨hp, hd, hl, hg⟩ := candidate_some hc
      split at hv
      · rename_i u hu
        exact ⟨hr, hk, hp, d, hd, hl, hg, u, hu, by simpa using hv⟩
      · cases hv
  · rintro ⟨hr, hk, hp, d, hd, hl, hg, u, hu, hgt⟩
    simp [candidate_of hp hd hl hg, hu, hr, hk, hgt]

/-- nothing without the prefix is ever removed -/
theorem not_deleted_of_no_prefix (cal : Cal) (rotation : Bool) (logID : Bytes) (keep nowUnit : Int)
    (name : Bytes) (h : ¬ (logID ++ [cDash]) <+: name) : deleted cal rotation logID keep nowUnit name = false := by
  cases hd : deleted cal rotation logID keep nowUnit name with
  | false => rfl
  | true => exact absurd ((deleted_iff ..).mp hd).2.2.1 h

theorem clearDir_fst (cal : Cal) (logID : Bytes) (keep nowUnit : Int) (dir : Dir) :
    (clearDir cal logID keep nowUnit dir).1 =
      dir.filter (fun e => verdict cal logID keep nowUnit e.1 != .delete) := by
  induction dir with
  | nil => rfl
  | cons e r ih =>
    obtain ⟨n, f⟩ := e
    simp only [clearDir, List.filter_cons]
    cases hv : verdict cal logID keep nowUnit n <;> simp [ih]

theorem clearDir_del (cal : Cal) (logID : Bytes) (keep nowUnit : Int) (dir : Dir) :
    (clearDir cal logID keep nowUnit dir).2.1 =
      (dir.filter (fun e => verdict cal logID keep nowUnit e.1 == .delete)).map (·.1) := by
  induction dir with
  | nil => rfl
  | cons e r ih =>
    obtain ⟨n, f⟩ := e
    simp only [clearDir, List.filter_cons]
    cases hv : verdict cal logID keep nowUnit n <;> simp [ih]

end Logger
