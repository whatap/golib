/-
  Golib.Logger.Date — the two calendar functions the logger uses, as parameters (`Cal`), and a
  concrete instance for the examples of Props/C17.lean (`cal0`); the driver runs `Cal.c19`
  (CalReal.lean).

  The property takes the calendar as given (its correctness is property C19): every theorem of
  C17 is stated for an arbitrary `Cal`.  The concrete `Cal.std` computes what DateTimeHelper.go
  reads from its table of the days 2000-01-01 … 2099-12-31, `yyyymmdd(t) = table[(t-BASE)/day]` (index clamped
  at 0) and `getYmdTime(s)` = table[year-2000][mm-1][dd-1] with `year ≥ 2100 ↦ last+1 day`,
  `year < 2000 ↦ BASE`, and an index panic (here `none`) for a month or day outside the table.
-/
import Golib.Logger.Path

namespace Logger

/-- the calendar as the logger sees it -/
structure Cal where
  /-- `dateutil.YYYYMMDD` as a function of the day unit -/
  ymd : Int → Bytes
  /-- `dateutil.GetDateUnit (dateutil.GetYmdTime s)` for an 8-digit `s`; `none` = index panic -/
  unitOf : Bytes → Option Int

def baseTime : Int := 946684800000
def millisPerDay : Int := 86400000

/-- `DateTimeHelper.getDateUnit`: Go's `/` on int64 truncates toward zero (`Int.tdiv`), also for
    instants before 2000-01-01 -/
def unit (t : Int) : Int := (t - baseTime).tdiv 86400000

theorem unit_of_nonneg (t : Int) (h : baseTime ≤ t) : unit t = (t - baseTime) / 86400000 := by
  unfold unit
  exact Int.tdiv_eq_ediv_of_nonneg (by omega)

def isDigit (b : Nat) : Bool := 48 ≤ b && b ≤ 57

def num (ds : Bytes) : Nat := ds.foldl (fun a d => a * 10 + (d - 48)) 0

namespace Std

/-- `isYun` is called with the year offset 0‥99 -/
def isLeap (y : Nat) : Bool := (y % 4 == 0 && y % 100 != 0) || y % 400 == 0

def monthLen (y m : Nat) : Nat :=
  if m = 2 then (if isLeap y then 29 else 28)
  else if m = 4 ∨ m = 6 ∨ m = 9 ∨ m = 11 then 30 else 31

def yearLen (y : Nat) : Nat := if isLeap y then 366 else 365

def daysBeforeYear (y : Nat) : Nat := (List.range y).foldl (fun a k => a + yearLen k) 0

def daysBeforeMonth (y m : Nat) : Nat := (List.range (m - 1)).foldl (fun a k => a + monthLen y (k + 1)) 0

/-- agrees with Go on 8-digit input only: `strconv.Atoi` gives 0 for a field that is not a number,
    `num` does not (`num "abcd" = 54562`) -/
def unitOf (d : Bytes) : Option Int :=
  let y := num (d.take 4)
  let m := num ((d.drop 4).take 2)
  let dd := num (d.drop 6)
  if y ≥ 2100 then some 36525
  else if y < 2000 then some 0
  else if m < 1 ∨ m > 12 then none
  else if dd < 1 ∨ dd > monthLen (y - 2000) m then none
  else some (Int.ofNat (daysBeforeYear (y - 2000) + daysBeforeMonth (y - 2000) m + dd - 1))

def pad2 (n : Nat) : Bytes := [48 + n / 10 % 10, 48 + n % 10]
def pad4 (n : Nat) : Bytes := [48 + n / 1000 % 10, 48 + n / 100 % 10, 48 + n / 10 % 10, 48 + n % 10]

/-- find the year offset: largest y ≤ 99 with daysBeforeYear y ≤ u -/
def findYear (u : Nat) : Nat × Nat :=
  (List.range 100).foldl (fun (acc : Nat × Nat) y =>
    -- acc = (year, remaining days within that year)
    if acc.2 ≥ yearLen acc.1 ∧ acc.1 = y ∧ y < 99 then (y + 1, acc.2 - yearLen y) else acc) (0, u)

def findMonth (y r : Nat) : Nat × Nat :=
  (List.range 12).foldl (fun (acc : Nat × Nat) k =>
    if acc.2 ≥ monthLen y acc.1 ∧ acc.1 = k + 1 ∧ k + 1 < 12 then (k + 2, acc.2 - monthLen y (k + 1)) else acc) (1, r)

def ymd (u : Int) : Bytes :=
  let n := u.toNat
  let (y, r) := findYear n
  let (m, d) := findMonth y r
  pad4 (2000 + y) ++ pad2 m ++ pad2 (d + 1)

end Std

def Cal.std : Cal := ⟨Std.ymd, Std.unitOf⟩

end Logger
