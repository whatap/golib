/-
  Golib.Logger.CacheHMap — the logger's id cache *is* C09's bounded insertion-ordered
  dictionary (`HMap.S`, the specification that C09 proves `StringLongLinkedMap`'s hash table
  + linked list refine): `Put` in mode LAST with `max = 1000`, the empty key refused, `Get`
  with the null value 0.  Consequences: the exact eviction semantics (which id is forgotten
  when) and an exact characterisation of suppression on every history.
-/
import Golib.Logger.RateLemmas
import Golib.HMap.SpecLemmas
import Golib.HMap.LinkedRefine

namespace Logger
open HMap

/-- `StringLongLinkedMap`: values add up under `Add`, `==` on values, the empty key is refused -/
def slDesc : Desc Bytes Int := { comb := (· + ·), veq := (· == ·), refuse := fun k => decide (k = []) }

theorem cacheGet_eq (c : Cache) (k : Bytes) : cacheGet c k = (AL.get c k).getD 0 := by
  fun_induction cacheGet c k with
  | case1 => rfl
  | case2 => simp [AL.get]
  | case3 a b r k hk ih => simp [AL.get, hk, ih]

theorem cacheHas_eq (c : Cache) (k : Bytes) : cacheHas c k = (AL.get c k).isSome := by
  fun_induction cacheHas c k with
  | case1 => rfl
  | case2 => simp [AL.get]
  | case3 a b r k hk ih => simp [AL.get, hk, ih]

theorem set_of_not_mem {c : Cache} {k : Bytes} (v : Int) (h : k ∉ AL.keys c) : AL.set c k v = c := by
  induction c with
  | nil => rfl
  | cons e r ih =>
    obtain ⟨a, b⟩ := e
    simp only [AL.keys, List.map_cons, List.mem_cons, not_or] at h
    have hak : ¬ a = k := fun e => h.1 e.symm
    simp only [AL.set, List.map_cons, hak, if_false]
    congr 1
    exact ih h.2

theorem cacheSet_eq {c : Cache} (k : Bytes) (v : Int) (hn : (AL.keys c).Nodup) : cacheSet c k v = AL.set c k v := by
  induction c with
  | nil => rfl
  | cons e r ih =>
    obtain ⟨a, b⟩ := e
    simp only [AL.keys, List.map_cons, List.nodup_cons] at hn
    simp only [cacheSet]
    by_cases hak : a = k
    · subst hak
      simp only [if_true, AL.set, List.map_cons]
      congr 1
      exact (set_of_not_mem v hn.1).symm
    · simp only [hak, if_false, AL.set, List.map_cons]
      congr 1
      exact ih hn.2

/-- the cache's `Put` is the dictionary's `put` (mode LAST, max 1000, empty key refused) -/
theorem cachePut_eq {c : Cache} (k : Bytes) (v : Int) (hn : (AL.keys c).Nodup) :
    cachePut c k v = (S.put slDesc ⟨c, cacheMax⟩ .last k v).1.ents := by
  unfold cachePut
  by_cases hk : k = []
  · rw [S.put_refused (d := slDesc) (decide_eq_true hk), if_pos hk]
  · rw [S.put_accepted (d := slDesc) (decide_eq_false hk), if_neg hk, cacheHas_eq]
    cases hg : AL.get c k with
    | some old => rw [S.putWith_present hg]; exact cacheSet_eq k v hn
    | none =>
      rw [S.putWith_absent hg]
      simp only [Option.isSome_none, Bool.false_eq_true, if_false, AL.insertNew, Mode.atFront, AL.evictFront]
      have : (0 < cacheMax ∧ cacheMax ≤ c.length) ↔ c.length ≥ cacheMax := by
        unfold cacheMax; omega
      simp only [this]

theorem cachePut_nodup {c : Cache} (k : Bytes) (v : Int) (hn : (AL.keys c).Nodup) :
    (AL.keys (cachePut c k v)).Nodup := by
  rw [cachePut_eq k v hn]
  unfold S.put
  split
  · exact hn
  · exact S.WF_putWith (s := ⟨c, cacheMax⟩) hn .last k _

/-- a known id: its time is replaced, nothing moves, nothing is forgotten (re-logging an id
    does not renew its place in the queue) -/
theorem put_known {c : Cache} {k : Bytes} (v : Int) (hn : (AL.keys c).Nodup) (hk : k ∈ AL.keys c) (hne : k ≠ []) :
    cachePut c k v = AL.set c k v := by
  obtain ⟨old, hg⟩ := Option.isSome_iff_exists.mp (AL.get_isSome_iff.mpr hk)
  rw [cachePut_eq k v hn, S.put_accepted (d := slDesc) (decide_eq_false hne), S.putWith_present hg]
  rfl

/-- a new id below the capacity: appended, nothing forgotten -/
theorem put_new_below {c : Cache} {k : Bytes} (v : Int) (hk : k ∉ AL.keys c) (hne : k ≠ []) (hl : c.length < cacheMax) :
    cachePut c k v = c ++ [(k, v)] := by
  have hl' : ¬ c.length ≥ cacheMax := by omega
  simp [cachePut, hne, cacheHas_eq, AL.get_none_iff.mpr hk, hl']

/-- a new id at the capacity: exactly the id that entered the cache first is forgotten -/
theorem put_new_full {c : Cache} {k : Bytes} (v : Int) (hk : k ∉ AL.keys c) (hne : k ≠ []) (hl : c.length = cacheMax) :
    cachePut c k v = c.drop 1 ++ [(k, v)] := by
  simp [cachePut, hne, cacheHas_eq, AL.get_none_iff.mpr hk, hl]

/-- the cache after a list of `Put`s is a run of C09's dictionary specification on them -/
theorem dictAfter_is_hmap (ps : List (Bytes × Int)) (c : Cache) (hn : (AL.keys c).Nodup) :
    dictAfter c ps = (ps.foldl (fun (s : S Bytes Int) e => (S.put slDesc s .last e.1 e.2).1) ⟨c, cacheMax⟩).ents ∧
    (AL.keys (dictAfter c ps)).Nodup := by
  induction ps generalizing c with
  | nil => exact ⟨rfl, hn⟩
  | cons e r ih =>
    obtain ⟨a, b⟩ := ih (cachePut c e.1 e.2) (cachePut_nodup e.1 e.2 hn)
    refine ⟨?_, b⟩
    -- one `put` of the specification is one `cachePut`; the capacity stays
    have hs : (S.put slDesc ⟨c, cacheMax⟩ .last e.1 e.2).1 = ⟨cachePut c e.1 e.2, cacheMax⟩ := by
      rw [cachePut_eq e.1 e.2 hn]
      exact congrArg (S.mk _) (S.put_max slDesc ⟨c, cacheMax⟩ .last e.1 e.2)
    simpa only [dictAfter, List.foldl_cons, hs] using a

/-- suppression, exactly, after ANY history of a fresh logger (no bound on its length, any
    settings): a call is suppressed by the limiter iff it passes the gate, is rate limited with
    id `i`, the interval `s` is positive and `t < T + s·1000`, where `T` is what C09's
    dictionary holds for `i` after the history's `Put`s (0 when it holds nothing: never put,
    or forgotten by eviction) -/
theorem suppressed_iff (cal : Cal) (st0 : St) (ops : List Op) (t : Int) (m : Meth) (id msg : Bytes)
    (h0 : st0.cache = []) :
    (logDecide t m id msg (run cal st0 ops)).1 = .rate ↔
      m.passes (run cal st0 ops).conf.level = true ∧
      ∃ i, m.rateId id (if m.ln then msg ++ [cNl] else msg) = some i ∧ (run cal st0 ops).conf.interval > 0 ∧
        t < (AL.get (dictAfter [] (puts cal st0 ops)) i).getD 0 + (run cal st0 ops).conf.interval * 1000 := by
  rw [logDecide_rate_iff, run_cache, h0]
  simp only [cacheGet_eq, gt_iff_lt]

/-- closed form (C09's `foldl_put_keepLast`): when the `Put`s carry pairwise distinct new
    non-empty ids, the table afterwards holds exactly the most recent 1000 entries -/
theorem table_after_new_ids (c : Cache) (l : List (Bytes × Int)) (hn : (AL.keys (c ++ l)).Nodup)
    (hne : ∀ e ∈ l, e.1 ≠ []) (hb : c.length ≤ cacheMax) :
    dictAfter c l = AL.keepLast cacheMax (c ++ l) := by
  have hnc : (AL.keys c).Nodup := by
    rw [AL.keys_append] at hn
    exact (List.nodup_append.mp hn).1
  rw [(dictAfter_is_hmap l c hnc).1]
  rw [S.foldl_put_keepLast slDesc l c cacheMax hn (fun e he => by simp [slDesc, hne e he]) (Or.inr hb)]

end Logger
