/-
  Golib.Logger.FilesLemmas — facts about the model of `GetLogFiles` (Golib.Logger.Files):
  closed form of the listing, when the call cannot panic, the logger's own dated file is listed,
  and every listed name is served by `Read` from inside `<home>/logs` — with the containment of
  `Read` itself (`resolve_contained`: whatever `resolve` accepts is opened below `<home>/logs`).
-/
import Golib.Logger.Files
import Golib.Logger.Model

namespace Logger

def listable (logID oname : Bytes) (e : DirEnt) : Bool := filesVerdict logID oname e = .list

def entPair (e : DirEnt) : Bytes × Int := (e.name, e.size)

/-- the loop of `GetLogFiles`: whatever it returns is the first `100 - n` listable entries in
    directory order with their sizes, and it returns (does not panic) when no entry panics -/
theorem logFilesLoop_spec (logID oname : Bytes) (ents : List DirEnt) (n : Nat) (hn : n < filesMax) :
    (∀ out, logFilesLoop logID oname ents n = some out →
      out = ((ents.filter (listable logID oname)).take (filesMax - n)).map entPair) ∧
    ((∀ e ∈ ents, filesVerdict logID oname e ≠ .panic) → (logFilesLoop logID oname ents n).isSome = true) := by
  fun_induction logFilesLoop logID oname ents n with
  | case1 => exact ⟨fun out h => by cases h; simp, fun _ => rfl⟩
  | case2 e r n hv ih =>
    have : listable logID oname e = false := by simp [listable, hv]
    simp only [List.filter_cons, this]
    exact ⟨(ih hn).1, fun hp => (ih hn).2 fun x hx => hp x (List.mem_cons_of_mem _ hx)⟩
  | case3 e r n hv => exact ⟨nofun, fun hp => absurd hv (hp e List.mem_cons_self)⟩
  | case4 e r n hv hfull =>
    have hl : listable logID oname e = true := by simp [listable, hv]
    have : filesMax - n = 1 := by omega
    simp only [List.filter_cons, hl, if_true, this]
    exact ⟨fun out h => by cases h; rfl, fun _ => rfl⟩
  | case5 e r n hv hfull ih =>
    have hl : listable logID oname e = true := by simp [listable, hv]
    have : filesMax - n = (filesMax - (n + 1)) + 1 := by omega
    simp only [List.filter_cons, hl, if_true, this, List.take_succ_cons, List.map_cons]
    obtain ⟨a, b⟩ := ih (by omega)
    refine ⟨fun out h => ?_, fun hp => ?_⟩
    · obtain ⟨o, ho, rfl⟩ := Option.map_eq_some_iff.mp h
      rw [a o ho]; rfl
    · simpa using b fun x hx => hp x (List.mem_cons_of_mem _ hx)

/-- `GetLogFiles`, exactly: the first 100 listable entries in directory order, with their sizes -/
theorem logFiles_closed (logID oname : Bytes) (ents : List DirEnt)
    (hp : ∀ e ∈ ents, filesVerdict logID oname e ≠ .panic) :
    logFiles logID oname ents = some (((ents.filter (listable logID oname)).take filesMax).map entPair) := by
  obtain ⟨a, b⟩ := logFilesLoop_spec logID oname ents 0 (by decide)
  obtain ⟨out, h⟩ := Option.isSome_iff_exists.mp (b hp)
  rw [logFiles, h, a out h, Nat.sub_zero]

/-- what is listed: an entry of the directory, a regular file, with its size, of the shape
    `whatap-hook.log` or `logID-oname-` + 8 bytes + first dot -/
theorem logFilesLoop_sound (logID oname : Bytes) (ents : List DirEnt) (n : Nat) (hn : n < filesMax)
    (out : List (Bytes × Int)) (h : logFilesLoop logID oname ents n = some out) :
    ∀ p ∈ out, ∃ e ∈ ents, p = entPair e ∧ filesVerdict logID oname e = .list := by
  rw [(logFilesLoop_spec logID oname ents n hn).1 out h]
  intro p hp
  obtain ⟨e, he, rfl⟩ := List.mem_map.mp hp
  obtain ⟨he, hl⟩ := List.mem_filter.mp (List.mem_of_mem_take he)
  exact ⟨e, he, rfl, by simpa [listable] using hl⟩

theorem indexDot_mem {l : Bytes} {x : Nat} (h : indexDot l = some x) : cDot ∈ l.take (x + 1) := by
  fun_induction indexDot l generalizing x with
  | case1 => cases h
  | case2 r => simp
  | case3 b r hb ih =>
    obtain ⟨y, hy, rfl⟩ := Option.map_eq_some_iff.mp h
    exact List.mem_cons_of_mem _ (ih hy)

theorem indexDot_append_nodot (a b : Bytes) (h : cDot ∉ a) :
    indexDot (a ++ b) = (indexDot b).map (· + a.length) := by
  induction a with
  | nil =>
    show indexDot b = (indexDot b).map (· + 0)
    cases indexDot b <;> rfl
  | cons x r ih =>
    have hx : ¬ x = cDot := fun e => h (by simp [e])
    have hr : cDot ∉ r := fun e => h (List.mem_cons_of_mem _ e)
    simp only [List.cons_append, indexDot, if_neg hx, ih hr, List.length_cons]
    cases indexDot b <;> simp
    omega

/-- the two verdicts that matter, read off the decision tree of the loop body -/
theorem filesVerdict_list_iff (logID oname : Bytes) (e : DirEnt) :
    filesVerdict logID oname e = .list ↔
      e.isDir = false ∧ ∃ x, indexDot e.name = some x ∧
        (e.name = hookName ∨ (filesPrefix logID oname <+: e.name ∧ x = (filesPrefix logID oname).length + 8)) := by
  unfold filesVerdict
  rw [← List.isPrefixOf_iff_prefix]
  cases e.isDir <;> cases indexDot e.name <;>
    simp only [Bool.false_eq_true, if_false, if_true, false_and, true_and, reduceCtorEq,
      exists_false, Option.some.injEq, exists_eq_left']
  rename_i x
  by_cases hh : e.name = hookName
  · simp only [hh, if_true, true_or]
  · by_cases hp : (filesPrefix logID oname).isPrefixOf e.name = true
    · simp only [hh, hp, if_true, if_false, false_or, true_and]
      split
      · simp only [reduceCtorEq, false_iff]; omega
      · split <;> simp only [reduceCtorEq, false_iff, true_iff] <;> omega
    · simp only [hh, hp, if_false, false_or, false_and, reduceCtorEq]

theorem filesVerdict_panic_iff (logID oname : Bytes) (e : DirEnt) :
    filesVerdict logID oname e = .panic ↔
      e.isDir = false ∧ ∃ x, indexDot e.name = some x ∧ e.name ≠ hookName ∧
        filesPrefix logID oname <+: e.name ∧ x < (filesPrefix logID oname).length := by
  unfold filesVerdict
  rw [← List.isPrefixOf_iff_prefix]
  cases e.isDir <;> cases indexDot e.name <;>
    simp only [Bool.false_eq_true, if_false, if_true, false_and, true_and, reduceCtorEq,
      exists_false, Option.some.injEq, exists_eq_left']
  rename_i x
  by_cases hh : e.name = hookName
  · simp only [hh, if_true, ne_eq, not_true_eq_false, false_and, reduceCtorEq]
  · by_cases hp : (filesPrefix logID oname).isPrefixOf e.name = true
    · simp only [hh, hp, if_true, if_false, ne_eq, not_false_eq_true, true_and]
      split
      · simp only [*]
      · split <;> simp only [reduceCtorEq, *]
    · simp only [hh, hp, if_false, false_and, and_false, reduceCtorEq]
theorem noDot_filesPrefix {logID oname : Bytes} (h1 : cDot ∉ logID) (h2 : cDot ∉ oname) :
    cDot ∉ filesPrefix logID oname := by
  have hd : cDot ≠ cDash := by decide
  simp only [filesPrefix, List.mem_append, List.mem_singleton]
  rintro (((h | h) | h) | h)
  · exact h1 h
  · exact hd h
  · exact h2 h
  · exact hd h

theorem own_file_listable (cal : Cal) (logID oname : Bytes) (u : Int) (sz : Int)
    (h1 : cDot ∉ logID) (h2 : cDot ∉ oname) (h8 : (cal.ymd u).length = 8) (hd : cDot ∉ cal.ymd u) :
    filesVerdict logID oname ⟨fileName cal logID oname true u, false, sz⟩ = .list := by
  have hname : fileName cal logID oname true u = filesPrefix logID oname ++ (cal.ymd u ++ asc ".log") := by
    simp [fileName, filesPrefix, List.append_assoc]
  have hnd : cDot ∉ filesPrefix logID oname ++ cal.ymd u :=
    fun h => (List.mem_append.mp h).elim (noDot_filesPrefix h1 h2) hd
  refine (filesVerdict_list_iff ..).mpr ⟨rfl, _, ?_, .inr ⟨hname ▸ List.prefix_append _ _, rfl⟩⟩
  show indexDot (fileName cal logID oname true u) = _
  rw [hname, ← List.append_assoc, indexDot_append_nodot _ _ hnd]
  have : indexDot (asc ".log") = some 0 := by decide
  rw [this]
  simp [h8]

/-- whatever `resolve` accepts is opened below `<home>/logs` -/
theorem resolve_contained {home file : Bytes} {rel : List Bytes} (h : resolve home file = some rel) :
    openedPath home file = logsDir home ++ rel := by
  unfold resolve at h
  simp only [] at h
  split at h
  · rename_i hp
    have hp' := List.isPrefixOf_iff_prefix.mp hp
    obtain ⟨t, ht⟩ := hp'
    injection h with h
    rw [← h, ← ht]
    simp
  · cases h

theorem splitAux_noslash (n acc : Bytes) (h : cSlash ∉ n) : splitAux cSlash n acc = [acc.reverse ++ n] := by
  fun_induction splitAux cSlash n acc with
  | case1 => simp
  | case2 => exact absurd List.mem_cons_self h
  | case3 b r acc hb ih => rw [ih fun e => h (List.mem_cons_of_mem _ e)]; simp

/-- a plain entry name (no '/', not empty, not "." or "..") resolves to itself below `<home>/logs` -/
theorem resolve_plain (home n : Bytes) (h : cSlash ∉ n) (h0 : n ≠ []) (h1 : n ≠ [cDot]) (h2 : n ≠ [cDot, cDot]) :
    resolve home n = some [n] := by
  have hs : splitSlash n = [n] := by simpa [splitSlash] using splitAux_noslash n [] h
  have hpush : ∀ stk, pushSeg stk n = n :: stk := by
    intro stk
    unfold pushSeg
    rw [if_neg (by simp [h0, h1]), if_neg h2]
  have hop : openedPath home n = logsDir home ++ [n] := by
    simp only [openedPath, logsDir, normAbs, hs, List.foldl_append, List.foldl_cons, List.foldl_nil, hpush,
      List.reverse_cons]
  unfold resolve
  simp only [hop]
  have : (logsDir home).isPrefixOf (logsDir home ++ [n]) = true := by
    rw [List.isPrefixOf_iff_prefix]; exact List.prefix_append _ _
  rw [if_pos this]
  simp

/-- `Read` of a plain entry name looks up exactly that entry of `<home>/logs` -/
theorem read_plain (home n : Bytes) (snap : Snapshot) (endpos length : Int) (hl : 0 < length)
    (h : cSlash ∉ n) (h0 : n ≠ []) (h1 : n ≠ [cDot]) (h2 : n ≠ [cDot, cDot]) :
    read home n snap endpos length =
      match lookupEntry n snap with
      | none => .nilOpenErr
      | some e => readEntry e endpos length := by
  unfold read
  have : ¬ (n = [] ∨ length ≤ 0) := by
    rintro (h | h)
    · exact h0 h
    · omega
  rw [if_neg this, resolve_plain home n h h0 h1 h2]
  simp only [joinSlash]
  cases lookupEntry n snap <;> rfl

end Logger
