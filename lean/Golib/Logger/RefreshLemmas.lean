/-
  Golib.Logger.RefreshLemmas — logging a RESIDENT id again (an update of a known key of the id
  table) forgets nothing, at any fill level: the case "table full, a known id whose interval is
  over is logged again" keeps every other id suppressed exactly as before.
-/
import Golib.Logger.CacheHMap

namespace Logger
open HMap

/-- the table after a `Put` of a resident id: same ids, same places, same length; the id's own
    time is the new one, every other id's time is unchanged -/
theorem refresh_cache {c : Cache} {k : Bytes} (v : Int) (hn : (AL.keys c).Nodup) (hne : k ≠ [])
    (hk : k ∈ AL.keys c) :
    AL.keys (cachePut c k v) = AL.keys c ∧ (cachePut c k v).length = c.length ∧
    cacheGet (cachePut c k v) k = v ∧ ∀ j, j ≠ k → cacheGet (cachePut c k v) j = cacheGet c j := by
  rw [put_known v hn hk hne]
  refine ⟨AL.keys_set c k v, AL.length_set c k v, ?_, ?_⟩
  · rw [cacheGet_eq, AL.get_set]
    have : (AL.get c k).isSome = true := AL.get_isSome_iff.mpr hk
    simp [this]
  · intro j hj
    rw [cacheGet_eq, cacheGet_eq, AL.get_set]
    have : ¬ k = j := fun e => hj e.symm
    simp [this]

/-- the cache of a logger that started with an empty one never holds an id twice -/
theorem run_cache_nodup (cal : Cal) (st0 : St) (ops : List Op) (h0 : st0.cache = []) :
    (AL.keys (run cal st0 ops).cache).Nodup := by
  rw [run_cache, h0]
  exact (dictAfter_is_hmap (puts cal st0 ops) [] List.nodup_nil).2

/-- what a log call does to the table: nothing, or the `Put` of its rate id at its time -/
theorem logCall_cache_cases (t : Int) (m : Meth) (id msg : Bytes) (st : St) :
    (logCall t m id msg st).1.cache = st.cache ∨
    ∃ rid, m.rateId id (if m.ln then msg ++ [cNl] else msg) = some rid ∧
      (logCall t m id msg st).1.cache = cachePut st.cache rid t := by
  rw [logCall_cache, putOf]
  split
  · rcases ratedOf_log st t m id msg with h | ⟨rid, hr, h⟩ <;> rw [h]
    · exact .inl rfl
    · exact .inr ⟨rid, hr, rfl⟩
  · exact .inl rfl

/-- the decision of a call depends on the settings and on the time the table holds for its id only -/
theorem logDecide_congr (t : Int) (m : Meth) (id msg : Bytes) (st st' : St) (hc : st'.conf = st.conf)
    (hg : ∀ j, m.rateId id (if m.ln then msg ++ [cNl] else msg) = some j → cacheGet st'.cache j = cacheGet st.cache j) :
    (logDecide t m id msg st').1 = (logDecide t m id msg st).1 := by
  unfold logDecide
  rw [hc]
  split
  · cases hr : m.rateId id (if m.ln = true then msg ++ [cNl] else msg) with
    | none => rfl
    | some rid =>
      have hj := hg rid hr
      simp only []
      have : (checkOk st'.cache rid st.conf.interval t).1 = (checkOk st.cache rid st.conf.interval t).1 := by
        unfold checkOk
        rw [hj]
        split
        · split <;> rfl
        · rfl
      rw [this]
      split <;> rfl
  · rfl

/-- a log call whose id is resident (whatever the call's outcome, whatever the fill level of the
    table): the table holds the same ids in the same places afterwards, and every call with a
    DIFFERENT rate id is decided exactly as it would have been before -/
theorem refresh_step (t : Int) (m : Meth) (id msg i : Bytes) (st : St) (hn : (AL.keys st.cache).Nodup)
    (hid : m.rateId id (if m.ln then msg ++ [cNl] else msg) = some i) (hk : i ∈ AL.keys st.cache) (hne : i ≠ []) :
    AL.keys (logCall t m id msg st).1.cache = AL.keys st.cache ∧
    (∀ j, j ≠ i → cacheGet (logCall t m id msg st).1.cache j = cacheGet st.cache j) ∧
    ∀ (t' : Int) (m' : Meth) (id' msg' j : Bytes),
      m'.rateId id' (if m'.ln then msg' ++ [cNl] else msg') = some j → j ≠ i →
      (logDecide t' m' id' msg' (logCall t m id msg st).1).1 = (logDecide t' m' id' msg' st).1 := by
  have hkeys : AL.keys (logCall t m id msg st).1.cache = AL.keys st.cache ∧
      ∀ j, j ≠ i → cacheGet (logCall t m id msg st).1.cache j = cacheGet st.cache j := by
    rcases logCall_cache_cases t m id msg st with h | ⟨rid, hr, h⟩
    · rw [h]; exact ⟨rfl, fun _ _ => rfl⟩
    · rw [hid] at hr
      cases hr
      rw [h]
      have := refresh_cache t hn hne hk
      exact ⟨this.1, this.2.2.2⟩
  refine ⟨hkeys.1, hkeys.2, ?_⟩
  intro t' m' id' msg' j hj hji
  apply logDecide_congr t' m' id' msg' st _ (logCall_conf t m id msg st)
  intro j' hj'
  rw [hj] at hj'
  cases hj'
  exact hkeys.2 j hji

end Logger
