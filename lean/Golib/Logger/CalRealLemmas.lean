/-
  Golib.Logger.CalRealLemmas — what the C19 calendar gives the logger: for every day unit of
  2000-01-01 … 2099-12-31 the file-name date is the proleptic-Gregorian date of that day (eight
  digits) and reading that date back yields the same day unit.
-/
import Golib.Logger.CalReal
import Golib.Logger.RetentionLemmas
import Golib.Cal.YmdProof

namespace Logger
open _root_.Cal (specYmd civil BASE_DAY BASE_TIME NDAYS InCentury)

/-- the civil date `yyyymmdd` of day `u` after 2000-01-01, as eight ASCII digits -/
def dateOfUnit (u : Nat) : Bytes := charsToBytes (specYmd (civil (BASE_DAY + u)))

theorem inCentury_of_unit (u : Nat) (h : u < 36525) : InCentury (BASE_TIME + (u : Int) * 86400000) := by
  unfold InCentury _root_.Cal.END_TIME BASE_TIME
  omega

theorem dayOf_of_unit (u : Nat) : _root_.Cal.dayOf (BASE_TIME + (u : Int) * 86400000) = BASE_DAY + u := by
  unfold _root_.Cal.dayOf BASE_TIME BASE_DAY
  omega

theorem c19_ymd (u : Nat) (h : u < 36525) : Cal.c19.ymd u = dateOfUnit u := by
  simp only [Cal.c19, dateOfUnit]
  rw [_root_.Cal.yyyymmdd_eq _ (inCentury_of_unit u h), dayOf_of_unit]
  rfl

theorem bytesToChars_charsToBytes (cs : List Char) : bytesToChars (charsToBytes cs) = cs := by
  induction cs with
  | nil => rfl
  | cons c r ih =>
    simp only [charsToBytes, bytesToChars, List.map_cons, List.map_map] at ih ⊢
    rw [ih]
    congr 1
    exact Char.ofNat_toNat c

theorem c19_unitOf_date (u : Nat) (h : u < 36525) : Cal.c19.unitOf (dateOfUnit u) = some (u : Int) := by
  simp only [Cal.c19, dateOfUnit]
  rw [bytesToChars_charsToBytes, _root_.Cal.getYmdTime_specYmd u h]
  simp only [Option.map_some, _root_.Cal.getDateUnit, _root_.Cal.MILLIS_PER_DAY]
  congr 1
  have : BASE_TIME + (u : Int) * 86400000 - BASE_TIME = (u : Int) * 86400000 := by omega
  rw [this, Int.tdiv_eq_ediv_of_nonneg (by omega)]
  omega

theorem dig_isDigit (n : Nat) : isDigit (_root_.Cal.dig n).toNat = true := by
  rw [_root_.Cal.dig_toNat, isDigit]
  simp only [Bool.and_eq_true, decide_eq_true_eq]
  omega

theorem dateOfUnit_digits (u : Nat) : (dateOfUnit u).length = 8 ∧ ∀ b ∈ dateOfUnit u, isDigit b = true := by
  refine ⟨rfl, ?_⟩
  intro b hb
  simp only [dateOfUnit, charsToBytes, specYmd, _root_.Cal.render4, _root_.Cal.render2, List.cons_append,
    List.nil_append, List.map_cons, List.map_nil, List.mem_cons, List.not_mem_nil, or_false] at hb
  rcases hb with h | h | h | h | h | h | h | h <;> rw [h] <;> exact dig_isDigit _

theorem isDigit_ne (b : Nat) (h : isDigit b = true) : b ≠ cDash ∧ b ≠ cDot := by
  unfold isDigit at h
  simp only [Bool.and_eq_true, decide_eq_true_eq] at h
  unfold cDash cDot
  omega

theorem fileName_c19 (logID oname : Bytes) (u : Nat) (h : u < 36525) :
    fileName Cal.c19 logID oname true (u : Int) =
      (logID ++ [cDash] ++ oname) ++ cDash :: (dateOfUnit u ++ cDot :: asc "log") := by
  have e : asc ".log" = cDot :: asc "log" := by decide
  simp only [fileName, if_true, c19_ymd u h, e]
  simp

/-- the logger's own dated file of day `u` passes every syntactic test with date part = its date -/
theorem candidate_own (logID oname : Bytes) (u : Nat) (h : u < 36525) :
    candidate logID (fileName Cal.c19 logID oname true (u : Int)) = some (dateOfUnit u) := by
  obtain ⟨hl, hd⟩ := dateOfUnit_digits u
  have hp : (logID ++ [cDash]) <+: fileName Cal.c19 logID oname true (u : Int) := by
    rw [fileName_c19 logID oname u h]
    exact ⟨oname ++ cDash :: (dateOfUnit u ++ cDot :: asc "log"), by simp⟩
  have hdp : datePart (fileName Cal.c19 logID oname true (u : Int)) = some (dateOfUnit u) := by
    rw [fileName_c19 logID oname u h]
    apply datePart_of_shape
    · intro he; rw [he] at hl; cases hl
    · decide
    · intro hm; exact (isDigit_ne _ (hd _ hm)).1 rfl
    · decide
  exact candidate_of hp hdp hl hd

end Logger
