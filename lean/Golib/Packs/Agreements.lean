/-
  Golib.Packs.Agreements — the layout agreements that the library itself needs.

  The zip sender (Golib/ZipSender) builds its record codec and its wire format on the LogSinkPack and
  ZipPack layouts, so it needs `agrees` for these two pairs below the `Props` level.  Each is decided
  here, once; `C03Gen.agree_LogSinkPack` / `C03Gen.agree_ZipPack` and the zip sender's
  `LogSink.logSink_agrees` / `Wire.zip_agrees` refer to it.  A change of `LogSinkPack.Read`/`Write` or
  `ZipPack.Read`/`Write` in lang/pack that breaks the agreement makes the lemma here fail, and with it
  the C03Gen theorem of that pack's name.
-/
import Golib.Layout.Agree
import Golib.Packs.Hand
import Golib.Gen.PackLayouts

namespace Packs
open Layout

theorem agrees_LogSinkPack : agrees Hand.LogSinkPack.w Gen.Packs.LogSinkPack.r = true := by decide +kernel

theorem agrees_ZipPack : agrees Gen.Packs.ZipPack.w Gen.Packs.ZipPack.r = true := by decide +kernel

end Packs
