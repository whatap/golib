/-
  Golib.Packs.Tree — CompositePack to any depth: packs nested inside composite packs.

  `PT` is a pack tree (a leaf is a pack with a layout, a node is a CompositePack with its header
  and inner packs); `writePT` follows `WritePack`/`CompositePack.Write`, `readPT` follows
  `ReadPack`/`CompositePack.Read` (the factory sends the composite type code back into the same
  function; fuel bounds the nesting depth).  `tree_roundtrip`: every tree reads back as itself
  (carried fields of every leaf, headers of every node, same shape and order), leaving exactly what
  followed.
-/
import Golib.Packs.Container

namespace Packs
open Layout _root_.Prim

/-- PACK_COMPOSITE -/
def compositeCode : Int := 5888

inductive PT where
  | leaf (p : PV)
  | comp (h : Hdr) (kids : List PT)

/-- what a decoded tree holds -/
inductive CT where
  | leaf (code : Int) (o : Out)
  | comp (h : Hdr) (kids : List CT)

mutual
def writePT : PT → Bytes
  | .leaf p => writePack p
  | .comp h kids => encI 2 compositeCode ++ (encHeader h ++ (encI 2 (lenPTs kids) ++ writePTs kids))
def writePTs : List PT → Bytes
  | [] => []
  | t :: ts => writePT t ++ writePTs ts
def lenPTs : List PT → Nat
  | [] => 0
  | _ :: ts => lenPTs ts + 1
end

mutual
def carriedPT : PT → CT
  | .leaf p => .leaf p.code (p.w.expect env0 "" p.x)
  | .comp h kids => .comp h (carriedPTs kids)
def carriedPTs : List PT → List CT
  | [] => []
  | t :: ts => carriedPT t :: carriedPTs ts
end

mutual
def depthPT : PT → Nat
  | .leaf _ => 1
  | .comp _ kids => depthPTs kids + 1
def depthPTs : List PT → Nat
  | [] => 0
  | t :: ts => max (depthPT t) (depthPTs ts)
end

mutual
def okPT (vr : ValueRT) (fac : Factory) : PT → Prop
  | .leaf p => p.ok vr fac ∧ p.code ≠ compositeCode
  | .comp h kids => h.WF ∧ lenPTs kids ≤ 32767 ∧ okPTs vr fac kids
def okPTs (vr : ValueRT) (fac : Factory) : List PT → Prop
  | [] => True
  | t :: ts => okPT vr fac t ∧ okPTs vr fac ts
end

mutual
def readPT (fac : Factory) : Nat → Bytes → Option (CT × Bytes)
  | 0, _ => none
  | f+1, bs =>
    match P.run (rdI 2) bs with
    | none => none
    | some (code, r) =>
      if code = compositeCode then
        match P.run decHeader r with
        | none => none
        | some (h, r1) =>
          match P.run (rdI 2) r1 with
          | none => none
          | some (n, r2) =>
            if n < 0 then none
            else (readPTs fac f n.toNat r2).map (fun (ks, r3) => (.comp h ks, r3))
      else
        match fac code with
        | none => none
        | some rl =>
          match rl.read "" env0 r with
          | none => none
          | some (o, _, r') => some (.leaf code o, r')
def readPTs (fac : Factory) : Nat → Nat → Bytes → Option (List CT × Bytes)
  | _, 0, bs => some ([], bs)
  | f, n+1, bs =>
    match readPT fac f bs with
    | none => none
    | some (t, r) => (readPTs fac f n r).map (fun (ts, r') => (t :: ts, r'))
end

mutual
theorem tree_roundtrip (vr : ValueRT) (fac : Factory) (t : PT) (f : Nat) (rest : Bytes)
    (hok : okPT vr fac t) (hf : depthPT t ≤ f) :
    readPT fac f (writePT t ++ rest) = some (carriedPT t, rest) := by
  cases t with
  | leaf p =>
    obtain ⟨⟨hc, hfac, ha, hwf⟩, hne⟩ := hok
    cases f with
    | zero => simp [depthPT] at hf
    | succ f =>
      simp only [readPT, writePT, writePack, List.append_assoc]
      rw [run_rdI 2 p.code _ hc]
      simp only [hne, if_false, hfac]
      obtain ⟨e', hr⟩ := agree_roundtrip vr p.w p.r ha env0 "" p.x rest hwf
      rw [hr]
      rfl
  | comp h kids =>
    obtain ⟨hh, hn, hk⟩ := hok
    cases f with
    | zero => simp [depthPT] at hf
    | succ f =>
      simp only [depthPT] at hf
      simp only [readPT, writePT, List.append_assoc]
      rw [run_rdI 2 compositeCode _ ((inRange_2 _).mpr (by decide))]
      simp only [if_true]
      rw [header_roundtrip h _ hh]
      simp only []
      rw [run_rdI 2 (lenPTs kids : Int) _ ((inRange_2 _).mpr (by omega))]
      have : ¬ ((lenPTs kids : Int) < 0) := by omega
      simp only [this, if_false, Int.toNat_natCast]
      rw [trees_roundtrip vr fac kids f rest hk (by omega)]
      rfl
theorem trees_roundtrip (vr : ValueRT) (fac : Factory) (ts : List PT) (f : Nat) (rest : Bytes)
    (hok : okPTs vr fac ts) (hf : depthPTs ts ≤ f) :
    readPTs fac f (lenPTs ts) (writePTs ts ++ rest) = some (carriedPTs ts, rest) := by
  cases ts with
  | nil => simp [readPTs, lenPTs, writePTs, carriedPTs]
  | cons t ts =>
    obtain ⟨h1, h2⟩ := hok
    simp only [depthPTs] at hf
    simp only [readPTs, lenPTs, writePTs, carriedPTs, List.append_assoc]
    rw [tree_roundtrip vr fac t f _ h1 (by omega)]
    simp only []
    rw [trees_roundtrip vr fac ts f rest h2 (by omega)]
    rfl
end

end Packs
