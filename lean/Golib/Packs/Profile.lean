/-
  Golib.Packs.Profile — ProfilePack: the common header (Golib.Layout.Header, C03) followed by the
  body that property C08 models and proves (`Step.profilePackBody`: the TxRecord behind its version
  byte 10 as a blob, then the step stream as a blob; Golib/Step/Layouts.lean, `Step.L.roundtrip`).
  Nothing of TxRecord is re-modelled here; the two round trips are composed (`C03.profile_roundtrip`).
-/
import Golib.Layout.Header
import Golib.Step.Alt
import Golib.Step.Layouts
import Golib.Step.ValueInst

namespace Packs
open Layout _root_.Prim

def writeProfile (h : Hdr) (x : Step.Rec) : Bytes := encHeader h ++ Step.profilePackBody.write x

def readProfile (bs : Bytes) : Option ((Hdr × Step.Env) × Bytes) :=
  match P.run decHeader bs with
  | none => none
  | some (h, r) => (Step.profilePackBody.read [] r).map (fun (e, r') => ((h, e), r'))

end Packs
