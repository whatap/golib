/-
  Golib.Packs.Event — CodeModel of EventPack's attribute folding (lang/pack/EventPack.go).

  `Write` folds four fields into the attribute table before writing it:
      Uuid (only when non-empty) under "_uuid_", Escalation as "true"/"false" under "_esca_",
      Status and Otype in decimal (`fmt.Sprintf("%d")`) under "_status_" / "_otype_".
  `Read` loads the table and takes the four entries out again (`unfold`).  `unfoldAsFound` is the
  reader as first found (defect D21, fixed in the code since): it tested `err != nil` the wrong way
  round and stored both numbers into `Otype`.

  The table is an association list in insertion order (`StringKeyLinkedMap.Put`: an existing key
  keeps its place).  Decimal text is modelled by explicit digit functions (`itoa`, `atoi`).
-/
import Golib.Basic

namespace Packs.Event

abbrev Attrs := List (Bytes × Bytes)

def kEsca : Bytes := [95, 101, 115, 99, 97, 95]              -- "_esca_"
def kUuid : Bytes := [95, 117, 117, 105, 100, 95]            -- "_uuid_"
def kStatus : Bytes := [95, 115, 116, 97, 116, 117, 115, 95] -- "_status_"
def kOtype : Bytes := [95, 111, 116, 121, 112, 101, 95]      -- "_otype_"
def sTrue : Bytes := [116, 114, 117, 101]
def sFalse : Bytes := [102, 97, 108, 115, 101]

def reserved (k : Bytes) : Bool := k == kEsca || k == kUuid || k == kStatus || k == kOtype

def natDigits (n : Nat) : Bytes :=
  if h : n < 10 then [48 + n] else natDigits (n / 10) ++ [48 + n % 10]
termination_by n
decreasing_by omega

def itoa (v : Int) : Bytes := if v < 0 then 45 :: natDigits (-v).toNat else natDigits v.toNat

def atoiNat (ds : Bytes) : Option Nat :=
  ds.foldl (fun acc d => match acc with
    | none => none
    | some a => if 48 ≤ d ∧ d ≤ 57 then some (a * 10 + (d - 48)) else none) (some 0)

/-- `strconv.Atoi` on what `%d` produces (sign, then digits); `none` = error -/
def atoi (bs : Bytes) : Option Int :=
  match bs with
  | [] => none
  | d :: ds =>
    if d = 45 then (if ds = [] then none else (atoiNat ds).map (fun n => -(n : Int)))
    else (atoiNat (d :: ds)).map (fun n => (n : Int))

theorem atoiNat_append (a : Bytes) (d : Nat) :
    atoiNat (a ++ [d]) = match atoiNat a with
      | none => none
      | some x => if 48 ≤ d ∧ d ≤ 57 then some (x * 10 + (d - 48)) else none := by
  simp [atoiNat, List.foldl_append]

theorem atoiNat_natDigits (n : Nat) : atoiNat (natDigits n) = some n := by
  fun_induction natDigits n with
  | case1 n h =>
    simp [atoiNat]
    omega
  | case2 n h ih =>
    rw [atoiNat_append, ih]
    have : 48 ≤ 48 + n % 10 ∧ 48 + n % 10 ≤ 57 := by omega
    simp only [this, and_self, if_true]
    congr 1
    omega

theorem natDigits_ne_nil (n : Nat) : natDigits n ≠ [] := by
  rw [natDigits]; split <;> simp

theorem natDigits_head (n : Nat) : (natDigits n).head? ≠ some 45 := by
  fun_induction natDigits n with
  | case1 n h => simp; omega
  | case2 n h ih =>
    cases hd : natDigits (n / 10) with
    | nil => exact absurd hd (natDigits_ne_nil _)
    | cons a as => rw [hd] at ih; simpa using ih

theorem atoi_itoa (v : Int) : atoi (itoa v) = some v := by
  fun_cases itoa v with
  | case1 h =>
    have hne := natDigits_ne_nil (-v).toNat
    have hv := Int.toNat_of_nonneg (show 0 ≤ -v by omega)
    simp only [atoi, if_true, hne, if_false, atoiNat_natDigits]
    show Option.map (fun n : Nat => -(n : Int)) (some (-v).toNat) = some v
    simp only [Option.map_some]
    rw [hv]; simp
  | case2 h =>
    have hh := natDigits_head v.toNat
    have hv := Int.toNat_of_nonneg (show 0 ≤ v by omega)
    cases hd : natDigits v.toNat with
    | nil => exact absurd hd (natDigits_ne_nil _)
    | cons a as =>
      rw [hd] at hh
      have ha : a ≠ 45 := by simpa using hh
      simp only [atoi, ha, if_false]
      rw [← hd, atoiNat_natDigits]
      simp [hv]

def put (a : Attrs) (k v : Bytes) : Attrs :=
  if a.any (fun p => p.1 == k) then a.map (fun p => if p.1 == k then (p.1, v) else p) else a ++ [(k, v)]

/-- `Attr.Remove(k)`: the value (nil when absent) and the table without the key -/
def remove (a : Attrs) (k : Bytes) : Option Bytes × Attrs := (a.lookup k, a.filter (fun p => p.1 != k))

structure Ev where
  uuid : Bytes
  esc : Bool
  status : Int
  otype : Int
  attrs : Attrs
deriving DecidableEq, Repr

/-- `EventPack.Write`: the table as it goes on the wire -/
def fold (e : Ev) : Attrs :=
  let a := if e.uuid ≠ [] then put e.attrs kUuid e.uuid else e.attrs
  let a := put a kEsca (if e.esc then sTrue else sFalse)
  let a := put a kStatus (itoa e.status)
  put a kOtype (itoa e.otype)

/-- `EventPack.Read`, on a fresh pack (Uuid "", Escalation false, 0, 0) -/
def unfold (a : Attrs) : Ev :=
  let (ve, a) := remove a kEsca
  let esc := match ve with | some v => v == sTrue | none => false
  let (vu, a) := remove a kUuid
  let uuid := vu.getD []
  let (vo, a) := remove a kOtype
  let otype := match vo with | some v => (atoi v).getD 0 | none => 0
  let (vs, a) := remove a kStatus
  let status := match vs with | some v => (atoi v).getD 0 | none => 0
  ⟨uuid, esc, status, otype, a⟩

/-- `EventPack.Read` as found: `if err != nil { Otype = v } else { Otype = 0 }` for both keys -/
def unfoldAsFound (a : Attrs) : Ev :=
  let (ve, a) := remove a kEsca
  let esc := match ve with | some v => v == sTrue | none => false
  let (vu, a) := remove a kUuid
  let uuid := vu.getD []
  let (vo, a) := remove a kOtype
  let otype := match vo with | some v => (match atoi v with | none => 0 | some _ => 0) | none => 0
  let (vs, a) := remove a kStatus
  -- the status entry is parsed and (on error) stored into Otype; Status itself is never assigned
  let otype := match vs with | some v => (match atoi v with | none => 0 | some _ => 0) | none => otype
  ⟨uuid, esc, 0, otype, a⟩

def noReserved (a : Attrs) : Prop := ∀ p ∈ a, reserved p.1 = false

/-- a reserved key is not found among unreserved attributes: removing it from `a ++ r` acts on `r` alone -/
theorem remove_append (a r : Attrs) (k : Bytes) (hk : reserved k = true) (h : noReserved a) :
    remove (a ++ r) k = ((remove r k).1, a ++ (remove r k).2) := by
  have hne : ∀ p ∈ a, p.1 ≠ k := fun p hp e => by rw [← e, h p hp] at hk; cases hk
  have h1 : a.lookup k = none := List.lookup_eq_none_iff.mpr fun p hp => bne_iff_ne.mpr (hne p hp).symm
  have h2 : a.filter (fun p => p.1 != k) = a := List.filter_eq_self.mpr fun p hp => bne_iff_ne.mpr (hne p hp)
  simp only [remove, List.lookup_append, List.filter_append, h1, h2, Option.none_or]

/-- `Read` passes the user attributes through and takes its four fields from what follows them -/
theorem unfold_append (a r : Attrs) (h : noReserved a) :
    unfold (a ++ r) = { unfold r with attrs := a ++ (unfold r).attrs } := by
  simp only [unfold, remove_append a _ _ (by decide : reserved kEsca = true) h,
    remove_append a _ _ (by decide : reserved kUuid = true) h,
    remove_append a _ _ (by decide : reserved kOtype = true) h,
    remove_append a _ _ (by decide : reserved kStatus = true) h]

/-- `Read` on the four reserved entries alone, whatever their values (the keys are closed terms) -/
theorem unfold_tail (vu : Option Bytes) (be bs bo : Bytes) :
    unfold ((vu.map (kUuid, ·)).toList ++ [(kEsca, be), (kStatus, bs), (kOtype, bo)])
      = ⟨vu.getD [], be == sTrue, (atoi bs).getD 0, (atoi bo).getD 0, []⟩ := by
  cases vu <;> rfl

theorem put_append_fresh (a r : Attrs) (k v : Bytes) (hk : reserved k = true) (h : noReserved a)
    (hr : r.any (fun p => p.1 == k) = false) : put (a ++ r) k v = a ++ (r ++ [(k, v)]) := by
  have ha : a.any (fun p => p.1 == k) = false :=
    List.any_eq_false.mpr fun p hp e => by rw [← eq_of_beq e, h p hp] at hk; cases hk
  simp only [put, List.any_append, ha, hr, Bool.or_false, Bool.false_eq_true, if_false, List.append_assoc]

/-- `Write` appends its entries behind a table without reserved keys -/
theorem fold_eq (e : Ev) (h : noReserved e.attrs) :
    fold e = e.attrs ++ (((if e.uuid = [] then none else some e.uuid).map (kUuid, ·)).toList ++
      [(kEsca, if e.esc then sTrue else sFalse), (kStatus, itoa e.status), (kOtype, itoa e.otype)]) := by
  have e0 : fold e = fold { e with attrs := e.attrs ++ [] } := by rw [List.append_nil]
  rw [e0, fold]
  by_cases hu : e.uuid = [] <;> simp only [hu, ne_eq, not_true_eq_false, not_false_eq_true, if_true, if_false]
  · rw [put_append_fresh _ _ kEsca _ (by decide) h rfl, put_append_fresh _ _ kStatus _ (by decide) h rfl,
      put_append_fresh _ _ kOtype _ (by decide) h rfl]
    rfl
  · rw [put_append_fresh _ _ kUuid _ (by decide) h rfl, put_append_fresh _ _ kEsca _ (by decide) h rfl,
      put_append_fresh _ _ kStatus _ (by decide) h rfl, put_append_fresh _ _ kOtype _ (by decide) h rfl]
    rfl

theorem beq_kEsca_kEsca : (kEsca == kEsca) = true := by decide
theorem bne_kEsca_kEsca : (kEsca != kEsca) = false := by decide
theorem bne_kEsca_kUuid : (kEsca != kUuid) = true := by decide
theorem beq_kEsca_kStatus : (kEsca == kStatus) = false := by decide
theorem bne_kEsca_kStatus : (kEsca != kStatus) = true := by decide
theorem beq_kEsca_kOtype : (kEsca == kOtype) = false := by decide
theorem bne_kEsca_kOtype : (kEsca != kOtype) = true := by decide
theorem beq_kUuid_kEsca : (kUuid == kEsca) = false := by decide
theorem beq_kUuid_kUuid : (kUuid == kUuid) = true := by decide
theorem bne_kUuid_kUuid : (kUuid != kUuid) = false := by decide
theorem bne_kUuid_kStatus : (kUuid != kStatus) = true := by decide
theorem bne_kUuid_kOtype : (kUuid != kOtype) = true := by decide
theorem beq_kStatus_kEsca : (kStatus == kEsca) = false := by decide
theorem beq_kStatus_kUuid : (kStatus == kUuid) = false := by decide
theorem beq_kStatus_kStatus : (kStatus == kStatus) = true := by decide
theorem bne_kStatus_kStatus : (kStatus != kStatus) = false := by decide
theorem beq_kStatus_kOtype : (kStatus == kOtype) = false := by decide
theorem beq_kOtype_kEsca : (kOtype == kEsca) = false := by decide
theorem beq_kOtype_kUuid : (kOtype == kUuid) = false := by decide
theorem bne_kOtype_kStatus : (kOtype != kStatus) = true := by decide
theorem beq_kOtype_kOtype : (kOtype == kOtype) = true := by decide
theorem bne_kOtype_kOtype : (kOtype != kOtype) = false := by decide

end Packs.Event
