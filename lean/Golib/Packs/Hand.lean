/-
  Golib.Packs.Hand — hand-written layouts (in the IR of Golib.Layout.IR) for the packs whose
  `Write` body is irregular, and three layout transformations used by the generated obligations.

  * `L.forget n`   the reader stores what it reads at field `n`, but the writer put a constant
                   there: the field is not carried; the reader is compared as if it discarded it.
  * `L.subst n v`  the writer layout at a fixed value `v` of its parameter `n` (the record version).
  * `L.pin n k`    the writer layout for records whose field `n` has the value `k`: `fld n` becomes `kfld n k`.

  Hand-written writer layouts (the reader side of each is transcribed by xlate/c03 and must agree
  with them — Props/C03Gen.lean; the writer side is tied to the Go code by the correspondence
  harness, bytes for bytes, and by the statement skeleton):

  * TagCountPack / TagLogPack / LogSinkPack: `Write` emits the tag hash and then the tag map; when
    the stored hash is 0 and there are tags it first computes `hash64(encoded tags)`, stores it and
    emits the pre-encoded bytes.  Both branches put the same two items on the wire:
    `decimal(hash') ++ value(tags)`, where `hash'` is the carried hash.  The record field
    `tagHash`/`TagHash` denotes the carried hash.
  * ParamPack, ExtensionPack: a count and a loop over a linked table through helper functions.
-/
import Golib.Layout.IR
import Golib.Gen.PackLayouts

namespace Layout

def L.forget (n : String) : L → L
  | .nil => .nil
  | .fld m p g rest => if m = n then .skip p (rest.forget n) else .fld m p g (rest.forget n)
  | .lit p v rest => .lit p v (rest.forget n)
  | .skip p rest => .skip p (rest.forget n)
  | .var m p rest => .var m p (rest.forget n)
  | .ite c t e rest => .ite c (t.forget n) (e.forget n) (rest.forget n)
  | .guard c rest => .guard c (rest.forget n)
  | .opt m b rest => .opt m (b.forget n) (rest.forget n)
  | .rep c m b rest => .rep c m (b.forget n) (rest.forget n)
  | .wrap b rest => .wrap (b.forget n) (rest.forget n)
  | .hdr rest => .hdr (rest.forget n)
  | .times k m b rest => .times k m (b.forget n) (rest.forget n)
  | .sub m b rest => .sub m (b.forget n) (rest.forget n)
  | .kfld m p k rest => .kfld m p k (rest.forget n)
  | .key m p v rest => .key m p v (rest.forget n)
  | .mopt k m b rest => .mopt k m (b.forget n) (rest.forget n)
  | .vopt v m b rest => .vopt v m (b.forget n) (rest.forget n)
  | .mrep k m b rest => .mrep k m (b.forget n) (rest.forget n)
  | .vrep v m b rest => .vrep v m (b.forget n) (rest.forget n)
  | .srep c b rest => .srep c (b.forget n) (rest.forget n)
  | .avail b => .avail (b.forget n)
  | .unknown w => .unknown w

def L.subst (n : String) (v : Int) : L → L
  | .nil => .nil
  | .fld m p g rest => .fld m p g (rest.subst n v)
  | .lit p u rest => .lit p u (rest.subst n v)
  | .skip p rest => .skip p (rest.subst n v)
  | .var m p rest => if m = n then .lit p v (rest.subst n v) else .var m p (rest.subst n v)
  | .ite c t e rest =>
      if c.var = n then (if c.test v then t.subst n v else e.subst n v).append (rest.subst n v)
      else .ite c (t.subst n v) (e.subst n v) (rest.subst n v)
  | .guard c rest => .guard c (rest.subst n v)
  | .opt m b rest => .opt m (b.subst n v) (rest.subst n v)
  | .rep c m b rest => .rep c m (b.subst n v) (rest.subst n v)
  | .wrap b rest => .wrap (b.subst n v) (rest.subst n v)
  | .hdr rest => .hdr (rest.subst n v)
  | .times k m b rest => .times k m (b.subst n v) (rest.subst n v)
  | .sub m b rest => .sub m (b.subst n v) (rest.subst n v)
  | .kfld m p k rest => .kfld m p k (rest.subst n v)
  | .key m p u rest => .key m p u (rest.subst n v)
  | .mopt k m b rest => .mopt k m (b.subst n v) (rest.subst n v)
  | .vopt u m b rest => .vopt u m (b.subst n v) (rest.subst n v)
  | .mrep k m b rest => .mrep k m (b.subst n v) (rest.subst n v)
  | .vrep u m b rest => .vrep u m (b.subst n v) (rest.subst n v)
  | .srep c b rest => .srep c (b.subst n v) (rest.subst n v)
  | .avail b => .avail (b.subst n v)
  | .unknown w => .unknown w

/-- the writer layout for records whose field `n` has the value `k` (the reader dispatches on it) -/
def L.pin (n : String) (k : Int) : L → L
  | .nil => .nil
  | .fld m p g rest => if m = n then .kfld m p k (rest.pin n k) else .fld m p g (rest.pin n k)
  | .lit p u rest => .lit p u (rest.pin n k)
  | .skip p rest => .skip p (rest.pin n k)
  | .var m p rest => .var m p (rest.pin n k)
  | .ite c t e rest => .ite c (t.pin n k) (e.pin n k) (rest.pin n k)
  | .guard c rest => .guard c (rest.pin n k)
  | .opt m b rest => .opt m b (rest.pin n k)
  | .rep c m b rest => .rep c m b (rest.pin n k)
  | .wrap b rest => .wrap (b.pin n k) (rest.pin n k)
  | .hdr rest => .hdr (rest.pin n k)
  | .times j m b rest => .times j m b (rest.pin n k)
  | .sub m b rest => .sub m b (rest.pin n k)
  | .kfld m p j rest => .kfld m p j (rest.pin n k)
  | .key m p v rest => .key m p v (rest.pin n k)
  | .mopt j m b rest => .mopt j m b (rest.pin n k)
  | .vopt v m b rest => .vopt v m b (rest.pin n k)
  | .mrep j m b rest => .mrep j m b (rest.pin n k)
  | .vrep v m b rest => .vrep v m b (rest.pin n k)
  | .srep c b rest => .srep c b (rest.pin n k)
  | .avail b => .avail (b.pin n k)
  | .unknown w => .unknown w

end Layout

namespace Packs.Hand
open Layout

/-- the tag section: `decimal(hash') value(tags)` on both branches of the writer's `if` (the gap `g0`) -/
def tagSection (hash : String) (r : L) : L := .fld hash .dec .i64 (.fld "Tags" .mapV .any r)

/-- the transcription of `Write`, its one untranscribed statement (the hash-then-map `if`) filled in -/
def TagCountPack.w : L := Gen.Packs.TagCountPack.w (tagSection "tagHash")
def TagLogPack.w : L := Gen.Packs.TagLogPack.w (tagSection "tagHash")
/-- `Fields` travels behind a presence flag that is set only when the map is non-nil and non-empty -/
def LogSinkPack.w : L := Gen.Packs.LogSinkPack.w (tagSection "TagHash")

/-- the parameter table: decimal count, then text key and tagged value per entry (a loop over `Keys()` / `Put`) -/
def paramTable (r : L) : L := .rep .dec "table" (.fld "key" .blob .any (.fld "val" .value .any .nil)) r
def ParamPack.w : L := Gen.Packs.ParamPack.w paramTable
def ParamPack.r : L := Gen.Packs.ParamPack.r paramTable
def ParamPack.l : L := ParamPack.w

/-- `toHeaderBytes` / `toHeaderObject`: decimal count, then text key and int per entry -/
def headerTable (r : L) : L := .rep .dec "Header" (.fld "key" .blob .any (.fld "val" .i32 .i32 .nil)) r
def ExtensionPack.w : L := Gen.Packs.ExtensionPack.w headerTable
def ExtensionPack.r : L := Gen.Packs.ExtensionPack.r headerTable

/-- EventPack on the wire: the attribute table as written, i.e. *after* `Write` has folded
    uuid / escalation / status / otype into it (Golib.Packs.Event models the folding) -/
def attrTable (r : L) : L := .rep .u8 "Attr" (.fld "key" .blob .any (.fld "val" .blob .any .nil)) r
/-- writer: the folding statements and the table loop are the gap; reader: the table loop is transcribed,
    the gap is the unfolding (no I/O: identity on the wire) -/
def EventPack.w : L := Gen.Packs.EventPack.w attrTable
def EventPack.r : L := Gen.Packs.EventPack.r (fun r => r)
def EventPack.l : L := EventPack.w

/-! ### LogSinkPack's content codec (`GetContentBytes` / `SetContentBytes`): a write/read pair of its own -/

/-- `GetContentBytes`: version byte 1, the content text, the line number -/
def LogSinkContent.w : L := .lit .u8 1 (.fld "Content" .blob .any (.fld "Line" .dec .i64 .nil))
/-- `SetContentBytes`: assigns Content and Line when the version byte is 1 (any other version: nothing) -/
def LogSinkContent.r : L :=
  .var "ver" .u8 (.ite ⟨.eq, "ver", 1⟩ (.fld "Content" .blob .any (.fld "Line" .dec .i64 .nil)) .nil .nil)

end Packs.Hand
