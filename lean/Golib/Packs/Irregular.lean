/-
  Golib.Packs.Irregular — layouts (in the IR of Golib.Layout.IR) of the packs whose bodies the
  translator does not transcribe: both the writer and the reader are written here, following the Go
  functions statement by statement, and `agrees` is decided for each pair (Props/C03Gen.lean).
  They are tied to the Go code by the correspondence harness (model bytes = Go bytes, model decode
  = Go decode, `harness/c03/driver.go`) and by the statement skeletons (Packs/Skeletons.lean).

  (SMBasePack is transcribed by the translator: the writer takes the
   layouts of Cpu / Memory as parameters, the reader binds OS and dispatches — Gen.Packs.SMBasePack.)
  * StatGeneralPack   the cached table bytes travel as a 3-byte-length byte string; the table inside
                 (`writeTable`/`readTable`) is `StatGeneralTable.l`.
  * CounterPack1 every section, the four 9-marked meters, the deprecated okind meter, the unknown
                 caller section and the POid meter (with C05's writer fix), reader as repaired.
-/
import Golib.Layout.IR
import Golib.Gen.PackLayouts

namespace Packs.Irregular
open Layout

/-! ### StatGeneralPack -/

/-- PACK_STAT_GENERAL -/
def StatGeneralPack.l : L := .hdr (.fld "Id" .blob .any (.fld "dataBytes" .b24 .any .nil))
/-- PACK_STAT_GENERAL_1: a trailer blob with the data start time -/
def StatGeneralPack1.l : L :=
  .hdr (.fld "Id" .blob .any (.fld "dataBytes" .b24 .any (.wrap (.fld "DataStartTime" .dec .i64 .nil) .nil)))
/-- `writeTable` / `readTable`: what `dataBytes` holds -/
def StatGeneralTable.l : L :=
  .rep .i16 "data" (.fld "key" .blob .any (.fld "val" .anylist .any .nil)) .nil

/-! ### CounterPack1

  `Gen.Packs.CounterPack1.w` / `.r` are the transcriptions of `Write` / `Read`: every scalar field and the
  Netstat / Websocket / Extra sections come from the source; the statements the translator does not
  transcribe (helper calls, the DB-pool maps, the short arrays) are parameters (`g0 … : L → L`) whose
  texts are `CounterPack1.wGaps` / `.rGaps` (pinned in Packs/Skeletons.lean).  The sections below fill them. -/

def d32 (n : String) (rest : L) : L := .fld n .dec .i32 rest
def d64 (n : String) (rest : L) : L := .fld n .dec .i64 rest

def intIntMap (n : String) (rest : L) : L := .rep .dec n (d32 "key" (d32 "val" .nil)) rest

/-- time, count, error, active count of a meter: as written, and as read (`if ver >= 9 { Actx }`) -/
def meterW (rest : L) : L := d64 "Time" (d32 "Count" (d32 "Error" (d32 "Actx" rest)))
def meterR (rest : L) : L :=
  d64 "Time" (d32 "Count" (d32 "Error" (.ite ⟨.ge, "ver", 9⟩ (d32 "Actx" .nil) .nil rest)))

def poidEntry : L :=
  d64 "PCode" (d32 "Oid" (d64 "Time" (d32 "Count" (d32 "Error" (.fld "Acts" .a8I16 .any (d32 "Actx" .nil))))))

/-- `writeShortArray(dout, this.ActSvcSlice)` / `this.ActSvcSlice = this.readShortArray(din)` -/
def secActSvc (r : L) : L := .fld "ActSvcSlice" .a8I16 .any r
/-- the DB-pool maps: one presence byte, then `IntIntMap.ToBytes` twice / `ToObject` twice -/
def secDbNum (r : L) : L := .opt "DbNum" (intIntMap "DbNumActive" (intIntMap "DbNumIdle" .nil)) r
/-- `WriteByte(byte(sz))` + shorts / `sz := ReadByte()` + `append(ReadShort())` -/
def secActiveStat (r : L) : L := .fld "ActiveStat" .a8I16 .any r

/-- writeTxcallerOidMeter, writeSqlMeter, writeHttpcMeter, writeTxcallerGroupMeter -/
def secMetersW (r : L) : L :=
  .mrep 9 "TxcallerOidMeter" (.fld "key" .i32 .i32 (meterW .nil))
  (.mrep 9 "SqlMeter" (.fld "key" .i32 .i32 (meterW (d64 "FetchCount" (d64 "FetchTime" .nil))))
  (.mrep 9 "HttpcMeter" (.fld "key" .i32 .i32 (meterW .nil))
  (.mrep 9 "TxcallerGroupMeter" (d64 "PCode" (d32 "OKind" (meterW .nil))) r)))
/-- writeTxcallerOther -/
def secUnknownW (r : L) : L := .mopt 2 "TxcallerUnknown" (.sub "TxcallerUnknown" (meterW .nil) .nil) r
/-- writeTxcallerPOidMeter (with C05's fix: `writeShortArray(dout, m.Acts)`) -/
def secPOidW (r : L) : L := .rep .dec "TxcallerPOidMeter" poidEntry r

/-- readTxcallerOidMeter, readSqlMeter, readHttpcMeter, readTxcallerGroupMeter,
    readTxcallerOkindMeterDeprecated, readTxcallerUnknown -/
def secMetersR (r : L) : L :=
  .vrep "ver" "TxcallerOidMeter" (.fld "key" .i32 .i32 (meterR .nil))
  (.vrep "ver" "SqlMeter" (.fld "key" .i32 .i32 (meterR (d64 "FetchCount" (d64 "FetchTime" .nil))))
  (.vrep "ver" "HttpcMeter" (.fld "key" .i32 .i32 (meterR .nil))
  (.vrep "ver" "TxcallerGroupMeter"
    (d64 "PCode" (.ite ⟨.le, "ver", 8⟩ (d64 "Time" (d32 "Count" (d32 "Error" .nil)))
      (d32 "OKind" (d64 "Time" (d32 "Count" (d32 "Error" (d32 "Actx" .nil))))) .nil))
  (.srep .dec (.skip .i32 (.skip .dec (.skip .dec (.skip .dec .nil))))
  (.vopt "ver" "TxcallerUnknown"
    (.sub "TxcallerUnknown" (d64 "Time" (d32 "Count" (d32 "Error" (.ite ⟨.ge, "ver", 2⟩ (d32 "Actx" .nil) .nil .nil)))) .nil) r)))))
def secPOidR (r : L) : L := .vrep "ver" "TxcallerPOidMeter" poidEntry r

def CounterPack1.w : L :=
  Gen.Packs.CounterPack1.w secActSvc secDbNum secActiveStat secMetersW secUnknownW secPOidW

def CounterPack1.r : L :=
  Gen.Packs.CounterPack1.r secActSvc secDbNum secActiveStat secMetersR secPOidR

end Packs.Irregular
