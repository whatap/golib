/-
  Golib.Packs.Caps — bounded tables inside packs (util/hmap IntIntLinkedMap with `SetMax`).

  `StatRemoteIpPack.IpTable` (limit 10000) and `StatUserAgentPack.UserAgents` (limit 500) are created
  by their constructors with a maximum size.  `Read` puts the rows of the wire table into that table
  one after the other (`Put` = PUT_LAST); when the table is full a new key first evicts the OLDEST
  entry.  So what a decoded pack carries of a wire table with distinct keys is its last `max` rows, in
  order (`capRows`); a wire table of at most `max` rows is carried whole.

  `expectedCaps` records the limits as the code has them; `Gen.Packs.caps` is regenerated from the
  constructors on every run and must equal it (Props/C03Gen.lean, `caps_as_recorded`).
-/

namespace Packs

/-- the limits as of today: (type, field, SetMax) -/
def expectedCaps : List (String × String × Int) :=
  [("StatRemoteIpPack", "IpTable", 10000), ("StatUserAgentPack", "UserAgents", 500)]

/-- what a table bounded by `max` keeps of `rows` put one after the other: the last `max` -/
def capRows (max : Nat) (rows : List α) : List α := rows.drop (rows.length - max)

/-- one `Put` of a key not yet in the table: evict from the front while full, then append -/
def capPut (max : Nat) (acc : List α) (x : α) : List α := capRows (max - 1) acc ++ [x]

theorem capRows_suffix (max : Nat) (rows : List α) : ∃ dropped, rows = dropped ++ capRows max rows :=
  ⟨rows.take (rows.length - max), by simp [capRows]⟩

theorem capRows_snoc (max : Nat) (h : 1 ≤ max) (rows : List α) (x : α) :
    capRows max (rows ++ [x]) = capRows (max - 1) rows ++ [x] := by
  simp only [capRows, List.length_append, List.length_cons, List.length_nil]
  have e : rows.length + (0 + 1) - max = rows.length - (max - 1) := by omega
  rw [e, List.drop_append_of_le_length (by omega)]

theorem capRows_capRows (a b : Nat) (h : a ≤ b) (rows : List α) : capRows a (capRows b rows) = capRows a rows := by
  simp only [capRows, List.length_drop, List.drop_drop]
  congr 1
  omega

/-- one `Put` of a new row into the table that has seen `pre` -/
theorem capPut_capRows (max : Nat) (h : 1 ≤ max) (pre : List α) (x : α) :
    capPut max (capRows max pre) x = capRows max (pre ++ [x]) := by
  rw [capRows_snoc max h, capPut, capRows_capRows (max - 1) max (by omega)]

/-- a fold each step of which takes the last `max` of the rows seen to the last `max` of the rows seen
    plus one computes the last `max` rows; `ok` is what the step may assume of the whole input -/
theorem foldl_capRows {max : Nat} {f : List α → α → List α} {ok : List α → Prop}
    (hf : ∀ pre r rs, ok (pre ++ r :: rs) → f (capRows max pre) r = capRows max (pre ++ [r])) :
    ∀ (rs pre : List α), ok (pre ++ rs) → rs.foldl f (capRows max pre) = capRows max (pre ++ rs)
  | [], pre, _ => by simp
  | r :: rs, pre, h => by
    rw [List.foldl_cons, hf pre r rs h, foldl_capRows hf rs (pre ++ [r]) (by simpa using h)]
    simp

/-- **putting the rows one after the other into a table bounded by `max` leaves the last `max` rows** -/
theorem foldl_capPut (max : Nat) (h : 1 ≤ max) (rows : List α) :
    rows.foldl (capPut max) [] = capRows max rows := by
  simpa [capRows] using
    foldl_capRows (ok := fun _ => True) (fun pre r _ _ => capPut_capRows max h pre r) rows [] trivial

/-! ### the keyed `Put` (util/hmap `LinkedMap.put`, mode PUT_LAST, `max > 0`) -/

/-- `Put key value`: a key already in the table has its value replaced IN PLACE (no eviction, position
    kept); a new key first evicts from the front while `count >= max`, then is appended -/
def putK [BEq κ] (max : Nat) (acc : List (κ × β)) (kv : κ × β) : List (κ × β) :=
  if acc.any (fun e => e.1 == kv.1) then acc.map (fun e => if e.1 == kv.1 then (e.1, kv.2) else e)
  else capPut max acc kv

/-- a row whose key is already in the table changes that entry's value and nothing else: no row is
    evicted, the size stays -/
theorem putK_present_length [BEq κ] (max : Nat) (acc : List (κ × β)) (kv : κ × β)
    (h : acc.any (fun e => e.1 == kv.1) = true) : (putK max acc kv).length = acc.length := by
  simp [putK, h]

example : [(1, 10), (2, 20), (3, 30), (4, 40)].foldl (putK 3) [] = [(2, 20), (3, 30), (4, 40)] := by decide
example : [(1, 10), (2, 20), (1, 11), (3, 30)].foldl (putK 3) [] = [(1, 11), (2, 20), (3, 30)] := by decide

end Packs
