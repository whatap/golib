/-
  Golib.Packs.Counter — the sections of CounterPack1 (lang/pack/CounterPack1.go) where the writer
  and the reader differed as first found (defect D27, fixed in the code since), hand-transcribed into
  the IR as found and as fixed.  The pack as it is, whole: `Packs.Irregular.CounterPack1`.

  * POid meter entry: `writeTxcallerPOidMeter` wrote pcode, oid, time, count, error, actx;
    `readTxcallerPOidMeter` reads pcode, oid, time, count, error, **a short array `Acts`**, actx.
  * DB pool / netstat / websocket: written behind a presence byte, **read and discarded**.
  * Extra: written with `value.WriteValue` (type tag + body), read with `IntMapValue.Read` (body only).
-/
import Golib.Layout.IR

namespace Packs.Counter
open Layout

def poidEntry.w : L :=
  .fld "PCode" .dec .i64 (.fld "Oid" .dec .i32 (.fld "Time" .dec .i64 (.fld "Count" .dec .i32
    (.fld "Error" .dec .i32 (.fld "Actx" .dec .i32 .nil)))))

def poidEntry.r : L :=
  .fld "PCode" .dec .i64 (.fld "Oid" .dec .i32 (.fld "Time" .dec .i64 (.fld "Count" .dec .i32
    (.fld "Error" .dec .i32 (.rep .u8 "Acts" (.fld "v" .i16 .i16 .nil) (.fld "Actx" .dec .i32 .nil))))))

/-- the writer with the fix proposed by the C05 owner (`writeShortArray(dout, m.Acts)` before Actx) -/
def poidEntry.wFixed : L :=
  .fld "PCode" .dec .i64 (.fld "Oid" .dec .i32 (.fld "Time" .dec .i64 (.fld "Count" .dec .i32
    (.fld "Error" .dec .i32 (.rep .u8 "Acts" (.fld "v" .i16 .i16 .nil) (.fld "Actx" .dec .i32 .nil))))))

def netstat.w : L :=
  .opt "Netstat" (.fld "Netstat.Est" .dec .i32 (.fld "Netstat.FinW" .dec .i32
    (.fld "Netstat.CloW" .dec .i32 (.fld "Netstat.TimW" .dec .i32 .nil)))) .nil

/-- the reader as found: four decimals read and dropped -/
def netstat.r : L :=
  .opt "Netstat" (.skip .dec (.skip .dec (.skip .dec (.skip .dec .nil)))) .nil

/-- the reader with the proposed fix (fields restored) -/
def netstat.rFixed : L := netstat.w

/-- DB pool: two int→int maps behind one presence byte -/
def dbnum.w : L :=
  .opt "DbNum" (.rep .dec "DbNumActive" (.fld "key" .dec .i32 (.fld "val" .dec .i32 .nil))
    (.rep .dec "DbNumIdle" (.fld "key" .dec .i32 (.fld "val" .dec .i32 .nil)) .nil)) .nil

/-- the reader as found (`ReadDropMap`): ONE map is read and dropped — the second map is left in
    the stream, so everything after it is misread -/
def dbnum.r : L :=
  .opt "DbNum" (.rep .dec "DbNumActive" (.skip .dec (.skip .dec .nil)) .nil) .nil

def dbnum.rFixed : L := dbnum.w

def extra.w : L := .opt "Extra" (.fld "Extra" .value .any .nil) .nil
def extra.r : L := .opt "Extra" (.fld "Extra" .imapBody .any .nil) .nil

end Packs.Counter
