/-
  Golib.Packs.Container — CodeModel of the type-tagged pack codec and of the container packs.

    writePack / readPack        lang/pack/Pack.go  WritePack, ReadPack (type tag, factory, body)
    writePacks / readPacks      ZipPack.SetRecords / GetRecords, LogSinkZipPack.GetRecords,
                                CompositePack.Write / Read  (inner packs one after the other)
    stamp                       GetRecords stamps every inner pack with the container's
                                Pcode / Oid / Okind / Onode (its Time is the inner pack's own)
    doZip / doUnZip             LogSinkZipPack: status byte + threshold; gzip is abstract
                                (`Gzip`: unzip ∘ zip = id is the stated assumption)
    recordsW                    record lists: a 16-bit count then the records (Stat*Pack.SetRecords*)
-/
import Golib.Layout.Agree

namespace Packs
open Layout _root_.Prim

def env0 : Env := fun _ => 0

/-- a pack of the model: its type code, the layouts of its type, its record -/
structure PV where
  code : Int
  w : L
  r : L
  x : Rec

/-- the factory `CreatePack`: type code ↦ the reader of the type constructed (none: returns nil) -/
abbrev Factory := Int → Option L

theorem all_imp {l : List α} {p q : α → Bool} (h : l.all p = true) (hpq : ∀ a, p a = true → q a = true) :
    l.all q = true :=
  List.all_eq_true.mpr fun a ha => hpq a (List.all_eq_true.mp h a ha)

def writePack (p : PV) : Bytes := encI 2 p.code ++ p.w.write env0 "" p.x

def readPack (fac : Factory) (bs : Bytes) : Option ((Int × Out) × Bytes) :=
  match P.run (rdI 2) bs with
  | none => none
  | some (code, r) =>
    match fac code with
    | none => none
    | some rl =>
      match rl.read "" env0 r with
      | none => none
      | some (o, _, r') => some ((code, o), r')

def PV.carried (p : PV) : Int × Out := (p.code, p.w.expect env0 "" p.x)

def PV.ok (vr : ValueRT) (fac : Factory) (p : PV) : Prop :=
  inRange 2 p.code ∧ fac p.code = some p.r ∧ agrees p.w p.r = true ∧ p.w.WF vr env0 "" p.x

theorem readPack_writePack (vr : ValueRT) (fac : Factory) (p : PV) (rest : Bytes) (h : p.ok vr fac) :
    readPack fac (writePack p ++ rest) = some (p.carried, rest) := by
  obtain ⟨hc, hf, ha, hwf⟩ := h
  unfold readPack writePack
  rw [List.append_assoc, run_rdI 2 p.code _ hc]
  simp only [hf]
  obtain ⟨e', hr⟩ := agree_roundtrip vr p.w p.r ha env0 "" p.x rest hwf
  rw [hr]
  rfl

def writePacks : List PV → Bytes
  | [] => []
  | p :: ps => writePack p ++ writePacks ps

def readPacks (fac : Factory) : Nat → Bytes → Option (List (Int × Out) × Bytes)
  | 0, bs => some ([], bs)
  | n+1, bs =>
    match readPack fac bs with
    | none => none
    | some (a, r) =>
      match readPacks fac n r with
      | none => none
      | some (as, r') => some (a :: as, r')

theorem readPacks_writePacks (vr : ValueRT) (fac : Factory) (ps : List PV) (rest : Bytes)
    (h : ∀ p ∈ ps, p.ok vr fac) :
    readPacks fac ps.length (writePacks ps ++ rest) = some (ps.map PV.carried, rest) := by
  induction ps with
  | nil => rfl
  | cons p ps ih =>
    simp only [List.length_cons, readPacks, writePacks, List.append_assoc, List.map_cons]
    rw [readPack_writePack vr fac p _ (h p (by simp))]
    simp only []
    rw [ih (fun q hq => h q (by simp [hq]))]

def stampField (h : Hdr) (kv : String × Val) : String × Val :=
  if kv.1 = "Pcode" then (kv.1, .int h.pcode)
  else if kv.1 = "Oid" then (kv.1, .int h.oid)
  else if kv.1 = "Okind" then (kv.1, .int h.okind)
  else if kv.1 = "Onode" then (kv.1, .int h.onode)
  else kv

def stamp (h : Hdr) (p : Int × Out) : Int × Out := (p.1, p.2.map (stampField h))

/-- ZipPack: `SetRecords(items)` then `GetRecords()` of a container with header `h` -/
structure Zip where
  hdr : Hdr
  records : Bytes
  count : Nat

def Zip.setRecords (z : Zip) (ps : List PV) : Zip := { z with records := writePacks ps, count := ps.length }

def Zip.getRecords (fac : Factory) (z : Zip) : Option (List (Int × Out)) :=
  (readPacks fac z.count z.records).map (fun (xs, _) => xs.map (stamp z.hdr))

theorem zip_records (vr : ValueRT) (fac : Factory) (z : Zip) (ps : List PV) (h : ∀ p ∈ ps, p.ok vr fac) :
    (z.setRecords ps).getRecords fac = some (ps.map (fun p => stamp z.hdr p.carried)) := by
  unfold Zip.getRecords Zip.setRecords
  have := readPacks_writePacks vr fac ps [] h
  rw [List.append_nil] at this
  simp [this]

/-! ### LogSinkZipPack: optional compression -/

/-- gzip, abstract: the only thing assumed of it -/
structure Gzip where
  zip : Bytes → Bytes
  unzip : Bytes → Bytes
  inv : ∀ b, unzip (zip b) = b

/-- `doZip`: (status, records) after `SetRecords(records, zipMinSize)` -/
def doZip (g : Gzip) (status : Nat) (records : Bytes) (zipMinSize : Nat) : Nat × Bytes :=
  if status ≠ 0 then (status, records)
  else if records.length < zipMinSize then (status, records)
  else (1, g.zip records)

def doUnZip (g : Gzip) (status : Nat) (records : Bytes) : Bytes :=
  if status ≠ 1 then records else g.unzip records

theorem unzip_zip (g : Gzip) (records : Bytes) (zipMinSize : Nat) :
    doUnZip g (doZip g 0 records zipMinSize).1 (doZip g 0 records zipMinSize).2 = records := by
  unfold doZip doUnZip
  by_cases h : records.length < zipMinSize
  · simp [h]
  · simp [h, g.inv]

/-! ### CompositePack (one level): header, 16-bit count, the inner packs -/

def writeComposite (h : Hdr) (ps : List PV) : Bytes :=
  encHeader h ++ (encI 2 ps.length ++ writePacks ps)

def readComposite (fac : Factory) (bs : Bytes) : Option ((Hdr × List (Int × Out)) × Bytes) :=
  match P.run decHeader bs with
  | none => none
  | some (h, r) =>
    match P.run (rdI 2) r with
    | none => none
    | some (n, r') =>
      if n < 0 then none            -- make([]Pack, negative) panics
      else (readPacks fac n.toNat r').map (fun (xs, r'') => ((h, xs), r''))

theorem composite_roundtrip (vr : ValueRT) (fac : Factory) (h : Hdr) (ps : List PV) (rest : Bytes)
    (hh : h.WF) (hn : ps.length ≤ 32767) (hp : ∀ p ∈ ps, p.ok vr fac) :
    readComposite fac (writeComposite h ps ++ rest) = some ((h, ps.map PV.carried), rest) := by
  unfold readComposite writeComposite
  rw [List.append_assoc, header_roundtrip h _ hh]
  simp only [List.append_assoc]
  rw [run_rdI 2 (ps.length : Int) _ ((inRange_2 _).mpr (by omega))]
  have : ¬ ((ps.length : Int) < 0) := by omega
  simp only [this, if_false, Int.toNat_natCast]
  rw [readPacks_writePacks vr fac ps rest hp]
  rfl

/-! ### record lists: `WriteShort(count)` then the records, inside the pack's `Records` blob -/

def recordsW (body : L) : L := .rep .i16 "recs" body .nil

/-- if the record codec agrees, so does the codec of record lists: the count is the same primitive on both
    sides, and the fuel `agrees` grants the list is more than it granted the record -/
theorem agrees_recordsW {bw br : L} (h : agrees bw br = true) : agrees (recordsW bw) (recordsW br) = true := by
  have hb := agree_mono (f' := bw.size + 2 * br.size + 6) (by omega) h
  have e : (recordsW bw).size + 2 * (recordsW br).size + 1 = bw.size + 2 * br.size + 6 + 1 := by
    simp only [recordsW, L.size]; omega
  rw [agrees, e]
  simp only [recordsW, agree, hb, beq_self_eq_true, Bool.and_self]

/-- a list of records round-trips when the list codec agrees (`agrees_recordsW`: when the record codec does) -/
theorem records_roundtrip (vr : ValueRT) (bw br : L) (h : agrees (recordsW bw) (recordsW br) = true)
    (e : Env) (x : Rec) (rest : Bytes) (hwf : (recordsW bw).WF vr e "" x) :
    ∃ e', (recordsW br).read "" e ((recordsW bw).write e "" x ++ rest)
      = some ((recordsW bw).expect e "" x, e', rest) :=
  agree_roundtrip vr _ _ h e "" x rest hwf

end Packs
