/-
  Golib.Layout.Header — CodeModel of lang/pack/AbstractPack.go (the common pack header).

  `encHeader` follows `AbstractPack.Write`: when `(Okind | Onode) == 0` the header is
  `decimal(Pcode) int(Oid) long(Time)`; otherwise a marker byte 9 comes first and Okind/Onode
  are carried.  `decHeader` follows `AbstractPack.Read`: the first byte is read as `ver`; when
  `ver <= 8` it is the length byte of the decimal Pcode (`ReadDecimalLen(ver)`), otherwise the
  long form follows.  The two forms cannot be confused because the length byte of a decimal is
  one of 0,1,2,3,4,5,8, never 9, and what follows it decodes by `ReadDecimalLen` (`Prim.encDecimal_split`).

  `decHeaderInto h0` is `AbstractPack.Read` on an object that already holds `h0` (the short form assigns
  Pcode, Oid, Time and leaves Okind / Onode as they were — what the Go code does); `decHeader` is its case
  of a fresh object, and the round trip is proved once, for `decHeaderInto`.
-/
import Golib.Prim.Codec

namespace Layout
open _root_.Prim

structure Hdr where
  pcode : Int
  oid : Int
  okind : Int
  onode : Int
  time : Int
deriving DecidableEq, Repr

def Hdr.WF (h : Hdr) : Prop :=
  inRange 8 h.pcode ∧ inRange 4 h.oid ∧ inRange 4 h.okind ∧ inRange 4 h.onode ∧ inRange 8 h.time

instance (h : Hdr) : Decidable h.WF := by unfold Hdr.WF; infer_instance

/-- `(this.Okind | this.Onode) == 0` — a bitwise or of two int32 is zero iff both are -/
def Hdr.short (h : Hdr) : Bool := h.okind == 0 && h.onode == 0

theorem Hdr.short_iff (h : Hdr) : h.short = true ↔ h.okind = 0 ∧ h.onode = 0 := by
  simp only [Hdr.short, Bool.and_eq_true, beq_iff_eq]

def encHeader (h : Hdr) : Bytes :=
  if h.short then
    encDecimal h.pcode ++ (encI 4 h.oid ++ encI 8 h.time)
  else
    9 :: (encDecimal h.pcode ++ (encI 4 h.oid ++ (encI 4 h.okind ++ (encI 4 h.onode ++ encI 8 h.time))))

def decHeader : P Hdr :=
  .read 1 (fun b =>
    let ver := b.headD 0
    if ver ≤ 8 then
      P.bind (decDecimalLen ver) (fun pc =>
      P.bind (rdI 4) (fun oid =>
      P.bind (rdI 8) (fun t => .pure ⟨pc, oid, 0, 0, t⟩)))
    else
      P.bind decDecimal (fun pc =>
      P.bind (rdI 4) (fun oid =>
      P.bind (rdI 4) (fun okind =>
      P.bind (rdI 4) (fun onode =>
      P.bind (rdI 8) (fun t => .pure ⟨pc, oid, okind, onode, t⟩))))))

def hdr0 : Hdr := ⟨0, 0, 0, 0, 0⟩

/-- `AbstractPack.Read` on an object that already holds `h0`: the short form assigns Pcode, Oid, Time
    only — Okind / Onode keep what the object held -/
def decHeaderInto (h0 : Hdr) : P Hdr :=
  .read 1 (fun b =>
    let ver := b.headD 0
    if ver ≤ 8 then
      P.bind (decDecimalLen ver) (fun pc =>
      P.bind (rdI 4) (fun oid =>
      P.bind (rdI 8) (fun t => .pure ⟨pc, oid, h0.okind, h0.onode, t⟩)))
    else
      P.bind decDecimal (fun pc =>
      P.bind (rdI 4) (fun oid =>
      P.bind (rdI 4) (fun okind =>
      P.bind (rdI 4) (fun onode =>
      P.bind (rdI 8) (fun t => .pure ⟨pc, oid, okind, onode, t⟩))))))

/-- a fresh object (what `CreatePack` hands to `Read`) has Okind = Onode = 0: the model of the layout IR -/
theorem decHeaderInto_fresh : decHeaderInto hdr0 = decHeader := rfl

/-- what a used object holds after receiving `h`: the long form replaces everything, the short form
    leaves Okind / Onode -/
def Hdr.into (h0 h : Hdr) : Hdr := if h.short then ⟨h.pcode, h.oid, h0.okind, h0.onode, h.time⟩ else h

theorem header_into_used (h0 h : Hdr) (r : Bytes) (wf : h.WF) :
    P.run (decHeaderInto h0) (encHeader h ++ r) = some (h0.into h, r) := by
  obtain ⟨h1, h2, h3, h4, h5⟩ := wf
  obtain ⟨pc, oid, okind, onode, t⟩ := h
  refine (?_ : P.Reads _ _ _) r
  unfold encHeader decHeaderInto Hdr.into
  cases hs : Hdr.short ⟨pc, oid, okind, onode, t⟩ <;> simp only [Bool.false_eq_true, if_false, if_true]
  · -- long form: the marker 9, then all five fields
    refine P.reads_read1_iff.mpr ⟨9, _, rfl, ?_⟩
    exact .bind (run_decDecimal pc · h1) <| .bind (run_rdI 4 oid · h2) <| .bind (run_rdI 4 okind · h3) <|
      .bind (run_rdI 4 onode · h4) <| .bind (run_rdI 8 t · h5) (.pure _)
  · -- short form: the length byte of the decimal is at most 8
    obtain ⟨c, tl, he, hc, -, hrun⟩ := encDecimal_split pc h1
    rw [he]
    refine P.reads_read1_iff.mpr ⟨c, _, rfl, ?_⟩
    simp only [List.headD_cons, hc, if_true]
    exact .bind hrun <| .bind (run_rdI 4 oid · h2) <| .bind (run_rdI 8 t · h5) (.pure _)

/-- the object holds the header written iff the form was long or it held zeros where the short form
    assigns nothing -/
theorem Hdr.into_eq_iff (h0 h : Hdr) : h0.into h = h ↔ (h.short = false ∨ (h0.okind = 0 ∧ h0.onode = 0)) := by
  unfold Hdr.into
  cases hs : h.short
  · simp
  · obtain ⟨hk, hn⟩ := h.short_iff.mp hs
    obtain ⟨pc, oid, okind, onode, t⟩ := h
    simp only at hk hn
    subst hk hn
    simp

/-- a short header has Okind = Onode = 0, which is what a fresh object holds -/
theorem into_fresh (h : Hdr) : hdr0.into h = h := (Hdr.into_eq_iff hdr0 h).mpr (.inr ⟨rfl, rfl⟩)

/-- both header forms decode to the header written: the case of a fresh object -/
theorem header_roundtrip (h : Hdr) (r : Bytes) (wf : h.WF) :
    P.run decHeader (encHeader h ++ r) = some (h, r) :=
  (header_into_used hdr0 h r wf).trans (by rw [into_fresh])

end Layout
