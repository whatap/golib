/-
  Golib.Layout.Reencode — the encoding is a function of the carried fields.

  `L.encodeOut w E o` serialises from the *list of carried fields* `o` (what a decoded pack holds),
  consuming it in wire order.  `encodeOut_expect`: for every record `x` the bytes written for `x`
  are exactly `encodeOut` of `x`'s carried fields.  Hence two packs with the same carried fields have
  the same encoding (`C03.carried_determines_bytes`), and — with the round trip — re-encoding what was
  decoded gives back the bytes byte for byte (`C03.pack_reencode`).  Both need `L.known` of the writer: an
  `mrep` writes nil and empty tables differently though they carry the same rows.
-/
import Golib.Layout.Agree

namespace Layout
open _root_.Prim

def encodeElems (f : Out → Option (Bytes × Out)) : Nat → Out → Option (Bytes × Out)
  | 0, o => some ([], o)
  | n+1, o =>
    match f o with
    | none => none
    | some (b1, o1) =>
      match encodeElems f n o1 with
      | none => none
      | some (b2, o2) => some (b1 ++ b2, o2)

def L.encodeOut : L → Env → Out → Option (Bytes × Out)
  | .nil, _, o => some ([], o)
  | .fld _ p _ rest, e, o =>
    match o with
    | [] => none
    | (_, v) :: o' => (rest.encodeOut e o').map (fun (bs, o'') => (p.encode v ++ bs, o''))
  | .lit p v rest, e, o => (rest.encodeOut e o).map (fun (bs, o') => (p.encode (.int v) ++ bs, o'))
  | .skip _ rest, e, o => rest.encodeOut e o
  | .var n p rest, e, o => (rest.encodeOut e o).map (fun (bs, o') => (p.encode (.int (e n)) ++ bs, o'))
  | .ite c t el rest, e, o =>
    match (if c.eval e then t.encodeOut e o else el.encodeOut e o) with
    | none => none
    | some (b1, o1) => (rest.encodeOut e o1).map (fun (b2, o2) => (b1 ++ b2, o2))
  | .guard _ rest, e, o => rest.encodeOut e o
  | .opt _ body rest, e, o =>
    match o with
    | [] => none
    | (_, flag) :: o' =>
      if flag.toInt != 0 then
        match body.encodeOut e o' with
        | none => none
        | some (b1, o1) => (rest.encodeOut e o1).map (fun (b2, o2) => (1 :: (b1 ++ b2), o2))
      else (rest.encodeOut e o').map (fun (b2, o2) => (0 :: b2, o2))
  | .rep cnt _ body rest, e, o =>
    match o with
    | [] => none
    | (_, n) :: o' =>
      match encodeElems (fun q => body.encodeOut e q) n.toInt.toNat o' with
      | none => none
      | some (b1, o1) => (rest.encodeOut e o1).map (fun (b2, o2) => (cnt.encode (.int n.toInt.toNat) ++ (b1 ++ b2), o2))
  | .wrap body rest, e, o =>
    match body.encodeOut e o with
    | none => none
    | some (b1, o1) => (rest.encodeOut e o1).map (fun (b2, o2) => (encBlob b1 ++ b2, o2))
  | .hdr rest, e, o =>
    match o with
    | (_, a) :: (_, b) :: (_, c) :: (_, d) :: (_, t) :: o' =>
      (rest.encodeOut e o').map (fun (bs, o'') => (encHeader ⟨a.toInt, b.toInt, c.toInt, d.toInt, t.toInt⟩ ++ bs, o''))
    | _ => none
  | .times n _ body rest, e, o =>
    match encodeElems (fun q => body.encodeOut e q) n o with
    | none => none
    | some (b1, o1) => (rest.encodeOut e o1).map (fun (b2, o2) => (b1 ++ b2, o2))
  | .sub _ body rest, e, o =>
    match body.encodeOut e o with
    | none => none
    | some (b1, o1) => (rest.encodeOut e o1).map (fun (b2, o2) => (b1 ++ b2, o2))
  | .kfld _ p _ rest, e, o =>
    match o with
    | [] => none
    | (_, v) :: o' => (rest.encodeOut e o').map (fun (bs, o'') => (p.encode v ++ bs, o''))
  | .key _ p _ rest, e, o =>
    match o with
    | [] => none
    | (_, v) :: o' => (rest.encodeOut e o').map (fun (bs, o'') => (p.encode v ++ bs, o''))
  | .mopt m _ body rest, e, o =>
    match o with
    | [] => none
    | (_, flag) :: o' =>
      if flag.toInt != 0 then
        match body.encodeOut e o' with
        | none => none
        | some (b1, o1) => (rest.encodeOut e o1).map (fun (b2, o2) => (m :: (b1 ++ b2), o2))
      else (rest.encodeOut e o').map (fun (b2, o2) => (0 :: b2, o2))
  | .vopt _ _ body rest, e, o =>
    match o with
    | [] => none
    | (_, flag) :: o' =>
      if flag.toInt != 0 then
        match body.encodeOut e o' with
        | none => none
        | some (b1, o1) => (rest.encodeOut e o1).map (fun (b2, o2) => (1 :: (b1 ++ b2), o2))
      else (rest.encodeOut e o').map (fun (b2, o2) => (0 :: b2, o2))
  | .mrep _ _ _ _, _, _ => none      -- nil and empty tables encode differently but carry the same rows
  | .vrep _ _ body rest, e, o =>
    match o with
    | [] => none
    | (_, n) :: o' =>
      match encodeElems (fun q => body.encodeOut e q) n.toInt.toNat o' with
      | none => none
      | some (b1, o1) => (rest.encodeOut e o1).map (fun (b2, o2) => (encDecimal n.toInt.toNat ++ (b1 ++ b2), o2))
  | .srep cnt _ rest, e, o => (rest.encodeOut e o).map (fun (bs, o') => (cnt.encode (.int 0) ++ bs, o'))
  | .avail body, e, o => body.encodeOut e o
  | .unknown _, _, _ => none

/-- no `mrep` and no `unknown`: `encodeOut` is defined -/
def L.known : L → Bool
  | .nil => true
  | .fld _ _ _ rest => rest.known
  | .lit _ _ rest => rest.known
  | .skip _ rest => rest.known
  | .var _ _ rest => rest.known
  | .ite _ t e rest => t.known && e.known && rest.known
  | .guard _ rest => rest.known
  | .opt _ b rest => b.known && rest.known
  | .rep _ _ b rest => b.known && rest.known
  | .wrap b rest => b.known && rest.known
  | .hdr rest => rest.known
  | .times _ _ b rest => b.known && rest.known
  | .sub _ b rest => b.known && rest.known
  | .kfld _ _ _ rest => rest.known
  | .key _ _ _ rest => rest.known
  | .mopt _ _ b rest => b.known && rest.known
  | .vopt _ _ b rest => b.known && rest.known
  | .mrep _ _ _ _ => false
  | .vrep _ _ b rest => b.known && rest.known
  | .srep _ _ rest => rest.known
  | .avail b => b.known
  | .unknown _ => false

theorem encodeElems_expect (bw : L) (E : Env) (pfx name : String) (x : Rec)
    (hb : ∀ (q : String) (more : Out), bw.encodeOut E (bw.expect E q x ++ more) = some (bw.write E q x, more)) :
    ∀ (n i : Nat) (more : Out),
      encodeElems (fun o => bw.encodeOut E o) n (expectElems (fun q => bw.expect E q x) pfx name i n ++ more)
        = some (writeElems (fun q => bw.write E q x) pfx name i n, more) := by
  intro n
  induction n with
  | zero => intro i more; simp [encodeElems, expectElems, writeElems]
  | succ n ih =>
    intro i more
    simp only [encodeElems, expectElems, writeElems, List.append_assoc]
    rw [hb]
    simp only []  -- beta
    rw [ih]

/-- the bytes written for a record are a function of its carried fields -/
theorem encodeOut_expect (w : L) (hk : w.known = true) (E : Env) (pfx : String) (x : Rec) (more : Out) :
    w.encodeOut E (w.expect E pfx x ++ more) = some (w.write E pfx x, more) := by
  induction w generalizing pfx more with
  | mrep | unknown => cases hk
  | ite c t el rest iht ihe ihr =>
    simp only [L.known, Bool.and_eq_true] at hk
    cases hc : c.eval E <;> simp [L.encodeOut, L.expect, L.write, *]
  | opt n body rest ihb ihr | mopt m n body rest ihb ihr | vopt v n body rest ihb ihr =>
    simp only [L.known, Bool.and_eq_true] at hk
    cases hp : present pfx n x <;> simp [L.encodeOut, L.expect, L.write, Val.toInt, *]
  | rep cnt n body rest ihb ihr | vrep v n body rest ihb ihr | times k n body rest ihb ihr =>
    simp only [L.known, Bool.and_eq_true] at hk
    simp [L.encodeOut, L.expect, L.write, Val.toInt, encodeElems_expect body E pfx n x (ihb hk.1), ihr hk.2]
  | _ =>
    simp only [L.known, Bool.and_eq_true] at hk
    simp [L.encodeOut, L.expect, L.write, hdrOut, hdrOf, Val.toInt, *]

end Layout
