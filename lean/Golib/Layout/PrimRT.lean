/-
  Golib.Layout.PrimRT — well-formedness and round trip of the layout primitives.

  The tagged value codec's round trip is the C02 theorem; it is taken here as the structure
  `ValueRT` (a well-formedness predicate and the round-trip statement for `Value.decode`), so that
  the round trips of Golib.Layout (`Prim.rt`, `agree_sound`, `agree_roundtrip`) are proved *relative to*
  C02 and nothing is assumed silently: they rest on its statement only, and no layout module but
  ValueInst.lean (which supplies `valueRT`) imports its proof.  The prefix theorems (Prefix.lean) need
  no round trip of values and cite `Value.decode_stable1` directly.
-/
import Golib.Layout.IR
import Golib.Prim.Ops

namespace Layout
open _root_.Prim

/-- the round trip of the tagged value codec (property C02), as a hypothesis bundle -/
structure ValueRT where
  wf : Value → Prop
  rt : ∀ v r, wf v → Value.decode (Value.encV v ++ r) = some (v, r)

/-- range of an IEEE bit pattern (`f32`; `f64` below) -/
def u32 (v : Int) : Prop := 0 ≤ v ∧ v < 4294967296
def u64 (v : Int) : Prop := 0 ≤ v ∧ v < 18446744073709551616

theorem u32.toNat_lt {v : Int} (h : u32 v) : v.toNat < 256 ^ 4 := by
  have := h.2; show v.toNat < 4294967296; omega

theorem u64.toNat_lt {v : Int} (h : u64 v) : v.toNat < 256 ^ 8 := by
  have := h.2; show v.toNat < 18446744073709551616; omega

theorem run_decList (w : Nat) (enc : α → Bytes) (dec : P α) (wf : α → Prop)
    (rt : ∀ x r, wf x → P.run dec (enc x ++ r) = some (x, r))
    (xs : List α) (r : Bytes) (hl : inRange w (xs.length : Int)) (h : ∀ x ∈ xs, wf x) :
    P.run (decList w dec) (encList w enc xs ++ r) = some (xs, r) := by
  unfold decList encList
  rw [List.append_assoc, P.run_bind_some _ _ _ _ _ (run_rdI w (xs.length : Int) _ hl)]
  simp only [Int.toNat_natCast]
  exact run_decMany enc dec wf rt xs r h

/-- typed lists: the count fits 3 signed bytes; ints/longs are int64, floats/doubles bit patterns -/
def anyListWF : Val → Prop
  | .ints (t :: xs) => xs.length < 8388608 ∧
      ((t = 1 ∨ t = 2) ∧ (∀ x ∈ xs, inRange 8 x) ∨ t = 3 ∧ (∀ x ∈ xs, u32 x) ∨ t = 4 ∧ (∀ x ∈ xs, u64 x))
  | .strs xs => xs.length < 8388608 ∧ ∀ x ∈ xs, x.length < 2147483648
  | _ => False

theorem map_toNat_ofNat (xs : List Int) (h : ∀ x ∈ xs, 0 ≤ x) :
    (xs.map Int.toNat).map Int.ofNat = xs := by
  induction xs with
  | nil => rfl
  | cons x xs ih =>
    simp only [List.map_cons]
    rw [ih (fun y hy => h y (by simp [hy]))]
    congr 1
    exact Int.toNat_of_nonneg (h x (by simp))

theorem listU_rt (w : Nat) (xs : List Int) (r : Bytes) (hl : xs.length < 8388608)
    (h1 : ∀ x ∈ xs, x.toNat < 256 ^ w) :
    P.run (decList 3 (rdU w)) (encList 3 (fun v : Int => beN w v.toNat) xs ++ r) = some (xs.map Int.toNat, r) := by
  have e : encList 3 (fun v : Int => beN w v.toNat) xs = encList 3 (beN w) (xs.map Int.toNat) := by
    simp [encList, encMany_eq_flatMap, List.flatMap_map]
  rw [e]
  exact run_decList 3 (beN w) (rdU w) (fun n => n < 256 ^ w) (fun n r h => run_rdU w n r h)
    (xs.map Int.toNat) r ((inRange_3 _).mpr (by simp; omega))
    (by intro n hn; simp only [List.mem_map] at hn; obtain ⟨x, hx, rfl⟩ := hn; exact h1 x hx)

theorem anyList_rt (v : Val) (r : Bytes) (h : anyListWF v) :
    P.run decAnyList (encAnyList v ++ r) = some (v, r) := by
  cases v with
  | ints ys =>
    cases ys with
    | nil => simp [anyListWF] at h
    | cons t xs =>
      obtain ⟨hl, hc⟩ := h
      have hlen : inRange 3 (xs.length : Int) := (inRange_3 _).mpr (by omega)
      rcases hc with ⟨ht, hx⟩ | ⟨rfl, hx⟩ | ⟨rfl, hx⟩
      · rcases ht with rfl | rfl <;>
          simp only [encAnyList, decAnyList, List.cons_append, P.run_read1, List.headD_cons] <;>
          exact P.run_map_some _ (run_decList 3 encDecimal decDecimal (inRange 8)
            (fun x r h => run_decDecimal x r h) xs r hlen hx)
      · simp only [encAnyList, decAnyList, List.cons_append, P.run_read1, List.headD_cons]
        rw [P.run_map_some _ (listU_rt 4 xs r hl
          fun x hx' => (hx x hx').toNat_lt)]
        rw [map_toNat_ofNat xs (fun x hx' => (hx x hx').1)]
      · simp only [encAnyList, decAnyList, List.cons_append, P.run_read1, List.headD_cons]
        rw [P.run_map_some _ (listU_rt 8 xs r hl
          fun x hx' => (hx x hx').toNat_lt)]
        rw [map_toNat_ofNat xs (fun x hx' => (hx x hx').1)]
  | strs xs =>
    obtain ⟨hl, hx⟩ := h
    simp only [encAnyList, decAnyList, List.cons_append, P.run_read1, List.headD_cons]
    exact P.run_map_some _ (run_decList 3 encBlob decBlob (fun b => b.length < 2147483648)
      (fun x r h => run_decBlob x r h) xs r ((inRange_3 _).mpr (by omega)) hx)
  | int _ => simp [anyListWF] at h
  | bytes _ => simp [anyListWF] at h
  | value _ => simp [anyListWF] at h

namespace Prim

/-- the guards the real code needs for a value to travel through a primitive unchanged -/
def wf (vr : ValueRT) : Prim → Val → Prop
  | .bool, .int v => v = 0 ∨ v = 1
  | .u8, .int v => 0 ≤ v ∧ v < 256
  | .i16, .int v => inRange 2 v
  | .i24, .int v => inRange 3 v
  | .i32, .int v => inRange 4 v
  | .i64, .int v => inRange 8 v
  | .f32, .int v => u32 v
  | .f64, .int v => u64 v
  | .dec, .int v => inRange 8 v
  | .blob, .bytes bs => bs.length < 2147483648
  | .aI16, .ints xs => xs.length ≤ 32767 ∧ ∀ x ∈ xs, inRange 2 x
  | .aI32, .ints xs => xs.length ≤ 32767 ∧ ∀ x ∈ xs, inRange 4 x
  | .aI64, .ints xs => xs.length ≤ 32767 ∧ ∀ x ∈ xs, inRange 8 x
  | .aF32, .ints xs => xs.length ≤ 32767 ∧ ∀ x ∈ xs, u32 x
  | .aF64, .ints xs => xs.length ≤ 32767 ∧ ∀ x ∈ xs, u64 x
  | .aText, .strs xs => xs.length ≤ 32767 ∧ ∀ x ∈ xs, x.length < 2147483648
  | .value, .value v => vr.wf v
  | .mapV, .value v => vr.wf v ∧ ∃ kvs, v = .map kvs
  | .imapV, .value v => vr.wf v ∧ ∃ kvs, v = .imap kvs
  | .mapBody, .value v => vr.wf v ∧ ∃ kvs, v = .map kvs
  | .imapBody, .value v => vr.wf v ∧ ∃ kvs, v = .imap kvs
  | .u16, .int v => 0 ≤ v ∧ v < 65536
  | .a8I16, .ints xs => xs.length ≤ 255 ∧ ∀ x ∈ xs, inRange 2 x
  | .b24, .bytes bs => bs.length < 8388608
  | .anylist, v => anyListWF v
  | _, _ => False

theorem ofP_rt (p : P α) (f : α → Val) (bs r : Bytes) (a : α) (h : P.run p (bs ++ r) = some (a, r)) :
    ofP p f (bs ++ r) = some (f a, r) := by
  simp [ofP, h]

theorem toNat_rt_u (w : Nat) (v : Int) (r : Bytes) (h0 : 0 ≤ v) (h1 : v.toNat < 256 ^ w) :
    ofP (rdU w) (fun n => Val.int n) (beN w v.toNat ++ r) = some (.int v, r) := by
  rw [ofP_rt _ _ _ _ _ (run_rdU w v.toNat r h1)]
  simp [Int.toNat_of_nonneg h0]

theorem arrU_rt (w : Nat) (xs : List Int) (r : Bytes) (hl : xs.length ≤ 32767)
    (h0 : ∀ x ∈ xs, 0 ≤ x) (h1 : ∀ x ∈ xs, x.toNat < 256 ^ w) :
    ofP (decArr (rdU w)) (fun ys => Val.ints (ys.map Int.ofNat))
      (encArr (fun v : Int => beN w v.toNat) xs ++ r) = some (.ints xs, r) := by
  have e : encArr (fun v : Int => beN w v.toNat) xs = encArr (beN w) (xs.map Int.toNat) := by
    simp [encArr, encMany_eq_flatMap, List.flatMap_map]
  rw [e]
  have := run_decArr (beN w) (rdU w) (fun n => n < 256 ^ w) (fun n r h => run_rdU w n r h)
    (xs.map Int.toNat) r (by simpa using hl)
    (by intro n hn; simp only [List.mem_map] at hn; obtain ⟨x, hx, rfl⟩ := hn; exact h1 x hx)
  rw [ofP_rt _ _ _ _ _ this]
  simp [map_toNat_ofNat xs h0]

theorem rt (vr : ValueRT) (p : Prim) (v : Val) (r : Bytes) (h : wf vr p v) :
    p.decode (p.encode v ++ r) = some (v, r) := by
  revert h
  fun_cases wf vr p v <;> intro h <;> simp only [encode, decode]
  -- bool
  case case1 v =>
    rw [ofP_rt _ _ _ _ _ (run_rdBool (v == 1) r)]
    rcases h with rfl | rfl <;> simp
  -- u8
  case case2 v => exact toNat_rt_u 1 v r h.1 (by have := h.2; omega)
  -- i16, i24, i32, i64
  case case3 v | case4 v | case5 v | case6 v => exact ofP_rt _ _ _ _ _ (run_rdI _ v r h)
  -- f32
  case case7 v => exact toNat_rt_u 4 v r h.1 (u32.toNat_lt h)
  -- f64
  case case8 v => exact toNat_rt_u 8 v r h.1 (u64.toNat_lt h)
  -- dec
  case case9 v => exact ofP_rt _ _ _ _ _ (run_decDecimal v r h)
  -- blob
  case case10 bs => exact ofP_rt _ _ _ _ _ (run_decBlob bs r h)
  -- aI16, aI32, aI64
  case case11 xs | case12 xs | case13 xs =>
    exact ofP_rt _ _ _ _ _ (run_decArr (encI _) (rdI _) (inRange _) (fun x r h => run_rdI _ x r h) xs r h.1 h.2)
  -- aF32
  case case14 xs =>
    exact arrU_rt 4 xs r h.1 (fun x hx => (h.2 x hx).1) fun x hx => (h.2 x hx).toNat_lt
  -- aF64
  case case15 xs =>
    exact arrU_rt 8 xs r h.1 (fun x hx => (h.2 x hx).1) fun x hx => (h.2 x hx).toNat_lt
  -- aText
  case case16 xs =>
    exact ofP_rt _ _ _ _ _ (run_decArr encBlob decBlob (fun b => b.length < 2147483648)
      (fun x r h => run_decBlob x r h) xs r h.1 h.2)
  -- value
  case case17 v => simp [vr.rt v r h]
  -- mapV, imapV
  case case18 v | case19 v => simp [vr.rt v r h.1]
  -- mapBody, imapBody: `encV` of a map is its tag followed by the body
  case case20 v | case21 v =>
    obtain ⟨hw, kvs, rfl⟩ := h
    have := vr.rt _ r hw
    rw [Value.encV] at this ⊢
    simpa using this
  -- u16: for `0 ≤ v < 65536` the signed and the unsigned encoding coincide
  case case22 v =>
    rw [encI_of_nonneg 2 v h.1 (by omega)]
    exact toNat_rt_u 2 v r h.1 (by have := h.2; show v.toNat < 65536; omega)
  -- a8I16
  case case23 xs =>
    apply ofP_rt
    rw [List.append_assoc, P.run_bind_some _ _ _ _ _ (run_rdU 1 xs.length _ (by have := h.1; show xs.length < 256; omega))]
    exact run_decMany (encI 2) (rdI 2) (inRange 2) (fun x r h => run_rdI 2 x r h) xs r h.2
  -- b24
  case case24 bs =>
    apply ofP_rt
    rw [List.append_assoc, P.run_bind_some _ _ _ _ _ (run_rdI 3 (bs.length : Int) _ ((inRange_3 _).mpr (by omega)))]
    have : ¬ ((bs.length : Int) < 0) := by omega
    simp only [this, if_false, Int.toNat_natCast]
    exact run_rdBytes bs r
  -- anylist
  case case25 => exact ofP_rt _ _ _ _ _ (anyList_rt _ r h)
  -- a value of the wrong kind: excluded by `wf`
  case case26 => exact h.elim

/-- a tagged map is its tag byte followed by the untagged body -/
def untag : Prim → Option Prim
  | .mapV => some .mapBody
  | .imapV => some .imapBody
  | _ => none

theorem untag_rt (vr : ValueRT) (p q : Prim) (v : Val) (hq : untag p = some q) (h : wf vr p v) :
    ∃ t tl, p.encode v = t :: tl ∧ t < 256 ∧ ∀ r, q.decode (tl ++ r) = some (v, r) := by
  -- the body primitive has the same guard and writes the same bytes less the tag: its round trip is `rt`
  have key : wf vr q v ∧ ∃ t, p.encode v = t :: q.encode v ∧ t < 256 := by
    revert hq
    fun_cases untag p <;> intro hq
    -- neither `mapV` nor `imapV`
    case case3 => cases hq
    -- `mapV`, `imapV`: `encV` of a map is the tag 80 / 81 followed by the body
    all_goals
      cases hq
      cases v <;> simp only [wf] at h
      obtain ⟨hw, kvs, rfl⟩ := h
      refine ⟨⟨hw, kvs, rfl⟩, ?_⟩
      simp only [encode, Value.encV, List.tail_cons]
      exact ⟨_, rfl, by decide⟩
  obtain ⟨hwq, t, he, ht⟩ := key
  exact ⟨t, _, he, ht, fun r => rt vr q v r hwq⟩

end Prim
end Layout
