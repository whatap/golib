/-
  Golib.Layout.IR — the layout IR for pack bodies, with its writer and reader semantics.

  A `Write(*DataOutputX)` body and a `Read(*DataInputX)` body are each transcribed (by
  `xlate/c03`, separately) into a value of `L`:

    fld name p rng    out.WriteP(this.name)            this.name = in.ReadP()
    lit p v           out.WriteP(<constant v>)         (writer only)
    skip p                                             in.ReadP()  — result discarded (reader only)
    var name p        out.WriteP(<parameter name>)     name := in.ReadP()   (a local, not a field)
    guard c           if c { panic(..) }                                (reader only: the reader refuses)
    ite c t e rest    if c {t} else {e}; rest          (c over locals / parameters; `if c {return}`
                                                        is `ite c nil rest' nil`)
    opt name b rest   presence byte (0/1) then the section `b` when present
    rep cnt name b    count (primitive `cnt`) then `b` once per element of the slice/table `name`
    wrap b            `b` written to a sub-stream that travels as one blob
    times n name b    `b` exactly n times (`for i < CONST`), elements `name[i]`
    sub name b        a struct-valued field: `b` under the path prefix `name.`
    kfld / key        a field that selects what follows: the writer layout is given for one value `k`
                      of it (`kfld`, guard `x name = k`); the reader binds it to a local (`key`) and
                      dispatches on the local
    mopt m / vopt v   optional section whose presence byte is `m` (writer) and is bound to the
                      local `v` by the reader (`ver := in.ReadByte(); if ver > 0 {…}`)
    mrep m / vrep v   optional table: writer `0` when nil, else marker `m`, decimal count, rows;
                      reader: `ver := ReadByte()`, 0 = absent, `<= 8` = the byte is the length of the
                      decimal count (older layout), else a decimal count follows; `ver` is a local.
                      On the reader side `mrep` reads as `vrep ""` (it binds the local `""`)
    srep cnt b        reader: a counted loop whose rows are read (under the table name `""`) and dropped
    avail b           reader: `if in.Available() == 0 { return }`, then `b`
    hdr               the common pack header (Golib.Layout.Header)
    unknown why       a shape the translator could not transcribe (never agrees with anything)

  Every item carries its continuation (`rest`), so `L` is a plain inductive type and plain
  structural induction works.  A record is a function from field *paths* to values; inside a
  `rep` the paths are `name[i].field`, an optional section's presence is the pseudo field
  `name?`, a table's size is `name#`.

    L.write  : writer semantics  (record → bytes)
    L.read   : reader semantics  (bytes → the fields assigned, in wire order)
    L.expect : what a correct reader must deliver for a record (the carried fields)
  (`L.WF`, the explicit guards the real code needs — ranges of the Go field types, lengths — is in
  Golib.Layout.Agree.)
-/
import Golib.Prim.Codec
import Golib.Value.Model
import Golib.Layout.Header

namespace Layout
open _root_.Prim

/-- values of record fields -/
inductive Val where
  | int (v : Int)          -- every integer-like scalar; bools as 0/1; floats as IEEE-754 bit patterns
  | bytes (bs : Bytes)     -- string / []byte
  | ints (xs : List Int)   -- numeric arrays (floats as bit patterns)
  | strs (xs : List Bytes) -- []string
  | value (v : Value)      -- value.Value, *MapValue, *IntMapValue
deriving Repr

def Val.toInt : Val → Int
  | .int v => v
  | _ => 0

abbrev Rec := String → Val
abbrev Env := String → Int

def Env.set (e : Env) (n : String) (v : Int) : Env := fun m => if m = n then v else e m

/-- a raw decoder: consumes a prefix of the input -/
abbrev Dec (α : Type) := Bytes → Option (α × Bytes)

inductive Prim where
  | bool | u8 | i16 | i24 | i32 | i64 | f32 | f64 | dec | blob
  | aI16 | aI32 | aI64 | aF32 | aF64 | aText
  | value          -- value.WriteValue / value.ReadValue: type tag + body
  | mapV           -- the same for a field of static type *MapValue (tag 80 + body)
  | imapV          -- … of static type *IntMapValue (tag 81 + body)
  | mapBody        -- MapValue.Write / MapValue.Read: body without the tag.  Encoded as `(encV v).tail`,
                   --   decoded by putting the tag 80 / 81 back; only `Prim.wf` excludes a value that is no map
  | imapBody       -- IntMapValue.Write / .Read
  | u16            -- WriteShort(int16(x)) of a wider field, read back `& 0xffff`: the low 16 bits, unsigned
  | a8I16          -- one-byte count, then int16s (CounterPack1.writeShortArray; nil travels as empty)
  | b24            -- WriteInt3(len) + raw bytes (StatGeneralPack's cached table bytes)
  | anylist        -- a typed list of util/list behind its type byte: 1 int, 2 long (decimals),
                   --   3 float, 4 double (bit patterns), 5 string; 3-byte count
deriving DecidableEq, Repr

/-- range of the Go type of the field (the wire primitive may be wider, e.g. a decimal) -/
inductive Rng where
  | any | bool | u8 | i8 | i16 | i32 | i64
deriving DecidableEq, Repr

def Rng.ok : Rng → Int → Prop
  | .any, _ => True
  | .bool, v => v = 0 ∨ v = 1
  | .u8, v => 0 ≤ v ∧ v ≤ 255
  | .i8, v => inRange 1 v
  | .i16, v => inRange 2 v
  | .i32, v => inRange 4 v
  | .i64, v => inRange 8 v

/-- a list behind a signed `w`-byte count -/
def encList (w : Nat) (enc : α → Bytes) (xs : List α) : Bytes := encI w xs.length ++ encMany enc xs
/-- `count := int(in.ReadInt3()); for i := 0; i < count; i++ { add(read) }` — a negative count runs the
    loop zero times: an empty list (util/list *List.Read) -/
def decList (w : Nat) (dec : P α) : P (List α) :=
  P.bind (rdI w) (fun n => decMany dec n.toNat)

def encAnyList : Val → Bytes
  | .ints (1 :: xs) => 1 :: encList 3 encDecimal xs
  | .ints (2 :: xs) => 2 :: encList 3 encDecimal xs
  | .ints (3 :: xs) => 3 :: encList 3 (fun v : Int => beN 4 v.toNat) xs
  | .ints (4 :: xs) => 4 :: encList 3 (fun v : Int => beN 8 v.toNat) xs
  | .strs xs => 5 :: encList 3 encBlob xs
  | _ => []

/-- `StatGeneralPack.create(t)` then the list's `Read`: any type byte other than 1..4 is a string list -/
def decAnyList : P Val :=
  .read 1 (fun b =>
    match b.headD 0 with
    | 1 => P.map (fun xs => Val.ints (1 :: xs)) (decList 3 decDecimal)
    | 2 => P.map (fun xs => Val.ints (2 :: xs)) (decList 3 decDecimal)
    | 3 => P.map (fun xs => Val.ints (3 :: xs.map Int.ofNat)) (decList 3 (rdU 4))
    | 4 => P.map (fun xs => Val.ints (4 :: xs.map Int.ofNat)) (decList 3 (rdU 8))
    | _ => P.map Val.strs (decList 3 decBlob))

namespace Prim

def encode : Prim → Val → Bytes
  | .bool, .int v => encBool (v == 1)
  | .u8, .int v => beN 1 v.toNat
  | .i16, .int v => encI 2 v
  | .i24, .int v => encI 3 v
  | .i32, .int v => encI 4 v
  | .i64, .int v => encI 8 v
  | .f32, .int v => beN 4 v.toNat
  | .f64, .int v => beN 8 v.toNat
  | .dec, .int v => encDecimal v
  | .blob, .bytes bs => encBlob bs
  | .aI16, .ints xs => encArr (encI 2) xs
  | .aI32, .ints xs => encArr (encI 4) xs
  | .aI64, .ints xs => encArr (encI 8) xs
  | .aF32, .ints xs => encArr (fun v => beN 4 v.toNat) xs
  | .aF64, .ints xs => encArr (fun v => beN 8 v.toNat) xs
  | .aText, .strs xs => encArr encBlob xs
  | .value, .value v => Value.encV v
  | .mapV, .value v => Value.encV v
  | .imapV, .value v => Value.encV v
  | .mapBody, .value v => (Value.encV v).tail
  | .imapBody, .value v => (Value.encV v).tail
  | .u16, .int v => encI 2 v
  | .a8I16, .ints xs => beN 1 xs.length ++ encMany (encI 2) xs
  | .b24, .bytes bs => encI 3 bs.length ++ bs
  | .anylist, v => encAnyList v
  | _, _ => []

def ofP (p : P α) (f : α → Val) : Dec Val := fun bs => (P.run p bs).map (fun (a, r) => (f a, r))

def decode : Prim → Dec Val
  | .bool => ofP rdBool (fun b => .int (if b then 1 else 0))
  | .u8 => ofP (rdU 1) (fun n => .int n)
  | .i16 => ofP (rdI 2) .int
  | .i24 => ofP (rdI 3) .int
  | .i32 => ofP (rdI 4) .int
  | .i64 => ofP (rdI 8) .int
  | .f32 => ofP (rdU 4) (fun n => .int n)
  | .f64 => ofP (rdU 8) (fun n => .int n)
  | .dec => ofP decDecimal .int
  | .blob => ofP decBlob .bytes
  | .aI16 => ofP (decArr (rdI 2)) .ints
  | .aI32 => ofP (decArr (rdI 4)) .ints
  | .aI64 => ofP (decArr (rdI 8)) .ints
  | .aF32 => ofP (decArr (rdU 4)) (fun xs => .ints (xs.map Int.ofNat))
  | .aF64 => ofP (decArr (rdU 8)) (fun xs => .ints (xs.map Int.ofNat))
  | .aText => ofP (decArr decBlob) .strs
  | .value => fun bs => (Value.decode bs).map (fun (v, r) => (.value v, r))
  | .mapV => fun bs => (Value.decode bs).map (fun (v, r) => (.value v, r))
  | .imapV => fun bs => (Value.decode bs).map (fun (v, r) => (.value v, r))
  | .mapBody => fun bs => (Value.decode (80 :: bs)).map (fun (v, r) => (.value v, r))
  | .imapBody => fun bs => (Value.decode (81 :: bs)).map (fun (v, r) => (.value v, r))
  | .u16 => ofP (rdU 2) (fun n => .int n)
  | .a8I16 => ofP (P.bind (rdU 1) (fun n => decMany (rdI 2) n)) .ints
  | .b24 => ofP (P.bind (rdI 3) (fun n => if n < 0 then .fail else rdBytes n.toNat)) .bytes
  | .anylist => ofP decAnyList id

end Prim

/-- conditions over locals / parameters (version switches): `var op n` -/
inductive CmpOp where
  | le | lt | ge | gt | eq | ne
deriving DecidableEq, Repr

structure Cond where
  op : CmpOp
  var : String
  n : Int
deriving DecidableEq, Repr

def CmpOp.test : CmpOp → Int → Int → Bool
  | .le, x, n => decide (x ≤ n) | .lt, x, n => decide (x < n)
  | .ge, x, n => decide (x ≥ n) | .gt, x, n => decide (x > n)
  | .eq, x, n => decide (x = n) | .ne, x, n => decide (x ≠ n)

def Cond.test (c : Cond) (x : Int) : Bool := c.op.test x c.n

def Cond.eval (c : Cond) (e : Env) : Bool := c.test (e c.var)

inductive L where
  | nil
  | fld (name : String) (p : Prim) (rng : Rng) (rest : L)
  | lit (p : Prim) (v : Int) (rest : L)
  | skip (p : Prim) (rest : L)
  | var (name : String) (p : Prim) (rest : L)
  | ite (c : Cond) (t e : L) (rest : L)
  | guard (c : Cond) (rest : L)
  | opt (name : String) (body : L) (rest : L)
  | rep (cnt : Prim) (name : String) (body : L) (rest : L)
  | wrap (body : L) (rest : L)
  | hdr (rest : L)
  | times (n : Nat) (name : String) (body : L) (rest : L)
  | sub (name : String) (body : L) (rest : L)
  | kfld (name : String) (p : Prim) (k : Int) (rest : L)
  | key (name : String) (p : Prim) (v : String) (rest : L)
  | mopt (m : Nat) (name : String) (body : L) (rest : L)
  | vopt (v : String) (name : String) (body : L) (rest : L)
  | mrep (m : Nat) (name : String) (body : L) (rest : L)
  | vrep (v : String) (name : String) (body : L) (rest : L)
  | srep (cnt : Prim) (body : L) (rest : L)
  | avail (body : L)
  | unknown (why : String)
deriving DecidableEq, Repr

abbrev Out := List (String × Val)

def hdrOf (pfx : String) (x : Rec) : Hdr :=
  ⟨(x (pfx ++ "Pcode")).toInt, (x (pfx ++ "Oid")).toInt, (x (pfx ++ "Okind")).toInt,
   (x (pfx ++ "Onode")).toInt, (x (pfx ++ "Time")).toInt⟩

def hdrOut (pfx : String) (h : Hdr) : Out :=
  [(pfx ++ "Pcode", .int h.pcode), (pfx ++ "Oid", .int h.oid), (pfx ++ "Okind", .int h.okind),
   (pfx ++ "Onode", .int h.onode), (pfx ++ "Time", .int h.time)]

/-- path prefix of element `i` of the table `name` -/
def elemPfx (pfx name : String) (i : Nat) : String := pfx ++ name ++ "[" ++ toString i ++ "]."

/-- number of elements of the table `name` in record `x` -/
def countOf (pfx name : String) (x : Rec) : Nat := (x (pfx ++ name ++ "#")).toInt.toNat

def present (pfx name : String) (x : Rec) : Bool := (x (pfx ++ name ++ "?")).toInt != 0

/-- elements `i, i+1, …, i+n-1` written one after the other -/
def writeElems (f : String → Bytes) (pfx name : String) : Nat → Nat → Bytes
  | _, 0 => []
  | i, n+1 => f (elemPfx pfx name i) ++ writeElems f pfx name (i+1) n

def L.write : L → Env → String → Rec → Bytes
  | .nil, _, _, _ => []
  | .fld name p _ rest, e, pfx, x => p.encode (x (pfx ++ name)) ++ rest.write e pfx x
  | .lit p v rest, e, pfx, x => p.encode (.int v) ++ rest.write e pfx x
  | .skip _ rest, e, pfx, x => rest.write e pfx x            -- reader-only item: writes nothing
  | .var name p rest, e, pfx, x => p.encode (.int (e name)) ++ rest.write e pfx x
  | .ite c t el rest, e, pfx, x =>
      (if c.eval e then t.write e pfx x else el.write e pfx x) ++ rest.write e pfx x
  | .guard _ rest, e, pfx, x => rest.write e pfx x
  | .opt name body rest, e, pfx, x =>
      (if present pfx name x then 1 :: body.write e pfx x else [0]) ++ rest.write e pfx x
  | .rep cnt name body rest, e, pfx, x =>
      cnt.encode (.int (countOf pfx name x)) ++
        (writeElems (fun q => body.write e q x) pfx name 0 (countOf pfx name x) ++ rest.write e pfx x)
  | .wrap body rest, e, pfx, x => encBlob (body.write e pfx x) ++ rest.write e pfx x
  | .hdr rest, e, pfx, x => encHeader (hdrOf pfx x) ++ rest.write e pfx x
  | .times n name body rest, e, pfx, x =>
      writeElems (fun q => body.write e q x) pfx name 0 n ++ rest.write e pfx x
  | .sub name body rest, e, pfx, x => body.write e (pfx ++ name ++ ".") x ++ rest.write e pfx x
  | .kfld name p _ rest, e, pfx, x => p.encode (x (pfx ++ name)) ++ rest.write e pfx x
  | .key name p _ rest, e, pfx, x => p.encode (x (pfx ++ name)) ++ rest.write e pfx x
  | .mopt m name body rest, e, pfx, x =>
      (if present pfx name x then m :: body.write e pfx x else [0]) ++ rest.write e pfx x
  | .vopt _ name body rest, e, pfx, x =>
      (if present pfx name x then 1 :: body.write e pfx x else [0]) ++ rest.write e pfx x
  | .mrep m name body rest, e, pfx, x =>
      (if present pfx name x then
        m :: (encDecimal (countOf pfx name x) ++ writeElems (fun q => body.write e q x) pfx name 0 (countOf pfx name x))
       else [0]) ++ rest.write e pfx x
  | .vrep _ name body rest, e, pfx, x =>
      encDecimal (countOf pfx name x) ++
        (writeElems (fun q => body.write e q x) pfx name 0 (countOf pfx name x) ++ rest.write e pfx x)
  | .srep cnt _ rest, e, pfx, x => cnt.encode (.int 0) ++ rest.write e pfx x
  | .avail body, e, pfx, x => body.write e pfx x
  | .unknown _, _, _, _ => []

/-- what the reader must deliver: the carried fields in wire order -/
def expectElems (f : String → Out) (pfx name : String) : Nat → Nat → Out
  | _, 0 => []
  | i, n+1 => f (elemPfx pfx name i) ++ expectElems f pfx name (i+1) n

def L.expect : L → Env → String → Rec → Out
  | .nil, _, _, _ => []
  | .fld name _ _ rest, e, pfx, x => (pfx ++ name, x (pfx ++ name)) :: rest.expect e pfx x
  | .lit _ _ rest, e, pfx, x => rest.expect e pfx x
  | .skip _ rest, e, pfx, x => rest.expect e pfx x
  | .var _ _ rest, e, pfx, x => rest.expect e pfx x
  | .ite c t el rest, e, pfx, x =>
      (if c.eval e then t.expect e pfx x else el.expect e pfx x) ++ rest.expect e pfx x
  | .guard _ rest, e, pfx, x => rest.expect e pfx x
  | .opt name body rest, e, pfx, x =>
      (if present pfx name x then (pfx ++ name ++ "?", Val.int 1) :: body.expect e pfx x
       else [(pfx ++ name ++ "?", Val.int 0)]) ++ rest.expect e pfx x
  | .rep _ name body rest, e, pfx, x =>
      (pfx ++ name ++ "#", Val.int (countOf pfx name x)) ::
        (expectElems (fun q => body.expect e q x) pfx name 0 (countOf pfx name x) ++ rest.expect e pfx x)
  | .wrap body rest, e, pfx, x => body.expect e pfx x ++ rest.expect e pfx x
  | .hdr rest, e, pfx, x => hdrOut pfx (hdrOf pfx x) ++ rest.expect e pfx x
  | .times n name body rest, e, pfx, x =>
      expectElems (fun q => body.expect e q x) pfx name 0 n ++ rest.expect e pfx x
  | .sub name body rest, e, pfx, x => body.expect e (pfx ++ name ++ ".") x ++ rest.expect e pfx x
  | .kfld name _ _ rest, e, pfx, x => (pfx ++ name, x (pfx ++ name)) :: rest.expect e pfx x
  | .key name _ _ rest, e, pfx, x => (pfx ++ name, x (pfx ++ name)) :: rest.expect e pfx x
  | .mopt _ name body rest, e, pfx, x =>
      (if present pfx name x then (pfx ++ name ++ "?", Val.int 1) :: body.expect e pfx x
       else [(pfx ++ name ++ "?", Val.int 0)]) ++ rest.expect e pfx x
  | .vopt _ name body rest, e, pfx, x =>
      (if present pfx name x then (pfx ++ name ++ "?", Val.int 1) :: body.expect e pfx x
       else [(pfx ++ name ++ "?", Val.int 0)]) ++ rest.expect e pfx x
  | .mrep _ name body rest, e, pfx, x =>
      (pfx ++ name ++ "#", Val.int (countOf pfx name x)) ::
        (expectElems (fun q => body.expect e q x) pfx name 0 (countOf pfx name x) ++ rest.expect e pfx x)
  | .vrep _ name body rest, e, pfx, x =>
      (pfx ++ name ++ "#", Val.int (countOf pfx name x)) ::
        (expectElems (fun q => body.expect e q x) pfx name 0 (countOf pfx name x) ++ rest.expect e pfx x)
  | .srep _ _ rest, e, pfx, x => rest.expect e pfx x
  | .avail body, e, pfx, x => body.expect e pfx x
  | .unknown _, _, _, _ => []

/-- the reader threads its environment of locals; result: fields assigned, final env, rest -/
abbrev RDec := Env → Bytes → Option (Out × Env × Bytes)

def readElems (f : String → RDec) (pfx name : String) : Nat → Nat → RDec
  | _, 0 => fun e bs => some ([], e, bs)
  | i, n+1 => fun e bs =>
    match f (elemPfx pfx name i) e bs with
    | none => none
    | some (o1, e1, r1) =>
      match readElems f pfx name (i+1) n e1 r1 with
      | none => none
      | some (o2, e2, r2) => some (o1 ++ o2, e2, r2)

def L.read : L → String → RDec
  | .nil, _ => fun e bs => some ([], e, bs)
  | .fld name p _ rest, pfx => fun e bs =>
    match p.decode bs with
    | none => none
    | some (v, r) =>
      match rest.read pfx e r with
      | none => none
      | some (o, e', r') => some ((pfx ++ name, v) :: o, e', r')
  | .lit _ _ rest, pfx => rest.read pfx                       -- writer-only item: reads nothing
  | .skip p rest, pfx => fun e bs =>
    match p.decode bs with
    | none => none
    | some (_, r) => rest.read pfx e r
  | .var name p rest, pfx => fun e bs =>
    match p.decode bs with
    | none => none
    | some (v, r) => rest.read pfx (e.set name v.toInt) r
  | .ite c t el rest, pfx => fun e bs =>
    match (if c.eval e then t.read pfx e bs else el.read pfx e bs) with
    | none => none
    | some (o1, e1, r1) =>
      match rest.read pfx e1 r1 with
      | none => none
      | some (o2, e2, r2) => some (o1 ++ o2, e2, r2)
  | .guard c rest, pfx => fun e bs => if c.eval e then none else rest.read pfx e bs
  | .opt name body rest, pfx => fun e bs =>
    match Prim.decode .u8 bs with
    | none => none
    | some (flag, r) =>
      if flag.toInt != 0 then
        match body.read pfx e r with
        | none => none
        | some (o1, e1, r1) =>
          match rest.read pfx e1 r1 with
          | none => none
          | some (o2, e2, r2) => some ((pfx ++ name ++ "?", Val.int 1) :: (o1 ++ o2), e2, r2)
      else
        match rest.read pfx e r with
        | none => none
        | some (o2, e2, r2) => some ((pfx ++ name ++ "?", Val.int 0) :: o2, e2, r2)
  | .rep cnt name body rest, pfx => fun e bs =>
    match cnt.decode bs with
    | none => none
    | some (n, r) =>
      match readElems (fun q => body.read q) pfx name 0 n.toInt.toNat e r with
      | none => none
      | some (o1, e1, r1) =>
        match rest.read pfx e1 r1 with
        | none => none
        | some (o2, e2, r2) => some ((pfx ++ name ++ "#", Val.int n.toInt.toNat) :: (o1 ++ o2), e2, r2)
  | .wrap body rest, pfx => fun e bs =>
    match P.run decBlob bs with
    | none => none
    | some (inner, r) =>
      match body.read pfx e inner with       -- a sub-stream: what it leaves unread is dropped
      | none => none
      | some (o1, e1, _) =>
        match rest.read pfx e1 r with
        | none => none
        | some (o2, e2, r2) => some (o1 ++ o2, e2, r2)
  | .hdr rest, pfx => fun e bs =>
    match P.run decHeader bs with
    | none => none
    | some (h, r) =>
      match rest.read pfx e r with
      | none => none
      | some (o, e', r') => some (hdrOut pfx h ++ o, e', r')
  | .times n name body rest, pfx => fun e bs =>
    match readElems (fun q => body.read q) pfx name 0 n e bs with
    | none => none
    | some (o1, e1, r1) =>
      match rest.read pfx e1 r1 with
      | none => none
      | some (o2, e2, r2) => some (o1 ++ o2, e2, r2)
  | .sub name body rest, pfx => fun e bs =>
    match body.read (pfx ++ name ++ ".") e bs with
    | none => none
    | some (o1, e1, r1) =>
      match rest.read pfx e1 r1 with
      | none => none
      | some (o2, e2, r2) => some (o1 ++ o2, e2, r2)
  | .kfld name p _ rest, pfx => fun e bs =>
    match p.decode bs with
    | none => none
    | some (v, r) =>
      match rest.read pfx e r with
      | none => none
      | some (o, e', r') => some ((pfx ++ name, v) :: o, e', r')
  | .key name p vn rest, pfx => fun e bs =>
    match p.decode bs with
    | none => none
    | some (v, r) =>
      match rest.read pfx (e.set vn v.toInt) r with
      | none => none
      | some (o, e', r') => some ((pfx ++ name, v) :: o, e', r')
  | .mopt _ name body rest, pfx => fun e bs =>
    match Prim.decode .u8 bs with
    | none => none
    | some (flag, r) =>
      if flag.toInt != 0 then
        match body.read pfx e r with
        | none => none
        | some (o1, e1, r1) =>
          match rest.read pfx e1 r1 with
          | none => none
          | some (o2, e2, r2) => some ((pfx ++ name ++ "?", Val.int 1) :: (o1 ++ o2), e2, r2)
      else
        match rest.read pfx e r with
        | none => none
        | some (o2, e2, r2) => some ((pfx ++ name ++ "?", Val.int 0) :: o2, e2, r2)
  | .vopt vn name body rest, pfx => fun e bs =>
    match Prim.decode .u8 bs with
    | none => none
    | some (flag, r) =>
      if flag.toInt != 0 then
        match body.read pfx (e.set vn flag.toInt) r with
        | none => none
        | some (o1, e1, r1) =>
          match rest.read pfx e1 r1 with
          | none => none
          | some (o2, e2, r2) => some ((pfx ++ name ++ "?", Val.int 1) :: (o1 ++ o2), e2, r2)
      else
        match rest.read pfx (e.set vn 0) r with
        | none => none
        | some (o2, e2, r2) => some ((pfx ++ name ++ "?", Val.int 0) :: o2, e2, r2)
  | .mrep _ name body rest, pfx => fun e bs =>
    match Prim.decode .u8 bs with
    | none => none
    | some (b, r) =>
      let ver := b.toInt
      if ver = 0 then
        match rest.read pfx (e.set "" 0) r with
        | none => none
        | some (o2, e2, r2) => some ((pfx ++ name ++ "#", Val.int 0) :: o2, e2, r2)
      else
        match (if ver ≤ 8 then P.run (decDecimalLen ver.toNat) r else P.run decDecimal r) with
        | none => none
        | some (n, r0) =>
          match readElems (fun q => body.read q) pfx name 0 n.toNat (e.set "" ver) r0 with
          | none => none
          | some (o1, e1, r1) =>
            match rest.read pfx e1 r1 with
            | none => none
            | some (o2, e2, r2) => some ((pfx ++ name ++ "#", Val.int n.toNat) :: (o1 ++ o2), e2, r2)
  | .vrep vn name body rest, pfx => fun e bs =>
    match Prim.decode .u8 bs with
    | none => none
    | some (b, r) =>
      let ver := b.toInt
      if ver = 0 then
        match rest.read pfx (e.set vn 0) r with
        | none => none
        | some (o2, e2, r2) => some ((pfx ++ name ++ "#", Val.int 0) :: o2, e2, r2)
      else
        match (if ver ≤ 8 then P.run (decDecimalLen ver.toNat) r else P.run decDecimal r) with
        | none => none
        | some (n, r0) =>
          match readElems (fun q => body.read q) pfx name 0 n.toNat (e.set vn ver) r0 with
          | none => none
          | some (o1, e1, r1) =>
            match rest.read pfx e1 r1 with
            | none => none
            | some (o2, e2, r2) => some ((pfx ++ name ++ "#", Val.int n.toNat) :: (o1 ++ o2), e2, r2)
  | .srep cnt body rest, pfx => fun e bs =>
    match cnt.decode bs with
    | none => none
    | some (n, r) =>
      match readElems (fun q => body.read q) pfx "" 0 n.toInt.toNat e r with
      | none => none
      | some (_, e1, r1) => rest.read pfx e1 r1
  | .avail body, pfx => fun e bs => if bs.isEmpty then some ([], e, []) else body.read pfx e bs
  | .unknown _, _ => fun _ _ => none

/-- concatenation of layouts (used when a reader-side version test is resolved statically) -/
def L.append : L → L → L
  | .nil, b => b
  | .fld n p g rest, b => .fld n p g (rest.append b)
  | .lit p v rest, b => .lit p v (rest.append b)
  | .skip p rest, b => .skip p (rest.append b)
  | .var n p rest, b => .var n p (rest.append b)
  | .ite c t e rest, b => .ite c t e (rest.append b)
  | .guard c rest, b => .guard c (rest.append b)
  | .opt n body rest, b => .opt n body (rest.append b)
  | .rep c n body rest, b => .rep c n body (rest.append b)
  | .wrap body rest, b => .wrap body (rest.append b)
  | .hdr rest, b => .hdr (rest.append b)
  | .times n nm body rest, b => .times n nm body (rest.append b)
  | .sub nm body rest, b => .sub nm body (rest.append b)
  | .kfld nm p k rest, b => .kfld nm p k (rest.append b)
  | .key nm p v rest, b => .key nm p v (rest.append b)
  | .mopt m nm body rest, b => .mopt m nm body (rest.append b)
  | .vopt v nm body rest, b => .vopt v nm body (rest.append b)
  | .mrep m nm body rest, b => .mrep m nm body (rest.append b)
  | .vrep v nm body rest, b => .vrep v nm body (rest.append b)
  | .srep c body rest, b => .srep c body (rest.append b)
  | .avail body, b => .avail (body.append b)
  | .unknown w, _ => .unknown w

/-- node count; only the fuel of `agrees` -/
def L.size : L → Nat
  | .nil => 1
  | .fld _ _ _ rest => 1 + rest.size
  | .lit _ _ rest => 1 + rest.size
  | .skip _ rest => 1 + rest.size
  | .var _ _ rest => 1 + rest.size
  | .ite _ t e rest => 1 + t.size + e.size + rest.size
  | .guard _ rest => 1 + rest.size
  | .opt _ body rest => 1 + body.size + rest.size
  | .rep _ _ body rest => 1 + body.size + rest.size
  | .wrap body rest => 1 + body.size + rest.size
  | .hdr rest => 1 + rest.size
  | .times _ _ body rest => 1 + body.size + rest.size
  | .sub _ body rest => 1 + body.size + rest.size
  | .kfld _ _ _ rest => 1 + rest.size
  | .key _ _ _ rest => 1 + rest.size
  | .mopt _ _ body rest => 1 + body.size + rest.size
  | .vopt _ _ body rest => 1 + body.size + rest.size
  | .mrep _ _ body rest => 1 + body.size + rest.size
  | .vrep _ _ body rest => 1 + body.size + rest.size
  | .srep _ body rest => 1 + body.size + rest.size
  | .avail body => 1 + body.size
  | .unknown _ => 1

/-- no `avail` at the top level of the sequence or of either branch of an `ite` in it (so that appending
    to it keeps its meaning) -/
def L.noAvail : L → Bool
  | .nil => true
  | .fld _ _ _ rest => rest.noAvail
  | .lit _ _ rest => rest.noAvail
  | .skip _ rest => rest.noAvail
  | .var _ _ rest => rest.noAvail
  | .ite _ t e rest => t.noAvail && e.noAvail && rest.noAvail
  | .guard _ rest => rest.noAvail
  | .opt _ _ rest => rest.noAvail
  | .rep _ _ _ rest => rest.noAvail
  | .wrap _ rest => rest.noAvail
  | .hdr rest => rest.noAvail
  | .times _ _ _ rest => rest.noAvail
  | .sub _ _ rest => rest.noAvail
  | .kfld _ _ _ rest => rest.noAvail
  | .key _ _ _ rest => rest.noAvail
  | .mopt _ _ _ rest => rest.noAvail
  | .vopt _ _ _ rest => rest.noAvail
  | .mrep _ _ _ rest => rest.noAvail
  | .vrep _ _ _ rest => rest.noAvail
  | .srep _ _ rest => rest.noAvail
  | .avail _ => false
  | .unknown _ => true

end Layout
