/-
  Golib.Layout.HeaderProg — the statements of `AbstractPack.Write` / `AbstractPack.Read` as DATA with a
  semantics (tie A, interpreted).

  xlate/c03 transcribes the two function bodies of lang/pack/AbstractPack.go statement by statement
  into `Gen.Packs.AbstractPack.wProg : WS` and `Gen.Packs.AbstractPack.rProg : RS` (anything it does not
  know becomes `.unknown`, whose semantics is "writes nothing" / "fails": every obligation about it then
  fails).  `WS.write` / `RS.toP` below give those statements their meaning; Props/C03Gen proves, for ALL
  headers and ALL inputs, that the meaning is the hand-written model `encHeader` / `decHeader` the layout
  IR uses for `.hdr`.

  Also here: the header's public setters / getters (`SetPCODE`, `SetOID`, `SetOKIND`, `SetONODE`,
  `SetTime`, `GetPCODE`, `GetTime`) and `ToBytesPackECB`'s zero padding.
-/
import Golib.Layout.Header

namespace Layout
open _root_.Prim

def Hdr.get (h : Hdr) (f : String) : Int :=
  if f = "Pcode" then h.pcode else if f = "Oid" then h.oid else if f = "Okind" then h.okind
  else if f = "Onode" then h.onode else if f = "Time" then h.time else 0

/-- assignment `this.f = v`; a name that is not a header field assigns nothing (the value is lost: an
    obligation about such a program fails) -/
def Hdr.set (h : Hdr) (f : String) (v : Int) : Hdr :=
  if f = "Pcode" then { h with pcode := v } else if f = "Oid" then { h with oid := v }
  else if f = "Okind" then { h with okind := v } else if f = "Onode" then { h with onode := v }
  else if f = "Time" then { h with time := v } else h

/-! ### the public accessors of AbstractPack (Pack interface) -/

def Hdr.setPCODE (h : Hdr) (v : Int) : Hdr := { h with pcode := v }
def Hdr.setOID (h : Hdr) (v : Int) : Hdr := { h with oid := v }
def Hdr.setOKIND (h : Hdr) (v : Int) : Hdr := { h with okind := v }
def Hdr.setONODE (h : Hdr) (v : Int) : Hdr := { h with onode := v }
def Hdr.setTime (h : Hdr) (v : Int) : Hdr := { h with time := v }
def Hdr.getPCODE (h : Hdr) : Int := h.pcode
def Hdr.getTime (h : Hdr) : Int := h.time

/-- Go's `(a | b) == 0` for two `int32`: bitwise or of the two's-complement words -/
def or32Zero (a b : Int) : Bool := (BitVec.ofInt 32 a ||| BitVec.ofInt 32 b) == 0#32

theorem ofInt32_eq_zero (a : Int) (h : inRange 4 a) : BitVec.ofInt 32 a = 0#32 ↔ a = 0 := by
  simp only [inRange, modulus] at h
  constructor
  · intro e
    have := congrArg BitVec.toInt e
    rw [BitVec.toInt_ofInt] at this
    simp [Int.bmod] at this
    omega
  · rintro rfl; rfl

/-- the bridge from the transcribed test to the arithmetic model: for int32 values the bitwise or is
    zero iff both are zero -/
theorem or32Zero_eq (a b : Int) (ha : inRange 4 a) (hb : inRange 4 b) :
    or32Zero a b = (a == 0 && b == 0) := by
  unfold or32Zero
  rw [Bool.eq_iff_iff]
  simp only [beq_iff_eq, Bool.and_eq_true, BitVec.or_eq_zero_iff, ofInt32_eq_zero a ha, ofInt32_eq_zero b hb]

/-- the statements of a header writer, continuation style -/
inductive WS where
  | dec (f : String) (k : WS)                       -- dout.WriteDecimal(this.f)
  | int (f : String) (k : WS)                       -- dout.WriteInt(this.f)
  | long (f : String) (k : WS)                      -- dout.WriteLong(this.f)
  | byte (n : Nat) (k : WS)                         -- dout.WriteByte(n)
  | ifOrZero (a b : String) (thn els k : WS)        -- if (this.a | this.b) == 0 { thn } else { els } ; k
  | done
  | unknown (why : String)
deriving DecidableEq, Repr

def WS.write : WS → Hdr → Bytes
  | .dec f k, h => encDecimal (h.get f) ++ k.write h
  | .int f k, h => encI 4 (h.get f) ++ k.write h
  | .long f k, h => encI 8 (h.get f) ++ k.write h
  | .byte n k, h => n :: k.write h
  | .ifOrZero a b thn els k, h =>
    (if or32Zero (h.get a) (h.get b) then thn.write h else els.write h) ++ k.write h
  | .done, _ => []
  | .unknown _, _ => []

/-- no `.unknown` statement -/
def WS.total : WS → Bool
  | .dec _ k | .int _ k | .long _ k | .byte _ k => k.total
  | .ifOrZero _ _ t e k => t.total && e.total && k.total
  | .done => true
  | .unknown _ => false

abbrev NEnv := String → Nat
def NEnv.set (e : NEnv) (n : String) (v : Nat) : NEnv := fun m => if m = n then v else e m
def nenv0 : NEnv := fun _ => 0

/-- the statements of a header reader.  `ifLe v n thn els`: `if v <= n { thn; return }` followed by
    `els` (the translator only emits it when the then-block ends in `return`) -/
inductive RS where
  | byteVar (v : String) (k : RS)                   -- v := din.ReadByte()
  | decLen (f v : String) (k : RS)                  -- this.f = din.ReadDecimalLen(int(v))
  | dec (f : String) (k : RS)                       -- this.f = din.ReadDecimal()
  | int (f : String) (k : RS)                       -- this.f = din.ReadInt()
  | long (f : String) (k : RS)                      -- this.f = din.ReadLong()
  | ifLe (v : String) (n : Nat) (thn els : RS)
  | done
  | unknown (why : String)
deriving DecidableEq, Repr

/-- reading INTO the object `h` (fields not assigned keep their content) -/
def RS.toP : RS → NEnv → Hdr → P Hdr
  | .byteVar v k, e, h => .read 1 (fun b => k.toP (e.set v (b.headD 0)) h)
  | .decLen f v k, e, h => P.bind (decDecimalLen (e v)) (fun x => k.toP e (h.set f x))
  | .dec f k, e, h => P.bind decDecimal (fun x => k.toP e (h.set f x))
  | .int f k, e, h => P.bind (rdI 4) (fun x => k.toP e (h.set f x))
  | .long f k, e, h => P.bind (rdI 8) (fun x => k.toP e (h.set f x))
  | .ifLe v n thn els, e, h => if e v ≤ n then thn.toP e h else els.toP e h
  | .done, _, h => .pure h
  | .unknown _, _, _ => .fail

/-! ### ToBytesPackECB: the encoding padded with zero bytes to a multiple of the block length -/

/-- `ToBytesPackECB(p, fmtLen)`: `remainder := size % fmtLen; if remainder != 0 { append fmtLen-remainder zero bytes }` -/
def ecbPad (n : Nat) (bs : Bytes) : Bytes :=
  if bs.length % n = 0 then bs else bs ++ List.replicate (n - bs.length % n) 0

def ecbTail (n : Nat) (bs : Bytes) : Bytes :=
  if bs.length % n = 0 then [] else List.replicate (n - bs.length % n) 0

theorem ecbPad_eq (n : Nat) (bs : Bytes) : ecbPad n bs = bs ++ ecbTail n bs := by
  unfold ecbPad ecbTail; split <;> simp

theorem ecbPad_length (n : Nat) (hn : 0 < n) (bs : Bytes) : (ecbPad n bs).length % n = 0 := by
  unfold ecbPad
  split
  · assumption
  · rw [List.length_append, List.length_replicate]
    have hlt := Nat.mod_lt bs.length hn
    have hd := Nat.div_add_mod bs.length n
    have : bs.length + (n - bs.length % n) = n * (bs.length / n + 1) := by
      rw [Nat.mul_add, Nat.mul_one]; omega
    rw [this]; exact Nat.mul_mod_right _ _

theorem ecbTail_zero (n : Nat) (bs : Bytes) : ∀ b ∈ ecbTail n bs, b = 0 := by
  unfold ecbTail; split
  · intro b hb; cases hb
  · intro b hb; exact (List.mem_replicate.mp hb).2

end Layout
