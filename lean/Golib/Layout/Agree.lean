/-
  Golib.Layout.Agree — when do a writer layout and a reader layout agree, and what follows.

  `agree w r` is a decidable comparison of the transcription `w` of a `Write` body with the
  transcription `r` of the matching `Read` body.  It walks the two in lockstep and demands the same
  primitive, the same field and the same Go range at every position (the tagged-map idiom below
  compares neither range); it knows the idioms by which the real readers differ textually from
  their writers:

    * writer emits a constant, reader discards it                      (`lit` ~ `skip`)
    * writer emits a constant, reader binds it to a local and later
      branches on that local: the branch is resolved with the constant  (`lit` ~ `var`, static `ite`)
    * writer emits a parameter (`version`), reader binds a local (`ver`):
      conditions are compared modulo that renaming                      (`var` ~ `var`, dynamic `ite`)
    * writer emits a tagged map (`WriteValue`), reader discards one byte
      and reads the map body                                            (`fld mapV` ~ `skip u8; fld mapBody`)

  and further a reader `guard` or `avail`, `kfld` ~ `key`, `mopt` ~ `vopt`, `mrep` ~ `vrep`, `rep dec` ~
  `vrep` and `lit 0` ~ `srep`, whose constructors are in the table of Golib.Layout.IR.

  `agree_sound` (proved once, by induction): if the layouts agree then reading what was written
  yields exactly the carried fields `w.expect` and consumes exactly the bytes written, for every
  record meeting the explicit guards `w.WF`, every continuation of the input and every path prefix.
-/
import Golib.Layout.PrimRT
import Golib.Layout.Reader

namespace Layout
open _root_.Prim

abbrev SEnv := List (String × Int)       -- reader local ↦ the constant the writer emitted for it
abbrev DEnv := List (String × String)    -- (writer parameter, reader local) known to hold the same value

/-- `n` is neither a static nor the reader side of a dynamic binding -/
def fresh (n : String) (s : SEnv) (d : DEnv) : Bool :=
  (s.lookup n).isNone && d.all (fun p => p.2 != n)

/-- the same test on a writer parameter and a reader local known to hold the same value -/
def condMatch (d : DEnv) (cw cr : Cond) : Bool :=
  cw.op == cr.op && cw.n == cr.n && d.contains (cw.var, cr.var)

/-- the writer certainly emits at least one byte here (a presence flag) -/
def nonEmptyHead : L → Bool
  | .opt _ _ _ => true
  | .mopt _ _ _ _ => true
  | _ => false

def agree : Nat → L → L → SEnv → DEnv → Bool
  | 0, _, _, _, _ => false
  | f+1, w, .ite c t e rest, s, d =>
    match s.lookup c.var with
    | some v => (if c.test v then t else e).noAvail && agree f w ((if c.test v then t else e).append rest) s d
    | none =>
      match w with
      | .ite cw tw ew restw =>
        condMatch d cw c && agree f tw t s d && agree f ew e s d && agree f restw rest s d
      | _ => false
  | f+1, w, .guard c r, s, d =>
    match s.lookup c.var with
    | some v => !c.test v && agree f w r s d
    | none => false
  | f+1, w, .avail r, s, d => nonEmptyHead w && agree f w r s d
  | _+1, .nil, .nil, _, _ => true
  | f+1, .fld n p g w, .fld n' p' g' r, s, d => n == n' && p == p' && g == g' && agree f w r s d
  | f+1, .fld n p _ w, .skip q r, s, d =>
    -- a tagged map written whole; the reader discards the tag byte, then reads the body
    match q, r with
    | .u8, .fld n' p' _ r' => n == n' && Prim.untag p == some p' && agree f w r' s d
    | _, _ => false
  | f+1, .lit p _ w, .skip p' r, s, d => p == p' && agree f w r s d
  | f+1, .lit p v w, .var n p' r, s, d => p == p' && fresh n s d && agree f w r ((n, v) :: s) d
  | f+1, .var a p w, .var b p' r, s, d => p == p' && fresh b s d && agree f w r s ((a, b) :: d)
  | f+1, .opt n b w, .opt n' b' r, s, d => n == n' && agree f b b' s d && agree f w r s d
  | f+1, .rep c n b w, .rep c' n' b' r, s, d =>
    c == c' && n == n' && agree f b b' s d && agree f w r s d
  | f+1, .wrap b w, .wrap b' r, s, d => agree f b b' s d && agree f w r s d
  | f+1, .hdr w, .hdr r, s, d => agree f w r s d
  | f+1, .times n nm b w, .times n' nm' b' r, s, d =>
    n == n' && nm == nm' && agree f b b' s d && agree f w r s d
  | f+1, .sub nm b w, .sub nm' b' r, s, d => nm == nm' && agree f b b' s d && agree f w r s d
  | f+1, .kfld nm p k w, .key nm' p' v r, s, d =>
    nm == nm' && p == p' && fresh v s d && agree f w r ((v, k) :: s) d
  | f+1, .mopt m nm b w, .vopt v nm' b' r, s, d =>
    nm == nm' && decide (1 ≤ m ∧ m < 256) && fresh v s d && agree f b b' ((v, (m : Int)) :: s) d && agree f w r s d
  | f+1, .mrep m nm b w, .vrep v nm' b' r, s, d =>
    nm == nm' && decide (9 ≤ m ∧ m < 256) && fresh v s d && agree f b b' ((v, (m : Int)) :: s) d && agree f w r s d
  | f+1, .rep c nm b w, .vrep v nm' b' r, s, d =>
    c == .dec && nm == nm' && fresh v s d && agree f b b' s d && agree f w r s d
  | f+1, .lit p v w, .srep p' _ r, s, d => p == p' && v == 0 && agree f w r s d
  | _+1, _, _, _, _ => false

/-- the comparison used by the generated obligations; the fuel is meant to cover every unfolding, and
    with too little of it the answer is `false`, the safe side -/
def agrees (w r : L) : Bool := agree (w.size + 2 * r.size + 1) w r [] []

theorem agree_succ {f : Nat} {w r : L} {s : SEnv} {d : DEnv} (h : agree f w r s d = true) :
    agree (f + 1) w r s d = true := by
  fun_induction agree f w r s d
  -- no fuel, or a pair of shapes `agree` does not know
  case case1 | case4 | case6 | case11 | case26 => cases h
  -- every other clause is a conjunction of tests that ignore the fuel and of recursive calls
  all_goals
    simp only [agree, Bool.and_eq_true, *] at h ⊢
    try simp_all only [forall_const, and_self]

/-- more fuel never turns a `true` into a `false`: the answer `true` of `agrees` does not depend on how the
    fuel was chosen -/
theorem agree_mono {f f' : Nat} {w r : L} {s : SEnv} {d : DEnv} (hf : f ≤ f') (h : agree f w r s d = true) :
    agree f' w r s d = true := by
  induction hf with
  | refl => exact h
  | step _ ih => exact agree_succ ih

def rngOk (g : Rng) (v : Val) : Prop :=
  match v with
  | .int i => g.ok i
  | _ => g = .any

def L.WF (vr : ValueRT) : L → Env → String → Rec → Prop
  | .nil, _, _, _ => True
  | .fld name p g rest, e, pfx, x =>
      Prim.wf vr p (x (pfx ++ name)) ∧ rngOk g (x (pfx ++ name)) ∧ rest.WF vr e pfx x
  | .lit p v rest, e, pfx, x => Prim.wf vr p (.int v) ∧ rest.WF vr e pfx x
  | .skip _ rest, e, pfx, x => rest.WF vr e pfx x
  | .var name p rest, e, pfx, x => Prim.wf vr p (.int (e name)) ∧ rest.WF vr e pfx x
  | .ite c t el rest, e, pfx, x =>
      (if c.eval e then t.WF vr e pfx x else el.WF vr e pfx x) ∧ rest.WF vr e pfx x
  | .guard _ rest, e, pfx, x => rest.WF vr e pfx x
  | .opt name body rest, e, pfx, x =>
      (present pfx name x = true → body.WF vr e pfx x) ∧ rest.WF vr e pfx x
  | .rep cnt name body rest, e, pfx, x =>
      Prim.wf vr cnt (.int (countOf pfx name x)) ∧
      (∀ i, i < countOf pfx name x → body.WF vr e (elemPfx pfx name i) x) ∧ rest.WF vr e pfx x
  | .wrap body rest, e, pfx, x =>
      body.WF vr e pfx x ∧ (body.write e pfx x).length < 2147483648 ∧ rest.WF vr e pfx x
  | .hdr rest, e, pfx, x => (hdrOf pfx x).WF ∧ rest.WF vr e pfx x
  | .times n name body rest, e, pfx, x =>
      (∀ i, i < n → body.WF vr e (elemPfx pfx name i) x) ∧ rest.WF vr e pfx x
  | .sub name body rest, e, pfx, x => body.WF vr e (pfx ++ name ++ ".") x ∧ rest.WF vr e pfx x
  | .kfld name p k rest, e, pfx, x =>
      Prim.wf vr p (x (pfx ++ name)) ∧ x (pfx ++ name) = .int k ∧ rest.WF vr e pfx x
  | .key name p _ rest, e, pfx, x => Prim.wf vr p (x (pfx ++ name)) ∧ rest.WF vr e pfx x
  | .mopt _ name body rest, e, pfx, x =>
      (present pfx name x = true → body.WF vr e pfx x) ∧ rest.WF vr e pfx x
  | .vopt _ name body rest, e, pfx, x =>
      (present pfx name x = true → body.WF vr e pfx x) ∧ rest.WF vr e pfx x
  | .mrep _ name body rest, e, pfx, x =>
      (present pfx name x = false → countOf pfx name x = 0) ∧ inRange 8 (countOf pfx name x : Int) ∧
      (∀ i, i < countOf pfx name x → body.WF vr e (elemPfx pfx name i) x) ∧ rest.WF vr e pfx x
  | .vrep _ name body rest, e, pfx, x =>
      inRange 8 (countOf pfx name x : Int) ∧
      (∀ i, i < countOf pfx name x → body.WF vr e (elemPfx pfx name i) x) ∧ rest.WF vr e pfx x
  | .srep cnt _ rest, e, pfx, x => Prim.wf vr cnt (.int 0) ∧ rest.WF vr e pfx x
  | .avail body, e, pfx, x => body.WF vr e pfx x
  | .unknown _, _, _, _ => False

open RDec

theorem read_append (a b : L) (h : a.noAvail = true) (pfx : String) :
    (a.append b).read pfx = seq (a.read pfx) (b.read pfx) := by
  induction a with
  | avail => cases h
  | _ =>
    -- each clause of `read` is a combinator, and `andThen` moves inside every one of them
    simp only [L.noAvail, Bool.and_eq_true] at h
    simp only [*, L.append, read_nil, read_fld, read_kfld, read_key, read_lit, read_skip, read_var, read_ite,
        read_guard, read_vopt, read_opt, read_mopt, read_rep, read_srep, read_times, read_sub, read_wrap,
        read_hdr, read_vrep, read_mrep, read_unknown, seq, ret_andThen, andThen_ret, andThen_assoc,
        prim_andThen, cond_andThen, bindLocal_andThen, within_andThen, fail_andThen, List.append_assoc,
        List.cons_append, List.nil_append]

/-! ### the invariant relating the reader's locals to the writer's constants and parameters -/

def Inv (E ER : Env) (s : SEnv) (d : DEnv) : Prop :=
  (∀ n v, s.lookup n = some v → ER n = v) ∧ (∀ a b, (a, b) ∈ d → ER b = E a)

theorem Inv.nil (E ER : Env) : Inv E ER [] [] := ⟨by intro n v h; simp at h, by intro a b h; simp at h⟩

theorem fresh_spec {n : String} {s : SEnv} {d : DEnv} (h : fresh n s d = true) :
    s.lookup n = none ∧ ∀ a b, (a, b) ∈ d → b ≠ n := by
  simp only [fresh, Bool.and_eq_true, Option.isNone_iff_eq_none, List.all_eq_true, bne_iff_ne] at h
  exact ⟨h.1, fun a b hab => h.2 (a, b) hab⟩

/-- binding a fresh local touches nothing the invariant speaks of -/
theorem Inv.setFresh {E ER : Env} {s : SEnv} {d : DEnv} {n : String} (v : Int)
    (hf : fresh n s d = true) (h : Inv E ER s d) : Inv E (ER.set n v) s d := by
  obtain ⟨hs, hd⟩ := fresh_spec hf
  refine ⟨fun m u hm => ?_, fun a b hab => ?_⟩
  · have : m ≠ n := fun e => by rw [e, hs] at hm; cases hm
    simp only [Env.set, this, if_false]
    exact h.1 m u hm
  · simp only [Env.set, hd a b hab, if_false]
    exact h.2 a b hab

theorem Inv.bindStatic {E ER : Env} {s : SEnv} {d : DEnv} {n : String} (v : Int)
    (hf : fresh n s d = true) (h : Inv E ER s d) : Inv E (ER.set n v) ((n, v) :: s) d := by
  have h' := h.setFresh v hf
  refine ⟨fun m u hm => ?_, h'.2⟩
  rw [List.lookup_cons] at hm
  split at hm
  · next e => cases hm; simp [Env.set, eq_of_beq e]
  · exact h'.1 m u hm

theorem Inv.bindDyn {E ER : Env} {s : SEnv} {d : DEnv} {a b : String}
    (hf : fresh b s d = true) (h : Inv E ER s d) : Inv E (ER.set b (E a)) s ((a, b) :: d) := by
  have h' := h.setFresh (E a) hf
  refine ⟨h'.1, fun a' b' hab => ?_⟩
  rcases List.mem_cons.mp hab with e | hab
  · cases e; simp [Env.set]
  · exact h'.2 a' b' hab

theorem Inv.dropStatic {E ER : Env} {s : SEnv} {d : DEnv} {n : String} {v : Int}
    (hf : fresh n s d = true) (h : Inv E ER ((n, v) :: s) d) : Inv E ER s d := by
  refine ⟨fun m u hm => h.1 m u ?_, h.2⟩
  have : (m == n) = false := beq_false_of_ne fun e => by rw [e, (fresh_spec hf).1] at hm; cases hm
  rw [List.lookup_cons, this]
  exact hm

theorem Inv.dropDyn {E ER : Env} {s : SEnv} {d : DEnv} {p : String × String}
    (h : Inv E ER s (p :: d)) : Inv E ER s d :=
  ⟨h.1, fun a b hab => h.2 a b (List.mem_cons_of_mem _ hab)⟩

theorem condMatch_eval {E ER : Env} {s : SEnv} {d : DEnv} {cw cr : Cond}
    (hm : condMatch d cw cr = true) (h : Inv E ER s d) : cw.eval E = cr.eval ER := by
  simp only [condMatch, Bool.and_eq_true, beq_iff_eq, List.contains_iff_mem] at hm
  obtain ⟨⟨hop, hn⟩, hmem⟩ := hm
  have := h.2 _ _ hmem
  simp only [Cond.eval, Cond.test, hop, hn, this]

/-- `a`, started in `ER` on `bs` followed by anything, assigns exactly `o`, consumes exactly `bs` and
    ends in an environment satisfying `Q` -/
def Reads (a : RDec) (ER : Env) (bs : Bytes) (o : Out) (Q : Env → Prop) : Prop :=
  ∀ rest, ∃ ER', a ER (bs ++ rest) = some (o, ER', rest) ∧ Q ER'

namespace Reads
variable {a b : RDec} {k : Out → RDec} {ER : Env} {bs b1 b2 : Bytes} {o o1 o2 : Out} {Q R : Env → Prop}

theorem ret (h : Q ER) : Reads (ret o) ER [] o Q := fun _ => ⟨ER, rfl, h⟩

theorem mono (ha : Reads a ER bs o Q) (hQ : ∀ e, Q e → R e) : Reads a ER bs o R := fun rest =>
  let ⟨ER', h, q⟩ := ha rest
  ⟨ER', h, hQ _ q⟩

theorem andThen (ha : Reads a ER b1 o1 Q) (hk : ∀ ER1, Q ER1 → Reads (k o1) ER1 b2 o R) :
    Reads (a.andThen k) ER (b1 ++ b2) o R := by
  intro rest
  obtain ⟨ER1, h1, q1⟩ := ha (b2 ++ rest)
  simp only [RDec.andThen, List.append_assoc, h1]
  exact hk ER1 q1 rest

theorem map {f : Out → Out} (ha : Reads a ER bs o Q) : Reads (a.andThen fun o => RDec.ret (f o)) ER bs (f o) Q := by
  intro rest
  obtain ⟨ER1, h1, q1⟩ := ha rest
  exact ⟨ER1, by simp only [RDec.andThen, h1, RDec.ret], q1⟩

theorem seq (ha : Reads a ER b1 o1 Q) (hb : ∀ ER1, Q ER1 → Reads b ER1 b2 o2 R) :
    Reads (seq a b) ER (b1 ++ b2) (o1 ++ o2) R :=
  ha.andThen fun ER1 q1 => (hb ER1 q1).map

theorem prim {d : Dec α} {k : α → RDec} {v : α} (hd : ∀ r, d (b1 ++ r) = some (v, r))
    (hk : Reads (k v) ER b2 o Q) : Reads (prim d k) ER (b1 ++ b2) o Q := by
  intro rest
  simp only [RDec.prim, List.append_assoc, hd]
  exact hk rest

theorem cond_pos {c : Env → Prop} [DecidablePred c] (hc : c ER) (ha : Reads a ER bs o Q) :
    Reads (cond c a b) ER bs o Q := by
  intro rest
  simp only [RDec.cond, hc, if_true]
  exact ha rest

theorem cond_neg {c : Env → Prop} [DecidablePred c] (hc : ¬ c ER) (hb : Reads b ER bs o Q) :
    Reads (cond c a b) ER bs o Q := by
  intro rest
  simp only [RDec.cond, hc, if_false]
  exact hb rest

theorem within (ha : Reads a ER b1 o1 Q) (hk : ∀ ER1, Q ER1 → Reads (k o1) ER1 b2 o R) :
    Reads (within b1 a k) ER b2 o R := by
  intro rest
  obtain ⟨ER1, h1, q1⟩ := ha []
  rw [List.append_nil] at h1
  simp only [RDec.within, h1]
  exact hk ER1 q1 rest

end Reads

/-- what `agree_sound` promises for one pair of layouts, for all inputs -/
def Sound (vr : ValueRT) (w r : L) (s : SEnv) (d : DEnv) : Prop :=
  ∀ (E ER : Env) (pfx : String) (x : Rec), Inv E ER s d → w.WF vr E pfx x →
    Reads (r.read pfx) ER (w.write E pfx x) (w.expect E pfx x) (Inv E · s d)

theorem elems_sound {vr : ValueRT} {bw br : L} {s : SEnv} {d : DEnv} (hb : Sound vr bw br s d)
    {E : Env} {pfx name : String} {x : Rec} (n : Nat) :
    ∀ {i : Nat} {ER : Env}, Inv E ER s d →
      (∀ j, i ≤ j → j < i + n → bw.WF vr E (elemPfx pfx name j) x) →
      Reads (readElems (fun q => br.read q) pfx name i n) ER
        (writeElems (fun q => bw.write E q x) pfx name i n)
        (expectElems (fun q => bw.expect E q x) pfx name i n) (Inv E · s d) := by
  induction n with
  | zero => exact fun hI _ => .ret hI
  | succ n ih =>
    intro i ER hI hwf
    exact .seq (hb E ER _ x hI (hwf i (Nat.le_refl _) (by omega)))
      fun ER1 h1 => ih h1 fun j hj1 hj2 => hwf j (by omega) (by omega)

/-- a reader-side version test whose local was bound to a writer constant is resolved statically -/
theorem static_ite (vr : ValueRT) {w t e rr : L} {c : Cond} {s : SEnv} {d : DEnv} {v : Int}
    (hl : s.lookup c.var = some v) (hna : (if c.test v then t else e).noAvail = true)
    (hs : Sound vr w ((if c.test v then t else e).append rr) s d) : Sound vr w (.ite c t e rr) s d := by
  intro E ER pfx x hI hwf rest
  have h1 := hs E ER pfx x hI hwf rest
  have hc : c.eval ER = c.test v := by simp only [Cond.eval]; rw [hI.1 _ _ hl]
  rw [read_append _ _ hna] at h1
  rw [read_ite]
  simp only [seq, RDec.andThen, RDec.cond, hc] at h1 ⊢
  cases hv : c.test v <;> simp only [hv, Bool.false_eq_true, if_true, if_false] at h1 ⊢ <;> exact h1

theorem nonEmptyHead_write {w : L} (h : nonEmptyHead w = true) (E : Env) (pfx : String) (x : Rec) (rest : Bytes) :
    (w.write E pfx x ++ rest).isEmpty = false := by
  revert h
  fun_cases nonEmptyHead w <;> intro h
  case case3 => cases h
  all_goals
    simp only [L.write]
    split <;> simp

theorem u8_cons (vr : ValueRT) (b : Nat) (r : Bytes) (h : b < 256) :
    Prim.decode .u8 (b :: r) = some (.int b, r) := by
  have := Prim.rt vr .u8 (.int b) r (by simp [Prim.wf]; omega)
  simpa [Prim.encode, beN, Nat.mod_eq_of_lt h] using this

theorem decCount_big {ver : Int} (h : 8 < ver) : decCount ver = P.run decDecimal := by
  funext bs
  simp only [decCount, Int.not_le.mpr h, if_false]

theorem agree_sound (vr : ValueRT) (f : Nat) (w r : L) (s : SEnv) (d : DEnv)
    (h : agree f w r s d = true) : Sound vr w r s d := by
  fun_induction agree f w r s d
  -- no fuel, or a pair of shapes `agree` does not know
  case case1 | case4 | case6 | case11 | case26 => cases h
  any_goals simp only [Bool.and_eq_true, beq_iff_eq, decide_eq_true_eq] at h
  -- reader `ite` on a local bound to a constant: resolved, the branch taken spliced in front of `rest`
  case case2 hl ih => exact static_ite vr hl h.1 (ih h.2)
  -- `ite` ~ `ite`, conditions equal up to the renaming `d`
  case case3 cw tw ew restw iht ihe ihr =>
    obtain ⟨⟨⟨hcm, ht⟩, he⟩, hrest⟩ := h
    intro E ER pfx x hI ⟨hwf1, hwf2⟩
    have hc := condMatch_eval hcm hI
    rw [read_ite]
    refine .seq ?_ fun ER1 h1 => ihr hrest E ER1 pfx x h1 hwf2
    cases hcv : cw.eval E <;> simp only [hcv, Bool.false_eq_true, if_false, if_true] at hwf1 ⊢
    · exact .cond_neg (by rw [← hc, hcv]; exact Bool.false_ne_true) (ihe he E ER pfx x hI hwf1)
    · exact .cond_pos (by rw [← hc, hcv]) (iht ht E ER pfx x hI hwf1)
  -- reader `guard` on a local bound to a constant: it does not fire
  case case5 c _ _ _ v hl ih =>
    intro E ER pfx x hI hwf
    rw [read_guard]
    refine .cond_neg ?_ (ih h.2 E ER pfx x hI hwf)
    rw [Cond.eval, hI.1 _ _ hl]
    simpa using h.1
  -- reader `avail`: the writer still has a byte to emit
  case case7 ih =>
    intro E ER pfx x hI hwf rest
    rw [read_avail]
    simp only [atEnd, nonEmptyHead_write h.1 E pfx x rest, Bool.false_eq_true, if_false]
    exact ih h.2 E ER pfx x hI hwf rest
  -- `nil` ~ `nil`
  case case8 => exact fun E ER pfx x hI _ => .ret hI
  -- `fld` ~ `fld`
  case case9 p _ _ _ _ _ _ _ _ ih =>
    obtain ⟨⟨⟨rfl, rfl⟩, rfl⟩, hrest⟩ := h
    intro E ER pfx x hI ⟨hp, _, hwf2⟩
    rw [read_fld]
    exact .prim (Prim.rt vr p _ · hp) (.map (ih hrest E ER pfx x hI hwf2))
  case case10 p _ w _ _ _ p' _ _ ih =>
    -- `fld mapV` ~ `skip u8; fld mapBody`: a tagged map written whole; the reader discards the tag byte, then
    -- reads the body
    obtain ⟨⟨rfl, hu⟩, hrest⟩ := h
    intro E ER pfx x hI ⟨hp, _, hwf2⟩
    obtain ⟨t, tl, he, ht, hd⟩ := Prim.untag_rt vr p p' _ hu hp
    rw [read_skip, read_fld]
    simp only [L.write, he]
    exact .prim (b1 := [t]) (u8_cons vr t · ht) (.prim hd (.map (ih hrest E ER pfx x hI hwf2)))
  -- `lit` ~ `skip`
  case case12 p _ _ _ _ _ _ ih =>
    obtain ⟨rfl, hrest⟩ := h
    intro E ER pfx x hI ⟨hp, hwf2⟩
    rw [read_skip]
    exact .prim (Prim.rt vr p _ · hp) (ih hrest E ER pfx x hI hwf2)
  -- `lit` ~ `var`: a static binding
  case case13 p v _ n _ _ _ _ ih =>
    obtain ⟨⟨rfl, hf⟩, hrest⟩ := h
    intro E ER pfx x hI ⟨hp, hwf2⟩
    rw [read_var]
    exact .prim (Prim.rt vr p _ · hp) (.mono (ih hrest E (ER.set n v) pfx x (hI.bindStatic v hf) hwf2)
      fun _ h => h.dropStatic hf)
  -- `var` ~ `var`: a dynamic binding
  case case14 a p _ b _ _ _ _ ih =>
    obtain ⟨⟨rfl, hf⟩, hrest⟩ := h
    intro E ER pfx x hI ⟨hp, hwf2⟩
    rw [read_var]
    exact .prim (Prim.rt vr p _ · hp) (.mono (ih hrest E (ER.set b (E a)) pfx x (hI.bindDyn hf) hwf2)
      fun _ h => h.dropDyn)
  -- `opt` ~ `opt`
  case case15 n _ _ _ _ _ _ _ ihb ihr =>
    obtain ⟨⟨rfl, hb⟩, hrest⟩ := h
    intro E ER pfx x hI ⟨hwf1, hwf2⟩
    rw [read_opt]
    simp only [L.write, L.expect]
    cases hp : present pfx n x <;> simp only [Bool.false_eq_true, if_false, if_true]
    · exact .prim (b1 := [0]) (u8_cons vr 0 · (by decide))
        (.cond_neg (by decide) (.map (ihr hrest E ER pfx x hI hwf2)))
    · exact .prim (b1 := [1]) (u8_cons vr 1 · (by decide)) (.cond_pos (by decide)
        (.andThen (ihb hb E ER pfx x hI (hwf1 hp)) fun ER1 h1 => .map (ihr hrest E ER1 pfx x h1 hwf2)))
  -- `rep` ~ `rep`
  case case16 c n _ _ _ _ _ _ _ _ ihb ihr =>
    obtain ⟨⟨⟨rfl, rfl⟩, hb⟩, hrest⟩ := h
    intro E ER pfx x hI ⟨hc, hwf1, hwf2⟩
    rw [read_rep]
    exact .prim (Prim.rt vr c _ · hc) (.andThen
      (elems_sound (ihb hb) (countOf pfx n x) hI fun j _ hj => hwf1 j (by omega))
      fun ER1 h1 => .map (ihr hrest E ER1 pfx x h1 hwf2))
  -- `wrap` ~ `wrap`
  case case17 ihb ihr =>
    intro E ER pfx x hI ⟨hwf1, hlen, hwf2⟩
    rw [read_wrap]
    exact .prim (run_decBlob _ · hlen) (.within (ihb h.1 E ER pfx x hI hwf1)
      fun ER1 h1 => .map (ihr h.2 E ER1 pfx x h1 hwf2))
  -- `hdr` ~ `hdr`
  case case18 ih =>
    intro E ER pfx x hI ⟨hh, hwf2⟩
    rw [read_hdr]
    exact .prim (header_roundtrip _ · hh) (.map (ih h E ER pfx x hI hwf2))
  -- `times` ~ `times`
  case case19 ihb ihr =>
    obtain ⟨⟨⟨rfl, rfl⟩, hb⟩, hrest⟩ := h
    intro E ER pfx x hI ⟨hwf1, hwf2⟩
    rw [read_times]
    exact .seq (elems_sound (ihb hb) _ hI fun j _ hj => hwf1 j (by omega))
      fun ER1 h1 => ihr hrest E ER1 pfx x h1 hwf2
  -- `sub` ~ `sub`
  case case20 ihb ihr =>
    obtain ⟨⟨rfl, hb⟩, hrest⟩ := h
    intro E ER pfx x hI ⟨hwf1, hwf2⟩
    rw [read_sub]
    exact .seq (ihb hb E ER _ x hI hwf1) fun ER1 h1 => ihr hrest E ER1 pfx x h1 hwf2
  -- `kfld` ~ `key`: a static binding
  case case21 nm p k _ _ _ v _ _ _ ih =>
    obtain ⟨⟨⟨rfl, rfl⟩, hf⟩, hrest⟩ := h
    intro E ER pfx x hI ⟨hp, hk, hwf2⟩
    rw [read_key]
    simp only [L.write, L.expect]
    rw [hk] at hp ⊢
    exact .prim (Prim.rt vr p _ · hp) (.mono (.map (ih hrest E (ER.set v k) pfx x (hI.bindStatic k hf) hwf2))
      fun _ h => h.dropStatic hf)
  -- `mopt` ~ `vopt`: the marker is bound statically inside the section
  case case22 m nm _ _ v _ _ _ _ _ ihb ihr =>
    obtain ⟨⟨⟨⟨rfl, hm⟩, hf⟩, hb⟩, hrest⟩ := h
    intro E ER pfx x hI ⟨hwf1, hwf2⟩
    rw [read_vopt]
    simp only [L.write, L.expect]
    cases hp : present pfx nm x <;> simp only [Bool.false_eq_true, if_false, if_true]
    · exact .prim (b1 := [0]) (u8_cons vr 0 · (by decide))
        (.cond_neg (by decide) (.map (ihr hrest E (ER.set v 0) pfx x (hI.setFresh 0 hf) hwf2)))
    · exact .prim (b1 := [m]) (u8_cons vr m · hm.2) (.cond_pos (by simp [Val.toInt]; omega)
        (.andThen (ihb hb E (ER.set v m) pfx x (hI.bindStatic m hf) (hwf1 hp)) fun ER1 h1 =>
          .map (ihr hrest E ER1 pfx x (h1.dropStatic hf) hwf2)))
  -- `mrep` ~ `vrep`: a marker ≥ 9, so a decimal count follows
  case case23 m nm _ _ v _ _ _ _ _ ihb ihr =>
    obtain ⟨⟨⟨⟨rfl, hm⟩, hf⟩, hb⟩, hrest⟩ := h
    intro E ER pfx x hI ⟨hz, hc, hwf1, hwf2⟩
    rw [read_vrep]
    simp only [L.write, L.expect]
    cases hp : present pfx nm x <;> simp only [Bool.false_eq_true, if_false, if_true]
    · rw [hz hp]
      exact .prim (b1 := [0]) (u8_cons vr 0 · (by decide))
        (.cond_pos rfl (.map (ihr hrest E (ER.set v 0) pfx x (hI.setFresh 0 hf) hwf2)))
    · simp only [List.cons_append, List.append_assoc]
      refine .prim (b1 := [m]) (u8_cons vr m · hm.2) (.cond_neg (by simp [Val.toInt]; omega) ?_)
      rw [decCount_big (by simp only [Val.toInt]; omega)]
      exact .prim (run_decDecimal _ · hc) (.andThen
        (elems_sound (ihb hb) (countOf pfx nm x) (hI.bindStatic m hf) fun j _ hj => hwf1 j (by omega)) fun ER1 h1 =>
          .map (ihr hrest E ER1 pfx x (h1.dropStatic hf) hwf2))
  case case24 c nm _ _ v _ _ _ _ _ ihb ihr =>
    -- `rep dec` ~ `vrep`: the length byte (≤ 8) of the decimal count is what the reader takes for the marker
    obtain ⟨⟨⟨⟨rfl, rfl⟩, hf⟩, hb⟩, hrest⟩ := h
    intro E ER pfx x hI ⟨hc, hwf1, hwf2⟩
    obtain ⟨c, tl, he, hc8, h0, hrun⟩ := encDecimal_split (countOf pfx nm x : Int) hc
    rw [read_vrep]
    simp only [L.write, L.expect, Prim.encode, he, List.cons_append]
    refine .prim (b1 := [c]) (u8_cons vr c · (by omega)) ?_
    by_cases hc0 : c = 0
    · obtain ⟨hn, rfl⟩ := h0 hc0
      have hn : countOf pfx nm x = 0 := by omega
      subst hc0
      rw [hn]
      exact .cond_pos rfl (.map (ihr hrest E (ER.set v 0) pfx x (hI.setFresh 0 hf) hwf2))
    · have hd : ∀ r, decCount (Val.int c).toInt (tl ++ r) = some ((countOf pfx nm x : Int), r) := fun r => by
        have e8 : (c : Int) ≤ 8 := by omega
        simp only [decCount, Val.toInt, e8, if_true, Int.toNat_natCast]
        exact hrun r
      exact .cond_neg (by simp only [Val.toInt]; omega) (.prim hd (.andThen
        (elems_sound (ihb hb) (countOf pfx nm x) (hI.setFresh c hf) fun j _ hj => hwf1 j (by omega))
        fun ER1 h1 => .map (ihr hrest E ER1 pfx x h1 hwf2)))
  -- `lit 0` ~ `srep`: no rows
  case case25 p _ _ _ _ _ _ _ ih =>
    obtain ⟨⟨rfl, rfl⟩, hrest⟩ := h
    intro E ER pfx x hI ⟨hp, hwf2⟩
    rw [read_srep]
    exact .prim (Prim.rt vr p _ · hp) (ih hrest E ER pfx x hI hwf2)

/-- **the generic round trip**: layouts that agree round-trip every well-formed record -/
theorem agree_roundtrip (vr : ValueRT) (w r : L) (h : agrees w r = true)
    (E : Env) (pfx : String) (x : Rec) (rest : Bytes) (hwf : w.WF vr E pfx x) :
    ∃ ER', r.read pfx E (w.write E pfx x ++ rest) = some (w.expect E pfx x, ER', rest) := by
  obtain ⟨ER', h1, _⟩ := agree_sound vr _ w r [] [] h E E pfx x (Inv.nil E E) hwf rest
  exact ⟨ER', h1⟩

end Layout
