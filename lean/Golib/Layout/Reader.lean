/-
  Golib.Layout.Reader — the reader semantics `L.read` as a program over a few combinators.

  An `RDec` parses a prefix of the input, threads the environment of locals and reports the fields
  it assigned.  `L.read` (Golib/Layout/IR.lean) is written out with nested matches; here each of
  its clauses is restated with `ret`, `andThen`, `prim`, … (`read_*`: by `rfl` where the clause does not
  begin with a decoded value, else by `rfl` after the case split on what that first decoder returns), so
  that a fact about all readers — appending layouts, stability under more input, the round trip — is
  proved once per combinator and then read off the clauses.
-/
import Golib.Layout.IR

namespace Layout
open _root_.Prim

namespace RDec

/-- assign `o`, consume nothing -/
def ret (o : Out) : RDec := fun e bs => some (o, e, bs)

def fail : RDec := fun _ _ => none

/-- run `a`, then `k` of what `a` assigned, on what `a` left -/
def andThen (a : RDec) (k : Out → RDec) : RDec := fun e bs =>
  match a e bs with
  | none => none
  | some (o, e', r) => k o e' r

/-- decode one value with `d`, then run `k` of it -/
def prim (d : Dec α) (k : α → RDec) : RDec := fun e bs =>
  match d bs with
  | none => none
  | some (v, r) => k v e r

def cond (c : Env → Prop) [DecidablePred c] (a b : RDec) : RDec := fun e bs =>
  if c e then a e bs else b e bs

/-- `a` with the local `n` bound to `v` -/
def bindLocal (n : String) (v : Int) (a : RDec) : RDec := fun e => a (e.set n v)

/-- `a` on the sub-stream `inner` (what it leaves unread there is dropped), then `k` on the outer input -/
def within (inner : Bytes) (a : RDec) (k : Out → RDec) : RDec := fun e bs =>
  match a e inner with
  | none => none
  | some (o, e', _) => k o e' bs

/-- `if in.Available() == 0 { return }`, then `a` -/
def atEnd (a : RDec) : RDec := fun e bs => if bs.isEmpty then some ([], e, []) else a e bs

/-- one after the other, the assignments concatenated -/
def seq (a b : RDec) : RDec := a.andThen fun o1 => b.andThen fun o2 => ret (o1 ++ o2)

/-! the monad laws, and how `andThen` moves into the other combinators -/

theorem ret_andThen (o : Out) (k : Out → RDec) : (ret o).andThen k = k o := rfl

theorem andThen_ret (a : RDec) : a.andThen ret = a := by
  funext e bs
  simp only [andThen, ret]
  cases a e bs <;> rfl

theorem andThen_assoc (a : RDec) (k k' : Out → RDec) :
    (a.andThen k).andThen k' = a.andThen fun o => (k o).andThen k' := by
  funext e bs
  simp only [andThen]
  cases a e bs <;> rfl

theorem prim_andThen (d : Dec α) (k : α → RDec) (k' : Out → RDec) :
    (prim d k).andThen k' = prim d fun v => (k v).andThen k' := by
  funext e bs
  simp only [andThen, prim]
  cases d bs <;> rfl

theorem cond_andThen (c : Env → Prop) [DecidablePred c] (a b : RDec) (k : Out → RDec) :
    (cond c a b).andThen k = cond c (a.andThen k) (b.andThen k) := by
  funext e bs
  by_cases h : c e <;> simp only [andThen, cond, h, if_true, if_false]

theorem bindLocal_andThen (n : String) (v : Int) (a : RDec) (k : Out → RDec) :
    (bindLocal n v a).andThen k = bindLocal n v (a.andThen k) := rfl

theorem within_andThen (inner : Bytes) (a : RDec) (k k' : Out → RDec) :
    (within inner a k).andThen k' = within inner a fun o => (k o).andThen k' := by
  funext e bs
  simp only [andThen, within]
  cases a e inner <;> rfl

theorem fail_andThen (k : Out → RDec) : fail.andThen k = fail := rfl

end RDec

open RDec

variable {pfx n vn : String} {p cnt : Prim} {g : Rng} {c : Cond} {body rest t el : L}

theorem read_nil : L.nil.read pfx = ret [] := rfl

theorem read_fld : (L.fld n p g rest).read pfx =
    prim p.decode fun v => (rest.read pfx).andThen fun o => ret ((pfx ++ n, v) :: o) := by
  funext e bs; simp only [L.read, prim]; cases p.decode bs <;> rfl

theorem read_kfld {k : Int} : (L.kfld n p k rest).read pfx = (L.fld n p .any rest).read pfx := rfl

theorem read_key : (L.key n p vn rest).read pfx =
    prim p.decode fun v => bindLocal vn v.toInt ((rest.read pfx).andThen fun o => ret ((pfx ++ n, v) :: o)) := by
  funext e bs; simp only [L.read, prim]; cases p.decode bs <;> rfl

theorem read_lit {v : Int} : (L.lit p v rest).read pfx = rest.read pfx := rfl

theorem read_skip : (L.skip p rest).read pfx = prim p.decode fun _ => rest.read pfx := by
  funext e bs; simp only [L.read, prim]; cases p.decode bs <;> rfl

theorem read_var : (L.var n p rest).read pfx =
    prim p.decode fun v => bindLocal n v.toInt (rest.read pfx) := by
  funext e bs; simp only [L.read, prim]; cases p.decode bs <;> rfl

theorem read_ite : (L.ite c t el rest).read pfx =
    seq (cond (c.eval · = true) (t.read pfx) (el.read pfx)) (rest.read pfx) := rfl

theorem read_guard : (L.guard c rest).read pfx = cond (c.eval · = true) fail (rest.read pfx) := rfl

theorem read_vopt : (L.vopt vn n body rest).read pfx =
    prim (Prim.decode .u8) fun flag =>
      cond (fun _ => (flag.toInt != 0) = true)
        (bindLocal vn flag.toInt ((body.read pfx).andThen fun o1 => (rest.read pfx).andThen fun o2 =>
          ret ((pfx ++ n ++ "?", .int 1) :: (o1 ++ o2))))
        (bindLocal vn 0 ((rest.read pfx).andThen fun o2 => ret ((pfx ++ n ++ "?", .int 0) :: o2))) := by
  funext e bs; simp only [L.read, prim]; cases Prim.decode .u8 bs <;> rfl

theorem read_opt : (L.opt n body rest).read pfx =
    prim (Prim.decode .u8) fun flag =>
      cond (fun _ => (flag.toInt != 0) = true)
        ((body.read pfx).andThen fun o1 => (rest.read pfx).andThen fun o2 =>
          ret ((pfx ++ n ++ "?", .int 1) :: (o1 ++ o2)))
        ((rest.read pfx).andThen fun o2 => ret ((pfx ++ n ++ "?", .int 0) :: o2)) := by
  funext e bs; simp only [L.read, prim]; cases Prim.decode .u8 bs <;> rfl

theorem read_mopt {m : Nat} : (L.mopt m n body rest).read pfx = (L.opt n body rest).read pfx := rfl

theorem read_rep : (L.rep cnt n body rest).read pfx =
    prim cnt.decode fun k => (readElems (fun q => body.read q) pfx n 0 k.toInt.toNat).andThen fun o1 =>
      (rest.read pfx).andThen fun o2 => ret ((pfx ++ n ++ "#", .int k.toInt.toNat) :: (o1 ++ o2)) := by
  funext e bs; simp only [L.read, prim]; cases cnt.decode bs <;> rfl

theorem read_srep : (L.srep cnt body rest).read pfx =
    prim cnt.decode fun k => (readElems (fun q => body.read q) pfx "" 0 k.toInt.toNat).andThen fun _ =>
      rest.read pfx := by
  funext e bs; simp only [L.read, prim]; cases cnt.decode bs <;> rfl

theorem read_times {k : Nat} : (L.times k n body rest).read pfx =
    seq (readElems (fun q => body.read q) pfx n 0 k) (rest.read pfx) := rfl

theorem read_sub : (L.sub n body rest).read pfx =
    seq (body.read (pfx ++ n ++ ".")) (rest.read pfx) := rfl

theorem read_wrap : (L.wrap body rest).read pfx =
    prim (P.run decBlob) fun inner => within inner (body.read pfx) fun o1 =>
      (rest.read pfx).andThen fun o2 => ret (o1 ++ o2) := by
  funext e bs; simp only [L.read, prim]; cases P.run decBlob bs <;> rfl

theorem read_hdr : (L.hdr rest).read pfx =
    prim (P.run decHeader) fun h => (rest.read pfx).andThen fun o => ret (hdrOut pfx h ++ o) := by
  funext e bs; simp only [L.read, prim]; cases P.run decHeader bs <;> rfl

/-- the count of a `vrep`/`mrep` table behind its marker byte `ver`: for `ver ≤ 8` the byte is the
    length of the decimal, else a whole decimal follows -/
def decCount (ver : Int) : Dec Int := fun bs =>
  if ver ≤ 8 then P.run (decDecimalLen ver.toNat) bs else P.run decDecimal bs

theorem read_vrep : (L.vrep vn n body rest).read pfx =
    prim (Prim.decode .u8) fun b =>
      cond (fun _ => b.toInt = 0)
        (bindLocal vn 0 ((rest.read pfx).andThen fun o2 => ret ((pfx ++ n ++ "#", .int 0) :: o2)))
        (prim (decCount b.toInt) fun k => bindLocal vn b.toInt
          ((readElems (fun q => body.read q) pfx n 0 k.toNat).andThen fun o1 =>
            (rest.read pfx).andThen fun o2 => ret ((pfx ++ n ++ "#", .int k.toNat) :: (o1 ++ o2)))) := by
  funext e bs
  simp only [L.read, prim, RDec.cond, decCount]
  cases Prim.decode .u8 bs with
  | none => rfl
  | some x =>
    obtain ⟨b, r⟩ := x
    dsimp only
    split
    · rfl
    · cases (if b.toInt ≤ 8 then P.run (decDecimalLen b.toInt.toNat) r else P.run decDecimal r) <;> rfl

theorem read_mrep {m : Nat} : (L.mrep m n body rest).read pfx = (L.vrep "" n body rest).read pfx := rfl

theorem read_avail : (L.avail body).read pfx = atEnd (body.read pfx) := rfl

theorem read_unknown {why : String} : (L.unknown why).read pfx = fail := rfl

end Layout
