/-
  Golib.Layout.History — re-use: one object that receives a sequence of packs, one stream that
  carries a sequence of packs.

  `store y o` is the object `y` after a reader assigned the fields `o` (in the order delivered; a later
  assignment to the same path wins): a path the reader did not deliver keeps its old content
  (`store_frame`), a path delivered once holds the value delivered (`store_get`).  `writeAll` / `readAll`
  put packs one after the other into one stream; `received` is the object that received them all.
  The theorems about them are `C03.decode_into_used` and `C03.history_*`.

  Limit of the model: a reader that *adds* to a table it finds in the object (`table.Put` without
  re-creating the table: StatRemoteIpPack, StatUserAgentPack, ParamPack, the maps of values) merges
  rows when the object is re-used; `store` describes assignment, i.e. readers on a fresh table.  The
  writer side has no such state: the encoding is a function of the carried fields
  (`C03.carried_determines_bytes`).
-/
import Golib.Layout.IR

namespace Layout

def store (y : Rec) : Out → Rec
  | [] => y
  | (k, v) :: o => store (fun p => if p = k then v else y p) o

def keys (o : Out) : List String := o.map Prod.fst

/-- frame: what the reader did not assign is unchanged -/
theorem store_frame (y : Rec) (o : Out) (p : String) (h : p ∉ keys o) : store y o p = y p := by
  fun_induction store y o with
  | case1 y => rfl
  | case2 y k v o ih =>
    simp only [keys, List.map_cons, List.mem_cons, not_or] at h
    exact (ih h.2).trans (if_neg h.1)

/-- an assigned path holds the value assigned (each path assigned once) -/
theorem store_get (y : Rec) (o : Out) (hn : (keys o).Nodup) (k : String) (v : Val) (h : (k, v) ∈ o) :
    store y o k = v := by
  fun_induction store y o with
  | case1 y => cases h
  | case2 y k' v' o ih =>
    simp only [keys, List.map_cons, List.nodup_cons] at hn
    rcases List.mem_cons.mp h with h1 | h1
    · cases h1
      exact (store_frame _ o k hn.1).trans (if_pos rfl)
    · exact ih hn.2 h1

def writeAll (w : L) (E : Env) (pfx : String) : List Rec → Bytes
  | [] => []
  | x :: xs => w.write E pfx x ++ writeAll w E pfx xs

/-- read `n` packs one after the other (every pack with the reader's initial locals) -/
def readAll (r : L) (E : Env) (pfx : String) : Nat → Bytes → Option (List Out × Bytes)
  | 0, bs => some ([], bs)
  | n+1, bs =>
    match r.read pfx E bs with
    | none => none
    | some (o, _, rest) =>
      match readAll r E pfx n rest with
      | none => none
      | some (os, rest') => some (o :: os, rest')

/-- the object after it received the packs one after the other -/
def received (y : Rec) (os : List Out) : Rec := os.foldl store y

end Layout
