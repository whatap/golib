/-
  Golib.Queue.Fixed — the model of the queues as committed in /repo, that is with the repair of the known
  finding `…GetTimeout:nil-element-swallowed` (proposed/C11/fix-KF-nil-element-swallowed.diff; GetTimeout in
  util/queue/RequestQueue.go and RequestDoubleQueue.go): the timed get polls with `poll() (v, taken)`, an
  explicit "taken" flag, so a nil element is handed out like any other element (as Get / GetNoWait do)
  instead of being popped and dropped as `Queue.step` / `Queue.dstep` (the code before the repair) do.
  Everything else is `Queue.step` / `Queue.dstep` unchanged.

  With the repair the property's conservation law holds without the `swallowed` term, for all elements,
  and the double queue's timed get obeys the first-queue priority without exception.  The harness detects
  which behaviour the implementation has and compares with `step` or `stepF` accordingly.
-/
import Golib.Queue.Thms

namespace Queue

/-- the repaired polling loop seen sequentially: the first poll that finds the queue non-empty returns
    its head, nil or not -/
def getTimeoutLoopF : Nat → List Nat → List Nat × Nat × List Ev
  | 0, items => (items, 0, [])
  | _ + 1, [] => ([], 0, [])
  | _ + 1, x :: r => (r, x, [.delivered x])

def stepF (q : Q) : Op → Q × Ret × List Ev
  | .getTimeout k =>
    let t := getTimeoutLoopF (k + 1) q.items
    ({ q with items := t.1 }, .val t.2.1, t.2.2)
  | op => step q op

def runF (q : Q) : List Op → Q × List Ret × List Ev
  | [] => (q, [], [])
  | op :: ops =>
    let s := stepF q op
    let r := runF s.1 ops
    (r.1, s.2.1 :: r.2.1, s.2.2 ++ r.2.2)

/-- the repaired timed get is a single GetNoWait -/
def unTimed : Op → Op
  | .getTimeout _ => .getNoWait
  | op => op

theorem stepF_eq (q : Q) (op : Op) : stepF q op = step q (unTimed op) := by
  cases op with
  | getTimeout k => cases q with | mk items cap => cases items <;> rfl
  | _ => rfl

/-- a history of the repaired model is the same history of the original model with every timed get
    replaced by a GetNoWait, so whatever holds of those holds of the repaired queue -/
theorem runF_eq (q : Q) (ops : List Op) : runF q ops = run q (ops.map unTimed) := by
  induction ops generalizing q with
  | nil => rfl
  | cons op ops ih => simp only [runF, run, List.map_cons, stepF_eq, ih]

theorem runF_append (q : Q) (a b : List Op) :
    runF q (a ++ b) = ((runF (runF q a).1 b).1, (runF q a).2.1 ++ (runF (runF q a).1 b).2.1,
      (runF q a).2.2 ++ (runF (runF q a).1 b).2.2) := by
  simp only [runF_eq, List.map_append, run_append]

theorem runF_fifo (q : Q) (ops : List Op) : Fifo q.items (runF q ops).2.2 (runF q ops).1.items :=
  runF_eq q ops ▸ run_fifo q _

/-- the repaired model swallows nothing -/
theorem runF_swallowed (q : Q) (ops : List Op) : swallowedOf (runF q ops).2.2 = [] :=
  runF_eq q ops ▸ run_swallowed_other q _ fun op h => by
    obtain ⟨o, _, rfl⟩ := List.mem_map.mp h
    cases o <;> nofun

/-- the repaired double queue: the timed get is one poll -/
def dstepF (d : DQ) : DOp → DQ × Ret × List DEv
  | .getTimeout _ => let p := d.poll; (p.1, .val p.2.1, p.2.2)
  | op => dstep d op

/-- the witness of the finding behaves correctly under the repair: the nil element is delivered -/
example : (stepF ⟨[0, 5], 0⟩ (.getTimeout 3)).2 = (.val 0, [.delivered 0]) := rfl
example : (runF ⟨[], 0⟩ [.put 0, .put 5, .getTimeout 3, .size]).2.1 = [.bool true, .bool true, .val 0, .int 1] := rfl

end Queue
