/-
  Golib.Queue.Timed — the polling loop of `RequestQueue.GetTimeout` over an abstract clock: `timedGet`
  (the environment supplies the poll results) characterised completely, and `timedGetQ`, the same loop
  with the queue in it — between two polls other threads act on the queue (`Round.others`), the clock
  is read after the sleep that follows an empty-handed poll (`Round.now`) — with the lower bound on the
  waiting time, the return of an element that arrives in time, and the agreement with the sequential
  operation `Op.getTimeout k` (`getTimeoutLoop (k+1)`).
-/
import Golib.Queue.Thms

namespace Queue

/-- a tick after which the loop keeps running: nothing polled, deadline not reached -/
def Tick.idle (timeto : Int) (p : Tick) : Prop := p.polled = 0 ∧ timeto - p.now > 0

theorem timedGet_append_idle (timeto : Int) (pre rest : List Tick)
    (h : ∀ p ∈ pre, p.polled = 0 ∧ timeto - p.now > 0) :
    timedGet timeto (pre ++ rest) = timedGet timeto rest := by
  induction pre with
  | nil => rfl
  | cons p pre ih =>
    have hp := h p (by simp)
    have := ih (fun a ha => h a (by simp [ha]))
    simp only [List.cons_append, timedGet]
    rw [if_neg (by simp [hp.1]), if_neg (by omega), this]

theorem timedGet_decomp (timeto : Int) (ticks : List Tick) :
    (timedGet timeto ticks = none ∧ ∀ p ∈ ticks, p.polled = 0 ∧ timeto - p.now > 0) ∨
    ∃ pre tk post, ticks = pre ++ tk :: post ∧ (∀ p ∈ pre, p.polled = 0 ∧ timeto - p.now > 0) ∧
      ((tk.polled ≠ 0 ∧ timedGet timeto ticks = some (.got tk.polled)) ∨
       (tk.polled = 0 ∧ timeto - tk.now ≤ 0 ∧ timedGet timeto ticks = some (.timedOut tk.now))) := by
  fun_induction timedGet timeto ticks with
  | case1 => exact .inl ⟨rfl, nofun⟩
  | case2 tk rest hp => exact .inr ⟨[], tk, rest, rfl, nofun, .inl ⟨hp, rfl⟩⟩
  | case3 tk rest hp hto =>
    exact .inr ⟨[], tk, rest, rfl, nofun, .inr ⟨Decidable.not_not.mp hp, hto, rfl⟩⟩
  | case4 tk rest hp hto ih =>
    have hid : tk.polled = 0 ∧ timeto - tk.now > 0 := ⟨Decidable.not_not.mp hp, by omega⟩
    rcases ih with ⟨hn, hall⟩ | ⟨pre, tk', post, rfl, hpre, hres⟩
    · exact .inl ⟨hn, List.forall_mem_cons.mpr ⟨hid, hall⟩⟩
    · exact .inr ⟨tk :: pre, tk', post, rfl, List.forall_mem_cons.mpr ⟨hid, hpre⟩, hres⟩

theorem timedGet_timedOut_iff (timeto : Int) (ticks : List Tick) (t : Int) :
    timedGet timeto ticks = some (.timedOut t) ↔
      ∃ pre tk post, ticks = pre ++ tk :: post ∧ tk.polled = 0 ∧ tk.now = t ∧ timeto - t ≤ 0 ∧
        ∀ p ∈ pre, p.polled = 0 ∧ timeto - p.now > 0 := by
  constructor
  · intro h
    rcases timedGet_decomp timeto ticks with
      ⟨hr, _⟩ | ⟨pre, tk, post, heq, hpre, ⟨_, hr⟩ | ⟨hp0, hto, hr⟩⟩ <;> cases hr.symm.trans h
    exact ⟨pre, tk, post, heq, hp0, rfl, hto, hpre⟩
  · rintro ⟨pre, tk, post, rfl, hp0, rfl, hto, hpre⟩
    rw [timedGet_append_idle timeto pre _ hpre, timedGet, if_neg (fun h => h hp0), if_pos hto]

/-- still running: the supplied environment ended before the call could return -/
theorem timedGet_none_iff (timeto : Int) (ticks : List Tick) :
    timedGet timeto ticks = none ↔ ∀ p ∈ ticks, p.polled = 0 ∧ timeto - p.now > 0 := by
  constructor
  · intro h
    rcases timedGet_decomp timeto ticks with ⟨_, hall⟩ | ⟨_, _, _, _, _, ⟨_, hr⟩ | ⟨_, _, hr⟩⟩
    · exact hall
    · cases hr.symm.trans h
    · cases hr.symm.trans h
  · intro h
    simpa [timedGet] using timedGet_append_idle timeto ticks [] h

theorem timed_get (timeto : Int) (ticks : List Tick) (t : Int)
    (h : timedGet timeto ticks = some (.timedOut t)) :
    t ≥ timeto ∧ ∃ tk ∈ ticks, tk.now = t ∧ tk.polled = 0 := by
  obtain ⟨pre, tk, post, rfl, hp, ht, hto, _⟩ := (timedGet_timedOut_iff timeto ticks t).mp h
  exact ⟨by omega, tk, List.mem_append_right _ List.mem_cons_self, ht, hp⟩

structure Round where
  /-- operations of other threads linearized before this poll (any: puts, gets, clear …) -/
  others : List Op
  /-- clock reading after the sleep that follows this poll if it comes back empty-handed -/
  now    : Int
  deriving DecidableEq, Repr

/-- the element carried by the answer of GetNoWait (`nil` = 0) -/
def retVal : Ret → Nat
  | .val x => x
  | _ => 0

/-- a delivery that the loop of GetTimeout throws away (same convention as `getTimeoutLoop`) -/
def swallowEv : Ev → Ev
  | .delivered x => .swallowed x
  | e => e

/-- one poll of GetTimeout: `GetNoWait`; a `nil` answer from a non-empty queue consumed a nil
    element, reported as `swallowed 0`.  Returns (queue afterwards, value, events). -/
def qpoll (q : Q) : Q × Nat × List Ev :=
  let s := step q .getNoWait
  let v := retVal s.2.1
  (s.1, v, if v ≠ 0 then s.2.2 else s.2.2.map swallowEv)

/-- returns (queue afterwards, result, events of the polls); `none` result = environment ended -/
def timedGetQ (timeto : Int) : Q → List Round → Q × Option TimedRes × List Ev
  | q, [] => (q, none, [])
  | q, r :: rest =>
    let p := qpoll (run q r.others).1
    if p.2.1 ≠ 0 then (p.1, some (.got p.2.1), p.2.2)
    else if timeto - r.now ≤ 0 then (p.1, some (.timedOut r.now), p.2.2)
    else
      let t := timedGetQ timeto p.1 rest
      (t.1, t.2.1, p.2.2 ++ t.2.2)

theorem qpoll_cons (q : Q) (x : Nat) (r : List Nat) (h : q.items = x :: r) (hx : x ≠ 0) :
    qpoll q = ({ q with items := r }, x, [.delivered x]) := by
  simp [qpoll, step, h, retVal, hx]

theorem qpoll_cases (q : Q) :
    (q.items = [] ∧ qpoll q = (q, 0, [])) ∨
    (∃ r, q.items = 0 :: r ∧ qpoll q = ({ q with items := r }, 0, [.swallowed 0])) ∨
    (∃ x r, q.items = x :: r ∧ x ≠ 0 ∧ qpoll q = ({ q with items := r }, x, [.delivered x])) := by
  cases h : q.items with
  | nil => exact Or.inl ⟨rfl, by simp [qpoll, step, h, retVal]⟩
  | cons x r =>
    by_cases hx : x = 0
    · subst hx; exact Or.inr (Or.inl ⟨r, rfl, by simp [qpoll, step, h, retVal, swallowEv]⟩)
    · exact Or.inr (Or.inr ⟨x, r, rfl, hx, qpoll_cons q x r h hx⟩)

theorem qpoll_empty_handed (q : Q) (h : (qpoll q).2.1 = 0) : deliveredOf (qpoll q).2.2 = [] := by
  rcases qpoll_cases q with ⟨_, hq⟩ | ⟨r, _, hq⟩ | ⟨x, r, _, hx, hq⟩
  · rw [hq]; rfl
  · rw [hq]; rfl
  · rw [hq] at h; exact absurd h hx

theorem qpoll_got (q : Q) (h : (qpoll q).2.1 ≠ 0) :
    (qpoll q).2.2 = [.delivered (qpoll q).2.1] := by
  rcases qpoll_cases q with ⟨_, hq⟩ | ⟨r, _, hq⟩ | ⟨x, r, _, hx, hq⟩
  · rw [hq] at h; exact absurd rfl h
  · rw [hq] at h; exact absurd rfl h
  · rw [hq]

theorem qpoll_val (q : Q) : (qpoll q).2.1 = q.items.head?.getD 0 := by
  rcases qpoll_cases q with ⟨hi, hq⟩ | ⟨r, hi, hq⟩ | ⟨x, r, hi, _, hq⟩ <;> rw [hq, hi] <;> rfl

theorem qpoll_cap (q : Q) : (qpoll q).1.cap = q.cap := by
  rcases qpoll_cases q with ⟨hi, hq⟩ | ⟨r, hi, hq⟩ | ⟨x, r, hi, hx, hq⟩ <;> rw [hq]

/-- the sequential loop is this poll, iterated -/
theorem getTimeoutLoop_succ (n : Nat) (q : Q) :
    getTimeoutLoop (n + 1) q.items =
      if (qpoll q).2.1 ≠ 0 then ((qpoll q).1.items, (qpoll q).2.1, (qpoll q).2.2)
      else ((getTimeoutLoop n (qpoll q).1.items).1, (getTimeoutLoop n (qpoll q).1.items).2.1,
        (qpoll q).2.2 ++ (getTimeoutLoop n (qpoll q).1.items).2.2) := by
  rcases qpoll_cases q with ⟨hi, hq⟩ | ⟨r, hi, hq⟩ | ⟨x, r, hi, hx, hq⟩ <;> rw [hq, hi]
  · rw [if_neg (fun h => h rfl), getTimeoutLoop_nil, getTimeoutLoop_nil]; rfl
  · rw [if_neg (fun h => h rfl)]; rfl
  · rw [if_pos hx, getTimeoutLoop_cons_ne n x r hx]

/-- the queue (and the events of the polls) after a prefix of rounds in each of which the poll came
    back empty-handed — the queue was empty or its head was a nil element, which is consumed — and
    the clock read after the sleep was still before the deadline.  `none` if the call already
    returned inside the prefix. -/
def afterRounds (timeto : Int) : Q → List Round → Option (Q × List Ev)
  | q, [] => some (q, [])
  | q, r :: rest =>
    let p := qpoll (run q r.others).1
    if p.2.1 ≠ 0 then none
    else if timeto - r.now ≤ 0 then none
    else (afterRounds timeto p.1 rest).map (fun t => (t.1, p.2.2 ++ t.2))

theorem afterRounds_nil (timeto : Int) (q : Q) : afterRounds timeto q [] = some (q, []) := rfl

/-! #### one round of the loop, in terms of the poll `p` it makes

  The call returns in this round if the poll found something (`got`) or the deadline has passed
  (`late`); otherwise (`idle`) it goes on with the queue the poll left. -/

section round
variable {timeto : Int} {q : Q} {r : Round} {rest : List Round} {p : Q × Nat × List Ev}

theorem timedGetQ_cons_got (hp : qpoll (run q r.others).1 = p) (h : p.2.1 ≠ 0) :
    timedGetQ timeto q (r :: rest) = (p.1, some (.got p.2.1), p.2.2) := by
  subst hp; exact if_pos h

theorem timedGetQ_cons_late (hp : qpoll (run q r.others).1 = p) (h0 : p.2.1 = 0)
    (hto : timeto - r.now ≤ 0) :
    timedGetQ timeto q (r :: rest) = (p.1, some (.timedOut r.now), p.2.2) := by
  subst hp; exact (if_neg fun h => h h0).trans (if_pos hto)

theorem timedGetQ_cons_idle (hp : qpoll (run q r.others).1 = p) (h0 : p.2.1 = 0)
    (hto : timeto - r.now > 0) :
    timedGetQ timeto q (r :: rest) =
      ((timedGetQ timeto p.1 rest).1, (timedGetQ timeto p.1 rest).2.1,
        p.2.2 ++ (timedGetQ timeto p.1 rest).2.2) := by
  subst hp; exact (if_neg fun h => h h0).trans (if_neg (by omega))

end round

theorem timedGetQ_append (timeto : Int) (q : Q) (pre post : List Round) (qm : Q) (e : List Ev)
    (h : afterRounds timeto q pre = some (qm, e)) :
    timedGetQ timeto q (pre ++ post) =
      ((timedGetQ timeto qm post).1, (timedGetQ timeto qm post).2.1,
        e ++ (timedGetQ timeto qm post).2.2) := by
  fun_induction afterRounds timeto q pre generalizing e with
  | case1 q => cases h; rfl
  | case2 q r rest p hp => exact nomatch h
  | case3 q r rest p hp hto => exact nomatch h
  | case4 q r rest p h0 hto ih =>
    obtain ⟨⟨qm', e'⟩, he, hq⟩ := Option.map_eq_some_iff.mp h
    cases hq
    rw [List.cons_append, timedGetQ_cons_idle rfl (Decidable.not_not.mp h0) (by omega), ih _ he,
      List.append_assoc]

theorem afterRounds_delivered (timeto : Int) (q : Q) (pre : List Round) (qm : Q) (e : List Ev)
    (h : afterRounds timeto q pre = some (qm, e)) : deliveredOf e = [] := by
  fun_induction afterRounds timeto q pre generalizing e with
  | case1 q => cases h; rfl
  | case2 q r rest p hp => exact nomatch h
  | case3 q r rest p hp hto => exact nomatch h
  | case4 q r rest p h0 hto ih =>
    obtain ⟨⟨qm', e'⟩, he, hq⟩ := Option.map_eq_some_iff.mp h
    cases hq
    rw [deliveredOf_append, qpoll_empty_handed _ (Decidable.not_not.mp h0), ih _ he]; rfl

theorem timedGetQ_stop (timeto : Int) (q : Q) (pre : List Round) (r : Round) (post : List Round)
    (qm : Q) (e : List Ev) (hpre : afterRounds timeto q pre = some (qm, e))
    (hs : (qpoll (run qm r.others).1).2.1 ≠ 0 ∨ timeto - r.now ≤ 0) :
    timedGetQ timeto q (pre ++ r :: post) =
      ((qpoll (run qm r.others).1).1,
       some (if (qpoll (run qm r.others).1).2.1 ≠ 0 then .got (qpoll (run qm r.others).1).2.1
             else .timedOut r.now),
       e ++ (qpoll (run qm r.others).1).2.2) := by
  rw [timedGetQ_append timeto q pre _ qm e hpre]
  by_cases h : (qpoll (run qm r.others).1).2.1 ≠ 0
  · rw [timedGetQ_cons_got rfl h, if_pos h]
  · rw [timedGetQ_cons_late rfl (Decidable.not_not.mp h) (hs.resolve_left h), if_neg h]

theorem afterRounds_decomp (timeto : Int) (q : Q) (rounds : List Round) :
    (∃ qm e, afterRounds timeto q rounds = some (qm, e)) ∨
    ∃ pre r post qm e, rounds = pre ++ r :: post ∧ afterRounds timeto q pre = some (qm, e) ∧
      ((qpoll (run qm r.others).1).2.1 ≠ 0 ∨ timeto - r.now ≤ 0) := by
  fun_induction afterRounds timeto q rounds with
  | case1 q => exact .inl ⟨q, [], rfl⟩
  | case2 q r rest p hp => exact .inr ⟨[], r, rest, q, [], rfl, rfl, .inl hp⟩
  | case3 q r rest p hp hto => exact .inr ⟨[], r, rest, q, [], rfl, rfl, .inr hto⟩
  | case4 q r rest p h0 hto ih =>
    rcases ih with ⟨qm, e, h⟩ | ⟨pre, r', post, qm, e, rfl, h, hs'⟩
    · exact .inl ⟨qm, _, by rw [h]; rfl⟩
    · exact .inr ⟨r :: pre, r', post, qm, _, rfl,
        by rw [afterRounds, if_neg h0, if_neg hto, h]; rfl, hs'⟩

theorem timedGetQ_running (timeto : Int) (q : Q) (rounds : List Round) (qm : Q) (e : List Ev)
    (h : afterRounds timeto q rounds = some (qm, e)) : timedGetQ timeto q rounds = (qm, none, e) := by
  have := timedGetQ_append timeto q rounds [] qm e h
  rwa [List.append_nil, timedGetQ, List.append_nil] at this

theorem timedGetQ_timedOut (timeto : Int) (q : Q) (rounds : List Round) (q' : Q) (t : Int)
    (evs : List Ev) (h : timedGetQ timeto q rounds = (q', some (.timedOut t), evs)) :
    t ≥ timeto ∧ deliveredOf evs = [] ∧ ∃ r ∈ rounds, r.now = t := by
  rcases afterRounds_decomp timeto q rounds with ⟨qm, e, ha⟩ | ⟨pre, r, post, qm, e, rfl, ha, hs⟩
  · rw [timedGetQ_running timeto q rounds qm e ha] at h; exact nomatch h
  · rw [timedGetQ_stop timeto q pre r post qm e ha hs] at h
    by_cases h0 : (qpoll (run qm r.others).1).2.1 ≠ 0
    · rw [if_pos h0] at h; exact nomatch h
    · rw [if_neg h0] at h
      cases h
      refine ⟨by have := hs.resolve_left h0; omega, ?_, r, List.mem_append_right _ List.mem_cons_self, rfl⟩
      rw [deliveredOf_append, afterRounds_delivered timeto q pre qm e ha,
        qpoll_empty_handed _ (Decidable.not_not.mp h0)]; rfl

/-- **It returns an element if one arrives before the deadline and the thread is scheduled.**
    If the rounds before `r` all came back empty-handed before the deadline (queue state `qm`,
    `afterRounds`), and after the other threads' operations of round `r` the queue has a non-nil
    head `x`, then the call returns `x`, removes exactly `x` from the queue, and `delivered x` is
    its last event — whatever the clock says in round `r` and whatever comes later. -/
theorem timedGetQ_returns_arrival (timeto : Int) (q : Q) (pre : List Round) (r : Round)
    (post : List Round) (qm : Q) (e : List Ev) (x : Nat) (xs : List Nat)
    (hpre : afterRounds timeto q pre = some (qm, e))
    (hhead : (run qm r.others).1.items = x :: xs) (hx : x ≠ 0) :
    timedGetQ timeto q (pre ++ r :: post) =
      ({ (run qm r.others).1 with items := xs }, some (.got x), e ++ [.delivered x]) := by
  rw [timedGetQ_append timeto q pre (r :: post) qm e hpre,
    timedGetQ_cons_got (qpoll_cons _ x xs hhead hx) hx]

/-- complete characterisation of "the call returned `x`": a non-nil `x` was the head of the queue
    at the first poll that was not idle -/
theorem timedGetQ_got_iff (timeto : Int) (q : Q) (rounds : List Round) (x : Nat) :
    (timedGetQ timeto q rounds).2.1 = some (.got x) ↔
      ∃ pre r post qm e xs, rounds = pre ++ r :: post ∧ afterRounds timeto q pre = some (qm, e) ∧
        (run qm r.others).1.items = x :: xs ∧ x ≠ 0 := by
  constructor
  · intro h
    rcases afterRounds_decomp timeto q rounds with ⟨qm, e, ha⟩ | ⟨pre, r, post, qm, e, rfl, ha, hs⟩
    · rw [timedGetQ_running timeto q rounds qm e ha] at h; exact nomatch h
    · rw [timedGetQ_stop timeto q pre r post qm e ha hs] at h
      by_cases h0 : (qpoll (run qm r.others).1).2.1 ≠ 0
      · rw [if_pos h0] at h
        cases h
        rcases qpoll_cases (run qm r.others).1 with ⟨_, hq⟩ | ⟨_, _, hq⟩ | ⟨x, xs, hi, hx, hq⟩
        · rw [hq] at h0; exact absurd rfl h0
        · rw [hq] at h0; exact absurd rfl h0
        · rw [hq]; exact ⟨pre, r, post, qm, e, xs, rfl, ha, hi, hx⟩
      · rw [if_neg h0] at h; exact nomatch h
  · rintro ⟨pre, r, post, qm, e, xs, rfl, ha, hi, hx⟩
    rw [timedGetQ_returns_arrival timeto q pre r post qm e x xs ha hi hx]

/-- complete characterisation of "the call timed out at clock reading `t`" -/
theorem timedGetQ_timedOut_iff (timeto : Int) (q : Q) (rounds : List Round) (t : Int) :
    (timedGetQ timeto q rounds).2.1 = some (.timedOut t) ↔
      ∃ pre r post qm e, rounds = pre ++ r :: post ∧ afterRounds timeto q pre = some (qm, e) ∧
        r.now = t ∧ timeto - t ≤ 0 ∧ (run qm r.others).1.items.head?.getD 0 = 0 := by
  constructor
  · intro h
    rcases afterRounds_decomp timeto q rounds with ⟨qm, e, ha⟩ | ⟨pre, r, post, qm, e, rfl, ha, hs⟩
    · rw [timedGetQ_running timeto q rounds qm e ha] at h; exact nomatch h
    · rw [timedGetQ_stop timeto q pre r post qm e ha hs] at h
      by_cases h0 : (qpoll (run qm r.others).1).2.1 ≠ 0
      · rw [if_pos h0] at h; exact nomatch h
      · rw [if_neg h0] at h
        cases h
        exact ⟨pre, r, post, qm, e, rfl, ha, rfl, hs.resolve_left h0,
          qpoll_val _ ▸ Decidable.not_not.mp h0⟩
  · rintro ⟨pre, r, post, qm, e, rfl, ha, rfl, hto, hh⟩
    rw [timedGetQ_stop timeto q pre r post qm e ha (.inr hto), if_neg fun h => h (qpoll_val _ ▸ hh)]

/-- still running: every supplied round was empty-handed and in time -/
theorem timedGetQ_none_iff (timeto : Int) (q : Q) (rounds : List Round) :
    (timedGetQ timeto q rounds).2.1 = none ↔ (afterRounds timeto q rounds).isSome := by
  constructor
  · intro h
    rcases afterRounds_decomp timeto q rounds with ⟨qm, e, ha⟩ | ⟨pre, r, post, qm, e, rfl, ha, hs⟩
    · rw [ha]; rfl
    · rw [timedGetQ_stop timeto q pre r post qm e ha hs] at h; exact nomatch h
  · intro h
    obtain ⟨⟨qm, e⟩, ha⟩ := Option.isSome_iff_exists.mp h
    rw [timedGetQ_running timeto q rounds qm e ha]

/-- the answer of the sequential loop read as a result of the timed loop that gave up at `t` -/
def resOf (t : Int) (v : Nat) : TimedRes := if v = 0 then .timedOut t else .got v

/-- **`extraPolls` tied to the clock.**  If nobody else touches the queue, the first `k` clock
    readings are before the deadline and the `(k+1)`-th is not, then the timed loop does exactly
    what the sequential `getTimeoutLoop (k+1)` does: same remaining items, same events, value `x ≠ 0`
    ↔ `got x`, value `0` ↔ timed out — at the `(k+1)`-th reading.  (`getTimeoutLoop` stops early on an
    empty queue while the real loop keeps polling the empty queue until the deadline; those extra
    polls change nothing and emit nothing.) -/
theorem timedGetQ_no_others (timeto : Int) (q : Q) (pre : List Round) (r : Round)
    (post : List Round)
    (hpre : ∀ p ∈ pre, p.others = [] ∧ timeto - p.now > 0)
    (hr : r.others = [] ∧ timeto - r.now ≤ 0) :
    timedGetQ timeto q (pre ++ r :: post) =
      ({ q with items := (getTimeoutLoop (pre.length + 1) q.items).1 },
       some (resOf r.now (getTimeoutLoop (pre.length + 1) q.items).2.1),
       (getTimeoutLoop (pre.length + 1) q.items).2.2) := by
  induction pre generalizing q with
  | nil =>
    have hq : qpoll (run q r.others).1 = qpoll q := by rw [hr.1]; rfl
    by_cases h : (qpoll q).2.1 ≠ 0
    · rw [List.nil_append, timedGetQ_cons_got hq h, List.length_nil, getTimeoutLoop_succ, if_pos h]
      exact Prod.ext (congrArg (Q.mk _) (qpoll_cap q)) (Prod.ext (congrArg some (if_neg h).symm) rfl)
    · have h0 := Decidable.not_not.mp h
      rw [List.nil_append, timedGetQ_cons_late hq h0 hr.2, List.length_nil, getTimeoutLoop_succ,
        if_neg h]
      exact Prod.ext (congrArg (Q.mk _) (qpoll_cap q)) (Prod.ext rfl (List.append_nil _).symm)
  | cons p pre ih =>
    have hp := hpre p List.mem_cons_self
    have hq : qpoll (run q p.others).1 = qpoll q := by rw [hp.1]; rfl
    by_cases h : (qpoll q).2.1 ≠ 0
    · rw [List.cons_append, timedGetQ_cons_got hq h, List.length_cons, getTimeoutLoop_succ, if_pos h]
      exact Prod.ext (congrArg (Q.mk _) (qpoll_cap q)) (Prod.ext (congrArg some (if_neg h).symm) rfl)
    · rw [List.length_cons, getTimeoutLoop_succ, if_neg h, List.cons_append,
        timedGetQ_cons_idle hq (Decidable.not_not.mp h) hp.2,
        ih _ fun a ha => hpre a (List.mem_cons_of_mem _ ha)]
      exact Prod.ext (congrArg (Q.mk _) (qpoll_cap q)) rfl

/-- the same, against `step q (.getTimeout k)` -/
theorem timedGetQ_no_others_step (timeto : Int) (q : Q) (pre : List Round) (r : Round)
    (post : List Round)
    (hpre : ∀ p ∈ pre, p.others = [] ∧ timeto - p.now > 0)
    (hr : r.others = [] ∧ timeto - r.now ≤ 0) :
    timedGetQ timeto q (pre ++ r :: post) =
      ((step q (.getTimeout pre.length)).1,
       some (resOf r.now (retVal (step q (.getTimeout pre.length)).2.1)),
       (step q (.getTimeout pre.length)).2.2) :=
  timedGetQ_no_others timeto q pre r post hpre hr

/-- nothing arrives: the call gives up at the first reading at or after the deadline (12 ≥ 10) -/
example :
    timedGetQ 10 ⟨[], 0⟩ [⟨[], 3⟩, ⟨[], 7⟩, ⟨[], 12⟩, ⟨[.put 4], 13⟩] =
      (⟨[], 0⟩, some (.timedOut 12), []) := rfl
/-- an element put by another thread before the third poll is returned, although that round's
    clock reading is already past the deadline -/
example :
    timedGetQ 10 ⟨[], 0⟩ [⟨[], 3⟩, ⟨[], 7⟩, ⟨[.put 9, .put 8], 12⟩] =
      (⟨[8], 0⟩, some (.got 9), [.delivered 9]) := rfl
/-- another consumer was faster: the element is gone when this thread polls -/
example :
    timedGetQ 10 ⟨[], 0⟩ [⟨[.put 9, .get], 3⟩, ⟨[], 12⟩] =
      (⟨[], 0⟩, some (.timedOut 12), []) := rfl
/-- nil elements are consumed one per poll and reported to nobody; here the real element behind
    them is not reached before the deadline -/
example :
    timedGetQ 10 ⟨[0, 0, 5], 0⟩ [⟨[], 3⟩, ⟨[], 12⟩] =
      (⟨[5], 0⟩, some (.timedOut 12), [.swallowed 0, .swallowed 0]) := rfl
example :
    timedGetQ 10 ⟨[0, 5], 0⟩ [⟨[], 3⟩, ⟨[], 12⟩] =
      (⟨[], 0⟩, some (.got 5), [.swallowed 0, .delivered 5]) := rfl
/-- the environment ended -/
example : timedGetQ 10 ⟨[0], 0⟩ [⟨[], 3⟩, ⟨[], 7⟩] = (⟨[], 0⟩, none, [.swallowed 0]) := rfl
/-- `afterRounds`: two empty-handed rounds, then `timedGetQ_returns_arrival` applies -/
example : afterRounds 10 ⟨[0], 0⟩ [⟨[], 3⟩, ⟨[.put 0, .clear], 7⟩] = some (⟨[], 0⟩, [.swallowed 0]) := rfl
example : afterRounds 10 ⟨[], 0⟩ [⟨[], 3⟩, ⟨[], 12⟩] = none := rfl
/-- `timedGetQ_no_others` on an instance: k = 2 in-time readings, the third is late -/
example :
    timedGetQ 10 ⟨[0, 0, 0, 5], 3⟩ [⟨[], 3⟩, ⟨[], 7⟩, ⟨[], 12⟩] =
      (⟨[5], 3⟩, some (.timedOut 12), (step ⟨[0, 0, 0, 5], 3⟩ (.getTimeout 2)).2.2) := rfl
end Queue
