/-
  Golib.Queue.Fair — progress of a blocked `Get` of util/queue/RequestQueue.go on infinite
  executions of the monitor machine, for ANY number of producers and consumers, under an explicit
  fairness assumption on the actions of the consumer thread only (`Golib.Conc.Fair`).

  The schedule is adversarial; the other threads are not constrained at all except through the
  stated hypotheses on the lock and the queue contents.
-/
import Golib.Conc.Fair
import Golib.Queue.Conc

namespace Queue

open Conc.Cond

theorem cstep_isSome_of_nonempty (q : Q) (op : Op) (h : q.items ≠ []) : (cstep q op).isSome := by
  cases hc : cstep q op with
  | some _ => rfl
  | none => exact absurd ((cstep_none_iff q op).1 hc).2 h

theorem cstep_get_isSome (q : Q) : (cstep q .get).isSome ↔ q.items ≠ [] := by
  constructor
  · intro h hi
    have : cstep q .get = none := (cstep_none_iff q .get).2 ⟨rfl, hi⟩
    rw [this] at h
    simp at h
  · exact cstep_isSome_of_nonempty q .get

theorem cstep_get_some (q v : Q) (r : CRet) (h : cstep q .get = some (v, r)) :
    ∃ x rest, q.items = x :: rest ∧ v = { q with items := rest } ∧
      r = (.val x, [.delivered x]) := by
  cases hi : q.items with
  | nil =>
    have : cstep q .get = none := (cstep_none_iff q .get).2 ⟨rfl, hi⟩
    rw [this] at h
    simp at h
  | cons x rest =>
    rw [cstep_get_cons q x rest hi] at h
    simp at h
    exact ⟨x, rest, rfl, h.1.symm, h.2.symm⟩

variable {st : Nat → St Q Op CRet} {acts : Nat → Act Op}

/-- **The element returned is the head of the queue at the moment `t` got the lock.**  `t` holds
    the lock with a `get` at `i` and the queue is `x :: rest`; under weak fairness of `t`'s
    body/rel/ret, whatever the other threads do, `t` returns exactly `x`, and its body (index `k`)
    found the queue unchanged and left `rest`. -/
theorem get_result_is_head (hE : IsExec cstep qbcast st acts) (q0 : Q) (h0 : Reach q0 st)
    (t : Nat)
    (hwb : WF cstep qbcast st acts (.body t)) (hwr : WF cstep qbcast st acts (.rel t))
    (hwt : WF cstep qbcast st acts (.ret t))
    (i : Nat) (x : Nat) (rest : List Nat) (hp : (st i).ph t = .locked .get)
    (hq : (st i).sh.items = x :: rest) :
    ∃ j, i < j ∧ (st j).ph t = .idle ∧
      (∃ l, (st j).log = .ret t .get (.val x, [.delivered x]) :: l) ∧
      ∃ k, i ≤ k ∧ k < j ∧ acts k = .body t ∧ (st k).sh = (st i).sh ∧
        (st (k + 1)).sh = { (st i).sh with items := rest } :=
  fair_completes hE q0 h0 t .get hwb hwr hwt i _ _ hp (cstep_get_cons (st i).sh x rest hq)

end Queue
