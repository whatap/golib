/-
  Golib.Queue.Conc — util/queue/RequestQueue.go as a *monitor object* (`Golib.Conc.Cond`):
  the sequential queue `Queue.step` guarded by the mutex of a `sync.Cond`.

    Get:  Lock; for size <= 0 { Wait() }; RemoveFirst; Unlock      -- guard: items ≠ []
    Put / PutForce: Lock; …; Broadcast(); Unlock                   -- broadcast on every path
    Clear, GetNoWait, GetTimeout (a polling loop of GetNoWait), Size, SetCapacity, GetCapacity:
          Lock; …; Unlock                                          -- no broadcast

  `cstep` is `Queue.step` with the blocking branch of `get` turned into "guard false" (`none`);
  `qbcast` says which operations broadcast (tie A checks on the Go source that exactly `Put` and
  `PutForce` broadcast, on every path).  Everything below holds for ALL schedules and any number of
  producer/consumer threads (threads are natural numbers, a schedule is an arbitrary action list).
-/
import Golib.Conc.Cond
import Golib.Queue.Thms

namespace Queue

/-- what an operation hands back at its linearization point: the return value and the events -/
abbrev CRet := Ret × List Ev

/-- the queue operation as a guarded operation: `none` = the caller must `Wait()` -/
def cstep (q : Q) (op : Op) : Option (Q × CRet) :=
  if op = .get ∧ q.items = [] then none else some (step q op)

/-- the operations that call `Broadcast()` before unlocking -/
def qbcast : Op → Bool
  | .put _ | .putForce _ => true
  | _ => false

theorem cstep_none_iff (q : Q) (op : Op) : cstep q op = none ↔ op = .get ∧ q.items = [] := by
  unfold cstep
  split <;> simp_all

theorem cstep_some (q : Q) (op : Op) (v : Q) (r : CRet) (h : cstep q op = some (v, r)) :
    step q op = (v, r) := by
  unfold cstep at h
  split at h
  · simp at h
  · simpa using h

theorem cstep_get_cons (q : Q) (x : Nat) (rest : List Nat) (h : q.items = x :: rest) :
    cstep q .get = some ({ q with items := rest }, (.val x, [.delivered x])) := by
  rw [cstep, if_neg (fun hh => List.cons_ne_nil x rest (h.symm.trans hh.2)), step_get_cons q x rest h]

theorem step_keeps_empty (q : Q) (op : Op) (hb : qbcast op = false) (hi : q.items = []) :
    (step q op).1.items = [] := by
  have ho : op.offered = [] := by cases op <;> first | rfl | exact nomatch hb
  have := step_size_le q op ho
  rw [Q.size, Q.size, hi] at this
  exact List.eq_nil_of_length_eq_zero (Nat.le_zero.mp this)

/-- **The broadcast obligation holds for the request queue**: the only blockable operation is
    `get`, blocked iff the queue is empty, and none of get / getNoWait / getTimeout / clear /
    setCapacity / size / getCapacity makes an empty queue non-empty. -/
theorem queue_H : Conc.Cond.NoEnable cstep qbcast := by
  intro v op v' r hs hb op' hn
  rw [cstep_none_iff] at hn ⊢
  obtain ⟨hop, hi⟩ := hn
  refine ⟨hop, ?_⟩
  have h1 := cstep_some v op v' r hs
  have h2 := step_keeps_empty v op hb hi
  rw [h1] at h2
  exact h2

def opsOf (l : List (Nat × Op × CRet)) : List Op := l.map (fun x => x.2.1)
def retsOf (l : List (Nat × Op × CRet)) : List Ret := l.map (fun x => x.2.2.1)
/-- all events in linearization order (chronological) -/
def evsOf (l : List (Nat × Op × CRet)) : List Ev := l.flatMap (fun x => x.2.2.2)

theorem run_of_retsOk (q0 : Q) (log : List (Conc.Ev Op CRet))
    (h : Conc.Cond.retsOk cstep q0 log) :
    run q0 (opsOf (Conc.linOps log)) =
      (Conc.Cond.seqState cstep q0 log, retsOf (Conc.linOps log), evsOf (Conc.linOps log)) := by
  induction log with
  | nil => rfl
  | cons e rest ih =>
    cases e with
    | inv t op => simpa [Conc.linOps, Conc.Cond.seqState] using ih h
    | ret t op r => simpa [Conc.linOps, Conc.Cond.seqState] using ih h
    | lin t op r =>
      obtain ⟨h1, h2⟩ := h
      have hs := cstep_some _ _ _ _ h1
      have ih' := ih h2
      simp only [Conc.linOps, opsOf, retsOf, evsOf, List.map_append, List.flatMap_append,
        List.map_cons, List.map_nil, List.flatMap_cons, List.flatMap_nil] at ih' ⊢
      rw [run_append, ih']
      simp [run, hs]

/-- **conc_run.**  In every reachable state the chronological list of linearization points
    `L = linOps s.log` is a run of the *sequential* queue: replaying its operations with
    `Queue.run` from the initial queue yields the shared state, the recorded return values and the
    recorded events.  (Only enabled operations are ever linearized: a `get` on an empty queue
    waits instead, see `lin_never_blocked`.) -/
theorem conc_run (q0 : Q) (as : List (Conc.Cond.Act Op)) (s : Conc.Cond.St Q Op CRet)
    (h : Conc.Cond.runActs cstep qbcast (Conc.Cond.initSt q0) as = some s) :
    (run q0 (opsOf (Conc.linOps s.log))).1 = s.sh ∧
    (run q0 (opsOf (Conc.linOps s.log))).2.2 = evsOf (Conc.linOps s.log) ∧
    (run q0 (opsOf (Conc.linOps s.log))).2.1 = retsOf (Conc.linOps s.log) := by
  obtain ⟨_, h2, h3⟩ := Conc.Cond.monitor_linearizable cstep qbcast q0 as s h
  rw [run_of_retsOk q0 s.log h2]
  exact ⟨h3.symm, rfl, rfl⟩

theorem step_blocked (q : Q) (op : Op) (h : (step q op).2.1 = .blocked) :
    op = .get ∧ q.items = [] := by
  cases op with
  | get =>
    cases hi : q.items with
    | nil => exact ⟨rfl, rfl⟩
    | cons x r => rw [step_get_cons q x r hi] at h; exact nomatch h
  | put x | putForce x => simp only [step] at h; split at h <;> exact nomatch h
  | getNoWait => simp only [step] at h; split at h <;> exact nomatch h
  | _ => exact nomatch h

theorem retsOk_ne_blocked (q0 : Q) (log : List (Conc.Ev Op CRet))
    (h : Conc.Cond.retsOk cstep q0 log) : ∀ x ∈ Conc.linOps log, x.2.2.1 ≠ .blocked := by
  induction log with
  | nil => exact fun _ h => nomatch h
  | cons e rest ih =>
    cases e with
    | inv t op => exact ih h
    | ret t op r => exact ih h
    | lin t op r =>
      refine List.forall_mem_append.mpr ⟨ih h.2, List.forall_mem_singleton.mpr fun hb => ?_⟩
      have hg := step_blocked _ op (by rw [cstep_some _ _ _ _ h.1]; exact hb)
      exact nomatch ((cstep_none_iff _ _).mpr hg).symm.trans h.1

/-- no linearized operation is a blocked get: in the concurrent object "blocked" is never a return
    value, it is the wait set -/
theorem lin_never_blocked (q0 : Q) (as : List (Conc.Cond.Act Op)) (s : Conc.Cond.St Q Op CRet)
    (h : Conc.Cond.runActs cstep qbcast (Conc.Cond.initSt q0) as = some s) :
    ∀ x ∈ Conc.linOps s.log, x.2.2.1 ≠ .blocked :=
  retsOk_ne_blocked q0 s.log (Conc.Cond.monitor_linearizable cstep qbcast q0 as s h).2.1

/-- FIFO: what was in the queue plus what was accepted, in order, is what left, in order, followed
    by what is still there -/
theorem conc_fifo (q0 : Q) (as : List (Conc.Cond.Act Op)) (s : Conc.Cond.St Q Op CRet)
    (h : Conc.Cond.runActs cstep qbcast (Conc.Cond.initSt q0) as = some s) :
    q0.items ++ acceptedOf (evsOf (Conc.linOps s.log)) =
      leftOf (evsOf (Conc.linOps s.log)) ++ s.sh.items := by
  obtain ⟨h1, h2, _⟩ := conc_run q0 as s h
  have := run_fifo q0 (opsOf (Conc.linOps s.log))
  rw [h1, h2] at this
  exact this

/-- **Every accepted element is delivered to exactly one consumer, or reported evicted / cleared
    (or is a `nil` swallowed by GetTimeout's polling loop), or is still in the queue** — as
    multisets, for the events of the linearization of any reachable state. -/
theorem exactly_once (q0 : Q) (as : List (Conc.Cond.Act Op)) (s : Conc.Cond.St Q Op CRet)
    (h : Conc.Cond.runActs cstep qbcast (Conc.Cond.initSt q0) as = some s) :
    (q0.items ++ acceptedOf (evsOf (Conc.linOps s.log))).Perm
      (deliveredOf (evsOf (Conc.linOps s.log)) ++ overflowedOf (evsOf (Conc.linOps s.log)) ++
        clearedOf (evsOf (Conc.linOps s.log)) ++ swallowedOf (evsOf (Conc.linOps s.log)) ++
        s.sh.items) :=
  Fifo.conservation (conc_fifo q0 as s h)

/-- consumer 0 finds the queue empty and waits -/
def demoA : List (Conc.Cond.Act Op) := [.inv 0 .get, .acq 0, .body 0]
/-- producer 1 puts 5 (and broadcasts), returns -/
def demoB : List (Conc.Cond.Act Op) := [.inv 1 (.put 5), .acq 1, .body 1, .rel 1, .ret 1]
/-- consumer 0 re-acquires the lock, re-checks, takes the element, returns -/
def demoC : List (Conc.Cond.Act Op) := [.acq 0, .body 0, .rel 0, .ret 0]

def demoQ : Q := ⟨[], 2⟩

example : (Conc.Cond.runActs cstep qbcast (Conc.Cond.initSt demoQ) demoA).map
    (fun s => (s.ph 0, s.holder, s.sh.items, s.log)) =
    some (.waiting .get, none, [], [.inv 0 .get]) := by rfl

example : (Conc.Cond.runActs cstep qbcast (Conc.Cond.initSt demoQ) (demoA ++ demoB)).map
    (fun s => (s.ph 0, s.ph 1, s.holder, s.sh.items)) =
    some (.woken .get, .idle, none, [5]) := by rfl

example : (Conc.Cond.runActs cstep qbcast (Conc.Cond.initSt demoQ) (demoA ++ demoB ++ demoC)).map
    (fun s => (s.ph 0, s.holder, s.sh.items, Conc.linOps s.log)) =
    some (.idle, none, [],
      [(1, .put 5, (.bool true, [.accepted 5])), (0, .get, (.val 5, [.delivered 5]))]) := by rfl

example : (Conc.Cond.runActs cstep qbcast (Conc.Cond.initSt demoQ) (demoA ++ demoB ++ demoC)).map
    (fun s => (evsOf (Conc.linOps s.log), Conc.Cond.invsN 0 s.log)) =
    some ([.accepted 5, .delivered 5], [.get]) := by rfl

/-- the hypotheses of the theorems above are satisfiable by that schedule -/
example : ∃ s, Conc.Cond.runActs cstep qbcast (Conc.Cond.initSt demoQ) (demoA ++ demoB ++ demoC)
    = some s := Option.isSome_iff_exists.1 (by rfl)

/-- a second consumer that arrives while the first one is only `woken` (has not yet re-acquired
    the lock) may take the element; the first one then re-checks, finds the queue empty and waits
    again — nothing is delivered twice and nothing is lost -/
example : (Conc.Cond.runActs cstep qbcast (Conc.Cond.initSt demoQ)
      (demoA ++ demoB ++ [.inv 2 .get, .acq 2, .body 2, .rel 2, .ret 2, .acq 0, .body 0])).map
    (fun s => (s.ph 0, s.holder, s.sh.items, evsOf (Conc.linOps s.log))) =
    some (.waiting .get, none, [], [.accepted 5, .delivered 5]) := by rfl

end Queue
