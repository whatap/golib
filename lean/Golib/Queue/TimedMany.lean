/-
  Golib.Queue.TimedMany — several timed gets on one queue at the same time.

  `RequestQueue.GetTimeout` (the code as it stands, with the `poll() (v, taken)` helper) is a loop

      timeto := now() + timeout
      for { if v, ok := poll(); ok { return v }; sleep(t/3); t = timeto - now(); if t <= 0 { return nil } }

  A history with `n` timed consumers is a list of events: an operation of some *other* thread (producers,
  blocking consumers, Clear …, linearized as one `stepF`), or consumer `i` being scheduled for one turn of
  its loop (`poll i now`: it polls; if the queue is empty it sleeps and then reads the clock `now`).
  Every consumer carries its *own* deadline.  The order of the events is arbitrary (adversarial
  scheduler), the clock readings are arbitrary (no monotonicity is needed for the lower bound).

  Proved: a consumer's call ends only in one of its own turns (`mstep_frame`, `mrun_ended`), it ends
  empty-handed only at a clock reading at or after *its own* deadline, in a turn that found the queue
  empty (`mstep_poll_res`), and the queue content / event list of the whole history is that of a
  sequential history of the repaired model (`mrun_sequential`), so FIFO and conservation hold for it.
-/
import Golib.Queue.Fixed

namespace Queue

inductive MEv where
  | other (op : Op)
  | poll (i : Nat) (now : Int)
  deriving DecidableEq, Repr

/-- a timed consumer: its deadline and, once the call has returned, the result -/
structure TC where
  timeto : Int
  res : Option TimedRes
  deriving DecidableEq, Repr

structure MSt where
  q : Q
  cs : List TC
  deriving DecidableEq, Repr

def MSt.res (s : MSt) (i : Nat) : Option TimedRes := (s.cs[i]?).bind (·.res)
def MSt.timeto (s : MSt) (i : Nat) : Option Int := (s.cs[i]?).map (·.timeto)

/-- all consumers still in their call -/
def MSt.start (q : Q) (deadlines : List Int) : MSt := ⟨q, deadlines.map (fun d => ⟨d, none⟩)⟩

def mstep (s : MSt) : MEv → MSt × List Ev
  | .other op => let r := stepF s.q op; ({ s with q := r.1 }, r.2.2)
  | .poll i now =>
    match s.cs[i]? with
    | none => (s, [])
    | some c =>
      match c.res with
      | some _ => (s, [])                      -- that call has returned already
      | none =>
        match s.q.items with
        | x :: r => (⟨{ s.q with items := r }, s.cs.set i { c with res := some (.got x) }⟩, [.delivered x])
        | [] =>
          if c.timeto - now ≤ 0 then (⟨s.q, s.cs.set i { c with res := some (.timedOut now) }⟩, [])
          else (s, [])

def mrun (s : MSt) : List MEv → MSt × List Ev
  | [] => (s, [])
  | e :: es =>
    let a := mstep s e
    let b := mrun a.1 es
    (b.1, a.2 ++ b.2)

/-- accumulator form for the driver -/
def mrunTR (s : MSt) : List MEv → List Ev → MSt × List Ev
  | [], acc => (s, acc.reverse)
  | e :: es, acc => let a := mstep s e; mrunTR a.1 es (a.2.reverse ++ acc)

theorem mrunTR_eq (s : MSt) (es : List MEv) (acc : List Ev) :
    mrunTR s es acc = ((mrun s es).1, acc.reverse ++ (mrun s es).2) := by
  induction es generalizing s acc with
  | nil => simp [mrunTR, mrun]
  | cons e es ih => simp [mrunTR, mrun, ih, List.append_assoc]

theorem MSt.res_set (s : MSt) (q' : Q) (i j : Nat) (c : TC) (r : Option TimedRes) (h : s.cs[i]? = some c) :
    (⟨q', s.cs.set i { c with res := r }⟩ : MSt).res j = if j = i then r else s.res j := by
  have hi : i < s.cs.length := (List.getElem?_eq_some_iff.mp h).1
  by_cases hji : j = i
  · simp [MSt.res, hji, hi]
  · simp [MSt.res, hji, Ne.symm hji]

theorem MSt.timeto_set (s : MSt) (q' : Q) (i j : Nat) (c : TC) (r : Option TimedRes) (h : s.cs[i]? = some c) :
    (⟨q', s.cs.set i { c with res := r }⟩ : MSt).timeto j = s.timeto j := by
  obtain ⟨hi, rfl⟩ := List.getElem?_eq_some_iff.mp h
  by_cases hji : j = i
  · simp [MSt.timeto, hji, hi]
  · simp [MSt.timeto, Ne.symm hji]

theorem mstep_poll (s : MSt) (i : Nat) (now : Int) :
    mstep s (.poll i now) = (s, []) ∨
    ∃ c r q' ev, s.cs[i]? = some c ∧ c.res = none ∧
      mstep s (.poll i now) = (⟨q', s.cs.set i { c with res := some r }⟩, ev) ∧
      ((∃ x xs, s.q.items = x :: xs ∧ q' = { s.q with items := xs } ∧ r = .got x ∧ ev = [.delivered x]) ∨
       (s.q.items = [] ∧ c.timeto - now ≤ 0 ∧ q' = s.q ∧ r = .timedOut now ∧ ev = [])) := by
  simp only [mstep]
  split
  · exact .inl rfl
  · rename_i c hc
    split
    · exact .inl rfl
    · rename_i hr
      split
      · rename_i x xs hq
        exact .inr ⟨c, _, _, _, hc, hr, rfl, .inl ⟨x, xs, hq, rfl, rfl, rfl⟩⟩
      · rename_i hq
        split
        · rename_i hd
          exact .inr ⟨c, _, _, _, hc, hr, rfl, .inr ⟨hq, hd, rfl, rfl, rfl⟩⟩
        · exact .inl rfl

theorem mstep_timeto (s : MSt) (e : MEv) (j : Nat) : (mstep s e).1.timeto j = s.timeto j := by
  cases e with
  | other op => rfl
  | poll i now =>
    rcases mstep_poll s i now with h | ⟨c, r, q', ev, hc, _, h, _⟩ <;> rw [h]
    exact MSt.timeto_set s q' i j c _ hc

/-- **frame**: the call of consumer `j` is ended by nothing but a turn of consumer `j` itself — not by an
    operation of another thread, not by another consumer's turn (its deadline, or it taking an element) -/
theorem mstep_frame (s : MSt) (e : MEv) (j : Nat) (h : ∀ now, e ≠ .poll j now) :
    (mstep s e).1.res j = s.res j := by
  cases e with
  | other op => rfl
  | poll i now =>
    rcases mstep_poll s i now with h1 | ⟨c, r, q', ev, hc, _, h1, _⟩ <;> rw [h1]
    exact (MSt.res_set s q' i j c _ hc).trans (if_neg fun hji => h now (by rw [hji]))

theorem mstep_poll_res (s : MSt) (i : Nat) (now : Int) (r : TimedRes) (h0 : s.res i = none)
    (h : (mstep s (.poll i now)).1.res i = some r) :
    (∃ x xs, s.q.items = x :: xs ∧ r = .got x) ∨
    (s.q.items = [] ∧ r = .timedOut now ∧ ∃ d, s.timeto i = some d ∧ d - now ≤ 0) := by
  rcases mstep_poll s i now with h1 | ⟨c, r', q', ev, hc, _, h1, h2⟩ <;> rw [h1] at h
  · exact nomatch h0 ▸ h
  · rw [MSt.res_set s q' i i c _ hc, if_pos rfl] at h
    cases h
    rcases h2 with ⟨x, xs, hq, _, hr, _⟩ | ⟨hq, hd, _, hr, _⟩
    · exact .inl ⟨x, xs, hq, hr⟩
    · exact .inr ⟨hq, hr, c.timeto, by rw [MSt.timeto, hc]; rfl, hd⟩

theorem mstep_res_stable (s : MSt) (e : MEv) (j : Nat) (r : TimedRes) (h : s.res j = some r) :
    (mstep s e).1.res j = some r := by
  by_cases he : ∃ now, e = .poll j now
  · obtain ⟨now, rfl⟩ := he
    rcases mstep_poll s j now with h1 | ⟨c, _, _, _, hc, hr, _⟩
    · rw [h1]; exact h
    · rw [MSt.res, hc] at h; exact nomatch hr.symm.trans h
  · rw [mstep_frame s e j (fun now hh => he ⟨now, hh⟩)]; exact h

/-- the queue part of a step is a sequential history of at most one operation of the repaired model:
    nothing, the other thread's operation, or a `GetNoWait` that found an element -/
theorem mstep_sequential (s : MSt) (e : MEv) :
    ∃ ops : List Op, ops.length ≤ 1 ∧ (mstep s e).1.q = (runF s.q ops).1 ∧ (mstep s e).2 = (runF s.q ops).2.2 := by
  cases e with
  | other op => exact ⟨[op], Nat.le_refl 1, rfl, (List.append_nil _).symm⟩
  | poll i now =>
    rcases mstep_poll s i now with h | ⟨c, r, q', ev, _, _, h, h2⟩ <;> rw [h]
    · exact ⟨[], Nat.zero_le 1, rfl, rfl⟩
    · rcases h2 with ⟨x, xs, hq, rfl, _, rfl⟩ | ⟨_, _, rfl, _, rfl⟩
      · exact ⟨[.getNoWait], Nat.le_refl 1, by simp [runF, stepF, step, hq], by simp [runF, stepF, step, hq]⟩
      · exact ⟨[], Nat.zero_le 1, rfl, rfl⟩

/-- **the whole history is a sequential history of the repaired model** (the timed consumers' turns
    appear as the `GetNoWait`s that found something); at most one operation per event -/
theorem mrun_sequential (s : MSt) (es : List MEv) :
    ∃ ops : List Op, ops.length ≤ es.length ∧
      (mrun s es).1.q = (runF s.q ops).1 ∧ (mrun s es).2 = (runF s.q ops).2.2 := by
  induction es generalizing s with
  | nil => exact ⟨[], Nat.le_refl 0, rfl, rfl⟩
  | cons e es ih =>
    obtain ⟨o1, hl1, hq1, he1⟩ := mstep_sequential s e
    obtain ⟨o2, hl2, hq2, he2⟩ := ih (mstep s e).1
    refine ⟨o1 ++ o2, by simp; omega, ?_, ?_⟩
    · simp only [mrun, runF_append]; rw [hq2, hq1]
    · simp only [mrun, runF_append]; rw [he2, he1, hq1]

theorem mrun_timeto (s : MSt) (es : List MEv) (j : Nat) : (mrun s es).1.timeto j = s.timeto j := by
  induction es generalizing s with
  | nil => rfl
  | cons e es ih => simp only [mrun]; rw [ih, mstep_timeto]

theorem mrun_res_stable (s : MSt) (es : List MEv) (j : Nat) (r : TimedRes) (h : s.res j = some r) :
    (mrun s es).1.res j = some r := by
  induction es generalizing s with
  | nil => exact h
  | cons e es ih => exact ih _ (mstep_res_stable s e j r h)

/-- a call that was running at the start and has ended did so in one of its own turns, `pre ++ poll j now
    :: post`, whatever the other threads and the other timed consumers do -/
theorem mrun_ended (s : MSt) (es : List MEv) (j : Nat) (r : TimedRes)
    (h0 : s.res j = none) (h : (mrun s es).1.res j = some r) :
    ∃ now pre post, es = pre ++ MEv.poll j now :: post ∧ (mrun s pre).1.res j = none ∧
      (mstep (mrun s pre).1 (.poll j now)).1.res j = some r := by
  induction es generalizing s with
  | nil => exact nomatch h0 ▸ h
  | cons e es ih =>
    cases hr : (mstep s e).1.res j with
    | none =>
      obtain ⟨now, pre, post, hes, hn, hm⟩ := ih (mstep s e).1 hr h
      exact ⟨now, e :: pre, post, congrArg (e :: ·) hes, hn, hm⟩
    | some r' =>
      cases (mrun_res_stable _ es j r' hr).symm.trans h
      by_cases he : ∃ now, e = .poll j now
      · obtain ⟨now, rfl⟩ := he
        exact ⟨now, [], es, rfl, h0, hr⟩
      · rw [mstep_frame s e j (fun now hh => he ⟨now, hh⟩), h0] at hr; cases hr

end Queue
