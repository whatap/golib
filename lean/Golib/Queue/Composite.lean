/-
  Golib.Queue.Composite — the double queue's composite operations (Size, Clear over two lists).

  `RequestDoubleQueue` keeps two `LinkedList`s, each with a mutex of its own, under one outer lock (the
  mutex of the condition variable).  `Clear()` clears list 1 and then list 2; `Size()` adds the two sizes.
  With the outer lock held for the whole body these are the atomic operations `dstep d .clear` /
  `dstep d .size` of the model (the body of an operation may be any function of the snapshot;
  `Conc.callback_window_exclusive` says that nothing interleaves between the snapshot and the store).
  Without the outer lock the two halves are separate atomic steps — each list still protected by its own
  mutex, so no data race and no sequential difference — between which other threads' operations can fall:
  the witnesses `C11.finding_two_step_clear_not_atomic` / `C11.finding_two_step_size_not_atomic` are histories
  that no placement of an atomic Clear / Size explains.
-/
import Golib.Queue.Seq

namespace Queue

/-- the halves of the composite operations, each atomic under the *inner* list's own mutex -/
inductive Micro where
  | clear1 | clear2
  | put1 (x : Nat) | put2 (x : Nat)
  | take        -- GetNoWait
  deriving DecidableEq, Repr

def micro (d : DQ) : Micro → DQ
  | .clear1 => { d with q1 := { d.q1 with items := [] } }
  | .clear2 => { d with q2 := { d.q2 with items := [] } }
  | .put1 x => (dstep d (.put1 x)).1
  | .put2 x => (dstep d (.put2 x)).1
  | .take => (dstep d .getNoWait).1

def microRun (d : DQ) : List Micro → DQ
  | [] => d
  | m :: ms => microRun (micro d m) ms

/-- the final states an *atomic* Clear can produce around `put1 b; put2 c` by one other thread -/
def atomicClearOutcomes (d : DQ) (b c : Nat) : List DQ :=
  [ microRun (dstep d .clear).1 [.put1 b, .put2 c],                                   -- Clear first
    microRun (dstep (microRun d [.put1 b]) .clear).1 [.put2 c],                       -- in between
    (dstep (microRun d [.put1 b, .put2 c]) .clear).1 ]                                -- Clear last

end Queue
