/-
  Golib.Queue.Findings — complete characterisations (iff) of the two known findings of
  RequestQueue / RequestDoubleQueue, both about `GetTimeout` before its repair (`step` / `dstep`); /repo
  has the repaired loop (`stepF` / `dstepF` of Golib/Queue/Fixed.lean), which shows neither:

  1. a `nil` element is popped and thrown away by the polling loop of GetTimeout: closed form of
     the loop, "a timed get loses an element iff the head of the queue is a nil element", the exact
     number lost, and "without nil elements nothing is ever lost";
  2. the timed get of the double queue serves queue 2 although queue 1 is not empty: exactly when
     queue 1 holds only nil elements and the polls suffice to reach a non-nil element of queue 2.
     Get / GetNoWait never do that.
-/
import Golib.Queue.Thms

namespace Queue

/-- number of leading nil elements -/
def leadingNils (items : List Nat) : Nat := (items.takeWhile (· = 0)).length

theorem leadingNils_nil : leadingNils [] = 0 := rfl

theorem leadingNils_cons_zero (r : List Nat) : leadingNils (0 :: r) = leadingNils r + 1 := by
  simp [leadingNils, List.takeWhile]

theorem leadingNils_cons_ne (x : Nat) (r : List Nat) (hx : x ≠ 0) : leadingNils (x :: r) = 0 := by
  simp [leadingNils, List.takeWhile, hx]

@[simp] theorem swallowedOf_replicate (n : Nat) :
    swallowedOf (List.replicate n (.swallowed 0)) = List.replicate n 0 := by
  induction n with
  | zero => rfl
  | succ n ih => exact congrArg (0 :: ·) ih

@[simp] theorem deliveredOf_replicate (n : Nat) :
    deliveredOf (List.replicate n (.swallowed 0)) = [] := by
  induction n with
  | zero => rfl
  | succ n ih => exact ih

/-- closed form of the polling loop: it eats leading nil elements, one per poll, and then either
    runs out of polls, or finds the queue empty, or delivers the first non-nil element -/
theorem getTimeoutLoop_closed (n : Nat) (items : List Nat) :
    getTimeoutLoop n items =
      if n ≤ (items.takeWhile (· = 0)).length then
        (items.drop n, 0, List.replicate n (.swallowed 0))
      else
        match items.drop (items.takeWhile (· = 0)).length with
        | [] => ([], 0, List.replicate (items.takeWhile (· = 0)).length (.swallowed 0))
        | x :: r =>
          (r, x, List.replicate (items.takeWhile (· = 0)).length (.swallowed 0) ++ [.delivered x]) := by
  fun_induction getTimeoutLoop n items with
  | case1 | case2 => rfl
  | case3 k x r hx =>
    rw [show ((x :: r).takeWhile (· = 0)).length = 0 from leadingNils_cons_ne x r hx,
      if_neg (Nat.not_succ_le_zero k)]
    rfl
  | case4 k x r hx t ih =>
    cases Decidable.not_not.mp hx
    rw [show ((0 :: r).takeWhile (· = 0)).length = (r.takeWhile (· = 0)).length + 1 from
      leadingNils_cons_zero r]
    simp only [t, ih]
    by_cases hn : k ≤ (r.takeWhile (· = 0)).length
    · rw [if_pos hn, if_pos (Nat.succ_le_succ hn)]
      rfl
    · rw [if_neg hn, if_neg (fun h => hn (Nat.le_of_succ_le_succ h)), List.drop_succ_cons]
      cases List.drop (r.takeWhile (· = 0)).length r <;> rfl

/-- what is lost is exactly a prefix of the queue consisting of nil elements: one per poll, at most
    the leading nil elements -/
theorem swallowed_eq (q : Q) (k : Nat) :
    swallowedOf (step q (.getTimeout k)).2.2 =
      List.replicate (min (k + 1) (q.items.takeWhile (· = 0)).length) 0 := by
  show swallowedOf (getTimeoutLoop (k + 1) q.items).2.2 = _
  rw [getTimeoutLoop_closed]
  split
  · rename_i h
    rw [Nat.min_eq_left h]
    exact swallowedOf_replicate _
  · rename_i h
    rw [Nat.min_eq_right (Nat.le_of_not_le h)]
    split
    · exact swallowedOf_replicate _
    · simp only [swallowedOf_append, swallowedOf_replicate]
      exact List.append_nil _

theorem swallowed_count (q : Q) (k : Nat) :
    (swallowedOf (step q (.getTimeout k)).2.2).length =
      min (k + 1) (q.items.takeWhile (· = 0)).length := by
  rw [swallowed_eq, List.length_replicate]

theorem leadingNils_pos_iff (items : List Nat) :
    0 < leadingNils items ↔ items.head? = some 0 := by
  cases items with
  | nil => exact iff_of_false (Nat.lt_irrefl 0) nofun
  | cons x r =>
    by_cases hx : x = 0
    · subst hx
      rw [leadingNils_cons_zero]
      exact iff_of_true (Nat.succ_pos _) rfl
    · rw [leadingNils_cons_ne x r hx]
      exact iff_of_false (Nat.lt_irrefl 0) fun h => hx (Option.some.inj h)

/-- **a timed get loses an element iff the head of the queue is a nil element** -/
theorem swallows_iff (q : Q) (k : Nat) :
    swallowedOf (step q (.getTimeout k)).2.2 ≠ [] ↔ q.items.head? = some 0 := by
  rw [← leadingNils_pos_iff, ← List.length_pos_iff, swallowed_count, Nat.lt_min]
  exact and_iff_right (Nat.succ_pos k)

/-- only nil elements are ever swallowed -/
theorem run_swallowed_nil (q : Q) (ops : List Op) : ∀ x ∈ swallowedOf (run q ops).2.2, x = 0 := by
  induction ops generalizing q with
  | nil => exact fun _ h => nomatch h
  | cons op ops ih =>
    simp only [run, swallowedOf_append, List.forall_mem_append]
    refine ⟨?_, ih _⟩
    cases op with
    | getTimeout k => rw [swallowed_eq]; exact fun _ => List.eq_of_mem_replicate
    | _ => rw [step_swallowed_other _ _ fun _ => Op.noConfusion]; exact nofun

theorem not_offered_zero (ops : List Op) (hops : ∀ op ∈ ops, op ≠ .put 0 ∧ op ≠ .putForce 0) :
    0 ∉ ops.flatMap Op.offered := by
  intro h
  obtain ⟨op, hop, h0⟩ := List.mem_flatMap.mp h
  cases op with
  | put x => cases List.mem_singleton.mp h0; exact (hops _ hop).1 rfl
  | putForce x => cases List.mem_singleton.mp h0; exact (hops _ hop).2 rfl
  | _ => exact nomatch h0

/-- **without nil elements the full conservation law holds: nothing is ever swallowed** — what is
    swallowed is nil and has left the queue, so it was there at the start or was offered -/
theorem run_no_nil_no_swallow (q : Q) (ops : List Op) (hq : 0 ∉ q.items)
    (hops : ∀ op ∈ ops, op ≠ .put 0 ∧ op ≠ .putForce 0) :
    swallowedOf (run q ops).2.2 = [] :=
  List.eq_nil_iff_forall_not_mem.mpr fun x hx => by
    cases run_swallowed_nil q ops x hx
    have hl : 0 ∈ leftOf (run q ops).2.2 :=
      (left_partition _).mem_iff.mpr (List.mem_append_right _ hx)
    exact (run_content q ops 0 (.inl hl)).elim hq (not_offered_zero ops hops)

theorem run_no_nil (q : Q) (ops : List Op) (hq : 0 ∉ q.items)
    (hops : ∀ op ∈ ops, op ≠ .put 0 ∧ op ≠ .putForce 0) : 0 ∉ (run q ops).1.items :=
  fun h => (run_content q ops 0 (.inr h)).elim hq (not_offered_zero ops hops)

/-- exactly when `n` polls of the timed get of the single queue deliver `x`: behind fewer than `n`
    nil elements -/
theorem getTimeoutLoop_delivered_iff (n : Nat) (items : List Nat) (x : Nat) :
    Ev.delivered x ∈ (getTimeoutLoop n items).2.2 ↔
      x ≠ 0 ∧ ∃ pre post, items = pre ++ x :: post ∧ (∀ y ∈ pre, y = 0) ∧ pre.length < n := by
  fun_induction getTimeoutLoop n items with
  | case1 items =>
    exact iff_of_false List.not_mem_nil fun ⟨_, _, _, _, _, h⟩ => Nat.not_lt_zero _ h
  | case2 n =>
    exact iff_of_false List.not_mem_nil fun ⟨_, _, _, h, _⟩ =>
      List.cons_ne_nil _ _ (List.append_eq_nil_iff.mp h.symm).2
  | case3 k y r hy =>
    simp only [List.mem_singleton, Ev.delivered.injEq]
    constructor
    · rintro rfl
      exact ⟨hy, [], r, rfl, nofun, Nat.succ_pos k⟩
    · rintro ⟨hx, pre, post, c, e, f⟩
      cases pre with
      | nil => exact (List.cons.inj c).1.symm
      | cons z pre => exact absurd (e z List.mem_cons_self) ((List.cons.inj c).1 ▸ hy)
  | case4 k y r hy t ih =>
    cases Decidable.not_not.mp hy
    simp only [List.mem_cons, reduceCtorEq, false_or]
    rw [ih]
    constructor
    · rintro ⟨hx, pre, post, c, e, f⟩
      exact ⟨hx, 0 :: pre, post, congrArg (0 :: ·) c, List.forall_mem_cons.2 ⟨rfl, e⟩,
        Nat.succ_lt_succ f⟩
    · rintro ⟨hx, pre, post, c, e, f⟩
      cases pre with
      | nil => exact absurd (List.cons.inj c).1.symm hx
      | cons z pre =>
        exact ⟨hx, pre, post, (List.cons.inj c).2, fun y hy => e y (List.mem_cons_of_mem _ hy),
          Nat.lt_of_succ_lt_succ f⟩

/-- exactly when `n` polls of the timed get deliver `x` from queue 2 -/
theorem dGetTimeoutLoop_second_delivered_iff (n : Nat) (d : DQ) (x : Nat) :
    (2, Ev.delivered x) ∈ (dGetTimeoutLoop n d).2.2 ↔
      (∀ y ∈ d.q1.items, y = 0) ∧ x ≠ 0 ∧ ∃ pre post, d.q2.items = pre ++ x :: post ∧
        (∀ y ∈ pre, y = 0) ∧ d.q1.items.length + pre.length < n := by
  rw [dLoop_eq]
  simp only []
  split
  · rename_i h
    have := mt (getTimeoutLoop_exhausts_iff n d.q1.items).mpr (not_not_intro h)
    exact iff_of_false (mem_tag_other 2 1 _ _ (by decide))
      fun ⟨h1, _, pre, _, _, _, hl⟩ =>
        this ⟨h1, Nat.le_of_lt (Nat.lt_of_le_of_lt (Nat.le_add_right _ _) hl)⟩
  · rename_i h
    obtain ⟨h1, hl⟩ := (getTimeoutLoop_exhausts_iff n d.q1.items).mp h
    rw [List.mem_append, mem_tag, getTimeoutLoop_delivered_iff]
    simp only [mem_tag_other 2 1 _ _ (by decide : (1 : Nat) ≠ 2), false_or]
    refine Iff.trans ?_ (and_iff_right h1).symm
    exact and_congr_right fun _ => exists_congr fun pre => exists_congr fun post =>
      and_congr_right fun _ => and_congr_right fun _ => Nat.lt_sub_iff_add_lt'

/-- without the side condition on queue 1: exactly when the timed get delivers `x` from queue 2 -/
theorem double_second_delivered_iff (d : DQ) (k x : Nat) :
    (2, Ev.delivered x) ∈ (dstep d (.getTimeout k)).2.2 ↔
      (∀ y ∈ d.q1.items, y = 0) ∧ x ≠ 0 ∧ ∃ pre post, d.q2.items = pre ++ x :: post ∧
        (∀ y ∈ pre, y = 0) ∧ d.q1.items.length + pre.length < k + 1 :=
  dGetTimeoutLoop_second_delivered_iff (k + 1) d x

/-- Get / GetNoWait deliver `x` from queue 2 iff queue 1 is empty and `x` is the head of queue 2
    (`double_second_only_if_first_empty` as an iff): the priority violation never happens -/
theorem double_second_get_iff (d : DQ) (op : DOp) (hop : op = .get ∨ op = .getNoWait) (x : Nat) :
    (2, Ev.delivered x) ∈ (dstep d op).2.2 ↔ d.q1.items = [] ∧ d.q2.items.head? = some x := by
  rw [(dstep_poll d op hop).2]
  rcases poll_cases d with ⟨y, r, h1, hp⟩ | ⟨h1, y, r, h2, hp⟩ | ⟨h1, h2, hp⟩ <;> rw [hp]
  · simp [h1]
  · simp [h1, h2, eq_comm]
  · simp [h1, h2]

/-- … in particular never while queue 1 is non-empty -/
theorem double_get_never_violates (d : DQ) (op : DOp) (hop : op = .get ∨ op = .getNoWait) :
    ¬ (d.q1.items ≠ [] ∧ ∃ x, (2, Ev.delivered x) ∈ (dstep d op).2.2) := by
  rintro ⟨hne, x, hx⟩
  exact hne ((double_second_get_iff d op hop x).mp hx).1

/-- the timed get of the double queue is the timed get of the single queue `q1 ++ q2`: same
    value, same remaining elements, same events (tags dropped) — the two-queue priority is lost
    exactly where the single queue loses nil elements -/
theorem dGetTimeoutLoop_concat (n : Nat) (d : DQ) :
    (dGetTimeoutLoop n d).1.q1.items ++ (dGetTimeoutLoop n d).1.q2.items =
      (getTimeoutLoop n (d.q1.items ++ d.q2.items)).1 ∧
    (dGetTimeoutLoop n d).2.1 = (getTimeoutLoop n (d.q1.items ++ d.q2.items)).2.1 ∧
    (dGetTimeoutLoop n d).2.2.map (·.2) = (getTimeoutLoop n (d.q1.items ++ d.q2.items)).2.2 := by
  induction n generalizing d with
  | zero => exact ⟨rfl, rfl, rfl⟩
  | succ n ih =>
    cases h1 : d.q1.items with
    | nil =>
      rw [dLoop_first_empty (n + 1) d h1]
      exact ⟨congrArg (· ++ _) h1, rfl, map_snd_tag _ _⟩
    | cons y r =>
      rw [List.cons_append]
      by_cases hy : y = 0
      · subst hy
        have := ih { d with q1 := { d.q1 with items := r } }
        rw [dLoop_q1_nil n d r h1, getTimeoutLoop_cons_zero]
        exact ⟨this.1, this.2.1, congrArg (Ev.swallowed 0 :: ·) this.2.2⟩
      · rw [dLoop_q1_val n d y r h1 hy, getTimeoutLoop_cons_ne n y _ hy]
        exact ⟨rfl, rfl, rfl⟩

/-- closed form on instances: out of polls / queue exhausted / delivery behind two nils -/
example : getTimeoutLoop 2 [0, 0, 0, 5] = ([0, 5], 0, [.swallowed 0, .swallowed 0]) := rfl
example : getTimeoutLoop 5 [0, 0] = ([], 0, [.swallowed 0, .swallowed 0]) := rfl
example : getTimeoutLoop 5 [0, 0, 5, 6] = ([6], 5, [.swallowed 0, .swallowed 0, .delivered 5]) :=
  rfl

/-- both sides of `swallows_iff` hold / fail -/
example : swallowedOf (step ⟨[0, 5], 0⟩ (.getTimeout 0)).2.2 ≠ [] ∧
    (⟨[0, 5], 0⟩ : Q).items.head? = some 0 := by decide
example : swallowedOf (step ⟨[5, 0], 0⟩ (.getTimeout 7)).2.2 = [] ∧
    (⟨[5, 0], 0⟩ : Q).items.head? ≠ some 0 := by decide

/-- `swallowed_count`: min (k+1) z with k+1 = 2 < z = 3, and with k+1 = 4 > z = 3 -/
example : (swallowedOf (step ⟨[0, 0, 0, 5], 0⟩ (.getTimeout 1)).2.2).length = 2 := rfl
example : (swallowedOf (step ⟨[0, 0, 0, 5], 0⟩ (.getTimeout 3)).2.2).length = 3 := rfl

/-- hypotheses of `run_no_nil_no_swallow` are satisfiable, and dropping one breaks the conclusion -/
example : 0 ∉ (⟨[3, 4], 2⟩ : Q).items ∧
    ∀ op ∈ [Op.put 1, .putForce 2, .getTimeout 3, .clear], op ≠ .put 0 ∧ op ≠ .putForce 0 := by
  decide
example : swallowedOf (run ⟨[], 2⟩ [.put 0, .getTimeout 3]).2.2 = [0] := rfl

/-- the double-queue violation: both sides of the iff hold (queue 1 = [nil, nil], 3 polls needed) -/
example :
    (dstep ⟨⟨[0, 0], 2⟩, ⟨[5], 2⟩⟩ (.getTimeout 2)).2 =
      (.val 5, [(1, .swallowed 0), (1, .swallowed 0), (2, .delivered 5)]) := rfl
/-- one poll less: queue 2 is not reached -/
example :
    (dstep ⟨⟨[0, 0], 2⟩, ⟨[5], 2⟩⟩ (.getTimeout 1)).2 =
      (.val 0, [(1, .swallowed 0), (1, .swallowed 0)]) := rfl
/-- a non-nil element in queue 1: queue 2 is never served -/
example :
    (dstep ⟨⟨[0, 7], 2⟩, ⟨[5], 2⟩⟩ (.getTimeout 9)).2 =
      (.val 7, [(1, .swallowed 0), (1, .delivered 7)]) := rfl
/-- Get serves queue 2 only with queue 1 empty -/
example : (dstep ⟨⟨[], 2⟩, ⟨[5, 6], 2⟩⟩ .get).2 = (.val 5, [(2, .delivered 5)]) := rfl
example : (dstep ⟨⟨[0], 2⟩, ⟨[5, 6], 2⟩⟩ .get).2 = (.val 0, [(1, .delivered 0)]) := rfl

end Queue
