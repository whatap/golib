/-
  Golib.Queue.Thms — theorems about the sequential CodeModel of RequestQueue / RequestDoubleQueue
  (`Golib.Queue.Seq`): FIFO, boundedness, conservation, per-producer order, double-queue priority.

  Which elements are queued or gone rests on two facts about a step: the fifo equation (`Fifo`,
  `step_fifo`, `run_fifo`) and that nothing is accepted that was not offered (`step_accepted`,
  `run_accepted`); conservation, order and `run_content` are read off them.  The timed get of the
  double queue is two timed gets of the single queue (`dLoop_eq`).
-/
import Golib.Queue.Seq

namespace Queue

@[simp] theorem acceptedOf_append (a b : List Ev) :
    acceptedOf (a ++ b) = acceptedOf a ++ acceptedOf b := by
  induction a with
  | nil => rfl
  | cons e r ih => cases e <;> simp only [List.cons_append, acceptedOf, ih]

@[simp] theorem leftOf_append (a b : List Ev) : leftOf (a ++ b) = leftOf a ++ leftOf b := by
  induction a with
  | nil => rfl
  | cons e r ih => cases e <;> simp only [List.cons_append, leftOf, ih]

@[simp] theorem deliveredOf_append (a b : List Ev) :
    deliveredOf (a ++ b) = deliveredOf a ++ deliveredOf b := by
  induction a with
  | nil => rfl
  | cons e r ih => cases e <;> simp only [List.cons_append, deliveredOf, ih]

@[simp] theorem overflowedOf_append (a b : List Ev) :
    overflowedOf (a ++ b) = overflowedOf a ++ overflowedOf b := by
  induction a with
  | nil => rfl
  | cons e r ih => cases e <;> simp only [List.cons_append, overflowedOf, ih]

@[simp] theorem clearedOf_append (a b : List Ev) :
    clearedOf (a ++ b) = clearedOf a ++ clearedOf b := by
  induction a with
  | nil => rfl
  | cons e r ih => cases e <;> simp only [List.cons_append, clearedOf, ih]

@[simp] theorem swallowedOf_append (a b : List Ev) :
    swallowedOf (a ++ b) = swallowedOf a ++ swallowedOf b := by
  induction a with
  | nil => rfl
  | cons e r ih => cases e <;> simp only [List.cons_append, swallowedOf, ih]

@[simp] theorem failedOf_append (a b : List Ev) :
    failedOf (a ++ b) = failedOf a ++ failedOf b := by
  induction a with
  | nil => rfl
  | cons e r ih => cases e <;> simp only [List.cons_append, failedOf, ih]

@[simp] theorem acceptedOf_map_overflowed (xs : List Nat) :
    acceptedOf (xs.map .overflowed) = [] := by
  induction xs with
  | nil => rfl
  | cons x r ih => exact ih

@[simp] theorem leftOf_map_overflowed (xs : List Nat) : leftOf (xs.map .overflowed) = xs := by
  induction xs with
  | nil => rfl
  | cons x r ih => exact congrArg (x :: ·) ih

@[simp] theorem deliveredOf_map_overflowed (xs : List Nat) :
    deliveredOf (xs.map .overflowed) = [] := by
  induction xs with
  | nil => rfl
  | cons x r ih => exact ih

@[simp] theorem overflowedOf_map_overflowed (xs : List Nat) :
    overflowedOf (xs.map .overflowed) = xs := by
  induction xs with
  | nil => rfl
  | cons x r ih => exact congrArg (x :: ·) ih

@[simp] theorem clearedOf_map_overflowed (xs : List Nat) :
    clearedOf (xs.map .overflowed) = [] := by
  induction xs with
  | nil => rfl
  | cons x r ih => exact ih

@[simp] theorem swallowedOf_map_overflowed (xs : List Nat) :
    swallowedOf (xs.map .overflowed) = [] := by
  induction xs with
  | nil => rfl
  | cons x r ih => exact ih

@[simp] theorem failedOf_map_overflowed (xs : List Nat) :
    failedOf (xs.map .overflowed) = [] := by
  induction xs with
  | nil => rfl
  | cons x r ih => exact ih

@[simp] theorem acceptedOf_map_cleared (xs : List Nat) : acceptedOf (xs.map .cleared) = [] := by
  induction xs with
  | nil => rfl
  | cons x r ih => exact ih

@[simp] theorem leftOf_map_cleared (xs : List Nat) : leftOf (xs.map .cleared) = xs := by
  induction xs with
  | nil => rfl
  | cons x r ih => exact congrArg (x :: ·) ih

@[simp] theorem deliveredOf_map_cleared (xs : List Nat) : deliveredOf (xs.map .cleared) = [] := by
  induction xs with
  | nil => rfl
  | cons x r ih => exact ih

@[simp] theorem overflowedOf_map_cleared (xs : List Nat) :
    overflowedOf (xs.map .cleared) = [] := by
  induction xs with
  | nil => rfl
  | cons x r ih => exact ih

@[simp] theorem clearedOf_map_cleared (xs : List Nat) : clearedOf (xs.map .cleared) = xs := by
  induction xs with
  | nil => rfl
  | cons x r ih => exact congrArg (x :: ·) ih

@[simp] theorem swallowedOf_map_cleared (xs : List Nat) : swallowedOf (xs.map .cleared) = [] := by
  induction xs with
  | nil => rfl
  | cons x r ih => exact ih

@[simp] theorem failedOf_map_cleared (xs : List Nat) : failedOf (xs.map .cleared) = [] := by
  induction xs with
  | nil => rfl
  | cons x r ih => exact ih

theorem step_put_of_room (q : Q) (x : Nat) (h : q.room = true) :
    step q (.put x) = ({ q with items := q.items ++ [x] }, .bool true, [.accepted x]) :=
  if_pos h

theorem step_put_of_full (q : Q) (x : Nat) (h : q.room = false) :
    step q (.put x) = (q, .bool false, [.failed x]) :=
  if_neg (h ▸ Bool.false_ne_true)

/-- the answer of `Put` is the capacity test -/
theorem step_put_ret (q : Q) (x : Nat) : (step q (.put x)).2.1 = .bool q.room := by
  cases h : q.room
  · rw [step_put_of_full q x h]
  · rw [step_put_of_room q x h]

theorem step_get_nil (q : Q) (h : q.items = []) : step q .get = (q, .blocked, []) := by
  simp only [step, h]

theorem step_get_cons (q : Q) (x : Nat) (r : List Nat) (h : q.items = x :: r) :
    step q .get = ({ q with items := r }, .val x, [.delivered x]) := by
  simp only [step, h]

theorem step_getNoWait_nil (q : Q) (h : q.items = []) : step q .getNoWait = (q, .val 0, []) := by
  simp only [step, h]

theorem step_getNoWait_cons (q : Q) (x : Nat) (r : List Nat) (h : q.items = x :: r) :
    step q .getNoWait = ({ q with items := r }, .val x, [.delivered x]) := by
  simp only [step, h]

/-- a `GetNoWait` that answered a non-nil `x` took the head of the queue -/
theorem step_getNoWait_val (q : Q) (x : Nat) (h : (step q .getNoWait).2.1 = .val x) (hx : x ≠ 0) :
    ∃ r, q.items = x :: r ∧
      step q .getNoWait = ({ q with items := r }, .val x, [.delivered x]) := by
  cases hq : q.items with
  | nil =>
    rw [step_getNoWait_nil q hq] at h
    exact absurd (Ret.val.inj h).symm hx
  | cons y r =>
    rw [step_getNoWait_cons q y r hq] at h
    rw [← Ret.val.inj h]
    exact ⟨r, rfl, step_getNoWait_cons q y r hq⟩

theorem step_setCapacity (q : Q) (c : Int) :
    step q (.setCapacity c) = ({ q with cap := c }, .unit, []) := rfl

theorem evict_spec (cap : Int) (l : List Nat) : (evict cap l).1 ++ (evict cap l).2 = l := by
  induction l with
  | nil => rfl
  | cons x xs ih =>
    unfold evict
    split
    · simp [ih]
    · rfl

theorem evict_small (cap : Int) (l : List Nat) (h : (l.length : Int) < cap) :
    evict cap l = ([], l) := by
  cases l with
  | nil => rfl
  | cons x xs =>
    unfold evict
    rw [if_neg (by omega)]

theorem evict_len (cap : Int) (l : List Nat) (h : cap > 0) (hl : (l.length : Int) ≥ cap) :
    ((evict cap l).2.length : Int) = cap - 1 := by
  induction l with
  | nil => simp at hl; omega
  | cons x xs ih =>
    unfold evict
    rw [if_pos hl]
    simp only []
    by_cases hx : (xs.length : Int) ≥ cap
    · exact ih hx
    · rw [evict_small cap xs (by omega)]
      simp only [List.length_cons] at hl ⊢
      omega

theorem evict_ne_nil (cap : Int) (l : List Nat) (h : cap > 0) (hl : (l.length : Int) ≥ cap) :
    (evict cap l).1 ≠ [] := by
  cases l with
  | nil => simp at hl; omega
  | cons x xs =>
    unfold evict
    rw [if_pos hl]
    simp

/-- the fifo equation of a transition with events `es` from content `a` to content `b`: `a`, then what
    `es` accepts, is what `es` lets go, then `b` -/
def Fifo (a : List Nat) (es : List Ev) (b : List Nat) : Prop :=
  a ++ acceptedOf es = leftOf es ++ b

theorem Fifo.refl (a : List Nat) : Fifo a [] a := List.append_nil a

theorem Fifo.trans {a b c : List Nat} {e1 e2 : List Ev} (h1 : Fifo a e1 b) (h2 : Fifo b e2 c) :
    Fifo a (e1 ++ e2) c := by
  unfold Fifo at *
  rw [acceptedOf_append, leftOf_append, ← List.append_assoc, h1, List.append_assoc, h2,
    List.append_assoc]

theorem getTimeoutLoop_nil (k : Nat) : getTimeoutLoop k [] = ([], 0, []) := by
  cases k <;> rfl

theorem getTimeoutLoop_cons_zero (n : Nat) (r : List Nat) :
    getTimeoutLoop (n + 1) (0 :: r) =
      ((getTimeoutLoop n r).1, (getTimeoutLoop n r).2.1,
        .swallowed 0 :: (getTimeoutLoop n r).2.2) := rfl

theorem getTimeoutLoop_cons_ne (n x : Nat) (r : List Nat) (hx : x ≠ 0) :
    getTimeoutLoop (n + 1) (x :: r) = (r, x, [.delivered x]) := by
  rw [getTimeoutLoop, if_pos hx]

theorem step_getTimeout_nil (q : Q) (k : Nat) (h : q.items = []) :
    step q (.getTimeout k) = (q, .val 0, []) := by
  obtain ⟨items, cap⟩ := q; cases h; rfl

/-- on a non-nil head the timed get is a `GetNoWait` -/
theorem step_getTimeout_cons_ne (q : Q) (k x : Nat) (r : List Nat) (h : q.items = x :: r)
    (hx : x ≠ 0) : step q (.getTimeout k) = ({ q with items := r }, .val x, [.delivered x]) := by
  simp only [step, h, getTimeoutLoop_cons_ne k x r hx]

theorem getTimeoutLoop_spec (k : Nat) (items : List Nat) :
    let t := getTimeoutLoop k items
    leftOf t.2.2 ++ t.1 = items ∧ acceptedOf t.2.2 = [] := by
  fun_induction getTimeoutLoop k items with
  | case1 | case2 | case3 => exact ⟨rfl, rfl⟩
  | case4 k x r h t ih =>
    cases Decidable.not_not.mp h
    exact ⟨congrArg (0 :: ·) ih.1, ih.2⟩

theorem getTimeoutLoop_fifo (k : Nat) (items : List Nat) :
    Fifo items (getTimeoutLoop k items).2.2 (getTimeoutLoop k items).1 :=
  have h := getTimeoutLoop_spec k items
  (congrArg (items ++ ·) h.2).trans ((List.append_nil _).trans h.1.symm)

theorem getTimeoutLoop_val (k : Nat) (items : List Nat) :
    let t := getTimeoutLoop k items
    deliveredOf t.2.2 = if t.2.1 = 0 then [] else [t.2.1] := by
  fun_induction getTimeoutLoop k items with
  | case1 | case2 => rfl
  | case3 k x r h => exact (if_neg h).symm
  | case4 k x r h t ih => exact ih

theorem getTimeoutLoop_others (k : Nat) (items : List Nat) :
    overflowedOf (getTimeoutLoop k items).2.2 = [] ∧ clearedOf (getTimeoutLoop k items).2.2 = [] ∧
    failedOf (getTimeoutLoop k items).2.2 = [] := by
  fun_induction getTimeoutLoop k items with
  | case1 | case2 | case3 => exact ⟨rfl, rfl, rfl⟩
  | case4 k x r h t ih => exact ih

theorem step_fifo (q : Q) (op : Op) :
    q.items ++ acceptedOf (step q op).2.2 = leftOf (step q op).2.2 ++ (step q op).1.items := by
  cases op with
  | put x => simp only [step]; split <;> first | rfl | exact List.append_nil _
  | putForce x =>
    simp only [step]
    split
    · rfl
    · simp only [acceptedOf_append, leftOf_append, acceptedOf_map_overflowed, leftOf_map_overflowed,
        acceptedOf, leftOf, List.nil_append, List.append_nil, ← List.append_assoc, evict_spec]
  | get | getNoWait =>
    simp only [step]
    split <;> rename_i h <;> rw [h] <;> exact List.append_nil _
  | getTimeout k => exact getTimeoutLoop_fifo (k + 1) q.items
  | clear =>
    simp only [step, acceptedOf_map_cleared, leftOf_map_cleared]
  | setCapacity c | size | getCapacity => exact List.append_nil _

theorem run_fifo (q : Q) (ops : List Op) :
    q.items ++ acceptedOf (run q ops).2.2 = leftOf (run q ops).2.2 ++ (run q ops).1.items := by
  induction ops generalizing q with
  | nil => exact Fifo.refl _
  | cons op ops ih => exact Fifo.trans (step_fifo q op) (ih _)

/-- the elements an operation offers to the queue -/
def Op.offered : Op → List Nat
  | .put x | .putForce x => [x]
  | _ => []

/-- nothing is accepted that was not offered -/
theorem step_accepted (q : Q) (op : Op) : (acceptedOf (step q op).2.2).Sublist op.offered := by
  cases op with
  | put x => simp only [step]; split <;> simp [acceptedOf, Op.offered]
  | putForce x => simp only [step]; split <;> simp [acceptedOf, Op.offered]
  | get | getNoWait => simp only [step]; split <;> exact .slnil
  | getTimeout k => exact (getTimeoutLoop_spec (k + 1) q.items).2 ▸ .slnil
  | clear => exact (acceptedOf_map_cleared _) ▸ .slnil
  | _ => exact .slnil

theorem run_accepted (q : Q) (ops : List Op) :
    (acceptedOf (run q ops).2.2).Sublist (ops.flatMap Op.offered) := by
  induction ops generalizing q with
  | nil => exact .slnil
  | cons op ops ih =>
    simp only [run, acceptedOf_append, List.flatMap_cons]
    exact (step_accepted q op).append (ih _)

/-- whatever is in the queue, or has left it, was there at the start or was offered -/
theorem run_content (q : Q) (ops : List Op) (x : Nat)
    (hx : x ∈ leftOf (run q ops).2.2 ∨ x ∈ (run q ops).1.items) :
    x ∈ q.items ∨ x ∈ ops.flatMap Op.offered := by
  have : x ∈ q.items ++ acceptedOf (run q ops).2.2 := by
    rw [run_fifo]; exact List.mem_append.mpr hx
  exact (List.mem_append.mp this).imp_right fun h => (run_accepted q ops).subset h

theorem run_append (q : Q) (a b : List Op) :
    run q (a ++ b) = ((run (run q a).1 b).1, (run q a).2.1 ++ (run (run q a).1 b).2.1,
      (run q a).2.2 ++ (run (run q a).1 b).2.2) := by
  induction a generalizing q with
  | nil => simp [run]
  | cons op a ih => simp [run, ih]

theorem Q.room_iff (q : Q) : q.room = true ↔ q.cap ≤ 0 ∨ (q.size : Int) < q.cap := by
  simp only [Q.room, Bool.or_eq_true, decide_eq_true_eq]

theorem put_full (q : Q) (x : Nat) (hc : q.cap > 0) (hs : (q.size : Int) ≥ q.cap) :
    step q (.put x) = (q, .bool false, [.failed x]) :=
  if_neg (mt (Q.room_iff q).mp (by omega))

theorem put_room (q : Q) (x : Nat) (h : q.cap ≤ 0 ∨ (q.size : Int) < q.cap) :
    step q (.put x) = ({ q with items := q.items ++ [x] }, .bool true, [.accepted x]) :=
  if_pos ((Q.room_iff q).mpr h)

theorem putForce_full (q : Q) (x : Nat) (hc : q.cap > 0) (hs : (q.size : Int) ≥ q.cap) :
    ∃ ev rest, q.items = ev ++ rest ∧
      step q (.putForce x) =
        ({ q with items := rest ++ [x] }, .bool false, ev.map .overflowed ++ [.accepted x]) ∧
      ((rest.length : Int) + 1 = q.cap) ∧ ev ≠ [] := by
  refine ⟨(evict q.cap q.items).1, (evict q.cap q.items).2, (evict_spec _ _).symm,
    if_neg (mt (Q.room_iff q).mp (by omega)), ?_, evict_ne_nil q.cap q.items hc hs⟩
  have := evict_len q.cap q.items hc hs
  omega

theorem putForce_room (q : Q) (x : Nat) (h : q.cap ≤ 0 ∨ (q.size : Int) < q.cap) :
    step q (.putForce x) = ({ q with items := q.items ++ [x] }, .bool true, [.accepted x]) :=
  if_pos ((Q.room_iff q).mpr h)

theorem step_cap (q : Q) (op : Op) (hno : ∀ c, op ≠ .setCapacity c) : (step q op).1.cap = q.cap := by
  cases op with
  | setCapacity c => exact absurd rfl (hno c)
  | put x | putForce x | get | getNoWait => simp only [step]; split <;> rfl
  | _ => rfl

/-- an operation that offers nothing does not make the queue longer -/
theorem step_size_le (q : Q) (op : Op) (h : op.offered = []) : (step q op).1.size ≤ q.size := by
  have ha : acceptedOf (step q op).2.2 = [] := List.sublist_nil.mp (h ▸ step_accepted q op)
  have hf := congrArg List.length (step_fifo q op)
  rw [ha] at hf
  simp only [List.length_append, List.length_nil] at hf
  show (step q op).1.items.length ≤ q.items.length
  omega

theorem putForce_bounded (q : Q) (x : Nat) (h : q.cap > 0) :
    ((step q (.putForce x)).1.size : Int) ≤ q.cap := by
  by_cases hs : (q.size : Int) ≥ q.cap
  · obtain ⟨ev, rest, _, hst, hlen, _⟩ := putForce_full q x h hs
    rw [hst]
    simp only [Q.size, List.length_append, List.length_singleton]
    omega
  · rw [putForce_room q x (Or.inr (by omega))]
    simp only [Q.size, List.length_append, List.length_singleton] at hs ⊢
    omega

theorem bounded_step (q : Q) (op : Op) (h : (step q op).1.cap > 0) :
    ((step q op).1.size : Int) ≤ max (q.size : Int) (step q op).1.cap := by
  cases op
  case put x =>
    rw [step_cap q (.put x) (fun _ => Op.noConfusion)] at h ⊢
    by_cases hs : (q.size : Int) ≥ q.cap
    · rw [put_full q x h hs]; exact Int.le_max_left _ _
    · rw [put_room q x (Or.inr (by omega))]
      simp only [Q.size, List.length_append, List.length_singleton] at hs ⊢
      exact Int.le_trans (by omega) (Int.le_max_right _ _)
  case putForce x =>
    rw [step_cap q (.putForce x) (fun _ => Op.noConfusion)] at h ⊢
    exact Int.le_trans (putForce_bounded q x h) (Int.le_max_right _ _)
  all_goals
    exact Int.le_trans (Int.ofNat_le.mpr (step_size_le q _ rfl)) (Int.le_max_left _ _)

theorem left_partition (evs : List Ev) :
    (leftOf evs).Perm (deliveredOf evs ++ overflowedOf evs ++ clearedOf evs ++ swallowedOf evs) := by
  induction evs with
  | nil => exact .nil
  | cons e r ih =>
    cases e with
    | accepted x | failed x => exact ih
    | delivered x => exact ih.cons x
    | overflowed x =>
      exact (ih.cons x).trans ((List.perm_middle.append_right _).append_right _).symm
    | cleared x => exact (ih.cons x).trans (List.perm_middle.append_right _).symm
    | swallowed x => exact (ih.cons x).trans List.perm_middle.symm

theorem delivered_sublist (evs : List Ev) : (deliveredOf evs).Sublist (leftOf evs) := by
  induction evs with
  | nil => exact .slnil
  | cons e r ih =>
    cases e with
    | delivered x => exact ih.cons_cons x
    | accepted x | failed x => exact ih
    | overflowed x | cleared x | swallowed x => exact ih.cons x

/-- conservation and order hold of every transition that satisfies the fifo equation -/
theorem Fifo.conservation {a b : List Nat} {es : List Ev} (h : Fifo a es b) :
    (a ++ acceptedOf es).Perm
      (deliveredOf es ++ overflowedOf es ++ clearedOf es ++ swallowedOf es ++ b) :=
  h ▸ (left_partition es).append_right b

theorem Fifo.order {a b : List Nat} {es : List Ev} (h : Fifo a es b) :
    (deliveredOf es).Sublist (a ++ acceptedOf es) :=
  h ▸ (delivered_sublist es).trans (List.sublist_append_left _ _)

theorem conservation (q : Q) (ops : List Op) :
    (q.items ++ acceptedOf (run q ops).2.2).Perm
      (deliveredOf (run q ops).2.2 ++ overflowedOf (run q ops).2.2 ++ clearedOf (run q ops).2.2 ++
        swallowedOf (run q ops).2.2 ++ (run q ops).1.items) :=
  Fifo.conservation (run_fifo q ops)

theorem fifo_order (q : Q) (ops : List Op) :
    (deliveredOf (run q ops).2.2).Sublist (q.items ++ acceptedOf (run q ops).2.2) :=
  Fifo.order (run_fifo q ops)

theorem per_producer_order (q : Q) (ops : List Op) (p : Nat → Bool) :
    ((deliveredOf (run q ops).2.2).filter p).Sublist
      ((q.items ++ acceptedOf (run q ops).2.2).filter p) :=
  (fifo_order q ops).filter p

theorem step_swallowed_other (q : Q) (op : Op) (h : ∀ k, op ≠ .getTimeout k) :
    swallowedOf (step q op).2.2 = [] := by
  cases op with
  | getTimeout k => exact absurd rfl (h k)
  | put x | get | getNoWait => simp only [step]; split <;> rfl
  | putForce x =>
    simp only [step]
    split
    · rfl
    · rw [swallowedOf_append, swallowedOf_map_overflowed]; rfl
  | clear => exact swallowedOf_map_cleared _
  | _ => rfl

theorem run_swallowed_other (q : Q) (ops : List Op) (h : ∀ op ∈ ops, ∀ k, op ≠ .getTimeout k) :
    swallowedOf (run q ops).2.2 = [] := by
  induction ops generalizing q with
  | nil => rfl
  | cons op ops ih =>
    simp only [run, swallowedOf_append, step_swallowed_other q op (h op List.mem_cons_self),
      ih _ fun o ho => h o (List.mem_cons_of_mem _ ho), List.append_nil]

theorem leftOf_eq_deliveredOf (evs : List Ev) (h1 : overflowedOf evs = []) (h2 : clearedOf evs = [])
    (h3 : swallowedOf evs = []) : leftOf evs = deliveredOf evs := by
  induction evs with
  | nil => rfl
  | cons e r ih =>
    cases e with
    | accepted x | failed x => exact ih h1 h2 h3
    | delivered x => exact congrArg (x :: ·) (ih h1 h2 h3)
    | overflowed x => exact absurd h1 (List.cons_ne_nil _ _)
    | cleared x => exact absurd h2 (List.cons_ne_nil _ _)
    | swallowed x => exact absurd h3 (List.cons_ne_nil _ _)

@[simp] theorem untag_nil (i : Nat) : untag i [] = [] := rfl

theorem untag_cons (i j : Nat) (e : Ev) (r : List DEv) :
    untag i ((j, e) :: r) = if j = i then e :: untag i r else untag i r := by
  by_cases h : j = i <;> simp [untag, h]

@[simp] theorem untag_append (i : Nat) (a b : List DEv) :
    untag i (a ++ b) = untag i a ++ untag i b := by
  simp only [untag, List.filter_append, List.map_append]

@[simp] theorem untag_tag_same (i : Nat) (es : List Ev) : untag i (tag i es) = es := by
  induction es with
  | nil => rfl
  | cons e r ih => exact (untag_cons i i e _).trans ((if_pos rfl).trans (congrArg (e :: ·) ih))

theorem untag_tag_other (i j : Nat) (h : j ≠ i) (es : List Ev) : untag i (tag j es) = [] := by
  induction es with
  | nil => rfl
  | cons e r ih => exact (untag_cons i j e _).trans ((if_neg h).trans ih)

theorem mem_tag (i : Nat) (e : Ev) (es : List Ev) : (i, e) ∈ tag i es ↔ e ∈ es := by
  simp [tag]

theorem mem_tag_other (i j : Nat) (e : Ev) (es : List Ev) (h : j ≠ i) : (i, e) ∉ tag j es := by
  simp [tag, h]

theorem map_snd_tag (i : Nat) (es : List Ev) : (tag i es).map (·.2) = es := by
  rw [tag, List.map_map]
  exact List.map_id' es

theorem poll_cons1 (d : DQ) (x : Nat) (r : List Nat) (h : d.q1.items = x :: r) :
    d.poll = ({ d with q1 := { d.q1 with items := r } }, x, [(1, .delivered x)]) := by
  simp only [DQ.poll, h]

theorem poll_cons2 (d : DQ) (x : Nat) (r : List Nat) (h1 : d.q1.items = [])
    (h2 : d.q2.items = x :: r) :
    d.poll = ({ d with q2 := { d.q2 with items := r } }, x, [(2, .delivered x)]) := by
  simp only [DQ.poll, h1, h2]

theorem poll_nil (d : DQ) (h1 : d.q1.items = []) (h2 : d.q2.items = []) : d.poll = (d, 0, []) := by
  simp only [DQ.poll, h1, h2]

/-- the three things a poll can do -/
theorem poll_cases (d : DQ) :
    (∃ x r, d.q1.items = x :: r ∧
      d.poll = ({ d with q1 := { d.q1 with items := r } }, x, [(1, .delivered x)])) ∨
    (d.q1.items = [] ∧ ∃ x r, d.q2.items = x :: r ∧
      d.poll = ({ d with q2 := { d.q2 with items := r } }, x, [(2, .delivered x)])) ∨
    (d.q1.items = [] ∧ d.q2.items = [] ∧ d.poll = (d, 0, [])) := by
  cases h1 : d.q1.items with
  | cons x r => exact .inl ⟨x, r, rfl, poll_cons1 d x r h1⟩
  | nil =>
    cases h2 : d.q2.items with
    | cons x r => exact .inr (.inl ⟨rfl, x, r, rfl, poll_cons2 d x r h1 h2⟩)
    | nil => exact .inr (.inr ⟨rfl, rfl, poll_nil d h1 h2⟩)

/-- both queues' fifo equations for a transition `d → d'` with tagged events `es` -/
def DFifo (d d' : DQ) (es : List DEv) : Prop :=
  Fifo d.q1.items (untag 1 es) d'.q1.items ∧ Fifo d.q2.items (untag 2 es) d'.q2.items

theorem DFifo.refl (d : DQ) : DFifo d d [] := ⟨.refl _, .refl _⟩

theorem DFifo.trans {a b c : DQ} {e1 e2 : List DEv} (h1 : DFifo a b e1) (h2 : DFifo b c e2) :
    DFifo a c (e1 ++ e2) := by
  unfold DFifo
  rw [untag_append, untag_append]
  exact ⟨h1.1.trans h2.1, h1.2.trans h2.2⟩

theorem DFifo.of_q1 (d : DQ) (q' : Q) (es : List Ev)
    (h : Fifo d.q1.items es q'.items) : DFifo d { d with q1 := q' } (tag 1 es) :=
  ⟨by rw [untag_tag_same]; exact h, by rw [untag_tag_other 2 1 (by decide)]; exact .refl _⟩

theorem DFifo.of_q2 (d : DQ) (q' : Q) (es : List Ev)
    (h : Fifo d.q2.items es q'.items) : DFifo d { d with q2 := q' } (tag 2 es) :=
  ⟨by rw [untag_tag_other 1 2 (by decide)]; exact .refl _, by rw [untag_tag_same]; exact h⟩

theorem poll_fifo (d : DQ) : DFifo d d.poll.1 d.poll.2.2 := by
  rcases poll_cases d with ⟨x, r, h, hp⟩ | ⟨_, x, r, h, hp⟩ | ⟨_, _, hp⟩ <;> rw [hp]
  · exact .of_q1 d _ [.delivered x] (by rw [h]; exact List.append_nil _)
  · exact .of_q2 d _ [.delivered x] (by rw [h]; exact List.append_nil _)
  · exact .refl d

/-! ### the timed get of the double queue in terms of the timed get of the single queue -/

theorem dLoop_q1_val (n : Nat) (d : DQ) (y : Nat) (r : List Nat) (h1 : d.q1.items = y :: r)
    (hy : y ≠ 0) :
    dGetTimeoutLoop (n + 1) d =
      ({ d with q1 := { d.q1 with items := r } }, y, [(1, .delivered y)]) := by
  rw [dGetTimeoutLoop]
  simp only [poll_cons1 d y r h1]
  rw [if_pos hy]

theorem dLoop_q1_nil (n : Nat) (d : DQ) (r : List Nat) (h1 : d.q1.items = 0 :: r) :
    dGetTimeoutLoop (n + 1) d =
      ((dGetTimeoutLoop n { d with q1 := { d.q1 with items := r } }).1,
       (dGetTimeoutLoop n { d with q1 := { d.q1 with items := r } }).2.1,
       (1, .swallowed 0) :: (dGetTimeoutLoop n { d with q1 := { d.q1 with items := r } }).2.2) := by
  rw [dGetTimeoutLoop]
  simp only [poll_cons1 d 0 r h1]
  rfl

/-- with queue 1 empty the timed get of the double queue is the timed get of queue 2 -/
theorem dLoop_first_empty (n : Nat) (d : DQ) (h1 : d.q1.items = []) :
    dGetTimeoutLoop n d =
      ({ d with q2 := { d.q2 with items := (getTimeoutLoop n d.q2.items).1 } },
        (getTimeoutLoop n d.q2.items).2.1, tag 2 (getTimeoutLoop n d.q2.items).2.2) := by
  induction n generalizing d with
  | zero => rfl
  | succ n ih =>
    rw [dGetTimeoutLoop]
    cases h2 : d.q2.items with
    | nil =>
      simp only [poll_nil d h1 h2]
      -- the left side is `d`, which is `d` with its own `q2.items` put back; `h2` makes that `[]`
      exact congrArg (fun l => (({ d with q2 := { d.q2 with items := l } } : DQ), 0, [])) h2
    | cons y r =>
      simp only [poll_cons2 d y r h1 h2]
      by_cases hy : y = 0
      · subst hy
        rw [if_neg (fun h => h rfl), ih { d with q2 := { d.q2 with items := r } } h1]
        rfl
      · rw [if_pos hy, getTimeoutLoop_cons_ne n y r hy]
        rfl

/-- **the timed get of the double queue is the timed get of queue 1 and, if that used up queue 1
    without finding anything, the timed get of queue 2 with the polls that are left** -/
theorem dLoop_eq (n : Nat) (d : DQ) :
    dGetTimeoutLoop n d =
      let t := getTimeoutLoop n d.q1.items
      if t.2.1 ≠ 0 ∨ t.1 ≠ [] then ({ d with q1 := { d.q1 with items := t.1 } }, t.2.1, tag 1 t.2.2)
      else
        let u := getTimeoutLoop (n - d.q1.items.length) d.q2.items
        (⟨{ d.q1 with items := [] }, { d.q2 with items := u.1 }⟩, u.2.1,
          tag 1 t.2.2 ++ tag 2 u.2.2) := by
  induction n generalizing d with
  | zero =>
    obtain ⟨⟨i1, c1⟩, q2⟩ := d
    cases i1 <;> rfl
  | succ n ih =>
    cases h1 : d.q1.items with
    | nil =>
      rw [dLoop_first_empty (n + 1) d h1]
      obtain ⟨⟨i1, c1⟩, q2⟩ := d
      cases h1
      rfl
    | cons y r =>
      by_cases hy : y = 0
      · subst hy
        rw [dLoop_q1_nil n d r h1, ih, getTimeoutLoop_cons_zero]
        simp only [List.length_cons, Nat.add_sub_add_right]
        split <;> rfl
      · rw [dLoop_q1_val n d y r h1 hy, getTimeoutLoop_cons_ne n y r hy, if_pos (.inl hy)]
        rfl

/-- the loop comes back empty-handed from an emptied queue exactly when the queue held nothing but
    nil elements, no more of them than there were polls -/
theorem getTimeoutLoop_exhausts_iff (n : Nat) (items : List Nat) :
    ¬ ((getTimeoutLoop n items).2.1 ≠ 0 ∨ (getTimeoutLoop n items).1 ≠ []) ↔
      (∀ y ∈ items, y = 0) ∧ items.length ≤ n := by
  fun_induction getTimeoutLoop n items with
  | case1 items => cases items <;> simp
  | case2 n => simp
  | case3 k x r h => simp [h]
  | case4 k x r h t ih =>
    cases Decidable.not_not.mp h
    simpa using ih

theorem dGetTimeoutLoop_fifo (k : Nat) (d : DQ) :
    DFifo d (dGetTimeoutLoop k d).1 (dGetTimeoutLoop k d).2.2 := by
  rw [dLoop_eq]
  simp only []
  split
  · exact .of_q1 d _ _ (getTimeoutLoop_fifo k _)
  · rename_i h
    have h0 : (getTimeoutLoop k d.q1.items).1 = [] := Decidable.not_not.mp fun hh => h (.inr hh)
    exact (DFifo.of_q1 d { d.q1 with items := [] } _ (h0 ▸ getTimeoutLoop_fifo k _)).trans
      (.of_q2 _ _ _ (getTimeoutLoop_fifo _ _))

/-- Get and GetNoWait of the double queue change the state and cause the events of one poll (they
    differ in the answer on two empty queues only) -/
theorem dstep_poll (d : DQ) (op : DOp) (hop : op = .get ∨ op = .getNoWait) :
    (dstep d op).1 = d.poll.1 ∧ (dstep d op).2.2 = d.poll.2.2 := by
  rcases hop with rfl | rfl
  · simp only [dstep]
    split
    · rename_i he
      simp only [Bool.and_eq_true, List.isEmpty_iff] at he
      rw [poll_nil d he.1 he.2]; exact ⟨rfl, rfl⟩
    · exact ⟨rfl, rfl⟩
  · exact ⟨rfl, rfl⟩

theorem dstep_fifo (d : DQ) (op : DOp) : DFifo d (dstep d op).1 (dstep d op).2.2 := by
  cases op with
  | put1 x => exact .of_q1 d _ _ (step_fifo d.q1 (.put x))
  | put2 x => exact .of_q2 d _ _ (step_fifo d.q2 (.put x))
  | putForce1 x => exact .of_q1 d _ _ (step_fifo d.q1 (.putForce x))
  | putForce2 x => exact .of_q2 d _ _ (step_fifo d.q2 (.putForce x))
  | get =>
    rw [(dstep_poll d .get (.inl rfl)).1, (dstep_poll d .get (.inl rfl)).2]
    exact poll_fifo d
  | getNoWait => exact poll_fifo d
  | getTimeout k => exact dGetTimeoutLoop_fifo (k + 1) d
  | clear =>
    exact (DFifo.of_q1 d _ _ (step_fifo d.q1 .clear)).trans (.of_q2 _ _ _ (step_fifo d.q2 .clear))
  | setCapacity c1 c2 => exact ⟨List.append_nil _, List.append_nil _⟩
  | _ => exact .refl d

theorem dstep_fifo1 (d : DQ) (op : DOp) :
    d.q1.items ++ acceptedOf (untag 1 (dstep d op).2.2) =
      leftOf (untag 1 (dstep d op).2.2) ++ (dstep d op).1.q1.items := (dstep_fifo d op).1

theorem dstep_fifo2 (d : DQ) (op : DOp) :
    d.q2.items ++ acceptedOf (untag 2 (dstep d op).2.2) =
      leftOf (untag 2 (dstep d op).2.2) ++ (dstep d op).1.q2.items := (dstep_fifo d op).2

theorem double_priority (d : DQ) (x : Nat) (r : List Nat) (h : d.q1.items = x :: r) :
    dstep d .get = ({ d with q1 := { d.q1 with items := r } }, .val x, [(1, .delivered x)]) ∧
    dstep d .getNoWait =
      ({ d with q1 := { d.q1 with items := r } }, .val x, [(1, .delivered x)]) := by
  simp only [dstep, poll_cons1 d x r h, h, List.isEmpty_cons, Bool.false_and, Bool.false_eq_true,
    if_false, and_self]

theorem poll_second (d : DQ) (e : Ev) (h : (2, e) ∈ d.poll.2.2) : d.q1.items = [] := by
  rcases poll_cases d with ⟨x, r, _, hp⟩ | ⟨h1, _⟩ | ⟨h1, _⟩
  · rw [hp] at h; exact nomatch (Prod.mk.inj (List.mem_singleton.mp h)).1
  · exact h1
  · exact h1

/-- Get / GetNoWait touch queue 2 (deliver or swallow one of its elements — in fact any event of
    queue 2) only when queue 1 is empty. -/
theorem double_second_only_if_first_empty (d : DQ) (op : DOp) (hop : op = .get ∨ op = .getNoWait)
    (x : Nat)
    (h : (2, Ev.delivered x) ∈ (dstep d op).2.2 ∨ (2, Ev.swallowed x) ∈ (dstep d op).2.2) :
    d.q1.items = [] := by
  rw [(dstep_poll d op hop).2] at h
  exact h.elim (poll_second d _) (poll_second d _)

theorem mem_asSwallowed_second (es : List DEv) (e : Ev) (h : (2, e) ∈ asSwallowed es) :
    ∃ e', (2, e') ∈ es := by
  fun_induction asSwallowed es with
  | case1 => exact nomatch h
  | case2 i x r ih =>
    rcases List.mem_cons.mp h with h | h
    · exact ⟨.delivered x, (Prod.mk.inj h).1 ▸ List.mem_cons_self⟩
    · exact (ih h).imp fun _ => List.mem_cons_of_mem _
  | case3 a r _ ih =>
    rcases List.mem_cons.mp h with h | h
    · exact ⟨e, h ▸ List.mem_cons_self⟩
    · exact (ih h).imp fun _ => List.mem_cons_of_mem _

/-- GetTimeout polls repeatedly: it reaches queue 2 only after everything in queue 1 turned out to
    be `nil` (and was swallowed). -/
theorem dGetTimeoutLoop_second (k : Nat) (d : DQ) (e : Ev)
    (h : (2, e) ∈ (dGetTimeoutLoop k d).2.2) : ∀ y ∈ d.q1.items, y = 0 := by
  rw [dLoop_eq] at h
  simp only [] at h
  split at h
  · exact absurd h (mem_tag_other 2 1 _ _ (by decide))
  · rename_i hx
    exact ((getTimeoutLoop_exhausts_iff k d.q1.items).mp hx).1

/-- capacity 2: the third put is refused, putForce evicts the oldest, gets come out in order -/
example :
    run ⟨[], 2⟩ [.put 1, .put 2, .put 3, .putForce 4, .get, .getNoWait, .get, .getNoWait] =
      (⟨[], 2⟩,
       [.bool true, .bool true, .bool false, .bool false, .val 2, .val 4, .blocked, .val 0],
       [.accepted 1, .accepted 2, .failed 3, .overflowed 1, .accepted 4, .delivered 2,
        .delivered 4]) := rfl
/-- SetCapacity below the size, then putForce: several elements are evicted at once -/
example :
    run ⟨[], 0⟩ [.put 1, .put 2, .put 3, .put 4, .setCapacity 2, .putForce 5, .size, .clear] =
      (⟨[], 2⟩,
       [.bool true, .bool true, .bool true, .bool true, .unit, .bool false, .int 2, .unit],
       [.accepted 1, .accepted 2, .accepted 3, .accepted 4, .overflowed 1, .overflowed 2,
        .overflowed 3, .accepted 5, .cleared 4, .cleared 5]) := rfl
/-- nil elements: one poll swallows one, the next GetTimeout swallows the other and delivers 7 -/
example :
    run ⟨[], 3⟩ [.put 0, .put 0, .put 7, .getTimeout 0, .getTimeout 5, .getTimeout 5] =
      (⟨[], 3⟩,
       [.bool true, .bool true, .bool true, .val 0, .val 7, .val 0],
       [.accepted 0, .accepted 0, .accepted 7, .swallowed 0, .swallowed 0, .delivered 7]) := rfl
/-- hypotheses of `put_full` / `putForce_full` / `C11.bounded_history` / `C11.conservation_partial` are satisfiable -/
example : (⟨[1, 2], 2⟩ : Q).cap > 0 ∧ (((⟨[1, 2], 2⟩ : Q).size : Int) ≥ (⟨[1, 2], 2⟩ : Q).cap) := by
  decide

example : ∀ op ∈ [Op.put 1, .putForce 2, .get], ∀ c, op ≠ .setCapacity c := by simp

example :
    overflowedOf (run ⟨[], 2⟩ [.put 1, .put 2, .get]).2.2 = [] ∧
    clearedOf (run ⟨[], 2⟩ [.put 1, .put 2, .get]).2.2 = [] ∧
    swallowedOf (run ⟨[], 2⟩ [.put 1, .put 2, .get]).2.2 = [] := by decide

/-- the double queue: queue 1 is served first although its element arrived later -/
example :
    drun ⟨⟨[], 2⟩, ⟨[], 2⟩⟩
        [.put2 5, .put1 1, .put2 6, .put2 7, .putForce2 8, .get, .get, .getNoWait, .get,
         .getNoWait] =
      (⟨⟨[], 2⟩, ⟨[], 2⟩⟩,
       [.bool true, .bool true, .bool true, .bool false, .bool false, .val 1, .val 6, .val 8,
        .blocked, .val 0],
       [(2, .accepted 5), (1, .accepted 1), (2, .accepted 6), (2, .failed 7), (2, .overflowed 5),
        (2, .accepted 8), (1, .delivered 1), (2, .delivered 6), (2, .delivered 8)]) := rfl
example : (2, Ev.delivered 5) ∈ (dstep ⟨⟨[], 2⟩, ⟨[5], 2⟩⟩ .get).2.2 := by decide

/-- timed get: times out at the first reading at or after the deadline; gets a late element -/
example : timedGet 10 [⟨0, 3⟩, ⟨0, 7⟩, ⟨0, 12⟩, ⟨4, 13⟩] = some (.timedOut 12) := rfl
example : timedGet 10 [⟨0, 3⟩, ⟨0, 7⟩, ⟨9, 8⟩] = some (.got 9) := rfl
example : timedGet 10 [⟨0, 3⟩, ⟨0, 7⟩] = none := rfl
end Queue
