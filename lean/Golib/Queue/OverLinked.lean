/-
  Golib.Queue.OverLinked — RequestQueue on top of the *pointer-level* model of util/list/LinkedList.go.

  `Queue.step` / `stepF` keep the content as a plain list (`items`): that the linked list is a FIFO is
  built into that model.  Here the queue is written the way the Go code is: its state is a
  `Lists.Linked.LL` (nodes in a heap, `first` / `last` / `prev` / `next` pointers, the `size` counter —
  property C13's CodeModel of LinkedList.go) plus `capacity`, and every method calls `Size()`, `Add`,
  `RemoveFirst`, `Clear` of that list, in the order the Go method does:

      Put / PutForce   capacity <= 0 || queue.Size() < capacity  →  queue.Add(v)
                       else (PutForce)  for queue.Size() >= capacity { o := queue.RemoveFirst(); Overflowed(o) }; queue.Add(v)
      Get              queue.Size() <= 0 → wait;  x := queue.RemoveFirst()
      GetNoWait, poll  if queue.Size() > 0 { return queue.RemoveFirst() }
      Clear            queue.Clear()

  `stepL_refines`: from a well-formed list (`Rep`, the representation invariant proved for every LinkedList
  operation in Lists/LinkedProof.lean) every queue operation returns the same value and causes the same
  events as `stepF` on the abstract content, and leaves a well-formed list representing the new content;
  `runL_refines`: so does every history from the empty queue.  Hence FIFO, refusal, eviction of the oldest,
  boundedness and conservation — proved for `stepF` — hold for the queue over the doubly linked list.
-/
import Golib.Queue.Fixed
import Golib.Lists.LinkedProof

namespace Queue
open Lists.Linked

structure QL where
  list : LL
  cap  : Int

/-- an element as the list stores it -/
def encE (x : Nat) : Int := x

/-- what a caller of `RemoveFirst()` holds (`nil` = 0) -/
def decOut : Out → Nat
  | .val v => v.toNat
  | _ => 0

def decArr : Out → List Nat
  | .arr xs => xs.map Int.toNat
  | _ => []

/-- `this.queue.Size()` -/
def QL.size (q : QL) : Nat := q.list.size

/-- `this.capacity <= 0 || this.queue.Size() < this.capacity` -/
def QL.room (q : QL) : Bool := q.cap ≤ 0 || (q.size : Int) < q.cap

/-- `for this.queue.Size() >= this.capacity { o := this.queue.RemoveFirst(); Overflowed(o) }`;
    the fuel is the size on entry (the loop is entered with `capacity > 0`, every turn removes one) -/
def evictL (cap : Int) : Nat → LL → List Nat × LL
  | 0, o => ([], o)
  | n + 1, o =>
    if (o.size : Int) ≥ cap then
      let r := LL.step .removeFirst o
      let t := evictL cap n r.2
      (decOut r.1 :: t.1, t.2)
    else ([], o)

/-- `if this.queue.Size() > 0 { return this.queue.RemoveFirst() }; return nil` (GetNoWait, poll) -/
def pollL (q : QL) : QL × Ret × List Ev :=
  if q.size > 0 then
    let r := LL.step .removeFirst q.list
    ({ q with list := r.2 }, .val (decOut r.1), [.delivered (decOut r.1)])
  else (q, .val 0, [])

def stepL (q : QL) : Op → QL × Ret × List Ev
  | .put x =>
    if q.room then ({ q with list := (LL.step (.add (encE x)) q.list).2 }, .bool true, [.accepted x])
    else (q, .bool false, [.failed x])
  | .putForce x =>
    if q.room then ({ q with list := (LL.step (.add (encE x)) q.list).2 }, .bool true, [.accepted x])
    else
      let r := evictL q.cap q.size q.list
      ({ q with list := (LL.step (.add (encE x)) r.2).2 }, .bool false, r.1.map .overflowed ++ [.accepted x])
  | .get =>
    if q.size ≤ 0 then (q, .blocked, [])
    else
      let r := LL.step .removeFirst q.list
      ({ q with list := r.2 }, .val (decOut r.1), [.delivered (decOut r.1)])
  | .getNoWait => pollL q
  | .getTimeout _ => pollL q
  | .clear => ({ q with list := (LL.step .clear q.list).2 }, .unit, (decArr (LL.step .toArray q.list).1).map .cleared)
  | .setCapacity c => ({ q with cap := c }, .unit, [])
  | .size => (q, .int q.size, [])
  | .getCapacity => (q, .int q.cap, [])

def runL (q : QL) : List Op → QL × List Ret × List Ev
  | [] => (q, [], [])
  | op :: ops =>
    let s := stepL q op
    let r := runL s.1 ops
    (r.1, s.2.1 :: r.2.1, s.2.2 ++ r.2.2)

/-- `NewRequestQueue(capacity)` -/
def QL.new (cap : Int) : QL := ⟨LL.empty, cap⟩

/-- the list is well-formed and holds exactly `q.items`, the capacities agree -/
def RefL (ql : QL) (q : Q) : Prop :=
  ql.cap = q.cap ∧ ∃ ids, Rep ql.list ids (q.items.map encE)

theorem RefL.size {ql : QL} {q : Q} (h : RefL ql q) : ql.size = q.size := by
  obtain ⟨_, ids, hr⟩ := h
  simp [QL.size, Q.size, hr.size, hr.len]

theorem RefL.room {ql : QL} {q : Q} (h : RefL ql q) : ql.room = q.room := by
  simp [QL.room, Q.room, h.size, h.1]

theorem add_refines {o : LL} {ids : List Nat} {items : List Nat} (x : Nat) (h : Rep o ids (items.map encE)) :
    ∃ ids', Rep (LL.step (.add (encE x)) o).2 ids' ((items ++ [x]).map encE) := by
  obtain ⟨_, ids', h2⟩ := step_refines (.add (encE x)) o ids _ h
  exact ⟨ids', by simpa [Spec.step] using h2⟩

theorem pop_refines {o : LL} {ids : List Nat} {x : Nat} {r : List Nat} (h : Rep o ids ((x :: r).map encE)) :
    decOut (LL.step .removeFirst o).1 = x ∧ ∃ ids', Rep (LL.step .removeFirst o).2 ids' (r.map encE) := by
  obtain ⟨h1, ids', h2⟩ := step_refines .removeFirst o ids _ h
  refine ⟨?_, ids', by simpa [Spec.step] using h2⟩
  rw [h1]; simp [Spec.step, decOut, encE]

theorem evictL_refines (cap : Int) (hc : cap > 0) (n : Nat) (o : LL) (ids : List Nat) (items : List Nat)
    (h : Rep o ids (items.map encE)) (hn : items.length ≤ n) :
    (evictL cap n o).1 = (evict cap items).1 ∧
    ∃ ids', Rep (evictL cap n o).2 ids' ((evict cap items).2.map encE) := by
  induction n generalizing o ids items with
  | zero =>
    have : items = [] := List.length_eq_zero_iff.mp (by omega)
    subst this
    exact ⟨by simp [evictL, evict], ids, by simpa [evictL, evict] using h⟩
  | succ n ih =>
    have hsz : o.size = items.length := by simp [h.size, h.len]
    cases items with
    | nil =>
      have hno : ¬ ((o.size : Int) ≥ cap) := by simp [hsz]; omega
      simp only [evictL, evict, if_neg hno]
      exact ⟨trivial, ids, by simpa using h⟩
    | cons x r =>
      by_cases hge : ((x :: r).length : Int) ≥ cap
      · have hge' : (o.size : Int) ≥ cap := by rw [hsz]; exact hge
        obtain ⟨hx, ids', h2⟩ := pop_refines h
        obtain ⟨e1, ids'', e2⟩ := ih (LL.step .removeFirst o).2 ids' r h2 (by simpa using hn)
        simp only [evictL, evict, if_pos hge', if_pos hge]
        exact ⟨by rw [hx, e1], ids'', e2⟩
      · have hge' : ¬ (o.size : Int) ≥ cap := by rw [hsz]; exact hge
        simp only [evictL, evict, if_neg hge', if_neg hge]
        exact ⟨trivial, ids, h⟩

theorem poll_refines {ql : QL} {q : Q} (h : RefL ql q) :
    (pollL ql).2 = (step q .getNoWait).2 ∧ RefL (pollL ql).1 (step q .getNoWait).1 := by
  have hs := h.size
  obtain ⟨hc, ids, hr⟩ := h
  cases hq : q.items with
  | nil =>
    have : ql.size = 0 := by simp [hs, Q.size, hq]
    simp only [pollL, this, step, hq]
    exact ⟨by simp, hc, ids, by simpa [hq] using hr⟩
  | cons x r =>
    have : ql.size > 0 := by simp [hs, Q.size, hq]
    rw [hq] at hr
    obtain ⟨hx, h2⟩ := pop_refines hr
    simp only [pollL, if_pos this, step, hq, hx]
    exact ⟨trivial, hc, h2⟩

theorem stepL_refines (ql : QL) (q : Q) (op : Op) (h : RefL ql q) :
    (stepL ql op).2 = (stepF q op).2 ∧ RefL (stepL ql op).1 (stepF q op).1 := by
  have hs := h.size
  have hroom := h.room
  cases op with
  | put x =>
    obtain ⟨hc, ids, hr⟩ := h
    simp only [stepL, stepF, step, hroom]
    split
    · exact ⟨rfl, hc, add_refines x hr⟩
    · exact ⟨rfl, hc, ids, hr⟩
  | putForce x =>
    obtain ⟨hc, ids, hr⟩ := h
    simp only [stepL, stepF, step, hroom]
    split
    · exact ⟨rfl, hc, add_refines x hr⟩
    · rename_i hnr
      have hcap : q.cap > 0 := by
        simp only [Q.room, Bool.or_eq_true, decide_eq_true_eq, not_or] at hnr
        omega
      obtain ⟨e1, ids', e2⟩ := evictL_refines ql.cap (by rw [hc]; exact hcap) ql.size ql.list ids q.items hr
        (by rw [hs]; exact Nat.le_refl _)
      rw [hc] at e1 e2
      rw [hc]
      exact ⟨by rw [e1], rfl, add_refines x e2⟩
  | get =>
    obtain ⟨hc, ids, hr⟩ := h
    cases hq : q.items with
    | nil =>
      have : ql.size ≤ 0 := by simp [hs, Q.size, hq]
      simp only [stepL, stepF, step, if_pos this, hq]
      exact ⟨trivial, hc, ids, by simpa [hq] using hr⟩
    | cons y r =>
      have : ¬ ql.size ≤ 0 := by simp [hs, Q.size, hq]
      rw [hq] at hr
      obtain ⟨hx, h2⟩ := pop_refines hr
      simp only [stepL, stepF, step, if_neg this, hq, hx]
      exact ⟨trivial, hc, h2⟩
  | getNoWait => exact poll_refines h
  | getTimeout k =>
    rw [stepF_eq]
    exact poll_refines h
  | clear =>
    obtain ⟨hc, ids, hr⟩ := h
    obtain ⟨h1, _⟩ := step_refines .toArray ql.list ids _ hr
    obtain ⟨_, ids', h2⟩ := step_refines .clear ql.list ids _ hr
    simp only [stepL, stepF, step, h1]
    refine ⟨?_, hc, ids', by simpa [Spec.step] using h2⟩
    simp [Spec.step, decArr, encE, Function.comp_def]
  | setCapacity c =>
    obtain ⟨_, ids, hr⟩ := h
    exact ⟨rfl, rfl, ids, hr⟩
  | size =>
    refine ⟨?_, h⟩
    simp [stepL, stepF, step, hs]
  | getCapacity =>
    refine ⟨?_, h⟩
    simp [stepL, stepF, step, h.1]

theorem RefL.new (cap : Int) : RefL (QL.new cap) ⟨[], cap⟩ := ⟨rfl, [], by simpa [QL.new] using Rep.empty⟩

/-- **every history**: return values and events of the queue over the doubly linked list are those of the
    abstract queue, and the list stays well-formed, holding exactly the abstract content -/
theorem runL_refines (ql : QL) (q : Q) (ops : List Op) (h : RefL ql q) :
    (runL ql ops).2 = (runF q ops).2 ∧ RefL (runL ql ops).1 (runF q ops).1 := by
  induction ops generalizing ql q with
  | nil => exact ⟨rfl, h⟩
  | cons op ops ih =>
    obtain ⟨h1, h2⟩ := stepL_refines ql q op h
    obtain ⟨h3, h4⟩ := ih _ _ h2
    simp only [runL, runF]
    refine ⟨?_, h4⟩
    rw [Prod.ext_iff] at h1 h3
    rw [h1.1, h1.2, h3.1, h3.2]

end Queue
