/-
  Golib.Ext.UdpClientLemmas — proofs about the batching machine of Golib.Ext.UdpClient:
  frame codec round trip; `send` and `tick` case by case (client not open / channel closed / live);
  on histories without shutdown and reopen the byte-level machine refines the frame-level cut spec (`Live`);
  on every history conservation, the wire and packCount (`Keeps`); laws of the spec.
  (core Lean only)
-/
import Golib.Ext.UdpClient

namespace Ext.Udp

theorem encFrame_length (f : Frame) : (encFrame f).length = frameLen f := by
  simp [encFrame, frameLen, Prim.encBytes32]; omega

@[simp] theorem encFrames_nil : encFrames [] = [] := rfl
@[simp] theorem encFrames_cons (f : Frame) (fs : List Frame) :
    encFrames (f :: fs) = encFrame f ++ encFrames fs := by simp [encFrames]
@[simp] theorem size_nil : size [] = 0 := rfl
@[simp] theorem size_cons (f : Frame) (fs : List Frame) : size (f :: fs) = frameLen f + size fs := by
  simp [size]

theorem encFrame_ne_nil (f : Frame) : encFrame f ≠ [] := by simp [encFrame]

theorem encFrames_length (fs : List Frame) : (encFrames fs).length = size fs := by
  induction fs with
  | nil => rfl
  | cons f fs ih => simp [encFrame_length, ih]

theorem encFrames_append (a b : List Frame) : encFrames (a ++ b) = encFrames a ++ encFrames b := by
  simp [encFrames]

theorem encFrames_eq_nil (fs : List Frame) : encFrames fs = [] ↔ fs = [] := by
  cases fs with
  | nil => simp
  | cons f fs => simp [encFrame_ne_nil]

theorem size_append (a b : List Frame) : size (a ++ b) = size a + size b := by
  simp [size]

/-- where a frame keeps its parts: type at 0, version at 1..4, body length at 5..8, body from 9 -/
theorem encFrame_layout (f : Frame) :
    (encFrame f).take 1 = [f.typ] ∧ ((encFrame f).drop 1).take 4 = Prim.encI 4 f.ver ∧
    ((encFrame f).drop 5).take 4 = Prim.encI 4 f.body.length ∧ (encFrame f).drop 9 = f.body := by
  have h1 : (Prim.encI 4 f.ver).length = 4 := Prim.encI_length _ _
  have h2 : (Prim.encI 4 (f.body.length : Int)).length = 4 := Prim.encI_length _ _
  refine ⟨by simp [encFrame], ?_, ?_, ?_⟩
  · simp only [encFrame, List.drop_succ_cons, List.drop_zero]
    exact List.take_left' h1
  · simp only [encFrame, Prim.encBytes32, List.drop_succ_cons]
    rw [List.drop_left' h1]; exact List.take_left' h2
  · simp only [encFrame, Prim.encBytes32, List.drop_succ_cons]
    rw [show (8:Nat) = 4 + 4 from rfl, ← List.drop_drop, List.drop_left' h1, List.drop_left' h2]

theorem run_decFrame (f : Frame) (h : f.wf) (r : Bytes) :
    P.run decFrame (encFrame f ++ r) = some (f, r) :=
  (P.reads_read1_iff.mpr ⟨f.typ, _, rfl, .bind (Prim.run_rdI 4 f.ver · h.2.1)
    fun r => P.run_map_some _ (Prim.run_decBytes32 f.body r h.2.2)⟩ : P.Reads decFrame (encFrame f) f) r

theorem parseFuel_succ (n : Nat) (b : Nat) (bs : Bytes) (f : Frame) (r : Bytes)
    (h : P.run decFrame (b :: bs) = some (f, r)) :
    parseFuel (n+1) (b :: bs) = (parseFuel n r).map (f :: ·) := by
  simp [parseFuel, h]

theorem parseFuel_encFrames (fs : List Frame) (h : ∀ f ∈ fs, f.wf) :
    ∀ n, fs.length ≤ n → parseFuel n (encFrames fs) = some fs := by
  induction fs with
  | nil => intro n _; cases n <;> simp [parseFuel]
  | cons f fs ih =>
    intro n hn
    cases n with
    | zero => simp at hn
    | succ n =>
      have hr := run_decFrame f (h f (by simp)) (encFrames fs)
      have hn' : fs.length ≤ n := by simpa using hn
      have ih' := ih (fun g hg => h g (by simp [hg])) n hn'
      rw [encFrames_cons]
      rw [encFrame, List.cons_append] at hr ⊢
      rw [parseFuel_succ _ _ _ _ _ hr, ih']
      rfl

theorem length_le_size (fs : List Frame) : fs.length ≤ size fs := by
  induction fs with
  | nil => simp
  | cons f fs ih => simp [frameLen]; omega

/-! ### the machine, case by case

`push` either panics (closed channel) or is `enq`; on a live client (open, channel not closed) `send` and
`tick` are built from one move, `hand`: the buffer goes to the channel and is reset. -/

/-- the channel send on a channel that is not closed: queued while there is room, dropped otherwise -/
def enq (cfg : Cfg) (s : St) (d : Bytes) : St :=
  if s.chan.length < cfg.chanCap then { s with chan := s.chan ++ [d], offered := d :: s.offered }
  else { s with offered := d :: s.offered, lost := d :: s.lost }

/-- the channel send as one record update: whether there is room only decides where the datagram goes -/
theorem enq_eq (cfg : Cfg) (s : St) (d : Bytes) :
    enq cfg s d =
      { s with chan := if s.chan.length < cfg.chanCap then s.chan ++ [d] else s.chan, offered := d :: s.offered,
               lost := if s.chan.length < cfg.chanCap then s.lost else d :: s.lost } := by
  unfold enq; split <;> rfl

theorem push_eq (cfg : Cfg) (s : St) (d : Bytes) :
    push cfg s d = if s.closed then none else some (enq cfg s d) := by
  unfold push enq
  split
  · rfl
  · split <;> rfl

theorem push_some (cfg : Cfg) (s : St) (d : Bytes) (t : St) (h : push cfg s d = some t) :
    s.closed = false ∧ t.isOpen = s.isOpen ∧ t.closed = s.closed ∧ t.buf = s.buf ∧ t.wire = s.wire ∧
    t.packCount = s.packCount ∧ t.chanCount = s.chanCount ∧ t.sendCount = s.sendCount ∧
    t.errCount = s.errCount ∧ t.offered = d :: s.offered ∧
    ((t.chan = s.chan ++ [d] ∧ t.lost = s.lost) ∨ (t.chan = s.chan ∧ t.lost = d :: s.lost)) := by
  rw [push_eq] at h
  split at h
  · cases h
  · rename_i hc
    cases h
    refine ⟨by simpa using hc, ?_⟩
    unfold enq
    split
    · exact ⟨rfl, rfl, rfl, rfl, rfl, rfl, rfl, rfl, rfl, .inl ⟨rfl, rfl⟩⟩
    · exact ⟨rfl, rfl, rfl, rfl, rfl, rfl, rfl, rfl, rfl, .inr ⟨rfl, rfl⟩⟩

theorem push_open (cfg : Cfg) (s : St) (d : Bytes) (h : s.closed = false) :
    ∃ t, push cfg s d = some t :=
  ⟨enq cfg s d, by simp [push_eq, h]⟩

/-- `AddCount; sendCh <- buffer; buffer.Reset()` on a live client (the order of the three does not matter there) -/
def hand (cfg : Cfg) (s : St) : St := enq cfg { s with buf := [], chanCount := s.chanCount + 1 } s.buf

theorem send_notOpen (cfg : Cfg) (s : St) (f : Frame) (fl : Bool) (ho : s.isOpen = false) :
    send cfg s f fl = { s with packCount := s.packCount + 1, lost := encFrame f :: s.lost } := by
  simp only [send, ho, Bool.not_false, if_true]

/-- every channel send panics: the frame is lost, or (flush: Reset came first) the whole buffer -/
theorem send_closed (cfg : Cfg) (s : St) (f : Frame) (fl : Bool) (ho : s.isOpen = true) (hc : s.closed = true) :
    send cfg s f fl =
      if !s.buf.isEmpty && decide (s.buf.length + (encFrame f).length > cfg.limit) then
        { s with packCount := s.packCount + 1, chanCount := s.chanCount + 1, lost := encFrame f :: s.lost }
      else if fl then
        { s with packCount := s.packCount + 1, chanCount := s.chanCount + 1, buf := [],
                 lost := (s.buf ++ encFrame f) :: s.lost }
      else { s with packCount := s.packCount + 1, buf := s.buf ++ encFrame f } := by
  obtain ⟨o, c, buf, chan, wire, offered, lost, pc, cc, sc, ec⟩ := s
  dsimp only at ho hc; subst ho hc
  unfold send
  dsimp only
  generalize (!buf.isEmpty && decide (buf.length + (encFrame f).length > cfg.limit)) = over
  cases over <;> cases fl <;> rfl

/-- the shape of `Cut.send`: close if the frame does not fit, append, close if flushed -/
theorem send_live (cfg : Cfg) (s : St) (f : Frame) (fl : Bool) (ho : s.isOpen = true) (hc : s.closed = false) :
    send cfg s f fl =
      let s1 := if !s.buf.isEmpty && decide (s.buf.length + (encFrame f).length > cfg.limit)
        then hand cfg { s with packCount := s.packCount + 1 } else { s with packCount := s.packCount + 1 }
      let s2 := { s1 with buf := s1.buf ++ encFrame f }
      if fl then hand cfg s2 else s2 := by
  unfold send
  dsimp only
  generalize (!s.buf.isEmpty && decide (s.buf.length + (encFrame f).length > cfg.limit)) = over
  -- buffer full or not, flushed or not: every channel send succeeds (`push_eq`) and is a record update (`enq_eq`)
  cases over <;> cases fl <;>
    simp only [ho, hc, push_eq, hand, enq_eq, Option.map, Bool.not_true, Bool.false_eq_true, reduceIte] <;> rfl

theorem tick_closed (cfg : Cfg) (s : St) (hc : s.closed = true) :
    tick cfg s = if !s.isOpen || s.buf.isEmpty then s else { s with buf := [], lost := s.buf :: s.lost } := by
  simp only [tick, push_eq, hc, reduceIte]

theorem tick_live (cfg : Cfg) (s : St) (hc : s.closed = false) :
    tick cfg s = if !s.isOpen || s.buf.isEmpty then s else hand cfg s := by
  simp only [tick, push_eq, hc, Bool.false_eq_true, reduceIte, hand, enq_eq]

/-! ### histories without shutdown and reopen: the byte-level machine refines the frame-level cut -/

structure Rel (s : St) (c : Cut) : Prop where
  isOpen : s.isOpen = true
  notClosed : s.closed = false
  buf : s.buf = encFrames c.cur
  offered : s.offered = c.done.map encFrames

/-- `Rel` and the two counters that only such histories keep exact -/
structure Live (s : St) (c : Cut) : Prop where
  rel : Rel s c
  chanCount : s.chanCount = s.offered.length
  sendCount : s.sendCount = s.wire.length + s.errCount

theorem Live.packCount {s : St} {c : Cut} (h : Live s c) (n : Nat) : Live { s with packCount := n } c :=
  ⟨⟨h.rel.isOpen, h.rel.notClosed, h.rel.buf, h.rel.offered⟩, h.chanCount, h.sendCount⟩

theorem Live.append {s : St} {c : Cut} (h : Live s c) (f : Frame) :
    Live { s with buf := s.buf ++ encFrame f } { c with cur := c.cur ++ [f] } :=
  ⟨⟨h.rel.isOpen, h.rel.notClosed, by simp [h.rel.buf, encFrames_append], h.rel.offered⟩,
    h.chanCount, h.sendCount⟩

theorem Live.hand {s : St} {c : Cut} (h : Live s c) (cfg : Cfg) (hne : c.cur.isEmpty = false) :
    Live (hand cfg s) c.close := by
  have ho : (s.buf :: s.offered) = (c.cur :: c.done).map encFrames := by
    rw [List.map_cons, h.rel.buf, h.rel.offered]
  have hn : (s.buf :: s.offered).length = s.chanCount + 1 := by rw [List.length_cons, h.chanCount]
  unfold Udp.hand enq Cut.close
  rw [hne]
  split
  · exact ⟨⟨h.rel.isOpen, h.rel.notClosed, rfl, ho⟩, hn.symm, h.sendCount⟩
  · exact ⟨⟨h.rel.isOpen, h.rel.notClosed, rfl, ho⟩, hn.symm, h.sendCount⟩

theorem encFrames_isEmpty (fs : List Frame) : (encFrames fs).isEmpty = fs.isEmpty := by
  cases fs <;> simp [encFrame]

theorem send_live_cut (cfg : Cfg) (s : St) (c : Cut) (f : Frame) (fl : Bool) (h : Live s c) :
    Live (send cfg s f fl) (c.send cfg.limit f fl) := by
  rw [send_live cfg s f fl h.rel.isOpen h.rel.notClosed, h.rel.buf, encFrames_isEmpty, encFrames_length,
    encFrame_length, ← h.rel.buf]
  unfold Cut.send
  have hf : ∀ c1 : Cut, (c1.cur ++ [f]).isEmpty = false := fun c1 => by simp
  cases hov : (!c.cur.isEmpty && decide (size c.cur + frameLen f > cfg.limit)) <;> cases fl
  · exact (h.packCount _).append f
  · exact ((h.packCount _).append f).hand cfg (hf _)
  · exact ((h.packCount _).hand cfg (by simp at hov; simp [hov.1])).append f
  · exact (((h.packCount _).hand cfg (by simp at hov; simp [hov.1])).append f).hand cfg (hf _)

theorem tick_live_cut (cfg : Cfg) (s : St) (c : Cut) (h : Live s c) : Live (tick cfg s) c.close := by
  rw [tick_live cfg s h.rel.notClosed, h.rel.isOpen, h.rel.buf, encFrames_isEmpty]
  cases hc : c.cur.isEmpty
  · exact h.hand cfg hc
  · simpa [Cut.close, hc] using h

theorem proc_live_cut (cfg : Cfg) (s : St) (c : Cut) (h : Live s c) : Live (proc cfg s) c := by
  have r : ∀ t : St, t.isOpen = s.isOpen → t.closed = s.closed → t.buf = s.buf → t.offered = s.offered →
      Rel t c := fun t e1 e2 e3 e4 => ⟨e1 ▸ h.rel.isOpen, e2 ▸ h.rel.notClosed, e3 ▸ h.rel.buf, e4 ▸ h.rel.offered⟩
  unfold proc
  split
  · exact h
  · split
    · exact ⟨r _ rfl rfl rfl rfl, h.chanCount, by simp only [List.length_cons, h.sendCount]; omega⟩
    · exact ⟨r _ rfl rfl rfl rfl, h.chanCount, by simp only [h.sendCount]; omega⟩

theorem step_live_cut (cfg : Cfg) (s : St) (c : Cut) (op : Op) (hp : op.plain = true) (h : Live s c) :
    Live (step cfg s op) (specStep cfg.limit c op) := by
  cases op with
  | send f fl => exact send_live_cut cfg s c f fl h
  | sendNil => exact h.packCount _
  | tick => exact tick_live_cut cfg s c h
  | proc => exact proc_live_cut cfg s c h
  | shutdown => cases hp
  | reopen => cases hp

theorem run_live (cfg : Cfg) (ops : List Op) (hp : ∀ op ∈ ops, op.plain = true) :
    Live (run cfg ops) (spec cfg.limit ops) :=
  List.foldl_rel (r := Live) ⟨⟨rfl, rfl, rfl, rfl⟩, rfl, rfl⟩
    fun op hop s c h => step_live_cut cfg s c op (hp op hop) h

/-! ### every history: conservation, the wire, packCount -/

def Inv (s : St) : Prop := s.lost = [] → s.offered.reverse = s.wire.reverse ++ s.chan

def nSends : List Op → Nat
  | [] => 0
  | .send _ _ :: r => nSends r + 1
  | .sendNil :: r => nSends r + 1
  | _ :: r => nSends r

/-- what one step does to a state, as far as `Inv`, the wire and packCount can tell -/
structure Keeps (s t : St) (n : Nat) : Prop where
  inv : Inv s → Inv t
  wire : s.wire <:+ t.wire
  packCount : t.packCount = s.packCount + n

theorem Keeps.of_lost {s t : St} {n : Nat} {d : Bytes} {l : List Bytes} (hl : t.lost = d :: l)
    (hw : t.wire = s.wire) (hp : t.packCount = s.packCount + n) : Keeps s t n :=
  ⟨fun _ h => absurd (hl ▸ h) (List.cons_ne_nil d l), ⟨[], hw.symm⟩, hp⟩

theorem Keeps.of_eq {s t : St} {n : Nat} (hl : t.lost = s.lost) (ho : t.offered = s.offered)
    (hc : t.chan = s.chan) (hw : t.wire = s.wire) (hp : t.packCount = s.packCount + n) : Keeps s t n :=
  ⟨fun h => by unfold Inv; rw [hl, ho, hc, hw]; exact h, ⟨[], hw.symm⟩, hp⟩

theorem Keeps.trans {s t u : St} {m n : Nat} (h1 : Keeps s t m) (h2 : Keeps t u n) : Keeps s u (m + n) :=
  ⟨h2.inv ∘ h1.inv, h1.wire.trans h2.wire, by rw [h2.packCount, h1.packCount, Nat.add_assoc]⟩

theorem Keeps.then {s t u : St} {m : Nat} (h1 : Keeps s t m) (h2 : Keeps t u 0) : Keeps s u m :=
  h1.trans h2

theorem keeps_hand (cfg : Cfg) (s : St) : Keeps s (hand cfg s) 0 := by
  unfold hand enq
  split
  · refine ⟨fun h hl => ?_, List.suffix_refl _, rfl⟩
    show (s.buf :: s.offered).reverse = s.wire.reverse ++ (s.chan ++ [s.buf])
    rw [List.reverse_cons, h hl, List.append_assoc]
  · exact .of_lost rfl rfl rfl

theorem keeps_send (cfg : Cfg) (s : St) (f : Frame) (fl : Bool) : Keeps s (send cfg s f fl) 1 := by
  cases ho : s.isOpen
  · rw [send_notOpen cfg s f fl ho]; exact .of_lost rfl rfl rfl
  cases hc : s.closed
  · rw [send_live cfg s f fl ho hc]
    have h1 : ∀ t : St, Keeps s t 1 → Keeps s { t with buf := t.buf ++ encFrame f } 1 :=
      fun t h => h.then (.of_eq rfl rfl rfl rfl rfl)
    have h2 : ∀ t : St, Keeps s t 1 → Keeps s (if fl then hand cfg t else t) 1 := fun t h => by
      split
      · exact h.then (keeps_hand cfg t)
      · exact h
    refine h2 _ (h1 _ ?_)
    split
    · exact (Keeps.of_eq (s := s) (t := { s with packCount := s.packCount + 1 }) rfl rfl rfl rfl rfl).then
        (keeps_hand cfg _)
    · exact .of_eq rfl rfl rfl rfl rfl
  · rw [send_closed cfg s f fl ho hc]
    split
    · exact .of_lost rfl rfl rfl
    · split
      · exact .of_lost rfl rfl rfl
      · exact .of_eq rfl rfl rfl rfl rfl

theorem keeps_tick (cfg : Cfg) (s : St) : Keeps s (tick cfg s) 0 := by
  cases hc : s.closed
  · rw [tick_live cfg s hc]
    split
    · exact .of_eq rfl rfl rfl rfl rfl
    · exact keeps_hand cfg s
  · rw [tick_closed cfg s hc]
    split
    · exact .of_eq rfl rfl rfl rfl rfl
    · exact .of_lost rfl rfl rfl

theorem keeps_proc (cfg : Cfg) (s : St) : Keeps s (proc cfg s) 0 := by
  unfold proc
  split
  · exact .of_eq rfl rfl rfl rfl rfl
  · rename_i d rest hch
    split
    · refine ⟨fun h hl => ?_, List.suffix_cons d s.wire, rfl⟩
      show s.offered.reverse = (d :: s.wire).reverse ++ rest
      rw [h hl, hch, List.reverse_cons, List.append_assoc]; rfl
    · exact .of_lost rfl rfl rfl

theorem drain_lost (cfg : Cfg) (ch : List Bytes) (wl : List Bytes × List Bytes) (h : (drain cfg ch wl).2 = []) :
    wl.2 = [] ∧ (drain cfg ch wl).1 = ch.reverse ++ wl.1 := by
  fun_induction drain cfg ch wl with
  | case1 => exact ⟨h, rfl⟩
  | case2 d rest w l hd ih => exact ⟨(ih h).1, by rw [(ih h).2, List.reverse_cons, List.append_assoc]; rfl⟩
  | case3 d rest w l hd ih => cases (ih h).1

theorem drain_suffix (cfg : Cfg) (ch : List Bytes) (wl : List Bytes × List Bytes) : wl.1 <:+ (drain cfg ch wl).1 := by
  fun_induction drain cfg ch wl with
  | case1 => exact List.suffix_refl _
  | case2 d rest w l hd ih => exact (List.suffix_cons d w).trans ih
  | case3 d rest w l hd ih => exact ih

theorem keeps_shutdown (cfg : Cfg) (s : St) : Keeps s (shutdown cfg s) 0 := by
  unfold shutdown
  split
  · exact .of_eq rfl rfl rfl rfl rfl
  · refine ⟨fun h hl => ?_, drain_suffix cfg s.chan (s.wire, s.lost), rfl⟩
    obtain ⟨h1, h2⟩ := drain_lost cfg s.chan (s.wire, s.lost) hl
    show s.offered.reverse = (drain cfg s.chan (s.wire, s.lost)).1.reverse ++ []
    rw [h2, h h1, List.reverse_append, List.reverse_reverse, List.append_nil]

theorem keeps_step (cfg : Cfg) (s : St) (op : Op) : Keeps s (step cfg s op) (nSends [op]) := by
  cases op with
  | send f fl => exact keeps_send cfg s f fl
  | sendNil => exact .of_eq rfl rfl rfl rfl rfl
  | tick => exact keeps_tick cfg s
  | proc => exact keeps_proc cfg s
  | shutdown => exact keeps_shutdown cfg s
  | reopen => exact .of_eq rfl rfl rfl rfl rfl

theorem nSends_cons (op : Op) (ops : List Op) : nSends (op :: ops) = nSends [op] + nSends ops := by
  cases op <;> simp only [nSends] <;> omega

theorem keeps_foldl (cfg : Cfg) (ops : List Op) (s : St) :
    Keeps s (ops.foldl (step cfg) s) (nSends ops) := by
  induction ops generalizing s with
  | nil => exact .of_eq rfl rfl rfl rfl rfl
  | cons op ops ih => rw [nSends_cons]; exact (keeps_step cfg s op).trans (ih _)

def flat (c : Cut) : List Frame := c.done.reverse.flatten ++ c.cur

theorem flat_close (c : Cut) : flat c.close = flat c := by
  unfold Cut.close
  split
  · rfl
  · simp [flat]

theorem flat_send (l : Nat) (c : Cut) (f : Frame) (fl : Bool) : flat (c.send l f fl) = flat c ++ [f] := by
  have e : ∀ c1 : Cut, flat { c1 with cur := c1.cur ++ [f] } = flat c1 ++ [f] :=
    fun c1 => (List.append_assoc ..).symm
  unfold Cut.send
  split <;> split <;> simp only [flat_close, e]

theorem accepted_cons (op : Op) (ops : List Op) : accepted (op :: ops) = accepted [op] ++ accepted ops := by
  cases op <;> rfl

theorem flat_step (l : Nat) (c : Cut) (op : Op) : flat (specStep l c op) = flat c ++ accepted [op] := by
  cases op <;> simp only [specStep, accepted, flat_close, flat_send, List.append_nil]

theorem flat_foldl (l : Nat) (ops : List Op) (c : Cut) :
    flat (ops.foldl (specStep l) c) = flat c ++ accepted ops := by
  induction ops generalizing c with
  | nil => exact (List.append_nil _).symm
  | cons op ops ih => rw [List.foldl_cons, ih, flat_step, accepted_cons op ops, List.append_assoc]

theorem spec_flatten (l : Nat) (ops : List Op) :
    (spec l ops).done.reverse.flatten ++ (spec l ops).cur = accepted ops :=
  flat_foldl l ops {}

/-- no datagram is empty, and one above the limit is a single frame -/
def Good (l : Nat) (c : Cut) : Prop :=
  (∀ g ∈ c.done, g ≠ [] ∧ (size g ≤ l ∨ g.length = 1)) ∧ (size c.cur ≤ l ∨ c.cur.length = 1)

theorem good_close (l : Nat) (c : Cut) (h : Good l c) : Good l c.close := by
  unfold Cut.close
  split
  · exact h
  · rename_i hc
    refine ⟨fun g hg => ?_, .inl (Nat.zero_le l)⟩
    rcases List.mem_cons.mp hg with rfl | hg
    · exact ⟨fun e => hc (e ▸ rfl), h.2⟩
    · exact h.1 g hg

theorem good_send (l : Nat) (c : Cut) (f : Frame) (fl : Bool) (h : Good l c) : Good l (c.send l f fl) := by
  have h2 : ∀ c1 : Cut, Good l c1 → (c1.cur = [] ∨ size c1.cur + frameLen f ≤ l) →
      Good l { c1 with cur := c1.cur ++ [f] } := by
    intro c1 h1 hs
    refine ⟨h1.1, ?_⟩
    rcases hs with hs | hs
    · exact .inr (by rw [hs]; rfl)
    · exact .inl (by rw [size_append]; exact hs)
  have h3 : ∀ c2 : Cut, Good l c2 → Good l (if fl then c2.close else c2) := fun c2 h => by
    split
    · exact good_close l c2 h
    · exact h
  unfold Cut.send
  refine h3 _ (h2 _ ?_ ?_) <;> split
  · exact good_close l c h
  · exact h
  · rename_i hov
    have : c.cur.isEmpty = false := by simpa using (Bool.and_eq_true_iff.mp hov).1
    exact .inl (by simp only [Cut.close, this]; rfl)
  · rename_i hov
    cases hc : c.cur with
    | nil => exact .inl rfl
    | cons a r =>
      refine .inr ?_
      simpa [hc] using hov

theorem good_step (l : Nat) (c : Cut) (op : Op) (h : Good l c) : Good l (specStep l c op) := by
  cases op with
  | send f fl => exact good_send l c f fl h
  | tick => exact good_close l c h
  | _ => exact h

theorem spec_good (l : Nat) (ops : List Op) : Good l (spec l ops) :=
  List.foldlRecOn ops (specStep l) (motive := Good l) ⟨fun _ h => absurd h List.not_mem_nil, .inl (Nat.zero_le l)⟩
    fun c h op _ => good_step l c op h

end Ext.Udp
