/-
  Golib.Ext.PathTree — CodeModel of util/pathutil/PathTree.go and the abstract association it is
  measured against.

  The Go structure is a first-child / next-sibling tree of ENTRY records (node, value, right, child,
  parent).  `Tree` is exactly that shape (the parent pointer is only used by the enumerator, which the
  Go code never starts — see `Enumer`).  `insSib` / `findT` follow `PathTree.insert` / `PathTree.find`
  branch by branch, including

    * InsertArray ignores nil/empty paths, nil values and **paths of one segment**;
    * a fresh literal segment is linked in as the FIRST child of its parent, a fresh `*` at the right end;
    * `count` (what Size() returns) is incremented once per created ENTRY, except for the first ENTRY
      created below an existing leaf (branch `cur.child == nil` of `insert`);
    * `find` takes the first sibling that `Include`s the segment (`*` matches every non-empty segment)
      and never backtracks.

  Core Lean only; the driver imports this file.
-/

namespace Ext.PathTree

abbrev Seg := String
abbrev Path := List Seg

/-- a chain of sibling ENTRYs: `nil` is the Go nil pointer -/
inductive Tree (V : Type) where
  | nil : Tree V
  | node (name : Seg) (val : Option V) (child right : Tree V) : Tree V
  deriving Repr

variable {V : Type}

def Tree.isNil : Tree V → Bool
  | .nil => true
  | .node .. => false

/-- `cur.node = n` followed by `expand(cur, path, value)`: one ENTRY per remaining segment, the value at the end.
    `right` is what the first new ENTRY's `right` points to. -/
def chain : Seg → Path → V → Tree V → Tree V
  | n, [], v, right => .node n (some v) .nil right
  | n, m :: r, v, right => .node n none (chain m r v .nil) right

/-- `insert(p, cur, path, value)` walking the sibling chain `cur` for segment `n`, remaining segments `rest`.
    Result: new chain, returned old value, number of `count++` executed.  `none`: the walk fell off the right end
    with a literal (non-`*`) segment — the caller links a fresh chain in front of `p.child`. -/
def insSib : Tree V → Seg → Path → V → Option (Tree V × Option V × Nat)
  | .nil, n, rest, v =>
      if n = "*" then some (chain n rest v .nil, none, 1 + rest.length) else none
  | .node name val child right, n, rest, v =>
      if n = name then
        match rest with
        | [] => some (.node name (some v) child right, val, 0)
        | m :: r =>
          if child.isNil then
            -- cur.child == nil: the new child is NOT counted, the ENTRYs below it are
            some (.node name val (chain m r v .nil) right, none, r.length)
          else
            match insSib child m r v with
            | some (c', old, k) => some (.node name val c' right, old, k)
            | none => some (.node name val (chain m r v child) right, none, 1 + r.length)
      else
        match insSib right n rest v with
        | some (r', old, k) => some (.node name val child r', old, k)
        | none => none

/-- the PathTree object: `Top.child` and `count` -/
structure PT (V : Type) where
  top : Tree V := .nil
  count : Nat := 0

/-- `InsertArray(paths, value)`; a nil value is `none` -/
def insertArray (t : PT V) (paths : Path) (v : Option V) : PT V × Option V :=
  match v, paths with
  | none, _ => (t, none)
  | some _, [] => (t, none)
  | some _, [_] => (t, none)
  | some v, n :: m :: r =>
    if t.top.isNil then
      ({ top := chain n (m :: r) v .nil, count := t.count + (2 + r.length) }, none)
    else
      match insSib t.top n (m :: r) v with
      | some (t', old, k) => ({ top := t', count := t.count + k }, old)
      | none => ({ top := chain n (m :: r) v t.top, count := t.count + (2 + r.length) }, none)

/-- `ENTRY.Include` -/
def incl (name v : Seg) : Bool := (name == "*" && v != "") || name == v

/-- `find(cur, m)` -/
def findT : Tree V → Seg → Path → Option V
  | .nil, _, _ => none
  | .node name val child right, n, rest =>
      if incl name n then
        match rest with
        | [] => val
        | m :: r => findT child m r
      else findT right n rest

/-- `FindArray(path)` -/
def findArray (t : PT V) : Path → Option V
  | [] => none
  | n :: rest => findT t.top n rest

/-- `strings.Split(s, "/")` for the one-byte separator -/
def splitPath (s : String) : Path := s.splitOn "/"

/-- `Insert(path, value)` -/
def insert (t : PT V) (s : String) (v : Option V) : PT V × Option V :=
  if s = "" then (t, none) else insertArray t (splitPath s) v

/-- `Find(path)` -/
def find (t : PT V) (s : String) : Option V :=
  if s = "" then none else findArray t (splitPath s)

def size (t : PT V) : Nat := t.count

/-- `Paths()/Values()/Entries()` build `NewPathTreeEnumer(type)`, whose `entry` is never set: the cursor of a
    new enumerator is nil whatever the tree holds. -/
structure Enumer where
  started : Bool := false      -- `entry != nil`
  deriving Repr, DecidableEq

def enumerOf (_t : PT V) : Enumer := {}
def Enumer.hasMore (e : Enumer) : Bool := e.started
/-- what a caller collects with `for e.HasMoreElements() { e.NextElement(top) }` -/
def Enumer.drain (e : Enumer) (all : List α) : List α := if e.started then all else []

/-- number of ENTRY records of a chain (with everything below) -/
def Tree.nodes : Tree V → Nat
  | .nil => 0
  | .node _ _ c r => 1 + c.nodes + r.nodes

/-- every (path, value) stored in the chain, pre-order (the order of the Java enumerator this was ported from);
    `pre` is the reversed path of the parent -/
def Tree.flatten : Tree V → Path → List (Path × V)
  | .nil, _ => []
  | .node name val c r, pre =>
      (match val with | some v => [((name :: pre).reverse, v)] | none => []) ++
      c.flatten (name :: pre) ++ r.flatten pre

/-! ### history runner -/

/-- one operation of a history -/
inductive Op (V : Type) where
  | ins (p : Path) (v : Option V)
  | get (p : Path)
  | size
  | enum

inductive Out (V : Type) where
  | val (v : Option V)
  | n (k : Nat)
  | more (b : Bool)
  deriving DecidableEq

def step (t : PT V) : Op V → PT V × Out V
  | .ins p v => let (t', o) := insertArray t p v; (t', .val o)
  | .get p => (t, .val (findArray t p))
  | .size => (t, .n t.count)
  | .enum => (t, .more (enumerOf t).hasMore)

def run (t : PT V) : List (Op V) → PT V × List (Out V)
  | [] => (t, [])
  | op :: ops =>
    let (t', o) := step t op
    let (t'', os) := run t' ops
    (t'', o :: os)

/-! ### the abstract association: a log of the effective inserts, newest first -/

abbrev Log (V : Type) := List (Path × V)

/-- value stored under exactly this path -/
def Log.get (l : Log V) (p : Path) : Option V := (l.find? (fun e => e.1 == p)).map (·.2)

/-- some stored path starts with `q` -/
def Log.has (l : Log V) (q : Path) : Bool := l.any (fun e => q.isPrefixOf e.1)

/-- an insert takes effect iff the value is non-nil and the path has at least two segments -/
def Log.ins (l : Log V) (p : Path) (v : Option V) : Log V :=
  match v with
  | some v => if 2 ≤ p.length then (p, v) :: l else l
  | none => l

/-- Greedy resolution of a looked-up path against the stored paths, segment by segment: the literal segment
    if some stored path continues with it, else `*` if the segment is non-empty and some stored path continues
    with `*`, else nothing; no backtracking.  `has q` / `lk q` are asked about paths relative to the segments
    already resolved. -/
def specFind (has : Path → Bool) (lk : Path → Option V) : Path → Option V
  | [] => none
  | [n] =>
      if has [n] then lk [n]
      else if n ≠ "" ∧ has ["*"] then lk ["*"]
      else none
  | n :: m :: r =>
      if has [n] then specFind (fun q => has (n :: q)) (fun q => lk (n :: q)) (m :: r)
      else if n ≠ "" ∧ has ["*"] then specFind (fun q => has ("*" :: q)) (fun q => lk ("*" :: q)) (m :: r)
      else none

/-- the abstract machine -/
def absStep (l : Log V) : Op V → Log V × Out V
  | .ins p v => (l.ins p v, .val (match v with | some _ => if 2 ≤ p.length then l.get p else none | none => none))
  | .get p => (l, .val (specFind l.has l.get p))
  | .size => (l, .n 0)      -- Size() is not a function of the abstract state (see X01.finding_tree_size_not_paths, finding_tree_size_order)
  | .enum => (l, .more false)

end Ext.PathTree
