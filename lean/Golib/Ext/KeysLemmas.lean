/-
  Golib.Ext.KeysLemmas — CompareTo of the composite keys (Golib.Ext.Keys) is `cmpLex` over the component pairs:
  its three values by trichotomy (`cmpInt_cases`), `-1` exactly on `lexLt`; the sign-of-difference chain of the
  POID family agrees with it while no subtraction overflows (`cmpDiff_sub`); the fixed-width field codecs
  read back what they wrote (`run_rd2`, `run_rd3`, `link_roundtrip`).
-/
import Golib.Ext.Keys

namespace Ext.Keys
open Prim

/-- the three values of `cmpInt`, by trichotomy -/
theorem cmpInt_cases (a b : Int) :
    (a < b ∧ cmpInt a b = -1) ∨ (a = b ∧ cmpInt a b = 0) ∨ (b < a ∧ cmpInt a b = 1) := by
  unfold cmpInt
  rcases Int.lt_trichotomy a b with h | rfl | h
  · exact .inl ⟨h, by rw [if_neg (Int.ne_of_lt h), if_neg (Int.lt_asymm h)]⟩
  · exact .inr (.inl ⟨rfl, if_pos rfl⟩)
  · exact .inr (.inr ⟨h, by rw [if_neg (Int.ne_of_gt h), if_pos h]⟩)

theorem cmpInt_eq_zero (a b : Int) : cmpInt a b = 0 ↔ a = b := by
  have := cmpInt_cases a b; omega

theorem cmpInt_neg (a b : Int) : cmpInt a b = -1 ↔ a < b := by
  have := cmpInt_cases a b; omega

theorem cmpInt_pos (a b : Int) : cmpInt a b = 1 ↔ b < a := by
  have := cmpInt_cases a b; omega

theorem cmpInt_swap (a b : Int) : cmpInt b a = - cmpInt a b := by
  have := cmpInt_cases a b; have := cmpInt_cases b a; omega

/-- lexicographic "less than" on a list of component pairs -/
def lexLt : List (Int × Int) → Prop
  | [] => False
  | (a, b) :: rest => a < b ∨ (a = b ∧ lexLt rest)

def swapPairs (l : List (Int × Int)) : List (Int × Int) := l.map (fun p => (p.2, p.1))

/-- `lexLt` is transitive: component triples `(x, y, z)` read as the pairs `x y`, `y z` and `x z` -/
theorem lexLt_trans (l : List (Int × Int × Int)) :
    lexLt (l.map fun t => (t.1, t.2.1)) → lexLt (l.map fun t => (t.2.1, t.2.2)) →
    lexLt (l.map fun t => (t.1, t.2.2)) := by
  induction l with
  | nil => exact fun h _ => h
  | cons t l ih =>
    obtain ⟨x, y, z⟩ := t
    simp only [List.map_cons, lexLt]
    rintro (h1 | ⟨rfl, h1⟩) (h2 | ⟨rfl, h2⟩)
    · exact .inl (Int.lt_trans h1 h2)
    · exact .inl h1
    · exact .inl h2
    · exact .inr ⟨rfl, ih h1 h2⟩

theorem cmpLex_cons (a b : Int) (rest : List (Int × Int)) :
    cmpLex ((a, b) :: rest) = if a ≠ b then cmpInt a b else cmpLex rest := by
  cases rest with
  | nil =>
    simp only [cmpLex]
    split
    · rfl
    · rename_i h; simp at h; subst h; simp [cmpInt]
  | cons p rest => rfl

theorem cmpLex_neg (l : List (Int × Int)) : cmpLex l = -1 ↔ lexLt l := by
  induction l with
  | nil => simp [cmpLex, lexLt]
  | cons p rest ih =>
    obtain ⟨a, b⟩ := p
    rw [cmpLex_cons]; simp only [lexLt]
    split
    · rename_i h; rw [cmpInt_neg]; constructor
      · intro h'; exact Or.inl h'
      · intro h'; rcases h' with h' | ⟨h', _⟩
        · exact h'
        · exact absurd h' h
    · rename_i h; simp at h; subst h; rw [ih]; simp

theorem cmpLex_zero (l : List (Int × Int)) : cmpLex l = 0 ↔ ∀ p ∈ l, p.1 = p.2 := by
  induction l with
  | nil => simp [cmpLex]
  | cons p rest ih =>
    obtain ⟨a, b⟩ := p
    rw [cmpLex_cons]
    split
    · rename_i h; rw [cmpInt_eq_zero]; simp [h]
    · rename_i h; simp at h; subst h; rw [ih]; simp

theorem cmpLex_swap (l : List (Int × Int)) : cmpLex (swapPairs l) = - cmpLex l := by
  induction l with
  | nil => simp [cmpLex, swapPairs]
  | cons p rest ih =>
    obtain ⟨a, b⟩ := p
    simp only [swapPairs, List.map_cons] at ih ⊢
    rw [cmpLex_cons, cmpLex_cons]
    split
    · rename_i h; rw [if_pos (fun e => h e.symm)]; exact cmpInt_swap a b
    · rename_i h; simp at h; subst h; simp; exact ih

theorem cmpLex_range (l : List (Int × Int)) : cmpLex l = -1 ∨ cmpLex l = 0 ∨ cmpLex l = 1 := by
  induction l with
  | nil => simp [cmpLex]
  | cons p rest ih =>
    obtain ⟨a, b⟩ := p
    rw [cmpLex_cons]; split
    · have := cmpInt_cases a b; omega
    · exact ih

theorem cmpLex_pos (l : List (Int × Int)) : cmpLex l = 1 ↔ lexLt (swapPairs l) := by
  rw [← cmpLex_neg, cmpLex_swap]; omega

/-- the three-way comparison, whole: what each of its values says, and antisymmetry -/
theorem cmpLex_spec (l : List (Int × Int)) :
    (cmpLex l = 0 ↔ ∀ p ∈ l, p.1 = p.2) ∧ (cmpLex l = -1 ↔ lexLt l) ∧ (cmpLex l = 1 ↔ lexLt (swapPairs l)) ∧
    cmpLex (swapPairs l) = - cmpLex l :=
  ⟨cmpLex_zero l, cmpLex_neg l, cmpLex_pos l, cmpLex_swap l⟩

/-! ### wrapped differences (POID / PKIND / PKOID) -/

theorem wrap64_id (v : Int) (h : I64 v) : wrap64 v = v := by
  unfold I64 at h; show Hash.wrap64 v = v; unfold Hash.wrap64; omega

theorem wrap32_id (v : Int) (h : I32 v) : wrap32 v = v := by
  unfold I32 at h; show Hash.wrap32 v = v; unfold Hash.wrap32; omega

theorem wrap64_zero (a b : Int) (ha : I64 a) (hb : I64 b) : wrap64 (a - b) = 0 ↔ a = b := by
  unfold I64 at ha hb; show Hash.wrap64 (a - b) = 0 ↔ _; unfold Hash.wrap64; omega

theorem wrap32_zero (a b : Int) (ha : I32 a) (hb : I32 b) : wrap32 (a - b) = 0 ↔ a = b := by
  unfold I32 at ha hb; show Hash.wrap32 (a - b) = 0 ↔ _; unfold Hash.wrap32; omega

/-- on differences that do not overflow, the sign chain is the lexicographic comparison -/
theorem cmpDiff_sub (l : List (Int × Int)) : cmpDiff (l.map fun p => p.1 - p.2) = cmpLex l := by
  induction l with
  | nil => rfl
  | cons p rest ih =>
    obtain ⟨a, b⟩ := p
    rw [cmpLex_cons, List.map_cons, cmpDiff, ih]
    by_cases h : a = b
    · rw [if_neg (by omega), if_neg (by simpa using h)]
    · rw [if_pos (by omega), if_pos h]
      have := cmpInt_cases a b
      unfold sgn; split <;> omega

/-! ### byte comparison (LINK) -/

theorem compareToBytes_zero (l r : Bytes) : compareToBytes l r = 0 ↔ l = r := by
  fun_induction compareToBytes l r with
  | case1 => simp
  | case2 r hr => cases r <;> simp at hr ⊢; omega
  | case3 l hl => cases l <;> simp at hl ⊢; omega
  | case4 a l b r h => simp; omega
  | case5 a l b r h1 h2 => simp; omega
  | case6 a l b r h1 h2 ih =>
    obtain rfl : a = b := by omega
    simp [ih]

theorem equalBytes_iff (l r : Bytes) : equalBytes l r = true ↔ l = r := by
  unfold equalBytes; rw [beq_iff_eq]; exact compareToBytes_zero l r

theorem I32_inRange (v : Int) (h : I32 v) : inRange 4 v := (inRange_4 v).mpr h
theorem I64_inRange (v : Int) (h : I64 v) : inRange 8 v := (inRange_8 v).mpr h

theorem run_rd2 (w : Nat) (a b : Int) (r : Bytes) (ha : inRange w a) (hb : inRange w b)
    {α : Type} (mk : Int → Int → α) :
    P.run (P.bind (rdI w) (fun x => P.bind (rdI w) (fun y => .pure (mk x y)))) (encFields w [a, b] ++ r)
      = some (mk a b, r) := by
  simp only [encFields, List.map_cons, List.map_nil, List.flatten_cons, List.flatten_nil, List.append_nil,
    List.append_assoc]
  rw [P.run_bind_some _ _ _ _ _ (run_rdI w a _ ha)]
  rw [P.run_bind_some _ _ _ _ _ (run_rdI w b _ hb)]
  rfl

theorem run_rd3 (w : Nat) (a b c : Int) (r : Bytes) (ha : inRange w a) (hb : inRange w b) (hc : inRange w c)
    {α : Type} (mk : Int → Int → Int → α) :
    P.run (P.bind (rdI w) (fun x => P.bind (rdI w) (fun y => P.bind (rdI w) (fun z => .pure (mk x y z)))))
      (encFields w [a, b, c] ++ r) = some (mk a b c, r) := by
  simp only [encFields, List.map_cons, List.map_nil, List.flatten_cons, List.flatten_nil, List.append_nil,
    List.append_assoc]
  rw [P.run_bind_some _ _ _ _ _ (run_rdI w a _ ha)]
  rw [P.run_bind_some _ _ _ _ _ (run_rdI w b _ hb)]
  rw [P.run_bind_some _ _ _ _ _ (run_rdI w c _ hc)]
  rfl

/-- LINK on the stream: blob(IP) then int32(Port) -/
theorem link_roundtrip (k : LINK) (r : Bytes) (hip : k.ip.length < 2147483648) (hp : I32 k.port) :
    P.run LINK.toObject (LINK.toBytes k ++ r) = some (k, r) :=
  (.bind (run_decBlob k.ip · hip) fun r => P.run_map_some _ (run_rdI 4 k.port r (I32_inRange _ hp)) :
    P.Reads LINK.toObject (LINK.toBytes k) k) r

theorem encFields_length (w : Nat) (vals : List Int) : (encFields w vals).length = w * vals.length := by
  induction vals with
  | nil => simp [encFields]
  | cons v vs ih =>
    simp only [encFields, List.map_cons, List.flatten_cons, List.length_append, encI_length, List.length_cons] at ih ⊢
    rw [ih, Nat.mul_succ]; omega

theorem encFields_WFB (w : Nat) (vals : List Int) : WFB (encFields w vals) := by
  induction vals with
  | nil => simp [encFields]; exact WFB_nil
  | cons v vs ih =>
    simp only [encFields, List.map_cons, List.flatten_cons] at ih ⊢
    exact WFB_append.mpr ⟨encI_WFB _ _, ih⟩

theorem toUint_lt (v : Int) : toUint v < 18446744073709551616 := by
  unfold toUint; omega

end Ext.Keys
