/-
  Golib.Ext.StrUtilLemmas — the string utilities of Golib.Ext.StrUtil in closed form: the pads are
  `replicate ++ s`; `join ∘ splitF = id`; the rune chunks tile the text (`chunks_raw`) and on ASCII text are its
  bytes (`chunks_ascii`), so the rune-wise functions are the byte-wise ones there; the token groups hold exactly
  the non-delimiter chunks; NullTermToStrings inverts `nulEnc`; ToLong is the polynomial `polyF`, wrapped once.
  Not imported by the driver.
-/
import Golib.Ext.StrUtil

namespace Ext.StrUtil
open Ext.Str

theorem padding_eq (n : Int) (c : Nat) : padding n [c] = List.replicate n.toNat c :=
  List.flatten_replicate_singleton

/-- the three branches of `LPad` are one: as many blanks in front as the text is short of `n` -/
theorem lpad_eq (s : Bytes) (n : Int) : lpad s n = List.replicate (n.toNat - s.length) 32 ++ s := by
  unfold lpad
  split
  · rename_i h
    obtain rfl : s = [] := List.isEmpty_iff.mp h
    rw [padding_eq, List.append_nil]; rfl
  · split
    · rename_i h; rw [Nat.sub_eq_zero_of_le (Int.toNat_le.mpr h)]; rfl
    · rw [padding_eq, Int.toNat_sub']

theorem rpad_eq (s : Bytes) (n : Int) : rpad s n = s ++ List.replicate (n.toNat - s.length) 32 := by
  unfold rpad
  split
  · rename_i h
    obtain rfl : s = [] := List.isEmpty_iff.mp h
    rw [padding_eq]; rfl
  · split
    · rename_i h; rw [Nat.sub_eq_zero_of_le (Int.toNat_le.mpr h)]; exact (List.append_nil s).symm
    · rw [padding_eq, Int.toNat_sub']

theorem lpadInt_eq (v size : Int) :
    lpadInt v size = List.replicate (size.toNat - (itoa v).length) 48 ++ itoa v := by
  unfold lpadInt
  dsimp only
  split
  · rename_i h; rw [Nat.sub_eq_zero_of_le (Int.toNat_le.mpr (Int.le_of_lt h))]; rfl
  · rw [padding_eq, Int.toNat_sub']

theorem splitF_ne_nil (f : Nat) (sep s : Bytes) : splitF f sep s ≠ [] := by
  cases f with
  | zero => simp [splitF]
  | succ f => unfold splitF; split <;> simp

theorem join_cons_ne (sep x : Bytes) {l : List Bytes} (h : l ≠ []) : join sep (x :: l) = x ++ sep ++ join sep l := by
  cases l with
  | nil => exact absurd rfl h
  | cons y r => rfl

theorem join_splitF (sep : Bytes) (f : Nat) (s : Bytes) : join sep (splitF f sep s) = s := by
  fun_induction splitF f sep s with
  | case1 => rfl
  | case2 => rfl
  | case3 f sep s i hi ih =>
    rw [join_cons_ne sep _ (splitF_ne_nil _ _ _), ih]
    exact (indexOf_some hi).symm

def Ascii (s : Bytes) : Prop := ∀ b ∈ s, b < 128

def mk1 (b : Nat) : Chunk := ⟨[b], [b]⟩

theorem runeAt_ascii (b : Nat) (r : Bytes) (h : b < 128) : runeAt (b :: r) = mk1 b := by
  simp [runeAt, seqWidth, h, mk1]

theorem chunksF_ascii (s : Bytes) (f : Nat) (h : s.length ≤ f) (ha : Ascii s) : chunksF f s = s.map mk1 := by
  fun_induction chunksF f s with
  | case1 s => obtain rfl : s = [] := List.eq_nil_of_length_eq_zero (by omega); rfl
  | case2 => rfl
  | case3 f b r k ih =>
    have hk : k = mk1 b := runeAt_ascii b r (ha b (by simp))
    simp only [hk, mk1, List.length_cons, List.length_nil, List.map_cons] at ih ⊢
    rw [ih (by simp at h ⊢; omega) (fun x hx => ha x (by simp at hx ⊢; exact Or.inr hx))]
    simp

theorem chunks_ascii (s : Bytes) (h : Ascii s) : chunks s = s.map mk1 :=
  chunksF_ascii s s.length (Nat.le_refl _) h

theorem mapRunes_ascii (f : Nat → Nat) (s : Bytes) (h : Ascii s) : mapRunes f s = s.map f := by
  unfold mapRunes
  rw [chunks_ascii s h]
  induction s with
  | nil => rfl
  | cons b r ih =>
    have hr : Ascii r := fun x hx => h x (by simp [hx])
    simp [mk1] at ih ⊢
    exact ih hr

theorem toLower_ascii (s : Bytes) (h : Ascii s) : toLower s = s.map lowerB := mapRunes_ascii _ s h
theorem toUpper_ascii (s : Bytes) (h : Ascii s) : toUpper s = s.map upperB := mapRunes_ascii _ s h

theorem take_drop_len (s : Bytes) (w : Nat) : s.take w ++ s.drop (s.take w).length = s := by
  rw [List.length_take]
  by_cases h : w ≤ s.length
  · rw [Nat.min_eq_left h]; exact List.take_append_drop w s
  · have h' : s.length ≤ w := by omega
    rw [Nat.min_eq_right h', List.take_of_length_le h', List.drop_length]; simp

theorem runeAt_raw (s : Bytes) : ∃ w, 1 ≤ w ∧ (runeAt s).raw = s.take w := by
  unfold runeAt
  by_cases h : seqWidth s = 0
  · exact ⟨1, Nat.le_refl _, by simp [h]⟩
  · exact ⟨seqWidth s, by omega, by simp [h]⟩

/-- the rune chunks tile the text: their raw bytes concatenated are the text -/
theorem chunksF_raw (f : Nat) (s : Bytes) (h : s.length ≤ f) : (chunksF f s).flatMap (·.raw) = s := by
  fun_induction chunksF f s with
  | case1 s => exact (List.eq_nil_of_length_eq_zero (by omega)).symm
  | case2 => rfl
  | case3 f c cs k ih =>
    obtain ⟨w, hw, hr⟩ := runeAt_raw (c :: cs)
    rw [List.flatMap_cons, ih (by simp only [k, hr, List.length_drop, List.length_take, List.length_cons] at h ⊢; omega)]
    simp only [k, hr]
    exact take_drop_len _ _

theorem chunks_raw (s : Bytes) : (chunks s).flatMap (·.raw) = s := chunksF_raw _ _ (Nat.le_refl _)

theorem chunksF_raw_ne (f : Nat) (s : Bytes) (k : Chunk) (h : k ∈ chunksF f s) : k.raw ≠ [] := by
  fun_induction chunksF f s with
  | case1 => simp at h
  | case2 => simp at h
  | case3 f c cs k0 ih =>
    rcases List.mem_cons.mp h with rfl | h
    · obtain ⟨w, hw, hr⟩ := runeAt_raw (c :: cs)
      rw [hr]; cases w with
      | zero => omega
      | succ w => simp
    · exact ih h

theorem groups_ne_nil (isD : Chunk → Bool) (ks : List Chunk) : groups isD ks ≠ [] := by
  cases ks with
  | nil => simp [groups]
  | cons k ks =>
    unfold groups
    split
    · split <;> simp
    · simp

theorem groups_flatten (isD : Chunk → Bool) (ks : List Chunk) :
    (groups isD ks).flatten = ks.filter (fun k => !isD k) := by
  fun_induction groups isD ks with
  | case1 => rfl
  | case2 k ks g gs hg hd ih => rw [hg] at ih; simpa [hd] using ih
  | case3 k ks g gs hg hd ih => rw [hg] at ih; simpa [hd] using ih
  | case4 k ks hg => exact absurd hg (groups_ne_nil isD ks)

theorem groups_no_delim (isD : Chunk → Bool) (ks : List Chunk) : ∀ g ∈ groups isD ks, ∀ k ∈ g, isD k = false := by
  fun_induction groups isD ks with
  | case1 => simp
  | case2 k ks g gs hg hd ih =>
    rw [hg] at ih
    intro g' hg' k' hk'
    rcases List.mem_cons.mp hg' with rfl | hg'
    · simp at hk'
    · exact ih g' hg' k' hk'
  | case3 k ks g gs hg hd ih =>
    rw [hg] at ih
    intro g' hg' k' hk'
    rcases List.mem_cons.mp hg' with rfl | hg'
    · rcases List.mem_cons.mp hk' with rfl | hk'
      · simpa using hd
      · exact ih g (by simp) k' hk'
    · exact ih g' (by simp [hg']) k' hk'
  | case4 k ks hg => exact absurd hg (groups_ne_nil isD ks)

theorem groups_mem_sub (isD : Chunk → Bool) : ∀ ks, ∀ g ∈ groups isD ks, ∀ k ∈ g, k ∈ ks := by
  intro ks g hg k hk
  have : k ∈ (groups isD ks).flatten := List.mem_flatten.mpr ⟨g, hg, hk⟩
  rw [groups_flatten] at this
  exact (List.mem_filter.mp this).1

theorem tokenizer_eq {src delim : Bytes} (h1 : src ≠ []) (h2 : delim ≠ []) :
    tokenizer src delim = fields (isDelim delim) (chunks src) := by
  cases src <;> cases delim <;> first | contradiction | rfl

theorem fields_flatten (isD : Chunk → Bool) (ks : List Chunk) :
    (fields isD ks).flatten = rawOf (ks.filter (fun k => !isD k)) := by
  rw [← groups_flatten]
  unfold fields
  generalize groups isD ks = gs
  induction gs with
  | nil => rfl
  | cons g gs ih =>
    cases g with
    | nil => simpa [rawOf] using ih
    | cons a g => simp [rawOf] at ih ⊢; rw [ih]

theorem lastIndexOf_single (c : Nat) (a r : Bytes) (h : c ∉ r) : lastIndexOf [c] (a ++ c :: r) = some a.length := by
  unfold lastIndexOf
  have e : (a ++ c :: r).reverse = r.reverse ++ [c] ++ a.reverse := by simp
  rw [e, List.reverse_singleton, indexOf_append_fresh c [] r.reverse a.reverse (by simpa using h)]
  simp <;> omega

theorem lastIndexOf_absent (c : Nat) (s : Bytes) (h : c ∉ s) : lastIndexOf [c] s = none := by
  unfold lastIndexOf
  rw [List.reverse_singleton, indexOf_absent c [] s.reverse (by simpa using h)]
  rfl

theorem lastIndexOf_nil (s : Bytes) : lastIndexOf [] s = some s.length := by
  unfold lastIndexOf
  rw [List.reverse_nil, indexOf_nil_sep]
  simp

theorem ascii_take (s : Bytes) (n : Nat) (h : Ascii s) : Ascii (s.take n) :=
  fun b hb => h b (List.mem_of_mem_take hb)
theorem ascii_drop (s : Bytes) (n : Nat) (h : Ascii s) : Ascii (s.drop n) :=
  fun b hb => h b (List.mem_of_mem_drop hb)

theorem indexOf_le {sep s : Bytes} {n : Nat} (h : indexOf sep s = some n) : n ≤ s.length := by
  fun_induction indexOf sep s generalizing n with
  | case1 => simp_all
  | case2 => simp_all
  | case3 => simp_all; omega
  | case4 c cs hp ih =>
    cases hm : indexOf sep cs with
    | none => simp [hm] at h
    | some m => simp [hm] at h; have := ih hm; simp; omega

theorem indexOf_bound {sep s : Bytes} {n : Nat} (h : indexOf sep s = some n) : n + sep.length ≤ s.length := by
  have hl := indexOf_le h
  have e := congrArg List.length (indexOf_some h)
  simp only [List.length_append, List.length_take, List.length_drop] at e
  omega

def asciiSpace (b : Nat) : Bool := b = 9 || b = 10 || b = 11 || b = 12 || b = 13 || b = 32

theorem isSpaceChunk_mk1 (b : Nat) : isSpaceChunk (mk1 b) = asciiSpace b := by
  simp only [isSpaceChunk, mk1, spaceEncs, asciiSpace, List.contains_eq_mem]
  simp [Bool.or_assoc]

theorem truncate_offsets (sz : Nat) : ∀ (s : Bytes) (o : Nat),
    ((offsets o (s.map mk1)).filter (fun p => ((p.1 : Nat) : Int) < (sz : Int))).flatMap (·.2.norm) = s.take (sz - o)
  | [], o => by simp [offsets]
  | b :: r, o => by
    have ih := truncate_offsets sz r (o + 1)
    simp only [Int.ofNat_lt] at ih ⊢
    simp only [List.map_cons, offsets, List.filter_cons, mk1, List.length_cons, List.length_nil]
    by_cases ho : o < sz
    · rw [if_pos (by simpa using ho), List.flatMap_cons, ih, show sz - o = (sz - (o + 1)) + 1 by omega]
      rfl
    · rw [if_neg (by simpa using ho), ih, show sz - o = 0 by omega, show sz - (o + 1) = 0 by omega,
        List.take_zero, List.take_zero]

/-- `bytes.IndexByte` is `strings.Index` with a one-byte separator -/
theorem indexByte_eq (c : Nat) : ∀ s : Bytes, indexByte c s = indexOf [c] s
  | [] => rfl
  | x :: s => by
    by_cases h : x = c <;> simp [indexByte, indexOf, List.isPrefixOf, h, Ne.symm, indexByte_eq c s]

/-- records that are non-empty and free of NUL, each followed by one NUL -/
def nulEnc (xs : List Bytes) : Bytes := xs.flatMap (· ++ [0])

theorem nulEnc_length : ∀ (xs : List Bytes), xs.length ≤ (nulEnc xs).length
  | [] => by simp [nulEnc]
  | x :: xs => by
    have e : nulEnc (x :: xs) = (x ++ [0]) ++ nulEnc xs := by simp [nulEnc]
    have := nulEnc_length xs
    rw [e]; simp only [List.length_append, List.length_cons, List.length_nil]; omega

/-- one round of the loop on a record followed by its terminator and at least one more byte -/
theorem nullTermF_step (f : Nat) (x : Bytes) (hx : 0 ∉ x) (y : Nat) (r : Bytes) (acc : List Bytes) :
    nullTermF (f + 1) (x ++ 0 :: y :: r) acc =
      if y = 0 then some (x :: acc).reverse else nullTermF f (y :: r) (x :: acc) := by
  simp only [nullTermF]
  rw [indexByte_eq, indexOf_byte_fresh 0 x _ hx]
  simp

theorem nullTermF_records : ∀ (xs : List Bytes) (x : Bytes) (acc : List Bytes) (tail : Bytes) (f : Nat),
    (∀ y ∈ x :: xs, y ≠ [] ∧ 0 ∉ y) → xs.length < f →
    nullTermF f (nulEnc (x :: xs) ++ 0 :: tail) acc = some (acc.reverse ++ x :: xs)
  | _, _, _, _, 0, _, hf => by omega
  | [], x, acc, tail, f + 1, h, _ => by
    rw [show nulEnc [x] ++ 0 :: tail = x ++ 0 :: 0 :: tail by simp [nulEnc],
      nullTermF_step f x (h x (by simp)).2]
    simp
  | x' :: xs, x, acc, tail, f + 1, h, hf => by
    obtain ⟨b, bs, rfl⟩ := List.exists_cons_of_ne_nil (h x' (by simp)).1
    have hb0 : b ≠ 0 := fun e0 => (h (b :: bs) (by simp)).2 (by simp [e0])
    have ih := nullTermF_records xs (b :: bs) (x :: acc) tail f
      (fun y hy => h y (List.mem_cons_of_mem _ hy)) (by simp at hf; omega)
    rw [show nulEnc ((b :: bs) :: xs) ++ 0 :: tail = b :: (bs ++ 0 :: (nulEnc xs ++ 0 :: tail)) by
      simp [nulEnc]] at ih
    rw [show nulEnc (x :: (b :: bs) :: xs) ++ 0 :: tail = x ++ 0 :: b :: (bs ++ 0 :: (nulEnc xs ++ 0 :: tail)) by
      simp [nulEnc], nullTermF_step f x (h x (by simp)).2, if_neg hb0, ih]
    simp

def polyF : Bytes → Int → Int
  | [], h => h
  | c :: cs, h => polyF cs (31 * h + c)

theorem wrap64_step (h : Int) (c : Nat) : wrap64 (31 * wrap64 h + c) = wrap64 (31 * h + c) := by
  unfold wrap64; omega

theorem wrap64_idem (h : Int) : wrap64 (wrap64 h) = wrap64 h := by
  unfold wrap64; omega

theorem toLongF_poly : ∀ (s : Bytes) (h : Int), toLongF s (wrap64 h) = wrap64 (polyF s h)
  | [], h => rfl
  | c :: cs, h => by
    simp only [toLongF, polyF, wrap64_step]
    exact toLongF_poly cs _

end Ext.StrUtil
