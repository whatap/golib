/-
  Golib.Ext.Keys — CodeModel of the composite key types that implement `hmap.LinkedKey`:

    lang/variable/I2.go I3.go L2.go L3.go      (int32 / int64 tuples)
    lang/POID.go PKIND.go PKOID.go             (pcode int64 + int32 ids)
    lang/topology/LINK.go                      (ip bytes + port)

  Integers are unbounded `Int` with explicit wrap-around (`Hash.wrap32`, `Hash.wrap64`) wherever the Go
  code computes in a sized type; `uint(x)` of a signed value is its 64-bit pattern (`toUint`).
  The definitions follow the Go bodies statement by statement, including

    * I2.Hash folds V2 then V1, I3.Hash V1 V2 V3 (field orders differ);
    * L2/L3.Hash: `prime*result + v ^ int64(uint64(v)>>32)` parses as `(prime*result + v) ^ (v>>>32)`
      (`+` and `^` have the same precedence in Go);
    * POID/PKIND/PKOID.CompareTo compare the SIGN OF THE WRAPPED DIFFERENCE (`this.PCode - o.PCode` in int64,
      `this.Oid - o.Oid` in int32), not the values;
    * I3.ToBytes writes V2 at offset 8 (V3 is never written);
    * LINK.ToBytes writes `int32(Port)`; LINK.HashCode is `hash.Hash(IP) | int32(Port)`;
      LINK.Equals dereferences its argument after testing it for nil.

  Core Lean only; imported by the driver.
-/
import Golib.Prim.Codec
import Golib.Hash.Crc

namespace Ext.Keys
open Prim

/-- `uint(x)` for a signed 32/64-bit `x` on a 64-bit platform: sign-extend, reinterpret -/
def toUint (v : Int) : Nat := (v % 18446744073709551616).toNat

abbrev wrap32 := Hash.wrap32
abbrev wrap64 := Hash.wrap64

def I32 (v : Int) : Prop := -2147483648 ≤ v ∧ v ≤ 2147483647
def I64 (v : Int) : Prop := -9223372036854775808 ≤ v ∧ v ≤ 9223372036854775807
instance (v : Int) : Decidable (I32 v) := by unfold I32; infer_instance
instance (v : Int) : Decidable (I64 v) := by unfold I64; infer_instance

/-- 64-bit pattern of an int64 -/
def u64 (v : Int) : Nat := (v % 18446744073709551616).toNat
/-- 32-bit pattern of an int32 -/
def u32 (v : Int) : Nat := (v % 4294967296).toNat

/-- `a ^ b` on int64 -/
def xor64 (a b : Int) : Int := Hash.toI64 (u64 a ^^^ u64 b)
/-- `a | b` on int32 -/
def or32 (a b : Int) : Int := Hash.toI32 (u32 a ||| u32 b)
/-- `int64(uint64(v) >> 32)` -/
def hi32 (v : Int) : Int := ((u64 v >>> 32 : Nat) : Int)

/-- `compare.CompareToInt` / `CompareToLong` -/
def cmpInt (l r : Int) : Int := if l = r then 0 else if l > r then 1 else -1

/-- `if a1 != b1 { return cmp(a1,b1) }; if a2 != b2 {…}; return cmp(an,bn)` -/
def cmpLex : List (Int × Int) → Int
  | [] => 0
  | [(a, b)] => cmpInt a b
  | (a, b) :: rest => if a ≠ b then cmpInt a b else cmpLex rest

/-- `v1 := x - y (wrapped); if v1 != 0 { if v1 > 0 {1} else {-1} }` chain of POID/PKIND/PKOID -/
def sgn (d : Int) : Int := if d > 0 then 1 else -1
def cmpDiff : List Int → Int
  | [] => 0
  | d :: rest => if d ≠ 0 then sgn d else cmpDiff rest

/-- `result = prime*result + v` in int32, starting from 1 -/
def fold32 (vals : List Int) : Int := vals.foldl (fun r v => wrap32 (31 * r + v)) 1
/-- `result = prime*result + v ^ int64(uint64(v)>>32)` in int64, starting from 1 -/
def fold64x (vals : List Int) : Int := vals.foldl (fun r v => xor64 (wrap64 (31 * r + v)) (hi32 v)) 1
/-- `result = prime*result + x` in int (64 bit), starting from 1 -/
def foldInt (vals : List Int) : Int := vals.foldl (fun r v => wrap64 (31 * r + v)) 1
/-- `int(pcode ^ int64(uint64(pcode)>>32))` -/
def foldPcode (p : Int) : Int := xor64 p (hi32 p)

/-- fixed-width big-endian fields one after the other -/
def encFields (w : Nat) (vals : List Int) : Bytes := (vals.map (encI w)).flatten

/-! ### I2 -/

structure I2 where
  v1 : Int
  v2 : Int
  deriving DecidableEq, Repr

namespace I2
def WF (k : I2) : Prop := I32 k.v1 ∧ I32 k.v2
def hash (k : I2) : Nat := toUint (fold32 [k.v2, k.v1])
def equals (a b : I2) : Bool := a.v2 == b.v2 && a.v1 == b.v1
def compareTo (a b : I2) : Int := cmpLex [(a.v1, b.v1), (a.v2, b.v2)]
def toBytes (k : I2) : Bytes := encFields 4 [k.v1, k.v2]
def toObject : P I2 := P.bind (rdI 4) (fun a => P.bind (rdI 4) (fun b => .pure ⟨a, b⟩))
end I2

/-! ### I3 -/

structure I3 where
  v1 : Int
  v2 : Int
  v3 : Int
  deriving DecidableEq, Repr

namespace I3
def WF (k : I3) : Prop := I32 k.v1 ∧ I32 k.v2 ∧ I32 k.v3
def hash (k : I3) : Nat := toUint (fold32 [k.v1, k.v2, k.v3])
def equals (a b : I3) : Bool := a.v2 == b.v2 && a.v3 == b.v3 && a.v1 == b.v1
def compareTo (a b : I3) : Int := cmpLex [(a.v1, b.v1), (a.v2, b.v2), (a.v3, b.v3)]
/-- `SetBytesInt(b, 8, this.V2)`: the third slot holds V2 again -/
def toBytes (k : I3) : Bytes := encFields 4 [k.v1, k.v2, k.v2]
def toObject : P I3 :=
  P.bind (rdI 4) (fun a => P.bind (rdI 4) (fun b => P.bind (rdI 4) (fun c => .pure ⟨a, b, c⟩)))
end I3

/-! ### L2 -/

structure L2 where
  v1 : Int
  v2 : Int
  deriving DecidableEq, Repr

namespace L2
def WF (k : L2) : Prop := I64 k.v1 ∧ I64 k.v2
def hash (k : L2) : Nat := toUint (fold64x [k.v1, k.v2])
def equals (a b : L2) : Bool := a.v1 == b.v1 && a.v2 == b.v2
def compareTo (a b : L2) : Int := cmpLex [(a.v1, b.v1), (a.v2, b.v2)]
def toBytes (k : L2) : Bytes := encFields 8 [k.v1, k.v2]
def toObject : P L2 := P.bind (rdI 8) (fun a => P.bind (rdI 8) (fun b => .pure ⟨a, b⟩))
end L2

/-! ### L3 -/

structure L3 where
  v1 : Int
  v2 : Int
  v3 : Int
  deriving DecidableEq, Repr

namespace L3
def WF (k : L3) : Prop := I64 k.v1 ∧ I64 k.v2 ∧ I64 k.v3
def hash (k : L3) : Nat := toUint (fold64x [k.v1, k.v2, k.v3])
def equals (a b : L3) : Bool := a.v1 == b.v1 && a.v2 == b.v2 && a.v3 == b.v3
def compareTo (a b : L3) : Int := cmpLex [(a.v1, b.v1), (a.v2, b.v2), (a.v3, b.v3)]
def toBytes (k : L3) : Bytes := encFields 8 [k.v1, k.v2, k.v3]
def toObject : P L3 :=
  P.bind (rdI 8) (fun a => P.bind (rdI 8) (fun b => P.bind (rdI 8) (fun c => .pure ⟨a, b, c⟩)))
end L3

/-! ### POID / PKIND (same code, field `Oid` / `OKind`) -/

structure POID where
  pcode : Int
  oid : Int
  deriving DecidableEq, Repr

namespace POID
def WF (k : POID) : Prop := I64 k.pcode ∧ I32 k.oid
def hash (k : POID) : Nat := toUint (foldInt [k.oid, foldPcode k.pcode])
/-- `if this.Oid != other.Oid {false}; if this.PCode != other.PCode {false}; true` -/
def equals (a b : POID) : Bool := !(a.oid != b.oid) && !(a.pcode != b.pcode)
def compareTo (a b : POID) : Int := cmpDiff [wrap64 (a.pcode - b.pcode), wrap32 (a.oid - b.oid)]
/-- the order CompareTo evidently intends -/
def compareSpec (a b : POID) : Int := cmpLex [(a.pcode, b.pcode), (a.oid, b.oid)]
end POID

/-! ### PKOID -/

structure PKOID where
  pcode : Int
  okind : Int
  oid : Int
  deriving DecidableEq, Repr

namespace PKOID
def WF (k : PKOID) : Prop := I64 k.pcode ∧ I32 k.okind ∧ I32 k.oid
def hash (k : PKOID) : Nat := toUint (foldInt [k.oid, k.okind, foldPcode k.pcode])
def equals (a b : PKOID) : Bool := !(a.oid != b.oid) && !(a.okind != b.okind) && !(a.pcode != b.pcode)
def compareTo (a b : PKOID) : Int :=
  cmpDiff [wrap64 (a.pcode - b.pcode), wrap32 (a.okind - b.okind), wrap32 (a.oid - b.oid)]
def compareSpec (a b : PKOID) : Int := cmpLex [(a.pcode, b.pcode), (a.okind, b.okind), (a.oid, b.oid)]
end PKOID

/-! ### LINK -/

/-- `compare.CompareToBytes`: ±1 at the first differing byte; when one slice is a prefix of the other, the
    length difference `l_sz - r_sz` as the Go function returns it (not its sign) -/
def compareToBytes : Bytes → Bytes → Int
  | [], [] => 0
  | [], r => -(r.length : Int)
  | l, [] => (l.length : Int)
  | a :: l, b :: r => if a > b then 1 else if a < b then -1 else compareToBytes l r

def equalBytes (l r : Bytes) : Bool := compareToBytes l r == 0

/-- `IP` as the byte list it holds (nil and the empty slice are not distinguished by any method modelled here);
    `Port` is a Go `int` -/
structure LINK where
  ip : Bytes
  port : Int
  deriving DecidableEq, Repr

namespace LINK
def WF (k : LINK) : Prop := WFB k.ip ∧ I64 k.port
def hashCode (k : LINK) : Int := or32 (Hash.hash k.ip) (wrap32 k.port)
def hash (k : LINK) : Nat := toUint (hashCode k)
/-- `Equals(h)`; `none` = the nil argument: `k` stays nil and `k.IP` panics -/
def equalsOpt (a : LINK) : Option LINK → Option Bool
  | none => none
  | some b => some (equalBytes a.ip b.ip && a.port == b.port)
def equals (a b : LINK) : Bool := equalBytes a.ip b.ip && a.port == b.port
def includes (a k : LINK) : Bool :=
  if equalBytes a.ip k.ip == false then false else if a.port == 0 then true else a.port == k.port
/-- `out.WriteBlob(IP); out.WriteInt(int32(Port))` -/
def toBytes (k : LINK) : Bytes := encBlob k.ip ++ encI 4 k.port
/-- `IP = in.ReadBlob(); Port = int(in.ReadInt())` -/
def toObject : P LINK := P.bind decBlob (fun ip => P.bind (rdI 4) (fun p => .pure ⟨ip, p⟩))
end LINK

end Ext.Keys
