/-
  Golib.Ext.Topo — CodeModel of lang/topology/NODE.go (the parts LINK.go contributes are in Golib.Ext.Keys).

  Strings are byte lists, as the Go code treats them (`strings.LastIndex`, slicing, `==`).

  * `getIPPORT`  : x = LastIndex(addr, ":"); if x < 0, x = LastIndex(addr, "."); IP = addr[0:x], Port = addr[x+1:];
                   no separator at all: `addr[0:-1]` panics, the deferred recover returns nil        (`none`)
  * `IPO.IsIPv6` : IP != "" && contains ':'        `IPO.IsLocal127` : IP == "127.0.0.1" (exactly that string)
  * `CreateLINK(ipStr, port)`: `net.LookupIP(ipStr)`; error → the zero link {0.0.0.0, Port 0} (never nil);
                   first address a.To4() copied into the 4 bytes (an IPv6 address copies nothing), Port = port.
                   `net.LookupIP` of a strict dotted quad is that address with no resolver involved (`parseV4`, the
                   code of netip.parseIPv4); everything else (IPv6 literals, host names, garbage) is the PARAMETER `ext`.
  * `AddListen`, `AddOutter`, `hasListen` (always false: `if k != nil { return false }` and CreateLINK never
                   returns nil), `IsAttachable`
  * `ToBytes` / `ToObject` with `toLinkBytes` / `toLinkObject`; the LinkedSets are the insertion-ordered duplicate
                   free lists `putSet` builds (C09 / X01.linked_map_over_keys: the linked hash table with LINK.Hash /
                   LINK.Equals refines exactly that)
-/
import Golib.Ext.Keys
import Golib.Ext.CastMath
import Golib.Value.Model

namespace Ext.Topo
open Prim Ext.Keys

/-! ### address strings -/

/-- `strings.LastIndex(s, string(c))` as an Option -/
def lastIndexAux (c : Nat) : Bytes → Nat → Option Nat → Option Nat
  | [], _, acc => acc
  | b :: r, i, acc => lastIndexAux c r (i + 1) (if b = c then some i else acc)

def lastIndex (c : Nat) (s : Bytes) : Option Nat := lastIndexAux c s 0 none

structure IPO where
  ip : Bytes
  port : Bytes
  deriving DecidableEq, Repr

/-- `getIPPORT`; `none` = the recovered slice panic (no ':' and no '.') -/
def getIPPORT (addr : Bytes) : Option IPO :=
  match lastIndex 58 addr with
  | some x => some ⟨addr.take x, addr.drop (x + 1)⟩
  | none =>
    match lastIndex 46 addr with
    | some x => some ⟨addr.take x, addr.drop (x + 1)⟩
    | none => none

def IPO.isIPv6 (o : IPO) : Bool := !o.ip.isEmpty && o.ip.contains 58
/-- "127.0.0.1" -/
def lit127 : Bytes := [49, 50, 55, 46, 48, 46, 48, 46, 49]
def IPO.isLocal127 (o : IPO) : Bool := o.ip == lit127
/-- "*", "0.0.0.0", "::" -/
def isWild (ip : Bytes) : Bool := ip == [42] || ip == [48, 46, 48, 46, 48, 46, 48] || ip == [58, 58]

/-! ### `net.LookupIP` on a dotted quad (netip.parseIPv4) -/

/-- fields between '.' (a trailing '.' gives a trailing empty field) -/
def splitDots : Bytes → Bytes → List Bytes
  | [], cur => [cur.reverse]
  | b :: r, cur => if b = 46 then cur.reverse :: splitDots r [] else splitDots r (b :: cur)

/-- one octet: 1..3 digits, no leading zero unless the field is "0", value ≤ 255 -/
def octet (f : Bytes) : Option Nat :=
  if f.isEmpty then none
  else if !f.all (fun b => 48 ≤ b && b ≤ 57) then none
  else if f.length > 1 && f.head? == some 48 then none
  else if f.length > 3 then none
  else
    let v := f.foldl (fun a b => a * 10 + (b - 48)) 0
    if v > 255 then none else some v

def parseV4 (s : Bytes) : Option Bytes :=
  match splitDots s [] with
  | [a, b, c, d] =>
    match octet a, octet b, octet c, octet d with
    | some a, some b, some c, some d => some [a, b, c, d]
    | _, _, _, _ => none
  | _ => none

/-- what `net.LookupIP` answered, as far as CreateLINK looks at it -/
inductive Look
  | err                 -- lookup error
  | v4 (ip : Bytes)     -- first address has a 4-byte form
  | other               -- first address is IPv6 only: `copy(k.IP, nil)` copies nothing
  deriving DecidableEq, Repr

/-- the resolver for everything that is not a dotted quad: a parameter of the model -/
abbrev Ext := Bytes → Look

def lookup (ext : Ext) (s : Bytes) : Look :=
  match parseV4 s with
  | some ip => .v4 ip
  | none => ext s

def zeroIP : Bytes := [0, 0, 0, 0]

/-- `CreateLINK(ipStr, port)`; never nil -/
def createLINK (ext : Ext) (ipStr : Bytes) (port : Int) : LINK :=
  match lookup ext ipStr with
  | .err => ⟨zeroIP, 0⟩
  | .v4 ip => ⟨ip, port⟩
  | .other => ⟨zeroIP, port⟩

/-- `int(castutil.CInt(portString))` -/
def portOf (p : Bytes) : Int := Ext.Cast.cInt (.str p)

/-! ### NODE -/

/-- `LinkedSet.Put` on the insertion-ordered list: a key that is there stays where it is -/
def putSet (s : List LINK) (k : LINK) : List LINK := if s.contains k then s else s ++ [k]
def putAll (s : List LINK) (ks : List LINK) : List LINK := ks.foldl putSet s

structure NODE where
  attr : List (Bytes × Value)
  listen : List LINK
  outter : List LINK
  deriving Repr

def NODE.empty : NODE := ⟨[], [], []⟩

/-- the links one `AddListen(localIpSet, addr)` puts, in order -/
def listenLinks (ext : Ext) (locals : List Bytes) (addr : Bytes) : List LINK :=
  match getIPPORT addr with
  | none => []
  | some o =>
    if o.isLocal127 then []
    else if isWild o.ip then locals.map (fun l => createLINK ext l (portOf o.port))
    else [createLINK ext o.ip (portOf o.port)]

def addListen (ext : Ext) (n : NODE) (locals : List Bytes) (addr : Bytes) : NODE :=
  { n with listen := putAll n.listen (listenLinks ext locals addr) }

/-- `hasListen(ip, port)` as written: `k := CreateLINK(..); if k != nil { return false } else { … }` -/
def hasListen (_ext : Ext) (_n : NODE) (_ip _port : Bytes) : Bool := false

/-- what the name says (the else branch, reached when CreateLINK succeeds) -/
def hasListenSpec (ext : Ext) (n : NODE) (ip port : Bytes) : Bool :=
  n.listen.contains (createLINK ext ip (portOf port))

/-- the links one `AddOutter(local, remote)` puts (none or one) -/
def outerLinks (ext : Ext) (n : NODE) (loc remote : Bytes) : List LINK :=
  match getIPPORT loc with
  | none => []
  | some l =>
    if l.isIPv6 then []
    else if hasListen ext n l.ip l.port then []
    else
      match getIPPORT remote with
      | none => []
      | some r =>
        if r.isIPv6 || r.isLocal127 then []
        else [createLINK ext r.ip (portOf r.port)]

def addOutter (ext : Ext) (n : NODE) (loc remote : Bytes) : NODE :=
  { n with outter := putAll n.outter (outerLinks ext n loc remote) }

def isAttachable (n : NODE) (k : LINK) : Bool := n.listen.any (fun l => LINK.includes l k)

/-! ### the byte codec -/

def encLinkList : List LINK → Bytes
  | [] => []
  | k :: ks => LINK.toBytes k ++ encLinkList ks

/-- `toLinkBytes` -/
def encLinks (ks : List LINK) : Bytes := encDecimal ks.length ++ encLinkList ks

/-- everything after the version byte and the type byte -/
def body (n : NODE) : Bytes :=
  encDecimal n.attr.length ++ Value.encKVs n.attr ++ encLinks n.listen ++ encLinks n.outter

/-- `ToBytes`: ver 0, `Attr.GetValueType()` = 80, `Attr.Write`, listen, outter -/
def toBytes (n : NODE) : Bytes := 0 :: 80 :: body n

/-- the loop of `toLinkObject`: `data.Put(NewLINK().ToObject(in))` count times -/
def decLinkList : Nat → List LINK → Bytes → Option (List LINK × Bytes)
  | 0, acc, r => some (acc, r)
  | c + 1, acc, r =>
    match P.run LINK.toObject r with
    | none => none
    | some (k, r') => decLinkList c (putSet acc k) r'

/-- `toLinkObject` (a count ≤ 0 reads nothing) -/
def decLinks (bs : Bytes) : Option (List LINK × Bytes) :=
  match P.run decDecimal bs with
  | none => none
  | some (c, r) => decLinkList c.toNat [] r

/-- `ToObject` after its `in.ReadByte()`: `mv.Read(in)` (NOT ReadValue: no type byte is consumed), listen, outter -/
def readBody (bs : Bytes) : Option (NODE × Bytes) :=
  match P.run decDecimal bs with
  | none => none
  | some (c, r) =>
    match Value.decKVs (r.length + 1) c.toNat [] r with
    | none => none
    | some (attr, r1) =>
      match decLinks r1 with
      | none => none
      | some (ls, r2) =>
        match decLinks r2 with
        | none => none
        | some (os, r3) => some (⟨attr, ls, os⟩, r3)

/-- `ToObject(b)`; `none` = it panics (the NODE is then partly overwritten) -/
def toObject : Bytes → Option (NODE × Bytes)
  | [] => none
  | _ver :: r => readBody r

/-! ### histories -/

inductive Op
  | listen (locals : List Bytes) (addr : Bytes)
  | outer (loc remote : Bytes)
  deriving Repr

def step (ext : Ext) (n : NODE) : Op → NODE
  | .listen locals addr => addListen ext n locals addr
  | .outer l r => addOutter ext n l r

def run (ext : Ext) (n : NODE) (ops : List Op) : NODE := ops.foldl (step ext) n

/-- what an op contributes to each set -/
def Op.listenPart (ext : Ext) : Op → List LINK
  | .listen locals addr => listenLinks ext locals addr
  | .outer _ _ => []
def Op.outerPart (ext : Ext) : Op → List LINK
  | .listen _ _ => []
  | .outer l r => outerLinks ext NODE.empty l r

end Ext.Topo
