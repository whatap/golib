/-
  Golib.Ext.ShellUrlLemmas — the table laws behind ShellArg and the splitter laws behind URL.
  (proof file; not imported by the driver)
-/
import Golib.Ext.ShellArg
import Golib.Ext.UrlUtil

namespace Ext.ShellArg
open Ext.Str

theorem get_put_same (t : Tab) (k v : Bytes) : get (put t k v) k = some v := by
  fun_induction put t k v <;> simp_all [get]

theorem get_put_other (t : Tab) (k k' v : Bytes) (h : k ≠ k') : get (put t k v) k' = get t k' := by
  fun_induction put t k v <;> simp_all [get]

theorem get_append (t u : Tab) (k : Bytes) :
    get (t ++ u) k = match get t k with | some v => some v | none => get u k := by
  induction t with
  | nil => simp [get]
  | cons e t ih =>
    obtain ⟨a, b⟩ := e
    simp only [List.cons_append, get]
    by_cases h : a = k <;> simp [h, ih]

/-- the value of a key after a sequence of `Put`s is the one of the LAST `Put` of that key -/
theorem get_foldl_put : ∀ (gs : List (Bytes × Bytes)) (t0 : Tab) (k : Bytes),
    get (gs.foldl (fun t g => put t g.1 g.2) t0) k =
      match get gs.reverse k with | some v => some v | none => get t0 k
  | [], t0, k => by simp [get]
  | g :: gs, t0, k => by
    simp only [List.foldl_cons, List.reverse_cons]
    rw [get_foldl_put gs (put t0 g.1 g.2) k, get_append]
    cases h : get gs.reverse k with
    | some v => simp
    | none =>
      simp only [get]
      by_cases hk : g.1 = k
      · subst hk; simp [get_put_same]
      · simp [hk, get_put_other t0 g.1 k g.2 hk]

theorem addTag_param (s : SA) (a : Bytes) : (addTag s a).param = s.param := by
  unfold addTag; split <;> rfl

theorem apply_param (s : SA) (g : Bytes × Bytes × Option Bytes) : (apply s g).param = put s.param g.1 g.2.1 := by
  unfold apply
  cases g.2.2 <;> simp [addTag_param]

theorem foldl_apply_param : ∀ (gs : List (Bytes × Bytes × Option Bytes)) (s : SA),
    (gs.foldl apply s).param = (gs.map (fun g => (g.1, g.2.1))).foldl (fun t g => put t g.1 g.2) s.param
  | [], s => rfl
  | g :: gs, s => by
    simp only [List.foldl_cons, List.map_cons]
    rw [foldl_apply_param gs (apply s g), apply_param]

/-- the argv of options `k v*` -/
def render : List (Bytes × List Bytes) → List Bytes
  | [] => []
  | (k, vs) :: r => k :: (vs ++ render r)

def WF (gs : List (Bytes × List Bytes)) : Prop :=
  ∀ g ∈ gs, isVal g.1 = false ∧ g.2.length ≤ 2 ∧ ∀ v ∈ g.2, isVal v = true

theorem group_wf (k : Bytes) (vs rest : List Bytes) (hl : vs.length ≤ 2) (hv : ∀ v ∈ vs, isVal v = true)
    (hr : ∀ w r, rest = w :: r → isVal w = false) :
    group (k :: (vs ++ rest)) = some (k, vs.headD [], vs[1]?, 1 + vs.length) := by
  match vs, hl, hv with
  | [], _, _ =>
    cases rest with
    | nil => simp [group]
    | cons w r => simp [group, hr w r rfl]
  | [v], _, hv =>
    have h1 : isVal v = true := hv v (by simp)
    cases rest with
    | nil => simp [group, h1]
    | cons w r => simp [group, h1, hr w r rfl]
  | [v, v2], _, hv =>
    have h1 : isVal v = true := hv v (by simp)
    have h2 : isVal v2 = true := hv v2 (by simp)
    simp [group, h1, h2]
  | _ :: _ :: _ :: _, hl, _ => simp at hl

theorem render_head (gs : List (Bytes × List Bytes)) (h : WF gs) : ∀ w r, render gs = w :: r → isVal w = false := by
  intro w r e
  cases gs with
  | nil => simp [render] at e
  | cons g gs =>
    obtain ⟨k, vs⟩ := g
    simp only [render, List.cons.injEq] at e
    rw [← e.1]
    exact (h (k, vs) (by simp)).1

/-- argv made of options (each key starts with `-`, each of its ≤ 2 values does not) is cut into exactly
    those options -/
theorem groups_wf : ∀ (gs : List (Bytes × List Bytes)) (f : Nat), WF gs → (render gs).length ≤ f →
    groups f (render gs) = gs.map (fun g => (g.1, g.2.headD [], g.2[1]?))
  | [], f, _, _ => by cases f <;> simp [groups, render, group]
  | (k, vs) :: gs, f, h, hf => by
    have hg := h (k, vs) (by simp)
    have hrest : WF gs := fun g hg' => h g (by simp [hg'])
    cases f with
    | zero => simp [render] at hf
    | succ f =>
      unfold groups
      simp only [render]
      rw [group_wf k vs (render gs) hg.2.1 hg.2.2 (render_head gs hrest)]
      simp only [List.map_cons]
      have e : (k :: (vs ++ render gs)).drop (1 + vs.length) = render gs := by
        rw [Nat.add_comm]; simp
      rw [e, groups_wf gs f hrest (by simp [render] at hf; omega)]

end Ext.ShellArg

namespace Ext.Url
open Ext.Str

theorem splitQ_some (pre q : Bytes) (h : 63 ∉ pre) : splitQ (pre ++ 63 :: q) = (q, pre) := by
  unfold splitQ
  rw [indexOf_byte_fresh 63 pre q h]
  simp

theorem splitQ_none (pre : Bytes) (h : 63 ∉ pre) : splitQ pre = ([], pre) := by
  unfold splitQ; rw [indexOf_absent 63 [] pre h]

theorem splitProto_some (proto rest : Bytes) (h : 58 ∉ proto) :
    splitProto (proto ++ 58 :: 47 :: 47 :: rest) = (proto, rest) := by
  unfold splitProto sepScheme
  have := indexOf_append_fresh 58 [47, 47] proto rest h
  simp only [List.append_assoc, List.cons_append, List.nil_append] at this
  rw [this]
  have e : proto.length + 3 = (proto ++ [58, 47, 47]).length := by simp
  simp only [List.take_left' rfl]
  rw [e]
  have e2 : proto ++ 58 :: 47 :: 47 :: rest = (proto ++ [58, 47, 47]) ++ rest := by simp
  rw [e2, List.drop_left' rfl]

theorem splitPath_some (hp p : Bytes) (h : 47 ∉ hp) : splitPath (hp ++ 47 :: p) = (hp, 47 :: p) := by
  unfold splitPath
  rw [indexOf_byte_fresh 47 hp p h]
  simp

theorem splitPath_none (hp : Bytes) (h : 47 ∉ hp) : splitPath hp = (hp, []) := by
  unfold splitPath; rw [indexOf_absent 47 [] hp h]

theorem parsePort_some (host p : Bytes) (h : 58 ∉ host) : parsePort (host ++ 58 :: p) = (host, p, true) := by
  unfold parsePort
  rw [indexOf_byte_fresh 58 host p h]
  simp

theorem parsePort_none (host : Bytes) (h : 58 ∉ host) : parsePort host = (host, [], false) := by
  unfold parsePort; rw [indexOf_absent 58 [] host h]

end Ext.Url
