/-
  Golib.Ext.SafeLoopLemmas — which operations of util/panicutil (Golib.Ext.SafeLoop, `Ext.Safe`) write the
  counter table `cyclecounts`: `Cycle` alone (`step_counts`), hence the table after any history (`run_counts`).
-/
import Golib.Ext.SafeLoop

namespace Ext.Safe

theorem safeForLoop_counts (nm : Name) (cb : Cb) (f : Nat) (s : State) (r : Nat) :
    (safeForLoop nm cb f s r).1.counts = s.counts := by
  -- the loop goes on where the callback returned (case4) or set AllOff (case6); every other branch leaves at once
  fun_induction safeForLoop nm cb f s r with
  | case4 _ _ _ _ _ _ ih | case6 _ _ _ _ _ _ ih => exact ih
  | _ => rfl

/-- only `Cycle` with an index inside the table writes a counter, and only its own -/
theorem step_counts (st : State) (op : Op) :
    (step st op).1.counts =
      match op with
      | .cycle j =>
        if 0 ≤ j ∧ j < MAX_COUNTERS then fun i => if i = j then st.counts j + 1 else st.counts i else st.counts
      | _ => st.counts := by
  cases op with
  | cycle j => simp only [step]; split <;> rfl
  | setMap m => rcases m with _ | _ | _ <;> rfl
  | setOnOff nm b => simp only [step]; cases st.lookup <;> rfl
  | safe nm cb =>
    simp only [step, safe]
    split
    · rfl
    · split
      · rfl
      · split <;> rfl
  | safeFor nm cb f => exact safeForLoop_counts nm cb f st 0
  | _ => rfl

/-- over any history a counter inside the table has grown by the number of `Cycle` calls with its index, and
    nothing outside the table is ever written -/
theorem run_counts (ops : List Op) : ∀ (st : State) (id : Int),
    (run st ops).1.counts id = st.counts id + if 0 ≤ id ∧ id < MAX_COUNTERS then cycles id ops else 0 := by
  induction ops with
  | nil => intro st id; simp [run, cycles]
  | cons op t ih =>
    intro st id
    simp only [run]
    rw [ih, step_counts]
    cases op with
    | cycle j =>
      simp only [cycles]
      by_cases e : j = id
      · subst e; split <;> simp; omega
      · have e' : ¬ id = j := fun x => e x.symm
        split <;> simp [e']
    | _ => simp only [cycles]

end Ext.Safe
