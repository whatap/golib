/-
  Golib.Ext.ParamTextLemmas — structure of the token list built by `NewParamTextBrace`.
  (proof file; not imported by the driver)
-/
import Golib.Ext.ParamText

namespace Ext.ParamText
open Ext.Str

theorem flatten_cons (sb eb : Bytes) (t : Tok) (ts : List Tok) :
    flatten sb eb (t :: ts) = t.src sb eb ++ flatten sb eb ts := by
  simp [flatten]

/-- an iteration that finishes emits the remaining text as one literal -/
theorem step_done {sb eb text : Bytes} {ts : List Tok} (h : step sb eb text = .done ts) : ts = [.lit text] := by
  unfold step at h
  split at h
  · cases h; rfl
  · dsimp only at h; split at h <;> cases h; rfl
  · cases h

/-- an iteration that goes on has cut one token off the front: nothing is lost or invented, and unless both braces
    are empty something is consumed -/
theorem step_more {sb eb text : Bytes} {t : Tok} {rest : Bytes} (h : step sb eb text = .more t rest) :
    t.src sb eb ++ rest = text ∧ (text ≠ [] → (sb ≠ [] ∨ eb ≠ []) → rest.length < text.length) := by
  unfold step at h
  split at h
  · cases h
  · rename_i h1
    have e1 := indexOf_some h1
    dsimp only at h
    split at h
    · cases h
    · rename_i n h2
      have e2 := indexOf_some h2
      cases h
      refine ⟨?_, fun _ hb => ?_⟩
      · simp only [List.take_zero, List.nil_append, Nat.zero_add] at e1
        simp only [Tok.src]
        rw [List.append_assoc, List.append_assoc]
        rw [List.append_assoc] at e2
        rw [← e2]; exact e1.symm
      · have l1 := congrArg List.length e1
        have l2 := congrArg List.length e2
        simp only [List.length_append, List.length_take, List.length_drop] at l1 l2 ⊢
        have : 0 < sb.length ∨ 0 < eb.length :=
          hb.imp List.length_pos_iff.mpr List.length_pos_iff.mpr
        omega
  · cases h
    refine ⟨List.take_append_drop _ _, fun hne _ => ?_⟩
    have := List.length_pos_iff.mpr hne
    simp only [List.length_drop]
    omega

theorem parseF_flatten (sb eb : Bytes) (f : Nat) (text : Bytes) (ts : List Tok)
    (h : parseF sb eb f text = some ts) : flatten sb eb ts = text := by
  fun_induction parseF sb eb f text generalizing ts with
  | case1 => cases h; rfl
  | case2 => cases h
  | case3 f c cs ts' hst => cases h; rw [step_done hst]; simp [flatten, Tok.src]
  | case4 f c cs t rest hst ih =>
    obtain ⟨ts', hr, rfl⟩ := Option.map_eq_some_iff.mp h
    rw [flatten_cons, ih ts' hr]; exact (step_more hst).1

theorem parseF_total (sb eb : Bytes) (hb : sb ≠ [] ∨ eb ≠ []) (f : Nat) (text : Bytes)
    (h : text.length < f) : (parseF sb eb f text).isSome := by
  fun_induction parseF sb eb f text with
  | case1 => rfl
  | case2 => simp at h
  | case3 => rfl
  | case4 f c cs t rest hst ih =>
    have := (step_more hst).2 (by simp) hb
    rw [Option.isSome_map]; exact ih (by simp only [List.length_cons] at h this; omega)

/-- with a non-empty brace every iteration consumes something, so any fuel above the length of the text gives
    the same token list -/
theorem parseF_enough (sb eb : Bytes) (hb : sb ≠ [] ∨ eb ≠ []) (f g : Nat) (text : Bytes)
    (hf : text.length < f) (hg : text.length < g) : parseF sb eb f text = parseF sb eb g text := by
  fun_induction parseF sb eb f text generalizing g with
  | case1 => simp [parseF]
  | case2 => simp at hf
  | case3 f c cs ts hst =>
    cases g with
    | zero => simp at hg
    | succ g => simp only [parseF, hst]
  | case4 f c cs t rest hst ih =>
    have := (step_more hst).2 (by simp) hb
    cases g with
    | zero => simp at hg
    | succ g =>
      simp only [List.length_cons] at hf hg this
      simp only [parseF, hst]
      rw [ih g (by omega) (by omega)]

/-- the constructor's loop as the Go code reads: one iteration, then the same on the rest of the text -/
theorem parse_cons (sb eb : Bytes) (hb : sb ≠ [] ∨ eb ≠ []) (c : Nat) (cs : Bytes) :
    parse sb eb (c :: cs) =
      match step sb eb (c :: cs) with
      | .done ts => some ts
      | .more t rest => (parse sb eb rest).map (t :: ·) := by
  rw [parse]
  simp only [parseF, List.length_cons]
  cases hst : step sb eb (c :: cs) with
  | done ts => rfl
  | more t rest =>
    have := (step_more hst).2 (by simp) hb
    simp only [List.length_cons] at this
    simp only
    rw [parse, parseF_enough sb eb hb _ (rest.length + 1) rest (by omega) (Nat.lt_succ_self _)]

/-- with both braces empty an iteration on a non-empty text emits a reference named "" and leaves the
    text as it was -/
theorem step_emptyBraces (text : Bytes) : step [] [] text = .more (.ref []) text := by
  unfold step
  simp [indexOf_nil_sep]

theorem parseF_emptyBraces (f : Nat) (c : Nat) (cs : Bytes) : parseF [] [] f (c :: cs) = none := by
  induction f with
  | zero => rfl
  | succ f ih => simp [parseF, step_emptyBraces, ih]

/-- `lit₁ sb name₁ eb lit₂ sb name₂ eb … tail` -/
def build (sb eb : Bytes) : List (Bytes × Bytes) → Bytes → Bytes
  | [], tail => tail
  | (l, n) :: r, tail => l ++ (sb ++ (n ++ (eb ++ build sb eb r tail)))

def litTok (l : Bytes) : List Tok := if l = [] then [] else [.lit l]

def expect : List (Bytes × Bytes) → Bytes → List Tok
  | [], tail => litTok tail
  | (l, n) :: r, tail => litTok l ++ .ref n :: expect r tail

theorem step_lit (c : Nat) (t : Bytes) (eb : Bytes) (x : Nat) (l : Bytes) (hl : c ∉ x :: l) (rest : Bytes) :
    step (c :: t) eb ((x :: l) ++ ((c :: t) ++ rest)) = .more (.lit (x :: l)) ((c :: t) ++ rest) := by
  unfold step
  have h := indexOf_append_fresh c t (x :: l) rest hl
  rw [List.append_assoc] at h
  rw [h]
  simp only [List.length_cons]
  rw [List.take_left' (by simp), List.drop_left' (by simp)]

theorem step_ref (c : Nat) (t : Bytes) (d : Nat) (u : Bytes) (n : Bytes) (hn : d ∉ n) (rest : Bytes) :
    step (c :: t) (d :: u) ((c :: t) ++ (n ++ ((d :: u) ++ rest))) = .more (.ref n) rest := by
  unfold step
  have h0 : indexOf (c :: t) ((c :: t) ++ (n ++ ((d :: u) ++ rest))) = some 0 := by
    have := indexOf_append_fresh c t [] (n ++ ((d :: u) ++ rest)) (by simp)
    simpa using this
  rw [h0]
  simp only
  rw [List.drop_left' rfl]
  have h := indexOf_append_fresh d u n rest hn
  rw [List.append_assoc] at h
  rw [h]
  simp only
  have e : n.length + (d :: u).length = (n ++ (d :: u)).length := by simp
  rw [List.take_left' rfl, e, ← List.append_assoc, List.drop_left' rfl]

theorem step_tail (c : Nat) (t : Bytes) (eb : Bytes) (tail : Bytes) (h : c ∉ tail) :
    step (c :: t) eb tail = .done [.lit tail] := by
  unfold step
  rw [indexOf_absent c t tail h]

end Ext.ParamText
