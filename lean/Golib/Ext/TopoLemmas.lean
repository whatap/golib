/-
  Golib.Ext.TopoLemmas — lemmas about the NODE model (Golib.Ext.Topo): its `LastIndex` is the one of Ext.Str, the sets as
  insertion-ordered duplicate-free lists, histories of AddListen / AddOutter, well-formedness of every link the code can create, the byte round trip.
-/
import Golib.Ext.Topo
import Golib.Ext.KeysLemmas
import Golib.Value.Facts

namespace Ext.Topo
open Prim Ext.Keys

/-- the one-pass `LastIndex` with its running index is the recursive `Ext.Str.lastIndexB` -/
theorem lastIndexAux_eq (c : Nat) : ∀ (s : Bytes) (i : Nat) (acc : Option Nat),
    lastIndexAux c s i acc = match Ext.Str.lastIndexB c s with | some p => some (i + p) | none => acc
  | [], _, _ => rfl
  | b :: r, i, acc => by
    rw [lastIndexAux, lastIndexAux_eq c r, Ext.Str.lastIndexB]
    cases Ext.Str.lastIndexB c r with
    | some p => exact congrArg some (by rw [Nat.add_assoc, Nat.add_comm 1 p])
    | none => simp only; split <;> rfl

theorem lastIndex_eq (c : Nat) (s : Bytes) : lastIndex c s = Ext.Str.lastIndexB c s := by
  rw [lastIndex, lastIndexAux_eq]; cases Ext.Str.lastIndexB c s <;> simp

theorem mem_putSet (s : List LINK) (k x : LINK) : x ∈ putSet s k ↔ x ∈ s ∨ x = k := by
  unfold putSet
  split
  · rename_i h
    have hk : k ∈ s := by simpa using h
    constructor
    · intro hx; exact Or.inl hx
    · rintro (hx | hx)
      · exact hx
      · exact hx ▸ hk
  · simp

theorem nodup_putSet (s : List LINK) (k : LINK) (h : s.Nodup) : (putSet s k).Nodup := by
  unfold putSet
  split
  · exact h
  · rename_i hc
    have hk : k ∉ s := by simpa using hc
    rw [List.nodup_append]
    refine ⟨h, by simp, ?_⟩
    intro a ha b hb
    simp at hb
    subst hb
    intro e; exact hk (e ▸ ha)

theorem mem_putAll (ks : List LINK) : ∀ (s : List LINK) (x : LINK), x ∈ putAll s ks ↔ x ∈ s ∨ x ∈ ks := by
  induction ks with
  | nil => intro s x; simp [putAll]
  | cons k t ih =>
    intro s x
    show x ∈ putAll (putSet s k) t ↔ _
    rw [ih, mem_putSet]
    simp only [List.mem_cons]
    constructor
    · rintro ((h | h) | h)
      · exact Or.inl h
      · exact Or.inr (Or.inl h)
      · exact Or.inr (Or.inr h)
    · rintro (h | h | h)
      · exact Or.inl (Or.inl h)
      · exact Or.inl (Or.inr h)
      · exact Or.inr h

theorem nodup_putAll (ks : List LINK) : ∀ (s : List LINK), s.Nodup → (putAll s ks).Nodup := by
  induction ks with
  | nil => intro s h; exact h
  | cons k t ih => intro s h; exact ih _ (nodup_putSet s k h)

theorem putAll_append (s a b : List LINK) : putAll s (a ++ b) = putAll (putAll s a) b := by
  unfold putAll; rw [List.foldl_append]

/-- a key that is already there changes nothing; the first occurrence fixes the position -/
theorem putSet_of_mem (s : List LINK) (k : LINK) (h : k ∈ s) : putSet s k = s := by
  unfold putSet; simp [h]

theorem putSet_of_not_mem (s : List LINK) (k : LINK) (h : k ∉ s) : putSet s k = s ++ [k] := by
  unfold putSet; simp [h]

/-- new distinct keys are appended in order -/
theorem putAll_fresh (ks : List LINK) : ∀ (s : List LINK), (s ++ ks).Nodup → putAll s ks = s ++ ks := by
  induction ks with
  | nil => intro s _; simp [putAll]
  | cons k t ih =>
    intro s h
    have hk : k ∉ s := by
      intro hm
      rw [List.nodup_append] at h
      exact h.2.2 k hm k (by simp) rfl
    show putAll (putSet s k) t = _
    rw [putSet_of_not_mem s k hk, ih (s ++ [k]) (by simpa using h)]
    simp

/-- putting keys that are all there already changes nothing -/
theorem putAll_of_subset (ks : List LINK) : ∀ (s : List LINK), (∀ k ∈ ks, k ∈ s) → putAll s ks = s := by
  induction ks with
  | nil => intro s _; rfl
  | cons k t ih =>
    intro s h
    show putAll (putSet s k) t = s
    rw [putSet_of_mem s k (h k (by simp)), ih s (fun x hx => h x (by simp [hx]))]

/-- a call repeated leaves the set as it is, order included -/
theorem addListen_idem (ext : Ext) (n : NODE) (locals : List Bytes) (addr : Bytes) :
    (addListen ext (addListen ext n locals addr) locals addr).listen = (addListen ext n locals addr).listen :=
  putAll_of_subset _ _ fun _ hk => (mem_putAll _ _ _).mpr (.inr hk)

theorem outerLinks_state_free (ext : Ext) (n m : NODE) (l r : Bytes) : outerLinks ext n l r = outerLinks ext m l r := rfl

theorem step_attr (ext : Ext) (n : NODE) (op : Op) : (step ext n op).attr = n.attr := by
  cases op <;> rfl

theorem step_listen (ext : Ext) (n : NODE) (op : Op) :
    (step ext n op).listen = putAll n.listen (op.listenPart ext) := by
  cases op <;> rfl

theorem step_outter (ext : Ext) (n : NODE) (op : Op) :
    (step ext n op).outter = putAll n.outter (op.outerPart ext) := by
  cases op <;> rfl

theorem run_attr (ext : Ext) (ops : List Op) : ∀ n, (run ext n ops).attr = n.attr := by
  induction ops with
  | nil => intro n; rfl
  | cons op t ih => intro n; show (run ext (step ext n op) t).attr = _; rw [ih, step_attr]

theorem run_listen (ext : Ext) (ops : List Op) : ∀ n,
    (run ext n ops).listen = putAll n.listen (ops.flatMap (Op.listenPart ext)) := by
  induction ops with
  | nil => intro n; rfl
  | cons op t ih =>
    intro n
    show (run ext (step ext n op) t).listen = _
    rw [ih, step_listen, List.flatMap_cons, putAll_append]

theorem run_outter (ext : Ext) (ops : List Op) : ∀ n,
    (run ext n ops).outter = putAll n.outter (ops.flatMap (Op.outerPart ext)) := by
  induction ops with
  | nil => intro n; rfl
  | cons op t ih =>
    intro n
    show (run ext (step ext n op) t).outter = _
    rw [ih, step_outter, List.flatMap_cons, putAll_append]

/-- the resolver parameter answers 4 bytes when it answers an IPv4 address (`val.To4()`) -/
def ExtOK (ext : Ext) : Prop := ∀ s ip, ext s = .v4 ip → ip.length = 4 ∧ WFB ip

/-- a link as `CreateLINK` builds it: 4 address bytes, an int32 port -/
def LinkOK (k : LINK) : Prop := k.ip.length = 4 ∧ WFB k.ip ∧ I32 k.port

theorem octet_lt (f : Bytes) (v : Nat) (h : octet f = some v) : v < 256 := by
  simp only [octet, Option.ite_none_left_eq_some, Option.some.injEq] at h
  omega

theorem parseV4_ok (s ip : Bytes) (h : parseV4 s = some ip) : ip.length = 4 ∧ WFB ip := by
  unfold parseV4 at h
  split at h
  · split at h
    · rename_i a b c d a' b' c' d' ha hb hc hd
      simp at h
      subst h
      refine ⟨rfl, ?_⟩
      have := octet_lt _ _ ha; have := octet_lt _ _ hb; have := octet_lt _ _ hc; have := octet_lt _ _ hd
      intro x hx
      simp at hx
      omega
    · exact absurd h (by simp)
  · exact absurd h (by simp)

theorem wrap32_I32 (v : Int) : I32 (Hash.wrap32 v) := by
  unfold Hash.wrap32 I32; omega

theorem portOf_I32 (p : Bytes) : I32 (portOf p) := by
  unfold portOf
  rw [show Ext.Cast.cInt (.str p) = if (Ext.Str.atoi p).2 then Hash.wrap32 (Ext.Str.atoi p).1 else 0 from rfl]
  split
  · exact wrap32_I32 _
  · unfold I32; omega

theorem zero_ok : zeroIP.length = 4 ∧ WFB zeroIP := by decide

theorem createLINK_ok (ext : Ext) (hx : ExtOK ext) (s : Bytes) (p : Int) (hp : I32 p) : LinkOK (createLINK ext s p) := by
  unfold createLINK lookup
  split
  · exact ⟨zero_ok.1, zero_ok.2, by show I32 0; unfold I32; omega⟩
  · rename_i ip h
    split at h
    · rename_i ip' h4
      simp at h; subst h
      exact ⟨(parseV4_ok _ _ h4).1, (parseV4_ok _ _ h4).2, hp⟩
    · exact ⟨(hx _ _ h).1, (hx _ _ h).2, hp⟩
  · exact ⟨zero_ok.1, zero_ok.2, hp⟩

theorem listenLinks_ok (ext : Ext) (hx : ExtOK ext) (locals : List Bytes) (addr : Bytes) :
    ∀ k ∈ listenLinks ext locals addr, LinkOK k := by
  intro k hk
  unfold listenLinks at hk
  split at hk
  · simp at hk
  · split at hk
    · simp at hk
    · split at hk
      · simp only [List.mem_map] at hk
        obtain ⟨l, _, rfl⟩ := hk
        exact createLINK_ok ext hx _ _ (portOf_I32 _)
      · simp at hk; subst hk
        exact createLINK_ok ext hx _ _ (portOf_I32 _)

theorem outerLinks_ok (ext : Ext) (hx : ExtOK ext) (n : NODE) (l r : Bytes) :
    ∀ k ∈ outerLinks ext n l r, LinkOK k := by
  intro k hk
  unfold outerLinks at hk
  split at hk
  · simp at hk
  split at hk
  · simp at hk
  split at hk
  · simp at hk
  split at hk
  · simp at hk
  split at hk
  · simp at hk
  · simp only [List.mem_singleton] at hk; subst hk; exact createLINK_ok ext hx _ _ (portOf_I32 _)

/-- a well-formed NODE: what `NewNODE` + Attr puts + AddListen/AddOutter can reach and the stream can carry -/
structure NodeOK (n : NODE) : Prop where
  attrWF : Value.WFKVs n.attr
  attrNodup : (n.attr.map (·.1)).Nodup
  listenOK : ∀ k ∈ n.listen, LinkOK k
  outterOK : ∀ k ∈ n.outter, LinkOK k
  listenNodup : n.listen.Nodup
  outterNodup : n.outter.Nodup

theorem Op.parts_ok (ext : Ext) (hx : ExtOK ext) (op : Op) :
    (∀ k ∈ op.listenPart ext, LinkOK k) ∧ (∀ k ∈ op.outerPart ext, LinkOK k) := by
  cases op with
  | listen ls a => exact ⟨listenLinks_ok ext hx ls a, fun _ h => (nomatch h)⟩
  | outer l r => exact ⟨fun _ h => (nomatch h), outerLinks_ok ext hx NODE.empty l r⟩

theorem decLinkList_enc (ks : List LINK) : ∀ (acc : List LINK) (r : Bytes), (∀ k ∈ ks, LinkOK k) → (acc ++ ks).Nodup →
    decLinkList ks.length acc (encLinkList ks ++ r) = some (acc ++ ks, r) := by
  induction ks with
  | nil => intro acc r _ _; simp [decLinkList, encLinkList]
  | cons k t ih =>
    intro acc r hok hn
    have hk : k ∉ acc := by
      intro hm
      rw [List.nodup_append] at hn
      exact hn.2.2 k hm k (by simp) rfl
    simp only [List.length_cons, decLinkList, encLinkList, List.append_assoc]
    rw [link_roundtrip k _ (by have := (hok k (by simp)).1; omega) (hok k (by simp)).2.2]
    simp only
    rw [putSet_of_not_mem acc k hk, ih (acc ++ [k]) r (fun x hx => hok x (by simp [hx])) (by simpa using hn)]
    simp

theorem decLinks_enc (ks : List LINK) (r : Bytes) (hok : ∀ k ∈ ks, LinkOK k) (hn : ks.Nodup)
    (hl : ks.length ≤ 9223372036854775807) : decLinks (encLinks ks ++ r) = some (ks, r) := by
  unfold decLinks encLinks
  rw [List.append_assoc, run_decDecimal (ks.length : Int) _ (by rw [inRange_8]; omega)]
  simp only [Int.toNat_natCast]
  simpa using decLinkList_enc ks [] r hok (by simpa using hn)

end Ext.Topo
