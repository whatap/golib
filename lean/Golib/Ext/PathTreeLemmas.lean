/-
  Golib.Ext.PathTreeLemmas — the first-child / next-sibling trie of `Golib.Ext.PathTree` refines the
  abstract association (`Log`, `specFind`, `absStep`).
-/
import Golib.Ext.PathTree

namespace Ext.PathTree

variable {V : Type}

/-- some sibling of the chain is named `n` -/
def has1 : Tree V → Seg → Bool
  | .nil, _ => false
  | .node name _ _ right, n => if n = name then true else has1 right n

/-- child chain of the first sibling named `n` -/
def sub : Tree V → Seg → Tree V
  | .nil, _ => .nil
  | .node name _ child right, n => if n = name then child else sub right n

/-- value stored under exactly the path `n :: rest` -/
def lookup : Tree V → Seg → Path → Option V
  | .nil, _, _ => none
  | .node name val _ right, n, [] => if n = name then val else lookup right n []
  | .node name _ child right, n, m :: r => if n = name then lookup child m r else lookup right n (m :: r)

/-- the ENTRY reached by exactly the path `n :: rest` exists -/
def hasNode : Tree V → Seg → Path → Bool
  | .nil, _, _ => false
  | .node name _ _ right, n, [] => if n = name then true else hasNode right n []
  | .node name _ child right, n, m :: r => if n = name then hasNode child m r else hasNode right n (m :: r)

/-- sibling names pairwise distinct, `*` only as the last sibling; recursively -/
def WF : Tree V → Prop
  | .nil => True
  | .node name _ child right =>
      has1 right name = false ∧ (name = "*" → right = .nil) ∧ WF child ∧ WF right

/-- the ENTRY reached by exactly the path `n :: rest`, as its value field; `lookup` and `hasNode` both read it -/
def at? : Tree V → Seg → Path → Option (Option V)
  | .nil, _, _ => none
  | .node name val _ right, n, [] => if n = name then some val else at? right n []
  | .node name _ child right, n, m :: r => if n = name then at? child m r else at? right n (m :: r)

theorem lookup_eq (t : Tree V) : ∀ (n : Seg) (rest : Path), lookup t n rest = (at? t n rest).join := by
  induction t with
  | nil => intro n rest; cases rest <;> rfl
  | node name val c r ihc ihr =>
    intro n rest
    cases rest <;> simp only [lookup, at?, ihc, ihr] <;> split <;> rfl

theorem hasNode_eq (t : Tree V) : ∀ (n : Seg) (rest : Path), hasNode t n rest = (at? t n rest).isSome := by
  induction t with
  | nil => intro n rest; cases rest <;> rfl
  | node name val c r ihc ihr =>
    intro n rest
    cases rest <;> simp only [hasNode, at?, ihc, ihr] <;> split <;> rfl

theorem hasNode_nil_path (t : Tree V) (n : Seg) : hasNode t n [] = has1 t n := by
  induction t with
  | nil => rfl
  | node name val c r _ ihr => simp only [hasNode, has1, ihr]

theorem hasNode_cons (t : Tree V) (n m : Seg) (r : Path) :
    hasNode t n (m :: r) = hasNode (sub t n) m r := by
  induction t with
  | nil => simp [hasNode, sub]
  | node name val c rt _ ihr => simp only [hasNode, sub, ihr]; split <;> rfl

theorem lookup_cons (t : Tree V) (n m : Seg) (r : Path) :
    lookup t n (m :: r) = lookup (sub t n) m r := by
  induction t with
  | nil => simp [lookup, sub]
  | node name val c rt _ ihr => simp only [lookup, sub, ihr]; split <;> rfl

theorem at?_of_has1_false {t : Tree V} {n : Seg} (h : has1 t n = false) (rest : Path) : at? t n rest = none := by
  induction t with
  | nil => cases rest <;> rfl
  | node name val c r _ ihr =>
    simp only [has1] at h
    by_cases hn : n = name
    · simp [hn] at h
    · simp only [hn, if_false] at h
      cases rest <;> simp [at?, hn, ihr h]

theorem lookup_of_has1_false {t : Tree V} {n : Seg} (h : has1 t n = false) (rest : Path) :
    lookup t n rest = none := by
  rw [lookup_eq, at?_of_has1_false h]; rfl

theorem WF_sub {t : Tree V} (h : WF t) (n : Seg) : WF (sub t n) := by
  induction t with
  | nil => trivial
  | node name val c r _ ihr =>
    simp only [WF] at h
    simp only [sub]
    split
    · exact h.2.2.1
    · exact ihr h.2.2.2

theorem has1_chain (n : Seg) (rest : Path) (v : V) (right : Tree V) (n' : Seg) :
    has1 (chain n rest v right) n' = if n' = n then true else has1 right n' := by
  cases rest <;> simp [chain, has1]

/-- a fresh chain holds `v` at its end and empty ENTRYs on the way -/
theorem at?_chain (rest : Path) : ∀ (n : Seg) (v : V) (right : Tree V) (n' : Seg) (rest' : Path),
    at? (chain n rest v right) n' rest' =
      if n' = n then
        (if rest' = rest then some (some v) else if rest'.isPrefixOf rest then some none else none)
      else at? right n' rest' := by
  induction rest with
  | nil =>
    intro n v right n' rest'
    cases rest' <;> simp [chain, at?]
  | cons m r ih =>
    intro n v right n' rest'
    cases rest' with
    | nil => simp [chain, at?]
    | cons m' r' =>
      simp only [chain, at?, ih]
      by_cases h1 : n' = n <;> by_cases h2 : m' = m <;> simp [h1, h2, List.isPrefixOf]

theorem nodes_chain (rest : Path) : ∀ (n : Seg) (v : V) (right : Tree V),
    (chain n rest v right).nodes = 1 + rest.length + right.nodes := by
  induction rest with
  | nil => intro n v right; simp [chain, Tree.nodes]
  | cons m r ih => intro n v right; simp only [chain, Tree.nodes, ih, List.length_cons]; omega

theorem WF_chain (rest : Path) : ∀ (n : Seg) (v : V) (right : Tree V),
    has1 right n = false → (n = "*" → right = .nil) → WF right → WF (chain n rest v right) := by
  induction rest with
  | nil => intro n v right h1 h2 h3; exact ⟨h1, h2, trivial, h3⟩
  | cons m r ih =>
    intro n v right h1 h2 h3
    exact ⟨h1, h2, ih m v .nil rfl (fun _ => rfl) trivial, h3⟩

/-! ### `insSib` as an in-place update `upd` plus the caller's prepend -/

/-- in-place part of `insert`: the walk along the sibling chain that ends at the sibling named `n`, or appends a
    new one at the right end -/
def upd : Tree V → Seg → Path → V → Tree V × Option V × Nat
  | .nil, n, rest, v => (chain n rest v .nil, none, 1 + rest.length)
  | .node name val child right, n, rest, v =>
    if n = name then
      match rest with
      | [] => (.node name (some v) child right, val, 0)
      | m :: r =>
        if child.isNil then (.node name val (chain m r v .nil) right, none, r.length)
        else if (has1 child m || m == "*") = true then
          (.node name val (upd child m r v).1 right, (upd child m r v).2.1, (upd child m r v).2.2)
        else (.node name val (chain m r v child) right, none, 1 + r.length)
    else
      (.node name val child (upd right n rest v).1, (upd right n rest v).2.1, (upd right n rest v).2.2)

theorem insSib_eq (t : Tree V) : ∀ (n : Seg) (rest : Path) (v : V),
    insSib t n rest v = if (has1 t n || n == "*") = true then some (upd t n rest v) else none := by
  induction t with
  | nil => intro n rest v; simp [insSib, upd, has1]
  | node name val child right ihc ihr =>
    intro n rest v
    by_cases hn : n = name
    · subst hn
      cases rest with
      | nil => simp [insSib, upd, has1]
      | cons m r =>
        by_cases hc : child.isNil = true
        · simp [insSib, upd, has1, hc]
        · by_cases hb : (has1 child m || m == "*") = true
          · simp [insSib, upd, has1, hc, ihc m r v, hb]
          · simp [insSib, upd, has1, hc, ihc m r v, hb]
    · by_cases hb : (has1 right n || n == "*") = true
      · simp [insSib, upd, has1, hn, ihr n rest v, hb]
      · simp [insSib, has1, hn, ihr n rest v, hb]

/-- what every caller of `insSib` makes of its result -/
def ins (t : Tree V) (n : Seg) (rest : Path) (v : V) : Tree V × Option V × Nat :=
  if (has1 t n || n == "*") = true then upd t n rest v else (chain n rest v t, none, 1 + rest.length)

theorem ins_eq (t : Tree V) (n : Seg) (rest : Path) (v : V) :
    ins t n rest v =
      match insSib t n rest v with
      | some r => r
      | none => (chain n rest v t, none, 1 + rest.length) := by
  rw [insSib_eq]; unfold ins; split <;> rfl

theorem ins_nil (n : Seg) (rest : Path) (v : V) :
    ins (.nil : Tree V) n rest v = (chain n rest v .nil, none, 1 + rest.length) := by
  unfold ins; split <;> rfl

theorem isNil_eq {t : Tree V} (h : t.isNil = true) : t = .nil := by
  cases t with
  | nil => rfl
  | node => simp [Tree.isNil] at h

/-- the walk at the sibling it was looking for, with segments left: into the children.  The first ENTRY created
    below a leaf is not counted (`k` may be one short of what `ins` reports). -/
theorem upd_self_cons (name : Seg) (val : Option V) (c r : Tree V) (m : Seg) (rs : Path) (v : V) :
    ∃ k, k ≤ (ins c m rs v).2.2 ∧ upd (.node name val c r) name (m :: rs) v =
      (.node name val (ins c m rs v).1 r, (ins c m rs v).2.1, k) := by
  by_cases hc : c.isNil = true
  · have := isNil_eq hc; subst this
    exact ⟨rs.length, by simp [ins_nil], by simp [upd, ins_nil, Tree.isNil]⟩
  · by_cases hb : (has1 c m || m == "*") = true
    · exact ⟨_, Nat.le_refl _, by simp [upd, ins, hc, hb]⟩
    · exact ⟨_, Nat.le_refl _, by simp [upd, ins, hc, hb]⟩

/-- The four ways an insert goes, as an induction principle: a fresh chain linked in front (no sibling is named
    `n`; for `*` only on an empty chain), the value slot of the sibling named `n`, into its children, or further
    along the chain.  Every fact about `ins` below is one instance. -/
theorem ins_ind (v : V) {P : Tree V → Seg → Path → Tree V × Option V × Nat → Prop}
    (fresh : ∀ t n rest, has1 t n = false → (n = "*" → t = .nil) →
      P t n rest (chain n rest v t, none, 1 + rest.length))
    (here : ∀ n val c r, P (.node n val c r) n [] (.node n (some v) c r, val, 0))
    (down : ∀ n val c r m rs k, k ≤ (ins c m rs v).2.2 → P c m rs (ins c m rs v) →
      P (.node n val c r) n (m :: rs) (.node n val (ins c m rs v).1 r, (ins c m rs v).2.1, k))
    (along : ∀ name val c r n rest, n ≠ name → (has1 r n || n == "*") = true → P r n rest (ins r n rest v) →
      P (.node name val c r) n rest
        (.node name val c (ins r n rest v).1, (ins r n rest v).2.1, (ins r n rest v).2.2)) :
    ∀ t n rest, P t n rest (ins t n rest v) := by
  intro t
  induction t with
  | nil => intro n rest; rw [ins_nil]; exact fresh _ _ _ rfl (fun _ => rfl)
  | node name val c r ihc ihr =>
    intro n rest
    by_cases hb : (has1 (.node name val c r) n || n == "*") = true
    · rw [ins, if_pos hb]
      by_cases hn : n = name
      · subst hn
        cases rest with
        | nil => simp only [upd, if_true]; exact here ..
        | cons m rs =>
          obtain ⟨k, hk, e⟩ := upd_self_cons n val c r m rs v
          rw [e]; exact down _ _ _ _ _ _ _ hk (ihc m rs)
      · have hb' : (has1 r n || n == "*") = true := by simpa [has1, hn] using hb
        simp only [upd, if_neg hn]
        rw [← if_pos (c := (has1 r n || n == "*") = true) hb' (t := upd r n rest v)
          (e := (chain n rest v r, none, 1 + rest.length))]
        exact along _ _ _ _ _ _ hn hb' (ihr n rest)
    · rw [ins, if_neg hb]
      have h := Bool.or_eq_false_iff.1 (Bool.not_eq_true _ ▸ hb)
      exact fresh _ _ _ h.1 (fun e => by simp [e] at h)

/-- what an insert of `v` under `n :: rest` does to the ENTRY at `n' :: rest'` -/
def touched (t : Tree V) (n : Seg) (rest : Path) (v : V) (n' : Seg) (rest' : Path) : Option (Option V) :=
  if n' = n ∧ rest' = rest then some (some v)
  else if (n' :: rest').isPrefixOf (n :: rest) then some (at? t n' rest').join
  else at? t n' rest'

theorem at?_ins (t : Tree V) (n : Seg) (rest : Path) (v : V) :
    ∀ (n' : Seg) (rest' : Path), at? (ins t n rest v).1 n' rest' = touched t n rest v n' rest' := by
  refine ins_ind v (P := fun t n rest x => ∀ n' rest', at? x.1 n' rest' = touched t n rest v n' rest')
    ?_ ?_ ?_ ?_ t n rest
  · intro t n rest h1 _ n' rest'
    simp only [at?_chain, touched]
    by_cases hn : n' = n
    · subst hn
      by_cases hr : rest' = rest
      · simp [hr]
      · simp [hr, at?_of_has1_false h1, List.isPrefixOf]
    · simp [hn, List.isPrefixOf]
  · intro n val c r n' rest'
    cases rest' <;> by_cases h1 : n' = n <;> simp [at?, touched, h1, List.isPrefixOf]
  · intro n val c r m rs k _ ih n' rest'
    cases rest' with
    | nil => by_cases h1 : n' = n <;> simp [at?, touched, h1, List.isPrefixOf]
    | cons m' r' =>
      simp only [at?, ih]
      by_cases h1 : n' = n <;> simp [touched, at?, h1, List.isPrefixOf]
  · intro name val c r n rest hn _ ih n' rest'
    have hn' : ¬ name = n := fun h => hn h.symm
    cases rest' <;> simp only [at?, ih] <;> by_cases h1 : n' = name <;>
      simp [touched, at?, h1, hn', List.isPrefixOf]

theorem lookup_ins (t : Tree V) (n : Seg) (rest : Path) (v : V) (n' : Seg) (rest' : Path) :
    lookup (ins t n rest v).1 n' rest' = if n' = n ∧ rest' = rest then some v else lookup t n' rest' := by
  simp only [lookup_eq, at?_ins, touched]
  split
  · rfl
  · split <;> rfl

theorem hasNode_ins (t : Tree V) (n : Seg) (rest : Path) (v : V) (n' : Seg) (rest' : Path) :
    hasNode (ins t n rest v).1 n' rest' = (hasNode t n' rest' || (n' :: rest').isPrefixOf (n :: rest)) := by
  simp only [hasNode_eq, at?_ins, touched]
  split
  · rename_i h; simp [h.1, h.2]
  · split <;> simp [*]

theorem old_ins (t : Tree V) (n : Seg) (rest : Path) (v : V) : (ins t n rest v).2.1 = lookup t n rest := by
  refine ins_ind v (P := fun t n rest x => x.2.1 = lookup t n rest) ?_ ?_ ?_ ?_ t n rest
  · intro t n rest h1 _; exact (lookup_of_has1_false h1 rest).symm
  · intro n val c r; simp [lookup]
  · intro n val c r m rs k _ ih; simpa [lookup] using ih
  · intro name val c r n rest hn _ ih; cases rest <;> simpa [lookup, hn] using ih

theorem has1_ins (t : Tree V) (n : Seg) (rest : Path) (v : V) (n' : Seg) :
    has1 (ins t n rest v).1 n' = (has1 t n' || decide (n' = n)) := by
  refine ins_ind v (P := fun t n _ x => has1 x.1 n' = (has1 t n' || decide (n' = n))) ?_ ?_ ?_ ?_ t n rest
  · intro t n rest _ _; by_cases h : n' = n <;> simp [has1_chain, h]
  · intro n val c r; by_cases h : n' = n <;> simp [has1, h]
  · intro n val c r m rs k _ _; by_cases h : n' = n <;> simp [has1, h]
  · intro name val c r n rest hn _ ih; simp only [has1, ih]; by_cases h : n' = name <;> simp [h]

/-- well-formedness is preserved: a literal goes in front only if no sibling has its name, `*` only on an empty
    chain, and the walk along the chain never passes a `*` (it is the last sibling and matches only itself) -/
theorem WF_ins (t : Tree V) (n : Seg) (rest : Path) (v : V) : WF t → WF (ins t n rest v).1 := by
  refine ins_ind v (P := fun t _ _ x => WF t → WF x.1) ?_ ?_ ?_ ?_ t n rest
  · intro t n rest h1 h2 hw; exact WF_chain rest n v t h1 h2 hw
  · intro n val c r hw; exact hw
  · intro n val c r m rs k _ ih ⟨w1, w2, w3, w4⟩; exact ⟨w1, w2, ih w3, w4⟩
  · intro name val c r n rest hn hb ih ⟨w1, w2, w3, w4⟩
    refine ⟨?_, ?_, w3, ih w4⟩
    · rw [has1_ins, w1]; simpa using fun h : name = n => hn h.symm
    · intro hs
      rw [w2 hs] at hb
      exact absurd (hs ▸ by simpa [has1] using hb) hn

/-- `count` increments never exceed the number of ENTRYs created -/
theorem cnt_ins (t : Tree V) (n : Seg) (rest : Path) (v : V) :
    (ins t n rest v).2.2 + t.nodes ≤ (ins t n rest v).1.nodes := by
  refine ins_ind v (P := fun t _ _ x => x.2.2 + t.nodes ≤ x.1.nodes) ?_ ?_ ?_ ?_ t n rest
  · intro t n rest _ _; simp only [nodes_chain]; omega
  · intro n val c r; simp [Tree.nodes]
  · intro n val c r m rs k hk ih; simp only [Tree.nodes]; omega
  · intro name val c r n rest _ _ ih; simp only [Tree.nodes]; omega


/-- `specFind` asks `has` / `lk` only about non-empty relative paths -/
theorem specFind_congr (p : Path) : ∀ (has has' : Path → Bool) (lk lk' : Path → Option V),
    (∀ a b, has (a :: b) = has' (a :: b)) → (∀ a b, lk (a :: b) = lk' (a :: b)) →
    specFind has lk p = specFind has' lk' p := by
  induction p with
  | nil => intros; rfl
  | cons n rest ih =>
    intro has has' lk lk' h1 h2
    cases rest with
    | nil => simp only [specFind, h1, h2]
    | cons m r =>
      simp only [specFind]
      rw [h1 n [], h1 "*" [],
        ih (fun q => has (n :: q)) (fun q => has' (n :: q)) (fun q => lk (n :: q)) (fun q => lk' (n :: q))
          (fun a b => h1 n (a :: b)) (fun a b => h2 n (a :: b)),
        ih (fun q => has ("*" :: q)) (fun q => has' ("*" :: q)) (fun q => lk ("*" :: q))
          (fun q => lk' ("*" :: q)) (fun a b => h1 "*" (a :: b)) (fun a b => h2 "*" (a :: b))]

/-- where `find` goes on after it has settled on the sibling named `s` -/
def cont (t : Tree V) (s : Seg) : Path → Option V
  | [] => lookup t s []
  | m :: r => findT (sub t s) m r

theorem cont_node_self (name : Seg) (val : Option V) (c r : Tree V) (rest : Path) :
    cont (.node name val c r) name rest = match rest with | [] => val | m :: r' => findT c m r' := by
  cases rest <;> simp [cont, lookup, sub]

theorem cont_node_ne {s name : Seg} (h : s ≠ name) (val : Option V) (c r : Tree V) (rest : Path) :
    cont (.node name val c r) s rest = cont r s rest := by
  cases rest <;> simp [cont, lookup, sub, h]

/-- one level of `find` on a well-formed sibling chain: the literal sibling if there is one, else `*` -/
theorem findT_step (t : Tree V) : WF t → ∀ (n : Seg) (rest : Path),
    findT t n rest =
      if has1 t n = true then cont t n rest
      else if n ≠ "" ∧ has1 t "*" = true then cont t "*" rest
      else none := by
  induction t with
  | nil => intro _ n rest; simp [findT, has1]
  | node name val c r _ ihr =>
    intro hw n rest
    obtain ⟨w1, w2, w3, w4⟩ := hw
    have hf : findT (.node name val c r) n rest =
        if incl name n = true then cont (.node name val c r) name rest else findT r n rest := by
      rw [cont_node_self]; cases rest <;> simp [findT]
    rw [hf]
    by_cases hn : n = name
    · subst hn; simp [incl, has1]
    · have hn' : ¬ name = n := fun h => hn h.symm
      by_cases hs : name = "*"
      · subst hs
        have := w2 rfl
        subst this
        by_cases he : n = ""
        · subst he; simp [incl, has1, findT]
        · simp [incl, he, hn, has1]
      · have hs' : ¬ "*" = name := fun h => hs h.symm
        have hi : incl name n = false := by simp [incl, hs, hn']
        rw [hi, ihr w4]
        simp [has1, hn, hs', cont_node_ne hn, cont_node_ne hs']

/-- the relative-path observers handed to `specFind` -/
def hasP (t : Tree V) : Path → Bool
  | [] => false
  | a :: b => hasNode t a b

def lkP (t : Tree V) : Path → Option V
  | [] => none
  | a :: b => lookup t a b

theorem findT_eq_spec : ∀ (rest : Path) (t : Tree V) (n : Seg), WF t →
    findT t n rest = specFind (hasP t) (lkP t) (n :: rest) := by
  intro rest
  induction rest with
  | nil =>
    intro t n hw
    rw [findT_step t hw]
    simp only [specFind, hasP, lkP, hasNode_nil_path, cont]
  | cons m r ih =>
    intro t n hw
    have e : ∀ s : Seg, specFind (fun q => hasP t (s :: q)) (fun q => lkP t (s :: q)) (m :: r) =
        specFind (hasP (sub t s)) (lkP (sub t s)) (m :: r) := fun s =>
      specFind_congr _ _ _ _ _ (fun a b => hasNode_cons t s a b) (fun a b => lookup_cons t s a b)
    rw [findT_step t hw]
    simp only [specFind]
    rw [e n, e "*"]
    simp only [hasP, hasNode_nil_path, cont]
    rw [ih (sub t n) m (WF_sub hw n), ih (sub t "*") m (WF_sub hw "*")]

theorem Log.get_cons (p : Path) (v : V) (l : Log V) (q : Path) :
    Log.get ((p, v) :: l) q = if q = p then some v else Log.get l q := by
  unfold Log.get
  simp only [List.find?_cons]
  by_cases h : q = p
  · subst h; simp
  · have hb : (p == q) = false := by
      simpa using fun e : p = q => h e.symm
    simp [h, hb]

theorem Log.has_cons (p : Path) (v : V) (l : Log V) (q : Path) :
    Log.has ((p, v) :: l) q = (q.isPrefixOf p || Log.has l q) := by
  simp [Log.has, List.any_cons]

theorem Log.has_of_get {l : Log V} {p : Path} {v : V} (h : l.get p = some v) (q : Path)
    (hq : q.isPrefixOf p = true) : l.has q = true := by
  induction l with
  | nil => simp [Log.get] at h
  | cons e l ih =>
    obtain ⟨p', v'⟩ := e
    rw [Log.get_cons] at h
    rw [Log.has_cons]
    by_cases hp : p = p'
    · subst hp; simp [hq]
    · simp only [hp, if_false] at h
      simp [ih h]

theorem Log.len_of_get {l : Log V} {p : Path} {v : V} (h : l.get p = some v) : ∃ e ∈ l, e.1 = p := by
  induction l with
  | nil => simp [Log.get] at h
  | cons e l ih =>
    obtain ⟨p', v'⟩ := e
    rw [Log.get_cons] at h
    by_cases hp : p = p'
    · exact ⟨(p', v'), List.mem_cons_self, hp.symm⟩
    · simp only [hp, if_false] at h
      obtain ⟨e, he, hpe⟩ := ih h
      exact ⟨e, List.mem_cons_of_mem _ he, hpe⟩

/-- the greedy resolution finds a stored path: all its prefixes exist, and the literal segment is preferred -/
theorem specFind_of_lk (p : Path) : ∀ (has : Path → Bool) (lk : Path → Option V) (v : V),
    p ≠ [] → lk p = some v → (∀ q, q ≠ [] → q.isPrefixOf p = true → has q = true) →
    specFind has lk p = some v := by
  induction p with
  | nil => intro _ _ _ h; exact absurd rfl h
  | cons n rest ih =>
    intro has lk v _ hl hh
    cases rest with
    | nil =>
      have : has [n] = true := hh [n] (by simp) (by simp [List.isPrefixOf])
      simp [specFind, this, hl]
    | cons m r =>
      have : has [n] = true := hh [n] (by simp) (by simp [List.isPrefixOf])
      simp only [specFind, this, if_true]
      exact ih (fun q => has (n :: q)) (fun q => lk (n :: q)) v (by simp) hl
        (fun q hq hp => hh (n :: q) (by simp) (by simpa [List.isPrefixOf] using hp))

def Op.isSize : Op V → Bool
  | .size => true
  | _ => false

/-- the log (abstract state) after a history -/
def absRun (l : Log V) : List (Op V) → Log V × List (Out V)
  | [] => (l, [])
  | op :: ops =>
    let (l', o) := absStep l op
    let (l'', os) := absRun l' ops
    (l'', o :: os)

/-- representation invariant tying a PT to a log -/
def Rep (t : PT V) (l : Log V) : Prop :=
  WF t.top ∧
  (∀ n rest, lookup t.top n rest = l.get (n :: rest)) ∧
  (∀ n rest, hasNode t.top n rest = l.has (n :: rest)) ∧
  t.count ≤ t.top.nodes ∧
  (∀ e ∈ l, 2 ≤ e.1.length)

/-- `InsertArray` of an effective insert, through `ins` -/
theorem insertArray_eq (t : PT V) (n m : Seg) (r : Path) (v : V) :
    insertArray t (n :: m :: r) (some v) =
      ({ top := (ins t.top n (m :: r) v).1, count := t.count + (ins t.top n (m :: r) v).2.2 },
        (ins t.top n (m :: r) v).2.1) := by
  obtain ⟨top, count⟩ := t
  simp only [insertArray]
  by_cases hc : top.isNil = true
  · have := isNil_eq hc
    subst this
    have : 2 + r.length = 1 + (r.length + 1) := by omega
    simp [ins_nil, Tree.isNil, this]
  · rw [ins_eq]
    cases h : insSib top n (m :: r) v with
    | none =>
      have : 2 + r.length = 1 + (r.length + 1) := by omega
      simp [hc, this]
    | some x =>
      obtain ⟨t', old, k⟩ := x
      simp [hc]

theorem rep_ins (t : PT V) (l : Log V) (h : Rep t l) (n m : Seg) (r : Path) (v : V) :
    Rep (insertArray t (n :: m :: r) (some v)).1 ((n :: m :: r, v) :: l) := by
  obtain ⟨hw, hl, hh, hc, h2⟩ := h
  rw [insertArray_eq]
  refine ⟨WF_ins _ _ _ _ hw, ?_, ?_, ?_, ?_⟩
  · intro n' rest'
    simp only [lookup_ins, Log.get_cons, hl, List.cons.injEq]
  · intro n' rest'
    simp only [hasNode_ins, Log.has_cons, hh]
    exact Bool.or_comm _ _
  · have := cnt_ins t.top n (m :: r) v
    simp only
    omega
  · intro e he
    cases he with
    | head => simp
    | tail _ he => exact h2 e he

/-- a stored path has at least two segments, in particular it is not empty -/
theorem stored_ne_nil {t : PT V} {l : Log V} (h : Rep t l) {p : Path} {v : V} (hp : l.get p = some v) : p ≠ [] := by
  obtain ⟨e, he, hpe⟩ := Log.len_of_get hp
  have := h.2.2.2.2 e he
  intro hnil
  rw [hpe, hnil] at this
  simp at this

/-! ### the enumeration the Go code never starts: `flatten` lists exactly the stored paths, once each -/

/-- a chain flattened below a prefix is the chain flattened at the root, every path with the prefix in front -/
theorem flatten_shift (t : Tree V) : ∀ pre : Path,
    t.flatten pre = (t.flatten []).map fun e => (pre.reverse ++ e.1, e.2) := by
  induction t with
  | nil => intro _; rfl
  | node name val c r ihc ihr =>
    intro pre
    simp only [Tree.flatten]
    rw [ihc (name :: pre), ihc [name], ihr pre]
    cases val <;> simp

/-- an ENTRY flattened at the root: its own value, what is below it with its name in front, its right siblings -/
theorem flatten_node (name : Seg) (val : Option V) (c r : Tree V) :
    (Tree.node name val c r).flatten [] =
      val.toList.map (fun v => ([name], v)) ++ (c.flatten []).map (fun e => (name :: e.1, e.2)) ++ r.flatten [] := by
  simp only [Tree.flatten]
  rw [flatten_shift c [name]]
  cases val <;> simp

theorem mem_flatten (t : Tree V) : WF t → ∀ (p : Path) (v : V), (p, v) ∈ t.flatten [] ↔ lkP t p = some v := by
  induction t with
  | nil => intro _ p v; cases p <;> simp [Tree.flatten, lkP, lookup]
  | node name val c r ihc ihr =>
    intro ⟨w1, _, w3, w4⟩ p v
    rw [flatten_node]
    simp only [List.mem_append, List.mem_map, Option.mem_toList, Prod.mk.injEq, Prod.exists, ihc w3, ihr w4]
    match p with
    | [] => simp [lkP]
    | n :: rest =>
      by_cases hn : n = name
      · subst hn
        cases rest <;> simp [lkP, lookup, lookup_of_has1_false w1]
      · have hn' : ¬ name = n := fun h => hn h.symm
        cases rest <;> simp [lkP, lookup, hn, hn']

theorem nodup_flatten (t : Tree V) : WF t → ((t.flatten []).map (·.1)).Nodup := by
  induction t with
  | nil => intro _; simp [Tree.flatten]
  | node name val c r ihc ihr =>
    intro ⟨w1, _, w3, w4⟩
    -- the paths below this ENTRY start with its name and go on; those of its right siblings start with another name
    have hc : ∀ x ∈ (c.flatten []).map (·.1), x ≠ [] := by
      rintro x hx rfl
      obtain ⟨⟨_, v⟩, hm, rfl⟩ := List.mem_map.1 hx
      simpa [lkP] using (mem_flatten c w3 _ v).1 hm
    have hr : ∀ x ∈ (r.flatten []).map (·.1), ∀ q, x ≠ name :: q := by
      rintro x hx q rfl
      obtain ⟨⟨_, v⟩, hm, rfl⟩ := List.mem_map.1 hx
      simpa [lkP, lookup_of_has1_false w1] using (mem_flatten r w4 _ v).1 hm
    have hv : ∀ a ∈ val.toList.map (fun _ => [name]), a = [name] := by simp
    have hk : ((Tree.node name val c r).flatten []).map (·.1) =
        val.toList.map (fun _ => [name]) ++ ((c.flatten []).map (·.1)).map (name :: ·) ++ (r.flatten []).map (·.1) := by
      rw [flatten_node]; simp [Function.comp_def]
    rw [hk, List.nodup_append, List.nodup_append]
    refine ⟨⟨by cases val <;> simp, (ihc w3).map _ fun a b h e => h (List.cons.inj e).2, ?_⟩, ihr w4, ?_⟩
    · intro a ha b hb e
      obtain ⟨x, hx, rfl⟩ := List.mem_map.1 hb
      exact hc x hx (List.cons.inj ((hv a ha).symm.trans e)).2.symm
    · intro a ha b hb e
      rcases List.mem_append.1 ha with ha | ha
      · exact hr b hb [] (e ▸ hv a ha)
      · obtain ⟨x, _, rfl⟩ := List.mem_map.1 ha
        exact hr b hb x e.symm
end Ext.PathTree
