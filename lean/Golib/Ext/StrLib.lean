/-
  Golib.Ext.StrLib — the Go standard-library string functions that the text utilities of X02 call,
  on byte strings (a Go string is its UTF-8 bytes; `len`, slicing and `strings.Index` count bytes).

    indexOf      strings.Index        (first byte offset of a substring; the empty substring is at 0)
    lastIndexB   strings.LastIndex with a one-byte separator
    trimSpace    strings.TrimSpace    (Unicode White_Space, decoded from UTF-8; invalid bytes are not space)
    eqFoldTrue   strings.ToLower(s) == "true"
    atoi         strconv.Atoi on a 64-bit platform, INCLUDING the value returned together with an error
    itoa         strconv.Itoa / fmt %d
    unescape     net/url PathUnescape / QueryUnescape

  Modelled from the library documentation and source (go1.2x), not verified; compared by harness/x02.
  (core Lean only; imported by the driver)
-/
import Golib.Basic

namespace Ext.Str

/-! ### strings.Index -/

/-- `strings.Index(s, sep)`: byte offset of the first occurrence, `none` for -1 -/
def indexOf (sep : Bytes) : Bytes → Option Nat
  | [] => if sep.isEmpty then some 0 else none
  | c :: cs => if sep.isPrefixOf (c :: cs) then some 0 else (indexOf sep cs).map (· + 1)

/-- `strings.LastIndex(s, string(c))` for a single byte `c` -/
def lastIndexB (c : Nat) : Bytes → Option Nat
  | [] => none
  | x :: xs =>
    match lastIndexB c xs with
    | some p => some (p + 1)
    | none => if x = c then some 0 else none

theorem indexOf_nil_sep (s : Bytes) : indexOf [] s = some 0 := by
  cases s <;> simp [indexOf]

/-- a reported offset is an occurrence: `s = s[:n] ++ sep ++ s[n+len(sep):]` -/
theorem indexOf_some {sep s : Bytes} {n : Nat} (h : indexOf sep s = some n) :
    s = s.take n ++ sep ++ s.drop (n + sep.length) := by
  fun_induction indexOf sep s generalizing n with
  | case1 he => cases h; simpa using he
  | case2 => cases h
  | case3 c cs hp =>
    cases h
    obtain ⟨t, ht⟩ := List.isPrefixOf_iff_prefix.mp hp
    rw [← ht]; simp
  | case4 c cs hp ih =>
    obtain ⟨m, hi, rfl⟩ := Option.map_eq_some_iff.mp h
    rw [show m + 1 + sep.length = (m + sep.length) + 1 by omega, List.take_succ_cons, List.drop_succ_cons,
      List.cons_append, List.cons_append]
    exact congrArg (c :: ·) (ih hi)

/-- -1 means the separator does not occur anywhere -/
theorem indexOf_none {sep : Bytes} : ∀ {s : Bytes}, indexOf sep s = none → ∀ a b, s ≠ a ++ sep ++ b := by
  intro s h a b
  fun_induction indexOf sep s generalizing a with
  | case1 => cases h
  | case2 he => intro e; simp [eq_comm] at e; exact he (by simp [e.2.1])
  | case3 => cases h
  | case4 c cs hp ih =>
    intro e
    cases a with
    | nil => exact hp (List.isPrefixOf_iff_prefix.mpr ⟨b, by simpa using e.symm⟩)
    | cons x a' =>
      simp only [List.cons_append, List.cons.injEq] at e
      exact ih (by simpa using h) a' e.2

/-- if the first byte of the separator does not occur in `a`, the first occurrence in
    `a ++ sep ++ r` is at `len(a)` -/
theorem indexOf_append_fresh (c : Nat) (t : Bytes) : ∀ (a r : Bytes), c ∉ a →
    indexOf (c :: t) (a ++ (c :: t) ++ r) = some a.length
  | [], r, _ => by
    simp only [List.nil_append, List.cons_append, List.length_nil]
    unfold indexOf
    have : (c :: t).isPrefixOf (c :: (t ++ r)) = true :=
      List.isPrefixOf_iff_prefix.mpr ⟨r, by simp⟩
    simp [this]
  | x :: a, r, h => by
    have hx : x ≠ c := by intro e; apply h; simp [e]
    have ha : c ∉ a := by intro e; apply h; simp [e]
    simp only [List.cons_append]
    unfold indexOf
    have np : (c :: t).isPrefixOf (x :: (a ++ c :: (t ++ r))) = false := by
      simp [List.isPrefixOf, hx.symm]
    have ih := indexOf_append_fresh c t a r ha
    simp only [List.cons_append, List.append_assoc] at ih
    simp [np, ih]

theorem indexOf_byte_fresh (c : Nat) (a r : Bytes) (h : c ∉ a) : indexOf [c] (a ++ c :: r) = some a.length := by
  simpa using indexOf_append_fresh c [] a r h

/-- a separator whose first byte does not occur is not found -/
theorem indexOf_absent (c : Nat) (t s : Bytes) (h : c ∉ s) : indexOf (c :: t) s = none := by
  fun_induction indexOf (c :: t) s with
  | case1 hs => simp at hs
  | case2 => rfl
  | case3 x s hp => exact absurd (by simp [(show c = x ∧ _ by simpa [List.isPrefixOf] using hp).1]) h
  | case4 x s hp ih => rw [ih (fun e => h (List.mem_cons_of_mem _ e))]; rfl

theorem lastIndexB_none (c : Nat) (s : Bytes) : lastIndexB c s = none ↔ c ∉ s := by
  fun_induction lastIndexB c s with
  | case1 => simp
  | case2 x xs p hp ih => simp_all
  | case3 xs hp ih => simp_all
  | case4 x xs hp hx ih => simp_all [Ne.symm hx]

/-! ### strings.TrimSpace -/

/-- UTF-8 encodings of the 25 code points with Unicode property White_Space (`unicode.IsSpace`) -/
def spaceEncs : List Bytes :=
  [[9], [10], [11], [12], [13], [32], [0xC2, 0x85], [0xC2, 0xA0], [0xE1, 0x9A, 0x80],
   [0xE2, 0x80, 0x80], [0xE2, 0x80, 0x81], [0xE2, 0x80, 0x82], [0xE2, 0x80, 0x83], [0xE2, 0x80, 0x84],
   [0xE2, 0x80, 0x85], [0xE2, 0x80, 0x86], [0xE2, 0x80, 0x87], [0xE2, 0x80, 0x88], [0xE2, 0x80, 0x89],
   [0xE2, 0x80, 0x8A], [0xE2, 0x80, 0xA8], [0xE2, 0x80, 0xA9], [0xE2, 0x80, 0xAF], [0xE2, 0x81, 0x9F],
   [0xE3, 0x80, 0x80]]

/-- drop one leading white-space character, if there is one -/
def dropSpace1 (encs : List Bytes) (s : Bytes) : Option Bytes :=
  encs.findSome? (fun e => if e.isPrefixOf s then some (s.drop e.length) else none)

def trimLeftF (encs : List Bytes) : Nat → Bytes → Bytes
  | 0, s => s
  | f + 1, s =>
    match dropSpace1 encs s with
    | some r => trimLeftF encs f r
    | none => s

def trimLeft (s : Bytes) : Bytes := trimLeftF spaceEncs s.length s

/-- trailing white space: the same scan on the reversed string with reversed encodings -/
def trimRight (s : Bytes) : Bytes :=
  (trimLeftF (spaceEncs.map List.reverse) s.length s.reverse).reverse

def trimSpace (s : Bytes) : Bytes := trimRight (trimLeft s)

def startsWithSpace (s : Bytes) : Bool := (dropSpace1 spaceEncs s).isSome
def endsWithSpace (s : Bytes) : Bool := (dropSpace1 (spaceEncs.map List.reverse) s.reverse).isSome

theorem trimLeftF_fixed (encs : List Bytes) (f : Nat) (s : Bytes) (h : dropSpace1 encs s = none) :
    trimLeftF encs f s = s := by
  cases f <;> simp [trimLeftF, h]

/-- a string that neither starts nor ends with a white-space character is left alone -/
theorem trimSpace_fixed (s : Bytes) (h1 : startsWithSpace s = false) (h2 : endsWithSpace s = false) :
    trimSpace s = s := by
  unfold startsWithSpace at h1
  unfold endsWithSpace at h2
  have e1 : dropSpace1 spaceEncs s = none := by
    cases h : dropSpace1 spaceEncs s with
    | none => rfl
    | some _ => simp [h] at h1
  have e2 : dropSpace1 (spaceEncs.map List.reverse) s.reverse = none := by
    cases h : dropSpace1 (spaceEncs.map List.reverse) s.reverse with
    | none => rfl
    | some _ => simp [h] at h2
  unfold trimSpace trimLeft trimRight
  rw [trimLeftF_fixed _ _ _ e1, trimLeftF_fixed _ _ _ e2, List.reverse_reverse]

theorem dropSpace1_suffix (encs : List Bytes) (s r : Bytes) (h : dropSpace1 encs s = some r) :
    ∃ e, s = e ++ r := by
  unfold dropSpace1 at h
  obtain ⟨e, _, he⟩ := List.exists_of_findSome?_eq_some h
  split at he
  · rename_i hp
    obtain ⟨t, ht⟩ := List.isPrefixOf_iff_prefix.mp hp
    cases he
    exact ⟨e, by rw [← ht]; simp⟩
  · cases he

theorem trimLeftF_suffix (encs : List Bytes) (f : Nat) (s : Bytes) : ∃ a, s = a ++ trimLeftF encs f s := by
  fun_induction trimLeftF encs f s with
  | case1 s => exact ⟨[], rfl⟩
  | case2 f s r h ih =>
    obtain ⟨e, he⟩ := dropSpace1_suffix encs s r h
    obtain ⟨a, ha⟩ := ih
    exact ⟨e ++ a, by rw [List.append_assoc, ← ha, he]⟩
  | case3 f s h => exact ⟨[], rfl⟩

/-! ### strings.ToLower(s) == "true" -/

/-- `strings.ToLower(s) == "true"`: no code point other than `T R U E t r u e` lower-cases to one of
    `t r u e`, and an invalid byte becomes U+FFFD, so this is ASCII case folding of a 4-byte string -/
def eqFoldTrue (s : Bytes) : Bool :=
  match s with
  | [a, b, c, d] => (a == 116 || a == 84) && (b == 114 || b == 82) && (c == 117 || c == 85) && (d == 101 || d == 69)
  | _ => false

/-! ### strconv.Atoi / Itoa -/

inductive UR | ok (n : Nat) | syntax | range
  deriving DecidableEq, Repr

/-- the digit loop of `strconv.ParseUint(s, 10, 64)`: a non-digit is a syntax error; overflow is
    reported as soon as it happens, WITHOUT looking at the remaining characters -/
def parseUintLoop : Bytes → Nat → UR
  | [], n => .ok n
  | c :: cs, n =>
    if 48 ≤ c ∧ c ≤ 57 then
      if n ≥ 1844674407370955162 then .range
      else if n * 10 + (c - 48) > 18446744073709551615 then .range
      else parseUintLoop cs (n * 10 + (c - 48))
    else .syntax

/-- `Atoi` after the sign: the value returned and whether `err == nil` -/
def atoiSigned (neg : Bool) (body : Bytes) : Int × Bool :=
  if body.isEmpty then (0, false) else
  match parseUintLoop body 0 with
  | .syntax => (0, false)
  | .range => if neg then (-9223372036854775808, false) else (9223372036854775807, false)
  | .ok n =>
    if neg then (if n > 9223372036854775808 then (-9223372036854775808, false) else (-(n : Int), true))
    else (if n ≥ 9223372036854775808 then (9223372036854775807, false) else ((n : Int), true))

/-- `strconv.Atoi(s)` (int is 64 bit): the value returned and whether `err == nil`.
    A syntax error returns 0; a range error returns the nearest int64. -/
def atoi (s : Bytes) : Int × Bool :=
  match s with
  | 45 :: r => atoiSigned true r
  | 43 :: r => atoiSigned false r
  | r => atoiSigned false r

theorem atoiSigned_range (neg : Bool) (body : Bytes) :
    -9223372036854775808 ≤ (atoiSigned neg body).1 ∧ (atoiSigned neg body).1 ≤ 9223372036854775807 ∧
    ((atoiSigned neg body).2 = false → (atoiSigned neg body).1 = 0 ∨ (atoiSigned neg body).1 = 9223372036854775807
      ∨ (atoiSigned neg body).1 = -9223372036854775808) := by
  unfold atoiSigned
  split
  · simp
  · split
    · simp
    · cases neg <;> simp
    · cases neg
      · simp only [Bool.false_eq_true, if_false]
        split <;> simp <;> omega
      · simp only [if_true]
        split <;> simp <;> omega

/-- decimal digits of a natural number, most significant first -/
def natDigits (n : Nat) : Bytes := (Nat.toDigits 10 n).map Char.toNat

/-- `strconv.Itoa` / `fmt.Sprintf("%d")` -/
def itoa (v : Int) : Bytes :=
  if v < 0 then 45 :: natDigits v.natAbs else natDigits v.natAbs

/-! ### int conversions of Go -/

/-- `int32(v)` for an `int64`/`int` value: keep the low 32 bits, two's complement -/
def wrap32 (v : Int) : Int := (v + 2147483648) % 4294967296 - 2147483648

theorem wrap32_inRange (v : Int) (h : -2147483648 ≤ v ∧ v ≤ 2147483647) : wrap32 v = v := by
  unfold wrap32; omega

theorem wrap32_range (v : Int) : -2147483648 ≤ wrap32 v ∧ wrap32 v ≤ 2147483647 := by
  unfold wrap32; omega

theorem wrap32_congr (v : Int) : (wrap32 v - v) % 4294967296 = 0 := by
  unfold wrap32; omega

theorem wrap32_periodic (v k : Int) : wrap32 (v + 4294967296 * k) = wrap32 v := by
  unfold wrap32; omega

/-! ### net/url unescape -/

def hexv (c : Nat) : Option Nat :=
  if 48 ≤ c ∧ c ≤ 57 then some (c - 48)
  else if 97 ≤ c ∧ c ≤ 102 then some (c - 87)
  else if 65 ≤ c ∧ c ≤ 70 then some (c - 55)
  else none

/-- `url.PathUnescape` (`plus = false`) / `url.QueryUnescape` (`plus = true`); `none` = error -/
def unescape (plus : Bool) : Bytes → Option Bytes
  | [] => some []
  | c :: r =>
    if c = 37 then
      match r with
      | a :: b :: r' =>
        match hexv a, hexv b with
        | some x, some y => (unescape plus r').map ((x * 16 + y) :: ·)
        | _, _ => none
      | _ => none
    else (unescape plus r).map ((if plus && c == 43 then 32 else c) :: ·)

/-- without `%` (and, for a query, without `+`) unescaping is the identity -/
theorem unescape_plain (plus : Bool) (s : Bytes) (h1 : 37 ∉ s) (h2 : plus = true → 43 ∉ s) :
    unescape plus s = some s := by
  fun_induction unescape plus s with
  | case1 => rfl
  | case2 | case3 | case4 => simp at h1
  | case5 c r hc ih =>
    rw [ih (fun e => h1 (List.mem_cons_of_mem _ e)) (fun p e => h2 p (List.mem_cons_of_mem _ e))]
    cases plus with
    | false => rfl
    | true => have : c ≠ 43 := fun e => h2 rfl (by simp [e]); simp [this]

end Ext.Str
