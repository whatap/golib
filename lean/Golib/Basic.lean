/-
  Golib.Basic — bytes and the decoder monad shared by every wire-format model.

  `Bytes` is a list of naturals; `WFB bs` says every element is a byte.
  `P α` is the *syntax* of a decoder: it can only ask for the next `n` bytes,
  return, or fail.  Because a decoder cannot look at its input in any other
  way, two generic theorems hold for every decoder written in `P`:

  * `P.locality`     – a successful parse depends only on the bytes it consumed;
  * `P.prefix_fails` – a strict prefix of a complete encoding never decodes.

  Two notions are stated for any decoder, a function from the input to a value and the rest, because
  the tagged value decoder and the readers built on it are written as such functions (`Value.decV`
  with its fuel, Step's `D`, Layout's `Dec`), also where they are `P.run` of a program
  (`Value.run_decP`, `Step.L.ofP_readP`):
  `Stable1 d` (appending input changes nothing; `P.run p` is stable by locality) and `Reads d w a`
  (given exactly the bytes `w`, `d` returns `a`: a round trip is `Reads dec (enc x) x`).  An encoding
  that is read back determines its value and is no proper prefix of another (`Reads.inj`); a stable
  decoder refuses its strict prefixes (`Reads.prefix_fails`).  `P.Reads p` is `Reads (P.run p)`; its
  lemmas say what it is on each form of `P` and turn a round trip or a successful run into a statement
  about the decoder's definition.

  At the end, under `namespace Golib`, the facts of core types that several areas use: `List.lookup`
  and `List.find?` in tables with distinct keys, an array slot after a bounds-checked write, and
  bit fields of a natural number (`and_mask`, `or_disjoint`, `add_eq_or_of_and_eq_zero`).

  (core Lean only; no Mathlib)
-/

abbrev Bytes := List Nat

def WFB (bs : Bytes) : Prop := ∀ b ∈ bs, b < 256

instance (bs : Bytes) : Decidable (WFB bs) := by unfold WFB; infer_instance

theorem WFB_nil : WFB [] := by intro b h; cases h

theorem WFB_append {a b : Bytes} : WFB (a ++ b) ↔ WFB a ∧ WFB b := by
  unfold WFB
  constructor
  · intro h
    exact ⟨fun x hx => h x (List.mem_append_left _ hx), fun x hx => h x (List.mem_append_right _ hx)⟩
  · intro ⟨h1, h2⟩ x hx
    rcases List.mem_append.mp hx with h | h
    · exact h1 x h
    · exact h2 x h

theorem WFB_cons {a : Nat} {b : Bytes} : WFB (a :: b) ↔ a < 256 ∧ WFB b := by
  unfold WFB
  constructor
  · intro h
    exact ⟨h a (by simp), fun x hx => h x (by simp [hx])⟩
  · intro ⟨h1, h2⟩ x hx
    rcases List.mem_cons.mp hx with h | h
    · subst h; exact h1
    · exact h2 x h

/-- a decoder (any function from the input to a value and the rest) that ignores what is appended:
    having succeeded on `q` it does the same, with the same result, when more input follows -/
def Stable1 {α : Type} (d : Bytes → Option (α × Bytes)) : Prop :=
  ∀ q s v r, d q = some (v, r) → d (q ++ s) = some (v, r ++ s)

/-- … and so rejects every strict prefix of an input it reads to the end: had the prefix decoded,
    the whole would have decoded the same way and left `s` over -/
theorem Stable1.prefix_fails {α : Type} {d : Bytes → Option (α × Bytes)} (hd : Stable1 d) {q s : Bytes} {v : α}
    (hs : s ≠ []) (h : d (q ++ s) = some (v, [])) : d q = none := by
  cases hq : d q with
  | none => rfl
  | some x =>
    have := hd q s x.1 x.2 hq
    rw [h] at this
    exact absurd (List.append_eq_nil_iff.mp (Prod.mk.inj (Option.some.inj this)).2.symm).2 hs

/-- given exactly the bytes `w`, the decoder `d` returns `a` and leaves whatever follows `w` untouched: what a
    reader owes the writer that emitted `w` for `a` -/
def Reads {α : Type} (d : Bytes → Option (α × Bytes)) (w : Bytes) (a : α) : Prop := ∀ r, d (w ++ r) = some (a, r)

theorem Reads.nil {α : Type} {d : Bytes → Option (α × Bytes)} {w : Bytes} {a : α} (h : Reads d w a) :
    d w = some (a, []) :=
  List.append_nil w ▸ h []

/-- an encoding determines its value, and no encoding is a proper prefix of another -/
theorem Reads.inj {α : Type} {d : Bytes → Option (α × Bytes)} {a b r s : Bytes} {x y : α} (ha : Reads d a x)
    (hb : Reads d b y) (e : a ++ r = b ++ s) : x = y ∧ r = s := by
  have := ha r
  rw [e, hb s, Option.some.injEq, Prod.mk.injEq] at this
  exact ⟨this.1.symm, this.2.symm⟩

/-- a stable decoder refuses every strict prefix of an encoding it reads back -/
theorem Reads.prefix_fails {α : Type} {d : Bytes → Option (α × Bytes)} {w q s : Bytes} {a : α} (h : Reads d w a)
    (hd : Stable1 d) (hs : s ≠ []) (hq : q ++ s = w) : d q = none :=
  hd.prefix_fails hs (hq ▸ h.nil)

inductive P (α : Type) where
  | pure : α → P α
  | fail : P α
  | read : (n : Nat) → (Bytes → P α) → P α

/-- `n ≤ bs.length`, computed by walking at most `n` cells (the decoders call this on
    every read, so it must not be linear in the remaining input) -/
def hasAtLeast (n : Nat) (bs : Bytes) : Bool := n == 0 || !(bs.drop (n - 1)).isEmpty

theorem hasAtLeast_iff (n : Nat) (bs : Bytes) : hasAtLeast n bs = true ↔ n ≤ bs.length := by
  unfold hasAtLeast
  cases n with
  | zero => simp
  | succ n =>
    have e : (n + 1 == 0) = false := by simp
    rw [e, Nat.add_sub_cancel, Bool.false_or]
    constructor
    · intro h
      have h2 : bs.drop n ≠ [] := by
        intro hh; rw [hh] at h; simp at h
      have := mt List.drop_eq_nil_iff.mpr h2
      omega
    · intro h
      have h2 : bs.drop n ≠ [] := by
        intro hh; have := List.drop_eq_nil_iff.mp hh; omega
      cases hd : bs.drop n with
      | nil => exact absurd hd h2
      | cons _ _ => rfl

@[simp] theorem hasAtLeast_one_cons (b : Nat) (r : Bytes) : hasAtLeast 1 (b :: r) = true := by
  simp [hasAtLeast]

namespace P

def run : P α → Bytes → Option (α × Bytes)
  | .pure a, bs => some (a, bs)
  | .fail, _ => none
  | .read n k, bs => if hasAtLeast n bs then run (k (bs.take n)) (bs.drop n) else none

theorem run_read (n : Nat) (k : Bytes → P α) (bs : Bytes) :
    run (.read n k) bs = if n ≤ bs.length then run (k (bs.take n)) (bs.drop n) else none := by
  simp only [run]
  by_cases h : n ≤ bs.length
  · rw [if_pos h, if_pos ((hasAtLeast_iff n bs).mpr h)]
  · rw [if_neg h, if_neg (fun h' => h ((hasAtLeast_iff n bs).mp h'))]

def bind : P α → (α → P β) → P β
  | .pure a, f => f a
  | .fail, _ => .fail
  | .read n k, f => .read n (fun bs => bind (k bs) f)

def map (f : α → β) (p : P α) : P β := bind p (fun a => .pure (f a))

-- `do` notation is available, but every lemma below is stated for `P.bind`: `p >>= f` is `P.bind p f`
-- by `rfl`, not syntactically, so `rw [run_bind]` needs `show … P.bind p f …` first
instance : Monad P where
  pure := P.pure
  bind := P.bind

@[simp] theorem run_pure (a : α) (bs : Bytes) : run (.pure a) bs = some (a, bs) := rfl
@[simp] theorem run_fail (bs : Bytes) : run (.fail : P α) bs = none := rfl

theorem run_bind (p : P α) (f : α → P β) (bs : Bytes) :
    run (bind p f) bs = match run p bs with | none => none | some (a, r) => run (f a) r := by
  induction p generalizing bs with
  | pure a => simp [bind, run]
  | fail => simp [bind, run]
  | read n k ih =>
    simp only [bind, run]
    split
    · exact ih _ _
    · rfl

theorem run_bind_some (p : P α) (f : α → P β) (bs r : Bytes) (a : α)
    (h : run p bs = some (a, r)) : run (bind p f) bs = run (f a) r := by
  rw [run_bind, h]

theorem run_bind_none (p : P α) (f : α → P β) (bs : Bytes)
    (h : run p bs = none) : run (bind p f) bs = none := by
  rw [run_bind, h]

theorem run_read_append (n : Nat) (k : Bytes → P α) (a r : Bytes) (h : a.length = n) :
    run (.read n k) (a ++ r) = run (k a) r := by
  rw [run_read]
  have : n ≤ (a ++ r).length := by simp [List.length_append]; omega
  rw [if_pos this]
  have t1 : List.take n (a ++ r) = a := by
    rw [List.take_append_of_le_length (by omega)]; rw [← h]; simp
  have t2 : List.drop n (a ++ r) = r := by
    rw [List.drop_append_of_le_length (by omega)]
    rw [List.drop_of_length_le (by omega)]; simp
  rw [t1, t2]

theorem run_read1 (k : Bytes → P α) (b : Nat) (r : Bytes) :
    run (.read 1 k) (b :: r) = run (k [b]) r := by
  simp [run_read]

/-- locality: a successful parse depends only on the bytes it consumed -/
theorem locality (p : P α) (bs : Bytes) (v : α) (r : Bytes) (h : run p bs = some (v, r)) :
    ∃ a, bs = a ++ r ∧ ∀ c, run p (a ++ c) = some (v, c) := by
  induction p generalizing bs with
  | pure x =>
    simp [run] at h; obtain ⟨rfl, rfl⟩ := h
    exact ⟨[], by simp, by intro c; simp [run]⟩
  | fail => simp [run] at h
  | read n k ih =>
    rw [run_read] at h
    split at h
    · rename_i hn
      obtain ⟨a, ha, hc⟩ := ih _ _ h
      refine ⟨bs.take n ++ a, ?_, ?_⟩
      · rw [List.append_assoc, ← ha, List.take_append_drop]
      · intro c
        have hl : (bs.take n).length = n := by simp [List.length_take]; omega
        rw [List.append_assoc, run_read_append n k _ _ hl]
        exact hc c
    · simp at h

theorem run_stable (p : P α) : Stable1 (run p) := by
  intro q s v r h
  obtain ⟨a, rfl, hc⟩ := locality p q v r h
  rw [List.append_assoc]
  exact hc (r ++ s)

/-- decoding a strict prefix of a complete encoding fails -/
theorem prefix_fails (p : P α) (q s : Bytes) (v : α) (hs : s ≠ [])
    (h : run p (q ++ s) = some (v, [])) : run p q = none := (run_stable p).prefix_fails hs h

/-- a decoder that succeeded consumed a prefix: the rest is a suffix of the input -/
theorem run_length_le (p : P α) (bs : Bytes) (v : α) (r : Bytes) (h : run p bs = some (v, r)) :
    r.length ≤ bs.length := by
  obtain ⟨a, ha, _⟩ := locality p bs v r h
  rw [ha]; simp

/-! ### what a decoder accepts

  `Reads p a v` is the relation every statement about a decoder speaks of: a round trip is
  `Reads dec (enc x) x`, and by `run_eq_some_iff` (locality, read as an equivalence) a successful run
  is a `Reads` on the bytes it consumed.  The lemmas below say what `Reads` is on each form of `P`;
  through them a fact about a decoder is read off its definition in either direction. -/

def Reads (p : P α) (a : Bytes) (v : α) : Prop := _root_.Reads (run p) a v

theorem run_eq_some_iff {p : P α} {bs r : Bytes} {v : α} :
    run p bs = some (v, r) ↔ ∃ a, bs = a ++ r ∧ Reads p a v :=
  ⟨locality p bs v r, fun ⟨_, e, h⟩ => e ▸ h r⟩

theorem reads_pure_iff {x v : α} {a : Bytes} : Reads (.pure x) a v ↔ a = [] ∧ v = x := by
  constructor
  · intro h
    have := h.nil
    rw [run_pure, Option.some.injEq, Prod.mk.injEq] at this
    exact ⟨this.2, this.1.symm⟩
  · rintro ⟨rfl, rfl⟩ r; rfl

theorem not_reads_fail {a : Bytes} {v : α} : ¬ Reads (.fail : P α) a v := fun h => nomatch h []

theorem reads_read_iff {n : Nat} {k : Bytes → P α} {a : Bytes} {v : α} :
    Reads (.read n k) a v ↔ n ≤ a.length ∧ Reads (k (a.take n)) (a.drop n) v := by
  have step : ∀ r, n ≤ a.length →
      run (.read n k) (a ++ r) = run (k (a.take n)) (a.drop n ++ r) := fun r hn => by
    rw [run_read, if_pos (by rw [List.length_append]; omega), List.take_append_of_le_length hn,
      List.drop_append_of_le_length hn]
  constructor
  · intro h
    have hn : n ≤ a.length := by
      have h0 := h.nil
      rw [run_read] at h0
      split at h0
      · assumption
      · cases h0
    exact ⟨hn, fun r => (step r hn).symm.trans (h r)⟩
  · exact fun ⟨hn, h⟩ r => (step r hn).trans (h r)

theorem reads_bind_iff {p : P α} {f : α → P β} {a : Bytes} {v : β} :
    Reads (bind p f) a v ↔ ∃ b c x, a = b ++ c ∧ Reads p b x ∧ Reads (f x) c v := by
  constructor
  · intro h
    have h0 := h.nil
    rw [run_bind] at h0
    split at h0
    · cases h0
    · rename_i x c h1
      obtain ⟨b, rfl, hb⟩ := run_eq_some_iff.mp h1
      obtain ⟨c, rfl, hc⟩ := run_eq_some_iff.mp h0
      exact ⟨b, c, x, by rw [List.append_nil], hb, hc⟩
  · rintro ⟨b, c, x, rfl, hb, hc⟩ r
    rw [List.append_assoc, run_bind, hb (c ++ r)]
    exact hc r

theorem Reads.pure (x : α) : Reads (.pure x) [] x := fun _ => rfl

/-- a round trip through a sequence of reads, composed from those of its parts -/
theorem Reads.bind {p : P α} {f : α → P β} {b c : Bytes} {x : α} {v : β}
    (hb : Reads p b x) (hc : Reads (f x) c v) : Reads (bind p f) (b ++ c) v :=
  reads_bind_iff.mpr ⟨b, c, x, rfl, hb, hc⟩

/-- a decoder that takes `n` bytes and computes its value from them: the shape of every fixed-width reader -/
theorem reads_read_pure_iff {n : Nat} {g : Bytes → α} {a : Bytes} {v : α} :
    Reads (.read n fun b => .pure (g b)) a v ↔ a.length = n ∧ v = g a := by
  rw [reads_read_iff]
  simp only [reads_pure_iff, List.drop_eq_nil_iff]
  constructor
  · rintro ⟨h1, h2, rfl⟩
    exact ⟨by omega, by rw [List.take_of_length_le h2]⟩
  · rintro ⟨rfl, rfl⟩
    exact ⟨Nat.le_refl _, Nat.le_refl _, by rw [List.take_length]⟩

/-- a one-byte tag, then what the tag selects -/
theorem reads_read1_iff {k : Bytes → P α} {a : Bytes} {v : α} :
    Reads (.read 1 k) a v ↔ ∃ t l, a = t :: l ∧ Reads (k [t]) l v := by
  rw [reads_read_iff]
  cases a with
  | nil => exact ⟨fun h => absurd h.1 (by decide), fun ⟨_, _, h, _⟩ => nomatch h⟩
  | cons t l => exact ⟨fun h => ⟨t, l, rfl, h.2⟩, fun ⟨_, _, e, h⟩ => by cases e; exact ⟨by simp, h⟩⟩

/-! ### what a decoder returns on byte input, and `map` -/

/-- on byte input, whatever `p` returns satisfies `Q` (what it leaves is bytes again, being a
    suffix of the input) -/
def Ens {α : Type} (p : P α) (Q : α → Prop) : Prop :=
  ∀ bs v r, run p bs = some (v, r) → WFB bs → Q v

/-- … which may be read off what `p` accepts -/
theorem Ens.of_reads {α : Type} {p : P α} {Q : α → Prop} (h : ∀ a v, Reads p a v → WFB a → Q v) :
    Ens p Q := fun bs v r hr hb => by
  obtain ⟨a, rfl, ha⟩ := run_eq_some_iff.mp hr
  exact h a v ha (WFB_append.mp hb).1

theorem Ens.pure {α : Type} {Q : α → Prop} {a : α} (h : Q a) : Ens (.pure a) Q := by
  intro bs v r hr _; cases hr; exact h

theorem Ens.fail {α : Type} {Q : α → Prop} : Ens (.fail : P α) Q := by
  intro bs v r hr; cases hr

theorem Ens.mono {α : Type} {p : P α} {Q R : α → Prop} (hp : Ens p Q) (h : ∀ a, Q a → R a) : Ens p R :=
  fun bs v r hr hb => h v (hp bs v r hr hb)

theorem Ens.bind {α β : Type} {p : P α} {k : α → P β} {Q : α → Prop} {R : β → Prop}
    (hp : Ens p Q) (hk : ∀ a, Q a → Ens (k a) R) : Ens (p.bind k) R := .of_reads fun a v ha hw => by
  obtain ⟨b, c, x, rfl, hb, hc⟩ := reads_bind_iff.mp ha
  obtain ⟨wb, wc⟩ := WFB_append.mp hw
  exact hk x (hp _ _ _ hb.nil wb) _ _ _ hc.nil wc

theorem Ens.map {α β : Type} {p : P α} {g : α → β} {Q : α → Prop} {R : β → Prop}
    (hp : Ens p Q) (hg : ∀ a, Q a → R (g a)) : Ens (p.map g) R :=
  hp.bind fun a ha => .pure (hg a ha)

theorem Ens.read {α : Type} {n : Nat} {k : Bytes → P α} {Q : α → Prop}
    (h : ∀ b, Ens (k b) Q) : Ens (.read n k) Q := .of_reads fun _ _ ha hw =>
  h _ _ _ _ (reads_read_iff.mp ha).2.nil fun x hx => hw x (List.mem_of_mem_drop hx)

theorem run_map {α β : Type} (g : α → β) (p : P α) (bs : Bytes) :
    run (p.map g) bs = (run p bs).map fun x => (g x.1, x.2) := by
  unfold map; rw [run_bind]; cases run p bs <;> rfl

theorem run_map_some {α β : Type} {p : P α} {bs r : Bytes} {a : α} (g : α → β)
    (h : run p bs = some (a, r)) : run (p.map g) bs = some (g a, r) := by
  rw [run_map, h]; rfl

theorem map_ret {α β : Type} {p : P α} {g : α → β} {bs r : Bytes} {v : β}
    (h : run (p.map g) bs = some (v, r)) : ∃ a, g a = v := by
  rw [run_map] at h
  obtain ⟨x, -, hx⟩ := Option.map_eq_some_iff.mp h
  exact ⟨x.1, (Prod.mk.inj hx).1⟩

theorem bind_ret {α β : Type} {p : P α} {k : α → P β} {bs : Bytes} {x : β × Bytes}
    (h : run (p.bind k) bs = some x) : ∃ a r, run (k a) r = some x := by
  rw [run_bind] at h
  split at h
  · cases h
  · exact ⟨_, _, h⟩

end P

/-! ### tables: what `List.lookup` and `List.find?` find when the keys are distinct; an array slot
    after a bounds-checked write -/

namespace Golib

theorem mem_of_lookup {α β : Type} [BEq α] [LawfulBEq α] {l : List (α × β)} {a : α} {b : β}
    (h : l.lookup a = some b) : (a, b) ∈ l := by
  obtain ⟨l₁, l₂, rfl, _⟩ := List.lookup_eq_some_iff.mp h
  exact List.mem_append_right _ List.mem_cons_self

/-- in a list with distinct keys every entry is the one its key finds -/
theorem lookup_of_mem_nodup {α β : Type} [BEq α] [LawfulBEq α] {l : List (α × β)} (hn : (l.map (·.1)).Nodup)
    {a : α} {b : β} (h : (a, b) ∈ l) : l.lookup a = some b := by
  obtain ⟨l₁, l₂, rfl⟩ := List.append_of_mem h
  rw [List.map_append, List.nodup_append] at hn
  exact List.lookup_eq_some_iff.mpr ⟨l₁, l₂, rfl, fun p hp => bne_iff_ne.mpr fun e =>
    hn.2.2 _ (List.mem_map_of_mem hp) _ List.mem_cons_self e.symm⟩

/-- … and searching for the key of an entry finds that entry, whatever function names the key -/
theorem find?_key {α β : Type} [DecidableEq β] (g : α → β) (l : List α) (hn : (l.map g).Nodup) (a : α) (ha : a ∈ l) :
    l.find? (g · == g a) = some a := by
  induction l with
  | nil => cases ha
  | cons b l ih =>
    rw [List.map_cons, List.nodup_cons] at hn
    rw [List.find?_cons]
    rcases List.mem_cons.mp ha with rfl | ha
    · rw [beq_self_eq_true]
    · have : (g b == g a) = false := beq_eq_false_iff_ne.mpr fun e => hn.1 (e ▸ List.mem_map_of_mem ha)
      rw [this]; exact ih hn.2 ha

/-- … so the key function is injective on the list -/
theorem eq_of_nodup_map {α β : Type} [DecidableEq β] (g : α → β) (l : List α) (hn : (l.map g).Nodup) (a b : α)
    (ha : a ∈ l) (hb : b ∈ l) (h : g a = g b) : a = b :=
  Option.some.inj ((find?_key g l hn a ha).symm.trans (h ▸ find?_key g l hn b hb))

theorem nodup_concat_iff {α : Type} {o : List α} {k : α} : (o ++ [k]).Nodup ↔ o.Nodup ∧ k ∉ o := by
  rw [List.nodup_append]
  constructor
  · rintro ⟨h1, _, h3⟩
    exact ⟨h1, fun hk => h3 k hk k (by simp) rfl⟩
  · rintro ⟨h1, h2⟩
    refine ⟨h1, by simp, ?_⟩
    intro a ha b hb
    simp at hb; subst hb
    intro e; subst e; exact h2 ha

/-- reading a slot after a write that is dropped when it is out of bounds -/
theorem getD_setIfInBounds {α : Type} (xs : Array α) (i j : Nat) (a d : α) :
    (xs.setIfInBounds i a).getD j d = if i = j ∧ i < xs.size then a else xs.getD j d := by
  simp only [Array.getD_eq_getD_getElem?, Array.getElem?_setIfInBounds]
  by_cases h : i = j
  · subst h
    by_cases h2 : i < xs.size <;> simp [h2]
  · simp [h]

/-! ### bit fields of a natural number -/

/-- masking the field of `m` bits at position `k`: the digit, still in place -/
theorem and_mask (x m k : Nat) : x &&& (2 ^ m - 1) * 2 ^ k = x / 2 ^ k % 2 ^ m * 2 ^ k := by
  apply Nat.eq_of_testBit_eq
  intro i
  rw [Nat.testBit_and, Nat.testBit_mul_two_pow, Nat.testBit_mul_two_pow, Nat.testBit_two_pow_sub_one,
    Nat.testBit_mod_two_pow, Nat.testBit_div_two_pow]
  by_cases h : k ≤ i
  · have : i - k + k = i := by omega
    simp [h, this, Bool.and_comm]
  · simp [h]

/-- a value above bit `k` and a value below it: `|` is `+` (core's `Nat.shiftLeft_add_eq_or_of_lt` for a
    multiple of `2^k` that is not written as a shift) -/
theorem or_disjoint (k a b : Nat) (ha : a % 2 ^ k = 0) (hb : b < 2 ^ k) : a ||| b = a + b := by
  have := Nat.shiftLeft_add_eq_or_of_lt (i := k) hb (a / 2 ^ k)
  rw [Nat.shiftLeft_eq] at this
  have e : a / 2 ^ k * 2 ^ k = a := by
    have := Nat.div_add_mod a (2 ^ k)
    rw [ha, Nat.add_zero, Nat.mul_comm] at this
    exact this
  rw [e] at this
  exact this.symm

/-- bit patterns with no bit in common: `+` is `|` -/
theorem add_eq_or_of_and_eq_zero (a b : Nat) (h : a &&& b = 0) : a + b = a ||| b := by
  have hw : a + b < 2 ^ (a + b) := Nat.lt_two_pow_self
  have ha : a < 2 ^ (a + b) := by omega
  have hb : b < 2 ^ (a + b) := by omega
  have h0 : BitVec.ofNat (a + b) a &&& BitVec.ofNat (a + b) b = 0#(a + b) := by
    apply BitVec.eq_of_toNat_eq
    rw [BitVec.toNat_and, BitVec.toNat_ofNat, BitVec.toNat_ofNat, Nat.mod_eq_of_lt ha, Nat.mod_eq_of_lt hb, h]
    rfl
  have := congrArg BitVec.toNat (BitVec.add_eq_or_of_and_eq_zero _ _ h0)
  rwa [BitVec.toNat_add, BitVec.toNat_or, BitVec.toNat_ofNat, BitVec.toNat_ofNat, Nat.mod_eq_of_lt ha,
    Nat.mod_eq_of_lt hb, Nat.mod_eq_of_lt hw] at this

end Golib
