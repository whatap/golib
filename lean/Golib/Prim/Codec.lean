/-
  Golib.Prim.Codec — CodeModel of io.DataOutputX / io.DataInputX.

  Every `enc*` follows the corresponding `Write*` of DataOutputX.go, every
  `dec*` the corresponding `Read*` of DataInputX.go (including the reader's
  `default → 8 bytes` arm of ReadDecimal and the signed 16-bit array count).
  Decoders are programs of the decoder monad `P` (Golib.Basic), so locality
  and prefix-failure hold for them by construction.  Beside the round trips stand what each
  reader accepts (`reads_*_iff`, `decBlob_post`), what a successful run on bytes returns
  (`ens_*`) and how many bytes it consumes at least (`ConsumesAtLeast`).
-/
import Golib.Prim.Int

namespace Prim

def rdU (w : Nat) : P Nat := .read w (fun bs => .pure (unbeN bs))
def rdI (w : Nat) : P Int := .read w (fun bs => .pure (decI w bs))
/-- `ReadBool`: one byte, true iff it equals 1 -/
def rdBool : P Bool := .read 1 (fun bs => .pure (bs.headD 0 == 1))
def encBool (b : Bool) : Bytes := [if b then 1 else 0]

theorem run_rdU_bytes (w : Nat) (bs r : Bytes) (h : bs.length = w) :
    P.run (rdU w) (bs ++ r) = some (unbeN bs, r) := P.reads_read_pure_iff.mpr ⟨h, rfl⟩ r

theorem run_rdI_bytes (w : Nat) (bs r : Bytes) (h : bs.length = w) :
    P.run (rdI w) (bs ++ r) = some (decI w bs, r) := P.reads_read_pure_iff.mpr ⟨h, rfl⟩ r

theorem run_rdU (w n : Nat) (r : Bytes) (h : n < 256 ^ w) :
    P.run (rdU w) (beN w n ++ r) = some (n, r) := by
  rw [run_rdU_bytes w _ r (beN_length w n), unbeN_beN_of_lt w n h]

theorem run_rdI (w : Nat) (v : Int) (r : Bytes) (h : inRange w v) :
    P.run (rdI w) (encI w v ++ r) = some (v, r) := by
  rw [run_rdI_bytes w _ r (encI_length w v), decI_encI w v h]

theorem run_rdBool (b : Bool) (r : Bytes) : P.run rdBool (encBool b ++ r) = some (b, r) := by
  cases b <;> rfl

def rdBytes (n : Nat) : P Bytes := .read n (fun bs => .pure bs)

theorem run_rdBytes (bs r : Bytes) : P.run (rdBytes bs.length) (bs ++ r) = some (bs, r) :=
  P.reads_read_pure_iff.mpr ⟨rfl, rfl⟩ r

/-! ### little-endian read helpers (ToShortLittle, ToUshortLittle, ToIntLittle, ToUintLittle,
    ToLongLittle, ToUlongLittle): signed and unsigned reads of 2/4/8 reversed bytes -/

def rdILittle (w : Nat) : P Int := .read w (fun bs => .pure (decILittle w bs))
def rdULittle (w : Nat) : P Nat := .read w (fun bs => .pure (unleN bs))

theorem run_rdILittle_bytes (w : Nat) (bs r : Bytes) (h : bs.length = w) :
    P.run (rdILittle w) (bs ++ r) = some (decILittle w bs, r) := P.reads_read_pure_iff.mpr ⟨h, rfl⟩ r

theorem run_rdULittle_bytes (w : Nat) (bs r : Bytes) (h : bs.length = w) :
    P.run (rdULittle w) (bs ++ r) = some (unleN bs, r) := P.reads_read_pure_iff.mpr ⟨h, rfl⟩ r

section
variable {w n : Nat} {a : Bytes}

theorem reads_rdU_iff {v : Nat} : P.Reads (rdU w) a v ↔ a.length = w ∧ v = unbeN a := P.reads_read_pure_iff
theorem reads_rdI_iff {v : Int} : P.Reads (rdI w) a v ↔ a.length = w ∧ v = decI w a := P.reads_read_pure_iff
theorem reads_rdBytes_iff {v : Bytes} : P.Reads (rdBytes n) a v ↔ a.length = n ∧ v = a := P.reads_read_pure_iff
end

/-- a signed count, a guard on it, then a body that is told the count: the shape of every
    length-prefixed read -/
theorem reads_counted_iff {cnt : P Int} {g : Int → Prop} [DecidablePred g] {body : Nat → P α}
    {a : Bytes} {v : α} :
    P.Reads (P.bind cnt fun n => if g n then .fail else body n.toNat) a v ↔
      ∃ l c n, a = l ++ c ∧ P.Reads cnt l n ∧ ¬ g n ∧ P.Reads (body n.toNat) c v := by
  rw [P.reads_bind_iff]
  refine exists_congr fun l => exists_congr fun c => exists_congr fun n => and_congr_right fun _ =>
    and_congr_right fun _ => ?_
  split
  · exact ⟨fun h => absurd h P.not_reads_fail, fun h => absurd ‹g n› h.1⟩
  · exact ⟨fun h => ⟨‹_›, h⟩, fun h => h.2⟩

theorem reads_counted {cnt : P Int} {g : Int → Prop} [DecidablePred g] {body : Nat → P α} {l c : Bytes}
    {n : Nat} {v : α} (hc : P.Reads cnt l n) (hg : ¬ g n) (hb : P.Reads (body n) c v) :
    P.Reads (P.bind cnt fun k => if g k then .fail else body k.toNat) (l ++ c) v :=
  reads_counted_iff.mpr ⟨l, c, n, rfl, hc, hg, by rwa [Int.toNat_natCast]⟩

def encDecimal (v : Int) : Bytes :=
  if v = 0 then [0]
  else if -128 ≤ v ∧ v ≤ 127 then 1 :: encI 1 v
  else if -32768 ≤ v ∧ v ≤ 32767 then 2 :: encI 2 v
  else if -8388608 ≤ v ∧ v ≤ 8388607 then 3 :: encI 3 v
  else if -2147483648 ≤ v ∧ v ≤ 2147483647 then 4 :: encI 4 v
  else if -549755813888 ≤ v ∧ v ≤ 549755813887 then 5 :: encI 5 v
  else 8 :: encI 8 v

def decDecimalLen (n : Nat) : P Int :=
  match n with
  | 0 => .pure 0
  | 1 => rdI 1
  | 2 => rdI 2
  | 3 => rdI 3
  | 4 => rdI 4
  | 5 => rdI 5
  | _ => rdI 8

def decDecimal : P Int := .read 1 (fun b => decDecimalLen (b.headD 0))

/-- width class of a value: the number of payload bytes of the shortest form holding it -/
def leastClass (v : Int) : Nat :=
  if v = 0 then 0
  else if inRange 1 v then 1
  else if inRange 2 v then 2
  else if inRange 3 v then 3
  else if inRange 4 v then 4
  else if inRange 5 v then 5
  else 8

/-- "a `c`-byte payload can hold `v`" for the seven classes of the format -/
def fits (c : Nat) (v : Int) : Prop := if c = 0 then v = 0 else inRange c v

theorem fits_zero (v : Int) : fits 0 v ↔ v = 0 := Iff.rfl

theorem fits_iff_inRange {c : Nat} (hc : c ≠ 0) (v : Int) : fits c v ↔ inRange c v := by
  unfold fits; rw [if_neg hc]

/-- case analysis along the chain of `leastClass`: each class comes with the test that selects it
    and the failed test of the class before -/
theorem leastClass_cases {motive : Nat → Prop} (v : Int)
    (c0 : v = 0 → motive 0) (c1 : v ≠ 0 → inRange 1 v → motive 1)
    (c2 : ¬ inRange 1 v → inRange 2 v → motive 2) (c3 : ¬ inRange 2 v → inRange 3 v → motive 3)
    (c4 : ¬ inRange 3 v → inRange 4 v → motive 4) (c5 : ¬ inRange 4 v → inRange 5 v → motive 5)
    (c8 : ¬ inRange 5 v → motive 8) : motive (leastClass v) :=
  iteInduction c0 fun h0 => iteInduction (c1 h0) fun h1 => iteInduction (c2 h1) fun h2 => iteInduction (c3 h2) fun h3 =>
    iteInduction (c4 h3) fun h4 => iteInduction (c5 h4) c8

theorem leastClass_mem (v : Int) : leastClass v ∈ [0, 1, 2, 3, 4, 5, 8] :=
  leastClass_cases v (fun _ => by decide) (fun _ _ => by decide) (fun _ _ => by decide)
    (fun _ _ => by decide) (fun _ _ => by decide) (fun _ _ => by decide) (fun _ => by decide)

theorem leastClass_fits (v : Int) (h : inRange 8 v) : fits (leastClass v) v :=
  leastClass_cases (motive := (fits · v)) v id (fun _ h => h) (fun _ h => h) (fun _ h => h)
    (fun _ h => h) (fun _ h => h) (fun _ => h)

/-- a class holds every value the classes below it hold (`inRange_mono`), so the first test of
    the chain that passes names the least class that fits -/
theorem leastClass_le_of_fits (v : Int) (c : Nat) (hc : c ∈ [0, 1, 2, 3, 4, 5, 8]) (hf : fits c v) :
    leastClass v ≤ c := by
  cases c with
  | zero => rw [(fits_zero v).mp hf]; exact Nat.le_refl 0
  | succ c =>
    have hr := (fits_iff_inRange (Nat.succ_ne_zero c) v).mp hf
    have lt : ∀ k, ¬ inRange k v → k < c + 1 := fun k hk =>
      Nat.lt_of_not_le (fun hle => hk (inRange_mono hle hr))
    refine leastClass_cases (motive := (· ≤ c + 1)) v (fun _ => Nat.zero_le _)
      (fun _ _ => Nat.le_add_left 1 c) (fun h _ => lt 1 h) (fun h _ => lt 2 h) (fun h _ => lt 3 h)
      (fun h _ => lt 4 h) (fun h => ?_)
    have := lt 5 h
    simp only [List.mem_cons, List.mem_nil_iff, or_false] at hc
    omega

/-- the writer picks the least class: the length byte names it, the payload has its width
    (for 0 the payload is empty) -/
theorem encDecimal_eq (v : Int) : encDecimal v = leastClass v :: encI (leastClass v) v := by
  by_cases h0 : v = 0
  · subst h0; rfl
  · unfold encDecimal leastClass
    simp only [if_neg h0, inRange_1, inRange_2, inRange_3, inRange_4, inRange_5,
      apply_ite (fun k => k :: encI k v)]

theorem encDecimal_length (v : Int) : (encDecimal v).length = 1 + leastClass v := by
  rw [encDecimal_eq, List.length_cons, encI_length, Nat.add_comm]

theorem encDecimal_head (v : Int) : (encDecimal v).headD 0 = leastClass v := by
  rw [encDecimal_eq]; rfl

theorem encDecimal_WFB (v : Int) : WFB (encDecimal v) := by
  rw [encDecimal_eq]
  exact WFB_cons.mpr ⟨(by decide : ∀ c ∈ [0, 1, 2, 3, 4, 5, 8], c < 256) _ (leastClass_mem v), encI_WFB _ _⟩

/-- the reader accepts each of the seven forms, whether or not it is the shortest for the value -/
theorem run_decDecimal_class (c : Nat) (hc : c ∈ [0, 1, 2, 3, 4, 5, 8]) (v : Int) (r : Bytes)
    (h : fits c v) : P.run decDecimal (c :: encI c v ++ r) = some (v, r) := by
  unfold decDecimal
  rw [List.cons_append, P.run_read1]
  simp only [List.mem_cons, List.mem_nil_iff, or_false] at hc
  rcases hc with rfl | rfl | rfl | rfl | rfl | rfl | rfl
  · rw [(fits_zero v).mp h]; rfl
  all_goals exact run_rdI _ v r h

theorem run_decDecimal (v : Int) (r : Bytes) (h : inRange 8 v) :
    P.run decDecimal (encDecimal v ++ r) = some (v, r) := by
  rw [encDecimal_eq]
  exact run_decDecimal_class _ (leastClass_mem v) v r (leastClass_fits v h)

/-- a decimal is never empty: its first byte is its length class (at most 8, which leaves 9 free for the marker
    of the long pack header; 0 only for the value 0, which has no payload) -/
theorem encDecimal_cons (v : Int) :
    ∃ c tl, encDecimal v = c :: tl ∧ c ≤ 8 ∧ (c = 0 → v = 0 ∧ tl = []) :=
  ⟨_, _, encDecimal_eq v, (by decide : ∀ c ∈ [0, 1, 2, 3, 4, 5, 8], c ≤ 8) _ (leastClass_mem v), fun h =>
    ⟨leastClass_cases (motive := (· = 0 → v = 0)) v (fun h _ => h) (fun _ _ => nofun) (fun _ _ => nofun)
      (fun _ _ => nofun) (fun _ _ => nofun) (fun _ _ => nofun) (fun _ => nofun) h,
     List.eq_nil_of_length_eq_zero (by rw [encI_length, h])⟩⟩

/-- … and the rest decodes by `decDecimalLen` -/
theorem encDecimal_split (v : Int) (h : inRange 8 v) :
    ∃ c tl, encDecimal v = c :: tl ∧ c ≤ 8 ∧ (c = 0 → v = 0 ∧ tl = []) ∧
      ∀ r, P.run (decDecimalLen c) (tl ++ r) = some (v, r) := by
  obtain ⟨c, tl, he, hc, h0⟩ := encDecimal_cons v
  refine ⟨c, tl, he, hc, h0, fun r => ?_⟩
  have hr := run_decDecimal v r h
  rw [he] at hr
  unfold decDecimal at hr
  rw [List.cons_append, P.run_read1] at hr
  simpa using hr

/-- `WriteShortBytes` / `WriteTextShortLength`: 16-bit length (written as int16, read unsigned) -/
def encBytes16 (bs : Bytes) : Bytes := beN 2 bs.length ++ bs
def decBytes16 : P Bytes := P.bind (rdU 2) (fun n => rdBytes n)

theorem run_decBytes16 (bs r : Bytes) (h : bs.length ≤ 65535) :
    P.run decBytes16 (encBytes16 bs ++ r) = some (bs, r) := by
  unfold decBytes16 encBytes16
  rw [List.append_assoc, P.run_bind_some _ _ _ _ _ (run_rdU 2 bs.length (bs ++ r) (by omega))]
  exact run_rdBytes bs r

/-- `WriteIntBytes` / `ReadIntBytes`: signed 32-bit length -/
def encBytes32 (bs : Bytes) : Bytes := encI 4 bs.length ++ bs
def decBytes32 : P Bytes := P.bind (rdI 4) (fun n => if n < 0 then .fail else rdBytes n.toNat)

theorem run_decBytes32 (bs r : Bytes) (h : bs.length < 2147483648) :
    P.run decBytes32 (encBytes32 bs ++ r) = some (bs, r) :=
  reads_counted (g := (· < 0)) (fun r => run_rdI 4 _ r ((inRange_4 _).mpr (by omega))) (by omega)
    (run_rdBytes bs) r

def encBlob (bs : Bytes) : Bytes :=
  let n := bs.length
  if n = 0 then [0]
  else if n ≤ 253 then n :: bs
  else if n ≤ 65535 then 255 :: (beN 2 n ++ bs)
  else 254 :: (encI 4 n ++ bs)

def decBlob : P Bytes :=
  .read 1 (fun b =>
    match b.headD 0 with
    | 255 => P.bind (rdU 2) (fun n => rdBytes n)
    | 254 => P.bind (rdI 4) (fun n => if n < 0 then .fail else rdBytes n.toNat)
    | 0 => .pure []
    | n => rdBytes n)

/-- the four forms of a blob, each with the tests that select it -/
theorem encBlob_cases {motive : Bytes → Prop} (bs : Bytes)
    (c0 : bs.length = 0 → motive [0]) (c1 : bs.length ≠ 0 → bs.length ≤ 253 → motive (bs.length :: bs))
    (c2 : ¬ bs.length ≤ 253 → bs.length ≤ 65535 → motive (255 :: (beN 2 bs.length ++ bs)))
    (c3 : ¬ bs.length ≤ 65535 → motive (254 :: (encI 4 bs.length ++ bs))) : motive (encBlob bs) :=
  iteInduction c0 fun h0 => iteInduction (c1 h0) fun h1 => iteInduction (c2 h1) c3

theorem run_decBlob (bs r : Bytes) (h : bs.length < 2147483648) :
    P.run decBlob (encBlob bs ++ r) = some (bs, r) := by
  refine encBlob_cases (motive := fun e => P.run decBlob (e ++ r) = some (bs, r)) bs
    (fun h0 => ?_) (fun h0 h1 => ?_) (fun _ h2 => (P.run_read1 _ 255 _).trans (run_decBytes16 bs r h2))
    fun _ => (P.run_read1 _ 254 _).trans (run_decBytes32 bs r h)
  · rw [List.eq_nil_of_length_eq_zero h0]; rfl
  · rw [List.cons_append, decBlob, P.run_read1]
    simp only [List.headD_cons]
    split
    · omega
    · omega
    · rename_i e; exact absurd e h0
    · exact run_rdBytes bs r

theorem encBlob_WFB (bs : Bytes) (h : WFB bs) : WFB (encBlob bs) :=
  encBlob_cases bs (fun _ => by decide) (fun _ h1 => WFB_cons.mpr ⟨by omega, h⟩)
    (fun _ _ => WFB_cons.mpr ⟨by decide, WFB_append.mpr ⟨beN_WFB _ _, h⟩⟩)
    fun _ => WFB_cons.mpr ⟨by decide, WFB_append.mpr ⟨encI_WFB _ _, h⟩⟩

/-! ### arrays: signed 16-bit count, then the elements -/

def encMany (enc : α → Bytes) : List α → Bytes
  | [] => []
  | x :: xs => enc x ++ encMany enc xs

theorem encMany_eq_flatMap {α : Type} (enc : α → Bytes) (xs : List α) : encMany enc xs = xs.flatMap enc := by
  induction xs with
  | nil => rfl
  | cons x xs ih => rw [encMany, ih, List.flatMap_cons]

theorem encMany_congr {α : Type} (f g : α → Bytes) (xs : List α) (h : ∀ x ∈ xs, f x = g x) :
    encMany f xs = encMany g xs := by
  rw [encMany_eq_flatMap, encMany_eq_flatMap, List.flatMap_def, List.flatMap_def, List.map_congr_left h]

/-- read `n` elements (right-nested, accumulator: linear time in the driver) -/
def decManyAcc (dec : P α) : Nat → List α → P (List α)
  | 0, acc => .pure acc.reverse
  | n+1, acc => P.bind dec (fun x => decManyAcc dec n (x :: acc))

def decMany (dec : P α) (n : Nat) : P (List α) := decManyAcc dec n []

/-- what `n` element reads accept: `n` pieces, each accepted by the element reader -/
theorem reads_decManyAcc_iff {dec : P α} {n : Nat} {acc : List α} {a : Bytes} {xs : List α} :
    P.Reads (decManyAcc dec n acc) a xs ↔
      ∃ ps : List (Bytes × α), ps.length = n ∧ (∀ p ∈ ps, P.Reads dec p.1 p.2) ∧
        a = (ps.map (·.1)).flatten ∧ xs = acc.reverse ++ ps.map (·.2) := by
  induction n generalizing acc a with
  | zero =>
    simp only [decManyAcc, P.reads_pure_iff, List.length_eq_zero_iff]
    exact ⟨fun ⟨ha, hx⟩ => ⟨[], rfl, nofun, ha, by rw [hx]; simp⟩,
      fun ⟨ps, e, _, ha, hx⟩ => by subst e; exact ⟨ha, by rw [hx]; simp⟩⟩
  | succ n ih =>
    simp only [decManyAcc, P.reads_bind_iff, ih]
    constructor
    · rintro ⟨b, c, x, rfl, hx, ps, rfl, hps, rfl, rfl⟩
      exact ⟨(b, x) :: ps, rfl, List.forall_mem_cons.mpr ⟨hx, hps⟩, rfl, by simp⟩
    · rintro ⟨ps, hl, hps, rfl, rfl⟩
      cases ps with
      | nil => cases hl
      | cons p ps =>
        exact ⟨p.1, _, p.2, rfl, hps p (by simp), ps, Nat.succ.inj hl, fun q hq => hps q (by simp [hq]),
          rfl, by simp⟩

theorem reads_decMany_iff {dec : P α} {n : Nat} {a : Bytes} {xs : List α} :
    P.Reads (decMany dec n) a xs ↔
      ∃ ps : List (Bytes × α), ps.length = n ∧ (∀ p ∈ ps, P.Reads dec p.1 p.2) ∧
        a = (ps.map (·.1)).flatten ∧ xs = ps.map (·.2) :=
  reads_decManyAcc_iff

theorem run_decMany (enc : α → Bytes) (dec : P α) (wf : α → Prop)
    (rt : ∀ x r, wf x → P.run dec (enc x ++ r) = some (x, r))
    (xs : List α) (r : Bytes) (h : ∀ x ∈ xs, wf x) :
    P.run (decMany dec xs.length) (encMany enc xs ++ r) = some (xs, r) :=
  reads_decMany_iff.mpr ⟨xs.map fun x => (enc x, x), List.length_map _,
    fun p hp => by obtain ⟨x, hx, rfl⟩ := List.mem_map.mp hp; exact fun r => rt x r (h x hx),
    by rw [encMany_eq_flatMap, List.map_map]; rfl, by rw [List.map_map]; exact (List.map_id _).symm⟩ r

def encArr (enc : α → Bytes) (xs : List α) : Bytes := encI 2 xs.length ++ encMany enc xs
def decArr (dec : P α) : P (List α) :=
  P.bind (rdI 2) (fun n => if n < 0 then .fail else decMany dec n.toNat)

theorem run_decArr (enc : α → Bytes) (dec : P α) (wf : α → Prop)
    (rt : ∀ x r, wf x → P.run dec (enc x ++ r) = some (x, r))
    (xs : List α) (r : Bytes) (hl : xs.length ≤ 32767) (h : ∀ x ∈ xs, wf x) :
    P.run (decArr dec) (encArr enc xs ++ r) = some (xs, r) :=
  reads_counted (g := (· < 0)) (fun r => run_rdI 2 _ r ((inRange_2 _).mpr (by omega))) (by omega)
    (fun r => run_decMany enc dec wf rt xs r h) r

/-- an array longer than 32767 elements is rejected by the reader (the count goes negative) -/
theorem decArr_too_long (enc : α → Bytes) (dec : P α) (xs : List α) (r : Bytes)
    (h1 : 32767 < xs.length) (h2 : xs.length ≤ 65535) :
    P.run (decArr dec) (encArr enc xs ++ r) = none := by
  unfold decArr encArr
  have hr : inRange 2 ((xs.length : Int) - 65536) := (inRange_2 _).mpr (by omega)
  rw [← encI_sub_modulus 2, modulus_2, List.append_assoc, P.run_bind_some _ _ _ _ _ (run_rdI 2 _ _ hr)]
  have : ((xs.length : Int) - 65536 < 0) := by omega
  simp [this]

/-! ### what a successful run on bytes returns (the ranges `Value.WFV` asks of a decoded value) -/

theorem run_rest_WFB {α : Type} (p : P α) (bs : Bytes) (v : α) (r : Bytes)
    (h : P.run p bs = some (v, r)) (hb : WFB bs) : WFB r := by
  obtain ⟨a, rfl, _⟩ := P.run_eq_some_iff.mp h
  exact (WFB_append.mp hb).2

theorem ens_rdI (w : Nat) : (rdI w).Ens (inRange w) := .of_reads fun a v ha hw => by
  obtain ⟨rfl, rfl⟩ := reads_rdI_iff.mp ha
  exact ofU_inRange _ _ (unbeN_lt a hw)

theorem ens_rdU (w : Nat) : (rdU w).Ens (· < 256 ^ w) := .of_reads fun a v ha hw => by
  obtain ⟨rfl, rfl⟩ := reads_rdU_iff.mp ha
  exact unbeN_lt a hw

theorem ens_rdBytes (n : Nat) : (rdBytes n).Ens fun v => WFB v ∧ v.length = n := .of_reads fun a v ha hw => by
  obtain ⟨rfl, rfl⟩ := reads_rdBytes_iff.mp ha
  exact ⟨hw, rfl⟩

theorem ens_decDecimal : decDecimal.Ens (inRange 8) := .of_reads fun a v ha hw => by
  obtain ⟨c, l, rfl, hl⟩ := P.reads_read1_iff.mp ha
  unfold decDecimalLen at hl
  split at hl
  · obtain ⟨-, rfl⟩ := P.reads_pure_iff.mp hl; decide
  all_goals exact inRange_mono (by decide) (ens_rdI _ l v [] hl.nil (WFB_cons.mp hw).2)

/-- what `decBlob` accepts, in each of its four forms: the payload lies behind at least one more
    byte, and on bytes it is bytes, of a length an int32 holds -/
theorem decBlob_post {a v : Bytes} (h : P.Reads decBlob a v) :
    v.length + 1 ≤ a.length ∧ (WFB a → WFB v ∧ v.length < 2147483648) := by
  obtain ⟨t, l, rfl, ht⟩ := P.reads_read1_iff.mp h
  rw [List.headD_cons] at ht
  split at ht
  · obtain ⟨b, c, n, rfl, hn, hc⟩ := P.reads_bind_iff.mp ht
    obtain ⟨rfl, rfl⟩ := reads_rdBytes_iff.mp hc
    refine ⟨by simp, fun hw => ?_⟩
    obtain ⟨hb, hv⟩ := WFB_append.mp (WFB_cons.mp hw).2
    have := ens_rdU 2 b _ [] hn.nil hb
    exact ⟨hv, by omega⟩
  · obtain ⟨b, c, n, rfl, hn, hg, hc⟩ := reads_counted_iff.mp ht
    obtain ⟨e, rfl⟩ := reads_rdBytes_iff.mp hc
    refine ⟨by simp, fun hw => ?_⟩
    obtain ⟨hb, hv⟩ := WFB_append.mp (WFB_cons.mp hw).2
    have := (inRange_4 n).mp (ens_rdI 4 b n [] hn.nil hb)
    exact ⟨hv, by omega⟩
  · obtain ⟨rfl, rfl⟩ := P.reads_pure_iff.mp ht
    exact ⟨by simp, fun _ => ⟨WFB_nil, by simp⟩⟩
  · obtain ⟨e, rfl⟩ := reads_rdBytes_iff.mp ht
    exact ⟨by simp, fun hw => ⟨(WFB_cons.mp hw).2, by have := (WFB_cons.mp hw).1; omega⟩⟩

theorem ens_decBlob : decBlob.Ens fun v => WFB v ∧ v.length < 2147483648 :=
  .of_reads fun _ _ ha => (decBlob_post ha).2

theorem ens_decArr {α : Type} {dec : P α} {Q : α → Prop} (h : dec.Ens Q) :
    (decArr dec).Ens fun xs => (∀ x ∈ xs, Q x) ∧ xs.length ≤ 32767 := .of_reads fun a xs ha hw => by
  obtain ⟨b, c, n, rfl, hn, hg, hc⟩ := reads_counted_iff.mp ha
  obtain ⟨ps, hl, hps, rfl, rfl⟩ := reads_decMany_iff.mp hc
  obtain ⟨hwb, hwc⟩ := WFB_append.mp hw
  have := (inRange_2 n).mp (ens_rdI 2 b n [] hn.nil hwb)
  refine ⟨fun x hx => ?_, by rw [List.length_map]; omega⟩
  obtain ⟨p, hp, rfl⟩ := List.mem_map.mp hx
  exact h _ _ _ (hps p hp).nil fun y hy => hwc y (List.mem_flatten.mpr ⟨p.1, List.mem_map_of_mem hp, hy⟩)

/-! ### how many bytes a successful read consumes at least (what `CheckCount` and the allocation
    guards count on) -/

/-- "every successful read of `dec` consumes at least `mb` bytes" -/
def ConsumesAtLeast (dec : P α) (mb : Nat) : Prop :=
  ∀ bs x r, P.run dec bs = some (x, r) → r.length + mb ≤ bs.length

theorem consumesAtLeast_iff {p : P α} {n : Nat} :
    ConsumesAtLeast p n ↔ ∀ a x, P.Reads p a x → n ≤ a.length := by
  constructor
  · intro h a x ha
    simpa using h a x [] ha.nil
  · intro h bs x r hr
    obtain ⟨a, rfl, ha⟩ := P.run_eq_some_iff.mp hr
    rw [List.length_append, Nat.add_comm]
    exact Nat.add_le_add_right (h a x ha) _

theorem consumes_read (w : Nat) (k : Bytes → P α) : ConsumesAtLeast (.read w k) w :=
  consumesAtLeast_iff.mpr fun _ _ h => (P.reads_read_iff.mp h).1

theorem ConsumesAtLeast.pure (x : α) : ConsumesAtLeast (.pure x) 0 :=
  consumesAtLeast_iff.mpr fun _ _ _ => Nat.zero_le _

theorem ConsumesAtLeast.bind {p : P α} {f : α → P β} {a b : Nat}
    (hp : ConsumesAtLeast p a) (hf : ∀ x, ConsumesAtLeast (f x) b) : ConsumesAtLeast (p.bind f) (a + b) :=
  consumesAtLeast_iff.mpr fun _ _ h => by
    obtain ⟨c, d, x, rfl, hc, hd⟩ := P.reads_bind_iff.mp h
    rw [List.length_append]
    exact Nat.add_le_add (consumesAtLeast_iff.mp hp c x hc) (consumesAtLeast_iff.mp (hf x) d _ hd)

/-- a reader that needs `n` bytes fails on fewer -/
theorem ConsumesAtLeast.short {p : P α} {n : Nat} (hp : ConsumesAtLeast p n) {bs : Bytes}
    (h : bs.length < n) : P.run p bs = none := by
  cases hr : P.run p bs with
  | none => rfl
  | some q => have := hp bs q.1 q.2 hr; omega

theorem decManyAcc_consumes (dec : P α) (mb : Nat) (hc : ConsumesAtLeast dec mb) (k : Nat) (acc : List α) :
    ConsumesAtLeast (decManyAcc dec k acc) (k * mb) := by
  induction k generalizing acc with
  | zero => rw [Nat.zero_mul]; exact .pure _
  | succ k ih => rw [Nat.succ_mul, Nat.add_comm (k * mb)]; exact hc.bind fun x => ih (x :: acc)

end Prim
