/-
  Golib.Prim.Api — the parts of io.DataOutputX / io.DataInputX that are not a typed write or its
  matching read:

    ReadBytes(sz)                     raw read with a *signed* size           rdBytesI
    CheckCount(count, minBytes)       the guard in front of every array read   checkCount, runArrGuarded
    ToX(buf, pos) / Get(buf,pos,sz)   a field embedded at an offset            getAt, fieldI …
    SetBytesX(buf, off, v) / SetBytes a field packed into a caller's buffer    setAt
    histories of one DataOutputX      typed writes, WriteBytes, Write(b,off,sz) and the three frame
                                      headers in any order (a header wraps what was written so far)
                                                                               WStep, Writer.step, specStep
-/
import Golib.Prim.Extra

namespace Prim

/-- `ReadBytes(sz)`: a negative size fails (the guard on a byte slice, `make` on a connection) -/
def rdBytesI (sz : Int) : P Bytes := if sz < 0 then .fail else rdBytes sz.toNat

/-- `CheckCount(count, minBytes)` on a byte slice with `avail` bytes left: passes iff
    `0 ≤ count ≤ avail / max(minBytes, 1)` -/
def checkCount (count minBytes : Int) (avail : Nat) : Bool :=
  let mb : Int := if minBytes < 1 then 1 else minBytes
  !(decide (count < 0) || decide ((avail : Int) / mb < count))

theorem checkCount_iff (count : Int) (mb avail : Nat) (hmb : 1 ≤ mb) :
    checkCount count mb avail = true ↔ 0 ≤ count ∧ count.toNat * mb ≤ avail := by
  have key : ∀ k : Nat, ¬ ((avail : Int) / mb < k) ↔ k * mb ≤ avail := fun k => by
    rw [← Int.natCast_ediv, Int.ofNat_lt, Nat.not_lt, Nat.le_div_iff_mul_le (by omega)]
  unfold checkCount
  simp only [if_neg (by omega : ¬ (mb : Int) < 1), Bool.not_eq_true', Bool.or_eq_false_iff,
    decide_eq_false_iff_not]
  constructor
  · intro ⟨h0, h2⟩
    obtain ⟨k, rfl⟩ := Int.eq_ofNat_of_zero_le (Int.not_lt.mp h0)
    exact ⟨Int.not_lt.mp h0, (key k).mp h2⟩
  · intro ⟨h0, h2⟩
    obtain ⟨k, rfl⟩ := Int.eq_ofNat_of_zero_le h0
    exact ⟨by omega, (key k).mpr h2⟩

/-- an array read as the Go code performs it on a byte slice: 16-bit count, `if sz == 0` shortcut,
    `CheckCount(sz, minBytes)`, then the elements -/
def runArrGuarded (dec : P α) (mb : Nat) (bs : Bytes) : Option (List α × Bytes) :=
  match P.run (rdI 2) bs with
  | none => none
  | some (n, r) =>
    if n = 0 then some ([], r)
    else if checkCount n mb r.length then P.run (decMany dec n.toNat) r else none

/-- the decimal-count arrays (`ReadDecimalArray`): decimal count, `CheckCount(sz, 1)`, the elements -/
def runDecArrGuarded (bs : Bytes) : Option (List Int × Bytes) :=
  match P.run decDecimal bs with
  | none => none
  | some (n, r) => if checkCount n 1 r.length then P.run (decMany decDecimal n.toNat) r else none

/-- behind the count, the guard and the sign test of the model are the same test: a count the
    guard rejects is negative, or the element reads would run out of bytes anyway -/
theorem guard_invisible (dec : P α) (mb : Nat) (hmb : 1 ≤ mb) (hc : ConsumesAtLeast dec mb)
    (n : Int) (r : Bytes) :
    (if checkCount n mb r.length then P.run (decMany dec n.toNat) r else none) =
      P.run (if n < 0 then .fail else decMany dec n.toNat) r := by
  have hcc := checkCount_iff n mb r.length hmb
  by_cases hneg : n < 0
  · rw [if_pos hneg, if_neg (fun h => absurd (hcc.mp h).1 (by omega))]; rfl
  rw [if_neg hneg]
  by_cases hg : checkCount n mb r.length = true
  · rw [if_pos hg]
  rw [if_neg hg]
  cases hd : P.run (decMany dec n.toNat) r with
  | none => rfl
  | some p => exact absurd (hcc.mpr ⟨by omega, by
      have := decManyAcc_consumes dec mb hc n.toNat [] r p.1 p.2 hd; omega⟩) hg

/-- **CheckCount is invisible**: on every input, well formed or not, the guarded array read is
    the model's unguarded `decArr` — the guard only rejects what the element reads would reject -/
theorem runArrGuarded_eq (dec : P α) (mb : Nat) (hmb : 1 ≤ mb) (hc : ConsumesAtLeast dec mb)
    (bs : Bytes) : runArrGuarded dec mb bs = P.run (decArr dec) bs := by
  unfold runArrGuarded decArr
  rw [P.run_bind]
  cases P.run (rdI 2) bs with
  | none => rfl
  | some p =>
    by_cases h0 : p.1 = 0
    · simp only [h0, if_true]; rfl
    · simp only [if_neg h0]; exact guard_invisible dec mb hmb hc p.1 p.2

/-! the element readers of the six typed arrays and of the decimal arrays consume what the guard counts -/

theorem consumes_rdI (w : Nat) : ConsumesAtLeast (rdI w) w := consumes_read w _
theorem consumes_rdU (w : Nat) : ConsumesAtLeast (rdU w) w := consumes_read w _
theorem consumes_decBlob : ConsumesAtLeast decBlob 1 := consumes_read 1 _
theorem consumes_decDecimal : ConsumesAtLeast decDecimal 1 := consumes_read 1 _

/-! ### an array read as the regenerated structure describes it (tie A: `Gen.C01.arrayReaders`)

  count reader, optional `if sz == 0` shortcut, optional `CheckCount(sz, mb)` (`mb = 0`: none),
  `make([]T, sz)` (panics for a negative size), then `sz` element reads. -/

/-- the model's array decoders, with the count decoder as a parameter:
    `decArr dec = decArrG (rdI 2) dec`, `decDecArr = decArrG decDecimal decDecimal` -/
def decArrG (cnt : P Int) (dec : P α) : P (List α) :=
  P.bind cnt (fun n => if n < 0 then .fail else decMany dec n.toNat)

theorem decArr_eq_decArrG (dec : P α) : decArr dec = decArrG (rdI 2) dec := rfl
theorem decDecArr_eq_decArrG : decDecArr = decArrG decDecimal decDecimal := rfl

def arrSemG (cnt : P Int) (zero : Bool) (mb : Nat) (dec : P α) (bs : Bytes) : Option (List α × Bytes) :=
  match P.run cnt bs with
  | none => none
  | some (n, r) =>
    if (zero && n == 0) = true then some ([], r)
    else if (mb != 0 && !(checkCount n mb r.length)) = true then none
    else if n < 0 then none
    else P.run (decMany dec n.toNat) r

/-- whatever the shortcut and whatever guard constant `mb ≤ w` the code uses (or none), the array
    read of the code is the model's array decoder, on every input -/
theorem arrSemG_eq (cnt : P Int) (dec : P α) (w : Nat) (hc : ConsumesAtLeast dec w) (zero : Bool)
    (mb : Nat) (hmb : mb ≤ w) (bs : Bytes) :
    arrSemG cnt zero mb dec bs = P.run (decArrG cnt dec) bs := by
  unfold arrSemG decArrG
  rw [P.run_bind]
  cases P.run cnt bs with
  | none => rfl
  | some p =>
    show (if (zero && p.1 == 0) = true then some ([], p.2) else
        if (mb != 0 && !(checkCount p.1 mb p.2.length)) = true then none else
        if p.1 < 0 then none else P.run (decMany dec p.1.toNat) p.2) =
      P.run (if p.1 < 0 then .fail else decMany dec p.1.toNat) p.2
    by_cases hA : (zero && p.1 == 0) = true
    · rw [if_pos hA, (beq_iff_eq.mp (Bool.and_eq_true_iff.mp hA).2 : p.1 = 0)]; rfl
    rw [if_neg hA]
    have e := apply_ite (P.run · p.2) (p.1 < 0) .fail (decMany dec p.1.toNat)
    by_cases h0 : mb = 0
    · subst h0; exact e.symm
    cases hcc : checkCount p.1 mb p.2.length
    · have g := guard_invisible dec mb (by omega) (fun bs x r hr => by have := hc bs x r hr; omega) p.1 p.2
      rw [hcc] at g
      rw [if_pos (by simp [h0])]; exact g
    · rw [if_neg (by simp)]; exact e.symm

/-- the `w` bytes at `pos` (an index out of range panics) -/
def getAt (buf : Bytes) (pos w : Nat) : Option Bytes :=
  if pos + w ≤ buf.length then some ((buf.drop pos).take w) else none

theorem getAt_embedded (pre f suf : Bytes) :
    getAt (pre ++ f ++ suf) pre.length f.length = some f := by
  unfold getAt
  have : pre.length + f.length ≤ (pre ++ f ++ suf).length := by simp
  rw [if_pos this, List.append_assoc, List.drop_left, List.take_left]

/-- `ToBool`: any non-zero byte is true (`ReadBool` on a stream is `== 1`; the writers only emit 0 and 1) -/
def toBool (bs : Bytes) : Bool := bs.headD 0 != 0

/-- the typed readers at an offset: `ToShort/ToInt3/ToInt/ToLong5/ToLong(buf, pos)` (signed),
    `ToUShort/ToUint/ToLong6` (unsigned), the little-endian ones, `ToBool` -/
def fieldI (w : Nat) (buf : Bytes) (pos : Nat) : Option Int := (getAt buf pos w).map (decI w)
def fieldU (w : Nat) (buf : Bytes) (pos : Nat) : Option Nat := (getAt buf pos w).map unbeN
def fieldILittle (w : Nat) (buf : Bytes) (pos : Nat) : Option Int := (getAt buf pos w).map (decILittle w)
def fieldULittle (w : Nat) (buf : Bytes) (pos : Nat) : Option Nat := (getAt buf pos w).map unleN
def fieldBool (buf : Bytes) (pos : Nat) : Option Bool := (getAt buf pos 1).map toBool

/-- `SetBytesX(buf, off, v)` / `SetBytes(dest, pos, src)`: overwrite `bs.length` bytes at `off` -/
def setAt (buf : Bytes) (off : Nat) (bs : Bytes) : Option Bytes :=
  if off + bs.length ≤ buf.length then some (buf.take off ++ bs ++ buf.drop (off + bs.length)) else none

theorem setAt_spec (buf : Bytes) (off : Nat) (bs out : Bytes) (h : setAt buf off bs = some out) :
    out.length = buf.length ∧ getAt out off bs.length = some bs ∧
    out.take off = buf.take off ∧ out.drop (off + bs.length) = buf.drop (off + bs.length) := by
  unfold setAt at h
  by_cases hl : off + bs.length ≤ buf.length
  · rw [if_pos hl, Option.some.injEq] at h
    subst h
    have ht : (buf.take off).length = off := List.length_take_of_le (by omega)
    have e : (buf.take off ++ bs).length = off + bs.length := by rw [List.length_append, ht]
    refine ⟨?_, ?_, ?_, List.drop_left' e⟩
    · rw [List.length_append, e, List.length_drop]; omega
    · have := getAt_embedded (buf.take off) bs (buf.drop (off + bs.length))
      rwa [ht] at this
    · rw [List.append_assoc, List.take_left' ht]
  · rw [if_neg hl] at h; cases h

inductive WStep where
  | op (o : Op)
  | bytes (b : Bytes)                                     -- WriteBytes(b)
  | window (b : Bytes) (off sz : Nat)                     -- Write(b, off, sz)
  | header (src ver : Nat) (pcode lic : Int)              -- WriteHeader / WriteOneWayHeader
  | secureHeader (src ver : Nat) (pcode oid key : Int)    -- WriteSecureHeader

def Writer.step (w : Writer) : WStep → Writer
  | .op o => w.op o
  | .bytes b => w.put b
  | .window b off sz => w.window b off sz
  | .header s v p l => w.header s v p l
  | .secureHeader s v p o k => w.secureHeader s v p o k

/-- the abstract specification: what the stream holds after a history, as a function of the
    bytes it held before — a header makes those bytes the int-length payload of a frame -/
def specStep (acc : Bytes) : WStep → Bytes
  | .op o => acc ++ writeOp o
  | .bytes b => acc ++ b
  | .window b off sz => acc ++ (b.drop off).take sz
  | .header s v p l => writeAll [.byte s, .byte v, .long p, .long l, .intBytes acc]
  | .secureHeader s v p o k => writeAll [.byte s, .byte v, .long p, .int o, .int k, .intBytes acc]

/-- what the Go API accepts without panicking: a window inside its slice -/
def WStep.ok : WStep → Prop
  | .window b off sz => off + sz ≤ b.length
  | _ => True

theorem Writer.step_spec (w : Writer) (s : WStep) (hs : s.ok) (hw : w.written = w.buf.length) :
    (w.step s).buf = specStep w.buf s ∧ (w.step s).written = (w.step s).buf.length := by
  -- the first three steps append some `g` and count its bytes
  have app : ∀ (w' : Writer) (g : Bytes), w'.buf = w.buf ++ g ∧ w'.written = w.written + g.length →
      w'.buf = w.buf ++ g ∧ w'.written = w'.buf.length := fun w' g h =>
    ⟨h.1, by rw [h.2, h.1, hw, List.length_append]⟩
  cases s with
  | op o => exact app _ _ (Writer.op_spec w o)
  | bytes b => exact app _ _ ⟨Writer.put_buf w b, rfl⟩
  | window b off sz => exact app _ _ ⟨(Writer.window_spec w b off sz hs).1, rfl⟩
  | header s v p l => rw [Writer.step, Writer.header_eq]; exact Writer.exec_spec _
  | secureHeader s v p o k => rw [Writer.step, Writer.secureHeader_eq]; exact Writer.exec_spec _

theorem Writer.history_spec (h : List WStep) (w : Writer) (hs : ∀ s ∈ h, s.ok)
    (hw : w.written = w.buf.length) :
    (h.foldl Writer.step w).buf = h.foldl specStep w.buf ∧
    (h.foldl Writer.step w).written = (h.foldl Writer.step w).buf.length := by
  induction h generalizing w with
  | nil => exact ⟨rfl, hw⟩
  | cons s t ih =>
    have h1 := Writer.step_spec w s (hs s (by simp)) hw
    have h2 := ih (w.step s) (fun x hx => hs x (by simp [hx])) h1.2
    simp only [List.foldl_cons]
    rw [← h1.1]
    exact h2

end Prim
