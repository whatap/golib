/-
  Golib.Prim.Ops — programs of typed write operations over DataOutputX and the
  matching reads over DataInputX.

  `Op` carries the value written; `readOp` looks only at the constructor (the
  type of the read call) and returns the value read, packaged in the same
  constructor.  Floats are carried as their IEEE-754 bit patterns.
-/
import Golib.Prim.Codec

namespace Prim

inductive Op where
  | bool (b : Bool)
  | byte (n : Nat)
  | short (v : Int)
  | ushort (n : Nat)
  | int3 (v : Int)
  | int (v : Int)
  | long5 (v : Int)
  | long (v : Int)
  | float (bits : Nat)
  | double (bits : Nat)
  | decimal (v : Int)
  | blob (bs : Bytes)
  | text (bs : Bytes)
  | shortBytes (bs : Bytes)
  | intBytes (bs : Bytes)
  | textShort (bs : Bytes)
  | shortArr (xs : List Int)
  | intArr (xs : List Int)
  | longArr (xs : List Int)
  | floatArr (xs : List Nat)
  | doubleArr (xs : List Nat)
  | textArr (xs : List Bytes)
deriving DecidableEq, Repr

/-- the chunks handed to the buffer: a chunking with the same concatenation and the same total as the
    `WriteByte`/`WriteBytes` calls of the Go code (the `written` counter sees only the total; the
    bytes are `writeOp`) -/
def chunks : Op → List Bytes
  | .bool b => [encBool b]
  | .byte n => [[n]]
  | .short v => [encI 2 v]
  | .ushort n => [beN 2 n]
  | .int3 v => [encI 3 v]
  | .int v => [encI 4 v]
  | .long5 v => [encI 5 v]
  | .long v => [encI 8 v]
  | .float b => [beN 4 b]
  | .double b => [beN 8 b]
  | .decimal v => [encDecimal v]
  | .blob bs => [encBlob bs]
  | .text bs => [encBlob bs]
  | .shortBytes bs => [beN 2 bs.length, bs]
  | .intBytes bs => [encI 4 bs.length, bs]
  | .textShort bs => [beN 2 bs.length, bs]
  | .shortArr xs => encI 2 xs.length :: xs.map (encI 2)
  | .intArr xs => encI 2 xs.length :: xs.map (encI 4)
  | .longArr xs => encI 2 xs.length :: xs.map (encI 8)
  | .floatArr xs => encI 2 xs.length :: xs.map (beN 4)
  | .doubleArr xs => encI 2 xs.length :: xs.map (beN 8)
  | .textArr xs => encI 2 xs.length :: xs.map encBlob

def writeOp : Op → Bytes
  | .bool b => encBool b
  | .byte n => [n]
  | .short v => encI 2 v
  | .ushort n => beN 2 n
  | .int3 v => encI 3 v
  | .int v => encI 4 v
  | .long5 v => encI 5 v
  | .long v => encI 8 v
  | .float b => beN 4 b
  | .double b => beN 8 b
  | .decimal v => encDecimal v
  | .blob bs => encBlob bs
  | .text bs => encBlob bs
  | .shortBytes bs => encBytes16 bs
  | .intBytes bs => encBytes32 bs
  | .textShort bs => encBytes16 bs
  | .shortArr xs => encArr (encI 2) xs
  | .intArr xs => encArr (encI 4) xs
  | .longArr xs => encArr (encI 8) xs
  | .floatArr xs => encArr (beN 4) xs
  | .doubleArr xs => encArr (beN 8) xs
  | .textArr xs => encArr encBlob xs

def readOp : Op → P Op
  | .bool _ => P.map Op.bool rdBool
  | .byte _ => P.map Op.byte (rdU 1)
  | .short _ => P.map Op.short (rdI 2)
  | .ushort _ => P.map Op.ushort (rdU 2)
  | .int3 _ => P.map Op.int3 (rdI 3)
  | .int _ => P.map Op.int (rdI 4)
  | .long5 _ => P.map Op.long5 (rdI 5)
  | .long _ => P.map Op.long (rdI 8)
  | .float _ => P.map Op.float (rdU 4)
  | .double _ => P.map Op.double (rdU 8)
  | .decimal _ => P.map Op.decimal decDecimal
  | .blob _ => P.map Op.blob decBlob
  | .text _ => P.map Op.text decBlob
  | .shortBytes _ => P.map Op.shortBytes decBytes16
  | .intBytes _ => P.map Op.intBytes decBytes32
  | .textShort _ => P.map Op.textShort decBytes16
  | .shortArr _ => P.map Op.shortArr (decArr (rdI 2))
  | .intArr _ => P.map Op.intArr (decArr (rdI 4))
  | .longArr _ => P.map Op.longArr (decArr (rdI 8))
  | .floatArr _ => P.map Op.floatArr (decArr (rdU 4))
  | .doubleArr _ => P.map Op.doubleArr (decArr (rdU 8))
  | .textArr _ => P.map Op.textArr (decArr decBlob)

/-- what the Go API can be handed: values of the stated Go types, and lengths the
    length field of the format can represent -/
def WFOp : Op → Prop
  | .bool _ => True
  | .byte n => n < 256
  | .short v => inRange 2 v
  | .ushort n => n < 65536
  | .int3 v => inRange 3 v
  | .int v => inRange 4 v
  | .long5 v => inRange 5 v
  | .long v => inRange 8 v
  | .float b => b < 4294967296
  | .double b => b < 18446744073709551616
  | .decimal v => inRange 8 v
  | .blob bs => bs.length < 2147483648
  | .text bs => bs.length < 2147483648
  | .shortBytes bs => bs.length ≤ 65535
  | .intBytes bs => bs.length < 2147483648
  | .textShort bs => bs.length ≤ 65535
  | .shortArr xs => xs.length ≤ 32767 ∧ ∀ x ∈ xs, inRange 2 x
  | .intArr xs => xs.length ≤ 32767 ∧ ∀ x ∈ xs, inRange 4 x
  | .longArr xs => xs.length ≤ 32767 ∧ ∀ x ∈ xs, inRange 8 x
  | .floatArr xs => xs.length ≤ 32767 ∧ ∀ x ∈ xs, x < 4294967296
  | .doubleArr xs => xs.length ≤ 32767 ∧ ∀ x ∈ xs, x < 18446744073709551616
  | .textArr xs => xs.length ≤ 32767 ∧ ∀ x ∈ xs, x.length < 2147483648

theorem op_roundtrip (op : Op) (r : Bytes) (h : WFOp op) :
    P.run (readOp op) (writeOp op ++ r) = some (op, r) := by
  cases op <;> simp only [readOp, writeOp, WFOp] at h ⊢ <;> apply P.run_map_some
  case bool b => exact run_rdBool b r
  case byte n => simp [rdU, P.run, unbeN]
  case short v => exact run_rdI 2 v r h
  case ushort n => exact run_rdU 2 n r h
  case int3 v => exact run_rdI 3 v r h
  case int v => exact run_rdI 4 v r h
  case long5 v => exact run_rdI 5 v r h
  case long v => exact run_rdI 8 v r h
  case float b => exact run_rdU 4 b r h
  case double b => exact run_rdU 8 b r h
  case decimal v => exact run_decDecimal v r h
  case blob bs => exact run_decBlob bs r h
  case text bs => exact run_decBlob bs r h
  case shortBytes bs => exact run_decBytes16 bs r h
  case intBytes bs => exact run_decBytes32 bs r h
  case textShort bs => exact run_decBytes16 bs r h
  case shortArr xs => exact run_decArr _ _ _ (run_rdI 2) xs r h.1 h.2
  case intArr xs => exact run_decArr _ _ _ (run_rdI 4) xs r h.1 h.2
  case longArr xs => exact run_decArr _ _ _ (run_rdI 8) xs r h.1 h.2
  case floatArr xs => exact run_decArr _ _ _ (run_rdU 4) xs r h.1 h.2
  case doubleArr xs => exact run_decArr _ _ _ (run_rdU 8) xs r h.1 h.2
  case textArr xs => exact run_decArr _ _ _ run_decBlob xs r h.1 h.2

def writeAll : List Op → Bytes
  | [] => []
  | op :: ops => writeOp op ++ writeAll ops

def readAll : List Op → P (List Op)
  | [] => .pure []
  | op :: ops => P.bind (readOp op) (fun v => P.bind (readAll ops) (fun vs => .pure (v :: vs)))

theorem program_roundtrip (ops : List Op) (r : Bytes) (h : ∀ op ∈ ops, WFOp op) :
    P.run (readAll ops) (writeAll ops ++ r) = some (ops, r) := by
  induction ops with
  | nil => simp [readAll, writeAll]
  | cons op ops ih =>
    simp only [readAll, writeAll, List.append_assoc]
    rw [P.run_bind_some _ _ _ _ _ (op_roundtrip op _ (h op (by simp)))]
    rw [P.run_bind_some _ _ _ _ _ (ih (fun y hy => h y (by simp [hy])))]
    rfl

/-- the buffer is kept as the list of chunks handed to it, newest first (so that a
    write is O(chunk), as in the Go buffer); `buf` is what `ToByteArray` returns -/
structure Writer where
  rev : List Bytes
  written : Nat
deriving Repr

def Writer.buf (w : Writer) : Bytes := w.rev.reverse.flatten
def Writer.empty : Writer := ⟨[], 0⟩
/-- `WriteBytes(b)`: `written += len(b)` and append -/
def Writer.put (w : Writer) (b : Bytes) : Writer := ⟨b :: w.rev, w.written + b.length⟩
def Writer.op (w : Writer) (op : Op) : Writer := (chunks op).foldl Writer.put w
def Writer.exec (ops : List Op) : Writer := ops.foldl Writer.op Writer.empty

theorem chunks_flatten (op : Op) : (chunks op).flatten = writeOp op := by
  cases op <;>
    simp [chunks, writeOp, encBytes16, encBytes32, encArr, encMany_eq_flatMap, List.flatMap_def]

theorem Writer.put_buf (w : Writer) (b : Bytes) : (w.put b).buf = w.buf ++ b := by
  simp [Writer.put, Writer.buf]

theorem Writer.foldl_appends (f : Writer → α → Writer) (g : α → Bytes)
    (hf : ∀ w x, (f w x).buf = w.buf ++ g x ∧ (f w x).written = w.written + (g x).length)
    (xs : List α) (w : Writer) :
    (xs.foldl f w).buf = w.buf ++ encMany g xs ∧
    (xs.foldl f w).written = w.written + (encMany g xs).length := by
  induction xs generalizing w with
  | nil => exact ⟨(List.append_nil _).symm, rfl⟩
  | cons x xs ih =>
    rw [List.foldl_cons, (ih (f w x)).1, (ih (f w x)).2, (hf w x).1, (hf w x).2, encMany,
      List.length_append, List.append_assoc, Nat.add_assoc]
    exact ⟨rfl, rfl⟩

theorem Writer.op_spec (w : Writer) (op : Op) :
    (w.op op).buf = w.buf ++ writeOp op ∧ (w.op op).written = w.written + (writeOp op).length := by
  have := Writer.foldl_appends Writer.put id (fun w b => ⟨Writer.put_buf w b, rfl⟩) (chunks op) w
  rwa [encMany_eq_flatMap, List.flatMap_id, chunks_flatten] at this

theorem writeAll_eq_encMany (ops : List Op) : writeAll ops = encMany writeOp ops := by
  induction ops with
  | nil => rfl
  | cons op ops ih => rw [writeAll, encMany, ih]

/-- a run from the empty writer: the buffer is the program's bytes and `Size()` is their number -/
theorem Writer.exec_spec (ops : List Op) :
    (Writer.exec ops).buf = writeAll ops ∧ (Writer.exec ops).written = (Writer.exec ops).buf.length := by
  have h := Writer.foldl_appends Writer.op writeOp Writer.op_spec ops Writer.empty
  rw [← writeAll_eq_encMany] at h
  unfold Writer.exec
  rw [h.2, h.1]
  exact ⟨rfl, Nat.zero_add _⟩

end Prim
