/-
  Golib.Prim.Extra — the rest of io.DataOutputX / io.DataInputX:

    ReadIntBytesLimit(max)                      length-checked int-length bytes (`decBytes32Limit`)
    ReadDecimalArray / ReadDecimalArrayInt      decimal count, then decimals (`narrow32`: the int32 conversion)
    Write(b, off, sz)                           a window of a slice (`Writer.window`)
    WriteHeader / WriteOneWayHeader / WriteSecureHeader   the buffer becomes the payload of a frame
-/
import Golib.Prim.Ops

namespace Prim

def decBytes32Limit (max : Nat) : P Bytes :=
  P.bind (rdI 4) (fun n => if n < 0 ∨ (max : Int) < n then .fail else rdBytes n.toNat)

/-! ### decimal arrays: decimal count, then decimals -/

def encDecArr (xs : List Int) : Bytes := encDecimal xs.length ++ encMany encDecimal xs
def decDecArr : P (List Int) :=
  P.bind decDecimal (fun n => if n < 0 then .fail else decMany decDecimal n.toNat)

theorem run_decDecArr (xs : List Int) (r : Bytes) (hl : xs.length < 2147483648)
    (h : ∀ x ∈ xs, inRange 8 x) :
    P.run decDecArr (encDecArr xs ++ r) = some (xs, r) :=
  reads_counted (g := (· < 0)) (fun r => run_decDecimal _ r ((inRange_8 _).mpr (by omega))) (by omega)
    (fun r => run_decMany encDecimal decDecimal (inRange 8) run_decDecimal xs r h) r

/-- `ReadDecimalArrayInt` narrows every element to int32 -/
def narrow32 (v : Int) : Int := ofU 4 (toU 4 v)
def decDecArrInt : P (List Int) := P.map (List.map narrow32) decDecArr

theorem narrow32_id (v : Int) (h : inRange 4 v) : narrow32 v = v := ofU_toU 4 v h

/-- `Write(b, off, sz)` appends `b[off : off+sz]` and counts `sz` -/
def Writer.window (w : Writer) (b : Bytes) (off sz : Nat) : Writer := w.put ((b.drop off).take sz)

theorem Writer.window_spec (w : Writer) (b : Bytes) (off sz : Nat) (h : off + sz ≤ b.length) :
    (w.window b off sz).buf = w.buf ++ (b.drop off).take sz ∧
    (w.window b off sz).written = w.written + sz := by
  unfold Writer.window
  refine ⟨Writer.put_buf w _, ?_⟩
  simp [Writer.put, List.length_take, List.length_drop]; omega

/-- `WriteHeader` / `WriteOneWayHeader`: source, version, project code, license hash, then the
    bytes written so far as int-length bytes; the byte counter restarts with the buffer -/
def Writer.header (w : Writer) (src ver : Nat) (pcode lic : Int) : Writer :=
  ((((Writer.empty.put [src]).put [ver]).put (encI 8 pcode)).put (encI 8 lic)).op (.intBytes w.buf)

/-- `WriteSecureHeader`: source, version, project code, object id, transfer key, payload -/
def Writer.secureHeader (w : Writer) (src ver : Nat) (pcode oid key : Int) : Writer :=
  (((((Writer.empty.put [src]).put [ver]).put (encI 8 pcode)).put (encI 4 oid)).put (encI 4 key)).op
    (.intBytes w.buf)

/-- a header is a run of typed writes on a fresh writer, the old buffer being the last value written;
    so `Writer.exec_spec` says what the frame holds and that `Size()` is its length -/
theorem Writer.header_eq (w : Writer) (src ver : Nat) (pcode lic : Int) :
    w.header src ver pcode lic =
      Writer.exec [.byte src, .byte ver, .long pcode, .long lic, .intBytes w.buf] := rfl

theorem Writer.secureHeader_eq (w : Writer) (src ver : Nat) (pcode oid key : Int) :
    w.secureHeader src ver pcode oid key =
      Writer.exec [.byte src, .byte ver, .long pcode, .int oid, .int key, .intBytes w.buf] := rfl

/-- a frame reads back as its five parts, consuming exactly the frame -/
theorem header_roundtrip (w : Writer) (src ver : Nat) (pcode lic : Int) (r : Bytes)
    (hs : src < 256) (hv : ver < 256) (hp : inRange 8 pcode) (hl : inRange 8 lic)
    (hb : w.buf.length < 2147483648) :
    P.run (readAll [.byte 0, .byte 0, .long 0, .long 0, .intBytes []])
      ((w.header src ver pcode lic).buf ++ r) =
      some ([.byte src, .byte ver, .long pcode, .long lic, .intBytes w.buf], r) := by
  rw [Writer.header_eq, (Writer.exec_spec _).1]
  refine program_roundtrip [.byte src, .byte ver, .long pcode, .long lic, .intBytes w.buf] r fun op h => ?_
  simp only [List.mem_cons, List.mem_nil_iff, or_false] at h
  rcases h with rfl | rfl | rfl | rfl | rfl <;> assumption

end Prim
