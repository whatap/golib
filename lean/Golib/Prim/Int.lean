/-
  Golib.Prim.Int — fixed-width big-endian two's-complement integers.

  CodeModel of io.ToBytesShort/Int3/Int/Long5/Long, io.ToShort/…/ToLong and the
  little-endian helpers, in arithmetic form (no bit vectors).
-/
import Golib.Basic

namespace Prim

/-- big-endian `w`-byte representation of `n mod 256^w` -/
def beN : Nat → Nat → Bytes
  | 0, _ => []
  | w+1, n => (n / 256^w % 256) :: beN w n

def unbeN : Bytes → Nat
  | [] => 0
  | b :: bs => b * 256 ^ bs.length + unbeN bs

@[simp] theorem beN_length (w n : Nat) : (beN w n).length = w := by
  induction w with
  | zero => rfl
  | succ w ih => simp [beN, ih]

theorem beN_WFB (w n : Nat) : WFB (beN w n) := by
  induction w with
  | zero => exact WFB_nil
  | succ w ih =>
    simp only [beN]
    exact WFB_cons.mpr ⟨Nat.mod_lt _ (by decide), ih⟩

theorem unbeN_beN (w n : Nat) : unbeN (beN w n) = n % 256^w := by
  induction w with
  | zero => simp [beN, unbeN, Nat.mod_one]
  | succ w ih =>
    simp only [beN, unbeN, beN_length, ih]
    rw [Nat.mod_pow_succ, Nat.mul_comm, Nat.add_comm]

theorem unbeN_lt (bs : Bytes) (h : WFB bs) : unbeN bs < 256 ^ bs.length := by
  induction bs with
  | nil => simp [unbeN]
  | cons b bs ih =>
    have ⟨hb, hbs⟩ := WFB_cons.mp h
    have := ih hbs
    simp only [unbeN, List.length_cons, Nat.pow_succ]
    have h1 : b * 256 ^ bs.length ≤ 255 * 256 ^ bs.length := Nat.mul_le_mul_right _ (by omega)
    omega

theorem unbeN_append (a c : Bytes) : unbeN (a ++ c) = unbeN a * 256 ^ c.length + unbeN c := by
  induction a with
  | nil => simp [unbeN]
  | cons x a ih =>
    simp only [List.cons_append, unbeN, ih, List.length_append, Nat.pow_add, Nat.add_mul,
      Nat.mul_assoc, Nat.add_assoc]

theorem beN_unbeN (bs : Bytes) (h : WFB bs) : beN bs.length (unbeN bs) = bs := by
  induction bs with
  | nil => rfl
  | cons b bs ih =>
    have ⟨hb, hbs⟩ := WFB_cons.mp h
    have hlt := unbeN_lt bs hbs
    have hpos : 0 < 256 ^ bs.length := Nat.pow_pos (by decide)
    simp only [List.length_cons, beN, unbeN]
    congr 1
    · rw [Nat.add_comm, Nat.add_mul_div_right _ _ hpos, Nat.div_eq_of_lt hlt]
      simp [Nat.mod_eq_of_lt hb]
    · have : beN bs.length (b * 256 ^ bs.length + unbeN bs) = beN bs.length (unbeN bs) := by
        have gen : ∀ w a c, beN w (a * 256 ^ w + c) = beN w c := by
          intro w
          induction w with
          | zero => intros; rfl
          | succ w ihw =>
            intro a c
            have e : a * 256 ^ (w + 1) = (a * 256) * 256 ^ w := by
              rw [Nat.pow_succ, Nat.mul_assoc, Nat.mul_comm (256 ^ w) 256]
            simp only [beN]
            congr 1
            · have hp : 0 < 256 ^ w := Nat.pow_pos (by decide)
              rw [e, Nat.add_comm, Nat.add_mul_div_right _ _ hp, Nat.add_mul_mod_self_right]
            · rw [e]; exact ihw _ _
        exact gen _ _ _
      rw [this]; exact ih hbs

/-- `Nat.mod_mul_right_div_self` for integers: the digit at `n` in base `k` may be taken before or
    after cutting the number off above it -/
theorem emod_mul_ediv_self (m : Int) {n k : Int} (hn : 0 < n) (hk : 0 < k) :
    m % (n * k) / n = m / n % k := by
  have hr := Int.emod_nonneg m (Int.ne_of_gt (Int.mul_pos hn hk))
  have hlt := Int.emod_lt_of_pos m (Int.mul_pos hn hk)
  conv => rhs; rw [← Int.emod_add_mul_ediv m (n * k), Int.mul_assoc,
    Int.add_mul_ediv_left _ _ (Int.ne_of_gt hn), Int.add_mul_emod_self_left]
  exact (Int.emod_eq_of_lt (Int.ediv_nonneg hr (Int.le_of_lt hn))
    (Int.ediv_lt_of_lt_mul hn (Int.mul_comm n k ▸ hlt))).symm

def modulus (w : Nat) : Int := ((256 ^ w : Nat) : Int)

theorem modulus_pos (w : Nat) : 0 < modulus w := by
  unfold modulus
  exact Int.natCast_pos.mpr (Nat.pow_pos (by decide))

/-- two's complement of `v` in `w` bytes -/
def toU (w : Nat) (v : Int) : Nat := (v % modulus w).toNat

/-- signed reading of an unsigned `w`-byte number -/
def ofU (w : Nat) (n : Nat) : Int :=
  if 2 * (n : Int) < modulus w then (n : Int) else (n : Int) - modulus w

/-- signed range of `w` bytes -/
def inRange (w : Nat) (v : Int) : Prop := -(modulus w) ≤ 2 * v ∧ 2 * v < modulus w

instance (w : Nat) (v : Int) : Decidable (inRange w v) := by unfold inRange; infer_instance

theorem inRange_mono {a b : Nat} (h : a ≤ b) {v : Int} (hv : inRange a v) : inRange b v := by
  have : modulus a ≤ modulus b := Int.ofNat_le.mpr (Nat.pow_le_pow_right (by decide) h)
  unfold inRange at *
  omega

theorem natCast_toU (w : Nat) (v : Int) : ((toU w v : Nat) : Int) = v % modulus w :=
  Int.toNat_of_nonneg (Int.emod_nonneg _ (Int.ne_of_gt (modulus_pos w)))

theorem toU_of_lt (w n : Nat) (h : n < 256 ^ w) : toU w (n : Int) = n := by
  unfold toU modulus
  rw [Int.emod_eq_of_lt (Int.natCast_nonneg n) (Int.ofNat_lt.mpr h), Int.toNat_natCast]

theorem toU_lt (w : Nat) (v : Int) : toU w v < 256 ^ w :=
  Int.ofNat_lt.mp (by rw [natCast_toU]; exact Int.emod_lt_of_pos _ (modulus_pos w))

theorem ofU_toU (w : Nat) (v : Int) (h : inRange w v) : ofU w (toU w v) = v := by
  have hM := modulus_pos w
  unfold inRange at h
  unfold ofU
  rw [natCast_toU]
  generalize modulus w = M at *
  by_cases hv : 0 ≤ v
  · rw [Int.emod_eq_of_lt hv (by omega), if_pos h.2]
  · rw [← Int.add_emod_right, Int.emod_eq_of_lt (by omega : 0 ≤ v + M) (by omega), if_neg (by omega)]; omega

theorem ofU_inRange (w : Nat) (n : Nat) (h : n < 256 ^ w) : inRange w (ofU w n) := by
  have hp := modulus_pos w
  have hn : (n : Int) < modulus w := by unfold modulus; exact Int.ofNat_lt.mpr h
  unfold ofU inRange
  split <;> constructor <;> omega

theorem toU_ofU (w : Nat) (n : Nat) (h : n < 256 ^ w) : toU w (ofU w n) = n := by
  have hp := modulus_pos w
  have hn : (n : Int) < modulus w := by unfold modulus; exact Int.ofNat_lt.mpr h
  unfold toU ofU
  split
  · rw [Int.emod_eq_of_lt (by omega) hn]; simp
  · have : ((n : Int) - modulus w) % modulus w = (n : Int) := by
      rw [Int.sub_emod_right]; exact Int.emod_eq_of_lt (by omega) hn
    rw [this]; simp

/-- `ToBytesShort`, `ToBytesInt3`, `ToBytesInt`, `ToBytesLong5`, `ToBytesLong` (`w` = 2, 3, 4, 5, 8) -/
def encI (w : Nat) (v : Int) : Bytes := beN w (toU w v)
/-- `ToShort`, `ToInt3`, `ToInt`, `ToLong5`, `ToLong` at position 0 of exactly `w` bytes -/
def decI (w : Nat) (bs : Bytes) : Int := ofU w (unbeN bs)

@[simp] theorem encI_length (w : Nat) (v : Int) : (encI w v).length = w := by simp [encI]
theorem encI_WFB (w : Nat) (v : Int) : WFB (encI w v) := beN_WFB _ _

theorem encI_of_lt (w n : Nat) (h : n < 256 ^ w) : encI w (n : Int) = beN w n := by
  unfold encI; rw [toU_of_lt w n h]

theorem encI_of_nonneg (w : Nat) (v : Int) (h0 : 0 ≤ v) (h : v.toNat < 256 ^ w) : encI w v = beN w v.toNat := by
  rw [← encI_of_lt w _ h, Int.toNat_of_nonneg h0]

/-- a value and the value one modulus below it have the same bytes: how a count that does not fit
    its signed field reads back negative -/
theorem encI_sub_modulus (w : Nat) (v : Int) : encI w (v - modulus w) = encI w v := by
  unfold encI toU; rw [Int.sub_emod_right]

theorem decI_encI (w : Nat) (v : Int) (h : inRange w v) : decI w (encI w v) = v := by
  unfold decI encI
  rw [unbeN_beN, Nat.mod_eq_of_lt (toU_lt w v)]
  exact ofU_toU w v h

theorem unbeN_beN_of_lt (w n : Nat) (h : n < 256 ^ w) : unbeN (beN w n) = n := by
  rw [unbeN_beN, Nat.mod_eq_of_lt h]

/-- little-endian reading = big-endian reading of the reversed bytes -/
def unleN (bs : Bytes) : Nat := unbeN bs.reverse
def decILittle (w : Nat) (bs : Bytes) : Int := ofU w (unleN bs)

theorem unleN_cons (b : Nat) (bs : Bytes) : unleN (b :: bs) = b + 256 * unleN bs := by
  unfold unleN
  rw [List.reverse_cons, unbeN_append]
  simp only [unbeN, List.length_cons, List.length_nil, Nat.pow_zero, Nat.mul_one, Nat.add_zero,
    Nat.zero_add, Nat.pow_one]
  rw [Nat.add_comm, Nat.mul_comm]

theorem unleN_lt (bs : Bytes) (h : WFB bs) : unleN bs < 256 ^ bs.length := by
  have := unbeN_lt bs.reverse fun b hb => h b (List.mem_reverse.mp hb)
  rwa [List.length_reverse] at this

theorem decILittle_reverse_encI (w : Nat) (v : Int) (h : inRange w v) :
    decILittle w (encI w v).reverse = v := by
  unfold decILittle unleN; rw [List.reverse_reverse]; exact decI_encI w v h

/-! concrete ranges, so that callers can discharge `inRange` with `omega` -/

theorem modulus_1 : modulus 1 = 256 := by decide
theorem modulus_2 : modulus 2 = 65536 := by decide
theorem modulus_3 : modulus 3 = 16777216 := by decide
theorem modulus_4 : modulus 4 = 4294967296 := by decide
theorem modulus_5 : modulus 5 = 1099511627776 := by decide
theorem modulus_8 : modulus 8 = 18446744073709551616 := by decide

theorem inRange_1 (v : Int) : inRange 1 v ↔ -128 ≤ v ∧ v ≤ 127 := by
  unfold inRange; rw [modulus_1]; omega
theorem inRange_2 (v : Int) : inRange 2 v ↔ -32768 ≤ v ∧ v ≤ 32767 := by
  unfold inRange; rw [modulus_2]; omega
theorem inRange_3 (v : Int) : inRange 3 v ↔ -8388608 ≤ v ∧ v ≤ 8388607 := by
  unfold inRange; rw [modulus_3]; omega
theorem inRange_4 (v : Int) : inRange 4 v ↔ -2147483648 ≤ v ∧ v ≤ 2147483647 := by
  unfold inRange; rw [modulus_4]; omega
theorem inRange_5 (v : Int) : inRange 5 v ↔ -549755813888 ≤ v ∧ v ≤ 549755813887 := by
  unfold inRange; rw [modulus_5]; omega
theorem inRange_8 (v : Int) : inRange 8 v ↔ -9223372036854775808 ≤ v ∧ v ≤ 9223372036854775807 := by
  unfold inRange; rw [modulus_8]; omega

/-- `ToInt3` shifts its three bytes up by one byte and the int32 sum back down: the narrowing to
    four bytes gives the three-byte value its sign -/
theorem ofU_shift (w n : Nat) : ofU (w + 1) (n * 256) / 2 ^ 8 = ofU w n := by
  have e : modulus (w + 1) = modulus w * 256 := by unfold modulus; rw [Nat.pow_succ, Int.natCast_mul]; rfl
  unfold ofU
  rw [e, Int.natCast_mul]
  by_cases h : 2 * (n : Int) < modulus w
  · rw [if_pos h, if_pos (by omega)]; omega
  · rw [if_neg h, if_neg (by omega)]; omega

section
variable {b0 b1 b2 b3 b4 b5 b6 b7 : Nat}

theorem wfb2 (h0 : b0 < 256) (h1 : b1 < 256) : WFB [b0, b1] := WFB_cons.mpr ⟨h0, WFB_cons.mpr ⟨h1, WFB_nil⟩⟩
theorem wfb4 (h0 : b0 < 256) (h1 : b1 < 256) (h2 : b2 < 256) (h3 : b3 < 256) : WFB [b0, b1, b2, b3] :=
  WFB_cons.mpr ⟨h0, WFB_cons.mpr ⟨h1, wfb2 h2 h3⟩⟩
theorem wfb6 (h0 : b0 < 256) (h1 : b1 < 256) (h2 : b2 < 256) (h3 : b3 < 256) (h4 : b4 < 256) (h5 : b5 < 256) :
    WFB [b0, b1, b2, b3, b4, b5] := WFB_cons.mpr ⟨h0, WFB_cons.mpr ⟨h1, wfb4 h2 h3 h4 h5⟩⟩
theorem wfb8 (h0 : b0 < 256) (h1 : b1 < 256) (h2 : b2 < 256) (h3 : b3 < 256) (h4 : b4 < 256) (h5 : b5 < 256)
    (h6 : b6 < 256) (h7 : b7 < 256) : WFB [b0, b1, b2, b3, b4, b5, b6, b7] :=
  WFB_cons.mpr ⟨h0, WFB_cons.mpr ⟨h1, wfb6 h2 h3 h4 h5 h6 h7⟩⟩
end

end Prim
