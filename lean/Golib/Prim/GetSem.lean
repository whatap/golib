/-
  Golib.Prim.GetSem — Go semantics of the straight-line reader bodies of io/DataInputX.go
  (`ToShort`, `ToInt3`, `ToLong5`, … and the little-endian ones) as the translator records them:
  summands `byte(i) << s`, the result type, a final shift.  `evalGet` is the trusted transcription
  semantics; the lemmas reduce it to the sum of the summands (`rawSum`) and evaluate that sum on the
  big- and little-endian table of every width.  The obligations over the regenerated tables
  (Golib/Props/C01Gen.lean) are stated with these definitions, hence the namespace.
-/
import Golib.Prim.Int

namespace C01Gen
open Prim

def byteAt (bs : Bytes) (i : Nat) : Int := ((bs.getD i 0 : Nat) : Int)
def sext8 (b : Int) : Int := if b < 128 then b else b - 256

/-- Go semantics of the straight-line reader bodies: the sum of the shifted (possibly
    sign-extended) bytes, wrapped to the `w`-byte result type, then arithmetically shifted -/
def evalGet (w : Nat) (signed : Bool) (terms : List (Nat × Nat × Bool)) (shr : Nat) (bs : Bytes) : Int :=
  let raw : Int := terms.foldl
    (fun acc t => acc + (if t.2.2 then sext8 (byteAt bs t.1) else byteAt bs t.1) * 2 ^ t.2.1) 0
  let u : Int := raw % modulus w
  let wrapped : Int := if signed then (if 2 * u < modulus w then u else u - modulus w) else u
  wrapped / 2 ^ shr

def termsBE : Nat → List (Nat × Nat × Bool)
  | 0 => []
  | w+1 => (0, 8 * w, false) :: (termsBE w).map (fun t => (t.1 + 1, t.2.1, t.2.2))
def termsLE (w : Nat) : List (Nat × Nat × Bool) := (List.range w).map (fun i => (i, 8 * i, false))

section
variable (bs : Bytes) (terms l : List (Nat × Nat × Bool))

/-- the sum of the summands of a reader body, before it is narrowed to the result type -/
def rawSum : List (Nat × Nat × Bool) → Int
  | [] => 0
  | t :: l => (if t.2.2 then sext8 (byteAt bs t.1) else byteAt bs t.1) * 2 ^ t.2.1 + rawSum l

theorem foldl_eq_rawSum (a : Int) :
    l.foldl (fun acc t => acc + (if t.2.2 then sext8 (byteAt bs t.1) else byteAt bs t.1) * 2 ^ t.2.1) a =
      a + rawSum bs l := by
  induction l generalizing a with
  | nil => exact (Int.add_zero a).symm
  | cons t l ih => rw [List.foldl_cons, ih, rawSum, Int.add_assoc]

/-- `evalGet` narrows the sum to the `w`-byte result type (as `narrow32` does for 4 bytes), then shifts -/
theorem evalGet_eq (w shr : Nat) (sg : Bool) :
    evalGet w sg terms shr bs =
      (if sg then ofU w (toU w (rawSum bs terms)) else toU w (rawSum bs terms)) / 2 ^ shr := by
  unfold evalGet ofU
  rw [natCast_toU, foldl_eq_rawSum, Int.zero_add]

variable {bs terms} {w n : Nat} (hraw : rawSum bs terms = n) (hn : n < 256 ^ w)
include hraw hn

/-- a sum that is a natural number below `256^w` passes through the narrowing unchanged -/
theorem evalGet_of_lt (sg : Bool) : evalGet w sg terms 0 bs = if sg then ofU w n else n := by
  rw [evalGet_eq, hraw, toU_of_lt w n hn]
  exact Int.ediv_one _

omit hraw hn
variable (b : Nat) (bs)

theorem rawSum_tail : rawSum (b :: bs) (l.map (fun t => (t.1 + 1, t.2.1, t.2.2))) = rawSum bs l := by
  induction l with
  | nil => rfl
  | cons t l ih => rw [List.map_cons, rawSum, rawSum, ih]; rfl

theorem rawSum_scale (s : Nat) : rawSum bs (l.map (fun t => (t.1, t.2.1 + s, t.2.2))) = rawSum bs l * 2 ^ s := by
  induction l with
  | nil => exact (Int.zero_mul _).symm
  | cons t l ih => rw [List.map_cons, rawSum, rawSum, ih, Int.pow_add, Int.add_mul, Int.mul_assoc]

theorem rawSum_termsBE : rawSum bs (termsBE bs.length) = unbeN bs := by
  induction bs with
  | nil => rfl
  | cons b bs ih =>
    rw [List.length_cons, termsBE, rawSum, rawSum_tail, ih, unbeN, Int.natCast_add, Int.natCast_mul,
      Int.natCast_pow, Int.pow_mul]
    rfl

theorem termsLE_succ (w : Nat) :
    termsLE (w + 1) = (0, 0, false) ::
      ((termsLE w).map (fun t => (t.1, t.2.1 + 8, t.2.2))).map (fun t => (t.1 + 1, t.2.1, t.2.2)) := by
  unfold termsLE
  rw [List.range_succ_eq_map, List.map_cons, List.map_map, List.map_map, List.map_map]
  rfl

theorem rawSum_termsLE : rawSum bs (termsLE bs.length) = unleN bs := by
  induction bs with
  | nil => rfl
  | cons b bs ih =>
    rw [List.length_cons, termsLE_succ, rawSum, rawSum_tail, rawSum_scale, ih, unleN_cons]
    show (b : Int) * 1 + (unleN bs : Int) * 256 = ((b + 256 * unleN bs : Nat) : Int)
    omega
end

/-- a sign-extended top byte over four more bytes is the signed value of the five -/
theorem sext8_top (b n : Nat) (hb : b < 256) (hn : n < 256 ^ 4) :
    sext8 b * 2 ^ 32 + (n : Int) = ofU 5 (b * 256 ^ 4 + n) := by
  unfold sext8 ofU
  rw [modulus_5]
  by_cases h : (b : Int) < 128
  · rw [if_pos h, if_pos (by omega)]; omega
  · rw [if_neg h, if_neg (by omega)]; omega

end C01Gen
