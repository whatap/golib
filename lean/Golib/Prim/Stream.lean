/-
  Golib.Prim.Stream — the connection-backed input path of DataInputX (NewDataInputNet).

  On a connection `ReadBytes(sz)` is a loop:  `for left > 0 { n, err := conn.Read(buff[until:]) … }`.
  One `conn.Read` hands over *some* of the bytes to come — at most `len(buff[until:]) = left`, at
  least 0 (io.Reader allows a read of 0 bytes without error), an error at the end of the stream.
  A connection is therefore modelled as the list of fragments still to arrive (`List Bytes`; an
  empty fragment is a read that returns 0 bytes).  Every decoder written in `P` can be run over
  such a connection (`P.runC`); the theorems say that how the bytes are cut into fragments is
  invisible: the result is the result over the concatenation, the fragments left over concatenate
  to the rest, and the stream runs dry exactly when the flat decoder fails for want of bytes.
-/
import Golib.Basic

namespace Prim.Stream

/-- one `conn.Read(buf)` with `len(buf) = k` (`k > 0`) on the pending fragments -/
def connRead (k : Nat) : List Bytes → Option (Bytes × List Bytes)
  | [] => none
  | f :: fs => if f.length ≤ k then some (f, fs) else some (f.take k, f.drop k :: fs)

/-- the loop of `DataInputX.ReadBytes` on a connection: read until `n` bytes are there -/
def readN : Nat → List Bytes → Option (Bytes × List Bytes)
  | 0, fs => some ([], fs)
  | _ + 1, [] => none
  | n + 1, f :: fs =>
    if f.length ≤ n + 1 then
      match readN (n + 1 - f.length) fs with
      | none => none
      | some (b, r) => some (f ++ b, r)
    else some (f.take (n + 1), f.drop (n + 1) :: fs)

@[simp] theorem readN_zero (fs : List Bytes) : readN 0 fs = some ([], fs) := by
  cases fs <;> rfl

/-- `readN` is the Go loop: one `conn.Read` of at most `left` bytes, then go on with what is
    still missing (`left -= n; until += n`) -/
theorem readN_is_loop (n : Nat) (fs : List Bytes) :
    readN (n + 1) fs =
      match connRead (n + 1) fs with
      | none => none
      | some (got, fs') =>
        match readN (n + 1 - got.length) fs' with
        | none => none
        | some (b, r) => some (got ++ b, r) := by
  cases fs with
  | nil => rfl
  | cons f fs =>
    simp only [readN, connRead]
    by_cases h : f.length ≤ n + 1
    · simp only [if_pos h]
    · simp only [if_neg h]
      have hl : (f.take (n + 1)).length = n + 1 := by
        rw [List.length_take]; omega
      simp [hl]

theorem readN_some (n : Nat) (fs : List Bytes) (h : n ≤ fs.flatten.length) :
    ∃ r, readN n fs = some (fs.flatten.take n, r) ∧ r.flatten = fs.flatten.drop n := by
  induction fs generalizing n with
  | nil => rw [Nat.le_zero.mp h]; exact ⟨[], rfl, rfl⟩
  | cons f fs ih =>
    cases n with
    | zero => exact ⟨f :: fs, rfl, rfl⟩
    | succ n =>
      rw [List.flatten_cons, List.length_append] at h
      rw [readN, List.flatten_cons]
      by_cases hf : f.length ≤ n + 1
      · obtain ⟨r, hr, hrest⟩ := ih (n + 1 - f.length) (by omega)
        rw [if_pos hf, hr, List.take_append, List.take_of_length_le hf, List.drop_append,
          List.drop_of_length_le hf]
        exact ⟨r, rfl, hrest⟩
      · rw [if_neg hf, List.take_append_of_le_length (by omega), List.drop_append_of_le_length (by omega)]
        exact ⟨_, rfl, rfl⟩

/-- the stream ends first: the loop reports the read error (`WA003 Read Error`) -/
theorem readN_none (n : Nat) (fs : List Bytes) (h : fs.flatten.length < n) : readN n fs = none := by
  fun_induction readN n fs with
  | case1 fs => cases h
  | case2 n => rfl
  | case3 n f fs hf hn ih => rfl
  | case4 n f fs hf b r hb ih =>
    -- the fragment is taken whole and the loop goes on: but what is left is too short as well
    rw [List.flatten_cons, List.length_append] at h
    rw [ih (by omega)] at hb; cases hb
  | case5 n f fs hf => rw [List.flatten_cons, List.length_append] at h; omega

theorem readN_length (n : Nat) (fs : List Bytes) (b : Bytes) (r : List Bytes)
    (h : readN n fs = some (b, r)) : b.length = n := by
  by_cases hn : n ≤ fs.flatten.length
  · obtain ⟨r', hr, _⟩ := readN_some n fs hn
    rw [hr] at h
    simp only [Option.some.injEq, Prod.mk.injEq] at h
    rw [← h.1, List.length_take]; omega
  · rw [readN_none n fs (by omega)] at h; simp at h

end Prim.Stream

namespace P
open Prim.Stream

/-- a decoder run over a connection: every `read n` is the `ReadBytes` loop -/
def runC : P α → List Bytes → Option (α × List Bytes)
  | .pure a, fs => some (a, fs)
  | .fail, _ => none
  | .read n k, fs =>
    match readN n fs with
    | none => none
    | some (b, r) => runC (k b) r

/-- fragmentation is invisible: the connection-backed run is the flat run over the concatenation of
    the fragments, up to how the rest is cut -/
theorem runC_iff (p : P α) (fs : List Bytes) :
    (runC p fs).map (fun x => (x.1, x.2.flatten)) = run p fs.flatten := by
  induction p generalizing fs with
  | pure x => rfl
  | fail => rfl
  | read n k ih =>
    rw [run_read, runC]
    by_cases hn : n ≤ fs.flatten.length
    · obtain ⟨r, hr, hrest⟩ := readN_some n fs hn
      rw [if_pos hn, hr, ← hrest]
      exact ih _ r
    · rw [if_neg hn, readN_none n fs (by omega)]; rfl

theorem runC_of_run (p : P α) (fs : List Bytes) (a : α) (rest : Bytes)
    (h : run p fs.flatten = some (a, rest)) :
    ∃ r, runC p fs = some (a, r) ∧ r.flatten = rest := by
  have e := runC_iff p fs
  rw [h] at e
  cases hc : runC p fs with
  | none => rw [hc] at e; cases e
  | some x =>
    rw [hc, Option.map_some, Option.some.injEq, Prod.mk.injEq] at e
    exact ⟨x.2, by rw [← e.1], e.2⟩

theorem runC_none_of_run (p : P α) (fs : List Bytes) (h : run p fs.flatten = none) :
    runC p fs = none :=
  Option.map_eq_none_iff.mp ((runC_iff p fs).trans h)

/-- two fragmentations of the same stream give the same values -/
theorem runC_fragmentation_independent (p : P α) (fs gs : List Bytes) (h : fs.flatten = gs.flatten) :
    (runC p fs).map (fun x => (x.1, x.2.flatten)) = (runC p gs).map (fun x => (x.1, x.2.flatten)) := by
  rw [runC_iff, runC_iff, h]

end P
