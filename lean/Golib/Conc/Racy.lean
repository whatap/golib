/-
  Golib.Conc.Racy — the variant of the mutex object machine in which a method *forgets the lock*.

  `nextRacy` is `next` (Golib.Conc.Mutex) except that
    * `.load t` is also allowed straight from phase `.invoked op` (no acquisition),
    * `.ret t` is also allowed from `.applied op r` (nothing to release if the lock was never taken),
    * `.rel t` only clears `holder` if `t` really is the holder.
  The classic lost-update interleaving of two increments is then a run of the machine; it breaks
  `MInv` (snapshot freshness, and with it "shared state = sequential replay" and "recorded results
  = sequential results").  The same interleaving is rejected by the locked machine.
-/
import Golib.Conc.Mutex

namespace Conc

variable {σ Op Ret : Type} (step : σ → Op → σ × Ret)

def nextRacy (s : St σ Op Ret) : Act Op → Option (St σ Op Ret)
  | .inv t op => match s.ph t with
      | .idle => some { s with ph := setPh s.ph t (.invoked op), log := .inv t op :: s.log }
      | _ => none
  | .acq t => match s.ph t, s.holder with
      | .invoked op, none => some { s with ph := setPh s.ph t (.locked op), holder := some t }
      | _, _ => none
  | .load t => match s.ph t with
      | .locked op => some { s with ph := setPh s.ph t (.loaded op s.sh) }
      | .invoked op => some { s with ph := setPh s.ph t (.loaded op s.sh) }   -- forgot the lock
      | _ => none
  | .store t => match s.ph t with
      | .loaded op v => let (v', r) := step v op
          some { s with sh := v', ph := setPh s.ph t (.applied op r), log := .lin t op r :: s.log }
      | _ => none
  | .rel t => match s.ph t with
      | .applied op r =>
          some { s with ph := setPh s.ph t (.released op r),
                        holder := if s.holder = some t then none else s.holder }
      | _ => none
  | .ret t => match s.ph t with
      | .released op r => some { s with ph := setPh s.ph t .idle, log := .ret t op r :: s.log }
      | .applied op r => some { s with ph := setPh s.ph t .idle, log := .ret t op r :: s.log }
      | _ => none

def runActsRacy (s : St σ Op Ret) : List (Act Op) → Option (St σ Op Ret)
  | [] => some s
  | a :: as => match nextRacy step s a with
      | some s' => runActsRacy s' as
      | none => none

/-- fetch-and-increment counter: new state `n + 1`, returns the old value -/
def ctr : Nat → Unit → Nat × Nat := fun n _ => (n + 1, n)

/-- the lost-update interleaving: both threads read 0, both write 1 -/
def sched : List (Act Unit) :=
  [.inv 0 (), .inv 1 (), .load 0, .load 1, .store 0, .store 1, .ret 0, .ret 1]

/-- the final state of the lost-update run, observable part -/
theorem sched_runs :
    (runActsRacy ctr (initSt 0) sched).map (fun s => (s.sh, s.log)) =
      some (1, [.ret 1 () 0, .ret 0 () 0, .lin 1 () 0, .lin 0 () 0, .inv 1 (), .inv 0 ()]) := by
  rfl

/-- **Not linearizable.**  Both increments returned 0; no sequential order of two
    fetch-and-increments explains that (the recorded results are not the sequential ones). -/
theorem lost_update_not_linearizable :
    ∃ s, runActsRacy ctr (initSt 0) sched = some s ∧ ¬ retsOk ctr 0 s.log := by
  obtain ⟨s, hs, h⟩ := Option.map_eq_some_iff.1 sched_runs
  exact ⟨s, hs, by rw [(Prod.mk.inj h).2]; simp [retsOk, seqState, ctr]⟩

/-- the racy machine reaches states violating the invariant of the locked machine -/
theorem racy_breaks_MInv :
    ∃ as s, runActsRacy ctr (initSt 0) as = some s ∧ ¬ MInv ctr 0 s := by
  obtain ⟨s, hs, hno⟩ := lost_update_not_linearizable
  exact ⟨sched, s, hs, fun hI => hno hI.rets⟩

/-- already after `store 0` the snapshot of thread 1 is stale: `MInv.fresh` is what fails first -/
theorem racy_breaks_fresh :
    ∃ s, runActsRacy ctr (initSt 0) [.inv 0 (), .inv 1 (), .load 0, .load 1, .store 0] = some s ∧
      s.ph 1 = .loaded () 0 ∧ s.sh = 1 :=
  ⟨_, rfl, rfl, rfl⟩

/-- **Positive contrast.**  In the locked machine the interleaving is impossible: thread 1 cannot load
    before thread 0 has released -/
theorem locked_rejects_racy_load :
    runActs ctr (initSt 0) [.inv 0 (), .inv 1 (), .acq 0, .load 0, .load 1] = none := by
  rfl

/-- on schedules that do take the lock, the racy machine still works (it is a relaxation) -/
example : (runActsRacy ctr (initSt 0)
    [.inv 0 (), .inv 1 (), .acq 0, .load 0, .store 0, .rel 0, .acq 1, .load 1, .store 1, .rel 1,
     .ret 0, .ret 1]).map (fun s => (s.sh, s.holder, s.log)) =
    some (2, none,
      [.ret 1 () 1, .ret 0 () 0, .lin 1 () 1, .lin 0 () 0, .inv 1 (), .inv 0 ()]) := by
  rfl

end Conc
