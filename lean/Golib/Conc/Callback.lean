/-
  Golib.Conc.Callback — what a critical section excludes, for every schedule.

  `RequestQueue.Put` / `PutForce` call the user's callback *while holding the queue's lock*: `Put` calls
  `Failed(v)` on its reject path (queue full; nothing is evicted or inserted), `PutForce` calls
  `Overflowed(o)` for every element it evicts, between the `RemoveFirst` and the `Add`
  (RequestQueue.go:76-107).  In the mutex-object machine either is an arbitrarily long stay of the thread
  in its critical section (phase `loaded`: the snapshot is taken, the result not yet stored): the
  callback is whatever the other threads do in the meantime.  This file proves that during such a stay

    * no other thread can take the lock, read or write the shared state, release or linearize
      (`foreign_step_in_cs`, `foreign_run_in_cs`): no operation of another thread *completes*
      while the callback runs — the clause the harness's `callbackReentrancy` measures;
    * in particular an operation that the callback starts *from its own goroutine* on the same queue can
      never acquire the lock (`acquire_blocked_while_held`): since the lock holder waits for it, that is
      the self-deadlock recorded as `finding_callback_reentry_never_acquires`.
-/
import Golib.Conc.WellNested

namespace Conc

variable {σ Op Ret : Type} (step : σ → Op → σ × Ret)

def Act.actor : Act Op → Nat
  | .inv t _ => t | .acq t => t | .load t => t | .store t => t | .rel t => t | .ret t => t

theorem acq_none_of_held (s : St σ Op Ret) (t : Nat) (hh : s.holder = some t) (u : Nat) :
    next step s (.acq u) = none := by
  simp only [next]
  split
  · rename_i op hph hhold; rw [hh] at hhold; simp at hhold
  · rfl

/-- One step of another thread while `t` is in its critical section: the shared state, the lock holder,
    `t`'s phase and the linearization points are untouched — the other thread can only invoke or return
    (bookkeeping outside the lock). -/
theorem foreign_step_in_cs (init : σ) {s s' : St σ Op Ret} (h : MInv step init s) {t : Nat}
    (hcs : inCS (s.ph t)) {a : Act Op} (ha : a.actor ≠ t) (hn : Next step s a s') :
    s'.sh = s.sh ∧ s'.holder = some t ∧ s'.ph t = s.ph t ∧ linOps s'.log = linOps s.log := by
  have hh : s.holder = some t := h.mutex t hcs
  have out : ∀ {p}, s.ph a.actor = p → ¬ inCS p := fun e hp =>
    holder_excludes inCS h.mutex hh _ ha (e ▸ hp)
  cases hn <;> simp only [Act.actor] at ha out
  case acq hf => exact nomatch hf.symm.trans hh
  case load hp | store hp | rel hp => exact absurd trivial (out hp)
  all_goals exact ⟨rfl, hh, if_neg (Ne.symm ha), rfl⟩

/-- **No operation of another thread completes while the callback runs.**  Any schedule segment made
    of other threads' actions, executed while `t` sits in its critical section, leaves the shared state
    and `t`'s phase unchanged and adds no linearization point: whatever the other goroutines attempt
    (Put, Get, Clear, Size …) takes effect only after `t` has released the lock. -/
theorem foreign_run_in_cs (init : σ) (s s' : St σ Op Ret) (h : MInv step init s) (t : Nat)
    (hcs : inCS (s.ph t)) (as : List (Act Op)) (has : ∀ a ∈ as, a.actor ≠ t)
    (hr : runActs step s as = some s') :
    s'.sh = s.sh ∧ s'.holder = some t ∧ s'.ph t = s.ph t ∧ linOps s'.log = linOps s.log := by
  refine (runActs_induct step (fun s1 => MInv step init s1 ∧ s1.sh = s.sh ∧ s1.holder = some t ∧
    s1.ph t = s.ph t ∧ linOps s1.log = linOps s.log) as ?_ s s' ⟨h, rfl, h.mutex t hcs, rfl, rfl⟩ hr).2
  intro s1 a s2 ha ⟨hI, e1, _, e3, e4⟩ hn
  obtain ⟨f1, f2, f3, f4⟩ := foreign_step_in_cs step init hI (e3 ▸ hcs) (has a ha) hn
  exact ⟨inv_next step init s1 s2 a hI ((next_iff step).2 hn), f1.trans e1, f2, f3.trans e3, f4.trans e4⟩

theorem callback_window_exclusive (init : σ) (pre : List (Act Op)) (s s' : St σ Op Ret)
    (hs : runActs step (initSt init) pre = some s) (t : Nat) (op : Op) (v : σ)
    (hcb : s.ph t = .loaded op v) (as : List (Act Op)) (has : ∀ a ∈ as, a.actor ≠ t)
    (hr : runActs step s as = some s') :
    s'.sh = s.sh ∧ s'.ph t = .loaded op v ∧ linOps s'.log = linOps s.log ∧ s'.sh = v := by
  have hI := reachable_inv step init pre s hs
  obtain ⟨a, _, c, d⟩ := foreign_run_in_cs step init s s' hI t (by rw [hcb]; trivial) as has hr
  exact ⟨a, by rw [c, hcb], d, by rw [a]; exact hI.fresh t op v hcb⟩

/-- While the lock is held nobody acquires it — in particular not an operation started by the holder's
    own callback: the mutex is not re-entrant. -/
theorem acquire_blocked_while_held (init : σ) (pre : List (Act Op)) (s : St σ Op Ret)
    (hs : runActs step (initSt init) pre = some s) (t : Nat) (hcs : inCS (s.ph t)) (u : Nat) :
    next step s (.acq u) = none :=
  acq_none_of_held step s t ((reachable_inv step init pre s hs).mutex t hcs) u

/-- … and it stays blocked for as long as only other threads move: if the holder waits for that nested
    operation (a callback that calls the queue from its own goroutine), nothing ever happens again. -/
theorem finding_callback_reentry_never_acquires (init : σ) (pre : List (Act Op)) (s s' : St σ Op Ret)
    (hs : runActs step (initSt init) pre = some s) (t : Nat) (hcs : inCS (s.ph t))
    (as : List (Act Op)) (has : ∀ a ∈ as, a.actor ≠ t) (hr : runActs step s as = some s') (u : Nat) :
    next step s' (.acq u) = none :=
  acq_none_of_held step s' t
    (foreign_run_in_cs step init s s' (reachable_inv step init pre s hs) t hcs as has hr).2.1 u

/-! ### results already returned never change

  In the model a result is a value; once recorded in the log it is there for good: the log only grows.
  (For the Go code this needs that a returned slice is not memory the object keeps using — tie A:
  `C10Gen.slice_results_fresh`; tie B: the harness's `resultAliasing` probe.) -/

theorem log_grows_step {s s' : St σ Op Ret} {a : Act Op} (hn : Next step s a s') :
    ∃ l, s'.log = l ++ s.log := by
  cases hn
  case inv | store | ret => exact ⟨[_], rfl⟩
  all_goals exact ⟨[], rfl⟩

theorem returned_results_are_final (s s' : St σ Op Ret) (as : List (Act Op))
    (hr : runActs step s as = some s') : ∃ l, s'.log = l ++ s.log := by
  refine runActs_induct step (fun s1 => ∃ l, s1.log = l ++ s.log) as ?_ s s' ⟨[], rfl⟩ hr
  intro s1 a s2 _ ⟨l1, e1⟩ hn
  obtain ⟨l2, e2⟩ := log_grows_step step hn
  exact ⟨l2 ++ l1, by rw [e2, e1, List.append_assoc]⟩

end Conc
