/-
  Golib.Conc.WellNested — per-thread well-nestedness of the inv/lin/ret events of the mutex object
  machine (`Golib.Conc.Mutex`).  Together with `MInv` this is Herlihy–Wing linearizability with
  explicit linearization points: every thread's events read, oldest first,
  `(inv op · lin op r · ret op r)*` followed by an optional pending tail, so each `lin` lies inside
  the interval of its operation, the value returned is the linearized one, and the `lin` events in
  log order are a legal sequential history of the object that respects real-time order.
-/
import Golib.Conc.Mutex

namespace Conc

variable {σ Op Ret : Type}

/-- abstract per-thread state as seen from the event log -/
inductive TS (Op Ret : Type) where
  | idle
  | pending (op : Op)
  | done (op : Op) (r : Ret)

/-- the per-thread three-state automaton, run over the newest-first log -/
def tstate : List (Ev Op Ret) → Nat → TS Op Ret
  | [], _ => .idle
  | .inv t op :: rest, u => if u = t then .pending op else tstate rest u
  | .lin t op r :: rest, u => if u = t then .done op r else tstate rest u
  | .ret t _ _ :: rest, u => if u = t then .idle else tstate rest u

/-- well-nestedness of a newest-first log -/
def wn : List (Ev Op Ret) → Prop
  | [] => True
  | .inv t _ :: rest => tstate rest t = .idle ∧ wn rest
  | .lin t op _ :: rest => tstate rest t = .pending op ∧ wn rest
  | .ret t op r :: rest => tstate rest t = .done op r ∧ wn rest

def absPh : Phase σ Op Ret → TS Op Ret
  | .idle => .idle
  | .invoked op | .locked op | .loaded op _ => .pending op
  | .applied op r | .released op r => .done op r

structure WInv (s : St σ Op Ret) : Prop where
  wn : wn s.log
  agree : ∀ t, absPh (s.ph t) = tstate s.log t

def evThread : Ev Op Ret → Nat
  | .inv t _ | .lin t _ _ | .ret t _ _ => t

/-- an event speaks of its own thread only -/
theorem tstate_cons (e : Ev Op Ret) (l : List (Ev Op Ret)) (u : Nat) :
    tstate (e :: l) u = if u = evThread e then tstate [e] u else tstate l u := by
  cases e <;> simp only [tstate, evThread] <;> split <;> rfl

/-- phases and log stay in agreement under a step of `t` that logs nothing and keeps `t`'s abstract
    state; `abs` is the machine's `absPh` (the mutex object's or the monitor's) -/
theorem agree_silent {α : Type} (abs : α → TS Op Ret) {l : List (Ev Op Ret)} {f : Nat → α} {t : Nat}
    {p : α} (h : ∀ u, abs (f u) = tstate l u) (hp : abs p = abs (f t)) (u : Nat) :
    abs (if u = t then p else f u) = tstate l u := by
  split
  · rename_i e; rw [hp, e]; exact h t
  · exact h u

/-- … and under a step of `t` that logs the event `e` and takes `t` to the state `e` announces -/
theorem agree_event {α : Type} (abs : α → TS Op Ret) {l : List (Ev Op Ret)} {f : Nat → α} {t : Nat}
    {p : α} (e : Ev Op Ret) (h : ∀ u, abs (f u) = tstate l u) (he : evThread e = t)
    (hp : abs p = tstate [e] t) (u : Nat) :
    abs (if u = t then p else f u) = tstate (e :: l) u := by
  rw [tstate_cons, he]
  split
  · rename_i e'; rw [e']; exact hp
  · exact h u

variable (step : σ → Op → σ × Ret)

theorem winv_next {s s' : St σ Op Ret} {a : Act Op} (h : WInv s) (hn : Next step s a s') : WInv s' := by
  have ts : ∀ {t p}, s.ph t = p → tstate s.log t = absPh p := fun e => e ▸ (h.agree _).symm
  cases hn with
  | inv hp => exact ⟨⟨ts hp, h.wn⟩, agree_event absPh (.inv _ _) h.agree rfl (if_pos rfl).symm⟩
  | store hp => exact ⟨⟨ts hp, h.wn⟩, agree_event absPh (.lin _ _ _) h.agree rfl (if_pos rfl).symm⟩
  | ret hp => exact ⟨⟨ts hp, h.wn⟩, agree_event absPh (.ret _ _ _) h.agree rfl (if_pos rfl).symm⟩
  | acq hp | load hp | rel hp => exact ⟨h.wn, agree_silent absPh h.agree (by rw [hp]; rfl)⟩

theorem reachable_winv (init : σ) (as : List (Act Op)) (s : St σ Op Ret)
    (h : runActs step (initSt init) as = some s) : WInv s :=
  runActs_induct step WInv as (fun _ => winv_next step) (initSt init) s
    ⟨trivial, fun _ => rfl⟩ h

/-- **Linearizability of the mutex-protected object, for every schedule.**  In every reachable
    state the event log is well nested per thread (each operation's `lin` lies between its `inv`
    and its `ret`, and the `ret` carries the linearized return value), the return values recorded
    at the linearization points are those of the sequential object replayed in linearization
    order, and the shared state is the result of that sequential replay. -/
theorem mutex_linearizable (init : σ) (as : List (Act Op)) (s : St σ Op Ret)
    (h : runActs step (initSt init) as = some s) :
    wn s.log ∧ retsOk step init s.log ∧ s.sh = seqState step init s.log :=
  have hI := reachable_inv step init as s h
  ⟨(reachable_winv step init as s h).wn, hI.rets, hI.seq⟩

/-- the `lin` events of a newest-first log, in chronological order: `(thread, op, result)` -/
def linOps : List (Ev Op Ret) → List (Nat × Op × Ret)
  | [] => []
  | .lin t op r :: rest => linOps rest ++ [(t, op, r)]
  | _ :: rest => linOps rest

/-- final state of the sequential object after a chronological list of operations -/
def runOps : List (Nat × Op × Ret) → σ → σ
  | [], v => v
  | (_, op, _) :: xs, v => runOps xs (step v op).1

/-- sequential legality: each recorded result is what `step` returns from the state reached so far -/
def legal : List (Nat × Op × Ret) → σ → Prop
  | [], _ => True
  | (_, op, r) :: xs, v => (step v op).2 = r ∧ legal xs (step v op).1

theorem linOps_append (a b : List (Ev Op Ret)) : linOps (a ++ b) = linOps b ++ linOps a := by
  induction a with
  | nil => simp [linOps]
  | cons e a ih =>
    cases e <;> simp [linOps, ih]

theorem runOps_append (xs ys : List (Nat × Op × Ret)) (v : σ) :
    runOps step (xs ++ ys) v = runOps step ys (runOps step xs v) := by
  induction xs generalizing v with
  | nil => rfl
  | cons x xs ih => obtain ⟨t, op, r⟩ := x; simp [runOps, ih]

theorem legal_append (xs ys : List (Nat × Op × Ret)) (v : σ) :
    legal step (xs ++ ys) v ↔ legal step xs v ∧ legal step ys (runOps step xs v) := by
  induction xs generalizing v with
  | nil => simp [legal, runOps]
  | cons x xs ih => obtain ⟨t, op, r⟩ := x; simp [legal, runOps, ih, and_assoc]

theorem seqState_runOps (init : σ) (log : List (Ev Op Ret)) :
    seqState step init log = runOps step (linOps log) init := by
  induction log with
  | nil => rfl
  | cons e rest ih =>
    cases e with
    | inv t op => simpa [seqState, linOps] using ih
    | lin t op r => simp [seqState, linOps, runOps_append, runOps, ih]
    | ret t op r => simpa [seqState, linOps] using ih

/-- `retsOk` (stated on the newest-first log) is exactly sequential legality of the chronological
    list of linearization points -/
theorem retsOk_legal (init : σ) (log : List (Ev Op Ret)) :
    retsOk step init log ↔ legal step (linOps log) init := by
  induction log with
  | nil => simp [retsOk, linOps, legal]
  | cons e rest ih =>
    cases e with
    | inv t op => simpa [retsOk, linOps] using ih
    | lin t op r =>
      simp [retsOk, linOps, legal_append, legal, ih, seqState_runOps, and_comm]
    | ret t op r => simpa [retsOk, linOps] using ih

theorem wn_of_append (a b : List (Ev Op Ret)) (h : wn (a ++ b)) : wn b := by
  induction a with
  | nil => exact h
  | cons e a ih => cases e <;> exact ih h.2

theorem tstate_skip (a b : List (Ev Op Ret)) (t : Nat) (ha : ∀ e ∈ a, evThread e ≠ t) :
    tstate (a ++ b) t = tstate b t := by
  induction a with
  | nil => rfl
  | cons e a ih =>
    rw [List.cons_append, tstate_cons, if_neg fun h => ha e (List.mem_cons_self ..) h.symm]
    exact ih fun e' h' => ha e' (List.mem_cons_of_mem _ h')

theorem tstate_newest (l : List (Ev Op Ret)) (t : Nat) (x : TS Op Ret) (h : tstate l t = x)
    (hx : x ≠ .idle) :
    ∃ a e b, l = a ++ e :: b ∧ (∀ e' ∈ a, evThread e' ≠ t) ∧ evThread e = t ∧ tstate [e] t = x := by
  induction l with
  | nil => exact absurd h.symm hx
  | cons e l ih =>
    by_cases he : evThread e = t
    · exact ⟨[], e, l, rfl, by simp, he, by rw [← h, tstate_cons e l, if_pos he.symm]⟩
    · rw [tstate_cons, if_neg (Ne.symm he)] at h
      obtain ⟨a, e', b, rfl, ha, r⟩ := ih h
      exact ⟨e :: a, e', b, rfl, by simpa [he] using ha, r⟩

theorem tstate_done (l : List (Ev Op Ret)) (t : Nat) (op : Op) (r : Ret)
    (h : tstate l t = .done op r) :
    ∃ a b, l = a ++ .lin t op r :: b ∧ ∀ e ∈ a, evThread e ≠ t := by
  obtain ⟨a, e, b, rfl, ha, rfl, hx⟩ := tstate_newest l t _ h (by simp)
  cases e <;> simp [tstate, evThread] at hx
  obtain ⟨rfl, rfl⟩ := hx
  exact ⟨a, b, rfl, ha⟩

theorem tstate_pending (l : List (Ev Op Ret)) (t : Nat) (op : Op)
    (h : tstate l t = .pending op) :
    ∃ a b, l = a ++ .inv t op :: b ∧ ∀ e ∈ a, evThread e ≠ t := by
  obtain ⟨a, e, b, rfl, ha, rfl, hx⟩ := tstate_newest l t _ h (by simp)
  cases e <;> simp [tstate, evThread] at hx
  subst hx
  exact ⟨a, b, rfl, ha⟩

/-- **Every response matches its linearization point.**  In a well-nested (newest-first) log,
    every `.ret t op r` event is preceded (older) by a `.lin t op r` event of the same thread with
    the same operation and the same result, with no event of thread `t` in between (`a`), and that
    in turn is preceded by the `.inv t op`, again with no event of `t` in between (`b`): the
    linearization point lies inside the operation's interval and the value returned to the caller
    is the value computed at the linearization point. -/
theorem complete_ret_matches_lin (l2 l1 : List (Ev Op Ret)) (t : Nat) (op : Op) (r : Ret)
    (h : wn (l2 ++ .ret t op r :: l1)) :
    ∃ a b c, l1 = a ++ .lin t op r :: (b ++ .inv t op :: c) ∧
      (∀ e ∈ a, evThread e ≠ t) ∧ (∀ e ∈ b, evThread e ≠ t) := by
  have h1 := wn_of_append _ _ h
  obtain ⟨a, l0, hl1, ha⟩ := tstate_done l1 t op r h1.1
  have h0 : wn (.lin t op r :: l0) := by
    apply wn_of_append a; rw [← hl1]; exact h1.2
  obtain ⟨b, c, hl0, hb⟩ := tstate_pending l0 t op h0.1
  exact ⟨a, b, c, by rw [hl1, hl0], ha, hb⟩

theorem next_after_inv_is_lin (d d' c : List (Ev Op Ret)) (e : Ev Op Ret) (t : Nat) (op : Op)
    (h : wn (d ++ e :: (d' ++ .inv t op :: c))) (he : evThread e = t)
    (hd' : ∀ e' ∈ d', evThread e' ≠ t) : ∃ r, e = .lin t op r := by
  have h1 := wn_of_append _ _ h
  have hts : tstate (d' ++ .inv t op :: c) t = .pending op := by
    rw [tstate_skip _ _ _ hd']; simp [tstate]
  cases e with
  | inv u op' => simp only [evThread] at he; subst he; have := h1.1; rw [hts] at this; simp at this
  | lin u op' r' =>
    simp only [evThread] at he; subst he; have := h1.1; rw [hts] at this
    simp at this; subst this; exact ⟨r', rfl⟩
  | ret u op' r' => simp only [evThread] at he; subst he; have := h1.1; rw [hts] at this; simp at this

/-- **Real-time order is respected by the linearization.**  Take a well-nested newest-first log in
    which operation 1 (`t1`, `op1`) *returned* before operation 2 (`t2`, `op2`) was *invoked*:
    `log = l3 ++ .inv t2 op2 :: l2 ++ .ret t1 op1 r1 :: l1`.  Suppose operation 2 has been
    linearized, i.e. the first event of `t2` after that `inv` (no `t2` event in `d'`) is a `lin`.
    Then (i) that `lin` is for `op2`; (ii) the linearization point belonging to the `ret` of
    operation 1 lies in `l1` (it is the newest `t1` event of `l1`: no `t1` event in `a`), hence is
    older than the `ret`, which is older than the `inv`, which is older than operation 2's `lin`;
    and (iii) in the sequential witness `linOps log` operation 1 therefore stands before
    operation 2, with exactly the displayed sublists before, between and after them. -/
theorem realtime_order (l1 l2 d d' : List (Ev Op Ret)) (t1 t2 : Nat) (op1 op2 op2' : Op)
    (r1 r2 : Ret)
    (h : wn ((d ++ .lin t2 op2' r2 :: d') ++ .inv t2 op2 :: (l2 ++ .ret t1 op1 r1 :: l1)))
    (hd' : ∀ e ∈ d', evThread e ≠ t2) :
    op2' = op2 ∧
    ∃ a b, l1 = a ++ .lin t1 op1 r1 :: b ∧ (∀ e ∈ a, evThread e ≠ t1) ∧
      linOps ((d ++ .lin t2 op2' r2 :: d') ++ .inv t2 op2 :: (l2 ++ .ret t1 op1 r1 :: l1))
        = linOps b ++ (t1, op1, r1) :: (linOps a ++ linOps l2 ++ linOps d')
            ++ (t2, op2, r2) :: linOps d := by
  have hop : op2' = op2 := by
    have h' : wn (d ++ .lin t2 op2' r2 :: (d' ++ .inv t2 op2 :: (l2 ++ .ret t1 op1 r1 :: l1))) := by
      simpa using h
    obtain ⟨r, hr⟩ := next_after_inv_is_lin d d' _ _ t2 op2 h' rfl hd'
    simp at hr; exact hr.1
  refine ⟨hop, ?_⟩
  have h'' : wn (((d ++ .lin t2 op2' r2 :: d') ++ .inv t2 op2 :: l2) ++ .ret t1 op1 r1 :: l1) := by
    simpa using h
  obtain ⟨a, b, c, hl1, ha, _⟩ := complete_ret_matches_lin _ _ t1 op1 r1 h''
  refine ⟨a, b ++ .inv t1 op1 :: c, hl1, ha, ?_⟩
  subst hop
  rw [hl1]
  simp [linOps_append, linOps]

/-- Herlihy–Wing linearizability of every reachable state, in sequential-history form: the log is
    well nested, the chronological list of linearization points `linOps s.log` is a legal
    sequential history of the object from `init`, and the shared state is its final state. -/
theorem mutex_herlihy_wing (init : σ) (as : List (Act Op)) (s : St σ Op Ret)
    (h : runActs step (initSt init) as = some s) :
    wn s.log ∧ legal step (linOps s.log) init ∧ s.sh = runOps step (linOps s.log) init := by
  obtain ⟨h1, h2, h3⟩ := mutex_linearizable step init as s h
  exact ⟨h1, (retsOk_legal step init s.log).1 h2, by rw [h3, seqState_runOps]⟩

/-- fetch-and-increment counter -/
def ctrStep : Nat → Unit → Nat × Nat := fun n _ => (n + 1, n)

/-- thread 0 and thread 1 both invoke; thread 1 wins the lock and runs its body while thread 0 is
    pending; thread 0 then takes the lock *before* thread 1 has returned; returns interleaved. -/
def demoSched : List (Act Unit) :=
  [.inv 0 (), .inv 1 (), .acq 1, .load 1, .store 1, .rel 1,
   .acq 0, .load 0, .ret 1, .store 0, .rel 0, .ret 0]

example : (runActs ctrStep (initSt 0) demoSched).map (fun s => (s.sh, s.holder, s.log)) =
    some (2, none,
      [.ret 0 () 1, .lin 0 () 1, .ret 1 () 0, .lin 1 () 0, .inv 1 (), .inv 0 ()]) := by
  rfl

/-- the hypotheses of `mutex_linearizable` are satisfiable by that schedule -/
example : ∃ s, runActs ctrStep (initSt 0) demoSched = some s :=
  Option.isSome_iff_exists.1 (by rfl)

/-- and its conclusion, evaluated on the resulting log -/
example : linOps ([.ret 0 () 1, .lin 0 () 1, .ret 1 () 0, .lin 1 () 0, .inv 1 (), .inv 0 ()] :
    List (Ev Unit Nat)) = [(1, (), 0), (0, (), 1)] := by rfl

example : legal ctrStep [(1, (), 0), (0, (), 1)] 0 := by simp [legal, ctrStep]

example : wn ([.ret 0 () 1, .lin 0 () 1, .ret 1 () 0, .lin 1 () 0, .inv 1 (), .inv 0 ()] :
    List (Ev Unit Nat)) := by simp [wn, tstate]

/-- a log that is *not* well nested (a response without a linearization point) is rejected -/
example : ¬ wn ([.ret 0 () 0, .inv 0 ()] : List (Ev Unit Nat)) := by simp [wn, tstate]

/-- the lock cannot be taken twice: the schedule is rejected by the machine -/
example : (runActs ctrStep (initSt 0) [.inv 0 (), .inv 1 (), .acq 1, .acq 0]).isNone = true := by
  rfl

end Conc
