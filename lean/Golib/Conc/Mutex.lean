/-
  Golib.Conc.Mutex — the *mutex object* machine (DESIGN Appendix A.5).

  Threads are natural numbers (unboundedly many); a schedule is an arbitrary list of actions; the
  body of an operation is split into `load` and `store` so that atomicity is a *consequence* of the
  lock, not an assumption.  `MInv` is preserved by every action, hence holds after every schedule:
  mutual exclusion, "my snapshot is still the shared state", shared state = sequential replay of
  the linearization events, recorded return values = sequential return values.
-/

namespace Conc

inductive Phase (σ Op Ret : Type) where
  | idle
  | invoked (op : Op)
  | locked (op : Op)
  | loaded (op : Op) (s : σ)
  | applied (op : Op) (r : Ret)
  | released (op : Op) (r : Ret)

inductive Ev (Op Ret : Type) where
  | inv (t : Nat) (op : Op)
  | lin (t : Nat) (op : Op) (r : Ret)
  | ret (t : Nat) (op : Op) (r : Ret)

inductive Act (Op : Type) where
  | inv (t : Nat) (op : Op) | acq (t : Nat) | load (t : Nat) | store (t : Nat) | rel (t : Nat) | ret (t : Nat)

structure St (σ Op Ret : Type) where
  sh : σ
  holder : Option Nat
  ph : Nat → Phase σ Op Ret
  log : List (Ev Op Ret)      -- newest first

variable {σ Op Ret : Type} (step : σ → Op → σ × Ret)

def setPh (f : Nat → Phase σ Op Ret) (t : Nat) (p : Phase σ Op Ret) : Nat → Phase σ Op Ret :=
  fun u => if u = t then p else f u

def next (s : St σ Op Ret) : Act Op → Option (St σ Op Ret)
  | .inv t op => match s.ph t with
      | .idle => some { s with ph := setPh s.ph t (.invoked op), log := .inv t op :: s.log }
      | _ => none
  | .acq t => match s.ph t, s.holder with
      | .invoked op, none => some { s with ph := setPh s.ph t (.locked op), holder := some t }
      | _, _ => none
  | .load t => match s.ph t with
      | .locked op => some { s with ph := setPh s.ph t (.loaded op s.sh) }
      | _ => none
  | .store t => match s.ph t with
      | .loaded op v => let (v', r) := step v op
          some { s with sh := v', ph := setPh s.ph t (.applied op r), log := .lin t op r :: s.log }
      | _ => none
  | .rel t => match s.ph t with
      | .applied op r => some { s with ph := setPh s.ph t (.released op r), holder := none }
      | _ => none
  | .ret t => match s.ph t with
      | .released op r => some { s with ph := setPh s.ph t .idle, log := .ret t op r :: s.log }
      | _ => none

/-- What one step finds and does; the proofs about `next` go through this relation.  Against a Go method
    `func (m *T) Op() R { m.lock.Lock(); defer m.lock.Unlock(); … }`: `inv` is the call, `acq` the return of
    `Lock()`, `load` the body reading the fields, `store` the body writing them and fixing its result (the
    linearization point; it works on the snapshot `v`), `rel` the deferred `Unlock()`, `ret` the return to
    the caller. -/
inductive Next (s : St σ Op Ret) : Act Op → St σ Op Ret → Prop
  | inv {t op} : s.ph t = .idle →
      Next s (.inv t op) { s with ph := setPh s.ph t (.invoked op), log := .inv t op :: s.log }
  | acq {t op} : s.ph t = .invoked op → s.holder = none →
      Next s (.acq t) { s with ph := setPh s.ph t (.locked op), holder := some t }
  | load {t op} : s.ph t = .locked op → Next s (.load t) { s with ph := setPh s.ph t (.loaded op s.sh) }
  | store {t op v} : s.ph t = .loaded op v →
      Next s (.store t) { s with sh := (step v op).1, ph := setPh s.ph t (.applied op (step v op).2),
                                 log := .lin t op (step v op).2 :: s.log }
  | rel {t op r} : s.ph t = .applied op r →
      Next s (.rel t) { s with ph := setPh s.ph t (.released op r), holder := none }
  | ret {t op r} : s.ph t = .released op r →
      Next s (.ret t) { s with ph := setPh s.ph t .idle, log := .ret t op r :: s.log }

theorem next_iff {s s' : St σ Op Ret} {a : Act Op} : next step s a = some s' ↔ Next step s a s' := by
  constructor
  · intro hn
    cases a <;> simp only [next] at hn <;> split at hn
    all_goals first | cases hn | (cases Option.some.inj hn)
    · exact .inv ‹_›
    · exact .acq ‹_› ‹_›
    · exact .load ‹_›
    · exact .store ‹_›
    · exact .rel ‹_›
    · exact .ret ‹_›
  · rintro (h | ⟨h, hh⟩ | h | h | h | h) <;> simp [next, *]

def runActs (s : St σ Op Ret) : List (Act Op) → Option (St σ Op Ret)
  | [] => some s
  | a :: as => match next step s a with
      | some s' => runActs s' as
      | none => none

-- sequential replay of the linearization events (log is newest-first)
def seqState (init : σ) : List (Ev Op Ret) → σ
  | [] => init
  | .lin _ op _ :: rest => (step (seqState init rest) op).1
  | _ :: rest => seqState init rest

def retsOk (init : σ) : List (Ev Op Ret) → Prop
  | [] => True
  | .lin _ op r :: rest => (step (seqState step init rest) op).2 = r ∧ retsOk init rest
  | _ :: rest => retsOk init rest

def inCS : Phase σ Op Ret → Prop
  | .locked _ | .loaded _ _ | .applied _ _ => True
  | _ => False

structure MInv (init : σ) (s : St σ Op Ret) : Prop where
  mutex : ∀ t, inCS (s.ph t) → s.holder = some t
  fresh : ∀ t op v, s.ph t = .loaded op v → s.sh = v
  seq   : s.sh = seqState step init s.log
  rets  : retsOk step init s.log

/-- what a phase update of `t` leaves of the `mutex` clause to show: the new phase of `t`, and that the
    other threads in the critical section hold the new lock; `cs` is the machine's `inCS` (the mutex
    object's or the monitor's), whose `setPh f t p u` is `if u = t then p else f u` -/
theorem mutex_update {α : Type} (cs : α → Prop) {f : Nat → α} {t : Nat} {p : α} {hold : Option Nat}
    (hp : cs p → hold = some t) (hf : ∀ u, u ≠ t → cs (f u) → hold = some u) (u : Nat)
    (hu : cs (if u = t then p else f u)) : hold = some u := by
  split at hu
  · rename_i e; exact e ▸ hp hu
  · rename_i e; exact hf u e hu

theorem holder_excludes {α : Type} (cs : α → Prop) {ph : Nat → α} {hold : Option Nat} {t : Nat}
    (hm : ∀ u, cs (ph u) → hold = some u) (ht : hold = some t) (u : Nat) (hne : u ≠ t) : ¬ cs (ph u) :=
  fun hu => hne (Option.some.inj ((hm u hu).symm.trans ht))

theorem fresh_setPh {f : Nat → Phase σ Op Ret} {t : Nat} {p : Phase σ Op Ret} {sh : σ}
    (hp : ∀ op v, p = .loaded op v → sh = v) (hf : ∀ u, u ≠ t → ∀ op v, f u = .loaded op v → sh = v) :
    ∀ u op v, setPh f t p u = .loaded op v → sh = v := by
  intro u op v hu
  unfold setPh at hu
  split at hu
  · exact hp op v hu
  · rename_i e; exact hf u e op v hu

theorem inv_next (init : σ) (s s' : St σ Op Ret) (a : Act Op) (h : MInv step init s)
    (hn : next step s a = some s') : MInv step init s' := by
  have held : ∀ {t p}, s.ph t = p → inCS p → s.holder = some t := fun e hp => h.mutex _ (e ▸ hp)
  cases (next_iff step).1 hn with
  | inv _ | ret _ =>
    exact ⟨mutex_update inCS False.elim fun u _ => h.mutex u, fresh_setPh nofun fun u _ => h.fresh u,
      h.seq, h.rets⟩
  | acq _ hh =>
    exact ⟨mutex_update inCS (fun _ => rfl) fun u _ hu => (nomatch hh.symm.trans (h.mutex u hu)),
      fresh_setPh nofun fun u _ => h.fresh u, h.seq, h.rets⟩
  | load hp =>
    exact ⟨mutex_update inCS (fun _ => held hp trivial) fun u _ => h.mutex u,
      fresh_setPh (fun _ _ e => (Phase.loaded.inj e).2) fun u _ => h.fresh u, h.seq, h.rets⟩
  | @store t op v hp =>
    -- the snapshot is the shared state (`fresh`), and no other thread holds one (`mutex`)
    have ht := held hp trivial
    have hv : s.sh = v := h.fresh t op v hp
    refine ⟨mutex_update inCS (fun _ => ht) fun u _ => h.mutex u, fresh_setPh nofun fun u hne op' w hu =>
      absurd (by rw [hu]; trivial) (holder_excludes inCS h.mutex ht u hne), ?_, ?_⟩
    · simp only [seqState]; rw [← h.seq, hv]
    · simp only [retsOk]; refine ⟨?_, h.rets⟩; rw [← h.seq, hv]
  | rel hp =>
    exact ⟨mutex_update inCS False.elim fun u hne hu =>
        absurd hu (holder_excludes inCS h.mutex (held hp trivial) u hne),
      fresh_setPh nofun fun u _ => h.fresh u, h.seq, h.rets⟩

theorem runActs_induct (P : St σ Op Ret → Prop) (as : List (Act Op))
    (hP : ∀ {s a s'}, a ∈ as → P s → Next step s a s' → P s') (s s' : St σ Op Ret) (h : P s)
    (hr : runActs step s as = some s') : P s' := by
  fun_induction runActs step s as with
  | case1 => cases hr; exact h
  | case2 s a as s1 h1 ih =>
    exact ih (fun ha => hP (List.mem_cons_of_mem _ ha))
      (hP (List.mem_cons_self ..) h ((next_iff step).1 h1)) hr
  | case3 => cases hr

theorem inv_run (init : σ) (s s' : St σ Op Ret) (as : List (Act Op)) (h : MInv step init s)
    (hr : runActs step s as = some s') : MInv step init s' :=
  runActs_induct step _ as (fun _ h hn => inv_next step init _ _ _ h ((next_iff step).2 hn)) s s' h hr

def initSt (init : σ) : St σ Op Ret :=
  { sh := init, holder := none, ph := fun _ => .idle, log := [] }

theorem reachable_inv (init : σ) (as : List (Act Op)) (s : St σ Op Ret)
    (h : runActs step (initSt init) as = some s) : MInv step init s :=
  inv_run step init (initSt init) s as ⟨fun _ => False.elim, nofun, rfl, trivial⟩ h

theorem mutual_exclusion (init : σ) (as : List (Act Op)) (s : St σ Op Ret)
    (h : runActs step (initSt init) as = some s) (t u : Nat)
    (ht : inCS (s.ph t)) (hu : inCS (s.ph u)) : t = u := by
  have hI := reachable_inv step init as s h
  have h1 := hI.mutex t ht
  have h2 := hI.mutex u hu
  rw [h1] at h2
  exact Option.some.inj h2

theorem seqState_inv (I : σ → Prop) (init : σ) (h0 : I init)
    (hs : ∀ v op, I v → I (step v op).1) (log : List (Ev Op Ret)) :
    I (seqState step init log) := by
  fun_induction seqState step init log with
  | case1 => exact h0
  | case2 _ _ _ _ ih => exact hs _ _ ih
  | case3 _ _ _ ih => exact ih

theorem runActs_append (s : St σ Op Ret) (as bs : List (Act Op)) :
    runActs step s (as ++ bs) = (runActs step s as).bind (fun s' => runActs step s' bs) := by
  fun_induction runActs step s as with
  | case1 => rfl
  | case2 s a as s' h ih => simpa [runActs, h] using ih
  | case3 s a as h => simp [runActs, h]

end Conc
