/-
  Golib.Conc.Refine — carrying linearizability across a refinement.

  `Conc.mutex_herlihy_wing` says: every reachable state of the mutex-object machine over a
  sequential object `stepC` has a well-nested log whose linearization points form a legal sequential
  history of `stepC`.  If `stepC` is a *CodeModel* (bucket arrays, hash chains, pointer heap) that
  refines a *Spec* `stepA` — a simulation relation `R` between their states that every operation
  preserves, with outputs related by `Q` — then the same linearization is a legal history of the Spec:
  concurrent histories of the code model are linearizable with respect to the Spec.  The three
  refinements proved elsewhere have three different shapes (functional abstraction + invariant for
  the linked maps, a relation with equivalent outputs for the plain maps, an existential
  representation for the linked list); a simulation relation covers all of them.

  The transfer is proved in the form that also lets operations be erased (`legal_transfers_erasing`): an
  operation in `N` is matched by no move of `stepA`.  With `N` empty it is the refinement above; with
  `stepA = stepC` and `R` a content equivalence it says that content-neutral whole-structure operations
  (Sort) never disturb the point operations (Golib/Conc/WholeOps.lean).
-/
import Golib.Conc.WellNested

namespace Conc

variable {σc σa Op RetC RetA : Type}
variable (stepC : σc → Op → σc × RetC) (stepA : σa → Op → σa × RetA)
variable (R : σc → σa → Prop) (Q : RetC → RetA → Prop)

/-- `stepC` simulates `stepA` through `R`, outputs related by `Q` -/
def Simulates : Prop :=
  ∀ c a op, R c a → R (stepC c op).1 (stepA a op).1 ∧ Q (stepC c op).2 (stepA a op).2

/-- the abstract state after the operations of a linearization (recorded results ignored) -/
def runAbs : List (Nat × Op × RetC) → σa → σa
  | [], a => a
  | (_, op, _) :: xs, a => runAbs xs (stepA a op).1

/-- legality w.r.t. the Spec: each recorded (concrete) result is `Q`-related to what the Spec returns -/
def legalAbs : List (Nat × Op × RetC) → σa → Prop
  | [], _ => True
  | (_, op, r) :: xs, a => Q r (stepA a op).2 ∧ legalAbs xs (stepA a op).1

/-- the history without the neutral operations (those in `N`) -/
def pointOps {Ret : Type} (N : Op → Bool) (l : List (Nat × Op × Ret)) : List (Nat × Op × Ret) :=
  l.filter (fun x => !N x.2.1)

/-- A legal history of `stepC` is, with the operations in `N` erased, a legal history of `stepA`, when `R`
    is kept by an `N` operation against no move of `stepA`, and by every other operation against the same
    operation with `Q`-related results.  (`N = ∅`: a simulation; `stepA = stepC`, `R` a content
    equivalence: neutral operations do not disturb the others.) -/
theorem legal_transfers_erasing (N : Op → Bool)
    (hN : ∀ c a op, R c a → N op = true → R (stepC c op).1 a)
    (hC : ∀ c a op, R c a → N op = false →
      R (stepC c op).1 (stepA a op).1 ∧ Q (stepC c op).2 (stepA a op).2)
    (l : List (Nat × Op × RetC)) (c : σc) (a : σa) (hr : R c a) (hl : legal stepC l c) :
    legalAbs stepA Q (pointOps N l) a ∧ R (runOps stepC l c) (runAbs stepA (pointOps N l) a) := by
  induction l generalizing c a with
  | nil => exact ⟨trivial, hr⟩
  | cons x xs ih =>
    obtain ⟨t, op, r⟩ := x
    obtain ⟨hret, hrest⟩ := hl
    cases hn : N op with
    | true => simpa [pointOps, hn, runOps] using ih _ a (hN c a op hr hn) hrest
    | false =>
      obtain ⟨hR, hQ⟩ := hC c a op hr hn
      obtain ⟨i1, i2⟩ := ih _ _ hR hrest
      simp only [pointOps, List.filter, hn, Bool.not_false]
      exact ⟨⟨hret ▸ hQ, i1⟩, i2⟩

/-- **Linearizability with respect to the Spec.**  For every number of threads and every schedule of
    the mutex-object machine over the code model `stepC`, started in a state related to `a0`: the log
    is well nested, the chronological list of linearization points is a legal sequential history of
    the *Spec* (up to `Q` on outputs), and the shared state is `R`-related to the Spec state after
    that history. -/
theorem mutex_refines (h : Simulates stepC stepA R Q) (c0 : σc) (a0 : σa) (h0 : R c0 a0)
    (sched : List (Act Op)) (s : St σc Op RetC) (hs : runActs stepC (initSt c0) sched = some s) :
    wn s.log ∧ legalAbs stepA Q (linOps s.log) a0 ∧ R s.sh (runAbs stepA (linOps s.log) a0) := by
  obtain ⟨h1, h2, h3⟩ := mutex_herlihy_wing stepC c0 sched s hs
  have ht := legal_transfers_erasing stepC stepA R Q (fun _ => false) (fun _ _ _ _ e => nomatch e)
    (fun c a op hr _ => h c a op hr) _ c0 a0 h0 h2
  rw [show pointOps (fun _ => false) (linOps s.log) = _ from List.filter_eq_self.2 fun _ _ => rfl] at ht
  exact ⟨h1, ht.1, h3 ▸ ht.2⟩

/-- with equal outputs `legalAbs` is plain legality of the Spec -/
theorem legalAbs_eq (stepA : σa → Op → σa × RetC) (l : List (Nat × Op × RetC)) (a : σa) :
    legalAbs stepA (fun r r' => r = r') l a ↔ legal stepA l a := by
  induction l generalizing a with
  | nil => simp [legalAbs, legal]
  | cons x xs ih => obtain ⟨t, op, r⟩ := x; simp [legalAbs, legal, ih, eq_comm]

theorem runAbs_eq (stepA : σa → Op → σa × RetC) (l : List (Nat × Op × RetC)) (a : σa) :
    runAbs stepA l a = runOps stepA l a := by
  induction l generalizing a with
  | nil => rfl
  | cons x xs ih => obtain ⟨t, op, r⟩ := x; simp [runAbs, runOps, ih]

end Conc
