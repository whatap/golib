/-
  Golib.Conc.Fair — progress on *infinite* executions of the monitor machine of `Golib.Conc.Cond`
  under an explicit fairness assumption on the actions of ONE thread.

  An execution is a pair `st : Nat → St`, `acts : Nat → Act` with `next (st i) (acts i) = some
  (st (i+1))` for every `i`: the schedule `acts` is chosen by an adversary, any number of threads.
  `WF st acts a` is weak fairness of the action `a`: if `a` is enabled at every index from some
  point on, it is eventually taken.  `SF` is strong fairness (enabled infinitely often ⇒ taken).

  The heart are the stability lemmas: another thread changes `ph t` only by a broadcast
  (`waiting → woken`), and while `t` holds the lock no other thread changes `sh`, `holder`, `ph t`
  (mutual exclusion, `LInv.mutex`, which holds along every execution from `initSt`).
-/
import Golib.Conc.Cond

namespace Conc.Cond

variable {σ Op Ret : Type}

def actor : Act Op → Nat
  | .inv t _ | .acq t | .body t | .rel t | .ret t | .spur t => t

variable (step : σ → Op → Option (σ × Ret)) (bcast : Op → Bool)

/-- an infinite execution of the monitor machine; `acts` is the (adversarial) schedule -/
def IsExec (st : Nat → St σ Op Ret) (acts : Nat → Act Op) : Prop :=
  ∀ i, next step bcast (st i) (acts i) = some (st (i + 1))

def Reach (init : σ) (st : Nat → St σ Op Ret) : Prop := st 0 = initSt init

def enabled (s : St σ Op Ret) (a : Act Op) : Prop := (next step bcast s a).isSome

/-- weak fairness of `a`: continuously enabled from some point on ⇒ eventually taken -/
def WF (st : Nat → St σ Op Ret) (acts : Nat → Act Op) (a : Act Op) : Prop :=
  ∀ i, (∀ j, i ≤ j → enabled step bcast (st j) a) → ∃ j, i ≤ j ∧ acts j = a

/-- strong fairness of `a`: enabled infinitely often ⇒ eventually taken -/
def SF (st : Nat → St σ Op Ret) (acts : Nat → Act Op) (a : Act Op) : Prop :=
  ∀ i, (∀ j, i ≤ j → ∃ k, j ≤ k ∧ enabled step bcast (st k) a) → ∃ j, i ≤ j ∧ acts j = a

theorem SF.wf {st : Nat → St σ Op Ret} {acts : Nat → Act Op} {a : Act Op}
    (h : SF step bcast st acts a) : WF step bcast st acts a :=
  fun i hi => h i (fun j hj => ⟨j, Nat.le_refl j, hi j hj⟩)

variable {step bcast}

/-- every index of an execution from `initSt` is a reachable state of `runActs` -/
theorem exec_prefix {st : Nat → St σ Op Ret} {acts : Nat → Act Op} (hE : IsExec step bcast st acts)
    (i : Nat) : runActs step bcast (st 0) ((List.range i).map acts) = some (st i) := by
  induction i with
  | zero => simp [runActs]
  | succ i ih =>
    rw [List.range_succ, List.map_append, runActs_append, ih]
    simp [runActs, hE i]

theorem exec_linv {st : Nat → St σ Op Ret} {acts : Nat → Act Op} (hE : IsExec step bcast st acts)
    (init : σ) (h0 : Reach init st) (i : Nat) : LInv step init (st i) :=
  reachable_linv step bcast init _ _ (h0 ▸ exec_prefix hE i)

theorem exec_cinv {st : Nat → St σ Op Ret} {acts : Nat → Act Op} (hE : IsExec step bcast st acts)
    (H : NoEnable step bcast) (init : σ) (h0 : Reach init st) (i : Nat) :
    CInv step init (st i) :=
  reachable_cinv step bcast H init _ _ (h0 ▸ exec_prefix hE i)

/-- **Foreign influence on a phase.**  An action of another thread leaves `ph t` unchanged, except
    that the body of a broadcasting operation turns `waiting op` into `woken op`. -/
theorem other_ph {s s' : St σ Op Ret} {b : Act Op} {t : Nat} (hb : actor b ≠ t)
    (hn : Next step bcast s b s') :
    s'.ph t = s.ph t ∨ ∃ op u, b = .body u ∧ s.ph t = .waiting op ∧ s'.ph t = .woken op := by
  cases hn <;> simp only [actor] at hb
  case apply u op _ _ _ _ =>
    simp only [setPh, if_neg (Ne.symm hb)]
    split
    · unfold wake; split
      · exact .inr ⟨_, u, rfl, ‹_›, rfl⟩
      · exact .inl rfl
    · exact .inl rfl
  all_goals exact .inl (if_neg (Ne.symm hb))

theorem other_ph_eq {s s' : St σ Op Ret} {b : Act Op} {t : Nat} (hb : actor b ≠ t)
    (hn : Next step bcast s b s') (hw : ∀ op, s.ph t ≠ .waiting op) : s'.ph t = s.ph t := by
  rcases other_ph hb hn with h | ⟨op, _, _, h, _⟩
  · exact h
  · exact absurd h (hw op)

/-- **Nobody else moves while `t` holds the lock.**  Under mutual exclusion, if `t` is the holder,
    an action of another thread changes neither the shared state, nor the holder, nor `ph t`. -/
theorem other_in_cs {s s' : St σ Op Ret} {b : Act Op} {t : Nat}
    (hm : ∀ u, inCS (s.ph u) → s.holder = some u) (hh : s.holder = some t) (hb : actor b ≠ t)
    (hn : Next step bcast s b s') :
    s'.sh = s.sh ∧ s'.holder = some t ∧ s'.ph t = s.ph t := by
  have out : ∀ {p}, s.ph (actor b) = p → ¬ inCS p := fun e hp =>
    hb (Option.some.inj ((hm _ (e ▸ hp)).symm.trans hh))
  cases hn <;> simp only [actor] at hb out
  case acq hf => exact nomatch hf.symm.trans hh
  case apply hp _ | wait hp _ | rel hp => exact absurd trivial (out hp)
  all_goals exact ⟨rfl, hh, if_neg (Ne.symm hb)⟩

/-- each phase of the actor leaves it one kind of action -/
theorem own_enabled {s s' : St σ Op Ret} {b : Act Op} (hn : Next step bcast s b s') :
    match s.ph (actor b) with
    | .idle => ∃ op, b = .inv (actor b) op
    | .invoked _ | .woken _ => b = .acq (actor b)
    | .locked _ => b = .body (actor b)
    | .waiting _ => b = .spur (actor b)
    | .applied _ _ => b = .rel (actor b)
    | .released _ _ => b = .ret (actor b) := by
  cases hn <;> simp only [actor]
  case acq hp _ => rcases hp with hp | hp <;> simp [hp]
  all_goals simp [*]

/-- a thread in the wait set stays there or becomes `woken` (by a broadcast or spuriously) -/
theorem waiting_step {s s' : St σ Op Ret} {b : Act Op} {t : Nat} {op : Op} (hp : s.ph t = .waiting op)
    (hn : Next step bcast s b s') : s'.ph t = .waiting op ∨ s'.ph t = .woken op := by
  by_cases hb : actor b = t
  · have h := own_enabled hn
    rw [hb, hp] at h
    subst h
    cases hn with
    | spur hp' => cases hp.symm.trans hp'; exact .inr (if_pos rfl)
  · rcases other_ph hb hn with h | ⟨op', _, _, h1, h2⟩
    · exact .inl (h.trans hp)
    · cases hp.symm.trans h1; exact .inr h2

theorem next_acq (s s' : St σ Op Ret) (t : Nat) (op : Op)
    (hp : s.ph t = .invoked op ∨ s.ph t = .woken op)
    (hn : next step bcast s (.acq t) = some s') :
    s.holder = none ∧ s'.ph t = .locked op ∧ s'.sh = s.sh ∧ s'.holder = some t ∧
      s'.log = s.log := by
  rcases hp with hp | hp <;>
  · simp only [next, hp] at hn
    split at hn <;> simp at hn
    all_goals (subst hn; simp_all [setPh])

theorem next_body (s s' : St σ Op Ret) (t : Nat) (op : Op) (v' : σ) (r : Ret)
    (hp : s.ph t = .locked op) (hs : step s.sh op = some (v', r))
    (hn : next step bcast s (.body t) = some s') :
    s'.sh = v' ∧ s'.ph t = .applied op r ∧ s'.log = .lin t op r :: s.log := by
  simp [next, hp, hs] at hn
  subst hn; simp [setPh]

theorem next_rel (s s' : St σ Op Ret) (t : Nat) (op : Op) (r : Ret)
    (hp : s.ph t = .applied op r) (hn : next step bcast s (.rel t) = some s') :
    s'.ph t = .released op r ∧ s'.sh = s.sh ∧ s'.holder = none ∧ s'.log = s.log := by
  simp [next, hp] at hn
  subst hn; simp [setPh]

theorem next_ret (s s' : St σ Op Ret) (t : Nat) (op : Op) (r : Ret)
    (hp : s.ph t = .released op r) (hn : next step bcast s (.ret t) = some s') :
    s'.ph t = .idle ∧ s'.sh = s.sh ∧ s'.log = .ret t op r :: s.log := by
  simp [next, hp] at hn
  subst hn; simp [setPh]

theorem enabled_acq (s : St σ Op Ret) (t : Nat) (op : Op)
    (hp : s.ph t = .invoked op ∨ s.ph t = .woken op) (hf : s.holder = none) :
    enabled step bcast s (.acq t) := by
  rcases hp with hp | hp <;> simp [enabled, next, hp, hf]

theorem enabled_body (s : St σ Op Ret) (t : Nat) (op : Op) (hp : s.ph t = .locked op) :
    enabled step bcast s (.body t) := by
  simp only [enabled, next, hp]
  split <;> simp

theorem enabled_rel (s : St σ Op Ret) (t : Nat) (op : Op) (r : Ret)
    (hp : s.ph t = .applied op r) : enabled step bcast s (.rel t) := by
  simp [enabled, next, hp]

theorem enabled_ret (s : St σ Op Ret) (t : Nat) (op : Op) (r : Ret)
    (hp : s.ph t = .released op r) : enabled step bcast s (.ret t) := by
  simp [enabled, next, hp]

/-- `P` holds until `Q`: if each index with `P` either has `Q` or passes `P` on, then from an index with `P`
    either `P` holds up to `j`, or `Q` came first at a `k < j` (with `P` up to `k`). -/
theorem holds_until {P Q : Nat → Prop} (h : ∀ k, P k → Q k ∨ P (k + 1)) {i : Nat} (hi : P i) (j : Nat)
    (hij : i ≤ j) :
    (∀ m, i ≤ m → m ≤ j → P m) ∨ ∃ k, i ≤ k ∧ k < j ∧ Q k ∧ ∀ m, i ≤ m → m ≤ k → P m := by
  induction hij with
  | refl => exact .inl fun m h1 h2 => Nat.le_antisymm h1 h2 ▸ hi
  | @step j hij ih =>
    rcases ih with ih | ⟨k, h1, h2, h3⟩
    · rcases h j (ih j hij (Nat.le_refl j)) with hq | hp
      · exact .inr ⟨j, hij, Nat.lt_succ_self j, hq, ih⟩
      · refine .inl fun m h1 h2 => ?_
        rcases Nat.lt_or_ge m (j + 1) with hm | hm
        · exact ih m h1 (Nat.le_of_lt_succ hm)
        · exact Nat.le_antisymm hm h2 ▸ hp
    · exact .inr ⟨k, h1, Nat.lt_succ_of_lt h2, h3⟩

/-- `P` survives every step other than `a`, and `a` is taken at some later index if `P` holds for ever
    (what a fairness assumption gives); then `a` is taken at an index where `P` still holds. -/
theorem fires_of_stable {acts : Nat → Act Op} (a : Act Op) (P : Nat → Prop)
    (hstab : ∀ k, P k → acts k ≠ a → P (k + 1)) (i : Nat) (hi : P i)
    (hfair : (∀ j, i ≤ j → P j) → ∃ j, i ≤ j ∧ acts j = a) : ∃ k, i ≤ k ∧ acts k = a ∧ P k := by
  by_cases hall : ∀ j, i ≤ j → P j
  · obtain ⟨j, hij, hj⟩ := hfair hall
    exact ⟨j, hij, hj, hall j hij⟩
  · -- `P` fails at some `j`: it held until `a` was taken, before `j`
    obtain ⟨j, hj⟩ := Classical.not_forall.1 hall
    obtain ⟨hij, hnp⟩ := Classical.not_imp.1 hj
    rcases holds_until (Q := fun k => acts k = a) (fun k hk => (Classical.em _).imp_right (hstab k hk))
      hi j hij with hp | ⟨k, h1, _, h2, hp⟩
    · exact absurd (hp j hij (Nat.le_refl j)) hnp
    · exact ⟨k, h1, h2, hp k h1 (Nat.le_refl k)⟩

/-- **Weak fairness fires.**  `P` survives every step other than `a` and implies that `a` is
    enabled; then from an index where `P` holds, `a` is taken at an index where `P` still holds. -/
theorem wf_fires {st : Nat → St σ Op Ret} {acts : Nat → Act Op} (a : Act Op)
    (hwf : WF step bcast st acts a) (P : Nat → Prop)
    (hstab : ∀ k, P k → acts k ≠ a → P (k + 1))
    (hen : ∀ k, P k → enabled step bcast (st k) a) (i : Nat) (hi : P i) :
    ∃ k, i ≤ k ∧ acts k = a ∧ P k :=
  fires_of_stable a P hstab i hi fun hall => hwf i fun j hj => hen j (hall j hj)

/-- **Strong fairness fires**: as `wf_fires`, but it is enough that `a` is enabled again at some later
    index, and that only if `P` holds from `k` on for ever. -/
theorem sf_fires {st : Nat → St σ Op Ret} {acts : Nat → Act Op} (a : Act Op)
    (hsf : SF step bcast st acts a) (P : Nat → Prop)
    (hstab : ∀ k, P k → acts k ≠ a → P (k + 1))
    (hen : ∀ k, (∀ j, k ≤ j → P j) → ∃ k', k ≤ k' ∧ enabled step bcast (st k') a) (i : Nat)
    (hi : P i) : ∃ k, i ≤ k ∧ acts k = a ∧ P k :=
  fires_of_stable a P hstab i hi fun hall =>
    hsf i fun j hj => hen j fun j' hj' => hall j' (Nat.le_trans hj hj')

section exec
variable {st : Nat → St σ Op Ret} {acts : Nat → Act Op}

theorem exec_next (hE : IsExec step bcast st acts) (k : Nat) :
    Next step bcast (st k) (acts k) (st (k + 1)) :=
  (next_iff step bcast).1 (hE k)

/-- in a phase that leaves `t` one action, a step that is not that action is another thread's -/
theorem foreign_of_ne (hE : IsExec step bcast st acts) (t k : Nat)
    (hne : match (st k).ph t with
      | .invoked _ | .woken _ => acts k ≠ .acq t
      | .locked _ => acts k ≠ .body t
      | .applied _ _ => acts k ≠ .rel t
      | .released _ _ => acts k ≠ .ret t
      | _ => False) : actor (acts k) ≠ t := by
  intro hb
  have := own_enabled (exec_next hE k)
  rw [hb] at this
  cases h : (st k).ph t <;> simp only [h] at this hne <;> exact hne this

theorem wants_stable (hE : IsExec step bcast st acts) (t : Nat) (op : Op) (k : Nat)
    (hp : (st k).ph t = .invoked op ∨ (st k).ph t = .woken op) (hne : acts k ≠ .acq t) :
    (st (k + 1)).ph t = .invoked op ∨ (st (k + 1)).ph t = .woken op := by
  rw [other_ph_eq (foreign_of_ne hE t k (by rcases hp with hp | hp <;> rw [hp] <;> exact hne))
    (exec_next hE k)
    (by intro op' h; rcases hp with hp | hp <;> rw [hp] at h <;> simp at h)]
  exact hp

theorem cs_stable (hE : IsExec step bcast st acts) (init : σ) (h0 : Reach init st) (t k : Nat)
    (hcs : inCS ((st k).ph t)) (hb : actor (acts k) ≠ t) :
    (st (k + 1)).ph t = (st k).ph t ∧ (st (k + 1)).sh = (st k).sh := by
  have hI := exec_linv hE init h0 k
  obtain ⟨h1, _, h3⟩ := other_in_cs hI.mutex (hI.mutex t hcs) hb (exec_next hE k)
  exact ⟨h3, h1⟩

/-- **1. A thread that wants the lock cannot be passed over forever while the lock stays free.**
    No invariant, no assumption on the other threads. -/
theorem fair_acquires (hE : IsExec step bcast st acts) (t : Nat) (op : Op)
    (hwf : WF step bcast st acts (.acq t)) (i : Nat) :
    ¬ ∀ j, i ≤ j → ((st j).ph t = .invoked op ∨ (st j).ph t = .woken op) ∧
        (st j).holder = none := by
  intro hall
  obtain ⟨j, hij, hj⟩ := hwf i (fun j hj => enabled_acq (st j) t op (hall j hj).1 (hall j hj).2)
  have h1 := next_acq (st j) (st (j + 1)) t op (hall j hij).1 (hj ▸ hE j)
  have h2 := (hall (j + 1) (by omega)).2
  rw [h1.2.2.2.1] at h2
  simp at h2

/-- the same with strong fairness: the lock only has to be free *infinitely often* while `t`
    wants it (other threads may take and release it in between) — `t` does acquire. -/
theorem sfair_acquires (hE : IsExec step bcast st acts) (t : Nat) (op : Op)
    (hsf : SF step bcast st acts (.acq t)) (i : Nat)
    (hp : (st i).ph t = .invoked op ∨ (st i).ph t = .woken op)
    (hfree : ∀ j, i ≤ j → ((st j).ph t = .invoked op ∨ (st j).ph t = .woken op) →
      ∃ k, j ≤ k ∧ (st k).holder = none) :
    ∃ k, i ≤ k ∧ acts k = .acq t ∧ (st k).holder = none ∧
      ((st k).ph t = .invoked op ∨ (st k).ph t = .woken op) := by
  obtain ⟨k, hik, hk, _, hw⟩ := sf_fires (.acq t) hsf
    (fun k => i ≤ k ∧ ((st k).ph t = .invoked op ∨ (st k).ph t = .woken op))
    (fun k hk hne => ⟨Nat.le_succ_of_le hk.1, wants_stable hE t op k hk.2 hne⟩)
    (fun k hall => by
      obtain ⟨k', hk', hf⟩ := hfree k (hall k (Nat.le_refl k)).1 (hall k (Nat.le_refl k)).2
      exact ⟨k', hk', enabled_acq (st k') t op (hall k' hk').2 hf⟩)
    i ⟨Nat.le_refl i, hp⟩
  exact ⟨k, hik, hk, (next_acq (st k) (st (k + 1)) t op hw (hk ▸ hE k)).1, hw⟩

/-- **2. Once `t` has the lock, its body, release and return happen**, the result is computed
    from the shared state it found (nobody else can move it while `t` holds the lock):
    `k` is the index of `t`'s body (linearization point), `j` the index right after its `ret`. -/
theorem fair_completes (hE : IsExec step bcast st acts) (init : σ) (h0 : Reach init st)
    (t : Nat) (op : Op)
    (hwb : WF step bcast st acts (.body t)) (hwr : WF step bcast st acts (.rel t))
    (hwt : WF step bcast st acts (.ret t))
    (i : Nat) (v' : σ) (r : Ret) (hp : (st i).ph t = .locked op)
    (hs : step (st i).sh op = some (v', r)) :
    ∃ j, i < j ∧ (st j).ph t = .idle ∧ (∃ l, (st j).log = .ret t op r :: l) ∧
      ∃ k, i ≤ k ∧ k < j ∧ acts k = .body t ∧ (st k).sh = (st i).sh ∧ (st (k + 1)).sh = v' := by
  obtain ⟨k1, hik1, ha1, hp1, hsh1⟩ := wf_fires (.body t) hwb
    (fun k => (st k).ph t = .locked op ∧ (st k).sh = (st i).sh)
    (fun k hk hne => by
      obtain ⟨a, b⟩ := cs_stable hE init h0 t k (by rw [hk.1]; trivial)
        (foreign_of_ne hE t k (by rw [hk.1]; exact hne))
      exact ⟨by rw [a, hk.1], by rw [b, hk.2]⟩)
    (fun k hk => enabled_body (st k) t op hk.1) i ⟨hp, rfl⟩
  obtain ⟨b1, b2, _⟩ :=
    next_body (st k1) (st (k1 + 1)) t op v' r hp1 (by rw [hsh1]; exact hs) (ha1 ▸ hE k1)
  obtain ⟨k2, hk12, ha2, hp2⟩ := wf_fires (.rel t) hwr
    (fun k => (st k).ph t = .applied op r)
    (fun k hk hne => by
      rw [(cs_stable hE init h0 t k (by rw [hk]; trivial)
        (foreign_of_ne hE t k (by rw [hk]; exact hne))).1, hk])
    (fun k hk => enabled_rel (st k) t op r hk) (k1 + 1) b2
  obtain ⟨c1, _⟩ := next_rel (st k2) (st (k2 + 1)) t op r hp2 (ha2 ▸ hE k2)
  obtain ⟨k3, hk23, ha3, hp3⟩ := wf_fires (.ret t) hwt
    (fun k => (st k).ph t = .released op r)
    (fun k hk hne => by
      rw [other_ph_eq (foreign_of_ne hE t k (by rw [hk]; exact hne)) (exec_next hE k)
        (by rw [hk]; nofun), hk])
    (fun k hk => enabled_ret (st k) t op r hk) (k2 + 1) c1
  obtain ⟨d1, _, d3⟩ := next_ret (st k3) (st (k3 + 1)) t op r hp3 (ha3 ▸ hE k3)
  exact ⟨k3 + 1, by omega, d1, ⟨_, d3⟩, k1, hik1, by omega, ha1, hsh1, b1⟩

/-- **2'.**  `t` takes the lock at `a` and finds its guard true: it returns the sequential result of the
    shared state it found. -/
theorem returns_after_acq (hE : IsExec step bcast st acts) (init : σ) (h0 : Reach init st)
    (t : Nat) (op : Op) (hwb : WF step bcast st acts (.body t)) (hwr : WF step bcast st acts (.rel t))
    (hwt : WF step bcast st acts (.ret t)) (a : Nat) (haa : acts a = .acq t)
    (hpa : (st a).ph t = .invoked op ∨ (st a).ph t = .woken op) (hs : (step (st a).sh op).isSome) :
    ∃ j, a < j ∧ (st j).ph t = .idle ∧ ∃ r l, (st j).log = .ret t op r :: l ∧
      ∃ k v', a < k ∧ k < j ∧ acts k = .body t ∧
        (st k).sh = (st a).sh ∧ step (st k).sh op = some (v', r) ∧ (st (k + 1)).sh = v' := by
  obtain ⟨_, e2, e3, _, _⟩ := next_acq (st a) (st (a + 1)) t op hpa (haa ▸ hE a)
  obtain ⟨⟨v', r⟩, hs⟩ := Option.isSome_iff_exists.1 hs
  obtain ⟨j, hj, f1, ⟨l, f2⟩, k, g1, g2, g3, g4, g5⟩ :=
    fair_completes hE init h0 t op hwb hwr hwt (a + 1) v' r e2 (by rw [e3]; exact hs)
  exact ⟨j, by omega, f1, r, l, f2, k, v', by omega, g2, g3, g4.trans e3, by rw [g4, e3]; exact hs, g5⟩

/-- **3 (strong form).**  Weak fairness of `t`'s four actions; `t` wants the lock at `i`, and as
    long as it wants it the lock is free and the guard true.  Then `t` acquires at some `a ≥ i`,
    its body runs at `k ≥ a+1` on the shared state it found when acquiring, and it returns the
    sequential result `r` of that state. -/
theorem fair_get_returns_lin (hE : IsExec step bcast st acts) (init : σ) (h0 : Reach init st)
    (t : Nat) (op : Op)
    (hwa : WF step bcast st acts (.acq t)) (hwb : WF step bcast st acts (.body t))
    (hwr : WF step bcast st acts (.rel t)) (hwt : WF step bcast st acts (.ret t))
    (i : Nat) (hp : (st i).ph t = .invoked op ∨ (st i).ph t = .woken op)
    (hG : ∀ j, i ≤ j → ((st j).ph t = .invoked op ∨ (st j).ph t = .woken op) →
      (st j).holder = none ∧ (step (st j).sh op).isSome) :
    ∃ j, i < j ∧ (st j).ph t = .idle ∧ ∃ r l, (st j).log = .ret t op r :: l ∧
      ∃ a k v', i ≤ a ∧ a < k ∧ k < j ∧ acts a = .acq t ∧ acts k = .body t ∧
        (st k).sh = (st a).sh ∧ step (st k).sh op = some (v', r) ∧ (st (k + 1)).sh = v' := by
  obtain ⟨a, hia, haa, _, hpa⟩ := wf_fires (.acq t) hwa
    (fun k => i ≤ k ∧ ((st k).ph t = .invoked op ∨ (st k).ph t = .woken op))
    (fun k hk hne => ⟨by omega, wants_stable hE t op k hk.2 hne⟩)
    (fun k hk => enabled_acq (st k) t op hk.2 (hG k hk.1 hk.2).1) i ⟨Nat.le_refl i, hp⟩
  obtain ⟨j, hj, f1, r, l, f2, k, v', g⟩ :=
    returns_after_acq hE init h0 t op hwb hwr hwt a haa hpa (hG a hia hpa).2
  exact ⟨j, by omega, f1, r, l, f2, a, k, v', hia, g.1, g.2.1, haa, g.2.2⟩

/-- **3. Under weak fairness, an operation that finds the lock free and its guard true whenever
    it looks does return** — for any number of other threads, any adversarial schedule. -/
theorem fair_get_returns (hE : IsExec step bcast st acts) (init : σ) (h0 : Reach init st)
    (t : Nat) (op : Op)
    (hwa : WF step bcast st acts (.acq t)) (hwb : WF step bcast st acts (.body t))
    (hwr : WF step bcast st acts (.rel t)) (hwt : WF step bcast st acts (.ret t))
    (i : Nat) (hp : (st i).ph t = .invoked op ∨ (st i).ph t = .woken op)
    (hG : ∀ j, i ≤ j → ((st j).ph t = .invoked op ∨ (st j).ph t = .woken op) →
      (st j).holder = none ∧ (step (st j).sh op).isSome) :
    ∃ j, i < j ∧ (st j).ph t = .idle ∧ ∃ r l, (st j).log = .ret t op r :: l := by
  obtain ⟨j, h1, h2, r, l, h3, _⟩ := fair_get_returns_lin hE init h0 t op hwa hwb hwr hwt i hp hG
  exact ⟨j, h1, h2, r, l, h3⟩

/-- **3' (contended lock).**  With *strong* fairness of `acq t` the lock need not stay free: it
    is enough that, while `t` wants it, the lock is free again and again (the other threads
    release it), and that the guard is true whenever `t` wants the lock and the lock is free. -/
theorem sfair_get_returns (hE : IsExec step bcast st acts) (init : σ) (h0 : Reach init st)
    (t : Nat) (op : Op)
    (hsa : SF step bcast st acts (.acq t)) (hwb : WF step bcast st acts (.body t))
    (hwr : WF step bcast st acts (.rel t)) (hwt : WF step bcast st acts (.ret t))
    (i : Nat) (hp : (st i).ph t = .invoked op ∨ (st i).ph t = .woken op)
    (hfree : ∀ j, i ≤ j → ((st j).ph t = .invoked op ∨ (st j).ph t = .woken op) →
      ∃ k, j ≤ k ∧ (st k).holder = none)
    (hG : ∀ j, i ≤ j → ((st j).ph t = .invoked op ∨ (st j).ph t = .woken op) →
      (st j).holder = none → (step (st j).sh op).isSome) :
    ∃ j, i < j ∧ (st j).ph t = .idle ∧ ∃ r l, (st j).log = .ret t op r :: l ∧
      ∃ a k v', i ≤ a ∧ a < k ∧ k < j ∧ acts a = .acq t ∧ acts k = .body t ∧
        (st k).sh = (st a).sh ∧ step (st k).sh op = some (v', r) ∧ (st (k + 1)).sh = v' := by
  obtain ⟨a, hia, haa, hfa, hwa⟩ := sfair_acquires hE t op hsa i hp hfree
  obtain ⟨j, hj, f1, r, l, f2, k, v', g⟩ :=
    returns_after_acq hE init h0 t op hwb hwr hwt a haa hwa (hG a hia hwa hfa)
  exact ⟨j, by omega, f1, r, l, f2, a, k, v', hia, g.1, g.2.1, haa, g.2.2⟩

/-- **4. A waiter has left the wait set by the time its guard is true.**  `t` is in the wait set
    at `i`, the guard of its operation is true at `k`; then `i < k` and `t` became `woken` at some
    `j ∈ (i, k]` (and was waiting at every index before `j`). -/
theorem waiting_wakes (hE : IsExec step bcast st acts) (H : NoEnable step bcast) (init : σ)
    (h0 : Reach init st) (t : Nat) (op : Op) (i k : Nat) (hik : i ≤ k)
    (hw : (st i).ph t = .waiting op) (hg : (step (st k).sh op).isSome) :
    ∃ j, i < j ∧ j ≤ k ∧ (st j).ph t = .woken op ∧
      ∀ m, i ≤ m → m < j → (st m).ph t = .waiting op := by
  rcases holds_until (P := fun m => (st m).ph t = .waiting op)
    (Q := fun m => (st (m + 1)).ph t = .woken op)
    (fun m hm => (waiting_step hm (exec_next hE m)).symm) hw k hik with hp | ⟨j, h1, h2, h3, hp⟩
  · -- still waiting at `k`: the wait set is sound there, so the guard is false
    have hb := (exec_cinv hE H init h0 k).blocked t op (hp k hik (Nat.le_refl k))
    rw [hb] at hg
    cases hg
  · exact ⟨j + 1, Nat.lt_succ_of_le h1, h2, h3, fun m hm hmj => hp m hm (Nat.le_of_lt_succ hmj)⟩

/-- **4 + 3'.**  A consumer in the wait set at `i` whose guard is true at some `k ≥ i` has been
    woken by then (no lost wake-up); if from then on the lock is free again and again and the guard
    is true whenever `t` wants the lock and finds it free, then under strong fairness of `acq t`
    and weak fairness of `body`/`rel`/`ret` it returns. -/
theorem sfair_waiter_returns (hE : IsExec step bcast st acts) (H : NoEnable step bcast) (init : σ)
    (h0 : Reach init st) (t : Nat) (op : Op)
    (hsa : SF step bcast st acts (.acq t)) (hwb : WF step bcast st acts (.body t))
    (hwr : WF step bcast st acts (.rel t)) (hwt : WF step bcast st acts (.ret t))
    (i k : Nat) (hik : i ≤ k) (hw : (st i).ph t = .waiting op)
    (hg : (step (st k).sh op).isSome)
    (hfree : ∀ j, i ≤ j → ((st j).ph t = .invoked op ∨ (st j).ph t = .woken op) →
      ∃ k, j ≤ k ∧ (st k).holder = none)
    (hG : ∀ j, i ≤ j → ((st j).ph t = .invoked op ∨ (st j).ph t = .woken op) →
      (st j).holder = none → (step (st j).sh op).isSome) :
    ∃ j, i < j ∧ (st j).ph t = .idle ∧ ∃ r l, (st j).log = .ret t op r :: l := by
  obtain ⟨w, hiw, _, hww, _⟩ := waiting_wakes hE H init h0 t op i k hik hw hg
  obtain ⟨j, h1, h2, r, l, h3, _⟩ := sfair_get_returns hE init h0 t op hsa hwb hwr hwt w
    (Or.inr hww) (fun j hj => hfree j (by omega)) (fun j hj => hG j (by omega))
  exact ⟨j, by omega, h2, r, l, h3⟩

end exec

section pingpong
variable (step : σ → Op → Option (σ × Ret)) (bcast : Op → Bool)
variable (v0 v1 : σ) (o1 o2 : Op) (r1 r2 : Ret)

def ppAct (i : Nat) : Act Op :=
  match i % 10 with
  | 0 => .inv 1 o1 | 1 => .acq 1 | 2 => .body 1 | 3 => .rel 1 | 4 => .ret 1
  | 5 => .inv 0 o2 | 6 => .acq 0 | 7 => .body 0 | 8 => .rel 0 | _ => .ret 0

def ppSt : Nat → St σ Op Ret
  | 0 => initSt v0
  | i + 1 => (next step bcast (ppSt i) (ppAct o1 o2 i)).getD (ppSt i)

def ppCore (i : Nat) : σ × Option Nat × Phase Op Ret × Phase Op Ret :=
  match i % 10 with
  | 0 => (v0, none, .idle, .idle)
  | 1 => (v0, none, .idle, .invoked o1)
  | 2 => (v0, some 1, .idle, .locked o1)
  | 3 => (v1, some 1, .idle, .applied o1 r1)
  | 4 => (v1, none, .idle, .released o1 r1)
  | 5 => (v1, none, .idle, .idle)
  | 6 => (v1, none, .invoked o2, .idle)
  | 7 => (v1, some 0, .locked o2, .idle)
  | 8 => (v0, some 0, .applied o2 r2, .idle)
  | _ => (v0, none, .released o2 r2, .idle)

def coreOf (s : St σ Op Ret) : σ × Option Nat × Phase Op Ret × Phase Op Ret :=
  (s.sh, s.holder, s.ph 0, s.ph 1)

omit step bcast v0 v1 o1 o2 r1 r2 in
theorem mod_ten (i : Nat) : i % 10 = 0 ∨ i % 10 = 1 ∨ i % 10 = 2 ∨ i % 10 = 3 ∨ i % 10 = 4 ∨
    i % 10 = 5 ∨ i % 10 = 6 ∨ i % 10 = 7 ∨ i % 10 = 8 ∨ i % 10 = 9 := by omega

/-- one step of the ping-pong: from the tabulated core at `i` the scheduled action is enabled and
    leads to the tabulated core at `i + 1` -/
theorem pp_step (h1 : step v0 o1 = some (v1, r1)) (h2 : step v1 o2 = some (v0, r2)) (i : Nat)
    (hc : coreOf (ppSt step bcast v0 o1 o2 i) = ppCore v0 v1 o1 o2 r1 r2 i) :
    next step bcast (ppSt step bcast v0 o1 o2 i) (ppAct o1 o2 i)
        = some (ppSt step bcast v0 o1 o2 (i + 1)) ∧
      coreOf (ppSt step bcast v0 o1 o2 (i + 1)) = ppCore v0 v1 o1 o2 r1 r2 (i + 1) := by
  have hm' := Nat.add_mod i 1 10
  rcases mod_ten i with hm | hm | hm | hm | hm | hm | hm | hm | hm | hm <;>
  · simp only [hm, Nat.reduceAdd, Nat.reduceMod] at hm'
    simp only [ppCore, hm, coreOf, Prod.mk.injEq] at hc
    obtain ⟨e1, e2, e3, e4⟩ := hc
    simp [ppSt, ppAct, hm, ppCore, hm', coreOf, next, e1, e2, e3, e4, h1, h2, setPh] <;>
      (split <;> simp [wake, e3, e4])

theorem pp_core (h1 : step v0 o1 = some (v1, r1)) (h2 : step v1 o2 = some (v0, r2)) (i : Nat) :
    coreOf (ppSt step bcast v0 o1 o2 i) = ppCore v0 v1 o1 o2 r1 r2 i := by
  induction i with
  | zero => rfl
  | succ i ih => exact (pp_step step bcast v0 v1 o1 o2 r1 r2 h1 h2 i ih).2

theorem pp_wf (a : Act Op) (c : Nat) (hc : ∀ i, ppAct o1 o2 (10 * i + c) = a) :
    WF step bcast (ppSt step bcast v0 o1 o2) (ppAct o1 o2) a :=
  fun i _ => ⟨10 * i + c, by omega, hc i⟩

/-- **Non-vacuity.**  Whenever `o1` leads from `v0` to `v1` and `o2` back (e.g. a put and a get
    on an empty queue), there is an infinite execution from `initSt v0` — thread 1 performs `o1`,
    then thread 0 performs `o2`, forever — that satisfies ALL hypotheses of `fair_get_returns`
    for thread 0 (weak fairness of its four actions, lock free and guard true whenever it wants
    the lock), with thread 0 `invoked` at index 6. -/
theorem pingpong_fair_exec (h1 : step v0 o1 = some (v1, r1)) (h2 : step v1 o2 = some (v0, r2)) :
    ∃ (st : Nat → St σ Op Ret) (acts : Nat → Act Op),
      IsExec step bcast st acts ∧ Reach v0 st ∧
      WF step bcast st acts (.acq 0) ∧ WF step bcast st acts (.body 0) ∧
      WF step bcast st acts (.rel 0) ∧ WF step bcast st acts (.ret 0) ∧
      (st 6).ph 0 = .invoked o2 ∧
      ∀ j, ((st j).ph 0 = .invoked o2 ∨ (st j).ph 0 = .woken o2) →
        (st j).holder = none ∧ (step (st j).sh o2).isSome := by
  have hcore := pp_core step bcast v0 v1 o1 o2 r1 r2 h1 h2
  refine ⟨ppSt step bcast v0 o1 o2, ppAct o1 o2,
    fun i => (pp_step step bcast v0 v1 o1 o2 r1 r2 h1 h2 i (hcore i)).1, rfl,
    pp_wf step bcast v0 o1 o2 _ 6 fun i => by simp [ppAct],
    pp_wf step bcast v0 o1 o2 _ 7 fun i => by simp [ppAct],
    pp_wf step bcast v0 o1 o2 _ 8 fun i => by simp [ppAct],
    pp_wf step bcast v0 o1 o2 _ 9 fun i => by simp [ppAct], ?_, ?_⟩
  · have hc := hcore 6
    simp only [ppCore, coreOf, Prod.mk.injEq] at hc
    exact hc.2.2.1
  · intro j hj
    have hc := hcore j
    rcases mod_ten j with hm | hm | hm | hm | hm | hm | hm | hm | hm | hm <;>
    · simp only [ppCore, hm, coreOf, Prod.mk.injEq] at hc
      obtain ⟨e1, e2, e3, e4⟩ := hc
      simp [e3] at hj <;> simp [e1, e2, h2]

/-- hence the conclusion of `fair_get_returns` holds on that execution (it is derived here from
    the theorem, not by inspection of the execution) -/
example (h1 : step v0 o1 = some (v1, r1)) (h2 : step v1 o2 = some (v0, r2)) :
    ∃ (st : Nat → St σ Op Ret) (acts : Nat → Act Op), IsExec step bcast st acts ∧
      ∃ j, 6 < j ∧ (st j).ph 0 = .idle ∧ ∃ r l, (st j).log = .ret 0 o2 r :: l := by
  obtain ⟨st, acts, hE, h0, a, b, c, d, hp, hG⟩ :=
    pingpong_fair_exec step bcast v0 v1 o1 o2 r1 r2 h1 h2
  exact ⟨st, acts, hE,
    fair_get_returns hE v0 h0 0 o2 a b c d 6 (Or.inl hp) (fun j _ h => hG j h)⟩

end pingpong
end Conc.Cond
