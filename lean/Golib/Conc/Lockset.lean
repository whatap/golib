/-
  Golib.Conc.Lockset — the lockset discipline implies that conflicting accesses are ordered by a
  release → acquire pair of the protecting mutex.

  What is *proved* here is purely about traces of one mutex: if two accesses by different threads
  are both made while holding the lock, then between them the first thread released and the second
  thread acquired.  That `rel t … acq u` on the same mutex induces a happens-before edge (and hence
  that the two accesses are not a data race) is the Go memory model's guarantee for `sync.Mutex`;
  it is an *assumption* of the overall argument, not something modelled here.
-/

namespace Conc.Lockset

/-- events of a chronological trace: lock acquire / release and memory accesses of thread `t` -/
inductive E where
  | acq (t : Nat)
  | rel (t : Nat)
  | acc (t : Nat) (write : Bool)
  deriving DecidableEq, Repr

/-- one step of the mutex semantics on the holder; `none` = the event is not enabled -/
def stepH (h : Option Nat) : E → Option (Option Nat)
  | .acq t => if h = none then some (some t) else none
  | .rel t => if h = some t then some none else none
  | .acc _ _ => some h

/-- run the mutex semantics over a chronological trace from holder `h`;
    `none` = the trace is not valid -/
def holderAfter (h : Option Nat) : List E → Option (Option Nat)
  | [] => some h
  | e :: es => (stepH h e).bind (fun h' => holderAfter h' es)

theorem holderAfter_append (h : Option Nat) (a b : List E) :
    holderAfter h (a ++ b) = (holderAfter h a).bind (fun h' => holderAfter h' b) := by
  induction a generalizing h with
  | nil => simp [holderAfter]
  | cons e a ih =>
    simp only [List.cons_append, holderAfter]
    cases stepH h e with
    | none => simp
    | some h' => simpa using ih h'

/-- the lock can only change hands after its holder released it -/
theorem released_before_handover (t u : Nat) (htu : t ≠ u) (mid : List E)
    (h : holderAfter (some t) mid = some (some u)) :
    ∃ m1 m', mid = m1 ++ E.rel t :: m' ∧ holderAfter (some t) m1 = some (some t) ∧
      holderAfter none m' = some (some u) := by
  induction mid with
  | nil => simp [holderAfter] at h; exact absurd h htu
  | cons e es ih =>
    cases e with
    | acq x => simp [holderAfter, stepH] at h
    | rel x =>
      simp only [holderAfter, stepH] at h
      split at h
      · rename_i hx
        simp at hx; subst hx
        exact ⟨[], es, rfl, rfl, by simpa using h⟩
      · simp at h
    | acc x w =>
      simp only [holderAfter, stepH, Option.bind_some] at h
      obtain ⟨m1, m', hes, h1, h2⟩ := ih h
      exact ⟨E.acc x w :: m1, m', by simp [hes], by simpa [holderAfter, stepH] using h1, h2⟩

/-- whoever ends up holding the lock without holding it at the start has acquired it -/
theorem acquired_before_holding (u : Nat) (m : List E) (h0 : Option Nat) (hne : h0 ≠ some u)
    (h : holderAfter h0 m = some (some u)) :
    ∃ m2 m3, m = m2 ++ E.acq u :: m3 := by
  induction m generalizing h0 with
  | nil => simp [holderAfter] at h; exact absurd h hne
  | cons e es ih =>
    cases e with
    | acq x =>
      simp only [holderAfter, stepH] at h
      split at h
      · simp only [Option.bind_some] at h
        by_cases hx : x = u
        · subst hx; exact ⟨[], es, rfl⟩
        · obtain ⟨m2, m3, hes⟩ := ih (some x) (by simpa using hx) h
          exact ⟨E.acq x :: m2, m3, by simp [hes]⟩
      · simp at h
    | rel x =>
      simp only [holderAfter, stepH] at h
      split at h
      · simp only [Option.bind_some] at h
        obtain ⟨m2, m3, hes⟩ := ih none (by simp) h
        exact ⟨E.rel x :: m2, m3, by simp [hes]⟩
      · simp at h
    | acc x w =>
      simp only [holderAfter, stepH, Option.bind_some] at h
      obtain ⟨m2, m3, hes⟩ := ih h0 hne h
      exact ⟨E.acc x w :: m2, m3, by simp [hes]⟩

/-- **Lockset discipline ⇒ conflicting accesses are separated by `rel t … acq u`.**
    If in a trace `pre ++ [acc t w] ++ mid ++ [acc u w'] ++ post` the first access is made by `t`
    while holding the lock (`h0`) and the second by a different thread `u` while holding the lock
    (`h1`, which also says that the trace is valid up to the second access), then `mid` contains a
    release by `t` followed by an acquire by `u`.  (Validity of `post` is irrelevant and therefore
    not required; see `lockset_race_free_valid` for the form with the whole trace valid.) -/
theorem lockset_race_free (pre mid post : List E) (t u : Nat) (w w' : Bool) (htu : t ≠ u)
    (h0 : holderAfter none pre = some (some t))
    (h1 : holderAfter none (pre ++ [E.acc t w] ++ mid) = some (some u)) :
    ∃ m1 m2 m3, mid = m1 ++ [E.rel t] ++ m2 ++ [E.acq u] ++ m3 := by
  have _ := post; have _ := w'
  have hmid : holderAfter (some t) mid = some (some u) := by
    rw [List.append_assoc, holderAfter_append, h0] at h1
    simpa [holderAfter, stepH] using h1
  obtain ⟨m1, m', hm, _, hm'⟩ := released_before_handover t u htu mid hmid
  obtain ⟨m2, m3, hm2⟩ := acquired_before_holding u m' none (by simp) hm'
  exact ⟨m1, m2, m3, by simp [hm, hm2]⟩

/-- the same with the hypothesis that the whole trace is valid from the unlocked state -/
theorem lockset_race_free_valid (pre mid post : List E) (t u : Nat) (w w' : Bool) (htu : t ≠ u)
    (_hv : (holderAfter none (pre ++ [E.acc t w] ++ mid ++ [E.acc u w'] ++ post)).isSome = true)
    (h0 : holderAfter none pre = some (some t))
    (h1 : holderAfter none (pre ++ [E.acc t w] ++ mid) = some (some u)) :
    ∃ m1 m2 m3, mid = m1 ++ [E.rel t] ++ m2 ++ [E.acq u] ++ m3 :=
  lockset_race_free pre mid post t u w w' htu h0 h1

/-- non-vacuity of the hypotheses: a lock-disciplined hand-over -/
example :
    holderAfter none ([E.acq 0] ++ [E.acc 0 true] ++ [E.rel 0, E.acq 1] ++ [E.acc 1 false] ++
      [E.rel 1]) = some none ∧
    holderAfter none [E.acq 0] = some (some 0) ∧
    holderAfter none ([E.acq 0] ++ [E.acc 0 true] ++ [E.rel 0, E.acq 1]) = some (some 1) := by
  decide

/-- **The discipline is needed.**  A valid trace in which thread 1 reads without holding the lock
    while thread 0 writes under the lock: the two conflicting accesses are adjacent, no
    release/acquire lies between them, so nothing orders them. -/
theorem unlocked_access_unordered :
    let pre := [E.acq 0]; let mid : List E := []; let post := [E.rel 0]
    holderAfter none (pre ++ [E.acc 0 true] ++ mid ++ [E.acc 1 false] ++ post) = some none ∧
    holderAfter none pre = some (some 0) ∧
    holderAfter none (pre ++ [E.acc 0 true] ++ mid) ≠ some (some 1) ∧
    (E.rel 0 ∉ mid ∧ E.acq 1 ∉ mid) := by
  decide

/-- in particular the conclusion of `lockset_race_free` fails for that trace -/
theorem unlocked_access_no_handover :
    ¬ ∃ m1 m2 m3 : List E, ([] : List E) = m1 ++ [E.rel 0] ++ m2 ++ [E.acq 1] ++ m3 := by
  simp

end Conc.Lockset
