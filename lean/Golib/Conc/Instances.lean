/-
  Golib.Conc.Instances — the CodeModels of the collections (C12 plain hash maps/sets, C13 linked list)
  simulate their Specs, so that `Conc.mutex_refines` applies to them.  (For the C09 linked hash maps/sets
  the simulation is `HMap.LMap.Rel.step` as it stands.)
-/
import Golib.Conc.Refine
import Golib.HMap.PlainStep
import Golib.Lists.LinkedProof

namespace Conc.Inst
open HMap

section plain
variable {K V : Type} [DecidableEq K] [DecidableEq V]
variable (hash : K → Nat) (thr : Nat → Nat) (d : PDesc K V)

/-- C12's `plain_refine_step` as a simulation; outputs equal up to the order of enumerations -/
theorem plain_simulates :
    Simulates (PMap.step hash thr d) (PS.step d) (PMap.Rel hash d) Out.equiv := by
  intro m s op h
  exact PMap.plain_refine_step thr h op
end plain

section list
open Lists.Linked

/-- the pointer structure of LinkedList.go and its Spec, as objects `state → op → state × out` -/
def llStep (o : LL) (op : Op) : LL × Out := ((LL.step op o).2, (LL.step op o).1)
def llSpec (s : List Int) (op : Op) : List Int × Out := ((Spec.step op s).2, (Spec.step op s).1)

/-- the heap represents the list of values, for some assignment of node ids -/
def ListRel (o : LL) (vals : List Int) : Prop := ∃ ids, Rep o ids vals

/-- C13's `step_refines` as a simulation -/
theorem list_simulates : Simulates llStep llSpec ListRel (fun r r' => r = r') := by
  intro o vals op ⟨ids, h⟩
  obtain ⟨h1, ids', h2⟩ := step_refines op o ids vals h
  exact ⟨⟨ids', h2⟩, h1⟩

theorem list_init : ListRel LL.empty [] := ⟨[], Rep.empty⟩
end list

end Conc.Inst
