/-
  Golib.Conc.SeqSpecThms — the structure invariant of the sequential dictionary spec
  (distinct keys) is preserved by every point operation; used with `C10.mutex_no_corruption` to
  conclude that it holds in every reachable state of the concurrent machine.
-/
import Golib.Conc.SeqSpec

namespace SeqSpec

theorem keys_replace (k v : Nat) (m : MSt) : (replace k v m).map (·.1) = m.map (·.1) := by
  fun_induction replace k v m with
  | case1 => rfl
  | case2 => rfl
  | case3 k' v' r _ ih => simp [ih]

theorem keys_erase_sublist (k : Nat) (m : MSt) : ((erase k m).map (·.1)).Sublist (m.map (·.1)) := by
  fun_induction erase k m with
  | case1 => simp
  | case2 => simp
  | case3 k' v' r _ ih => simpa using ih

/-- with distinct keys, replacing the first entry for `k` is replacing every entry for `k` -/
theorem replace_eq_map (k v : Nat) (m : MSt) (hn : keysNodup m) :
    replace k v m = m.map (fun e => if e.1 = k then (k, v) else e) := by
  fun_induction replace k v m with
  | case1 => rfl
  | case2 v' r =>
    have hk := (List.nodup_cons.1 hn).1
    simp only [List.map_cons, if_true]
    congr 1
    exact ((List.map_congr_left fun x hx => if_neg fun h => hk (List.mem_map.2 ⟨x, hx, h⟩)).trans
      (List.map_id r)).symm
  | case3 k' v' r hne ih => simp [hne, ih (List.nodup_cons.1 hn).2]

/-- … and erasing the first entry for `k` is erasing every entry for `k` -/
theorem erase_eq_filter (k : Nat) (m : MSt) (hn : keysNodup m) :
    erase k m = m.filter (fun e => e.1 != k) := by
  fun_induction erase k m with
  | case1 => rfl
  | case2 v' r =>
    have hk := (List.nodup_cons.1 hn).1
    simp only [List.filter_cons, bne_self_eq_false, Bool.false_eq_true, if_false]
    exact (List.filter_eq_self.2 fun x hx => by
      simpa using fun h => hk (List.mem_map.2 ⟨x, hx, h⟩)).symm
  | case3 k' v' r hne ih => simp [hne, ih (List.nodup_cons.1 hn).2]

theorem hasKey_iff (k : Nat) (m : MSt) : hasKey k m = true ↔ k ∈ m.map (·.1) := by
  simp [hasKey, List.any_eq_true]

theorem mstep_keysNodup (m : MSt) (op : MOp) (h : keysNodup m) : keysNodup (mstep m op).1 := by
  unfold keysNodup at *
  -- the branches of `mstep` in its order: put (key present, absent), get, has, rem, remFirst ([], cons),
  -- remLast (none, some), size, empty, clear
  fun_cases mstep m op
  case case1 k v _ => simpa [keys_replace] using h
  case case2 k v hk =>
    have : k ∉ m.map (·.1) := fun hmem => hk ((hasKey_iff k m).2 hmem)
    simp only [List.map_append, List.map_cons, List.map_nil]
    exact List.nodup_append.2 ⟨h, by simp, by
      intro a ha b hb; simp at hb; subst hb; intro e; subst e; exact this ha⟩
  case case5 k => exact List.Nodup.sublist (keys_erase_sublist k m) h
  case case7 => exact (List.nodup_cons.1 h).2
  case case9 => exact List.Nodup.sublist ((List.dropLast_sublist m).map _) h
  case case6 | case8 | case12 => exact List.nodup_nil
  all_goals exact h

theorem keysNodup_nil : keysNodup [] := by simp [keysNodup]

end SeqSpec
