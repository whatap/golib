/-
  Golib.Conc.Deadlock — soundness of the lock-discipline judgements of `Golib.Conc.LockFacts`.

  `LockFacts` defines *executable judgements* over the call-graph tables that `xlate/c10`
  regenerates from the Go sources (`noSelfDeadlock`, `crossInstanceLockers`, …); the property
  files evaluate them by `decide`.  On their own those are just Boolean functions of a table.
  Here the tables get a **semantics** — an abstract interpreter of one method call on one
  instance (`runs`) resp. on a pair of instances of the same type (`nests`) — and the
  judgements become the *premise of a proved implication*:

  * `no_self_deadlock_sound` / `noSelfDeadlock_sound`:
      `noSelfDeadlock T = true` ⟹ no execution of any method, entered from outside with the
      instance lock free, to any call depth, ever requests the instance lock while holding it;
  * `nestFree_sound`:
      `nestFree T = true` ⟹ no execution of any method, entered holding nothing, ever holds
      or requests the locks of two instances at once; together with
      `no_cycle_without_nesting` (a thread that never holds one lock while requesting another
      cannot be part of a two-thread wait-for cycle) this excludes the `a.PutAll(b) ∥ b.PutAll(a)`
      lock-order deadlock.

  What the semantics assumes / over-approximates
  ----------------------------------------------
  * The Go `sync.Mutex` is **not re-entrant**: a `Lock()` by the goroutine that already holds
    the mutex blocks for ever.  That is the event `runs` looks for.
  * The table is a faithful transcription: every own-method call site of a body is recorded in
    `callsHeld` (made while the instance lock is held) or `callsFree` (made while it is not).
  * **Over-approximation**: the interpreter executes *every* recorded call site (no branch
    conditions, no early returns), so every behaviour of the real code is a behaviour of the
    interpreter, and "the interpreter never re-locks" implies "the code never re-locks".
  * **Lock released at return**: a method that acquires holds the lock exactly for the calls in
    `callsHeld`, and the lock is free again when it returns to its caller.  This is what
    `lockPatternOk` (`Lock(); defer Unlock()` as the first two statements, nothing irregular)
    guarantees; `noSelfDeadlock` contains `lockPatternOk` as a conjunct.
  * Calls to names that are not methods of the type (`T.find m = none`) cannot touch this lock.
-/
import Golib.Conc.LockFacts

namespace LockFacts

/-- `runs T n held m = true` iff executing `m` to call depth `n`, entered with the instance
    lock held (`held = true`) or free, never tries to acquire the lock while it is held, i.e.
    never self-deadlocks on the non re-entrant mutex.

    * a method that acquires must be entered with the lock free (`!held`); its `callsHeld`
      callees run with the lock held, its `callsFree` callees (before `Lock()`; after the
      `defer`red unlock there is nothing) with the lock free;
    * a method that does not acquire leaves the lock state of its caller unchanged for all
      its callees;
    * depth `0` = "not looked at": no deadlock found. -/
def runs (T : TypeFacts) : Nat → Bool → String → Bool
  | 0, _, _ => true
  | n+1, held, m =>
    match T.find m with
    | none => true
    | some M =>
      if M.acquires then
        !held && M.callsHeld.all (runs T n true) && M.callsFree.all (runs T n false)
      else
        (M.callsHeld ++ M.callsFree).all (runs T n held)

/-- the exact (non-conservative) counterpart of `acquiresWithin`: some call chain of length
    `< n` starting at `m` ends in a method that acquires (false at depth 0) -/
def reachesLock (T : TypeFacts) : Nat → String → Bool
  | 0, _ => false
  | n+1, m =>
    match T.find m with
    | none => false
    | some M => M.acquires || (M.callsHeld ++ M.callsFree).any (reachesLock T n)

theorem find_mem (T : TypeFacts) (m : String) (M : Method) (h : T.find m = some M) :
    M ∈ T.methods :=
  List.mem_of_find?_eq_some h

theorem find_name (T : TypeFacts) (m : String) (M : Method) (h : T.find m = some M) :
    M.name = m := by
  have := List.find?_some h
  simpa using this

theorem acquiresWithin_false_iff (T : TypeFacts) (F : Nat) (m : String) (M : Method)
    (hM : T.find m = some M) :
    acquiresWithin T (F+1) m = false ↔
      M.acquires = false ∧ ∀ c ∈ M.callsHeld ++ M.callsFree, acquiresWithin T F c = false := by
  simp only [acquiresWithin, hM, Bool.or_eq_false_iff, List.any_eq_false]
  constructor
  · rintro ⟨a, b⟩; exact ⟨a, fun c hc => by simpa using b c hc⟩
  · rintro ⟨a, b⟩; exact ⟨a, fun c hc => by simp [b c hc]⟩

/-- If the judgement says that `m` reaches no acquisition (with *any* fuel — the
    judgement answers `true` when it runs out), then running `m` never deadlocks, at any depth and
    whatever the lock state at entry: a call tree without acquisition cannot re-lock -/
theorem any_safe (T : TypeFacts) (F : Nat) (m : String)
    (h : acquiresWithin T F m = false) : ∀ n held, runs T n held m = true := by
  induction F generalizing m with
  | zero => simp [acquiresWithin] at h
  | succ F ih =>
    intro n held
    cases n with
    | zero => rfl
    | succ n =>
      unfold runs
      cases hM : T.find m with
      | none => rfl
      | some M =>
        obtain ⟨ha, hc⟩ := (acquiresWithin_false_iff T F m M hM).1 h
        simp only [ha, Bool.false_eq_true, if_false, List.all_eq_true]
        intro c hcm
        exact ih c (hc c hcm) n held

theorem selfDeadlocks_isEmpty_iff (T : TypeFacts) :
    (selfDeadlocks T).isEmpty = true ↔
      ∀ M ∈ T.methods, ∀ c ∈ M.callsHeld, acquiresWithin T T.fuel c = false := by
  simp only [List.isEmpty_iff, selfDeadlocks, relockers, List.flatMap_eq_nil_iff,
    List.map_eq_nil_iff, List.filter_eq_nil_iff, Bool.not_eq_true]

/-- If the table check `selfDeadlocks T = []` passes, then no
    method called from outside (lock free), to any call depth, ever re-acquires the lock it
    holds.  (Release at return — `lockPatternOk` — is built into `runs`.) -/
theorem no_self_deadlock_sound (T : TypeFacts) (h : (selfDeadlocks T).isEmpty = true) :
    ∀ n m, runs T n false m = true := by
  have hrow := (selfDeadlocks_isEmpty_iff T).1 h
  intro n
  induction n with
  | zero => intro m; rfl
  | succ n ih =>
    intro m
    unfold runs
    cases hM : T.find m with
    | none => rfl
    | some M =>
      have hmem := find_mem T m M hM
      cases ha : M.acquires with
      | true =>
        simp only [ha, if_true, Bool.not_false, Bool.true_and, Bool.and_eq_true, List.all_eq_true]
        exact ⟨fun c hc => any_safe T T.fuel c (hrow M hmem c hc) n true, fun c _ => ih c⟩
      | false =>
        simp only [ha, Bool.false_eq_true, if_false, List.all_eq_true]
        exact fun c _ => ih c

/-- The judgement evaluated by `decide` in `Props/C10Gen.lean` implies
    self-deadlock freedom of the abstract machine. -/
theorem noSelfDeadlock_sound (T : TypeFacts) (h : noSelfDeadlock T = true) :
    ∀ n m, runs T n false m = true := by
  simp only [noSelfDeadlock, Bool.and_eq_true] at h
  exact no_self_deadlock_sound T h.1

/-- `noSelfDeadlock` also contains the assumption under which `runs` models the code: every
    acquiring method is `Lock(); defer Unlock()` first thing and nothing else -/
theorem noSelfDeadlock_pattern (T : TypeFacts) (h : noSelfDeadlock T = true) :
    ∀ M ∈ T.methods, M.acquires = true →
      M.lockFirst = true ∧ M.deferUnlock = true ∧ M.irregular = false := by
  simp only [noSelfDeadlock, Bool.and_eq_true, lockPatternOk, List.all_eq_true,
    Bool.or_eq_true, Bool.not_eq_true'] at h
  intro M hM ha
  rcases h.2 M hM with h' | h'
  · rw [ha] at h'; cases h'
  · exact ⟨h'.1.1, h'.1.2, h'.2⟩

/-- looking deeper can only find more deadlocks -/
theorem runs_mono (T : TypeFacts) : ∀ n held m, runs T (n+1) held m = true → runs T n held m = true := by
  intro n
  induction n with
  | zero => intro held m _; rfl
  | succ n ih =>
    intro held m
    rw [runs.eq_def T (n+1+1), runs.eq_def T (n+1)]
    simp only
    cases T.find m with
    | none => intro _; rfl
    | some M =>
      simp only
      cases M.acquires with
      | true =>
        simp only [if_true, Bool.and_eq_true, List.all_eq_true]
        rintro ⟨⟨a, b⟩, c⟩
        exact ⟨⟨a, fun x hx => ih _ _ (b x hx)⟩, fun x hx => ih _ _ (c x hx)⟩
      | false =>
        simp only [Bool.false_eq_true, if_false, List.all_eq_true]
        exact fun b x hx => ih _ _ (b x hx)

theorem runs_mono_le (T : TypeFacts) {n k : Nat} (hk : n ≤ k) (held : Bool) (m : String)
    (h : runs T k held m = true) : runs T n held m = true := by
  induction hk with
  | refl => exact h
  | step _ ih => exact ih (runs_mono T _ held m h)

/-- with the lock held, the interpreter deadlocks **iff** a call chain reaches an acquisition:
    the exact characterisation of `runs · · true` -/
theorem runs_held_eq (T : TypeFacts) : ∀ n m, runs T n true m = !reachesLock T n m := by
  intro n
  induction n with
  | zero => intro m; rfl
  | succ n ih =>
    intro m
    unfold runs reachesLock
    cases T.find m with
    | none => rfl
    | some M =>
      cases ha : M.acquires with
      | true => simp [ha]
      | false =>
        simp only [ha, Bool.false_eq_true, if_false, Bool.false_or]
        rw [Bool.eq_iff_iff]
        simp [ih]

/-- the conservative judgement over-approximates real reachability (it adds "out of fuel") -/
theorem reachesLock_acquiresWithin (T : TypeFacts) : ∀ n m, reachesLock T n m = true →
    acquiresWithin T n m = true := by
  intro n
  induction n with
  | zero => intro m h; simp [reachesLock] at h
  | succ n ih =>
    intro m
    unfold reachesLock acquiresWithin
    cases T.find m with
    | none => exact id
    | some M =>
      simp only [Bool.or_eq_true, List.any_eq_true]
      rintro (h | ⟨c, hc, h⟩)
      · exact Or.inl h
      · exact Or.inr ⟨c, hc, ih c h⟩

/-- **Completeness.** If a method that acquires calls, under the lock, a method from which an
    acquisition is really reachable in `k` steps, the abstract machine deadlocks at depth `k+1`
    (and at every greater depth). -/
theorem reach_deadlocks (T : TypeFacts) (M : Method) (c : String) (k : Nat)
    (hf : T.find M.name = some M) (ha : M.acquires = true) (hc : c ∈ M.callsHeld)
    (hr : reachesLock T k c = true) : ∀ n, k < n → runs T n false M.name = false := by
  intro n hn
  cases hrn : runs T n false M.name with
  | false => rfl
  | true =>
    have h1 := runs_mono_le T (Nat.succ_le_of_lt hn) false M.name hrn
    unfold runs at h1
    simp only [hf, ha, if_true, Bool.and_eq_true, List.all_eq_true] at h1
    have h2 := h1.1.2 c hc
    rw [runs_held_eq, hr] at h2
    cases h2

/-- A direct re-lock (`M` locks and calls, under the lock, `C` which locks) is a
    real deadlock of the abstract machine, found at depth 2.  (`hmem` is implied by `hf`; it is
    kept as in the specification.) -/
theorem relock_reaches_deadlock (T : TypeFacts) (M C : Method) (c : String)
    (_hmem : M ∈ T.methods) (hf : T.find M.name = some M) (ha : M.acquires = true)
    (hc : c ∈ M.callsHeld) (hC : T.find c = some C) (hCa : C.acquires = true) :
    runs T 2 false M.name = false := by
  apply reach_deadlocks T M c 1 hf ha hc _ 2 (by omega)
  simp [reachesLock, hC, hCa]

/-- a row with everything but the lock facts defaulted -/
def mkMethod (name : String) (acquires : Bool) (callsHeld callsFree : List String)
    (otherLocks : List String := []) (underOther : List String := []) : Method :=
  { name := name, exported := true, acquires := acquires, lockFirst := acquires,
    deferUnlock := acquires, irregular := false, callsHeld := callsHeld, callsFree := callsFree,
    accHeld := [], accFree := [], fieldCallsHeld := [], fieldCallsFree := [],
    callbacksHeld := [], valueRecv := false, rlock := false, ptrWrites := false,
    otherLocks := otherLocks, underOther := underOther, extCalls := [], paths := [] }

def mkType (ms : List Method) : TypeFacts :=
  { name := "Ex", file := "ex.go", lockField := "lock", lockKind := "mutex", fields := [],
    methods := ms }

/-- the bug pattern of the bounded linked maps: `Put` (locked) → `put` → `RemoveLast` (locks) -/
def exBad : TypeFacts := mkType
  [ mkMethod "Put" true ["put"] [],
    mkMethod "put" false [] ["RemoveLast"],
    mkMethod "RemoveLast" true [] [] ]

/-- the repair: the eviction calls the unlocked `remove` -/
def exGood : TypeFacts := mkType
  [ mkMethod "Put" true ["put"] [],
    mkMethod "put" false [] ["remove"],
    mkMethod "remove" false [] [],
    mkMethod "RemoveLast" true ["remove"] [] ]

example : runs exBad 3 false "Put" = false := by decide +kernel
example : runs exBad 2 false "Put" = true := by decide +kernel      -- depth 2 does not see it yet
example : noSelfDeadlock exBad = false := by decide +kernel
example : selfDeadlocks exBad = [("Put", "put")] := by decide +kernel
example : noSelfDeadlock exGood = true := by decide +kernel
example : runs exGood 5 false "Put" = true := by decide +kernel
example : ∀ n m, runs exGood n false m = true := noSelfDeadlock_sound exGood (by decide +kernel)

/-! ## Lock order between two instances of one type

`a.PutAll(b)` locks `b` (to iterate) and `a` (to insert); `b.PutAll(a)` concurrently locks them
in the opposite order: a classical lock-order cycle.  Table facts: `M.otherLocks` = the
identifiers (≠ receiver) whose instance lock `M` takes in its body; (`M.underOther` = the
own methods called while such a lock is held — the semantics below does not rely on it and
conservatively treats *every* call of a method with `otherLocks` as made under the foreign
lock).

A state is the pair `(self, other)` of instance locks held by the running thread. -/

/-- `nests T n self other m = true` iff executing `m` (entered holding `self` / `other`) to
    depth `n` reaches a point at which the thread holds or requests both instances' locks at
    once — the precondition of a lock-order cycle.  Conservative in three ways: all recorded
    call sites are executed; a foreign lock, once taken, is considered held for the whole body
    and in all callees; a body that takes both its own and a foreign lock is flagged regardless
    of the order and overlap of the two critical sections. -/
def nests (T : TypeFacts) : Nat → Bool → Bool → String → Bool
  | 0, _, _, _ => false
  | n+1, s, o, m =>
    match T.find m with
    | none => false
    | some M =>
      let o' := o || !M.otherLocks.isEmpty
      (o' && (s || M.acquires))
        || M.callsHeld.any (nests T n true o')
        || M.callsFree.any (nests T n s o')

/-- does `m` (transitively through own calls) take the lock of a foreign instance?
    Fuel-bounded like `acquiresWithin`; out of fuel it answers conservatively `true`. -/
def takesOtherWithin (T : TypeFacts) : Nat → String → Bool
  | 0, _ => true
  | fuel + 1, m =>
    match T.find m with
    | none => false
    | some M =>
      !M.otherLocks.isEmpty || (M.callsHeld ++ M.callsFree).any (takesOtherWithin T fuel)

/-- no method of the type ever locks another instance -/
def noForeignLocks (T : TypeFacts) : Bool :=
  T.methods.all (fun M => M.otherLocks.isEmpty)

/-- the row-wise judgement for types that *do* lock other instances:
    * (table well-formedness) only a method that acquires has lock-held call sites;
    * a method that takes a foreign lock neither acquires its own nor calls anything that
      (transitively, as judged by `acquiresWithin`) does;
    * a method that acquires calls nothing under its lock that (transitively) takes a foreign
      lock. -/
def nestFreeRows (T : TypeFacts) : Bool :=
  T.methods.all (fun M =>
    (M.acquires || M.callsHeld.isEmpty)
    && (M.otherLocks.isEmpty
        || (!M.acquires && (M.callsHeld ++ M.callsFree).all (fun c => !acquiresWithin T T.fuel c)))
    && (!M.acquires || M.callsHeld.all (fun c => !takesOtherWithin T T.fuel c)))

/-- **the table-level judgement**: either nothing ever locks a foreign instance (all current
    tables), or the rows keep "own lock" and "foreign lock" call trees apart -/
def nestFree (T : TypeFacts) : Bool :=
  noForeignLocks T || nestFreeRows T

theorem takesOtherWithin_false_iff (T : TypeFacts) (F : Nat) (m : String) (M : Method)
    (hM : T.find m = some M) :
    takesOtherWithin T (F+1) m = false ↔
      M.otherLocks.isEmpty = true ∧
        ∀ c ∈ M.callsHeld ++ M.callsFree, takesOtherWithin T F c = false := by
  simp only [takesOtherWithin, hM, Bool.or_eq_false_iff, List.any_eq_false,
    Bool.not_eq_false']
  constructor
  · rintro ⟨a, b⟩; exact ⟨a, fun c hc => by simpa using b c hc⟩
  · rintro ⟨a, b⟩; exact ⟨a, fun c hc => by simp [b c hc]⟩

/-- holding (at most) the own lock, a call tree that takes no foreign lock never nests -/
theorem self_safe (T : TypeFacts) (F : Nat) (m : String)
    (h : takesOtherWithin T F m = false) : ∀ n s, nests T n s false m = false := by
  induction F generalizing m with
  | zero => simp [takesOtherWithin] at h
  | succ F ih =>
    intro n s
    cases n with
    | zero => rfl
    | succ n =>
      unfold nests
      cases hM : T.find m with
      | none => rfl
      | some M =>
        obtain ⟨ho, hc⟩ := (takesOtherWithin_false_iff T F m M hM).1 h
        simp only [ho, Bool.not_true, Bool.or_false, Bool.false_and, Bool.false_or,
          Bool.or_eq_false_iff, List.any_eq_false, Bool.not_eq_true]
        exact ⟨fun c hcm => ih c (hc c (List.mem_append_left _ hcm)) n true,
               fun c hcm => ih c (hc c (List.mem_append_right _ hcm)) n s⟩

/-- holding (at most) the foreign lock, a call tree that never acquires the own lock never
    nests (given the well-formedness of the table: lock-held call sites only in acquirers) -/
theorem other_safe (T : TypeFacts)
    (wf : ∀ M ∈ T.methods, M.acquires = false → M.callsHeld = [])
    (F : Nat) (m : String) (h : acquiresWithin T F m = false) :
    ∀ n o, nests T n false o m = false := by
  induction F generalizing m with
  | zero => simp [acquiresWithin] at h
  | succ F ih =>
    intro n o
    cases n with
    | zero => rfl
    | succ n =>
      unfold nests
      cases hM : T.find m with
      | none => rfl
      | some M =>
        obtain ⟨ha, hc⟩ := (acquiresWithin_false_iff T F m M hM).1 h
        have hnil := wf M (find_mem T m M hM) ha
        simp only [ha, hnil, Bool.or_false, Bool.and_false, Bool.false_or, List.any_nil,
          List.any_eq_false, Bool.not_eq_true]
        exact fun c hcm => ih c (hc c (List.mem_append_right _ hcm)) n _

/-- a type without foreign locks never gets the `other` flag -/
theorem noForeign_safe (T : TypeFacts) (h : ∀ M ∈ T.methods, M.otherLocks = []) :
    ∀ n s m, nests T n s false m = false := by
  intro n
  induction n with
  | zero => intro s m; rfl
  | succ n ih =>
    intro s m
    unfold nests
    cases hM : T.find m with
    | none => rfl
    | some M =>
      simp only [h M (find_mem T m M hM), List.isEmpty_nil, Bool.not_true, Bool.or_false,
        Bool.false_and, Bool.false_or, Bool.or_eq_false_iff, List.any_eq_false,
        Bool.not_eq_true]
      exact ⟨fun c _ => ih true c, fun c _ => ih s c⟩

theorem nestFreeRows_sound (T : TypeFacts) (h : nestFreeRows T = true) :
    ∀ n m, nests T n false false m = false := by
  simp only [nestFreeRows, List.all_eq_true, Bool.and_eq_true, Bool.or_eq_true,
    Bool.not_eq_true', List.isEmpty_iff, List.mem_append] at h
  have wf : ∀ M ∈ T.methods, M.acquires = false → M.callsHeld = [] := by
    intro M hM ha
    rcases (h M hM).1.1 with h' | h'
    · rw [ha] at h'; cases h'
    · exact h'
  intro n
  induction n with
  | zero => intro m; rfl
  | succ n ih =>
    intro m
    unfold nests
    cases hM : T.find m with
    | none => rfl
    | some M =>
      have hmem := find_mem T m M hM
      obtain ⟨⟨_, hB⟩, hC⟩ := h M hmem
      rcases hB with ho | ⟨ha, hcalls⟩
      · -- M takes no foreign lock: callees under the own lock take none either
        simp only [ho, List.isEmpty_nil, Bool.not_true, Bool.or_false, Bool.false_and,
          Bool.false_or, Bool.or_eq_false_iff, List.any_eq_false, Bool.not_eq_true]
        refine ⟨fun c hc => ?_, fun c _ => ih c⟩
        cases ha : M.acquires with
        | false => rw [wf M hmem ha] at hc; cases hc
        | true =>
          rcases hC with h' | h'
          · rw [ha] at h'; cases h'
          · exact self_safe T T.fuel c (h' c hc) n true
      · -- M takes a foreign lock: it does not acquire and no callee reaches an acquisition
        simp only [ha, wf M hmem ha, Bool.or_false, Bool.and_false, Bool.false_or,
          List.any_nil, List.any_eq_false, Bool.not_eq_true]
        exact fun c hc => other_safe T wf T.fuel c (hcalls c (Or.inr hc)) n _

/-- **Soundness of `nestFree`.**  If the judgement holds, then no execution of any method entered
    from outside holding nothing, to any depth, ever holds or requests the locks of both
    instances at once. -/
theorem nestFree_sound (T : TypeFacts) (h : nestFree T = true) :
    ∀ n m, nests T n false false m = false := by
  simp only [nestFree, Bool.or_eq_true] at h
  rcases h with h | h
  · simp only [noForeignLocks, List.all_eq_true, List.isEmpty_iff] at h
    exact fun n m => noForeign_safe T h n false m
  · exact nestFreeRows_sound T h

/-- the judgement holds for every type none of whose methods locks another instance -/
theorem nestFree_of_no_otherLocks (T : TypeFacts) (h : ∀ M ∈ T.methods, M.otherLocks = []) :
    nestFree T = true := by
  simp only [nestFree, noForeignLocks, Bool.or_eq_true, List.all_eq_true, List.isEmpty_iff]
  exact Or.inl h

/-- a direct nesting is really reached: a method that takes a foreign lock and calls a method
    that acquires the own lock nests at depth 2 -/
theorem other_then_own_nests (T : TypeFacts) (M C : Method) (c : String)
    (hf : T.find M.name = some M) (ho : M.otherLocks ≠ [])
    (hc : c ∈ M.callsHeld ++ M.callsFree) (hC : T.find c = some C) (hCa : C.acquires = true) :
    nests T 2 false false M.name = true := by
  have ho' : M.otherLocks.isEmpty = false := by
    cases h : M.otherLocks with
    | nil => exact absurd h ho
    | cons _ _ => rfl
  have key : ∀ s, nests T 1 s true c = true := by
    intro s; simp [nests, hC, hCa]
  unfold nests
  simp only [hf, ho', Bool.not_false, Bool.or_true, Bool.true_and, Bool.false_or,
    Bool.or_eq_true, List.any_eq_true]
  rcases List.mem_append.1 hc with hc | hc
  · exact Or.inl (Or.inr ⟨c, hc, key true⟩)
  · exact Or.inr ⟨c, hc, key false⟩

/-- `nestFree` is at least as strong as the existing judgement `crossInstanceLockers T = []` of
    `LockFacts` on every *consistent* table, i.e. one in which an `underOther` entry only occurs
    in a method with `otherLocks`, `"#own-lock"` only in a method that acquires, and every other
    entry is one of the method's recorded call sites. -/
theorem nestFree_crossInstanceLockers (T : TypeFacts) (h : nestFree T = true)
    (cons : ∀ M ∈ T.methods, ∀ c ∈ M.underOther, M.otherLocks ≠ [] ∧
      ((c = "#own-lock" ∧ M.acquires = true) ∨
       (c ≠ "#own-lock" ∧ c ∈ M.callsHeld ++ M.callsFree))) :
    crossInstanceLockers T = [] := by
  simp only [crossInstanceLockers, List.map_eq_nil_iff, List.filter_eq_nil_iff,
    List.any_eq_true, not_exists, not_and, Bool.not_eq_true, Bool.or_eq_false_iff]
  intro M hM c hc
  obtain ⟨hne, hcase⟩ := cons M hM c hc
  simp only [nestFree, Bool.or_eq_true] at h
  rcases h with h | h
  · simp only [noForeignLocks, List.all_eq_true, List.isEmpty_iff] at h
    exact absurd (h M hM) hne
  · simp only [nestFreeRows, List.all_eq_true, Bool.and_eq_true, Bool.or_eq_true,
      Bool.not_eq_true', List.isEmpty_iff] at h
    rcases (h M hM).1.2 with ho | ⟨ha, hcalls⟩
    · exact absurd ho hne
    · rcases hcase with ⟨_, ha'⟩ | ⟨hne', hmem⟩
      · rw [ha] at ha'; cases ha'
      · exact ⟨by simpa using hne', hcalls c hmem⟩

/-- `PutAll(other)` locks `other` and inserts through the locked `Put` -/
def exPutAllBad : TypeFacts := mkType
  [ mkMethod "PutAll" false [] ["Put"] ["other"] ["Put"],
    mkMethod "Put" true ["put"] [],
    mkMethod "put" false [] [] ]

/-- repaired: snapshot `other` under its lock by a method that calls nothing, release, then
    insert — `PutAll` itself does not take the foreign lock -/
def exPutAllGood : TypeFacts := mkType
  [ mkMethod "PutAll" false [] ["Put"],
    mkMethod "snapshotOf" false [] [] ["other"],
    mkMethod "Put" true ["put"] [],
    mkMethod "put" false [] [] ]

example : nestFree exPutAllBad = false := by decide +kernel
example : nests exPutAllBad 2 false false "PutAll" = true := by decide +kernel
example : crossInstanceLockers exPutAllBad = ["PutAll"] := by decide +kernel
example : nestFree exPutAllGood = true := by decide +kernel
example : noForeignLocks exPutAllGood = false := by decide +kernel     -- the row-wise branch is used
example : nests exPutAllGood 6 false false "PutAll" = false := by decide +kernel
example : nestFree exGood = true := by decide +kernel
example : nestFree exGood = true := nestFree_of_no_otherLocks exGood (by decide +kernel)
example : ∀ n m, nests exPutAllGood n false false m = false := nestFree_sound exPutAllGood (by decide +kernel)

/-- what one thread contributes to the wait-for graph: the instance (id) whose lock it holds
    and the instance whose lock it is blocked on -/
structure Wait where
  holds : Option Nat
  wants : Option Nat
  deriving DecidableEq, Repr

/-- a two-thread wait-for cycle over instance locks: each thread holds a lock, wants the one the
    other holds, and it is not the trivial "wants what it holds" (that is the self-deadlock
    `runs` looks for) -/
def cycle2 (w1 w2 : Wait) : Prop :=
  w1.holds = w2.wants ∧ w2.holds = w1.wants ∧ w1.holds.isSome ∧ w2.holds.isSome ∧
    w1.holds ≠ w1.wants

/-- A thread that never holds one instance lock while requesting another cannot be part of a
    two-thread cycle.  This is trivial — a cycle needs every participant to hold *and* want —
    but it closes the argument: `nestFree_sound` shows that no thread running a method of a
    `nestFree` type is ever in a state with both `holds` and `wants` set to (different)
    instances, so by this lemma no `a.M(b) ∥ b.M(a)` schedule can close a wait-for cycle. -/
theorem no_cycle_without_nesting (w1 w2 : Wait) (h1 : w1.holds = none ∨ w1.wants = none) :
    ¬ cycle2 w1 w2 := by
  rintro ⟨h12, h21, hs1, hs2, _⟩
  rcases h1 with h | h
  · rw [h] at hs1; cases hs1
  · rw [h] at h21; rw [h21] at hs2; cases hs2

/-- symmetric form -/
theorem no_cycle_without_nesting' (w1 w2 : Wait) (h2 : w2.holds = none ∨ w2.wants = none) :
    ¬ cycle2 w1 w2 := by
  rintro ⟨h12, h21, hs1, hs2, _⟩
  rcases h2 with h | h
  · rw [h] at hs2; cases hs2
  · rw [h] at h12; rw [h12] at hs1; cases hs1

end LockFacts

#print axioms LockFacts.no_self_deadlock_sound
#print axioms LockFacts.noSelfDeadlock_sound
#print axioms LockFacts.relock_reaches_deadlock
#print axioms LockFacts.nestFree_sound
#print axioms LockFacts.no_cycle_without_nesting
