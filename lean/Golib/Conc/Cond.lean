/-
  Golib.Conc.Cond — the *monitor object* machine: a mutex object plus a wait set (`sync.Cond`).

  Threads are natural numbers (unboundedly many); a schedule is an arbitrary list of actions.
  An operation is `step : σ → Op → Option (σ × Ret)`; `none` means "the guard of the operation is
  false, the caller must `Wait()`".  `bcast op` says whether the operation calls `Broadcast()` after
  it applied.  The body of an operation is ONE atomic action performed while holding the lock:
  atomicity of a lock-protected body is exactly what `Golib.Conc.Mutex` proves (there the body is
  split into `load`/`store` and shown to act on a fresh snapshot, `MInv.fresh`), so it is used here
  as the granularity of the machine and not re-proved.

  `body` on a false guard is `Wait()`: it releases the lock and joins the wait set *atomically*
  (that is the contract of `sync.Cond.Wait`).  `spur` is a spurious wake-up / a `Signal` from
  anywhere; it is harmless because a woken thread re-acquires the lock and re-checks its guard (the
  `for size <= 0 { Wait() }` loop), and it is never used for progress.

  `CInv` is preserved by every action, hence holds after every schedule: mutual exclusion, shared
  state = sequential replay of the linearization events, recorded return values = sequential return
  values, and `blocked`: a thread sits in the wait set only while its guard is false — provided
  every operation that does not broadcast cannot make a false guard true (`NoEnable`).
-/
import Golib.Conc.WellNested

namespace Conc.Cond

inductive Phase (Op Ret : Type) where
  | idle
  | invoked (op : Op)
  | locked (op : Op)
  | waiting (op : Op)
  | woken (op : Op)
  | applied (op : Op) (r : Ret)
  | released (op : Op) (r : Ret)
  deriving DecidableEq

inductive Act (Op : Type) where
  | inv (t : Nat) (op : Op) | acq (t : Nat) | body (t : Nat) | rel (t : Nat) | ret (t : Nat)
  | spur (t : Nat)

structure St (σ Op Ret : Type) where
  sh : σ
  holder : Option Nat
  ph : Nat → Phase Op Ret
  log : List (Ev Op Ret)      -- newest first

variable {σ Op Ret : Type}

def setPh (f : Nat → Phase Op Ret) (t : Nat) (p : Phase Op Ret) : Nat → Phase Op Ret :=
  fun u => if u = t then p else f u

/-- `Broadcast()`: every thread of the wait set becomes runnable -/
def wake (f : Nat → Phase Op Ret) : Nat → Phase Op Ret :=
  fun u => match f u with
    | .waiting op => .woken op
    | p => p

variable (step : σ → Op → Option (σ × Ret)) (bcast : Op → Bool)

def next (s : St σ Op Ret) : Act Op → Option (St σ Op Ret)
  | .inv t op => match s.ph t with
      | .idle => some { s with ph := setPh s.ph t (.invoked op), log := .inv t op :: s.log }
      | _ => none
  | .acq t => match s.ph t, s.holder with
      | .invoked op, none => some { s with ph := setPh s.ph t (.locked op), holder := some t }
      | .woken op, none => some { s with ph := setPh s.ph t (.locked op), holder := some t }
      | _, _ => none
  | .body t => match s.ph t with
      | .locked op => match step s.sh op with
          | some (v', r) =>
            some { s with sh := v',
                          ph := setPh (if bcast op then wake s.ph else s.ph) t (.applied op r),
                          log := .lin t op r :: s.log }
          | none => some { s with ph := setPh s.ph t (.waiting op), holder := none }
      | _ => none
  | .rel t => match s.ph t with
      | .applied op r => some { s with ph := setPh s.ph t (.released op r), holder := none }
      | _ => none
  | .ret t => match s.ph t with
      | .released op r => some { s with ph := setPh s.ph t .idle, log := .ret t op r :: s.log }
      | _ => none
  | .spur t => match s.ph t with
      | .waiting op => some { s with ph := setPh s.ph t (.woken op) }
      | _ => none

/-- What one step finds and does; the proofs about `next` go through this relation.  Against
    `Lock(); for !guard { Wait() }; …; Broadcast(); Unlock()`: `inv` is the call, `acq` the return of
    `Lock()` (at entry, or inside `Wait()` after a wake-up), `apply` the guard found true and the rest of the
    body run, `Broadcast()` included (the linearization point), `wait` the guard found false and `Wait()`
    releasing the lock and parking, `rel` the `Unlock()`, `ret` the return, `spur` a wake-up nobody
    broadcast. -/
inductive Next (s : St σ Op Ret) : Act Op → St σ Op Ret → Prop
  | inv {t op} : s.ph t = .idle →
      Next s (.inv t op) { s with ph := setPh s.ph t (.invoked op), log := .inv t op :: s.log }
  | acq {t op} : (s.ph t = .invoked op ∨ s.ph t = .woken op) → s.holder = none →
      Next s (.acq t) { s with ph := setPh s.ph t (.locked op), holder := some t }
  | apply {t op v' r} : s.ph t = .locked op → step s.sh op = some (v', r) →
      Next s (.body t) { s with sh := v',
                                ph := setPh (if bcast op then wake s.ph else s.ph) t (.applied op r),
                                log := .lin t op r :: s.log }
  | wait {t op} : s.ph t = .locked op → step s.sh op = none →
      Next s (.body t) { s with ph := setPh s.ph t (.waiting op), holder := none }
  | rel {t op r} : s.ph t = .applied op r →
      Next s (.rel t) { s with ph := setPh s.ph t (.released op r), holder := none }
  | ret {t op r} : s.ph t = .released op r →
      Next s (.ret t) { s with ph := setPh s.ph t .idle, log := .ret t op r :: s.log }
  | spur {t op} : s.ph t = .waiting op → Next s (.spur t) { s with ph := setPh s.ph t (.woken op) }

theorem next_iff {s s' : St σ Op Ret} {a : Act Op} :
    next step bcast s a = some s' ↔ Next step bcast s a s' := by
  constructor
  · intro hn
    cases a <;> simp only [next] at hn <;> split at hn
    all_goals first | (split at hn) | skip
    all_goals first | cases hn | (cases Option.some.inj hn)
    · exact .inv ‹_›
    · exact .acq (.inl ‹_›) ‹_›
    · exact .acq (.inr ‹_›) ‹_›
    · exact .apply ‹_› ‹_›
    · exact .wait ‹_› ‹_›
    · exact .rel ‹_›
    · exact .ret ‹_›
    · exact .spur ‹_›
  · rintro (h | ⟨h | h, hh⟩ | ⟨h, hs⟩ | ⟨h, hs⟩ | h | h | h) <;> simp [next, *]

def runActs (s : St σ Op Ret) : List (Act Op) → Option (St σ Op Ret)
  | [] => some s
  | a :: as => match next step bcast s a with
      | some s' => runActs s' as
      | none => none

def initSt (init : σ) : St σ Op Ret :=
  { sh := init, holder := none, ph := fun _ => .idle, log := [] }

/-- sequential replay of the linearization events (log is newest-first); a `lin` event is only
    ever logged for an enabled operation, the `none` branch is a don't-care -/
def seqState (init : σ) : List (Ev Op Ret) → σ
  | [] => init
  | .lin _ op _ :: rest => match step (seqState init rest) op with
      | some (v', _) => v'
      | none => seqState init rest
  | _ :: rest => seqState init rest

/-- every logged linearization point `(op, r)` is an enabled sequential step from the state reached
    before it to the state reached after it, returning `r` -/
def retsOk (init : σ) : List (Ev Op Ret) → Prop
  | [] => True
  | .lin t op r :: rest =>
      step (seqState step init rest) op = some (seqState step init (.lin t op r :: rest), r) ∧
      retsOk init rest
  | _ :: rest => retsOk init rest

def inCS : Phase Op Ret → Prop
  | .locked _ | .applied _ _ => True
  | _ => False

/-- an operation that does not broadcast never enables a blocked operation -/
def NoEnable : Prop :=
  ∀ v op v' r, step v op = some (v', r) → bcast op = false →
    ∀ op', step v op' = none → step v' op' = none

structure CInv (init : σ) (s : St σ Op Ret) : Prop where
  mutex : ∀ t, inCS (s.ph t) → s.holder = some t
  seq   : s.sh = seqState step init s.log
  rets  : retsOk step init s.log
  blocked : ∀ t op, s.ph t = .waiting op → step s.sh op = none

theorem wake_not_waiting (f : Nat → Phase Op Ret) (u : Nat) (op : Op) : wake f u ≠ .waiting op := by
  unfold wake
  split <;> simp_all

theorem wake_inCS (f : Nat → Phase Op Ret) (u : Nat) (h : inCS (wake f u)) : inCS (f u) := by
  unfold wake at h
  split at h
  · simp [inCS] at h
  · exact h

/-- The part of `CInv` that does not need `NoEnable` (mutex, seq, rets). -/
structure LInv (init : σ) (s : St σ Op Ret) : Prop where
  mutex : ∀ t, inCS (s.ph t) → s.holder = some t
  seq   : s.sh = seqState step init s.log
  rets  : retsOk step init s.log

theorem CInv.linv {init : σ} {s : St σ Op Ret} (h : CInv step init s) : LInv step init s :=
  ⟨h.mutex, h.seq, h.rets⟩

theorem linv_next (init : σ) {s s' : St σ Op Ret} {a : Act Op}
    (h : LInv step init s) (hn : Next step bcast s a s') : LInv step init s' := by
  have held : ∀ {t p}, s.ph t = p → inCS p → s.holder = some t := fun e hp => h.mutex _ (e ▸ hp)
  cases hn with
  | inv _ | ret _ | spur _ => exact ⟨mutex_update inCS False.elim fun u _ => h.mutex u, h.seq, h.rets⟩
  | acq _ hh =>
    exact ⟨mutex_update inCS (fun _ => rfl) fun u _ hu => (nomatch hh.symm.trans (h.mutex u hu)),
      h.seq, h.rets⟩
  | apply hp hs =>
    refine ⟨mutex_update inCS (fun _ => held hp trivial) fun u _ hu => h.mutex u ?_, ?_, ?_⟩
    · split at hu
      · exact wake_inCS _ _ hu
      · exact hu
    · simp only [seqState]; rw [← h.seq, hs]
    · simp only [retsOk, seqState]; refine ⟨?_, h.rets⟩; rw [← h.seq, hs]
  | wait hp _ | rel hp =>
    exact ⟨mutex_update inCS False.elim fun u hne hu =>
      absurd hu (holder_excludes inCS h.mutex (held hp trivial) u hne), h.seq, h.rets⟩

/-- a step keeps the wait set sound: only `wait` puts a thread there, and an operation that changes the
    shared state either broadcasts (emptying the wait set) or enables nothing -/
theorem blocked_next (H : NoEnable step bcast) {s s' : St σ Op Ret} {a : Act Op}
    (h : ∀ t op, s.ph t = .waiting op → step s.sh op = none)
    (hn : Next step bcast s a s') : ∀ t op, s'.ph t = .waiting op → step s'.sh op = none := by
  intro u op' hu
  cases hn <;> simp only [setPh] at hu <;> split at hu
  case apply.isFalse t op v' r _ hs _ =>
    split at hu
    · exact absurd hu (wake_not_waiting _ _ _)
    · rename_i hb; exact H s.sh op v' r hs (by simpa using hb) op' (h u op' hu)
  case wait.isTrue hs _ => cases hu; exact hs
  all_goals first | exact h u op' hu | cases hu

theorem cinv_next (H : NoEnable step bcast) (init : σ) {s s' : St σ Op Ret} {a : Act Op}
    (h : CInv step init s) (hn : Next step bcast s a s') : CInv step init s' :=
  have hl := linv_next step bcast init h.linv hn
  ⟨hl.mutex, hl.seq, hl.rets, blocked_next step bcast H h.blocked hn⟩

theorem runActs_induct (P : St σ Op Ret → Prop)
    (hP : ∀ {s s' a}, P s → Next step bcast s a s' → P s') (s s' : St σ Op Ret)
    (as : List (Act Op)) (h : P s) (hr : runActs step bcast s as = some s') : P s' := by
  fun_induction runActs step bcast s as with
  | case1 => cases hr; exact h
  | case2 s a as s1 h1 ih => exact ih (hP h ((next_iff step bcast).1 h1)) hr
  | case3 => cases hr

theorem CInv_init (init : σ) : CInv step init (initSt (Op := Op) (Ret := Ret) init) := by
  refine ⟨?_, ?_, ?_, ?_⟩
  · intro t ht; simp [initSt, inCS] at ht
  · simp [initSt, seqState]
  · simp [initSt, retsOk]
  · intro t op ht; simp [initSt] at ht

theorem reachable_linv (init : σ) (as : List (Act Op)) (s : St σ Op Ret)
    (h : runActs step bcast (initSt init) as = some s) : LInv step init s :=
  runActs_induct step bcast _ (linv_next step bcast init) _ s as (CInv_init step init).linv h

theorem reachable_cinv (H : NoEnable step bcast) (init : σ) (as : List (Act Op)) (s : St σ Op Ret)
    (h : runActs step bcast (initSt init) as = some s) : CInv step init s :=
  runActs_induct step bcast _ (cinv_next step bcast H init) _ s as (CInv_init step init) h

/-- **No lost wake-up.**  In every reachable state (any schedule, any number of threads), a thread
    sits in the wait set only while its guard is false.  Since this holds in *every* reachable
    state it holds at every instant of every execution: the moment an operation makes the guard
    true, the wait set has been emptied by that operation's broadcast. -/
theorem no_lost_wakeup (H : NoEnable step bcast) (init : σ) (as : List (Act Op)) (s : St σ Op Ret)
    (h : runActs step bcast (initSt init) as = some s) (t : Nat) (op : Op)
    (hw : s.ph t = .waiting op) : step s.sh op = none :=
  (reachable_cinv step bcast H init as s h).blocked t op hw

theorem mutual_exclusion (H : NoEnable step bcast) (init : σ) (as : List (Act Op))
    (s : St σ Op Ret) (h : runActs step bcast (initSt init) as = some s) (t u : Nat)
    (ht : inCS (s.ph t)) (hu : inCS (s.ph u)) : t = u :=
  -- `H` is idle: exclusion is part of `LInv`, which every schedule keeps whatever `bcast` is
  have hI := reachable_linv step bcast init as s h
  Option.some.inj ((hI.mutex t ht).symm.trans (hI.mutex u hu))

theorem runActs_append (s : St σ Op Ret) (as bs : List (Act Op)) :
    runActs step bcast s (as ++ bs)
      = (runActs step bcast s as).bind (fun s' => runActs step bcast s' bs) := by
  fun_induction runActs step bcast s as with
  | case1 => rfl
  | case2 s a as s' h ih => simpa [runActs, h] using ih
  | case3 s a as h => simp [runActs, h]

/-- In *any* state: a thread that is about to (re-)acquire the lock (`invoked` or `woken`), whose
    guard is true, completes its operation when it is scheduled while the lock is free. -/
theorem op_completes (s : St σ Op Ret) (t : Nat) (op : Op) (v' : σ) (r : Ret)
    (hp : s.ph t = .invoked op ∨ s.ph t = .woken op) (hfree : s.holder = none)
    (hs : step s.sh op = some (v', r)) :
    ∃ s', runActs step bcast s [.acq t, .body t, .rel t, .ret t] = some s' ∧ s'.sh = v' ∧
      s'.log = .ret t op r :: .lin t op r :: s.log ∧ s'.ph t = .idle ∧ s'.holder = none := by
  rcases hp with hp | hp <;>
    simp [runActs, next, hp, hfree, hs, setPh]

/-- **The enabler wakes the waiter.**  If `t` is in the wait set and a thread `u` holding the lock
    applies a broadcasting operation, then after `u`'s body `t` is `woken` (runnable). -/
theorem woken_by_enabler (s s1 : St σ Op Ret) (t u : Nat) (op op' : Op) (v' : σ) (r : Ret)
    (hw : s.ph t = .waiting op) (hl : s.ph u = .locked op') (hs : step s.sh op' = some (v', r))
    (hb : bcast op' = true) (hn : next step bcast s (.body u) = some s1) :
    s1.ph t = .woken op ∧ s1.sh = v' := by
  have hne : t ≠ u := by intro e; subst e; rw [hw] at hl; simp at hl
  simp [next, hl, hs, hb] at hn
  subst hn
  simp [setPh, hne, wake, hw]

/-- Putting the two together: `t` waits with guard `op`; `u` holds the lock with a broadcasting
    operation `op'` that is enabled and whose effect makes `op` enabled.  Then the schedule
    "`u` finishes, `t` runs" succeeds and `t` returns the sequential result. -/
theorem waiter_returns_after_enabler (s : St σ Op Ret) (t u : Nat) (op op' : Op)
    (v' v'' : σ) (r' r : Ret)
    (hw : s.ph t = .waiting op) (hl : s.ph u = .locked op') (hs : step s.sh op' = some (v', r'))
    (hb : bcast op' = true) (hs' : step v' op = some (v'', r)) :
    ∃ s', runActs step bcast s [.body u, .rel u, .ret u, .acq t, .body t, .rel t, .ret t] = some s' ∧
      s'.sh = v'' ∧ s'.ph t = .idle ∧
      s'.log = .ret t op r :: .lin t op r :: .ret u op' r' :: .lin u op' r' :: s.log := by
  have hne : t ≠ u := by intro e; subst e; rw [hw] at hl; simp at hl
  simp [runActs, next, hl, hs, hb, setPh, hne, wake, hw, hs']

def absPh : Phase Op Ret → TS Op Ret
  | .idle => .idle
  | .invoked op | .locked op | .waiting op | .woken op => .pending op
  | .applied op r | .released op r => .done op r

structure WInv (s : St σ Op Ret) : Prop where
  wn : wn s.log
  agree : ∀ t, absPh (s.ph t) = tstate s.log t

theorem absPh_wake (f : Nat → Phase Op Ret) (u : Nat) : absPh (wake f u) = absPh (f u) := by
  unfold wake
  split
  · rename_i h; rw [h]; rfl
  · rfl

theorem winv_next {s s' : St σ Op Ret} {a : Act Op} (h : WInv s) (hn : Next step bcast s a s') :
    WInv s' := by
  have ts : ∀ {t p}, s.ph t = p → tstate s.log t = absPh p := fun e => e ▸ (h.agree _).symm
  cases hn with
  | inv hp => exact ⟨⟨ts hp, h.wn⟩, agree_event absPh (.inv _ _) h.agree rfl (if_pos rfl).symm⟩
  | ret hp => exact ⟨⟨ts hp, h.wn⟩, agree_event absPh (.ret _ _ _) h.agree rfl (if_pos rfl).symm⟩
  | apply hp =>
    refine ⟨⟨ts hp, h.wn⟩, agree_event absPh (.lin _ _ _) (fun u => ?_) rfl (if_pos rfl).symm⟩
    split
    · rw [absPh_wake]; exact h.agree u
    · exact h.agree u
  | acq hp => exact ⟨h.wn, agree_silent absPh h.agree (by rcases hp with hp | hp <;> rw [hp] <;> rfl)⟩
  | wait hp | rel hp | spur hp => exact ⟨h.wn, agree_silent absPh h.agree (by rw [hp]; rfl)⟩

theorem reachable_winv (init : σ) (as : List (Act Op)) (s : St σ Op Ret)
    (h : runActs step bcast (initSt init) as = some s) : WInv s :=
  runActs_induct step bcast _ (winv_next step bcast) (initSt init) s as ⟨trivial, fun _ => rfl⟩ h

/-- **Linearizability of the monitor object, for every schedule** (no hypothesis on `bcast`:
    safety does not depend on the broadcasts, only progress does).  In every reachable state the
    event log is well nested per thread, every recorded linearization point is an *enabled*
    sequential step returning the recorded value, and the shared state is the sequential replay. -/
theorem monitor_linearizable (init : σ) (as : List (Act Op)) (s : St σ Op Ret)
    (h : runActs step bcast (initSt init) as = some s) :
    wn s.log ∧ retsOk step init s.log ∧ s.sh = seqState step init s.log :=
  have hI := reachable_linv step bcast init as s h
  ⟨(reachable_winv step bcast init as s h).wn, hI.rets, hI.seq⟩

theorem phase_agrees_with_log (init : σ) (as : List (Act Op)) (s : St σ Op Ret)
    (h : runActs step bcast (initSt init) as = some s) (t : Nat) :
    absPh (s.ph t) = tstate s.log t :=
  (reachable_winv step bcast init as s h).agree t

/-- operations invoked by thread `t`, newest first -/
def invsN (t : Nat) : List (Ev Op Ret) → List Op
  | [] => []
  | .inv u op :: rest => if u = t then op :: invsN t rest else invsN t rest
  | _ :: rest => invsN t rest

def pendOf : TS Op Ret → List Op
  | .pending op => [op]
  | _ => []

/-- **Program order** (generic form): in a well-nested log, for every thread `t`, the sub-list of
    the linearization belonging to `t`, followed by `t`'s pending operation if it has one, is the
    list of operations `t` invoked, in invocation order. -/
theorem program_order_wn (l : List (Ev Op Ret)) (t : Nat) (h : wn l) :
    (invsN t l).reverse =
      ((linOps l).filter (fun x => x.1 == t)).map (fun x => x.2.1) ++ pendOf (tstate l t) := by
  induction l with
  | nil => rfl
  | cons e rest ih =>
    have ih' := ih (wn_of_append [e] rest h)
    by_cases hu : evThread e = t
    · -- an event of `t`: `wn` says what `t`'s state was before it
      cases e <;> simp only [evThread] at hu <;> subst hu <;> rw [h.1] at ih' <;>
        simp [invsN, linOps, tstate, List.filter_append, ih', pendOf]
    · have hu' : ¬ t = evThread e := fun e => hu e.symm
      cases e <;> simp only [evThread] at hu hu' <;>
        simp [invsN, linOps, tstate, List.filter_append, hu, hu', ih']

inductive DOp where
  | put (x : Nat)
  | get
  deriving DecidableEq

/-- unbounded FIFO whose `get` blocks on empty -/
def dstep : List Nat → DOp → Option (List Nat × Nat)
  | l, .put x => some (l ++ [x], 0)
  | [], .get => none
  | x :: l, .get => some (l, x)

def noBcast : DOp → Bool := fun _ => false

def putBcast : DOp → Bool
  | .put _ => true
  | .get => false

/-- consumer 0 finds the queue empty and waits; producer 1 then puts 7 and returns -/
def lostSched : List (Act DOp) :=
  [.inv 0 .get, .acq 0, .body 0, .inv 1 (.put 7), .acq 1, .body 1, .rel 1, .ret 1]

/-- **Lost wake-up when `Put` does not broadcast.**  After the schedule the queue holds `[7]`, the
    lock is free, every other thread is idle, and consumer 0 is still in the wait set: no action of
    thread 0 is enabled except an (unreliable) spurious wake-up.  In particular `no_lost_wakeup`'s
    conclusion fails (`dstep s.sh .get ≠ none`), so its hypothesis `NoEnable` cannot be dropped. -/
theorem lost_wakeup_without_broadcast :
    ∃ s, runActs dstep noBcast (initSt []) lostSched = some s ∧
      s.ph 0 = .waiting .get ∧ s.sh = [7] ∧ s.holder = none ∧ s.ph 1 = .idle ∧
      dstep s.sh .get = some ([], 7) ∧
      next dstep noBcast s (.acq 0) = none ∧ next dstep noBcast s (.body 0) = none ∧
      next dstep noBcast s (.rel 0) = none ∧ next dstep noBcast s (.ret 0) = none ∧
      (∀ op, next dstep noBcast s (.inv 0 op) = none) :=
  ⟨_, rfl, rfl, rfl, rfl, rfl, rfl, rfl, rfl, rfl, rfl, fun _ => rfl⟩

/-- `noBcast` indeed violates the obligation -/
theorem noBcast_not_NoEnable : ¬ NoEnable dstep noBcast := by
  intro H
  have := H [] (.put 7) [7] 0 rfl rfl .get rfl
  simp [dstep] at this

/-- **With the broadcast the same schedule leaves consumer 0 runnable**, and when scheduled it
    returns the element. -/
theorem wakeup_with_broadcast :
    ∃ s, runActs dstep putBcast (initSt []) lostSched = some s ∧
      s.ph 0 = .woken .get ∧ s.sh = [7] ∧ s.holder = none ∧
      ∃ s', runActs dstep putBcast s [.acq 0, .body 0, .rel 0, .ret 0] = some s' ∧
        s'.sh = [] ∧ s'.ph 0 = .idle ∧
        s'.log = [.ret 0 .get 7, .lin 0 .get 7, .ret 1 (.put 7) 0, .lin 1 (.put 7) 0,
                  .inv 1 (.put 7), .inv 0 .get] :=
  ⟨_, rfl, rfl, rfl, rfl, _, rfl, rfl, rfl, rfl⟩

/-- `putBcast` satisfies the obligation: `get` (the only blockable operation) is not enabled by a
    `get`. -/
theorem putBcast_NoEnable : NoEnable dstep putBcast := by
  intro v op v' r hs hb op' hn
  cases op with
  | put x => simp [putBcast] at hb
  | get =>
    cases op' with
    | put y => simp [dstep] at hn
    | get =>
      cases v with
      | nil => simp [dstep] at hs
      | cons x l => simp [dstep] at hn

/-- non-vacuity of `no_lost_wakeup`/`woken_by_enabler`: the hypotheses hold on the demo instance -/
example : ∃ s, runActs dstep putBcast (initSt []) [.inv 0 .get, .acq 0, .body 0] = some s ∧
    s.ph 0 = .waiting .get ∧ dstep s.sh .get = none :=
  ⟨_, rfl, rfl, rfl⟩

end Conc.Cond
