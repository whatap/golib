/-
  Golib.Conc.WholeOps — point operations in the presence of whole-structure operations.

  A whole-structure operation whose sequential specification leaves the *content* of the structure
  unchanged (Sort: same key → value pairs in another order; every read-only traversal) is called
  *neutral*.  By `Conc.legal_transfers_erasing`, for any sequential object with a content equivalence `E`
  that the remaining operations respect, neutral operations can be erased from a legal sequential history:
  the point operations alone form a legal history with the same results and a content-equal final state.
  With `mutex_herlihy_wing` this gives, for every schedule of the mutex machine: whatever Sorts run
  concurrently, every completed put / remove / clear keeps its effect
  (`C10.neutral_ops_never_disturb_point_ops`); this file discharges the hypotheses for the dictionary
  (`wstep_sort_neutral`, `wstep_congr`).

  The counter-model: a Sort split into two operations of the machine (snapshot; rebuild from the
  snapshot) — each atomic — undoes a put that completes in between
  (`C10.split_sort_undoes_completed_put`).
-/
import Golib.Conc.Refine
import Golib.Conc.SeqSpecThms

namespace SeqSpec

/-- order-insensitive point operations of the dictionary, and Sort under any comparator -/
inductive WOp where
  | put (k v : Nat) | get (k : Nat) | has (k : Nat) | rem (k : Nat) | size | empty | clear
  | sort (lt : Nat → Nat → Bool)

/-- insertion sort by key under a comparator (any comparator: the result is a permutation) -/
def insertBy (lt : Nat → Nat → Bool) (e : Nat × Nat) : MSt → MSt
  | [] => [e]
  | x :: r => if lt x.1 e.1 then x :: insertBy lt e r else e :: x :: r

def isort (lt : Nat → Nat → Bool) (m : MSt) : MSt := m.foldr (insertBy lt) []

theorem insertBy_perm (lt : Nat → Nat → Bool) (e : Nat × Nat) (l : MSt) : (insertBy lt e l).Perm (e :: l) := by
  fun_induction insertBy lt e l with
  | case1 => exact .refl _
  | case2 x r _ ih => exact (ih.cons x).trans (List.Perm.swap e x r)
  | case3 => exact .refl _

theorem isort_perm (lt : Nat → Nat → Bool) (m : MSt) : (isort lt m).Perm m := by
  induction m with
  | nil => exact .nil
  | cons e r ih => exact (insertBy_perm lt e _).trans (ih.cons e)

def wstep (m : MSt) : WOp → MSt × Fact
  | .put k v => mstep m (.put k v)
  | .get k => mstep m (.get k)
  | .has k => mstep m (.has k)
  | .rem k => mstep m (.rem k)
  | .size => mstep m .size
  | .empty => mstep m .empty
  | .clear => mstep m .clear
  | .sort lt => (isort lt m, .unit)

def isSort : WOp → Bool
  | .sort _ => true
  | _ => false

theorem perm_keysNodup {a b : MSt} (h : a.Perm b) : keysNodup a ↔ keysNodup b := by
  unfold keysNodup; exact (h.map (fun e : Nat × Nat => e.1)).nodup_iff

theorem lookup_perm (k : Nat) {a b : MSt} (h : a.Perm b) (hn : keysNodup a) : lookup k a = lookup k b := by
  induction h with
  | nil => rfl
  | cons x _ ih =>
    obtain ⟨k', v'⟩ := x
    have hn' := (List.nodup_cons.1 hn).2
    simp [lookup, ih hn']
  | swap x y l =>
    obtain ⟨kx, vx⟩ := x; obtain ⟨ky, vy⟩ := y
    have hne : ky ≠ kx := by
      have := (List.nodup_cons.1 hn).1
      intro e; apply this; simp [e]
    simp only [lookup]
    by_cases h1 : ky = k <;> by_cases h2 : kx = k <;> simp_all
  | trans h1 _ ih1 ih2 => exact (ih1 hn).trans (ih2 ((perm_keysNodup h1).1 hn))

theorem hasKey_perm (k : Nat) {a b : MSt} (h : a.Perm b) : hasKey k a = hasKey k b := by
  unfold hasKey; exact h.any_eq

theorem replace_perm (k v : Nat) {a b : MSt} (h : a.Perm b) (hn : keysNodup a) :
    (replace k v a).Perm (replace k v b) := by
  rw [replace_eq_map k v a hn, replace_eq_map k v b ((perm_keysNodup h).1 hn)]
  exact h.map _

theorem erase_perm (k : Nat) {a b : MSt} (h : a.Perm b) (hn : keysNodup a) :
    (erase k a).Perm (erase k b) := by
  rw [erase_eq_filter k a hn, erase_eq_filter k b ((perm_keysNodup h).1 hn)]
  exact h.filter _

theorem wstep_keysNodup (m : MSt) (op : WOp) (h : keysNodup m) : keysNodup (wstep m op).1 := by
  cases op with
  | sort lt => exact (perm_keysNodup (isort_perm lt m)).2 h
  | _ => exact mstep_keysNodup m _ h

/-- Sort leaves the content unchanged -/
theorem wstep_sort_neutral (s s' : MSt) (op : WOp) (_ : keysNodup s) (_ : keysNodup s') (hE : s.Perm s')
    (hN : isSort op = true) : (wstep s op).1.Perm s' := by
  cases op <;> simp [isSort] at hN
  exact (isort_perm _ s).trans hE

/-- the order-insensitive point operations respect content equality: same results, content-equal states -/
theorem wstep_congr (s s' : MSt) (op : WOp) (hs : keysNodup s) (_ : keysNodup s') (hE : s.Perm s')
    (hN : isSort op = false) : (wstep s op).1.Perm (wstep s' op).1 ∧ (wstep s op).2 = (wstep s' op).2 := by
  cases op with
  | sort lt => simp [isSort] at hN
  | put k v =>
    simp only [wstep, mstep, ← hasKey_perm k hE, ← lookup_perm k hE hs]
    split
    · exact ⟨replace_perm k v hE hs, rfl⟩
    · exact ⟨hE.append_right _, rfl⟩
  | get k => simp only [wstep, mstep, ← lookup_perm k hE hs]; exact ⟨hE, trivial⟩
  | has k => simp only [wstep, mstep, ← hasKey_perm k hE]; exact ⟨hE, trivial⟩
  | rem k => simp only [wstep, mstep, ← lookup_perm k hE hs]; exact ⟨erase_perm k hE hs, trivial⟩
  | size => simp only [wstep, mstep, hE.length_eq]; exact ⟨hE, trivial⟩
  | empty =>
    simp only [wstep, mstep]
    refine ⟨hE, ?_⟩
    have := hE.length_eq
    cases s <;> cases s' <;> simp_all
  | clear => simp [wstep, mstep]

/-- `snap` hands out the entries (first critical section), `rebuild l` replaces the content by the sorted
    list `l` (second critical section); each is an atomic operation of the machine -/
inductive SOp where
  | pt (op : MOp) | snap | rebuild (l : MSt)

inductive SRet where
  | fact (f : Fact) | ents (l : MSt)

def insertByKey (e : Nat × Nat) : MSt → MSt
  | [] => [e]
  | x :: r => if e.1 ≤ x.1 then e :: x :: r else x :: insertByKey e r

def sstep (m : MSt) : SOp → MSt × SRet
  | .pt op => ((mstep m op).1, .fact (mstep m op).2)
  | .snap => (m, .ents m)
  | .rebuild l => (l.foldr insertByKey [], .fact .unit)

/-- goroutine 1: `Sort` = snap … rebuild(what snap returned); goroutine 2: a complete `Put(9, 90)` between
    the two critical sections -/
def splitSortSchedule : List (Conc.Act SOp) :=
  [.inv 1 .snap, .acq 1, .load 1, .store 1, .rel 1, .ret 1,
   .inv 2 (.pt (.put 9 90)), .acq 2, .load 2, .store 2, .rel 2, .ret 2,
   .inv 1 (.rebuild [(2, 20), (1, 10)]), .acq 1, .load 1, .store 1, .rel 1, .ret 1]

end SeqSpec
