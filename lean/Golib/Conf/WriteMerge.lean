/-
  Golib.Conf.WriteMerge — the merged map (`lookup_setAll_mem`, `lookup_setAll_skip`); the rewritten file
  line by line: the lines that are not key=value lines stay (`skipLines_preserved`), its items as a list
  (`kv_order_preserved`, `appended_keys`) and as a set (`mem_outPairs`: exactly the visible entries of the
  merged map); hence the map read back from the rewritten file is the merged map (`readback_lookup`,
  `writeModel_merge`).
-/
import Golib.Conf.WriteLemmas

namespace Conf

/-- the merged map as a reader sees it: a blank value means "no entry" (Write drops the line,
    Read drops empty values) -/
def visible (props : KV) (key : Str) : Option Str :=
  match lookup props key with
  | some v => if isBlankVal v then none else some v
  | none => none

theorem lookup_foldl_put_consistent (props P m0 : KV) (key : Str)
    (hcons : ∀ p ∈ P, lookup props p.1 = some p.2) :
    lookup (P.foldl (fun m p => put m p.1 p.2) m0) key =
      if key ∈ keysOf P then lookup props key else lookup m0 key := by
  induction P generalizing m0 with
  | nil => simp [keysOf]
  | cons p r ih =>
    have hr : ∀ q ∈ r, lookup props q.1 = some q.2 := fun q hq => hcons q (List.mem_cons_of_mem _ hq)
    simp only [List.foldl_cons, ih _ hr, keysOf, List.map_cons, List.mem_cons]
    by_cases h1 : key ∈ List.map (fun x => x.1) r
    · simp [h1]
    · simp only [h1, if_false, or_false]
      by_cases h2 : key = p.1
      · subst h2
        simp [lookup_put_same, hcons p (by simp)]
      · simp [h2, lookup_put_other _ _ _ _ h2]

theorem lookup_filter (m : KV) (f : Str × Str → Bool) (key : Str) (hn : KeysNodup m) :
    lookup (m.filter f) key = (lookup m key).bind (fun v => if f (key, v) then some v else none) := by
  induction m with
  | nil => simp [lookup]
  | cons p r ih =>
    obtain ⟨k', v'⟩ := p
    simp only [KeysNodup, keysOf, List.map_cons, List.nodup_cons] at hn
    have ihr := ih hn.2
    by_cases hk : k' = key
    · subst hk
      have hnone : lookup r k' = none := lookup_none_of_not_mem r k' hn.1
      by_cases hf : f (k', v') = true
      · simp [List.filter, hf, lookup]
      · have hf' : f (k', v') = false := by simpa using hf
        simp [List.filter, hf', lookup, ihr, hnone]
    · by_cases hf : f (k', v') = true
      · simp [List.filter, hf, lookup, hk, ihr]
      · have hf' : f (k', v') = false := by simpa using hf
        simp [List.filter, hf', lookup, hk, ihr]

theorem mem_put (m : KV) (k v : Str) (p : Str × Str) (h : p ∈ put m k v) : p ∈ m ∨ p = (k, v) := by
  fun_induction put m k v with
  | case1 => exact .inr (by simpa using h)
  | case2 v' r =>
    rcases List.mem_cons.mp h with h | h
    · exact .inr h
    · exact .inl (List.mem_cons_of_mem _ h)
  | case3 k' v' r hk ih =>
    rcases List.mem_cons.mp h with h | h
    · exact .inl (h ▸ List.mem_cons_self)
    · exact (ih h).imp_left (List.mem_cons_of_mem _)

theorem propsWF_put (m : KV) (k v : Str) (h : PropsWF m) (hk : WFkey k) (hv : v = [] ∨ WFval v) :
    PropsWF (put m k v) := by
  intro p hp
  rcases mem_put m k v p hp with h1 | h1
  · exact h p h1
  · subst h1; exact ⟨hk, hv⟩

theorem propsWF_filter (m : KV) (f : Str × Str → Bool) (h : PropsWF m) : PropsWF (m.filter f) :=
  fun p hp => h p (List.mem_filter.mp hp).1

theorem propsWF_foldl_put (P m : KV) (h : PropsWF m) (hP : PropsWF P) :
    PropsWF (P.foldl (fun m p => put m p.1 p.2) m) :=
  List.foldlRecOn (motive := PropsWF) P _ h fun m hm p hp => propsWF_put m p.1 p.2 hm (hP p hp).1 (hP p hp).2

theorem propsWF_setAll (props M : KV) (h : PropsWF props) (hM : PropsWF M) : PropsWF (setAll props M) :=
  List.foldlRecOn (motive := PropsWF) M _ h fun m hm p hp => by
    split
    · exact hm
    · exact propsWF_put m p.1 p.2 hm (hM p hp).1 (hM p hp).2

theorem keysNodup_setAll (props M : KV) (h : KeysNodup props) : KeysNodup (setAll props M) :=
  List.foldlRecOn (motive := KeysNodup) M _ h fun m hm p _ => by
    split
    · exact hm
    · exact keysNodup_put m p.1 p.2 hm

theorem lookup_setAll_skip (props M : KV) (k : Str) (h : ∀ p ∈ M, p.1 ≠ k) :
    lookup (setAll props M) k = lookup props k :=
  lookup_foldl_put_skip (fun kv => kv.1.isEmpty) props M k (fun p hp _ => h p hp)

theorem lookup_setAll_mem (props M : KV) (k v : Str) (hn : KeysNodup M) (hm : (k, v) ∈ M)
    (hk : k ≠ []) : lookup (setAll props M) k = some v :=
  lookup_foldl_put_mem (fun kv => kv.1.isEmpty) props M k v hn hm (by cases k <;> simp_all)

theorem propsWF_pairsOf (infos : List LineInfo) (h : WFprops infos) : PropsWF (pairsOf infos) := by
  intro p hp
  simp only [pairsOf, List.mem_filterMap] at hp
  obtain ⟨li, hli, e⟩ := hp
  obtain ⟨l, o⟩ := li
  simp only at e; subst e
  obtain ⟨k, pv⟩ := p
  have : KVLine l k pv := h _ hli
  exact ⟨this.2.2.2.2.1, this.2.2.2.2.2.1⟩

theorem propsWF_buildProps (infos : List LineInfo) (h : WFprops infos) : PropsWF (buildProps (pairsOf infos)) :=
  propsWF_foldl_put _ [] (fun _ hp => nomatch hp) (propsWF_pairsOf infos h)

theorem nonblank_nonempty (v : Str) (h : isBlankVal v = false) : v.isEmpty = false := by
  cases v with
  | nil => simp [isBlankVal, trimSpace, trimBy, trimRightBy, trimLeftBy] at h
  | cons _ _ => rfl

theorem outLine_some_kv (props : KV) (l k pv : Str) :
    outLine props (l, some (k, pv)) =
      if isBlankVal ((lookup props k).getD []) then none
      else some (renderKV k ((lookup props k).getD []), some (k, (lookup props k).getD [])) := rfl

theorem kv_body (props : KV) (infos : List LineInfo) :
    (infos.filterMap (outLine props)).filterMap (·.2) =
      (infos.filterMap (·.2)).filterMap (fun p =>
        if isBlankVal ((lookup props p.1).getD []) then none else some (p.1, (lookup props p.1).getD [])) := by
  rw [List.filterMap_filterMap, List.filterMap_filterMap]
  congr 1
  funext ⟨l, o⟩
  rcases o with _ | ⟨k, pv⟩
  · rfl
  · by_cases hb : isBlankVal ((lookup props k).getD []) = true <;> simp [outLine_some_kv, hb]

/-- the key=value lines that remain are the old ones whose merged value is not blank, in the old
    order and with the merged value; the appended lines come after them -/
theorem kv_order_preserved (props : KV) (infos : List LineInfo) :
    pairsOf (outInfos props infos) =
      ((pairsOf infos).filterMap (fun p =>
        if isBlankVal ((lookup props p.1).getD []) then none else some (p.1, (lookup props p.1).getD [])))
      ++ pairsOf (appendedInfos props ((pairsOf infos).map (·.1))) := by
  simp only [outInfos, pairsOf, List.filterMap_append]
  rw [kv_body]

/-- the appended lines are exactly the visible entries of the merged map that had no line -/
theorem appended_keys (props : KV) (oldKeys : List Str) (hp : PropsWF props) :
    pairsOf (appendedInfos props oldKeys) =
      props.filter (fun kv => !oldKeys.contains kv.1 && !isBlankVal kv.2) := by
  unfold pairsOf appendedInfos
  induction props with
  | nil => rfl
  | cons kv r ih =>
    have hw : isWordStart kv.1 = true := (hp kv (by simp)).1.1
    have ihr := ih (fun q hq => hp q (List.mem_cons_of_mem _ hq))
    simp only [List.filterMap_cons, List.filter_cons]
    cases h1 : oldKeys.contains kv.1 <;> cases h2 : isBlankVal kv.2 <;>
      simp only [hw, Bool.not_true, Bool.false_eq_true, if_false, if_true, Bool.not_false,
        Bool.and_self, Bool.and_false, Bool.false_and, List.filterMap_cons, ihr]

theorem skip_body (props : KV) (infos : List LineInfo) :
    ((infos.filterMap (outLine props)).filter (fun li => li.2.isNone)).map (·.1) =
    (infos.filter (fun li => li.2.isNone)).map (·.1) := by
  -- both sides select from `infos` line by line; the rewrite keeps a line without item as it is
  rw [← List.filterMap_eq_filter, List.filterMap_filterMap]
  congr 2
  funext ⟨l, o⟩
  rcases o with _ | ⟨k, pv⟩
  · rfl
  · simp only [outLine_some_kv]; split <;> rfl

/-- lines that are not key=value lines survive unchanged, in order -/
theorem skipLines_preserved (props : KV) (infos : List LineInfo) :
    ((outInfos props infos).filter (fun li => li.2.isNone)).map (·.1) =
    (infos.filter (fun li => li.2.isNone)).map (·.1) := by
  have happ : (appendedInfos props ((pairsOf infos).map (·.1))).filter (fun li => li.2.isNone) = [] := by
    rw [List.filter_eq_nil_iff]
    intro li hli
    obtain ⟨kv, _, _, _, _, rfl⟩ := (mem_appendedInfos props _ li).mp hli
    simp
  simp only [outInfos, List.filter_append, happ, List.append_nil]
  exact skip_body props infos

/-- the items of the rewritten file are exactly the visible entries of the merged map -/
theorem mem_outPairs (props : KV) (infos : List LineInfo) (hn : KeysNodup props) (hp : PropsWF props) (k v : Str) :
    (k, v) ∈ pairsOf (outInfos props infos) ↔ lookup props k = some v ∧ isBlankVal v = false := by
  rw [kv_order_preserved, appended_keys props _ hp]
  simp only [List.mem_append, List.mem_filterMap, List.mem_filter, Bool.and_eq_true, Bool.not_eq_true',
    Option.ite_none_left_eq_some, Option.some.injEq, Prod.mk.injEq]
  constructor
  · rintro (⟨p, _, hb, rfl, rfl⟩ | ⟨hm, _, hb⟩)
    · cases hl : lookup props p.1 with
      | none => rw [hl] at hb; exact absurd rfl hb
      | some w => exact ⟨rfl, by simpa [hl] using hb⟩
    · exact ⟨lookup_of_mem props k v hn hm, hb⟩
  · rintro ⟨hl, hb⟩
    by_cases hold : k ∈ (pairsOf infos).map (·.1)
    · obtain ⟨p, hpm, rfl⟩ := List.mem_map.mp hold
      exact .inl ⟨p, hpm, by simp [hl, hb], rfl, by simp [hl]⟩
    · exact .inr ⟨mem_of_lookup props k v hl, by simpa using hold, hb⟩

theorem readback_lookup (props : KV) (infos : List LineInfo) (hn : KeysNodup props) (hp : PropsWF props)
    (key : Str) :
    lookup (readMap (buildProps (pairsOf (outInfos props infos)))) key = visible props key := by
  have hmem := mem_outPairs props infos hn hp
  have h1 := lookup_foldl_put_consistent props (pairsOf (outInfos props infos)) [] key
    fun p hp => ((hmem p.1 p.2).mp hp).1
  have hk : key ∈ keysOf (pairsOf (outInfos props infos)) ↔ ∃ v, lookup props key = some v ∧ isBlankVal v = false := by
    simp only [keysOf, List.mem_map]
    exact ⟨fun ⟨p, hpm, e⟩ => ⟨p.2, e ▸ (hmem p.1 p.2).mp hpm⟩, fun ⟨v, h⟩ => ⟨(key, v), (hmem key v).mpr h, rfl⟩⟩
  rw [readMap, lookup_filter _ _ key (keysNodup_buildProps _), buildProps, h1, visible]
  cases hl : lookup props key with
  | none => simp [lookup]
  | some v =>
    cases hb : isBlankVal v with
    | true => simp [hk, hl, hb, lookup]
    | false =>
      have := nonblank_nonempty v hb
      simp [hk, hl, hb]; intro e; subst e; cases this

theorem writeModel_merge (infos : List LineInfo) (M : KV) (hwf : WFprops infos) (hM : PropsWF M) :
    ∃ out, writeModel true (textOf infos) M = some out ∧
      ∃ outPairs, lexPairs out.text = some outPairs ∧
        ∀ key, lookup (readMap (buildProps outPairs)) key =
               visible (setAll (buildProps (pairsOf infos)) M) key := by
  have hsplit : splitLines (textOf infos) = infos.map (·.1) :=
    splitLines_joinLines _ (by
      intro l hl
      simp only [List.mem_map] at hl
      obtain ⟨li, hli, e⟩ := hl
      subst e; exact wfline_nobreak li (hwf li hli))
  let props := setAll (buildProps (pairsOf infos)) M
  have hpw : PropsWF props :=
    propsWF_setAll _ M (propsWF_buildProps infos hwf) hM
  have hpn : KeysNodup props := keysNodup_setAll _ M (keysNodup_buildProps _)
  refine ⟨writeLines true props (infos.map (·.1)), ?_, pairsOf (outInfos props infos), ?_, ?_⟩
  · simp [writeModel, lexPairs_textOf infos hwf, hsplit, props]
  · rw [writeLines_wf props infos hwf]
    exact lexPairs_textOf _ (outInfos_wf props infos hwf hpw)
  · exact fun key => readback_lookup props infos hpn hpw key

end Conf
