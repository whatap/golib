/-
  Golib.Conf.Getters — the typed getters of FileConfig as parse-or-default functions over
  the key→string map `m` and the process environment `env` (getValue falls back to
  os.Getenv when the key is absent from the map).
-/
import Golib.Conf.Num

namespace Conf

/-- `FileConfig.getValue` -/
def getValue (m env : KV) (k : Str) : Str :=
  match lookup m k with
  | some v => trimSpace v
  | none => (lookup env k).getD []

/-- `FileConfig.getValueDef` -/
def getValueDef (m env : KV) (k d : Str) : Str :=
  let v := getValue m env k
  if v.isEmpty then d else v

/-- generic shape of getBoolean / getInt / getLong / getFloat: empty → default,
    unparsable → default, else the parsed value -/
def getParsed {α : Type} (parse : Str → Option α) (m env : KV) (k : Str) (d : α) : α :=
  let v := getValue m env k
  if v.isEmpty then d else (parse v).getD d

def getBoolean (m env : KV) (k : Str) (d : Bool) : Bool := getParsed parseBool m env k d

/-- `GetInt(key, def int) int32`: the default is converted with `int32(def)` -/
def getInt (m env : KV) (k : Str) (d : Int) : Int := getParsed (parseInt 32) m env k (wrap32 d)

def getLong (m env : KV) (k : Str) (d : Int) : Int := getParsed (parseInt 64) m env k d

/-- `strings.FieldsFunc(src, c ∈ delim)` -/
def fieldsAux (delim : Str) : Str → Str → List Str → List Str
  | [], cur, acc => (if cur.isEmpty then acc else cur.reverse :: acc).reverse
  | c :: r, cur, acc =>
    if delim.contains c then fieldsAux delim r [] (if cur.isEmpty then acc else cur.reverse :: acc)
    else fieldsAux delim r (c :: cur) acc

/-- `stringutil.Tokenizer` -/
def tokenizer (src delim : Str) : List Str :=
  if src.isEmpty || delim.isEmpty then [src] else fieldsAux delim src [] []

/-- `getStringArray` -/
def getStringArray (m env : KV) (k d deli : Str) : List Str :=
  let v := getValueDef m env k d
  if v.isEmpty then [] else (tokenizer v deli).map trimSpace

/-- `GetIntSet` as the property wants it and as the code is (FileConfig.go:311 `err == nil`): the tokens
    that are integers, converted with `int32(…)` -/
def getIntSet (m env : KV) (k d deli : Str) : List Int :=
  (tokenizer (getValueDef m env k d) deli).filterMap
    (fun x => (parseInt 64 (trimSpace x)).map wrap32)

/-- `GetIntSet` of the code before fix-D38 (`C18.finding_D38`): `if xx, err := Atoi(…); err != nil { append(int32(xx)) }`.
    Atoi returns 0 on a syntax error and the clamped bound on a range error. -/
def atoiErrValue (s : Str) : Int :=
  let body := match s with | '-' :: r => r | '+' :: r => r | _ => s
  match parseUint body with
  | none => 0
  | some _ => match s with | '-' :: _ => -9223372036854775808 | _ => 9223372036854775807

def getIntSetD38 (m env : KV) (k d deli : Str) : List Int :=
  (tokenizer (getValueDef m env k d) deli).filterMap
    (fun x => match parseInt 64 (trimSpace x) with
      | some _ => none
      | none => some (wrap32 (atoiErrValue (trimSpace x))))

/-- `getFloat`: the decision structure with strconv.ParseFloat(·, 32) as a parameter -/
def getFloat {F : Type} (parseFloat : Str → Option F) (m env : KV) (k : Str) (d : F) : F :=
  getParsed parseFloat m env k d

/-- the tokens `GetStringHashSet` / `GetStringHashCodeSet` hash: every token of the value (or of the
    default), trimmed — empty tokens included (`Tokenizer("")` = `[""]`) -/
def hashTokens (m env : KV) (k d deli : Str) : List Str :=
  (tokenizer (getValueDef m env k d) deli).map trimSpace

/-- `GetStringHashSet` (hash = hash.HashStr) and `GetStringHashCodeSet` (hash = int32 ∘ stringutil.HashCode)
    with the hash function as a parameter -/
def getHashSet (hash : Str → Int) (m env : KV) (k d deli : Str) : List Int :=
  (hashTokens m env k d deli).map hash

end Conf
