/-
  Golib.Conf.Reload — FileConfig as a state machine: the reload decision, apply (merge of
  the parsed keys into the map), reset to defaults when the file disappears, observer
  notification.

  `Ver` abstracts what reload compares.  The code compares `ModTime().UnixNano()` and the size
  (`verFull`; FileConfig.go:209-210); before proposed/C18/fix-D37.diff it compared
  `ModTime().Unix()` (whole seconds, `verSec`; `C18.finding_D37`).
-/
import Golib.Conf.Write

namespace Conf

/-- the file as reload sees it: modification time in nanoseconds, content -/
structure FileSt where
  mtimeNs : Int
  text : Str
  deriving Repr, DecidableEq

/-- what is remembered about the version last loaded: (time, size) -/
abbrev Ver := Int × Int

def verFull (f : FileSt) : Ver := (f.mtimeNs, (utf8Len f.text : Int))
/-- `ModTime().Unix()`: floor division by 10^9; the size is not looked at -/
def verSec (f : FileSt) : Ver := (f.mtimeNs / 1000000000, 0)

structure Cfg where
  m : KV
  last : Ver                 -- (last_file_time, last_file_size); (-1,_) initially, (0,_) after a reset
  notified : Nat             -- how many times ConfigObserver.Run was called
  deriving Repr, DecidableEq

def Cfg.init : Cfg := { m := [], last := (-1, 0), notified := 0 }

def defaults : KV := [
  ("enabled", "true"), ("net_udp_port", "6600"), ("transaction_enabled", "true"),
  ("profile_http_header_enabled", "false"), ("profile_http_header_url_prefix", "/"),
  ("profile_http_parameter_enabled", "false"), ("profile_http_parameter_url_prefix", "/"),
  ("profile_sql_param_enabled", "false"),
  ("trace_user_enabled", "true"), ("trace_user_using_ip", "false"), ("trace_user_header_ticket", ""),
  ("trace_user_set_cookie", "false"), ("trace_user_cookie_limit", "2048"), ("trace_user_cookie_keys", ""),
  ("trace_http_client_ip_header_key_enabled", "true"), ("trace_http_client_ip_header_key", "x-forwarded-for"),
  ("mtrace_enabled", "true"), ("mtrace_caller_key", "x-wtap-mst"), ("mtrace_callee_key", "x-wtap-tx"),
  ("mtrace_info_key", "x-wtap-inf"), ("mtrace_poid_key", "x-wtap-po"), ("mtrace_spec_key", "x-wtap-sp"),
  ("mtrace_spec_key1", "x-wtap-sp1"), ("mtrace_send_url_length", "80"), ("mtrace_spec", "ver1.0"),
  ("mtrace_rate", "10"), ("tx_max_count", "8000"), ("debug", "false")
].map (fun p => (p.1.toList, p.2.toList))

/-- `FileConfig.apply`: every non-empty value of the parsed map is stored -/
def applyMerge (m : KV) (newM : KV) : KV :=
  newM.foldl (fun acc kv => if kv.2.isEmpty then acc else put acc kv.1 kv.2) m

inductive ReloadRes where
  | nofile | reset | same | loaded | parseErr | expansion
  deriving Repr, DecidableEq

/-- one `reload()` (throttle already passed).  `ver` is the version function of the code.
    On the `.reset` branch `notified` is not bumped, while FileConfig.go:202-204 does call `Run`
    there: on that path the code is `reloadN true` (SysHist.lean). -/
def reload (ver : FileSt → Ver) (c : Cfg) (file : Option FileSt) : Cfg × ReloadRes :=
  match file with
  | none =>
    if c.last.1 == -1 then (c, .nofile)
    else if c.last.1 == 0 then (c, .nofile)
    else ({ c with last := (0, c.last.2), m := applyMergeAll [] defaults }, .reset)
  | some f =>
    let v := ver f
    if c.last == v then (c, .same)
    else
      let c1 := { c with last := v }
      match parseProps f.text with
      | .malformed => (c1, .parseErr)
      | .expansion => (c1, .expansion)
      | .ok props => ({ c1 with m := applyMerge c1.m (readMap props), notified := c1.notified + 1 }, .loaded)
where
  /-- ApplyDefault assigns every entry, empty values included -/
  applyMergeAll (m : KV) (d : KV) : KV := d.foldl (fun acc kv => put acc kv.1 kv.2) m

end Conf
