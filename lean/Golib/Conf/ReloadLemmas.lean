/-
  Golib.Conf.ReloadLemmas — the reload decision, the merge and the notification.
-/
import Golib.Conf.Reload

namespace Conf

def keysOf (m : KV) : List Str := m.map (·.1)
def KeysNodup (m : KV) : Prop := (keysOf m).Nodup

theorem lookup_none_of_not_mem (m : KV) (k : Str) (h : k ∉ keysOf m) : lookup m k = none := by
  fun_induction lookup m k with
  | case1 => rfl
  | case2 v r => simp [keysOf] at h
  | case3 k' v r hk ih => exact ih fun hm => h (List.mem_cons_of_mem _ hm)

theorem lookup_of_mem (m : KV) (k v : Str) (hn : KeysNodup m) (h : (k, v) ∈ m) : lookup m k = some v := by
  fun_induction lookup m k with
  | case1 => cases h
  | case2 v' r =>
    -- the key stands once, at the head
    rcases List.mem_cons.mp h with e | e
    · cases e; rfl
    · exact absurd (List.mem_map.mpr ⟨(k, v), e, rfl⟩) (List.nodup_cons.mp hn).1
  | case3 k' v' r hk ih =>
    rcases List.mem_cons.mp h with e | e
    · cases e; exact absurd rfl hk
    · exact ih (List.nodup_cons.mp hn).2 e

theorem mem_of_lookup (m : KV) (k v : Str) (h : lookup m k = some v) : (k, v) ∈ m := by
  fun_induction lookup m k with
  | case1 => cases h
  | case2 v' r => cases h; exact List.mem_cons_self
  | case3 k' v' r hk ih => exact List.mem_cons_of_mem _ (ih h)

theorem keysOf_put (m : KV) (k v : Str) :
    keysOf (put m k v) = if k ∈ keysOf m then keysOf m else keysOf m ++ [k] := by
  fun_induction put m k v with
  | case1 => simp [keysOf]
  | case2 v' r => simp [keysOf]
  | case3 k' v' r hk ih =>
    simp only [keysOf] at ih
    simp only [keysOf, List.map_cons, List.mem_cons, Ne.symm hk, false_or, ih]
    split <;> simp [*]

theorem keysNodup_put (m : KV) (k v : Str) (h : KeysNodup m) : KeysNodup (put m k v) := by
  unfold KeysNodup at *
  rw [keysOf_put]
  split
  · exact h
  · rename_i hk
    rw [List.nodup_append]
    refine ⟨h, by simp, ?_⟩
    intro a ha b hb
    simp at hb; subst hb
    intro e; subst e; exact hk ha

theorem keysNodup_foldl_put (pairs : KV) (m : KV) (h : KeysNodup m) :
    KeysNodup (pairs.foldl (fun m p => put m p.1 p.2) m) :=
  List.foldlRecOn (motive := KeysNodup) pairs _ h fun m hm p _ => keysNodup_put m p.1 p.2 hm

theorem keysNodup_buildProps (pairs : KV) : KeysNodup (buildProps pairs) :=
  keysNodup_foldl_put pairs [] (by simp [KeysNodup, keysOf])

theorem keysNodup_readMap (props : KV) (h : KeysNodup props) : KeysNodup (readMap props) := by
  unfold KeysNodup keysOf readMap at *
  exact List.Nodup.sublist (List.Sublist.map _ List.filter_sublist) h

/-! ### runs of stores: `apply` (empty values skipped), `ApplyDefault` (nothing skipped), `props.Set` in
`Write` (the empty key skipped) are folds of `put` that differ in which entries they skip -/

theorem lookup_foldl_put_skip (skip : Str × Str → Bool) (m kvs : KV) (k : Str)
    (h : ∀ p ∈ kvs, skip p = false → p.1 ≠ k) :
    lookup (kvs.foldl (fun acc kv => if skip kv then acc else put acc kv.1 kv.2) m) k = lookup m k := by
  induction kvs generalizing m with
  | nil => rfl
  | cons p r ih =>
    rw [List.foldl_cons, ih _ (fun q hq => h q (List.mem_cons_of_mem _ hq))]
    cases hs : skip p with
    | true => rfl
    | false => exact lookup_put_other m p.1 p.2 k (fun e => h p (by simp) hs e.symm)

theorem lookup_foldl_put_mem (skip : Str × Str → Bool) (m kvs : KV) (k v : Str) (hn : KeysNodup kvs)
    (hm : (k, v) ∈ kvs) (hs : skip (k, v) = false) :
    lookup (kvs.foldl (fun acc kv => if skip kv then acc else put acc kv.1 kv.2) m) k = some v := by
  induction kvs generalizing m with
  | nil => cases hm
  | cons p r ih =>
    simp only [KeysNodup, keysOf, List.map_cons, List.nodup_cons] at hn
    rw [List.foldl_cons]
    rcases List.mem_cons.mp hm with e | e
    · subst e
      -- the keys are distinct: no later store touches this one
      rw [lookup_foldl_put_skip skip _ r k (fun q hq _ e2 => hn.1 (List.mem_map.mpr ⟨q, hq, e2⟩))]
      simp only [hs, Bool.false_eq_true, if_false, lookup_put_same]
    · exact ih _ hn.2 e

theorem lookup_applyMerge_skip (m kvs : KV) (k : Str) (h : ∀ p ∈ kvs, p.2.isEmpty = false → p.1 ≠ k) :
    lookup (applyMerge m kvs) k = lookup m k :=
  lookup_foldl_put_skip (fun kv => kv.2.isEmpty) m kvs k h

theorem lookup_applyMerge_mem (m kvs : KV) (k v : Str) (hn : KeysNodup kvs) (hm : (k, v) ∈ kvs)
    (hv : v.isEmpty = false) : lookup (applyMerge m kvs) k = some v :=
  lookup_foldl_put_mem (fun kv => kv.2.isEmpty) m kvs k v hn hm hv

theorem lookup_mergeAll_skip (m kvs : KV) (k : Str) (h : ∀ p ∈ kvs, p.1 ≠ k) :
    lookup (reload.applyMergeAll m kvs) k = lookup m k :=
  lookup_foldl_put_skip (fun _ => false) m kvs k (fun p hp _ => h p hp)

theorem lookup_mergeAll_mem (m kvs : KV) (k v : Str) (hn : KeysNodup kvs) (hm : (k, v) ∈ kvs) :
    lookup (reload.applyMergeAll m kvs) k = some v :=
  lookup_foldl_put_mem (fun _ => false) m kvs k v hn hm rfl

theorem reload_none_sentinel (ver : FileSt → Ver) (c : Cfg) (h : c.last.1 = -1 ∨ c.last.1 = 0) :
    reload ver c none = (c, .nofile) := by
  unfold reload
  rcases h with h | h <;> simp [h]

/-- the file has disappeared since a version of it was seen: back to the defaults, remembered time 0 -/
theorem reload_none_reset (ver : FileSt → Ver) (c : Cfg) (h1 : c.last.1 ≠ -1) (h0 : c.last.1 ≠ 0) :
    reload ver c none = ({ c with last := (0, c.last.2), m := reload.applyMergeAll [] defaults }, .reset) := by
  unfold reload
  simp only [beq_iff_eq, h1, h0, if_false]

theorem reload_same (ver : FileSt → Ver) (c : Cfg) (f : FileSt) (h : c.last = ver f) :
    reload ver c (some f) = (c, .same) := by
  unfold reload
  simp only [beq_iff_eq, h, if_true]

/-- a changed version is remembered whatever the parser says; only a well-formed file is merged -/
theorem reload_malformed (ver : FileSt → Ver) (c : Cfg) (f : FileSt) (hne : c.last ≠ ver f)
    (hp : parseProps f.text = .malformed) : reload ver c (some f) = ({ c with last := ver f }, .parseErr) := by
  unfold reload
  simp only [beq_iff_eq, hne, if_false, hp]

theorem reload_expansion (ver : FileSt → Ver) (c : Cfg) (f : FileSt) (hne : c.last ≠ ver f)
    (hp : parseProps f.text = .expansion) : reload ver c (some f) = ({ c with last := ver f }, .expansion) := by
  unfold reload
  simp only [beq_iff_eq, hne, if_false, hp]

theorem reload_ok (ver : FileSt → Ver) (c : Cfg) (f : FileSt) (props : KV) (hne : c.last ≠ ver f)
    (hp : parseProps f.text = .ok props) :
    reload ver c (some f) =
      ({ c with last := ver f, m := applyMerge c.m (readMap props), notified := c.notified + 1 }, .loaded) := by
  unfold reload
  simp only [beq_iff_eq, hne, if_false, hp]

/-- the six outcomes of `reload`: a statement about its result is proved outcome by outcome -/
theorem reload_cases (ver : FileSt → Ver) (c : Cfg) (file : Option FileSt) (P : Cfg × ReloadRes → Prop)
    (nofile : file = none → P (c, .nofile))
    (reset : file = none → P ({ c with last := (0, c.last.2), m := reload.applyMergeAll [] defaults }, .reset))
    (same : P (c, .same))
    (malformed : ∀ f, P ({ c with last := ver f }, .parseErr))
    (expansion : ∀ f, P ({ c with last := ver f }, .expansion))
    (loaded : ∀ f props,
      P ({ c with last := ver f, m := applyMerge c.m (readMap props), notified := c.notified + 1 }, .loaded)) :
    P (reload ver c file) := by
  cases file with
  | none =>
    by_cases h : c.last.1 = -1 ∨ c.last.1 = 0
    · rw [reload_none_sentinel ver c h]; exact nofile rfl
    · rw [reload_none_reset ver c (fun e => h (.inl e)) (fun e => h (.inr e))]; exact reset rfl
  | some f =>
    by_cases h : c.last = ver f
    · rw [reload_same ver c f h]; exact same
    · cases hp : parseProps f.text with
      | ok props => rw [reload_ok ver c f props h hp]; exact loaded f props
      | malformed => rw [reload_malformed ver c f h hp]; exact malformed f
      | expansion => rw [reload_expansion ver c f h hp]; exact expansion f

theorem parseProps_ok_nodup (text : Str) (props : KV) (h : parseProps text = .ok props) : KeysNodup props := by
  unfold parseProps at h
  split at h
  · simp at h
  · rename_i pairs _
    simp only [] at h
    split at h
    · simp at h
    · simp at h; subst h; exact keysNodup_buildProps pairs

theorem reload_loaded (ver : FileSt → Ver) (c : Cfg) (f : FileSt) (props : KV)
    (hne : c.last ≠ ver f) (hp : parseProps f.text = .ok props) :
    (reload ver c (some f)).2 = .loaded ∧
    (reload ver c (some f)).1.notified = c.notified + 1 ∧
    (reload ver c (some f)).1.last = ver f ∧
    (reload ver c (some f)).1.m = applyMerge c.m (readMap props) := by
  rw [reload_ok ver c f props hne hp]
  exact ⟨rfl, rfl, rfl, rfl⟩

theorem reload_last (ver : FileSt → Ver) (c : Cfg) (f : FileSt) : (reload ver c (some f)).1.last = ver f := by
  by_cases h : c.last = ver f
  · rw [reload_same ver c f h]; exact h
  · cases hp : parseProps f.text with
    | ok props => rw [reload_ok ver c f props h hp]
    | malformed => rw [reload_malformed ver c f h hp]
    | expansion => rw [reload_expansion ver c f h hp]

end Conf
