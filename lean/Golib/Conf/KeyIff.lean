/-
  Golib.Conf.KeyIff — which keys survive DefaultFileParser.Write.  Keys are written as they are
  (no escaping) and only when they start with `[0-9A-Za-z_]`.  For a key without a backslash the
  rendered line is read back under the same key iff no character of the key ends a key (blank,
  tab, form feed, line end, ':' or '='); otherwise the lexer stops at the first such character and
  the item comes back under the strictly shorter prefix: that is `C18.key_preserved_iff`
  (Props/C18.lean), a corollary of `key_readback`.  This file holds the lexer invariant `holdsKey` both rest on.
-/
import Golib.Conf.ValueIff

namespace Conf

/-- the key whose value the lexer is reading -/
def Mode.valKey : Mode → Option Str
  | .bv1 k | .bv2 k | .val k _ | .valEsc k _ | .valCont k _ | .valU k _ _ _ => some k
  | _ => none

/-- the next item to come out has key `a` (the lexer is reading its value), or it is out already,
    or the lexer has failed -/
def holdsKey (a : Str) (out0 : KV) (s : LexSt) : Prop :=
  (s.out = out0 ∧ s.mode.valKey = some a) ∨ (∃ v, (a, v) :: out0 <:+ s.out) ∨ s.mode = .err

theorem holdsKey_stepVal (a acc : Str) (out : KV) (c : Char) : holdsKey a out (stepVal a acc out c) := by
  fun_cases stepVal a acc out c
  · exact .inl ⟨rfl, rfl⟩
  · exact .inr (.inl ⟨_, List.suffix_refl _⟩)
  · exact .inl ⟨rfl, rfl⟩

theorem holdsKey_stepBv1 (a : Str) (out : KV) (c : Char) : holdsKey a out (stepBv1 a out c) := by
  fun_cases stepBv1 a out c
  · exact .inl ⟨rfl, rfl⟩
  · exact .inl ⟨rfl, rfl⟩
  · exact holdsKey_stepVal a [] out c

theorem holdsKey_step (a : Str) (out0 : KV) (s : LexSt) (c : Char) (h : holdsKey a out0 s) :
    holdsKey a out0 (step s c) := by
  obtain ⟨mode, out⟩ := s
  rcases h with ⟨rfl, hm⟩ | ⟨v, ho⟩ | rfl
  · -- the six modes that read the value of `a`: a step stays among them, emits the item, or fails
    cases mode <;> cases hm <;> simp only [step]
    · exact holdsKey_stepBv1 a out c
    · split
      · exact .inl ⟨rfl, rfl⟩
      · exact holdsKey_stepVal a [] out c
    · exact holdsKey_stepVal a _ out c
    · split
      · exact .inl ⟨rfl, rfl⟩
      · split <;> exact .inl ⟨rfl, rfl⟩
    · split
      · exact .inl ⟨rfl, rfl⟩
      · exact holdsKey_stepVal a _ out c
    · split
      · exact .inr (.inr rfl)
      · split <;> exact .inl ⟨rfl, rfl⟩
  · exact .inr (.inl ⟨v, ho.trans (step_out _ c)⟩)
  · exact .inr (.inr rfl)

theorem holdsKey_run (a : Str) (out0 : KV) (s : LexSt) (input : Str) (h : holdsKey a out0 s) :
    holdsKey a out0 (lexRun s input) :=
  List.foldlRecOn (motive := holdsKey a out0) input step h fun s hs c _ => holdsKey_step a out0 s c hs

theorem holdsKey_finish (a : Str) (s : LexSt) (l : KV) (h : holdsKey a [] s) (hf : finish s = some l) :
    ∃ v rest, l = (a, v) :: rest := by
  obtain ⟨mode, out⟩ := s
  rcases h with ⟨rfl, hm⟩ | ⟨v, t, ht⟩ | rfl
  · cases mode <;> cases hm <;> cases hf <;> exact ⟨_, _, rfl⟩
  · obtain ⟨pre, hp⟩ := finish_out _ l hf
    exact ⟨v, t.reverse ++ pre, by rw [← hp, ← ht]; simp⟩
  · simp [finish] at hf

/-- a key that needs no escape, then a character that ends a key: whatever follows, the first item has that key -/
theorem first_key_cut (a rest : Str) (e : Char) (l : KV) (ha : WFkey a) (he : isEndOfKey e = true)
    (h : lexPairs (a ++ e :: rest) = some l) : ∃ v tl, l = (a, v) :: tl := by
  rw [lexPairs, ← List.nil_append a, lex_key_end [] a a rest e [] (fun _ h => nomatch h) (.ofPlain a ha.2)
    (startsKey_wfkey a ha) ha.ne_nil he] at h
  exact holdsKey_finish a _ l (holdsKey_run _ _ _ rest (holdsKey_stepBv1 a [] e)) h

/-- **the key that comes back**: a key without a backslash is written as it is, and the lexer reads it up to
    its first character that ends a key -/
theorem key_readback (k rest : Str) (l : KV) (hw : isWordStart k = true) (hbs : ∀ c ∈ k, c ≠ '\\')
    (h : lexPairs (k ++ '=' :: rest) = some l) : ∃ v tl, l = (k.takeWhile plainKeyChar, v) :: tl := by
  obtain ⟨a, d, ek, ht, _, hpa, hd⟩ := span_split plainKeyChar k
  rw [ht]
  have ha : WFkey a := by
    refine ⟨?_, hpa⟩
    cases k with
    | nil => cases hw
    | cons c r =>
      rw [← ht]
      simpa [List.takeWhile, plainKeyChar_of_wordChar c hw, isWordStart] using hw
  -- what follows the plain part starts with a character that ends a key: of the key itself, or the '='
  obtain ⟨e, r, he, hr⟩ : ∃ e r, isEndOfKey e = true ∧ d ++ '=' :: rest = e :: r := by
    rcases hd with rfl | ⟨e, t, rfl, hp⟩
    · exact ⟨'=', rest, by decide, rfl⟩
    · exact ⟨e, t ++ '=' :: rest, endOfKey_of_not_plain e hp (hbs e (by rw [ek]; simp)), rfl⟩
  rw [ek, List.append_assoc, hr] at h
  exact first_key_cut a r e l ha he h

end Conf
