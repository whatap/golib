/-
  Golib.Conf.FS — a small model of the file-system calls DefaultFileParser.Write makes when it
  stores the new content, with a "the process stops here" point after every prefix of the call
  sequence (a `write` of n characters has n+1 such points: any prefix of the data may have
  reached the file).

  Two files matter: the configuration file (`target`) and a temporary file in the same
  directory (`temp`).  What a reader of the configuration file sees is `fs.target`.
  Modelled, not verified: the kernel's open/O_TRUNC/write/rename semantics (rename within one
  directory replaces the target atomically).
-/
import Golib.Conf.Str

namespace Conf

inductive FName where
  | target | temp
  deriving Repr, DecidableEq

/-- the call *kinds* extracted from the source (tie A); the data written is the variable `line` -/
inductive FsKind where
  | openTrunc (f : FName)          -- os.OpenFile(path, O_WRONLY|O_TRUNC), before fix-D39
  | createTemp                      -- os.CreateTemp(dir(path), …)
  | chmod (f : FName)
  | write (f : FName)               -- io.WriteString(f, line)
  | sync (f : FName)
  | close (f : FName)
  | rename (src dst : FName)
  | remove (f : FName)
  deriving Repr, DecidableEq

structure FS where
  target : Option Str
  temp : Option Str
  deriving Repr, DecidableEq

def FS.get (fs : FS) : FName → Option Str
  | .target => fs.target
  | .temp => fs.temp

def FS.set (fs : FS) (f : FName) (c : Option Str) : FS :=
  match f with
  | .target => { fs with target := c }
  | .temp => { fs with temp := c }

/-- effect of a completed call; `data` is what `write` writes (appended at the handle's offset,
    which is the end of what this sequence wrote so far) -/
def execKind (data : Str) (fs : FS) : FsKind → FS
  | .openTrunc f => fs.set f (some [])
  | .createTemp => fs.set .temp (some [])
  | .chmod _ => fs
  | .write f => fs.set f (some ((fs.get f).getD [] ++ data))
  | .sync _ => fs
  | .close _ => fs
  | .rename s d => (fs.set d (fs.get s)).set s none
  | .remove f => fs.set f none

/-- all prefixes of a string, shortest first (including [] and the string itself) -/
def prefixes : Str → List Str
  | [] => [[]]
  | c :: r => [] :: (prefixes r).map (c :: ·)

/-- every state in which the process can stop: before each call, inside each write, at the end -/
def crashStates (data : Str) : List FsKind → FS → List FS
  | [], fs => [fs]
  | .write f :: rest, fs =>
    (prefixes data).map (fun p => fs.set f (some ((fs.get f).getD [] ++ p)))
      ++ crashStates data rest (execKind data fs (.write f))
  | k :: rest, fs => fs :: crashStates data rest (execKind data fs k)

/-- the sequence of the code before proposed/C18/fix-D39.diff (`C18.finding_D39_trunc`; after the
    handle used for reading the old lines was opened; the two deferred closes come last) -/
def truncSeq : List FsKind :=
  [.openTrunc .target, .write .target, .sync .target, .close .target, .close .target]

/-- the sequence of the code (DefaultFileParser.go:111, 116-133) -/
def atomicSeq : List FsKind :=
  [.close .target, .createTemp, .chmod .temp, .write .temp, .sync .temp, .close .temp, .rename .temp .target]

/-- what readers may see: the configuration file holds the complete old or the complete new content -/
def visibleOK (old new : Str) (fs : FS) : Prop := fs.target = some old ∨ fs.target = some new

instance (old new : Str) (fs : FS) : Decidable (visibleOK old new fs) := by
  unfold visibleOK; infer_instance

end Conf
