/-
  Golib.Conf.Str — strings of the configuration model.

  A Go string is modelled as the list of its code points (`List Char`); the harness only
  feeds valid UTF-8, so code points and bytes determine each other (`utf8Len` is the one
  place where the byte length matters: the file size used by the reload decision).
-/

abbrev Str := List Char

namespace Conf

/-- `unicode.IsSpace` of Go (White_Space property, Latin-1 + the BMP spaces) -/
def isGoSpace (c : Char) : Bool :=
  let n := c.toNat
  n == 9 || n == 10 || n == 11 || n == 12 || n == 13 || n == 32 || n == 0x85 || n == 0xA0 ||
  n == 0x1680 || (0x2000 ≤ n && n ≤ 0x200A) || n == 0x2028 || n == 0x2029 || n == 0x202F ||
  n == 0x205F || n == 0x3000

def trimLeftBy (p : Char → Bool) (s : Str) : Str := s.dropWhile p
def trimRightBy (p : Char → Bool) (s : Str) : Str := (s.reverse.dropWhile p).reverse
def trimBy (p : Char → Bool) (s : Str) : Str := trimRightBy p (trimLeftBy p s)

/-- `strings.TrimSpace` -/
def trimSpace (s : Str) : Str := trimBy isGoSpace s

/-- `strings.Trim(s, " ")` -/
def trimBlank (s : Str) : Str := trimBy (· == ' ') s

def hasPrefix : Str → Str → Bool
  | _, [] => true
  | [], _ :: _ => false
  | a :: s, b :: p => a == b && hasPrefix s p

def hasSuffix (s p : Str) : Bool := hasPrefix s.reverse p.reverse

/-- number of bytes of the UTF-8 encoding of a code point -/
def utf8Width (c : Char) : Nat :=
  let n := c.toNat
  if n < 0x80 then 1 else if n < 0x800 then 2 else if n < 0x10000 then 3 else 4

def utf8Len (s : Str) : Nat := s.foldl (fun a c => a + utf8Width c) 0

/-- association list with first-match lookup; `put` replaces in place or appends -/
abbrev KV := List (Str × Str)

def lookup (m : KV) (k : Str) : Option Str :=
  match m with
  | [] => none
  | (k', v) :: r => if k' = k then some v else lookup r k

def put (m : KV) (k v : Str) : KV :=
  match m with
  | [] => [(k, v)]
  | (k', v') :: r => if k' = k then (k', v) :: r else (k', v') :: put r k v

def hasKey (m : KV) (k : Str) : Bool := (lookup m k).isSome

theorem lookup_put_same (m : KV) (k v : Str) : lookup (put m k v) k = some v := by
  fun_induction put m k v with
  | case1 => simp [lookup]
  | case2 v' r => simp [lookup]
  | case3 k' v' r hk ih => simp [lookup, hk, ih]

theorem lookup_put_other (m : KV) (k v k2 : Str) (h : k2 ≠ k) :
    lookup (put m k v) k2 = lookup m k2 := by
  fun_induction put m k v with
  | case1 => simp [lookup, h.symm]
  | case2 v' r => simp [lookup, h.symm]
  | case3 k' v' r hk ih => simp [lookup, ih]

theorem trimBy_id (p : Char → Bool) (s : Str) (h : ∀ c ∈ s, p c = false) : trimBy p s = s := by
  have d : ∀ t : Str, (∀ c ∈ t, p c = false) → t.dropWhile p = t := by
    intro t ht
    cases t with
    | nil => rfl
    | cons x r => simp [List.dropWhile, ht x (by simp)]
  unfold trimBy trimRightBy trimLeftBy
  rw [d s h, d s.reverse (fun c hc => h c (List.mem_reverse.mp hc)), List.reverse_reverse]

/-- a string splits into its longest prefix of characters with `p` and a rest that is empty or starts with a
    character without `p` -/
theorem span_split (p : Char → Bool) (v : Str) :
    ∃ w r, v = w ++ r ∧ v.takeWhile p = w ∧ v.dropWhile p = r ∧ (∀ c ∈ w, p c = true) ∧
      (r = [] ∨ ∃ c t, r = c :: t ∧ p c = false) := by
  induction v with
  | nil => exact ⟨[], [], rfl, rfl, rfl, (fun _ h => nomatch h), .inl rfl⟩
  | cons a t ih =>
    cases ha : p a with
    | true =>
      obtain ⟨w, r, e, ht, hd, hw, hr⟩ := ih
      exact ⟨a :: w, r, by rw [e]; rfl, by simp [List.takeWhile, ha, ht], by simp [List.dropWhile, ha, hd],
        fun c hc => by
          rcases List.mem_cons.mp hc with h | h
          · rw [h]; exact ha
          · exact hw c h, hr⟩
    | false =>
      exact ⟨[], a :: t, rfl, by simp [List.takeWhile, ha], by simp [List.dropWhile, ha], (fun _ h => nomatch h),
        .inr ⟨a, t, rfl, ha⟩⟩

end Conf
