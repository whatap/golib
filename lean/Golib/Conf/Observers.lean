/-
  Golib.Conf.Observers — config.ConfigObserver: a registry class-name → target; `Add` replaces
  the target registered under the same name; `Run` (called by reload after each load) calls every
  target registered *at that moment*.  FileConfig holds the caller's registry itself (not a
  copy), so targets added after the configuration was created are notified as well.
-/
import Golib.Conf.Str

namespace Conf

structure Obs where
  reg : List (Str × Nat)        -- class name → target id
  counts : List (Nat × Nat)     -- target id → how often ApplyConfig was called on it
  deriving Repr, DecidableEq

def Obs.empty : Obs := { reg := [], counts := [] }

def regPut : List (Str × Nat) → Str → Nat → List (Str × Nat)
  | [], n, i => [(n, i)]
  | (n', i') :: r, n, i => if n' = n then (n', i) :: r else (n', i') :: regPut r n i

def Obs.registered (o : Obs) (id : Nat) : Bool := o.reg.any (fun p => p.2 == id)

def Obs.count (o : Obs) (id : Nat) : Nat :=
  match o.counts.find? (fun p => p.1 == id) with
  | some p => p.2
  | none => 0

/-- `observer.Add(name, target id)` -/
def Obs.add (o : Obs) (name : Str) (id : Nat) : Obs :=
  { reg := regPut o.reg name id,
    counts := if o.counts.any (fun p => p.1 == id) then o.counts else o.counts ++ [(id, 0)] }

def bump (f : Nat → Bool) (p : Nat × Nat) : Nat × Nat := (p.1, if f p.1 then p.2 + 1 else p.2)

/-- `observer.Run(conf)` -/
def Obs.run (o : Obs) : Obs := { o with counts := o.counts.map (bump o.registered) }

/-- bumping the counters selected by `f`: a known target that `f` selects gains one call, nobody else -/
theorem count_map_bump (o : Obs) (f : Nat → Bool) (id : Nat) :
    ({ o with counts := o.counts.map (bump f) } : Obs).count id =
      if f id && o.counts.any (fun p => p.1 == id) then o.count id + 1 else o.count id := by
  unfold Obs.count
  -- `bump` leaves the target id alone, so the search finds the same entry, bumped
  have e : (fun p : Nat × Nat => p.1 == id) ∘ bump f = fun p => p.1 == id := rfl
  simp only [List.find?_map, e]
  cases hfind : o.counts.find? (fun p => p.1 == id) with
  | none =>
    have hn : o.counts.any (fun p => p.1 == id) = false := by
      rw [Bool.eq_false_iff]
      intro ha
      obtain ⟨p, hp, e⟩ := List.any_eq_true.mp ha
      exact List.find?_eq_none.mp hfind p hp e
    simp [hn]
  | some p =>
    have hpid : p.1 = id := by simpa using List.find?_some hfind
    have ha : o.counts.any (fun p => p.1 == id) = true :=
      List.any_eq_true.mpr ⟨p, List.mem_of_find?_eq_some hfind, by simp [hpid]⟩
    simp only [Option.map_some, bump, hpid, ha, Bool.and_true]

end Conf
