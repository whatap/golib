/-
  Golib.Conf.ValueIff — two things.  (1) The lexer's output only grows: no step takes an emitted item
  back (`step_out`, `lexRun_out`, `finish_out`), so an item that is out first stays the first of the file
  (`first_item_stays`); KeyIff.lean builds on this.  (2) Exactly which values survive
  DefaultFileParser.Write: the line `key=escValue v` is read back as `collapseBs (dropWhile blank v)` up
  to the first line break (`value_readback`; for every value, `value_readback_first`), so the value is
  preserved iff it has no line break, no two adjacent backslashes and no leading blank: that is
  `C18.value_preserved_iff` (Props/C18.lean).  The lemmas on `collapseBs`/`doubleBs` this rests on are here too.
-/
import Golib.Conf.LexLemmas

namespace Conf

def ValuePreserved (v : Str) : Prop :=
  (∀ c ∈ v, isEOL c = false) ∧ NoAdjBs v ∧ (v = [] ∨ headNotWs v = true)

theorem stepVal_out (k acc : Str) (out : KV) (c : Char) : out <:+ (stepVal k acc out c).out := by
  fun_cases stepVal k acc out c
  · exact List.suffix_refl _
  · exact List.suffix_cons _ _
  · exact List.suffix_refl _

theorem stepBv1_out (k : Str) (out : KV) (c : Char) : out <:+ (stepBv1 k out c).out := by
  fun_cases stepBv1 k out c
  · exact List.suffix_refl _
  · exact List.suffix_refl _
  · exact stepVal_out k [] out c

theorem stepKey_out (acc : Str) (out : KV) (c : Char) : out <:+ (stepKey acc out c).out := by
  fun_cases stepKey acc out c
  · exact List.suffix_refl _
  · exact List.suffix_refl _
  · exact stepBv1_out _ out c
  · exact List.suffix_refl _

/-- only `stepVal` at a line end emits, and nothing takes an item back -/
theorem step_out (s : LexSt) (c : Char) : s.out <:+ (step s c).out := by
  obtain ⟨mode, out⟩ := s
  cases mode <;> simp only [step] <;> (repeat' split) <;>
    simp only [List.suffix_refl, stepKey_out, stepBv1_out, stepVal_out]

theorem lexRun_out (s : LexSt) (input : Str) : s.out <:+ (lexRun s input).out :=
  List.foldlRecOn (motive := fun t => s.out <:+ t.out) input step (List.suffix_refl _)
    fun t ht c _ => ht.trans (step_out t c)

theorem finish_out (s : LexSt) (l : KV) (h : finish s = some l) : s.out.reverse <+: l := by
  obtain ⟨mode, out⟩ := s
  cases mode <;> simp [finish] at h <;> subst h <;> simp

theorem first_item_stays (first : Str × Str) (rest : Str) (l : KV)
    (h : finish (lexRun ⟨.bk, [first]⟩ rest) = some l) : l.head? = some first := by
  obtain ⟨extra, he⟩ := lexRun_out ⟨.bk, [first]⟩ rest
  obtain ⟨pre, hp⟩ := finish_out _ l h
  rw [← hp, ← he]
  simp

theorem dropWhile_isWs_eq_iff (v : Str) : v.dropWhile isWs = v ↔ v = [] ∨ headNotWs v = true := by
  cases v with
  | nil => simp
  | cons c t =>
    cases hc : isWs c with
    | true =>
      have := (List.dropWhile_suffix (l := t) isWs).length_le
      simp only [List.dropWhile, hc, headNotWs, reduceCtorEq, false_or, Bool.not_true, Bool.false_eq_true, iff_false]
      intro e; rw [e] at this; simp at this; omega
    | false => simp [List.dropWhile, hc, headNotWs]

theorem mem_collapseBs (v : Str) (c : Char) (h : c ∈ collapseBs v) : c ∈ v := by
  induction v using collapseBs.induct with
  | case1 r ih =>
    rcases List.mem_cons.mp h with h | h
    · exact h ▸ List.mem_cons_self
    · exact List.mem_cons_of_mem _ (List.mem_cons_of_mem _ (ih h))
  | case2 d r hne ih =>
    rw [collapseBs_cons d r hne] at h
    rcases List.mem_cons.mp h with h | h
    · exact h ▸ List.mem_cons_self
    · exact List.mem_cons_of_mem _ (ih h)
  | case3 => exact h

theorem collapseBs_ws_append (w r : Str) (hw : ∀ c ∈ w, isWs c = true) :
    collapseBs (w ++ r) = w ++ collapseBs r := by
  induction w with
  | nil => rfl
  | cons c t ih =>
    have hc := hw c (by simp)
    have hb : c ≠ '\\' := by intro e; subst e; revert hc; decide
    rw [List.cons_append, collapseBs_cons c _ (fun _ e _ => hb e), ih (fun x hx => hw x (List.mem_cons_of_mem _ hx))]
    rfl

theorem doubleBs_ws_append (w r : Str) (hw : ∀ c ∈ w, isWs c = true) :
    doubleBs (w ++ r) = w ++ doubleBs r := by
  induction w with
  | nil => rfl
  | cons c t ih =>
    have hc := hw c (by simp)
    have hb : (c == '\\') = false := by
      have : c ≠ '\\' := by intro e; subst e; revert hc; decide
      simp [this]
    simp only [List.cons_append, doubleBs, hb, Bool.false_eq_true, if_false,
      ih (fun x hx => hw x (List.mem_cons_of_mem _ hx))]

theorem collapseBs_head (c : Char) (r : Str) : ∃ t, collapseBs (c :: r) = c :: t := by
  by_cases h : ∃ r', c = '\\' ∧ r = '\\' :: r'
  · obtain ⟨r', rfl, rfl⟩ := h; exact ⟨_, by rw [collapseBs]⟩
  · exact ⟨_, collapseBs_cons c r (fun r' e1 e2 => h ⟨r', e1, e2⟩)⟩

/-- what the lexer reads back from `key=escValue v` when `v` has no line break (terminated by any
    line-end character `e`) -/
theorem value_readback (k v : Str) (e : Char) (out : KV) (hk : WFkey k) (he : isEOL e = true)
    (hv : ∀ c ∈ v, isEOL c = false) :
    lexRun ⟨.bk, out⟩ (renderKV k v ++ [e]) = ⟨.bk, (k, collapseBs (v.dropWhile isWs)) :: out⟩ := by
  obtain ⟨w, r, ev, _, hd, hw, hr⟩ := span_split isWs v
  simp only [renderKV, List.append_assoc, List.cons_append]
  -- the leading blanks pass through `escValue` unchanged and are skipped after the '='
  rw [lexRun_key_eq k _ out hk, hd, ev, escValue, collapseBs_ws_append w r hw, doubleBs_ws_append w _ hw]
  have hce : ∀ x ∈ collapseBs r, isEOL x = false := fun x hx =>
    hv x (by rw [ev]; exact List.mem_append_right _ (mem_collapseBs _ x hx))
  refine lex_value_part w _ _ k e out hw (.doubleBs k _ hce) ?_ he
  rcases hr with rfl | ⟨c, t, rfl, hc⟩
  · exact .inr ⟨rfl, rfl⟩
  · obtain ⟨t', ht'⟩ := collapseBs_head c t
    exact .inl (by rw [headNotWs_doubleBs, ht']; simp [headNotWs, hc])

theorem collapseBs_append_eol (a b : Str) (e : Char) (he : e ≠ '\\') :
    collapseBs (a ++ e :: b) = collapseBs a ++ e :: collapseBs b := by
  induction a using collapseBs.induct with
  | case1 r ih => simp only [List.cons_append, collapseBs, ih]
  | case2 d r hne ih =>
    have hne' : ∀ r', d = '\\' → r ++ e :: b = '\\' :: r' → False := by
      intro r' e1 e2
      cases r with
      | nil => exact he (List.cons.inj e2).1
      | cons x xs => exact hne xs e1 (by rw [(List.cons.inj e2).1])
    rw [List.cons_append, collapseBs_cons d _ hne', collapseBs_cons d r hne, ih]; rfl
  | case3 => exact collapseBs_cons e b (fun _ h _ => he h)

theorem doubleBs_append (a b : Str) : doubleBs (a ++ b) = doubleBs a ++ doubleBs b := by
  induction a with
  | nil => rfl
  | cons c r ih =>
    simp only [List.cons_append, doubleBs]
    split <;> simp [ih]

/-- **the value that comes back**, for every value: the written value up to its first line break, without
    its leading blanks, pairs of backslashes collapsed -/
theorem value_readback_first (k v : Str) (l : KV) (hk : WFkey k)
    (h : lexPairs (renderKV k v ++ ['\n']) = some l) :
    l.head? = some (k, collapseBs ((v.takeWhile (fun c => !isEOL c)).dropWhile isWs)) := by
  obtain ⟨a, r, ev, ht, _, ha, hr⟩ := span_split (fun c => !isEOL c) v
  have ha : ∀ c ∈ a, isEOL c = false := fun c hc => by simpa using ha c hc
  rw [ht]
  -- the line is `k=a` up to a line end `e` (of the value, or the one Write adds) and a remainder
  obtain ⟨e, tail, he, hline⟩ : ∃ e tail, isEOL e = true ∧
      renderKV k v ++ ['\n'] = (renderKV k a ++ [e]) ++ tail := by
    rcases hr with rfl | ⟨e, b, rfl, he⟩
    · exact ⟨'\n', [], by decide, by rw [ev]; simp⟩
    · have he : isEOL e = true := by simpa using he
      have hebs : e ≠ '\\' := by intro x; subst x; revert he; decide
      refine ⟨e, escValue b ++ ['\n'], he, ?_⟩
      simp [renderKV, escValue, ev, collapseBs_append_eol a b e hebs, doubleBs_append, doubleBs, hebs]
  rw [lexPairs, hline, lexRun_append, value_readback k a e [] hk he ha] at h
  exact first_item_stays _ _ _ h

end Conf
