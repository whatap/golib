/-
  Golib.Conf.LiftLines — the well-formed class of the write-back theorem contains the full
  value grammar: a key=value line may spell its value in any way the lexer reads as a preserved
  value (escapes `\t`, `\n`-free, `\uXXXX`, `\ `, …, blanks around '='), values may be empty,
  comments may start with '#' or '!' after any blanks, a line may be empty.
-/
import Golib.Conf.WriteLemmas
import Golib.Conf.FullGrammar

namespace Conf

theorem noBreak_blanks_append (n : Nat) (raw : Str) (h : NoBreak raw) : NoBreak (blanks n ++ raw) := by
  intro c hc
  rcases List.mem_append.mp hc with h1 | h1
  · rw [(List.mem_replicate.mp h1).2]; decide
  · exact h c h1

theorem spaced_kvline (k v : Str) (a b : Nat) (hk : WFkey k) (hv : WFval v) :
    KVLine (k ++ blanks a ++ '=' :: (blanks b ++ escValue v)) k v :=
  kvline_of_raw k _ v a hk (Or.inr hv) (noBreak_blanks_append b _ (noBreak_escValue v hv))
    (fun out => by rw [List.append_assoc, lexRun_bv2_blanks]; exact lexRun_bv2_value k v out hv)

/-- the canonical full spelling of a preserved value (every blank, tab, form feed, backslash
    escaped) after any number of blanks -/
theorem kvline_full_spelling (k pv : Str) (a b : Nat) (hk : WFkey k) (hpv : pv = [] ∨ WFval pv) :
    KVLine (k ++ blanks a ++ '=' :: (blanks b ++ renderValFull pv)) k pv := by
  apply kvline_of_raw k _ pv a hk hpv
  · apply noBreak_blanks_append
    intro c hc
    simp only [renderValFull, List.mem_flatMap] at hc
    obtain ⟨d, _, hd⟩ := hc
    simpa [isEOL] using escValChar_noEOL d c hd
  · intro out
    rw [List.append_assoc, lexRun_bv2_blanks, lexRun_bv2_renderValFull]

theorem empty_value_kvline (k : Str) (a b : Nat) (hk : WFkey k) :
    KVLine (k ++ blanks a ++ '=' :: blanks b) k [] := by
  have := kvline_full_spelling k [] a b hk (Or.inl rfl)
  simpa [renderValFull] using this

theorem comment_skipline (w cs : Str) (c : Char) (hw : ∀ x ∈ w, isWs x = true)
    (hc : isCommentStart c = true) (hcs : NoBreak cs) : SkipLine (w ++ c :: cs) := by
  have hcf : isEOL c = false ∧ isWs c = false := by
    simp only [isCommentStart, Bool.or_eq_true, beq_iff_eq] at hc
    rcases hc with h | h <;> subst h <;> exact ⟨by decide, by decide⟩
  refine ⟨?_, Or.inr ?_, ?_⟩
  · intro x hx
    rcases List.mem_append.mp hx with h | h
    · have := hw x h
      constructor <;> intro e <;> subst e <;> revert this <;> decide
    · rcases List.mem_cons.mp h with e | e
      · subst e
        constructor <;> intro e <;> subst e <;> revert hc <;> decide
      · exact hcs x e
  · have : (w ++ c :: cs).dropWhile isWs = c :: cs := by
      induction w with
      | nil => simp [hcf.2]
      | cons x t ih =>
        simp only [List.cons_append, List.dropWhile, hw x (by simp)]
        exact ih (fun y hy => hw y (List.mem_cons_of_mem _ hy))
    simp [isCommentLine, this, hc]
  · intro out
    rw [List.append_assoc, lexRun_skip ⟨.bk, out⟩ w _ (fun x hx => by simp [step, hw x hx]), List.cons_append,
      lexRun_cons]
    have s1 : step ⟨.bk, out⟩ c = ⟨.cm, out⟩ := by simp [step, hcf.1, hcf.2, hc]
    rw [s1, lexRun_skip ⟨.cm, out⟩ cs _ (fun x hx => by simp [step, isEOL, (hcs x hx).1, (hcs x hx).2]),
      lexRun_cons, lexRun_nil]
    have : isEOL '\n' = true := by decide
    simp [step, this]

/-- a line starting with '#' is a comment line, whatever it contains (including '=') -/
theorem hash_comment_skipline (cs : Str) (h : NoBreak cs) : SkipLine ('#' :: cs) :=
  comment_skipline [] cs '#' (fun _ hx => nomatch hx) (by decide) h

theorem empty_skipline : SkipLine [] := by
  refine ⟨(by intro c hc; cases hc), Or.inl rfl, ?_⟩
  intro out
  have : isEOL '\n' = true := by decide
  simp [lexRun, step, this]

end Conf
