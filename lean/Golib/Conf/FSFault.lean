/-
  Golib.Conf.FSFault — the store part of DefaultFileParser.Write with failing calls: CreateTemp,
  WriteString (fails after n characters reached the temporary file: disk full, file-size limit,
  I/O error), Sync, Close and Rename may each fail.  `checked = true` is the control flow of the
  code (every error is kept in the one variable `err` that guards the rename); `checked = false`
  is the flow in which the error of WriteString/Sync is lost (e.g. to a shadowed variable).
-/
import Golib.Conf.FS

namespace Conf

structure Faults where
  createFails : Bool
  writeFailsAfter : Option Nat     -- none: the write succeeds
  syncFails : Bool
  closeFails : Bool
  renameFails : Bool
  deriving Repr, DecidableEq

/-- final file-system state and "Write returned an error" -/
def storeProtocol (checked : Bool) (ft : Faults) (old new : Str) : FS × Bool :=
  let fs0 : FS := ⟨some old, none⟩
  if ft.createFails then (fs0, true)
  else
    let written : Str × Bool :=
      match ft.writeFailsAfter with
      | none => (new, false)
      | some n => (new.take n, true)
    let fs2 : FS := ⟨some old, some written.1⟩
    let fillErr := written.2 || (!written.2 && ft.syncFails)
    let err := (checked && fillErr) || ft.closeFails
    if err then (⟨some old, none⟩, true)                       -- os.Remove(tmp); return err
    else if ft.renameFails then (⟨some old, none⟩, true)
    else (⟨fs2.temp, none⟩, false)                             -- renamed over the target

end Conf
