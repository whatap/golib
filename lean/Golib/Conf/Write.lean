/-
  Golib.Conf.Write — model of the write-back path:
  FileConfig.SetValues (exclusions, prefix, suffix, merge over what Read returns) and
  DefaultFileParser.Write (re-read the file, Set every key, rewrite line by line, append the
  keys that had no line).

  `fixC = true` is the code (DefaultFileParser.go:85-88: comment lines are copied unchanged);
  `fixC = false` is the code before proposed/C18/fix-D39b.diff (a comment containing '=' is
  treated as a key=value line; `C18.finding_D39_comment`).
  A line is a whole physical line: DefaultFileParser.go:58-67 joins the pieces in which
  `ReadLine` hands over a line longer than bufio's 4096-byte buffer (proposed/C18/fix-D45.diff; the
  known finding `writeback:long-line`).
-/
import Golib.Conf.Lex

namespace Conf

/-- the lines `bufio.Reader.ReadLine` returns: split at '\n', a '\r' right before it dropped -/
def splitLines : Str → List Str
  | [] => []
  | '\r' :: '\n' :: r => [] :: splitLines r
  | '\n' :: r => [] :: splitLines r
  | c :: r =>
    match splitLines r with
    | [] => [[c]]
    | l :: ls => (c :: l) :: ls

def joinLines (ls : List Str) : Str := ls.flatMap (fun l => l ++ ['\n'])

/-- `regexp.MatchString("^\\w", key)` -/
def isWordChar (c : Char) : Bool :=
  let n := c.toNat
  (48 ≤ n && n ≤ 57) || (65 ≤ n && n ≤ 90) || (97 ≤ n && n ≤ 122) || n == 95

def isWordStart : Str → Bool
  | c :: _ => isWordChar c
  | [] => false

/-- `strings.Replace(v, "\\\\", "\\", -1)`: pairs of backslashes collapse, left to right -/
def collapseBs : Str → Str
  | '\\' :: '\\' :: r => '\\' :: collapseBs r
  | c :: r => c :: collapseBs r
  | [] => []

/-- `strings.Replace(v, "\\", "\\\\", -1)` -/
def doubleBs : Str → Str
  | [] => []
  | c :: r => if c == '\\' then '\\' :: '\\' :: doubleBs r else c :: doubleBs r

/-! ### tail-recursive forms for compiled code (`@[csimp]`): the driver handles megabyte lines without
deep recursion; all proofs are about the structural definitions above -/

def splitLinesAux : Str → Str → List Str → List Str
  | [], cur, acc => (if cur.isEmpty then acc else cur.reverse :: acc).reverse
  | '\r' :: '\n' :: r, cur, acc => splitLinesAux r [] (cur.reverse :: acc)
  | '\n' :: r, cur, acc => splitLinesAux r [] (cur.reverse :: acc)
  | c :: r, cur, acc => splitLinesAux r (c :: cur) acc

def splitLinesTR (s : Str) : List Str := splitLinesAux s [] []

/-- `p` glued in front of the first line -/
def glue (p : Str) : List Str → List Str
  | [] => if p.isEmpty then [] else [p]
  | l :: t => (p ++ l) :: t

theorem glue_cons (p l : Str) (t : List Str) : glue p (l :: t) = (p ++ l) :: t := rfl

theorem glue_nil (ls : List Str) : glue [] ls = ls := by
  cases ls <;> simp [glue]

theorem splitLines_cons_other (c : Char) (r : Str) (h1 : c ≠ '\n') (h2 : ∀ r', c = '\r' → r = '\n' :: r' → False) :
    splitLines (c :: r) = match splitLines r with
      | [] => [[c]]
      | l :: ls => (c :: l) :: ls := splitLines.eq_4 c r h2 h1

theorem splitLinesAux_eq (s cur : Str) (acc : List Str) :
    splitLinesAux s cur acc = acc.reverse ++ glue cur.reverse (splitLines s) := by
  fun_induction splitLinesAux s cur acc with
  | case1 cur acc => cases cur <;> simp [splitLines, glue]
  | case2 r cur acc ih => simp [ih, splitLines, glue_cons, glue_nil]
  | case3 r cur acc ih => simp [ih, splitLines, glue_cons, glue_nil]
  | case4 c r cur acc h2 h1 ih =>
    rw [ih, splitLines_cons_other c r h1 h2]
    cases splitLines r <;> simp [glue]

@[csimp] theorem splitLines_eq_TR : @splitLines = @splitLinesTR := by
  funext s
  simp [splitLinesTR, splitLinesAux_eq, glue_nil]

def doubleBsAux : Str → Str → Str
  | [], acc => acc.reverse
  | c :: r, acc => if c == '\\' then doubleBsAux r ('\\' :: '\\' :: acc) else doubleBsAux r (c :: acc)

theorem doubleBsAux_eq (s acc : Str) : doubleBsAux s acc = acc.reverse ++ doubleBs s := by
  fun_induction doubleBsAux s acc <;> simp [doubleBs, *]

def doubleBsTR (s : Str) : Str := doubleBsAux s []

@[csimp] theorem doubleBs_eq_TR : @doubleBs = @doubleBsTR := by
  funext s; simp [doubleBsTR, doubleBsAux_eq]

def collapseBsAux : Str → Str → Str
  | '\\' :: '\\' :: r, acc => collapseBsAux r ('\\' :: acc)
  | c :: r, acc => collapseBsAux r (c :: acc)
  | [], acc => acc.reverse

/-- away from a pair of backslashes `collapseBs` copies the character -/
theorem collapseBs_cons (c : Char) (r : Str) (h : ∀ r', c = '\\' → r = '\\' :: r' → False) :
    collapseBs (c :: r) = c :: collapseBs r := collapseBs.eq_2 c r h

theorem collapseBsAux_eq (s acc : Str) : collapseBsAux s acc = acc.reverse ++ collapseBs s := by
  induction s using collapseBs.induct generalizing acc with
  | case1 r ih => simp [collapseBsAux, collapseBs, ih]
  | case2 d r hne ih =>
    rw [collapseBsAux.eq_2 acc d r hne, collapseBs_cons d r hne, ih]; simp
  | case3 => simp [collapseBsAux, collapseBs]

def collapseBsTR (s : Str) : Str := collapseBsAux s []

@[csimp] theorem collapseBs_eq_TR : @collapseBs = @collapseBsTR := by
  funext s; simp [collapseBsTR, collapseBsAux_eq]

def escValue (v : Str) : Str := doubleBs (collapseBs v)

def isBlankVal (v : Str) : Bool := (trimSpace v).isEmpty

/-- `strings.Split(line, "=")[0]` and `[1]` -/
def beforeEq (l : Str) : Str := l.takeWhile (· != '=')
def afterEq (l : Str) : Str := ((l.dropWhile (· != '=')).drop 1).takeWhile (· != '=')

def isCommentLine (l : Str) : Bool :=
  match l.dropWhile isWs with
  | c :: _ => isCommentStart c
  | [] => false

def renderKV (k v : Str) : Str := k ++ '=' :: escValue v

/-- one line of the rewrite loop: (line written, if any; key recorded in `old_keys`, if any) -/
def writeLine (fixC : Bool) (props : KV) (l : Str) : Option Str × Option Str :=
  if !l.contains '=' || (fixC && isCommentLine l) then (some l, none)
  else
    let key := trimBlank (beforeEq l)
    let value := if isWordStart key then (lookup props key).getD [] else trimBlank (afterEq l)
    (if isBlankVal value then none else some (renderKV key value), some key)

/-- `props.Set(key, value)` for every entry of the map handed to Write (the empty key is ignored) -/
def setAll (props : KV) (m : KV) : KV :=
  m.foldl (fun p kv => if kv.1.isEmpty then p else put p kv.1 kv.2) props

/-- the lines appended after the loop: keys without a line, in `props.Keys()` order -/
def appendedLines (props : KV) (oldKeys : List Str) : List Str :=
  props.filterMap (fun kv =>
    if oldKeys.contains kv.1 then none
    else if !isWordStart kv.1 then none
    else if isBlankVal kv.2 then none
    else some (renderKV kv.1 kv.2))

structure WriteOut where
  body : List Str        -- lines produced by the loop over the existing lines
  appended : List Str    -- lines for keys that had no line
  deriving Repr, DecidableEq

def writeLines (fixC : Bool) (props : KV) (lines : List Str) : WriteOut :=
  let rs := lines.map (writeLine fixC props)
  { body := rs.filterMap (·.1), appended := appendedLines props (rs.filterMap (·.2)) }

def WriteOut.text (w : WriteOut) : Str := joinLines (w.body ++ w.appended)

/-- `DefaultFileParser.Write(path, m)` on a file holding `text`; `none` = parse error -/
def writeModel (fixC : Bool) (text : Str) (m : KV) : Option WriteOut :=
  match lexPairs text with
  | none => none
  | some pairs => some (writeLines fixC (setAll (buildProps pairs) m) (splitLines text))

/-- the key SetValues really writes: exclusions drop it, prefix and suffix are added -/
def finalKey (pre suf : Str) (excl : List Str) (k : Str) : Option Str :=
  if excl.contains k then none
  else
    let k1 := if !pre.isEmpty && !hasPrefix k pre then pre ++ k else k
    let k2 := if !suf.isEmpty && !hasSuffix k1 suf then k1 ++ suf else k1
    some k2

/-- `FileConfig.SetValues`: tmp := Read(file); tmp[finalKey k] = v; Write(file, tmp) -/
def setValuesModel (fixC : Bool) (pre suf : Str) (excl : List Str) (text : Str) (kvs : KV) : Option WriteOut :=
  match lexPairs text with
  | none => none
  | some pairs =>
    let tmp := kvs.foldl (fun t kv =>
      match finalKey pre suf excl kv.1 with
      | some k => put t k kv.2
      | none => t) (readMap (buildProps pairs))
    writeModel fixC text tmp

end Conf
