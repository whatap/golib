/-
  Golib.Conf.FSLemmas — the prefixes of the data a write may leave behind, and the stop-point analysis
  of the two call sequences.
-/
import Golib.Conf.FS

namespace Conf

theorem prefixes_self (s : Str) : s ∈ prefixes s := by
  induction s with
  | nil => simp [prefixes]
  | cons c r ih => simp only [prefixes, List.mem_cons, List.mem_map]; right; exact ⟨r, ih, rfl⟩

theorem prefixes_nil_mem (s : Str) : [] ∈ prefixes s := by
  cases s <;> simp [prefixes]

theorem mem_prefixes_of_eq (s c : Str) (h : c ∈ prefixes s) (hlen : c.length = s.length) : c = s := by
  induction s generalizing c with
  | nil => simp [prefixes] at h; exact h
  | cons a r ih =>
    simp only [prefixes, List.mem_cons, List.mem_map] at h
    rcases h with h | ⟨p, hp, e⟩
    · subst h; simp at hlen
    · subst e
      simp only [List.length_cons, Nat.add_right_cancel_iff] at hlen
      rw [ih p hp hlen]

/-- with the temp-file protocol the configuration file holds the old content at every stop point
    before the rename and the new content after it -/
theorem atomicSeq_visible (old new : Str) (tmp : Option Str) :
    ∀ s ∈ crashStates new atomicSeq ⟨some old, tmp⟩, visibleOK old new s := by
  intro s hs
  simp only [atomicSeq, crashStates, execKind, FS.set, FS.get, List.mem_cons, List.mem_append,
    List.mem_map, List.not_mem_nil, or_false] at hs
  rcases hs with h | h | h | ⟨p, _, h⟩ | h | h | h | h
  all_goals (subst h; simp [visibleOK])

/-- … and the complete sequence installs the new content -/
theorem atomicSeq_final (old new : Str) (tmp : Option Str) :
    ((atomicSeq.foldl (execKind new) ⟨some old, tmp⟩)).target = some new := by
  simp [atomicSeq, execKind, FS.set, FS.get]

/-- truncate-then-write: every prefix of the new content (the empty one included) is visible at some
    stop point -/
theorem truncSeq_shows_prefix (old new p : Str) (tmp : Option Str) (hp : p ∈ prefixes new) :
    (⟨some p, tmp⟩ : FS) ∈ crashStates new truncSeq ⟨some old, tmp⟩ := by
  simp only [truncSeq, crashStates, execKind, FS.set, FS.get, List.mem_cons, List.mem_append, List.mem_map]
  right; left
  exact ⟨p, hp, by simp⟩

end Conf
