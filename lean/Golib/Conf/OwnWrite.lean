/-
  Golib.Conf.OwnWrite — the object's own write-back as a step of the system: SetValues replaces the
  configuration file by a *new* file (CreateTemp, write, sync, close, rename), so the replacement
  carries the time of the write, not the time of the file it replaces.  Together with the reload
  decision (stamp = mtime in ns + size) this is what makes a written value visible at the next
  reload even when the write keeps the size of the file.

  `keepStamp = true` is the variant that "takes over the attributes" of the replaced file
  (os.Chtimes(tmp, st.ModTime(), …) before the rename): a size-preserving write is then invisible.
-/
import Golib.Conf.SysHist
import Golib.Conf.Getters

namespace Conf

/-- the configuration file after a write-back of `newText` at clock time `now` -/
def writeBackFile (keepStamp : Bool) (now : Int) (old : FileSt) (newText : Str) : FileSt :=
  ⟨if keepStamp then old.mtimeNs else now, newText⟩

/-- `FileConfig.SetValues(kvs)` at clock time `now` on the whole system: nothing happens without a
    readable file (Read fails, the error is logged); the map `m` and the registry are not touched -/
def Sys.setValues (keepStamp : Bool) (pre suf : Str) (excl : List Str) (s : Sys) (now : Int) (kvs : KV) : Sys :=
  match s.file with
  | none => s
  | some f =>
    match setValuesModel true pre suf excl f.text kvs with
    | none => s
    | some out => { s with file := some (writeBackFile keepStamp now f out.text) }

/-- whatever happened before: a reload has looked at the file `f`; then the object writes `text`
    back at a clock time different from `f`'s modification time; the next reload loads it —
    whether or not the size changed -/
theorem own_write_loaded (c : Cfg) (f : FileSt) (now : Int) (text : Str) (props : KV)
    (hnow : now ≠ f.mtimeNs) (hp : parseProps text = .ok props) :
    let c1 := (reload verFull c (some f)).1
    let f' := writeBackFile false now f text
    (reload verFull c1 (some f')).2 = .loaded ∧
    (reload verFull c1 (some f')).1.notified = c1.notified + 1 ∧
    Reflects (reload verFull c1 (some f')).1 text := by
  intro c1 f'
  have hl : c1.last = verFull f := reload_last verFull c f
  -- the replacement carries the time of the write: the stamps differ in their first component
  have hne : c1.last ≠ verFull f' := by rw [hl]; exact fun e => hnow (congrArg Prod.fst e).symm
  exact reload_changed verFull c1 f' props hne hp

theorem parseProps_of_lex (text : Str) (pairs : KV) (h : lexPairs text = some pairs)
    (hx : parseProps text ≠ .expansion) : parseProps text = .ok (buildProps pairs) := by
  unfold parseProps at hx ⊢
  rw [h] at hx ⊢
  simp only at hx ⊢
  split
  · rename_i he; simp [he] at hx
  · rfl

theorem reloadN_some (nr : Bool) (ver : FileSt → Ver) (c : Cfg) (f : FileSt) :
    reloadN nr ver c (some f) = reload ver c (some f) := by
  have : (reload ver c (some f)).2 ≠ .reset :=
    reload_cases ver c (some f) (fun r => r.2 ≠ .reset) (fun h => nomatch h) (fun h => nomatch h)
      (fun h => nomatch h) (fun _ h => nomatch h) (fun _ h => nomatch h) (fun _ _ h => nomatch h)
  simp [reloadN, this]

/-- from any state of the whole system in which the file exists: reload, own write at a clock time
    different from the file's modification time, reload -/
theorem own_write_from_state (nr : Bool) (s : Sys) (f : FileSt) (now : Int)
    (pre suf : Str) (excl : List Str) (kvs : KV) (out : WriteOut) (props : KV)
    (hf : s.file = some f)
    (hs : setValuesModel true pre suf excl f.text kvs = some out)
    (hp : parseProps out.text = .ok props) (hnow : now ≠ f.mtimeNs) :
    (((s.step nr .reload).setValues false pre suf excl now kvs).step nr .reload).file
        = some (writeBackFile false now f out.text) ∧
    Reflects (((s.step nr .reload).setValues false pre suf excl now kvs).step nr .reload).cfg out.text ∧
    (((s.step nr .reload).setValues false pre suf excl now kvs).step nr .reload).cfg.notified
        = (s.step nr .reload).cfg.notified + 1 ∧
    (((s.step nr .reload).setValues false pre suf excl now kvs).step nr .reload).obs = (s.step nr .reload).obs.run := by
  have h1f : (s.step nr .reload).file = some f := by simp [Sys.step, hf]
  have h1c : (s.step nr .reload).cfg = (reload verFull s.cfg (some f)).1 := by
    simp [Sys.step, hf, reloadN_some]
  have hsv : (s.step nr .reload).setValues false pre suf excl now kvs
      = { (s.step nr .reload) with file := some (writeBackFile false now f out.text) } := by
    unfold Sys.setValues
    rw [h1f]
    simp only [hs]
  obtain ⟨r1, r2, r3⟩ := own_write_loaded s.cfg f now out.text props hnow hp
  rw [← h1c] at r1 r2 r3
  rw [hsv]
  generalize s.step nr .reload = s1 at *
  simp only [Sys.step, reloadN_some]
  refine ⟨trivial, r3, r2, ?_⟩
  simp [notifies, r1]

end Conf
