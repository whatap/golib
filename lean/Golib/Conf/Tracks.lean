/-
  Golib.Conf.Tracks — "once the file stops changing, every key=value in it is visible":
  an invariant over arbitrary histories of external edits, deletions and reloads.
-/
import Golib.Conf.ReloadLemmas

namespace Conf

inductive HOp where
  | edit (f : FileSt)      -- an external program leaves the file in state f (content + mtime)
  | delete
  | reload                 -- the polling goroutine runs reload()
  deriving Repr

abbrev HSt := Cfg × Option FileSt

def stepH (ver : FileSt → Ver) (s : HSt) : HOp → HSt
  | .edit f => (s.1, some f)
  | .delete => (s.1, none)
  | .reload => ((reload ver s.1 s.2).1, s.2)

def runH (ver : FileSt → Ver) (s : HSt) (ops : List HOp) : HSt := ops.foldl (stepH ver) s

def filesOf : List HOp → List FileSt
  | [] => []
  | .edit f :: r => f :: filesOf r
  | _ :: r => filesOf r

/-- every non-empty key=value of a (well-formed) text is in the map -/
def Reflects (c : Cfg) (text : Str) : Prop :=
  ∀ props, parseProps text = .ok props → ∀ k v, (k, v) ∈ readMap props → lookup c.m k = some v

/-- assumption about the world: within the history two file states with the same version
    (what reload compares) have the same content -/
def VerInj (ver : FileSt → Ver) (fs : List FileSt) : Prop :=
  ∀ f ∈ fs, ∀ g ∈ fs, ver f = ver g → f.text = g.text

/-- … and no real file carries one of the two sentinel times -1 / 0 -/
def VerReal (ver : FileSt → Ver) (fs : List FileSt) : Prop :=
  ∀ f ∈ fs, (ver f).1 ≠ -1 ∧ (ver f).1 ≠ 0

def Inv (ver : FileSt → Ver) (fs : List FileSt) (s : HSt) : Prop :=
  (∀ f, s.2 = some f → f ∈ fs) ∧
  ((s.1.last.1 = -1 ∨ s.1.last.1 = 0) ∨ ∃ g ∈ fs, s.1.last = ver g ∧ Reflects s.1 g.text)

theorem readMap_nonempty (props : KV) (k v : Str) (h : (k, v) ∈ readMap props) : v.isEmpty = false := by
  simp [readMap] at h
  simpa using h.2

theorem reload_reflects (ver : FileSt → Ver) (c : Cfg) (f : FileSt) (hne : c.last ≠ ver f) :
    Reflects (reload ver c (some f)).1 f.text := by
  intro props hp k v hkv
  rw [(reload_loaded ver c f props hne hp).2.2.2]
  exact lookup_applyMerge_mem c.m (readMap props) k v
    (keysNodup_readMap props (parseProps_ok_nodup f.text props hp)) hkv (readMap_nonempty props k v hkv)

theorem reload_changed (ver : FileSt → Ver) (c : Cfg) (f : FileSt) (props : KV)
    (hne : c.last ≠ ver f) (hp : parseProps f.text = .ok props) :
    (reload ver c (some f)).2 = .loaded ∧ (reload ver c (some f)).1.notified = c.notified + 1 ∧
    Reflects (reload ver c (some f)).1 f.text :=
  ⟨(reload_loaded ver c f props hne hp).1, (reload_loaded ver c f props hne hp).2.1, reload_reflects ver c f hne⟩

theorem inv_step (ver : FileSt → Ver) (fs : List FileSt) (s : HSt) (op : HOp)
    (hop : ∀ f, op = .edit f → f ∈ fs) (h : Inv ver fs s) : Inv ver fs (stepH ver s op) := by
  obtain ⟨c, file⟩ := s
  cases op with
  | edit f => exact ⟨fun g hg => by simp [stepH] at hg; subst hg; exact hop f rfl, h.2⟩
  | delete => exact ⟨fun g hg => by simp [stepH] at hg, h.2⟩
  | reload =>
    refine ⟨h.1, ?_⟩
    simp only [stepH]
    cases file with
    | none =>
      by_cases hs : c.last.1 = -1 ∨ c.last.1 = 0
      · rw [reload_none_sentinel ver c hs]; exact h.2
      · rw [reload_none_reset ver c (fun e => hs (.inl e)) (fun e => hs (.inr e))]; exact .inl (.inr rfl)
    | some f =>
      by_cases hs : c.last = ver f
      · rw [reload_same ver c f hs]; exact h.2
      · exact .inr ⟨f, h.1 f rfl, reload_last ver c f, reload_reflects ver c f hs⟩

theorem mem_filesOf (ops : List HOp) (f : FileSt) (h : HOp.edit f ∈ ops) : f ∈ filesOf ops := by
  induction ops with
  | nil => cases h
  | cons o r ih =>
    rcases List.mem_cons.mp h with e | e
    · subst e; simp [filesOf]
    · cases o <;> simp [filesOf, ih e]

theorem inv_run (ver : FileSt → Ver) (fs : List FileSt) (s : HSt) (ops : List HOp)
    (hops : ∀ f, HOp.edit f ∈ ops → f ∈ fs) (h : Inv ver fs s) : Inv ver fs (runH ver s ops) :=
  List.foldlRecOn (motive := Inv ver fs) ops _ h fun s hs o ho => inv_step ver fs s o (fun f e => hops f (e ▸ ho)) hs

/-- Whatever edits, deletions and reloads happened before: if the file now exists in state `f`,
    one more reload makes every key=value of it visible. -/
theorem tracks_after_reload (ver : FileSt → Ver) (ops : List HOp) (f : FileSt)
    (hinj : VerInj ver (filesOf ops)) (hreal : VerReal ver (filesOf ops))
    (hcur : (runH ver (Cfg.init, none) ops).2 = some f) :
    Reflects (runH ver (Cfg.init, none) (ops ++ [.reload])).1 f.text := by
  have hinv : ∀ ops', (∀ g, HOp.edit g ∈ ops' → HOp.edit g ∈ ops) →
      Inv ver (filesOf ops) (runH ver (Cfg.init, none) ops') := fun ops' hsub =>
    inv_run ver (filesOf ops) _ ops' (fun g hg => mem_filesOf ops g (hsub g hg))
      ⟨fun g hg => by simp at hg, Or.inl (Or.inl rfl)⟩
  have hf : f ∈ filesOf ops := (hinv ops fun _ h => h).1 f hcur
  -- after the last reload the remembered stamp is `f`'s: no sentinel, and the text it stands for is `f`'s
  have hlast : (runH ver (Cfg.init, none) (ops ++ [.reload])).1.last = ver f := by
    simp only [runH, List.foldl_append, List.foldl_cons, List.foldl_nil, stepH] at hcur ⊢
    rw [hcur]; exact reload_last ver _ f
  rcases (hinv (ops ++ [.reload]) fun g hg => by simpa using hg).2 with hs | ⟨g, hg, hl, hr⟩
  · rw [hlast] at hs
    exact absurd hs (not_or.mpr (hreal f hf))
  · rw [← hinj g hg f hf (hl.symm.trans hlast)]; exact hr

/-- reload looks at the file when it is `f1` (stat, then read); right after the read the file
    becomes `f2`.  The code remembers the stamp it took *before* the read (`stampAfter = false`);
    `stampAfter = true` is the variant that takes a fresh stat after the read. -/
def reloadRacing (stampAfter : Bool) (c : Cfg) (f1 f2 : FileSt) : Cfg :=
  let r := reload verFull c (some f1)
  if stampAfter && r.2 == .loaded then { r.1 with last := verFull f2 } else r.1

/-- the reset when the file has gone, in the variant that marks "file missing" with a separate flag and
    keeps the remembered stamp -/
def resetKeepingStamp (c : Cfg) : Cfg := { c with m := (reload verFull { c with last := (1, 0) } none).1.m }

theorem resetKeepingStamp_m (c : Cfg) : (resetKeepingStamp c).m = reload.applyMergeAll [] defaults := by
  unfold resetKeepingStamp
  rw [reload_none_reset verFull _ (by simp) (by simp)]

end Conf
