/-
  Golib.Conf.SysHist — the whole object over histories: FileConfig (map, remembered stamp),
  the file, and the observer registry, driven by external edits, deletions, reloads and
  registrations.  The notification clause is stated over arbitrary op sequences.
-/
import Golib.Conf.Tracks
import Golib.Conf.ObsHist

namespace Conf

/-- reload with the notification policy for the reset made explicit: the code calls the observers
    when the file disappeared and the defaults were applied (`notifyReset = true`;
    FileConfig.go:202-204); `false` is the code before proposed/C18/fix-D46.diff
    (`C18.finding_reset_not_notified`) -/
def reloadN (notifyReset : Bool) (ver : FileSt → Ver) (c : Cfg) (file : Option FileSt) : Cfg × ReloadRes :=
  let r := reload ver c file
  if notifyReset && r.2 == .reset then ({ r.1 with notified := r.1.notified + 1 }, r.2) else r

def notifies (notifyReset : Bool) (r : ReloadRes) : Bool := r == .loaded || (notifyReset && r == .reset)

inductive SysOp where
  | edit (f : FileSt)
  | delete
  | reload
  | addObs (name : Str) (id : Nat)
  | reloadPanic (visited : List Nat)   -- a reload during whose notification round an observer panics
  deriving Repr

structure Sys where
  cfg : Cfg
  file : Option FileSt
  obs : Obs
  deriving Repr

def Sys.init : Sys := { cfg := Cfg.init, file := none, obs := Obs.empty }

def Sys.step (nr : Bool) (s : Sys) : SysOp → Sys
  | .edit f => { s with file := some f }
  | .delete => { s with file := none }
  | .addObs n i => { s with obs := s.obs.add n i }
  | .reload =>
    let r := reloadN nr verFull s.cfg s.file
    { s with cfg := r.1, obs := if notifies nr r.2 then s.obs.run else s.obs }
  | .reloadPanic ids =>
    -- the map was merged before the observers ran; reload recovers the panic; only `ids` were visited
    let r := reloadN nr verFull s.cfg s.file
    { s with cfg := r.1, obs := if notifies nr r.2 then s.obs.runPartial ids else s.obs }

def Sys.run (nr : Bool) (s : Sys) (ops : List SysOp) : Sys := ops.foldl (Sys.step nr) s

/-- the registry history a system history induces: a registration is a registration, a reload
    that notifies is a round, everything else is invisible to the observers -/
def project (nr : Bool) (s : Sys) : List SysOp → List ObsOp
  | [] => []
  | op :: r =>
    match op with
    | .addObs n i => .add n i :: project nr (s.step nr op) r
    | .reload =>
      if notifies nr (reloadN nr verFull s.cfg s.file).2 then .run :: project nr (s.step nr op) r
      else project nr (s.step nr op) r
    | .reloadPanic ids =>
      if notifies nr (reloadN nr verFull s.cfg s.file).2 then .runPartial ids :: project nr (s.step nr op) r
      else project nr (s.step nr op) r
    | _ => project nr (s.step nr op) r

theorem sys_obs (nr : Bool) (s : Sys) (ops : List SysOp) :
    (s.run nr ops).obs = s.obs.exec (project nr s ops) := by
  induction ops generalizing s with
  | nil => rfl
  | cons op r ih =>
    simp only [Sys.run, List.foldl_cons] at ih ⊢
    rw [ih (s.step nr op)]
    cases op with
    | edit f | delete => simp [project, Sys.step]
    | addObs n i => simp [project, Sys.step, Obs.exec, Obs.step]
    | reload | reloadPanic ids =>
      simp only [project]
      split
      · rename_i h
        simp [Sys.step, h, Obs.exec, Obs.step]
      · rename_i h
        simp [Sys.step, h]

/-- how often the configuration counted a notification = number of notifying reloads -/
def roundsOf : List ObsOp → Nat
  | [] => 0
  | .run :: r => 1 + roundsOf r
  | .runReg _ _ _ :: r => 1 + roundsOf r
  | .runPartial _ :: r => 1 + roundsOf r
  | _ :: r => roundsOf r

theorem step_frame (nr : Bool) (s : Sys) (op : SysOp) (h : op = .reload → False)
    (h2 : ∀ ids, op = .reloadPanic ids → False) :
    (s.step nr op).cfg = s.cfg := by
  cases op with
  | edit f => rfl
  | delete => rfl
  | addObs n i => rfl
  | reloadPanic ids => exact (h2 ids rfl).elim
  | reload => exact (h rfl).elim

theorem reload_notified (ver : FileSt → Ver) (c : Cfg) (file : Option FileSt) :
    (reload ver c file).1.notified = c.notified + (if (reload ver c file).2 == .loaded then 1 else 0) :=
  reload_cases ver c file (fun r => r.1.notified = c.notified + (if r.2 == .loaded then 1 else 0))
    (fun _ => rfl) (fun _ => rfl) rfl (fun _ => rfl) (fun _ => rfl) (fun _ _ => rfl)

theorem reloadN_m (nr : Bool) (ver : FileSt → Ver) (c : Cfg) (file : Option FileSt) :
    (reloadN nr ver c file).1.m = (reload ver c file).1.m := by
  simp only [reloadN]
  split <;> rfl

/-- the file is deleted and a reload notices it: whatever happened before, the map is the defaults table -/
theorem map_after_delete_reload (nr : Bool) (s : Sys) (ops : List SysOp)
    (h1 : (s.run nr ops).cfg.last.1 ≠ -1) (h0 : (s.run nr ops).cfg.last.1 ≠ 0) :
    (s.run nr (ops ++ [.delete, .reload])).cfg.m = reload.applyMergeAll [] defaults := by
  simp only [Sys.run, List.foldl_append, List.foldl_cons, List.foldl_nil, Sys.step] at h1 h0 ⊢
  rw [reloadN_m, reload_none_reset verFull _ h1 h0]

theorem reloadN_notified (nr : Bool) (c : Cfg) (file : Option FileSt) :
    (reloadN nr verFull c file).1.notified =
      c.notified + (if notifies nr (reloadN nr verFull c file).2 then 1 else 0) := by
  have h := reload_notified verFull c file
  unfold reloadN notifies
  cases nr with
  | false => simpa using h
  | true =>
    simp only [Bool.true_and]
    cases hr : (reload verFull c file).2 <;> simp [hr] at h ⊢ <;> omega

theorem notified_is_rounds (nr : Bool) (s : Sys) (ops : List SysOp) :
    (s.run nr ops).cfg.notified = s.cfg.notified + roundsOf (project nr s ops) := by
  induction ops generalizing s with
  | nil => simp [Sys.run, project, roundsOf]
  | cons op r ih =>
    simp only [Sys.run, List.foldl_cons] at ih ⊢
    rw [ih (s.step nr op)]
    cases op with
    | edit f | delete => simp [project, Sys.step]
    | addObs n i => simp [project, Sys.step, roundsOf]
    | reload | reloadPanic ids =>
      have hn := reloadN_notified nr s.cfg s.file
      simp only [project]
      split
      · rename_i h; simp [Sys.step, roundsOf, hn, h]; omega
      · rename_i h; simp [Sys.step, hn, h]

end Conf
