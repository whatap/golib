/-
  Golib.Conf.Locks — atomic-action model of one reload (`apply`: a sequence of map stores)
  running concurrently with one reader section (a getter: one lookup; GetKeys / String /
  an observer: several lookups in one go).

  `locked = true` is the code (FileConfig.go:27 `mu sync.RWMutex`) — and what the regenerated lock
  facts (Golib.Gen.C18, tie A) must show: every store happens inside `mu.Lock()`, every
  read section inside `mu.RLock()`.  A thread that cannot take the lock does not move.
  `locked = false` is the code before proposed/C18/fix-D36.diff (`C18.finding_D36`).  The Go runtime additionally aborts the process when
  it notices a map read overlapping a map write; that detector is not modelled — the model
  shows the torn observation that the missing lock allows.
-/
import Golib.Conf.Reload

namespace Conf

/-- what a writer section does to the map: a store `m[k] = v`, or the replacement by a fresh empty
    map (`this.m = make(…)`, the reset when the file disappeared) -/
inductive WOp where
  | store (k v : Str)
  | clear
  deriving Repr, DecidableEq

def WOp.apply (m : KV) : WOp → KV
  | .store k v => put m k v
  | .clear => []

def storesOf (kvs : KV) : List WOp := kvs.map (fun p => .store p.1 p.2)

inductive WPh where
  | idle | busy (todo : List WOp) | done
  deriving Repr, DecidableEq

inductive RPh where
  | idle | busy (todo : List Str) | done
  deriving Repr, DecidableEq

structure MSt where
  w : WPh
  r : RPh
  m : KV
  obs : List (Option Str)      -- what the reader saw, in order
  deriving Repr, DecidableEq

inductive Who where
  | writer | reader
  deriving Repr, DecidableEq

def WPh.isBusy : WPh → Bool
  | .busy _ => true
  | _ => false
def RPh.isBusy : RPh → Bool
  | .busy _ => true
  | _ => false

def stepM (locked : Bool) (kvs : List WOp) (reads : List Str) (s : MSt) : Who → MSt
  | .writer =>
    match s.w with
    | .idle => if locked && s.r.isBusy then s else { s with w := .busy kvs }
    | .busy [] => { s with w := .done }
    | .busy (op :: rest) => { s with m := op.apply s.m, w := .busy rest }
    | .done => s
  | .reader =>
    match s.r with
    | .idle => if locked && s.w.isBusy then s else { s with r := .busy reads }
    | .busy [] => { s with r := .done }
    | .busy (k :: rest) => { s with obs := s.obs ++ [lookup s.m k], r := .busy rest }
    | .done => s

def initM (old : KV) : MSt := { w := .idle, r := .idle, m := old, obs := [] }

def runM (locked : Bool) (old : KV) (kvs : List WOp) (reads : List Str) (sched : List Who) : MSt :=
  sched.foldl (stepM locked kvs reads) (initM old)

def storeAll (old : KV) (kvs : List WOp) : KV := kvs.foldl WOp.apply old

/-- the invariant of the locked machine -/
def LInv (old : KV) (kvs : List WOp) (reads : List Str) (s : MSt) : Prop :=
  (match s.w with
   | .idle => s.m = old
   | .busy todo => ∃ dn, kvs = dn ++ todo ∧ s.m = storeAll old dn
   | .done => s.m = storeAll old kvs) ∧
  (match s.r with
   | .idle => s.obs = []
   | .busy todo => s.w.isBusy = false ∧ ∃ dn, reads = dn ++ todo ∧ s.obs = dn.map (lookup s.m)
   | .done => s.obs = reads.map (lookup old) ∨ s.obs = reads.map (lookup (storeAll old kvs))) ∧
  (s.w.isBusy = true → s.r.isBusy = false)

theorem storeAll_append (old : KV) (a b : List WOp) : storeAll old (a ++ b) = storeAll (storeAll old a) b := by
  simp [storeAll, List.foldl_append]

theorem linv_step (old : KV) (kvs : List WOp) (reads : List Str) (s : MSt) (who : Who)
    (h : LInv old kvs reads s) : LInv old kvs reads (stepM true kvs reads s who) := by
  obtain ⟨w, r, m, obs⟩ := s
  obtain ⟨hw, hr, hx⟩ := h
  -- Each thread: outside (idle, done) or inside (busy) its section.  A thread that finds the other one inside does
  -- not move; both inside is ruled out by `hx` resp. `hwb`; a finished thread stays as it is.  What is left:
  -- entering, one store or one read, leaving.
  cases who with
  | writer =>
    cases w with
    | idle =>
      cases r with
      | idle | done =>
        simp only [stepM, RPh.isBusy, Bool.and_false, Bool.false_eq_true, if_false]
        exact ⟨⟨[], by simp, by simpa [storeAll] using hw⟩, hr, by simp [RPh.isBusy]⟩
      | busy todo => simpa [stepM, RPh.isBusy] using ⟨hw, hr, hx⟩   -- the lock is taken: no move
    | busy todo =>
      obtain ⟨dn, e1, e2⟩ := hw
      -- the reader is not inside its section, and what is recorded about it does not mention the map
      cases r with
      | busy t => exact absurd (hx rfl) (by simp [RPh.isBusy])
      | idle | done =>
        cases todo with
        | nil =>
          simp only [stepM]
          exact ⟨by simp at e1; subst e1; exact e2, hr, fun _ => rfl⟩
        | cons p rest =>
          simp only [stepM]
          refine ⟨⟨dn ++ [p], by simp [e1], ?_⟩, hr, fun _ => rfl⟩
          simp only [] at e2
          rw [storeAll_append, ← e2]; simp [storeAll]
    | done => simpa [stepM] using ⟨hw, hr, hx⟩
  | reader =>
    cases r with
    | idle =>
      cases w with
      | idle | done =>
        simp only [stepM, WPh.isBusy, Bool.and_false, Bool.false_eq_true, if_false]
        exact ⟨hw, ⟨rfl, [], by simp, by simpa using hr⟩, by simp [WPh.isBusy]⟩
      | busy todo => simpa [stepM, WPh.isBusy] using ⟨hw, hr, hx⟩   -- the lock is taken: no move
    | busy todo =>
      obtain ⟨hwb, dn, e1, e2⟩ := hr
      cases todo with
      | nil =>
        simp only [stepM]
        refine ⟨hw, ?_, fun _ => by simp [RPh.isBusy]⟩
        simp only [List.append_nil] at e1
        subst e1
        -- leaving: the writer has not started (old map) or has finished (new map); it is not inside
        cases w with
        | idle => left; simp only [] at hw e2; rw [e2, hw]
        | busy t => simp [WPh.isBusy] at hwb
        | done => right; simp only [] at hw e2; rw [e2, hw]
      | cons k rest =>
        simp only [stepM]
        refine ⟨hw, ⟨hwb, dn ++ [k], by simp [e1], ?_⟩, fun hb => by simp only [] at hb hwb; rw [hwb] at hb; cases hb⟩
        simp only [] at e2
        simp [e2]
    | done => simpa [stepM] using ⟨hw, hr, hx⟩

theorem linv_run (old : KV) (kvs : List WOp) (reads : List Str) (sched : List Who) :
    LInv old kvs reads (runM true old kvs reads sched) :=
  List.foldlRecOn (motive := LInv old kvs reads) sched _ ⟨rfl, rfl, by simp [initM, WPh.isBusy]⟩
    fun s hs a _ => linv_step old kvs reads s a hs

/-- under the lock the map a finished reload leaves behind is the merged one -/
theorem locked_final_map (old : KV) (kvs : List WOp) (reads : List Str) (sched : List Who)
    (hdone : (runM true old kvs reads sched).w = .done) :
    (runM true old kvs reads sched).m = storeAll old kvs := by
  have h := (linv_run old kvs reads sched).1
  rw [hdone] at h
  exact h

end Conf
