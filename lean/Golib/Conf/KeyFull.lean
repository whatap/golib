/-
  Golib.Conf.KeyFull — a key that contains a backslash is never read back under its own name from
  the line `key=…` (keys are written unescaped).  Two measures of the key text consumed so far
  (`p`) against the key accumulated so far (`acc`): the accumulated key is never longer, strictly
  shorter once an escape was consumed, and it has at least as many '=' signs (an '=' inside the
  key text can only be consumed by an escape, which yields an '=').  If the lexed key equalled the
  written key, the consumed text would either stop inside the key (too short) or run past the
  line's '=' (one '=' too many).
-/
import Golib.Conf.KeyIff

namespace Conf

local notation "eqc" => List.count '='

theorem eqc_snoc_eq (p : Str) : eqc (p ++ ['=']) = eqc p + 1 := by simp
theorem eqc_snoc_ne (p : Str) (c : Char) (h : c ≠ '=') : eqc (p ++ [c]) = eqc p := by simp [h]

def KInv (p : Str) (out0 : KV) (s : LexSt) : Prop :=
  (s.out = out0 ∧ ∃ acc, s.mode = .key acc ∧ acc.length ≤ p.length ∧ eqc p ≤ eqc acc ∧
      ('\\' ∈ p → acc.length < p.length)) ∨
  (s.out = out0 ∧ ∃ acc, s.mode = .keyEsc acc ∧ acc.length < p.length ∧ eqc p ≤ eqc acc) ∨
  (s.out = out0 ∧ ∃ acc n cnt, s.mode = .keyU acc n cnt ∧ acc.length + 2 + cnt ≤ p.length ∧ eqc p ≤ eqc acc) ∨
  (∃ K p1, p1 <+: p ∧ K.length ≤ p1.length ∧ eqc p1 ≤ eqc K ∧ ('\\' ∈ p1 → K.length < p1.length) ∧
      holdsKey K out0 s) ∨
  s.mode = .err

theorem endOfKey_not_bs (c : Char) (h : isEndOfKey c = true) : c ≠ '\\' := by
  intro e; subst e; revert h; decide

theorem KInv_stepKey (p acc : Str) (out : KV) (c : Char) (hl : acc.length ≤ p.length) (he : eqc p ≤ eqc acc)
    (hb : '\\' ∈ p → acc.length < p.length) : KInv (p ++ [c]) out (stepKey acc out c) := by
  fun_cases stepKey acc out c with
  | case1 hbs =>
    rw [eq_of_beq hbs]
    exact .inr (.inl ⟨rfl, acc, rfl, by simp; omega, by rw [eqc_snoc_ne p '\\' (by decide)]; exact he⟩)
  | case2 hbs hend hemp => exact .inr (.inr (.inr (.inr rfl)))
  | case3 hbs hend hemp =>
    -- the key ends here
    exact .inr (.inr (.inr (.inl ⟨acc.reverse, p, ⟨[c], rfl⟩, by simpa using hl, by rw [List.count_reverse]; exact he,
      by simpa using hb, holdsKey_stepBv1 acc.reverse out c⟩)))
  | case4 hbs hend =>
    have hceq : c ≠ '=' := by intro e; subst e; exact hend (by decide)
    refine .inl ⟨rfl, c :: acc, rfl, by simp; omega,
      by rw [eqc_snoc_ne p c hceq, List.count_cons_of_ne hceq]; exact he, fun hmem => ?_⟩
    rcases List.mem_append.mp hmem with hm | hm
    · have := hb hm; simp; omega
    · exact absurd (List.mem_singleton.mp hm).symm (by simpa using hbs)

theorem KInv_step (p : Str) (out0 : KV) (s : LexSt) (c : Char) (h : KInv p out0 s) :
    KInv (p ++ [c]) out0 (step s c) := by
  obtain ⟨mode, out⟩ := s
  rcases h with ⟨rfl, acc, rfl, hl, he, hb⟩ | ⟨rfl, acc, rfl, hl, he⟩ | ⟨rfl, acc, n, cnt, rfl, hl, he⟩ |
      ⟨K, p1, hp1, hk1, hk2, hk3, hh⟩ | rfl
  · exact KInv_stepKey p acc out c hl he hb
  · -- after a backslash
    by_cases hu : c = 'u'
    · subst hu
      right; right; left
      refine ⟨by simp [step], acc, 0, 0, by simp [step], by simp; omega, ?_⟩
      rw [eqc_snoc_ne p 'u' (by decide)]; exact he
    · have hu' : (c == 'u') = false := by simp [hu]
      left
      refine ⟨by simp [step, hu'], unescape c :: acc, by simp [step, hu'], by simp; omega, ?_, ?_⟩
      · by_cases hceq : c = '='
        · subst hceq
          have hun : unescape '=' = '=' := by decide
          rw [eqc_snoc_eq, hun, List.count_cons_self]; omega
        · rw [eqc_snoc_ne p c hceq]
          have := List.count_le_count_cons (a := '=') (b := unescape c) (l := acc)
          omega
      · intro _; simp; omega
  · -- inside \uXXXX
    cases hx : hexVal c with
    | none =>
      right; right; right; right
      simp [step, hx]
    | some d =>
      have hceq : c ≠ '=' := by intro e; subst e; simp [hexVal] at hx
      by_cases h3 : cnt = 3
      · subst h3
        left
        refine ⟨by simp [step, hx], runeOf (n * 16 + d) :: acc, by simp [step, hx], by simp; omega, ?_, ?_⟩
        · rw [eqc_snoc_ne p c hceq]
          have := List.count_le_count_cons (a := '=') (b := runeOf (n * 16 + d)) (l := acc)
          omega
        · intro _; simp; omega
      · have h3' : (cnt == 3) = false := by simp [h3]
        right; right; left
        refine ⟨by simp [step, hx, h3'], acc, n * 16 + d, cnt + 1, by simp [step, hx, h3'], by simp; omega, ?_⟩
        rw [eqc_snoc_ne p c hceq]; exact he
  · right; right; right; left
    obtain ⟨t, ht⟩ := hp1
    exact ⟨K, p1, ⟨t ++ [c], by rw [← ht]; simp⟩, hk1, hk2, hk3, holdsKey_step K out0 _ c hh⟩
  · right; right; right; right
    rfl

theorem KInv_run (p q : Str) (out0 : KV) (s : LexSt) (h : KInv p out0 s) : KInv (p ++ q) out0 (lexRun s q) := by
  induction q generalizing p s with
  | nil => show KInv (p ++ []) out0 s; rw [List.append_nil]; exact h
  | cons c r ih =>
    rw [lexRun_cons]
    have := ih (p ++ [c]) (step s c) (KInv_step p out0 s c h)
    simpa using this

theorem prefix_past (p1 k rest : Str) (hp : p1 <+: k ++ '=' :: rest) (hl : k.length < p1.length) :
    ∃ w, p1 = k ++ '=' :: w := by
  obtain ⟨t, rfl⟩ := List.prefix_of_prefix_length_le (List.prefix_append k _) hp (by omega)
  rw [List.prefix_append_right_inj] at hp
  cases t with
  | nil => simp at hl
  | cons y u => exact ⟨u, by rw [(List.cons_prefix_cons.mp hp).1]⟩

theorem key_with_bs_never_first (k rest v : Str) (tl : KV) (hw : isWordStart k = true) (hbs : '\\' ∈ k) :
    lexPairs (k ++ '=' :: rest) ≠ some ((k, v) :: tl) := by
  intro h
  cases k with
  | nil => simp [isWordStart] at hw
  | cons c0 kr =>
    simp only [isWordStart] at hw
    obtain ⟨h1, h2, h3⟩ := isWordChar_facts c0 hw
    have hc0bs : c0 ≠ '\\' := by intro e; subst e; revert hw; decide
    have hc0eq : c0 ≠ '=' := by intro e; subst e; revert hw; decide
    have hc0end : isEndOfKey c0 = false := by
      simp only [isEndOfKey, h2, h1, Bool.false_or, Bool.or_eq_false_iff, beq_eq_false_iff_ne, ne_eq]
      exact ⟨by intro e; subst e; revert hw; decide, hc0eq⟩
    have s1 : step ⟨.bk, []⟩ c0 = ⟨.key [c0], []⟩ := by
      simp [step, h1, h2, h3, stepKey, hc0bs, hc0end]
    have hinv0 : KInv [c0] [] ⟨.key [c0], []⟩ := by
      left
      refine ⟨rfl, [c0], rfl, by simp, by rw [List.count_cons_of_ne hc0eq]; omega, ?_⟩
      intro hm; simp at hm; exact absurd hm.symm hc0bs |> False.elim
    have hrun := KInv_run [c0] (kr ++ '=' :: rest) [] _ hinv0
    simp only [lexPairs, List.cons_append, lexRun_cons, s1] at h
    rw [show [c0] ++ (kr ++ '=' :: rest) = (c0 :: kr) ++ '=' :: rest from rfl] at hrun
    have hLcount : eqc ((c0 :: kr) ++ '=' :: rest) ≥ eqc (c0 :: kr) + 1 := by
      rw [List.count_append, List.count_cons_self]; omega
    rcases hrun with ⟨ho, acc, hm, hl, he, _⟩ | ⟨_, acc, hm, _, _⟩ | ⟨_, acc, n, cnt, hm, _, _⟩ |
        ⟨K, p1, hp1, hk1, hk2, hk3, hh⟩ | herr
    · -- the whole line was key text; in the other modes of the key (escape pending, error) `finish` fails
      generalize hs : lexRun ⟨.key [c0], []⟩ (kr ++ '=' :: rest) = st at h hm ho
      obtain ⟨mode, out⟩ := st
      simp only at hm ho; subst hm; subst ho
      simp only [finish, List.reverse_cons, List.reverse_nil, List.nil_append, Option.some.injEq] at h
      have hk : acc.reverse = c0 :: kr := (Prod.mk.inj (List.cons.inj h).1).1
      have : eqc acc = eqc (c0 :: kr) := by rw [← hk, List.count_reverse]
      omega
    · simp [finish, hm] at h
    · simp [finish, hm] at h
    · obtain ⟨v', tl', e⟩ := holdsKey_finish K _ _ hh h
      have hK : K = c0 :: kr := (Prod.mk.inj (List.cons.inj e).1).1.symm
      subst hK
      by_cases hb1 : '\\' ∈ p1
      · have hlt := hk3 hb1
        by_cases hlen : p1.length ≤ (c0 :: kr).length
        · omega
        · -- p1 runs past the line's '=': one '=' more than the key has
          have hlen' : (c0 :: kr).length < p1.length := by omega
          obtain ⟨w2, hw2⟩ := prefix_past p1 (c0 :: kr) rest hp1 hlen'
          have : eqc p1 = eqc (c0 :: kr) + 1 + eqc w2 := by
            rw [hw2, List.count_append, List.count_cons_self]; omega
          omega
      · -- no backslash consumed yet: the consumed text stops inside the key
        have : ¬ (c0 :: kr).length ≤ p1.length := fun hle =>
          hb1 ((List.prefix_of_prefix_length_le (List.prefix_append _ _) hp1 hle).subset hbs)
        omega
    · simp [finish, herr] at h

end Conf
