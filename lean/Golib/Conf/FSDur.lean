/-
  Golib.Conf.FSDur — the file-system model with durability: what can be found on disk after the
  machine loses power at any point of DefaultFileParser.Write's call sequence.

  Two inodes matter: `A`, the original configuration file, and `T`, the temporary file.  Each has
  a volatile content (what running processes see) and a durable content (what has certainly
  reached the disk: set by fsync).  The directory entry of the configuration path likewise has a
  volatile and a durable value (which inode it names); a rename that was not followed by an
  fsync of the directory may or may not survive.  After a power loss the configuration path names
  either inode (if the two views differ) and that inode holds its durable content or — when there is
  data not yet synced — any prefix of its volatile content (so the case "the process is killed, nothing is
  lost" is one of the outcomes: this model subsumes `crashStates`).

  Modelled, not verified: POSIX-style semantics (fsync makes the file's data durable, rename is
  atomic on the directory entry, metadata may be persisted before un-synced data).
  The power-loss analysis of the code's call sequence is `atomicSeq_durable`.
-/
import Golib.Conf.FS

namespace Conf

structure Inode where
  vol : Str      -- what open/read see
  dur : Str      -- what is certainly on disk
  deriving Repr, DecidableEq

inductive Ino where
  | A | T
  deriving Repr, DecidableEq

structure DFS where
  a : Inode
  t : Inode
  dirVol : Ino    -- which inode the configuration path names (as processes see it)
  dirDur : Ino    -- … as it is certainly recorded on disk
  deriving Repr, DecidableEq

def DFS.init (old : Str) : DFS := { a := ⟨old, old⟩, t := ⟨[], []⟩, dirVol := .A, dirDur := .A }

def DFS.ino (s : DFS) : Ino → Inode
  | .A => s.a
  | .T => s.t

def DFS.setIno (s : DFS) (i : Ino) (n : Inode) : DFS :=
  match i with
  | .A => { s with a := n }
  | .T => { s with t := n }

/-- the inode a file name of the call sequence refers to: `target` through the (volatile) directory,
    `temp` is the temporary inode -/
def DFS.resolve (s : DFS) : FName → Ino
  | .target => s.dirVol
  | .temp => .T

def dexec (data : Str) (s : DFS) : FsKind → DFS
  | .openTrunc f => let i := s.resolve f; s.setIno i { (s.ino i) with vol := [] }
  | .createTemp => { s with t := ⟨[], []⟩ }
  | .chmod _ => s
  | .write f => let i := s.resolve f; s.setIno i { (s.ino i) with vol := (s.ino i).vol ++ data }
  | .sync f => let i := s.resolve f; s.setIno i { (s.ino i) with dur := (s.ino i).vol }
  | .close _ => s
  | .rename .temp .target => { s with dirVol := .T }
  | .rename _ _ => s
  | .remove _ => s

/-- every state in which the power can fail: before each call, inside each write (any prefix of
    the data handed to the kernel so far), at the end -/
def dstates (data : Str) : List FsKind → DFS → List DFS
  | [], s => [s]
  | .write f :: rest, s =>
    (prefixes data).map (fun p => let i := s.resolve f; s.setIno i { (s.ino i) with vol := (s.ino i).vol ++ p })
      ++ dstates data rest (dexec data s (.write f))
  | k :: rest, s => s :: dstates data rest (dexec data s k)

/-- what one inode can hold after the power loss -/
def inodeOutcomes (n : Inode) : List Str :=
  if n.dur = n.vol then [n.dur] else n.dur :: prefixes n.vol

/-- what the configuration path can hold after the power loss -/
def outcomes (s : DFS) : List Str :=
  inodeOutcomes (s.ino s.dirDur) ++ inodeOutcomes (s.ino s.dirVol)

/-- the temp-file protocol without the fsync before the rename -/
def noSyncSeq : List FsKind :=
  [.close .target, .createTemp, .chmod .temp, .write .temp, .close .temp, .rename .temp .target]

/-- temp file + fsync + rename: whatever survives a power loss at any point, the configuration
    path holds the complete old or the complete new content -/
theorem atomicSeq_durable (old new : Str) :
    ∀ s ∈ dstates new atomicSeq (DFS.init old), ∀ c ∈ outcomes s, c = old ∨ c = new := by
  intro s hs
  simp only [atomicSeq, dstates, dexec, DFS.init, DFS.resolve, DFS.setIno, DFS.ino, List.mem_cons,
    List.mem_append, List.mem_map, List.not_mem_nil, or_false, List.nil_append] at hs
  rcases hs with h | h | h | ⟨p, _, h⟩ | h | h | h | h
  -- Before the rename both directory views name A, which holds old/old, so the outcome is old.
  -- After it the durable view still names A (old) and the volatile view names T, which was
  -- synced before (durable = volatile = new), so the outcome is old or new.
  all_goals (subst h; intro c hc; simp [outcomes, inodeOutcomes, DFS.ino] at hc)
  all_goals (first | (left; exact hc) | (rcases hc with hc | hc <;> simp [hc]) | skip)

end Conf
