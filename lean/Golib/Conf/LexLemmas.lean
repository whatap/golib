/-
  Golib.Conf.LexLemmas — what the lexer model does on one line.  A *spelling* (`Spells`) is a piece of
  text that key mode resp. value mode consumes entirely and turns into given characters; a line
  `blanks key blanks = blanks value` is read half by half for any spelling of key and value
  (`lex_key_part`, `lex_value_part`).  The line `key=escaped value` that DefaultFileParser.Write renders
  is the instance `lexRun_renderKV`.
-/
import Golib.Conf.Write

namespace Conf

/-- characters a key may contain without an escape -/
def plainKeyChar (c : Char) : Bool := !(isEndOfKey c) && c != '\\'

/-- keys the writer can express: first character `[0-9A-Za-z_]`, no blank, ':', '=', backslash, line break -/
def WFkey (k : Str) : Prop := isWordStart k = true ∧ ∀ c ∈ k, plainKeyChar c = true

def NoAdjBs : Str → Prop
  | '\\' :: '\\' :: _ => False
  | _ :: r => NoAdjBs r
  | [] => True

def headNotWs : Str → Bool
  | c :: _ => !isWs c
  | [] => false

/-- values that survive `key=` + escValue + lexer: not blank, no line break, no two adjacent
    backslashes, no leading blank (values containing "${" are outside the model altogether) -/
def WFval (v : Str) : Prop :=
  isBlankVal v = false ∧ (∀ c ∈ v, isEOL c = false) ∧ NoAdjBs v ∧ headNotWs v = true

theorem lexRun_nil (s : LexSt) : lexRun s [] = s := rfl
theorem lexRun_cons (s : LexSt) (c : Char) (r : Str) : lexRun s (c :: r) = lexRun (step s c) r := rfl

/-- characters that leave the lexer where it is are skipped: blanks before the key, around the
    separator and after a continuation, the text of a comment -/
theorem lexRun_skip (s : LexSt) (w rest : Str) (h : ∀ x ∈ w, step s x = s) :
    lexRun s (w ++ rest) = lexRun s rest := by
  induction w with
  | nil => rfl
  | cons x t ih =>
    rw [List.cons_append, lexRun_cons, h x (by simp), ih (fun y hy => h y (List.mem_cons_of_mem _ hy))]

theorem isWordChar_facts (c : Char) (h : isWordChar c = true) :
    isEOL c = false ∧ isWs c = false ∧ isCommentStart c = false := by
  simp only [isWordChar, Bool.or_eq_true, Bool.and_eq_true, decide_eq_true_eq, beq_iff_eq] at h
  have e : ∀ d : Char, c = d → c.toNat = d.toNat := fun d e => by rw [e]
  refine ⟨?_, ?_, ?_⟩
  · simp only [isEOL, Bool.or_eq_false_iff, beq_eq_false_iff_ne, ne_eq]
    constructor <;> intro hc <;> have := e _ hc <;> simp at this <;> omega
  · simp only [isWs, Bool.or_eq_false_iff, beq_eq_false_iff_ne, ne_eq]
    refine ⟨⟨?_, ?_⟩, ?_⟩ <;> intro hc <;> have := e _ hc <;> simp at this <;> omega
  · simp only [isCommentStart, Bool.or_eq_false_iff, beq_eq_false_iff_ne, ne_eq]
    constructor <;> intro hc <;> have := e _ hc <;> simp at this <;> omega

theorem plainKeyChar_of_wordChar (c : Char) (h : isWordChar c = true) : plainKeyChar c = true := by
  obtain ⟨h1, h2, _⟩ := isWordChar_facts c h
  have hne : ∀ d : Char, isWordChar d = false → c ≠ d := fun d hd e => by rw [e, hd] at h; cases h
  simp [plainKeyChar, isEndOfKey, h1, h2, hne ':' (by decide), hne '=' (by decide), hne '\\' (by decide)]

/-- a character that is not plain and no backslash ends the key -/
theorem endOfKey_of_not_plain (c : Char) (hp : plainKeyChar c = false) (hb : c ≠ '\\') : isEndOfKey c = true := by
  simp only [plainKeyChar, Bool.and_eq_false_iff, Bool.not_eq_false', bne_eq_false_iff_eq] at hp
  exact hp.resolve_right hb

theorem WFkey.ne_nil {k : Str} (hk : WFkey k) : k ≠ [] := by
  intro e; subst e; exact absurd hk.1 (by decide)

theorem step_key_end (k : Str) (out : KV) (e : Char) (hk : k ≠ []) (he : isEndOfKey e = true) :
    step ⟨.key k.reverse, out⟩ e = stepBv1 k out e := by
  have hb : (e == '\\') = false := by
    cases hb : (e == '\\') with
    | false => rfl
    | true => rw [beq_iff_eq.mp hb] at he; exact absurd he (by decide)
  have hne : k.reverse.isEmpty = false := by cases k with
    | nil => exact absurd rfl hk
    | cons _ _ => simp
  simp only [step, stepKey, hb, he, hne, Bool.false_eq_true, if_false, if_true, List.reverse_reverse]

theorem step_bv2_notWs (k : Str) (out : KV) (c : Char) (h : isWs c = false) :
    step ⟨.bv2 k, out⟩ c = step ⟨.val k [], out⟩ c := by
  simp [step, h]

/-- in the mode `mk acc` (`Mode.key`, or `Mode.val k`; `acc` holds the characters read so far, reversed) the
    text `t` is consumed entirely and adds the characters `cs` -/
def Spells (mk : Str → Mode) (t cs : Str) : Prop :=
  ∀ acc out, lexRun ⟨mk acc, out⟩ t = ⟨mk (cs.reverse ++ acc), out⟩

namespace Spells
variable {mk : Str → Mode}

theorem nil : Spells mk [] [] := fun _ _ => rfl

theorem append {t1 c1 t2 c2 : Str} (h1 : Spells mk t1 c1) (h2 : Spells mk t2 c2) : Spells mk (t1 ++ t2) (c1 ++ c2) :=
  fun acc out => by rw [lexRun_append, h1, h2]; simp

/-- a renderer that spells every character on its own spells the string -/
theorem flatMap (f : Char → Str) (v : Str) (h : ∀ c ∈ v, Spells mk (f c) [c]) : Spells mk (v.flatMap f) v := by
  induction v with
  | nil => exact nil
  | cons c r ih =>
    rw [List.flatMap_cons]
    exact (h c (by simp)).append (ih fun x hx => h x (List.mem_cons_of_mem _ hx))

/-! the atoms: a character that stands for itself, a backslash and the character it escapes -/

theorem keyPlain (c : Char) (hb : c ≠ '\\') (he : isEndOfKey c = false) : Spells .key [c] [c] :=
  fun acc out => by simp [lexRun, step, stepKey, hb, he]

theorem keyEsc (e : Char) (hu : e ≠ 'u') : Spells .key ['\\', e] [unescape e] :=
  fun acc out => by simp [lexRun, step, stepKey, hu]

theorem valPlain (k : Str) (c : Char) (hb : c ≠ '\\') (he : isEOL c = false) : Spells (.val k) [c] [c] :=
  fun acc out => by simp [lexRun, step, stepVal, hb, he]

theorem valEsc (k : Str) (e : Char) (hu : e ≠ 'u') (he : isEOL e = false) : Spells (.val k) ['\\', e] [unescape e] :=
  fun acc out => by simp [lexRun, step, stepVal, hu, he]

end Spells

/-- what starts a key at the beginning of a line: not a blank, a line end or a comment sign -/
def startsKey : Str → Bool
  | c :: _ => !isEOL c && !isWs c && !isCommentStart c
  | [] => false

/-- blanks, a spelling `K` of the key `k`, a character that ends the key -/
theorem lex_key_end (w0 K k rest : Str) (e : Char) (out : KV) (hw0 : ∀ c ∈ w0, isWs c = true)
    (hK : Spells .key K k) (hs : startsKey K = true) (hk : k ≠ []) (he : isEndOfKey e = true) :
    lexRun ⟨.bk, out⟩ (w0 ++ K ++ e :: rest) = lexRun (stepBv1 k out e) rest := by
  have hbk : lexRun ⟨.bk, out⟩ K = lexRun ⟨.key [], out⟩ K := by
    cases K with
    | nil => cases hs
    | cons c t =>
      simp only [startsKey, Bool.and_eq_true, Bool.not_eq_true'] at hs
      simp only [lexRun_cons, step, hs.1.1, hs.1.2, hs.2, Bool.or_self, Bool.false_eq_true, if_false]
  rw [List.append_assoc, lexRun_skip ⟨.bk, out⟩ w0 _ (fun x hx => by simp [step, hw0 x hx]),
    lexRun_append, hbk, hK, lexRun_cons, List.append_nil, step_key_end k out e hk he]

/-- **the key half of a line**: blanks, a spelling `K` of the key `k`, blanks, '=' -/
theorem lex_key_part (w0 K k w1 rest : Str) (out : KV) (hw0 : ∀ c ∈ w0, isWs c = true) (hK : Spells .key K k)
    (hs : startsKey K = true) (hk : k ≠ []) (hw1 : ∀ c ∈ w1, isWs c = true) :
    lexRun ⟨.bk, out⟩ (w0 ++ K ++ w1 ++ '=' :: rest) = lexRun ⟨.bv2 k, out⟩ rest := by
  -- blanks (if any) lead to `bv1`, where more blanks are skipped; '=' leads to `bv2`
  cases w1 with
  | nil => rw [List.append_nil, lex_key_end w0 K k rest '=' out hw0 hK hs hk (by decide)]; rfl
  | cons b t =>
    have hb := hw1 b (by simp)
    rw [List.append_assoc, List.cons_append, lex_key_end w0 K k _ b out hw0 hK hs hk (by simp [isEndOfKey, hb]),
      show stepBv1 k out b = ⟨.bv1 k, out⟩ by simp [stepBv1, hb],
      lexRun_skip ⟨.bv1 k, out⟩ t _ (fun x hx => by simp [step, stepBv1, hw1 x (List.mem_cons_of_mem _ hx)]),
      lexRun_cons]
    rfl

/-- **the value half of a line**: blanks, a spelling `V` of the value `v` that does not itself start
    with a blank (or the empty spelling of the empty value), a line end -/
theorem lex_value_part (w V v k : Str) (e : Char) (out : KV) (hw : ∀ c ∈ w, isWs c = true) (hV : Spells (.val k) V v)
    (hs : headNotWs V = true ∨ V = [] ∧ v = []) (he : isEOL e = true) :
    lexRun ⟨.bv2 k, out⟩ (w ++ V ++ [e]) = ⟨.bk, (k, v) :: out⟩ := by
  obtain ⟨hws, hbs⟩ : isWs e = false ∧ (e == '\\') = false := by
    have he' := he
    simp only [isEOL, Bool.or_eq_true, beq_iff_eq] at he'
    rcases he' with h | h <;> subst h <;> exact ⟨by decide, by decide⟩
  have hfin : ∀ acc, step ⟨.val k acc, out⟩ e = ⟨.bk, (k, acc.reverse) :: out⟩ := fun acc => by
    simp [step, stepVal, hbs, he]
  rw [List.append_assoc, lexRun_skip ⟨.bv2 k, out⟩ w _ (fun x hx => by simp [step, hw x hx])]
  cases V with
  | nil =>
    obtain rfl : v = [] := hs.elim (fun h => nomatch h) (·.2)
    rw [List.nil_append, lexRun_cons, lexRun_nil, step_bv2_notWs k out e hws, hfin]; rfl
  | cons c t =>
    have hc : isWs c = false := hs.elim (fun h => by simpa [headNotWs] using h) (fun h => nomatch h.1)
    have : lexRun ⟨.bv2 k, out⟩ (c :: t ++ [e]) = lexRun ⟨.val k [], out⟩ (c :: t ++ [e]) := by
      simp only [List.cons_append, lexRun_cons, step_bv2_notWs k out c hc]
    rw [this, lexRun_append, hV, lexRun_cons, lexRun_nil, hfin]; simp

theorem Spells.ofPlain (k : Str) (h : ∀ c ∈ k, plainKeyChar c = true) : Spells .key k k := by
  have := Spells.flatMap (mk := .key) (fun c => [c]) k fun c hc => by
    have hp := h c hc
    simp only [plainKeyChar, Bool.and_eq_true, Bool.not_eq_true', bne_iff_ne, ne_eq] at hp
    exact Spells.keyPlain c hp.2 hp.1
  simpa using this

theorem startsKey_wfkey (k : Str) (hk : WFkey k) : startsKey k = true := by
  cases k with
  | nil => exact absurd rfl hk.ne_nil
  | cons c r =>
    obtain ⟨h1, h2, h3⟩ := isWordChar_facts c hk.1
    simp [startsKey, h1, h2, h3]

theorem headNotWs_doubleBs (v : Str) : headNotWs (doubleBs v) = headNotWs v := by
  cases v with
  | nil => rfl
  | cons c r => by_cases h : c = '\\' <;> simp [doubleBs, headNotWs, h]

theorem Spells.doubleBs (k v : Str) (h : ∀ c ∈ v, isEOL c = false) : Spells (.val k) (Conf.doubleBs v) v := by
  fun_induction Conf.doubleBs v with
  | case1 => exact .nil
  | case2 c r hb ih =>
    obtain rfl : c = '\\' := by simpa using hb
    exact (Spells.valEsc k '\\' (by decide) (by decide)).append (ih fun x hx => h x (List.mem_cons_of_mem _ hx))
  | case3 c r hb ih =>
    exact (Spells.valPlain k c (by simpa using hb) (h c (by simp))).append (ih fun x hx => h x (List.mem_cons_of_mem _ hx))
theorem NoAdjBs_cons (c : Char) (r : Str) (h : ∀ r', c = '\\' → r = '\\' :: r' → False) :
    NoAdjBs (c :: r) ↔ NoAdjBs r := iff_of_eq (NoAdjBs.eq_2 c r h)

theorem collapseBs_length (v : Str) : (collapseBs v).length ≤ v.length := by
  induction v using collapseBs.induct with
  | case1 r ih => simp only [collapseBs, List.length_cons]; omega
  | case2 d r hne ih => rw [collapseBs_cons d r hne]; exact Nat.succ_le_succ ih
  | case3 => exact Nat.le_refl _

/-- collapsing changes a string exactly when it has two adjacent backslashes (it gets shorter) -/
theorem collapseBs_eq_iff (v : Str) : collapseBs v = v ↔ NoAdjBs v := by
  induction v using collapseBs.induct with
  | case1 r ih =>
    refine ⟨fun h => ?_, fun h => h.elim⟩
    have := collapseBs_length r
    have hl := congrArg List.length h
    simp only [collapseBs, List.length_cons] at hl
    omega
  | case2 d r hne ih =>
    rw [collapseBs_cons d r hne, NoAdjBs_cons d r hne, ← ih]
    exact ⟨fun h => (List.cons.inj h).2, fun h => by rw [h]⟩
  | case3 => exact ⟨fun _ => trivial, fun _ => rfl⟩

theorem collapseBs_id (v : Str) (h : NoAdjBs v) : collapseBs v = v := (collapseBs_eq_iff v).mpr h

theorem lexRun_key_eq (k rest : Str) (out : KV) (hk : WFkey k) :
    lexRun ⟨.bk, out⟩ (k ++ '=' :: rest) = lexRun ⟨.bv2 k, out⟩ rest := by
  simpa using lex_key_part [] k k [] rest out (fun _ h => nomatch h) (.ofPlain k hk.2) (startsKey_wfkey k hk)
    hk.ne_nil (fun _ h => nomatch h)

-- the blanks of the usual hand-written shape `key = value`
def blanks (n : Nat) : Str := List.replicate n ' '

theorem lexRun_bv2_blanks (k : Str) (out : KV) (n : Nat) (rest : Str) :
    lexRun ⟨.bv2 k, out⟩ (blanks n ++ rest) = lexRun ⟨.bv2 k, out⟩ rest :=
  lexRun_skip _ _ _ fun x hx => by rw [(List.mem_replicate.mp hx).2]; rfl

theorem lexRun_key_blanks_eq (k rest : Str) (out : KV) (a : Nat) (hk : WFkey k) :
    lexRun ⟨.bk, out⟩ (k ++ blanks a ++ '=' :: rest) = lexRun ⟨.bv2 k, out⟩ rest :=
  lex_key_part [] k k (blanks a) rest out (fun _ h => nomatch h) (.ofPlain k hk.2) (startsKey_wfkey k hk) hk.ne_nil
    fun c hc => by rw [(List.mem_replicate.mp hc).2]; rfl

theorem lexRun_bv2_value (k v : Str) (out : KV) (hv : WFval v) :
    lexRun ⟨.bv2 k, out⟩ (escValue v ++ ['\n']) = ⟨.bk, (k, v) :: out⟩ := by
  obtain ⟨_, heol, hadj, hhead⟩ := hv
  rw [escValue, collapseBs_id v hadj]
  exact lex_value_part [] (doubleBs v) v k '\n' out (fun _ h => nomatch h) (.doubleBs k v heol)
    (.inl (by rw [headNotWs_doubleBs]; exact hhead)) (by decide)

theorem lexRun_renderKV (k v : Str) (out : KV) (hk : WFkey k) (hv : WFval v) :
    lexRun ⟨.bk, out⟩ (renderKV k v ++ ['\n']) = ⟨.bk, (k, v) :: out⟩ := by
  simp only [renderKV, List.append_assoc, List.cons_append]
  rw [lexRun_key_eq k _ out hk, lexRun_bv2_value k v out hv]

end Conf
