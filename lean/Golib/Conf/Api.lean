/-
  Golib.Conf.Api — the remaining exported methods of FileConfig: where the configuration file is
  (GetWhatapHome / GetConfFile), the two public stores into the map (ApplyDefault, ApplyConfig),
  the dump (String / ToString) and InArray.
-/
import Golib.Conf.Reload
import Golib.Conf.ReloadLemmas

namespace Conf

/-- `GetWhatapHome`: the WithHomePath option, else $WHATAP_HOME, else "." -/
def whatapHome (homeOpt envHome : Str) : Str :=
  if !homeOpt.isEmpty then homeOpt else if envHome.isEmpty then ['.'] else envHome

/-- `GetConfFile` before `filepath.Join`: (directory, file name).  $WHATAP_CONFIG_HOME overrides the
    home, $WHATAP_CONFIG the name "whatap.conf" -/
def confFileParts (homeOpt envHome envConfHome envConfName : Str) : Str × Str :=
  (if !envConfHome.isEmpty then envConfHome else whatapHome homeOpt envHome,
   if envConfName.isEmpty then "whatap.conf".toList else envConfName)

/-- `ApplyDefault`: every entry of the table is stored (empty values included) -/
def applyDefault (c : Cfg) : Cfg := { c with m := reload.applyMergeAll c.m defaults }

/-- `FileConfig.ApplyConfig(m)`: every entry of the caller's map is stored, empty values included
    (unlike `apply`, which skips them) -/
def applyConfig (c : Cfg) (kvs : KV) : Cfg := { c with m := reload.applyMergeAll c.m kvs }

/-- `String()`: one line `key=value` per entry, the value as stored (not trimmed); the order is Go's
    map order (the harness compares the lines as a multiset) -/
def showLines (m : KV) : List Str := m.map (fun kv => kv.1 ++ '=' :: kv.2)
def showCfg (m : KV) : Str := (showLines m).flatMap (· ++ ['\n'])

/-- `InArray(str, list)`: equal after `strings.TrimSpace` on both sides -/
def inArray (s : Str) (list : List Str) : Bool := list.any (fun it => trimSpace s == trimSpace it)

/-- A table of string literals turned into character lists keeps what holds of its keys as strings, since
    `String.toList` is injective: no key twice; a string that is no key is no key.  So the facts about the
    defaults table below compare the literals as strings; turning them into character lists inside the
    kernel is what would cost. -/
theorem keys_of_strings (t : List (String × String)) :
    ((t.map (·.1)).Nodup → KeysNodup (t.map fun p => (p.1.toList, p.2.toList))) ∧
    ∀ s, s ∉ t.map (·.1) → ∀ p ∈ t.map (fun p => (p.1.toList, p.2.toList)), p.1 ≠ s.toList := by
  refine ⟨fun h => ?_, fun s hs p hp e => ?_⟩
  · have : keysOf (t.map fun p => (p.1.toList, p.2.toList)) = (t.map (·.1)).map String.toList := by
      simp [keysOf]
    rw [KeysNodup, this]
    exact List.Pairwise.map String.toList (fun a b hab e => hab (String.toList_inj.mp e)) h
  · obtain ⟨q, hq, rfl⟩ := List.mem_map.mp hp
    exact hs (List.mem_map.mpr ⟨q, hq, String.toList_inj.mp e⟩)

theorem keysNodup_defaults : KeysNodup defaults := (keys_of_strings _).1 (by decide +kernel)

/-- "k", the key the witnesses of Props/C18 use, is not in the table -/
theorem lookup_defaults_k (m : KV) : lookup (reload.applyMergeAll m defaults) ['k'] = lookup m ['k'] :=
  lookup_mergeAll_skip m defaults ['k'] ((keys_of_strings _).2 "k" (by decide +kernel))

end Conf
