/-
  Golib.Conf.ObsHist — observer registries over arbitrary histories of registrations,
  replacements and notification rounds, including a registration made from inside a callback.

  `runReg name id visited` is a round during which some callback calls `Add(name, id)`.  Whether
  the entry added while the registry is being ranged over is itself visited in that round is
  unspecified (Go map iteration), hence the flag; from the next round on the new target is an
  ordinary one.
-/
import Golib.Conf.Observers

namespace Conf

inductive ObsOp where
  | add (name : Str) (id : Nat)
  | run
  | runReg (name : Str) (id : Nat) (visited : Bool)
  | runPartial (visited : List Nat)
  deriving Repr, DecidableEq

def Obs.bumpOne (o : Obs) (id : Nat) : Obs :=
  { o with counts := o.counts.map (bump (fun i => i == id)) }

/-- a round cut short: one target panicked in its callback (reload recovers the panic), so only
    the registered targets visited so far — which ones is decided by Go's map iteration order —
    were called; the registry itself is untouched -/
def Obs.runPartial (o : Obs) (ids : List Nat) : Obs :=
  { o with counts := o.counts.map (bump (fun i => o.registered i && ids.contains i)) }

def Obs.step (o : Obs) : ObsOp → Obs
  | .add n i => o.add n i
  | .run => o.run
  | .runReg n i v => let o1 := (o.run).add n i; if v then o1.bumpOne i else o1
  | .runPartial ids => o.runPartial ids

def Obs.exec (o : Obs) (ops : List ObsOp) : Obs := ops.foldl Obs.step o

def regHas (reg : List (Str × Nat)) (id : Nat) : Bool := reg.any (fun p => p.2 == id)

/-- the specification: a target is called once in every round at which it is registered (plus
    possibly once in the round in which a callback registered it) -/
def callsSpec (reg : List (Str × Nat)) : List ObsOp → Nat → Nat
  | [], _ => 0
  | .add n i :: r, id => callsSpec (regPut reg n i) r id
  | .run :: r, id => (if regHas reg id then 1 else 0) + callsSpec reg r id
  | .runReg n i v :: r, id =>
    (if regHas reg id then 1 else 0) + (if v && i == id then 1 else 0) + callsSpec (regPut reg n i) r id
  | .runPartial ids :: r, id => (if regHas reg id && ids.contains id then 1 else 0) + callsSpec reg r id

/-- every registered target has a counter -/
def Obs.WF (o : Obs) : Prop := ∀ p ∈ o.reg, o.counts.any (fun q => q.1 == p.2) = true

theorem mem_regPut (reg : List (Str × Nat)) (n : Str) (i : Nat) (p : Str × Nat) (h : p ∈ regPut reg n i) :
    p ∈ reg ∨ p.2 = i := by
  fun_induction regPut reg n i with
  | case1 n i => exact .inr (by simp at h; rw [h])
  | case2 i' r n i =>
    rcases List.mem_cons.mp h with e | e
    · exact .inr (by rw [e])
    · exact .inl (List.mem_cons_of_mem _ e)
  | case3 n' i' r n i hn ih =>
    rcases List.mem_cons.mp h with e | e
    · exact .inl (e ▸ List.mem_cons_self)
    · exact (ih e).imp_left (List.mem_cons_of_mem _)

theorem counts_any_add (o : Obs) (n : Str) (i id : Nat) :
    (o.add n i).counts.any (fun q => q.1 == id) = (o.counts.any (fun q => q.1 == id) || i == id) := by
  unfold Obs.add
  simp only []
  split
  · rename_i h
    by_cases e : i = id
    · subst e; simp [h]
    · have : (i == id) = false := by simp [e]
      simp [this]
  · simp [List.any_append]

theorem wf_add (o : Obs) (n : Str) (i : Nat) (h : o.WF) : (o.add n i).WF := by
  intro p hp
  rw [counts_any_add]
  rcases mem_regPut o.reg n i p hp with e | e
  · simp [h p e]
  · simp [e]

/-- bumping counters adds and removes none -/
theorem wf_map_bump (o : Obs) (f : Nat → Bool) (h : o.WF) : Obs.WF { o with counts := o.counts.map (bump f) } := by
  intro p hp
  rw [List.any_map]
  exact h p hp

theorem wf_step (o : Obs) (op : ObsOp) (h : o.WF) : (o.step op).WF := by
  cases op with
  | runPartial ids => exact wf_map_bump o _ h
  | add n i => exact wf_add o n i h
  | run => exact wf_map_bump o _ h
  | runReg n i v =>
    simp only [Obs.step]
    split
    · exact wf_map_bump _ _ (wf_add _ n i (wf_map_bump o _ h))
    · exact wf_add _ n i (wf_map_bump o _ h)

theorem count_add (o : Obs) (n : Str) (i id : Nat) : (o.add n i).count id = o.count id := by
  unfold Obs.count Obs.add
  simp only []
  by_cases hany : (o.counts.any fun p => p.1 == i) = true
  · simp only [hany, if_true]
  · simp only [hany, Bool.false_eq_true, if_false]
    rw [List.find?_append]
    cases hf : o.counts.find? (fun p => p.1 == id) with
    | some p => rfl
    | none =>
      simp only [Option.none_or, List.find?_cons]
      by_cases e : i = id
      · subst e; simp
      · have : (i == id) = false := by simp [e]
        simp [this]

theorem registered_known (o : Obs) (id : Nat) (h : o.WF) (hr : o.registered id = true) :
    o.counts.any (fun q => q.1 == id) = true := by
  simp only [Obs.registered, List.any_eq_true] at hr
  obtain ⟨p, hp, e⟩ := hr
  have := h p hp
  have e' : p.2 = id := by simpa using e
  rw [e'] at this; exact this

/-- a round over the targets selected by `f`, all of them registered: one more call for exactly those -/
theorem count_round (o : Obs) (f : Nat → Bool) (id : Nat) (h : o.WF) (hf : f id = true → o.registered id = true) :
    ({ o with counts := o.counts.map (bump f) } : Obs).count id = o.count id + if f id then 1 else 0 := by
  rw [count_map_bump]
  cases hfi : f id with
  | false => rfl
  | true => simp [registered_known o id h (hf hfi)]

/-- for every history of registrations, replacements and rounds (with or without a registration
    from inside a callback): each target was called exactly as often as the specification says -/
theorem exec_count (o : Obs) (ops : List ObsOp) (id : Nat) (h : o.WF) :
    (o.exec ops).count id = o.count id + callsSpec o.reg ops id := by
  induction ops generalizing o with
  | nil => rfl
  | cons op r ih =>
    have := ih (o.step op) (wf_step o op h)
    simp only [Obs.exec, List.foldl_cons] at this ⊢
    rw [this]
    have hrun : (o.run).count id = o.count id + if regHas o.reg id then 1 else 0 :=
      count_round o o.registered id h (fun e => e)
    cases op with
    | add n i => simp only [Obs.step, count_add, callsSpec]; rfl
    | run =>
      show (o.run).count id + callsSpec o.reg r id = _
      rw [hrun, callsSpec, Nat.add_assoc]
    | runPartial ids =>
      show (o.runPartial ids).count id + callsSpec o.reg r id = _
      have : (o.runPartial ids).count id = _ :=
        count_round o (fun i => o.registered i && ids.contains i) id h (fun e => (Bool.and_eq_true_iff.mp e).1)
      rw [this, callsSpec, Nat.add_assoc]; rfl
    | runReg n i v =>
      have hadd : ((o.run).add n i).count id = _ := (count_add _ n i id).trans hrun
      cases v with
      | false =>
        show ((o.run).add n i).count id + callsSpec (regPut o.reg n i) r id = _
        rw [hadd, callsSpec]; simp only [Bool.false_and, Bool.false_eq_true, if_false]; omega
      | true =>
        show (((o.run).add n i).bumpOne i).count id + callsSpec (regPut o.reg n i) r id = _
        -- the target just registered has a counter, so the extra call of the flag is counted
        have hb : (((o.run).add n i).bumpOne i).count id = _ :=
          count_map_bump ((o.run).add n i) (fun j => j == i) id
        rw [hb, counts_any_add, hadd, callsSpec]
        by_cases e : i = id
        · subst e; simp; omega
        · have e1 : (i == id) = false := by simp [e]
          have e2 : (id == i) = false := by simp; exact fun h => e h.symm
          simp only [e1, e2, Bool.false_and, Bool.and_false, Bool.false_eq_true, if_false]; omega

end Conf
