/-
  Golib.Conf.WriteLemmas — what the write-back theorem is stated over: well-formed lines and
  files (`WFLine`, `WFprops`, `PropsWF`), the line-by-line description of what
  DefaultFileParser.Write produces (`outLine`, `outInfos`, `appendedInfos`), and that it is
  well-formed again (`outInfos_wf`).  The merge is `writeModel_merge` (WriteMerge.lean); order
  and appended keys are `kv_order_preserved`, `appended_keys` (WriteMerge.lean).
-/
import Golib.Conf.LexLemmas
import Golib.Conf.ReloadLemmas

namespace Conf

/-- a physical line together with what the lexer makes of it: nothing, or one (key, value) -/
abbrev LineInfo := Str × Option (Str × Str)

def NoBreak (l : Str) : Prop := ∀ c ∈ l, c ≠ '\n' ∧ c ≠ '\r'

/-- comment lines, blank lines — and any other line without '=' that yields no item -/
def SkipLine (l : Str) : Prop :=
  NoBreak l ∧ (l.contains '=' = false ∨ isCommentLine l = true) ∧
  ∀ out, lexRun ⟨.bk, out⟩ (l ++ ['\n']) = ⟨.bk, out⟩

/-- a line the lexer reads as exactly (k, pv) and whose text before '=' is k -/
def KVLine (l k pv : Str) : Prop :=
  NoBreak l ∧ l.contains '=' = true ∧ isCommentLine l = false ∧
  trimBlank (beforeEq l) = k ∧ WFkey k ∧ (pv = [] ∨ WFval pv) ∧
  ∀ out, lexRun ⟨.bk, out⟩ (l ++ ['\n']) = ⟨.bk, (k, pv) :: out⟩

def WFLine (li : LineInfo) : Prop :=
  match li.2 with
  | none => SkipLine li.1
  | some (k, pv) => KVLine li.1 k pv

def WFprops (infos : List LineInfo) : Prop := ∀ li ∈ infos, WFLine li

def textOf (infos : List LineInfo) : Str := joinLines (infos.map (·.1))
def pairsOf (infos : List LineInfo) : KV := infos.filterMap (·.2)

def PropsWF (m : KV) : Prop := ∀ p ∈ m, WFkey p.1 ∧ (p.2 = [] ∨ WFval p.2)

theorem splitLines_line (l rest : Str) (h : NoBreak l) :
    splitLines (l ++ '\n' :: rest) = l :: splitLines rest := by
  induction l with
  | nil => simp [splitLines]
  | cons c t ih =>
    have hc := h c (by simp)
    have ht : NoBreak t := fun x hx => h x (List.mem_cons_of_mem _ hx)
    have e := ih ht
    rw [List.cons_append, splitLines_cons_other c _ hc.1 (fun _ e _ => hc.2 e), e]

theorem splitLines_joinLines (ls : List Str) (h : ∀ l ∈ ls, NoBreak l) : splitLines (joinLines ls) = ls := by
  induction ls with
  | nil => simp [joinLines, splitLines]
  | cons l r ih =>
    have : joinLines (l :: r) = l ++ '\n' :: joinLines r := by simp [joinLines]
    rw [this, splitLines_line l _ (h l (by simp)), ih (fun x hx => h x (List.mem_cons_of_mem _ hx))]

theorem wfline_nobreak (li : LineInfo) (h : WFLine li) : NoBreak li.1 := by
  obtain ⟨l, o⟩ := li
  cases o with
  | none => exact h.1
  | some p => obtain ⟨k, pv⟩ := p; exact h.1

theorem lexRun_textOf (infos : List LineInfo) (out : KV) (h : WFprops infos) :
    lexRun ⟨.bk, out⟩ (textOf infos) = ⟨.bk, (pairsOf infos).reverse ++ out⟩ := by
  induction infos generalizing out with
  | nil => simp [textOf, joinLines, pairsOf, lexRun]
  | cons li r ih =>
    have hr : WFprops r := fun x hx => h x (List.mem_cons_of_mem _ hx)
    have hli := h li (by simp)
    have e : textOf (li :: r) = (li.1 ++ ['\n']) ++ textOf r := by simp [textOf, joinLines]
    rw [e, lexRun_append]
    obtain ⟨l, o⟩ := li
    cases o with
    | none =>
      rw [hli.2.2 out, ih out hr]; simp [pairsOf]
    | some p =>
      obtain ⟨k, pv⟩ := p
      have hl : ∀ out, lexRun ⟨.bk, out⟩ (l ++ ['\n']) = ⟨.bk, (k, pv) :: out⟩ := hli.2.2.2.2.2.2
      simp only []
      rw [hl out, ih _ hr]; simp [pairsOf]

theorem lexPairs_textOf (infos : List LineInfo) (h : WFprops infos) :
    lexPairs (textOf infos) = some (pairsOf infos) := by
  simp [lexPairs, lexRun_textOf infos [] h, finish]

/-- what the loop makes of one line: the line and its item after the rewrite, or nothing -/
def outLine (props : KV) (li : LineInfo) : Option LineInfo :=
  match li.2 with
  | none => some li
  | some (k, _) =>
    let v := (lookup props k).getD []
    if isBlankVal v then none else some (renderKV k v, some (k, v))

theorem writeLine_wf (props : KV) (li : LineInfo) (h : WFLine li) :
    writeLine true props li.1 = ((outLine props li).map (·.1), li.2.map (·.1)) := by
  obtain ⟨l, o⟩ := li
  cases o with
  | none =>
    obtain ⟨_, hc, _⟩ := h
    dsimp only at hc
    have : (!l.contains '=' || (true && isCommentLine l)) = true := by
      rcases hc with hc | hc
      · rw [hc]; rfl
      · rw [hc]; simp
    simp only [writeLine, this, if_true, outLine, Option.map_some, Option.map_none]
  | some p =>
    obtain ⟨k, pv⟩ := p
    obtain ⟨_, h1, h2, h3, h4, _, _⟩ := h
    dsimp only at h1 h2 h3
    have : (!l.contains '=' || (true && isCommentLine l)) = false := by rw [h1, h2]; rfl
    simp only [writeLine, this, Bool.false_eq_true, if_false, h3, h4.1, if_true, outLine]
    split <;> simp

def appendedInfos (props : KV) (oldKeys : List Str) : List LineInfo :=
  props.filterMap (fun kv =>
    if oldKeys.contains kv.1 then none
    else if !isWordStart kv.1 then none
    else if isBlankVal kv.2 then none
    else some (renderKV kv.1 kv.2, some (kv.1, kv.2)))

theorem appendedLines_eq (props : KV) (oldKeys : List Str) :
    appendedLines props oldKeys = (appendedInfos props oldKeys).map (·.1) := by
  unfold appendedLines appendedInfos
  rw [List.map_filterMap]
  congr 1
  funext kv
  split
  · rfl
  · split
    · rfl
    · split <;> rfl

/-- what is appended: a line for every entry without a line whose key may be written and whose value
    is not blank -/
theorem mem_appendedInfos (props : KV) (oldKeys : List Str) (li : LineInfo) :
    li ∈ appendedInfos props oldKeys ↔
      ∃ kv ∈ props, oldKeys.contains kv.1 = false ∧ isWordStart kv.1 = true ∧ isBlankVal kv.2 = false ∧
        li = (renderKV kv.1 kv.2, some (kv.1, kv.2)) := by
  simp only [appendedInfos, List.mem_filterMap]
  constructor
  · rintro ⟨kv, hkv, ho⟩
    cases h1 : oldKeys.contains kv.1 <;> cases h2 : isWordStart kv.1 <;> cases h3 : isBlankVal kv.2 <;>
      simp only [h1, h2, h3, Bool.false_eq_true, if_false, if_true, Bool.not_true, Bool.not_false, reduceCtorEq,
        Option.some.injEq] at ho
    exact ⟨kv, hkv, h1, h2, h3, ho.symm⟩
  · rintro ⟨kv, hkv, h1, h2, h3, rfl⟩
    exact ⟨kv, hkv, by simp only [h1, h2, h3, Bool.false_eq_true, if_false, Bool.not_true]⟩

/-- a key=value line survives the rewrite exactly when the merged map has a non-blank value for its key -/
theorem outLine_kv_eq_some (props : KV) (l k pv : Str) (li : LineInfo) :
    outLine props (l, some (k, pv)) = some li ↔
      ∃ v, lookup props k = some v ∧ isBlankVal v = false ∧ li = (renderKV k v, some (k, v)) := by
  simp only [outLine]
  cases hl : lookup props k with
  | none => simp [show isBlankVal [] = true from rfl]
  | some v =>
    cases hb : isBlankVal v <;> simp [hb]
    exact ⟨fun h => h.symm, fun h => h.symm⟩

def outInfos (props : KV) (infos : List LineInfo) : List LineInfo :=
  infos.filterMap (outLine props) ++ appendedInfos props ((pairsOf infos).map (·.1))

theorem writeLines_wf (props : KV) (infos : List LineInfo) (h : WFprops infos) :
    (writeLines true props (infos.map (·.1))).text = textOf (outInfos props infos) := by
  have hm : (infos.map (·.1)).map (writeLine true props) =
      infos.map (fun li => ((outLine props li).map (·.1), li.2.map (·.1))) := by
    rw [List.map_map]
    apply List.map_congr_left
    intro li hli
    exact writeLine_wf props li (h li hli)
  simp only [writeLines, WriteOut.text, hm, textOf, outInfos, List.map_append]
  congr 2
  · rw [List.filterMap_map, List.map_filterMap]
    congr 1
  · rw [appendedLines_eq]
    congr 2
    rw [List.filterMap_map]
    simp only [pairsOf, List.map_filterMap]
    congr 1

theorem mem_doubleBs (v : Str) (c : Char) (h : c ∈ doubleBs v) : c ∈ v := by
  fun_induction doubleBs v with
  | case1 => cases h
  | case2 d r hd ih =>
    -- both characters written for a backslash are that backslash
    obtain rfl : d = '\\' := by simpa using hd
    simp only [List.mem_cons] at h ⊢
    exact h.elim .inl fun h => h.elim .inl fun h => .inr (ih h)
  | case3 d r hd ih =>
    simp only [List.mem_cons] at h ⊢
    exact h.imp_right ih

theorem plainKeyChar_facts (c : Char) (h : plainKeyChar c = true) :
    c ≠ '\n' ∧ c ≠ '\r' ∧ c ≠ '=' ∧ c ≠ ' ' := by
  simp only [plainKeyChar, isEndOfKey, isWs, isEOL, Bool.and_eq_true, Bool.not_eq_true',
    Bool.or_eq_false_iff, beq_eq_false_iff_ne, ne_eq, bne_iff_ne] at h
  exact ⟨h.1.1.1.2.1, h.1.1.1.2.2, h.1.2, h.1.1.1.1.1.1⟩

theorem dropWhile_blanks (n : Nat) (t : Str) :
    (blanks n ++ t).dropWhile (· == ' ') = t.dropWhile (· == ' ') := by
  induction n with
  | zero => rfl
  | succ m ih =>
    have : blanks (m + 1) = ' ' :: blanks m := rfl
    rw [this, List.cons_append, List.dropWhile_cons]
    simp [ih]

theorem trimBlank_key_blanks (k : Str) (a : Nat) (h : ∀ c ∈ k, c ≠ ' ') (hne : k ≠ []) :
    trimBlank (k ++ blanks a) = k := by
  unfold trimBlank trimBy trimRightBy trimLeftBy
  have hl : (k ++ blanks a).dropWhile (· == ' ') = k ++ blanks a := by
    cases k with
    | nil => exact absurd rfl hne
    | cons c r =>
      have := h c (by simp)
      simp [this]
  rw [hl, List.reverse_append]
  have hb : (blanks a).reverse = blanks a := by simp [blanks]
  rw [hb, dropWhile_blanks]
  have : k.reverse.dropWhile (· == ' ') = k.reverse := by
    cases hr : k.reverse with
    | nil => rfl
    | cons c r =>
      have hc : c ∈ k := by
        have : c ∈ k.reverse := by rw [hr]; simp
        exact List.mem_reverse.mp this
      have hcc : (c == ' ') = false := by simp [h c hc]
      simp [List.dropWhile, hcc]
  rw [this, List.reverse_reverse]

theorem noBreak_escValue (v : Str) (hv : WFval v) : NoBreak (escValue v) := by
  intro c hc
  rw [escValue, collapseBs_id v hv.2.2.1] at hc
  simpa [isEOL] using hv.2.1 c (mem_doubleBs v c hc)

/-- any spelling `raw` of the value that the lexer reads as `pv` (from right after the separator)
    gives a well-formed key=value line -/
theorem kvline_of_raw (k raw pv : Str) (a : Nat) (hk : WFkey k) (hpv : pv = [] ∨ WFval pv)
    (hraw : NoBreak raw)
    (hlex : ∀ out, lexRun ⟨.bv2 k, out⟩ (raw ++ ['\n']) = ⟨.bk, (k, pv) :: out⟩) :
    KVLine (k ++ blanks a ++ '=' :: raw) k pv := by
  have hkc : ∀ c ∈ k, c ≠ '\n' ∧ c ≠ '\r' ∧ c ≠ '=' ∧ c ≠ ' ' := fun c hc => plainKeyChar_facts c (hk.2 c hc)
  have hblk : ∀ n, ∀ c ∈ blanks n, c = ' ' := by
    intro n c hc; simp [blanks] at hc; exact hc.2
  have hkne : k ≠ [] := hk.ne_nil
  refine ⟨?_, ?_, ?_, ?_, hk, hpv, ?_⟩
  · intro c hc
    simp only [List.mem_append, List.mem_cons] at hc
    rcases hc with (hc | hc) | hc | hc
    · exact ⟨(hkc c hc).1, (hkc c hc).2.1⟩
    · rw [hblk a c hc]; decide
    · subst hc; decide
    · exact hraw c hc
  · simp
  · cases k with
    | nil => exact absurd rfl hkne
    | cons c r =>
      have hw : isWordChar c = true := by simpa [isWordStart] using hk.1
      obtain ⟨_, h2, h3⟩ := isWordChar_facts c hw
      simp [isCommentLine, h2, h3]
  · have hb : beforeEq (k ++ blanks a ++ '=' :: raw) = k ++ blanks a := by
      unfold beforeEq
      rw [List.takeWhile_append_of_pos, List.takeWhile_cons_of_neg (by simp), List.append_nil]
      intro y hy
      rcases List.mem_append.mp hy with h1 | h1
      · simp [(hkc y h1).2.2.1]
      · rw [hblk a y h1]; decide
    rw [hb]
    exact trimBlank_key_blanks k a (fun c hc => (hkc c hc).2.2.2) hkne
  · intro out
    have e : k ++ blanks a ++ '=' :: raw ++ ['\n'] = k ++ blanks a ++ '=' :: (raw ++ ['\n']) := by simp
    rw [e, lexRun_key_blanks_eq k _ out a hk]
    exact hlex out

theorem renderKV_kvline (k v : Str) (hk : WFkey k) (hv : WFval v) : KVLine (renderKV k v) k v := by
  have := kvline_of_raw k (escValue v) v 0 hk (Or.inr hv) (noBreak_escValue v hv) (fun out => lexRun_bv2_value k v out hv)
  simpa [blanks, renderKV] using this

theorem wfval_of_nonblank (v : Str) (h : v = [] ∨ WFval v) (hb : isBlankVal v = false) : WFval v := by
  rcases h with h | h
  · subst h; simp [isBlankVal, trimSpace, trimBy, trimRightBy, trimLeftBy] at hb
  · exact h

theorem outInfos_wf (props : KV) (infos : List LineInfo) (h : WFprops infos) (hp : PropsWF props) :
    WFprops (outInfos props infos) := by
  intro li hli
  simp only [outInfos, List.mem_append, List.mem_filterMap] at hli
  rcases hli with ⟨⟨l, o⟩, hsrc, ho⟩ | hli
  · cases o with
    | none => obtain rfl := Option.some.inj ho; exact h _ hsrc
    | some p =>
      obtain ⟨v, hl, hb, rfl⟩ := (outLine_kv_eq_some props l p.1 p.2 li).mp ho
      have hkv : KVLine l p.1 p.2 := h _ hsrc
      exact renderKV_kvline p.1 v hkv.2.2.2.2.1
        (wfval_of_nonblank v (hp _ (mem_of_lookup props p.1 v hl)).2 hb)
  · obtain ⟨kv, hkv, _, _, hb, rfl⟩ := (mem_appendedInfos props _ li).mp hli
    exact renderKV_kvline kv.1 kv.2 (hp _ hkv).1 (wfval_of_nonblank kv.2 (hp _ hkv).2 hb)

end Conf
