/-
  Golib.Conf.FullGrammar — every (key, value) with a non-empty key is expressible in the
  properties syntax: a canonical renderer (escapes `\ `, `\:`, `\=`, `\\`, `\#`, `\!`, `\t`, `\n`,
  `\r`, `\f` in keys; `\ `, `\\`, `\t`, `\n`, `\r`, `\f` in values) and the round trip
  parse ∘ render = id for all keys and values, all characters included.
-/
import Golib.Conf.LexLemmas

namespace Conf

def escKeyChar (c : Char) : Str :=
  if c == '\t' then ['\\', 't'] else if c == '\n' then ['\\', 'n'] else if c == '\r' then ['\\', 'r']
  else if c == '\x0c' then ['\\', 'f']
  else if c == ' ' || c == ':' || c == '=' || c == '\\' || c == '#' || c == '!' then ['\\', c]
  else [c]

def escValChar (c : Char) : Str :=
  if c == '\t' then ['\\', 't'] else if c == '\n' then ['\\', 'n'] else if c == '\r' then ['\\', 'r']
  else if c == '\x0c' then ['\\', 'f']
  else if c == ' ' || c == '\\' then ['\\', c]
  else [c]

def renderKeyFull (k : Str) : Str := k.flatMap escKeyChar
def renderValFull (v : Str) : Str := v.flatMap escValChar
def renderLineFull (k v : Str) : Str := renderKeyFull k ++ '=' :: renderValFull v

/-- an escaped character is a backslash and a character that `unescape` takes back (never 'u', which
    would start `\uXXXX`); an unescaped one ends no key and starts no comment -/
theorem escKeyChar_spec (c : Char) :
    (∃ e, escKeyChar c = ['\\', e] ∧ e ≠ 'u' ∧ unescape e = c) ∨
    (escKeyChar c = [c] ∧ c ≠ '\\' ∧ isEndOfKey c = false ∧ isCommentStart c = false) := by
  by_cases h1 : c = '\t'
  · subst h1; exact .inl ⟨'t', rfl, by decide, by decide⟩
  by_cases h2 : c = '\n'
  · subst h2; exact .inl ⟨'n', rfl, by decide, by decide⟩
  by_cases h3 : c = '\r'
  · subst h3; exact .inl ⟨'r', rfl, by decide, by decide⟩
  by_cases h4 : c = '\x0c'
  · subst h4; exact .inl ⟨'f', rfl, by decide, by decide⟩
  by_cases h5 : c = ' ' ∨ c = ':' ∨ c = '=' ∨ c = '\\' ∨ c = '#' ∨ c = '!'
  · rcases h5 with h | h | h | h | h | h <;> subst h <;> exact .inl ⟨_, rfl, by decide, by decide⟩
  · simp only [not_or] at h5
    exact .inr ⟨by simp [escKeyChar, *], h5.2.2.2.1, by simp [isEndOfKey, isWs, isEOL, *],
      by simp [isCommentStart, *]⟩

theorem escValChar_spec (c : Char) :
    (∃ e, escValChar c = ['\\', e] ∧ e ≠ 'u' ∧ isEOL e = false ∧ unescape e = c) ∨
    (escValChar c = [c] ∧ c ≠ '\\' ∧ isEOL c = false ∧ isWs c = false) := by
  by_cases h1 : c = '\t'
  · subst h1; exact .inl ⟨'t', rfl, by decide, by decide, by decide⟩
  by_cases h2 : c = '\n'
  · subst h2; exact .inl ⟨'n', rfl, by decide, by decide, by decide⟩
  by_cases h3 : c = '\r'
  · subst h3; exact .inl ⟨'r', rfl, by decide, by decide, by decide⟩
  by_cases h4 : c = '\x0c'
  · subst h4; exact .inl ⟨'f', rfl, by decide, by decide, by decide⟩
  by_cases h5 : c = ' ' ∨ c = '\\'
  · rcases h5 with h | h <;> subst h <;> exact .inl ⟨_, rfl, by decide, by decide, by decide⟩
  · simp only [not_or] at h5
    exact .inr ⟨by simp [escValChar, *], h5.2, by simp [isEOL, *], by simp [isWs, *]⟩

theorem Spells.renderKeyFull (k : Str) : Spells .key (renderKeyFull k) k :=
  Spells.flatMap escKeyChar k fun c _ => by
    rcases escKeyChar_spec c with ⟨e, h, hu, hun⟩ | ⟨h, hb, he, _⟩ <;> rw [h]
    · exact hun ▸ Spells.keyEsc e hu
    · exact Spells.keyPlain c hb he

theorem Spells.renderValFull (k v : Str) : Spells (.val k) (renderValFull v) v :=
  Spells.flatMap escValChar v fun c _ => by
    rcases escValChar_spec c with ⟨e, h, hu, he, hun⟩ | ⟨h, hb, he, _⟩ <;> rw [h]
    · exact hun ▸ Spells.valEsc k e hu he
    · exact Spells.valPlain k c hb he

theorem escValChar_noEOL (d : Char) : ∀ c ∈ escValChar d, isEOL c = false := by
  rcases escValChar_spec d with ⟨e, h, _, he, _⟩ | ⟨h, _, he, _⟩ <;> rw [h] <;> intro c hc <;>
    simp only [List.mem_cons, List.not_mem_nil, or_false] at hc
  · rcases hc with rfl | rfl
    · decide
    · exact he
  · rw [hc]; exact he

/-- the first character of a rendered key is a backslash or a character that ends no key and starts no comment -/
theorem startsKey_renderKeyFull (k : Str) (hk : k ≠ []) : startsKey (renderKeyFull k) = true := by
  cases k with
  | nil => exact absurd rfl hk
  | cons c r =>
    simp only [renderKeyFull, List.flatMap_cons]
    rcases escKeyChar_spec c with ⟨e, h, _⟩ | ⟨h, _, he, hc⟩ <;> rw [h]
    · rfl
    · simp only [isEndOfKey, Bool.or_eq_false_iff] at he
      simp [startsKey, he.1.1.2, he.1.1.1, hc]

/-- the rendered value starts with a backslash or an unescaped non-blank -/
theorem renderValFull_head (v : Str) : headNotWs (renderValFull v) = true ∨ renderValFull v = [] ∧ v = [] := by
  cases v with
  | nil => exact .inr ⟨rfl, rfl⟩
  | cons d s =>
    simp only [renderValFull, List.flatMap_cons]
    rcases escValChar_spec d with ⟨e, hd, _⟩ | ⟨hd, _, _, hw⟩ <;> rw [hd]
    · exact .inl rfl
    · exact .inl (by show (!isWs d) = true; rw [hw]; rfl)

theorem lexRun_bv2_renderValFull (k v : Str) (out : KV) :
    lexRun ⟨.bv2 k, out⟩ (renderValFull v ++ ['\n']) = ⟨.bk, (k, v) :: out⟩ :=
  lex_value_part [] _ v k '\n' out (fun _ h => nomatch h) (.renderValFull k v) (renderValFull_head v) (by decide)

/-- **parse ∘ render = id**: the rendered line of any key (non-empty) and any value lexes to
    exactly that pair -/
theorem lex_render_full (k v : Str) (hk : k ≠ []) (out : KV) :
    lexRun ⟨.bk, out⟩ (renderLineFull k v ++ ['\n']) = ⟨.bk, (k, v) :: out⟩ := by
  have e : renderLineFull k v ++ ['\n'] = [] ++ renderKeyFull k ++ [] ++ '=' :: (renderValFull v ++ ['\n']) := by
    simp [renderLineFull]
  rw [e, lex_key_part [] _ k [] _ out (fun _ h => nomatch h) (.renderKeyFull k) (startsKey_renderKeyFull k hk) hk
    (fun _ h => nomatch h), lexRun_bv2_renderValFull]

def renderFileFull (pairs : KV) : Str := pairs.flatMap (fun p => renderLineFull p.1 p.2 ++ ['\n'])

theorem lexRun_renderFileFull (pairs : KV) (out : KV) (h : ∀ p ∈ pairs, p.1 ≠ []) :
    lexRun ⟨.bk, out⟩ (renderFileFull pairs) = ⟨.bk, pairs.reverse ++ out⟩ := by
  induction pairs generalizing out with
  | nil => rfl
  | cons p r ih =>
    simp only [renderFileFull, List.flatMap_cons] at ih ⊢
    rw [lexRun_append, lex_render_full p.1 p.2 (h p (by simp)), ih _ (fun q hq => h q (List.mem_cons_of_mem _ hq))]
    simp

end Conf
