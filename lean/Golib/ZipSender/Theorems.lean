/-
  Golib.ZipSender.Theorems — what the property file C16 refers to beyond the histories:
  the receiver's assumptions and decoding (`Unzip`, `Decoder`, `Decoder.ofP`, `readN`, `decodePack`,
  `decode_built`), what `stop` does (`stop_stopped`, `stop_flushes`, `stop_drains`,
  `all_emitted_at_stop`), `view_at_handover`, and two facts about GetInstance's settings
  (`applyAssign_guarded`, `resolve_found`).
-/
import Golib.ZipSender.History

namespace ZipSender

open Prim (encMany decMany)

variable {ρ : Type}

/-- gzip is assumed lossless: `UnZip (DoZip b) = b` -/
structure Unzip (Z : Zip) where
  unzip : Bytes → Option Bytes
  rt : ∀ b, unzip (Z.zip b) = some b

/-- a decoder for the record codec: reading an encoded record delivers an *observation* of it
    (`obs r`: the record itself for a hand-made codec, the carried fields for the LogSinkPack
    layout of C03) and leaves exactly what followed.  `wf` are the writer's explicit guards. -/
structure Decoder (C : Codec ρ) where
  O : Type
  dec : Bytes → Option (O × Bytes)
  obs : ρ → O
  wf : ρ → Prop
  rt : ∀ r rest, wf r → dec (C.enc r ++ rest) = some (obs r, rest)

/-- a decoder written in the parser monad that returns the record itself -/
def Decoder.ofP {C : Codec ρ} (dec : P ρ) (wf : ρ → Prop)
    (rt : ∀ r rest, wf r → P.run dec (C.enc r ++ rest) = some (r, rest)) : Decoder C :=
  { O := ρ, dec := P.run dec, obs := id, wf := wf, rt := rt }

/-- `for i := 0; i < RecordCount; i++ { ReadPack(in) }` -/
def readN (dec : Bytes → Option (α × Bytes)) : Nat → Bytes → Option (List α × Bytes)
  | 0, bs => some ([], bs)
  | n + 1, bs =>
    match dec bs with
    | none => none
    | some (a, r) =>
      match readN dec n r with
      | none => none
      | some (as, r') => some (a :: as, r')

theorem readN_encMany {C : Codec ρ} (D : Decoder C) (rs : List ρ) (rest : Bytes) (h : ∀ r ∈ rs, D.wf r) :
    readN D.dec rs.length (encMany C.enc rs ++ rest) = some (rs.map D.obs, rest) := by
  induction rs with
  | nil => rfl
  | cons r rs ih =>
    simp only [List.length_cons, readN, encMany, List.append_assoc, List.map_cons]
    rw [D.rt r _ (h r (by simp))]
    simp only []
    rw [ih (fun q hq => h q (by simp [hq]))]

/-- what a receiver does with a pack: decompress when flagged, then read `count` records -/
def decodePack {Z : Zip} {C : Codec ρ} (U : Unzip Z) (D : Decoder C) (p : Pack ρ) : Option (List D.O × Bytes) :=
  (if p.zipped then U.unzip p.payload else some p.payload).bind (fun raw => readN D.dec p.count raw)

/-- what a receiver has after undoing the compression flag of a built pack: the raw bytes -/
theorem Unzip.raw {Z : Zip} (U : Unzip Z) (z : Bool) (b : Bytes) :
    (if z then U.unzip (if z then Z.zip b else b) else some (if z then Z.zip b else b)) = some b := by
  cases z <;> simp [U.rt]

theorem decode_built {v : Variant} {Z : Zip} {C : Codec ρ} (U : Unzip Z) (D : Decoder C) {st : Settings} {p : Pack ρ}
    (hb : Built v Z C st p) (hc : p.count = p.recs.length) (hw : ∀ r ∈ p.recs, D.wf r) :
    decodePack U D p = some (p.recs.map D.obs, []) := by
  unfold decodePack
  rw [hb.payload, U.raw, Option.bind_some, hc]
  simpa using readN_encMany D p.recs [] hw

section
variable (v : Variant) (Z : Zip) (C : Codec ρ)

theorem stop_stopped (s : State ρ) : (stop v Z C s).1.stopped = true := by
  cases hs : s.stopped
  · rw [stop_eq v Z C s hs]
  · rw [(stopped_inert v Z C s hs).2]; exact hs

theorem stop_flushes (s : State ρ) (hr : v.sound = true) (hs : s.stopped = false) : (stop v Z C s).1.bufLen = 0 := by
  rw [stop_eq v Z C s hs]; exact sendAndClear_bufLen v Z C hr _

theorem stop_drains (hv : v.drainOnStop = true) (s : State ρ) (hr : v.sound = true) (hs : s.stopped = false) :
    (stop v Z C s).1.queue = [] := by
  rw [stop_eq v Z C s hs]
  exact ((sendAndClear_op v Z C hr _).queue.trans (by unfold stopDrain; rw [if_pos hv]; exact (drain_op v Z C hr _ _).queue))

/-- after a stop every *serialisable* record the queue accepted or that was appended directly has
    been emitted: the emitted records are the good ones of an order-preserving merge of the two -/
theorem all_emitted_at_stop (hv : v.drainOnStop = true) (hr : v.sound = true) (hne : ∀ r, C.enc r ≠ []) (st : Settings) (ans : List Bool) (h : List (In ρ))
    (hs : (final v Z C (init st ans) h).stopped = false) :
    ∃ fed, Interleave (accepted v Z C (init st ans) (h ++ [.stop])) (directAppends h) fed ∧
      sharedRecs (emitted v Z C (init st ans) (h ++ [.stop])) = good C fed := by
  obtain ⟨deq, fed, h1, h2, h3⟩ := history_feeds v Z C hr (h ++ [.stop]) (init st ans)
  have hf : final v Z C (init st ans) (h ++ [.stop]) = (stop v Z C (final v Z C (init st ans) h)).1 :=
    final_append v Z C h [.stop] _
  have hb := buf_nil_of_len C hne _ (h3.wf (WF_init C st ans)).1 (hf ▸ stop_flushes v Z C _ hr hs)
  have h3 : sharedRecs (emitted v Z C (init st ans) (h ++ [.stop])) ++ (final v Z C (init st ans) (h ++ [.stop])).buf.reverse
      = good C fed := h3.recs
  rw [hf, stop_drains v Z C hv _ hr hs, List.append_nil] at h1
  rw [directAppends_append, show directAppends [In.stop] = ([] : List ρ) from rfl, List.append_nil, h1] at h2
  rw [hb, List.reverse_nil, List.append_nil] at h3
  exact ⟨fed, h2, h3⟩

/-- right after a flush the client sees what it was handed, alias or not -/
theorem view_at_handover (s : State ρ) (hr : v.sound = true) : ∀ p ∈ (sendAndClear v Z C s).2,
    view C (sendAndClear v Z C s).1 p = p.payload := by
  rw [sendAndClear_eq v Z C hr]
  split
  · simp
  · intro p hp
    rw [List.mem_singleton.mp hp]
    unfold flushPack mkPack
    split
    · by_cases hc : v.copyOnHandOver = true
      · simp [view, hc]
      · simp [view, hc, backing, bytesOf, encMany, flushed]
    · simp [view]

end

/-- a guarded assignment from the option struct: a positive option wins, anything else keeps what is there -/
theorem applyAssign_guarded (o p : Settings) (f : Field) :
    applyAssign o p ⟨f, .opt, true⟩ = p.set f (if o.get f > 0 then o.get f else p.get f) := by
  unfold applyAssign
  by_cases h : o.get f > 0
  · simp [h]
  · simp only [h]; cases f <;> rfl

theorem resolve_found (o : Settings) : resolve .asFound o = o := by
  simp [resolve, Variant.asFound, resolveBy, getInstanceFound, defaultAssigns, applyAssign, Settings.set, Settings.get]

end ZipSender
