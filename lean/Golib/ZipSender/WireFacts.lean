/-
  Golib.ZipSender.WireFacts — the rest of the wire model and the facts about it.

  Definitions: `FacZ` (a factory that knows PACK_ZIP), `statusOf` / `wirePack` (a pack of the sender as
  the client transmits it) and `receive` (the assumed receiving side: `ReadPack`, decompress when
  `Status == ZIPPED`, `GetRecords`).  Facts: a ZipPack written with `pack.WritePack` reads back with
  `pack.ReadPack` as the same header, status, record count and payload, whatever follows it in the
  stream (`unwire_wire`); hence `receive` of a transmitted pack is decompression and `GetRecords` on
  what the sender handed over (`receive_wirePack`).  Not imported by the driver.
-/
import Golib.ZipSender.Wire
import Golib.ZipSender.LogSink

namespace ZipSender.Wire

open Layout Packs ZipSender

theorem zip_agrees : agrees Gen.Packs.ZipPack.w Gen.Packs.ZipPack.r = true := agrees_ZipPack

/-- any factory that constructs a ZipPack for PACK_ZIP -/
def FacZ (fac : Factory) : Prop := fac zipCode = some Gen.Packs.ZipPack.r

theorem facZ_ok : FacZ facZ := by simp [FacZ, facZ]

/-- the writer's explicit guards: header ranges, `Status` a byte, `RecordCount` an int64, a blob < 2^31 -/
def WFZip (h : Hdr) (status count : Int) (records : Bytes) : Prop :=
  h.WF ∧ (0 ≤ status ∧ status ≤ 255) ∧ Prim.inRange 8 count ∧ records.length < 2147483648

/-! what the layout reads in a `zipRec` (the layout asks for the keys with its path prefix, here `""`);
    `simp` compares the key strings far more cheaply than `rfl` does -/

theorem hdrOf_zipRec (h : Hdr) (st c : Int) (r : Bytes) : hdrOf "" (zipRec h st c r) = h := by
  simp [hdrOf, zipRec]; rfl
theorem zipRec_status (h : Hdr) (st c : Int) (r : Bytes) : zipRec h st c r ("" ++ "Status") = .int st := by
  simp [zipRec]
theorem zipRec_count (h : Hdr) (st c : Int) (r : Bytes) : zipRec h st c r ("" ++ "RecordCount") = .int c := by
  simp [zipRec]
theorem zipRec_records (h : Hdr) (st c : Int) (r : Bytes) : zipRec h st c r ("" ++ "Records") = .bytes r := by
  simp [zipRec]

theorem zipPV_ok (fac : Factory) (hf : FacZ fac) (h : Hdr) (st c : Int) (r : Bytes) (hw : WFZip h st c r) :
    (zipPV h st c r).ok valueRT fac := by
  obtain ⟨h1, h2, h3, h4⟩ := hw
  refine ⟨(by decide : Prim.inRange 2 zipCode), hf, zip_agrees, ?_⟩
  show Gen.Packs.ZipPack.w.WF valueRT env0 "" (zipRec h st c r)
  simp only [Gen.Packs.ZipPack.w, L.WF, hdrOf_zipRec, zipRec_status, zipRec_count, zipRec_records]
  exact ⟨h1, (by omega : 0 ≤ st ∧ st < 256), h2, h3, h3, h4, rfl, trivial⟩

theorem carried_zipPV (h : Hdr) (st c : Int) (r : Bytes) :
    (zipPV h st c r).carried =
      (zipCode, hdrOut "" h ++ [("Status", .int st), ("RecordCount", .int c), ("Records", .bytes r)]) := by
  simp only [zipPV, PV.carried, Gen.Packs.ZipPack.w, L.expect, hdrOf_zipRec, zipRec_status, zipRec_count, zipRec_records]
  rfl

theorem received_carried (h : Hdr) (st c : Int) (r : Bytes) :
    received (hdrOut "" h ++ [("Status", .int st), ("RecordCount", .int c), ("Records", .bytes r)]) = ⟨h, st, c, r⟩ := by
  simp [received, hdrOut, getInt, getBytes, List.lookup, Val.toInt]

/-- **ZipPack.Write then ZipPack.Read** (through `WritePack` / `ReadPack`): the receiver holds the same
    header, status, count and payload, and the stream continues where the pack ended -/
theorem unwire_wire (fac : Factory) (hf : FacZ fac) (h : Hdr) (st c : Int) (r rest : Bytes) (hw : WFZip h st c r) :
    unwire fac (wire h st c r ++ rest) = some (⟨h, st, c, r⟩, rest) := by
  unfold unwire wire
  rw [readPack_writePack valueRT fac (zipPV h st c r) rest (zipPV_ok fac hf h st c r hw), carried_zipPV]
  simp only [if_true, received_carried]

variable {ρ : Type}

def statusOf (p : Pack ρ) : Int := if p.zipped then 1 else 0

/-- the emitted pack as the client transmits it; `h` is its header: `doZip` / `SendDirect`
    set `ZipPack.Time = SystemNow()` (a wall-clock read that `mkPack` does not model), the client's
    side adds the agent's Pcode/Oid -/
def wirePack (h : Hdr) (p : Pack ρ) : Bytes := wire h (statusOf p) p.count p.payload

/-- the receiving side, complete: `ReadPack`, decompress when `Status == ZIPPED`, `GetRecords` -/
def receive {Z : Zip} (U : Unzip Z) (fac : Factory) (bs : Bytes) : Option (List (Int × Out) × Bytes) :=
  match unwire fac bs with
  | none => none
  | some (rc, rest) =>
    ((if rc.status = 1 then U.unzip rc.records else some rc.records).bind
      (fun raw => Zip.getRecords fac ⟨rc.hdr, raw, rc.count.toNat⟩)).map (fun xs => (xs, rest))

/-- the Go field ranges of a pack of the sender are the writer's guards -/
theorem wfZip_pack (h : Hdr) (p : Pack ρ) (hh : h.WF) (hc : (p.count : Int) < 9223372036854775808)
    (hl : p.payload.length < 2147483648) : WFZip h (statusOf p) p.count p.payload := by
  refine ⟨hh, ?_, ?_, hl⟩
  · unfold statusOf; split <;> omega
  · rw [Prim.inRange_8]; omega

theorem receive_wirePack {Z : Zip} (U : Unzip Z) (fac : Factory) (hf : FacZ fac) (h : Hdr) (p : Pack ρ) (rest : Bytes)
    (hh : h.WF) (hc : (p.count : Int) < 9223372036854775808) (hl : p.payload.length < 2147483648) :
    receive U fac (wirePack h p ++ rest) =
      ((if p.zipped then U.unzip p.payload else some p.payload).bind
        (fun raw => Zip.getRecords fac ⟨h, raw, p.count⟩)).map (fun xs => (xs, rest)) := by
  unfold receive wirePack
  rw [unwire_wire fac hf h _ _ _ rest (wfZip_pack h p hh hc hl)]
  simp only [Int.toNat_natCast]
  cases hz : p.zipped <;> simp [statusOf, hz]

end ZipSender.Wire
