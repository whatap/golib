/-
  Golib.ZipSender.LogSink — the record codec of the zip sender instantiated with the real
  LogSinkPack wire layout of property C03.

  `pack.WritePack(dout, p)` = 16-bit type code 0x170a ++ body, body = the hand-transcribed writer
  layout `Packs.Hand.LogSinkPack.w` (header, version byte 0, Category, TagHash, Tags, Line, Content,
  optional Fields); `pack.ReadPack` = type code, factory, the reader layout that `xlate/c03`
  regenerates from LogSinkPack.Read on every run (`Gen.Packs.LogSinkPack.r`).  That the two agree is
  `Packs.agrees_LogSinkPack` (`logSink_agrees`); the generic layout round trip `Packs.readPack_writePack`
  (C03) with C02's `Value.decode_encV` plugged in (`Layout.valueRT`) then gives a `Decoder` without
  any assumption about the record codec: only gzip stays abstract.
-/
import Golib.ZipSender.Theorems
import Golib.Packs.Container
import Golib.Packs.Agreements
import Golib.Layout.ValueInst

namespace ZipSender.LogSink

open Layout Packs ZipSender

/-- PACK_LOGSINK = 0x170a -/
def code : Int := 5898

def pv (x : Rec) : PV := ⟨code, Packs.Hand.LogSinkPack.w, Gen.Packs.LogSinkPack.r, x⟩

/-- a record is a LogSinkPack (its fields as a `Layout.Rec`); its time is the header's `Time` -/
def codec : Codec Rec := ⟨fun x => writePack (pv x), fun x => (hdrOf "" x).time, fun _ => false⟩

/-- `CreatePack`: any factory that constructs a LogSinkPack for its type code -/
def Fac (fac : Factory) : Prop := fac code = some Gen.Packs.LogSinkPack.r

theorem logSink_agrees : agrees Packs.Hand.LogSinkPack.w Gen.Packs.LogSinkPack.r = true := agrees_LogSinkPack

/-- the writer's explicit guards: Go field ranges, blobs < 2^31, well-formed tag/field values -/
def WFRec (x : Rec) : Prop := Packs.Hand.LogSinkPack.w.WF valueRT env0 "" x

theorem pv_ok (fac : Factory) (hf : Fac fac) (x : Rec) (h : WFRec x) : (pv x).ok valueRT fac :=
  ⟨(by decide : Prim.inRange 2 code), hf, logSink_agrees, h⟩

/-- the decoder of the real format: what `ReadPack` delivers for a written LogSinkPack is its type
    code and its carried fields, and the rest of the input is untouched -/
def decoder (fac : Factory) (hf : Fac fac) : Decoder codec where
  O := Int × Out
  dec := readPack fac
  obs := fun x => (pv x).carried
  wf := WFRec
  rt := fun x rest h => readPack_writePack valueRT fac (pv x) rest (pv_ok fac hf x h)

/-- a factory as the Go code has it: the type code selects the LogSinkPack reader -/
def fac0 : Factory := fun c => if c = code then some Gen.Packs.LogSinkPack.r else none

theorem fac0_ok : Fac fac0 := by simp [Fac, fac0]

/-- the batch bytes are C03's container encoding of the records (`ZipPack.SetRecords`: the packs one
    after the other, each with its type code) -/
theorem encMany_is_writePacks (xs : List Rec) : Prim.encMany codec.enc xs = writePacks (xs.map pv) := by
  induction xs with
  | nil => rfl
  | cons x xs ih => simp only [Prim.encMany, List.map_cons, writePacks, ih]; rfl

end ZipSender.LogSink
