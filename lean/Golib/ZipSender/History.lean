/-
  Golib.ZipSender.History — from single operations to single inputs and to whole histories.

  Two ways up: `Feeds` composes along a history (`history_feeds`), and a property of states that every
  input preserves holds at the end of every history, together with what each hand-over on the way
  satisfies under the settings then in force (`run_invariant`).
-/
import Golib.ZipSender.Lemmas

namespace ZipSender

variable {ρ : Type}

section
variable (v : Variant) (Z : Zip) (C : Codec ρ)

theorem run_cons (s : State ρ) (i : In ρ) (is : List (In ρ)) :
    run v Z C s (i :: is) =
      ((run v Z C (stepIn v Z C s i).1 is).1,
       (stepIn v Z C s i).2.map (fun p => (s.settings, p)) ++ (run v Z C (stepIn v Z C s i).1 is).2) := rfl

theorem emitted_nil (s : State ρ) : emitted v Z C s [] = [] := rfl
theorem final_nil (s : State ρ) : final v Z C s [] = s := rfl

theorem emitted_cons (s : State ρ) (i : In ρ) (is : List (In ρ)) :
    emitted v Z C s (i :: is) = (stepIn v Z C s i).2 ++ emitted v Z C (stepIn v Z C s i).1 is := by
  simp [emitted, run_cons, Function.comp_def]

theorem final_cons (s : State ρ) (i : In ρ) (is : List (In ρ)) :
    final v Z C s (i :: is) = final v Z C (stepIn v Z C s i).1 is := rfl

theorem final_append (h h' : List (In ρ)) : ∀ s : State ρ,
    final v Z C s (h ++ h') = final v Z C (final v Z C s h) h' := by
  induction h with
  | nil => intro s; rfl
  | cons i is ih => intro s; exact ih _

theorem emitted_append (h h' : List (In ρ)) : ∀ s : State ρ,
    emitted v Z C s (h ++ h') = emitted v Z C s h ++ emitted v Z C (final v Z C s h) h' := by
  induction h with
  | nil => intro s; rfl
  | cons i is ih => intro s; simp only [List.cons_append, emitted_cons, final_cons, ih, List.append_assoc]

theorem step_got (s : State ρ) (r : ρ) (q : List ρ) (hs : s.stopped = false) (hq : s.queue = r :: q) :
    step v Z C s = appendRec v Z C { s with queue := q } r := by
  unfold step; rw [if_neg (by simp [hs]), hq]

theorem step_idle (s : State ρ) (hs : s.stopped = false) (hq : s.queue = []) :
    step v Z C s = sendAndClear v Z C s := by
  unfold step; rw [if_neg (by simp [hs]), hq]

/-- the drain of the Done branch, when the variant has one -/
def stopDrain (s : State ρ) : State ρ × List (Pack ρ) :=
  if v.drainOnStop then drain v Z C { s with queue := [] } s.queue else (s, [])

theorem stop_eq (s : State ρ) (hs : s.stopped = false) : stop v Z C s =
    ({ (sendAndClear v Z C (stopDrain v Z C s).1).1 with stopped := true },
     (stopDrain v Z C s).2 ++ (sendAndClear v Z C (stopDrain v Z C s).1).2) := by
  unfold stop stopDrain; simp [hs]

theorem stopped_inert (s : State ρ) (hs : s.stopped = true) :
    step v Z C s = (s, []) ∧ stop v Z C s = (s, []) := by
  unfold step stop; simp [hs]

/-- the Done branch takes a prefix of the queue (all of it, or nothing) and feeds it to `Append` -/
theorem stopDrain_eq (s : State ρ) :
    ∃ d0 q', s.queue = d0 ++ q' ∧ stopDrain v Z C s = drain v Z C { s with queue := q' } d0 := by
  unfold stopDrain; split
  · exact ⟨s.queue, [], (List.append_nil _).symm, rfl⟩
  · exact ⟨[], s.queue, rfl, rfl⟩

/-- `x` comes from `s` by taking a prefix off the queue and feeding it to `Append`: what an iteration of
    the loop and its Done branch have in common -/
def Dequeues (s : State ρ) (x : State ρ × List (Pack ρ)) : Prop :=
  ∃ d0, d0 ++ x.1.queue = s.queue ∧ Feeds C s d0 [] x ∧ x.1.settings = s.settings ∧
    ∀ p ∈ x.2, Built v Z C s.settings p

variable {v Z C} in
theorem Op.dequeues {s : State ρ} {d0 q' : List ρ} {x : State ρ × List (Pack ρ)} (hq : s.queue = d0 ++ q')
    (h : Op v Z C { s with queue := q' } d0 [] x) : Dequeues v Z C s x :=
  ⟨d0, by rw [h.queue, hq], ⟨h.recs, h.direct, h.wf⟩, h.settings, h.built⟩

/-- records newly accepted by the queue on input `i` -/
def acc0 (s : State ρ) : In ρ → List ρ
  | .add r => if canPut s then [r] else []
  | _ => []

theorem accepted_cons (s : State ρ) (i : In ρ) (is : List (In ρ)) :
    accepted v Z C s (i :: is) = acc0 s i ++ accepted v Z C (stepIn v Z C s i).1 is := by
  cases i <;> rfl

theorem directAppends_cons (i : In ρ) (is : List (In ρ)) :
    directAppends (i :: is) = directAppends [i] ++ directAppends is := by
  cases i <;> rfl

theorem directSent_cons (i : In ρ) (is : List (In ρ)) :
    directSent (i :: is) = directSent [i] ++ directSent is := by
  cases i <;> simp [directSent]

theorem directAppends_append (a b : List (In ρ)) : directAppends (a ++ b) = directAppends a ++ directAppends b := by
  induction a with
  | nil => rfl
  | cons i is ih => rw [List.cons_append, directAppends_cons, directAppends_cons i is, ih, List.append_assoc]

/-- an invariant `I` of the inputs satisfying `P`, together with what each of them guarantees (`O`) of the
    packs it hands over under the settings in force -/
theorem run_invariant {I : State ρ → Prop} {O : Settings → Pack ρ → Prop} {P : In ρ → Prop}
    (hstep : ∀ s i, P i → I s → I (stepIn v Z C s i).1 ∧ ∀ p ∈ (stepIn v Z C s i).2, O s.settings p)
    (h : List (In ρ)) : ∀ s : State ρ, (∀ i ∈ h, P i) → I s →
    I (final v Z C s h) ∧ ∀ x ∈ (run v Z C s h).2, O x.1 x.2 := by
  induction h with
  | nil => exact fun s _ hi => ⟨hi, by simp [run]⟩
  | cons i is ih =>
    intro s hp hi
    obtain ⟨a1, a2⟩ := hstep s i (hp i (by simp)) hi
    obtain ⟨b1, b2⟩ := ih _ (fun j hj => hp j (by simp [hj])) a1
    refine ⟨b1, fun x hx => ?_⟩
    rcases List.mem_append.mp (run_cons v Z C s i is ▸ hx) with h1 | h1
    · obtain ⟨p, hp, rfl⟩ := List.mem_map.mp h1
      exact a2 p hp
    · exact b2 x h1

variable (hr : v.sound = true)
include hr

theorem step_dequeues (s : State ρ) : Dequeues v Z C s (step v Z C s) := by
  fun_cases step v Z C s
  next => exact (Op.refl v Z C s).dequeues (d0 := []) rfl
  next r q hq => exact (appendRec_op v Z C hr { s with queue := q } r).dequeues hq
  next => exact (sendAndClear_op v Z C hr s).dequeues (d0 := []) rfl

theorem stop_dequeues (s : State ρ) : Dequeues v Z C s (stop v Z C s) := by
  cases hs : s.stopped
  · obtain ⟨d0, q', hq, e⟩ := stopDrain_eq v Z C s
    have h := (drain_op v Z C hr d0 { s with queue := q' }).trans (sendAndClear_op v Z C hr _)
    rw [List.append_nil] at h
    obtain ⟨d, h1, h2, h3, h4⟩ := h.dequeues hq
    rw [stop_eq v Z C s hs, e]
    exact ⟨d, h1, ⟨h2.recs, h2.direct, h2.wf⟩, h3, h4⟩
  · rw [(stopped_inert v Z C s hs).2]; exact (Op.refl v Z C s).dequeues (d0 := []) rfl

def isConfig : In ρ → Bool
  | .applyConfig _ => true
  | _ => false

/-- what one input does: the queue gains `acc0` and loses a prefix `d0` to `Append`, which is fed a
    merge `f0` of `d0` and the record appended directly, if any; no operation other than `ApplyConfig`
    touches the settings, and every pack is built under those in force when the input arrives -/
theorem stepIn_does (s : State ρ) (i : In ρ) :
    ∃ d0 f0, d0 ++ (stepIn v Z C s i).1.queue = s.queue ++ acc0 s i ∧ Interleave d0 (directAppends [i]) f0 ∧
      Feeds C s f0 (directSent [i]) (stepIn v Z C s i) ∧
      (isConfig i = false → (stepIn v Z C s i).1.settings = s.settings) ∧
      ∀ p ∈ (stepIn v Z C s i).2, Built v Z C s.settings p := by
  cases i with
  | add r =>
    simp only [stepIn, add, acc0]
    split <;> exact ⟨[], [], by simp, .nil, .idle rfl rfl rfl, fun _ => rfl, by simp⟩
  | step =>
    obtain ⟨d0, h1, h2, h3, h4⟩ := step_dequeues v Z C hr s
    exact ⟨d0, d0, by simpa [stepIn, acc0] using h1, .left_only d0, h2, fun _ => h3, h4⟩
  | stop =>
    obtain ⟨d0, h1, h2, h3, h4⟩ := stop_dequeues v Z C hr s
    exact ⟨d0, d0, by simpa [stepIn, acc0] using h1, .left_only d0, h2, fun _ => h3, h4⟩
  | append r =>
    have h := appendRec_op v Z C hr s r
    exact ⟨[], [r], by simpa [stepIn, acc0] using h.queue, .right_only [r], h.toFeeds, fun _ => h.settings, h.built⟩
  | sendDirect rs =>
    have h := sendDirect_op v Z C s rs
    exact ⟨[], [], by simpa [stepIn, acc0] using h.queue, .nil, by simpa [stepIn, directSent] using h.toFeeds,
      fun _ => h.settings, h.built⟩
  | applyConfig c => exact ⟨[], [], by simp [stepIn, acc0], .nil, .idle rfl rfl rfl, fun h => by simp [isConfig] at h, by simp [stepIn]⟩

/-- FIFO queue, no loss, no duplication, order per producer preserved; `SendDirect` hands over its
    arguments; the counters stay true and every pack's count is the number of its records -/
theorem history_feeds (h : List (In ρ)) : ∀ s : State ρ,
    ∃ deq fed, deq ++ (final v Z C s h).queue = s.queue ++ accepted v Z C s h ∧
      Interleave deq (directAppends h) fed ∧
      Feeds C s fed (directSent h) (final v Z C s h, emitted v Z C s h) := by
  induction h with
  | nil => exact fun s => ⟨[], [], by simp [final_nil, accepted], .nil, .refl C s⟩
  | cons i is ih =>
    intro s
    obtain ⟨d0, f0, h1, h2, h3, _⟩ := stepIn_does v Z C hr s i
    obtain ⟨d1, f1, g1, g2, g3⟩ := ih (stepIn v Z C s i).1
    refine ⟨d0 ++ d1, f0 ++ f1, ?_, ?_, ?_⟩
    · rw [final_cons, accepted_cons, List.append_assoc, g1, ← List.append_assoc, h1, List.append_assoc]
    · rw [directAppends_cons]; exact h2.append g2
    · rw [directSent_cons, final_cons, emitted_cons]; exact h3.trans g3

theorem history_built (h : List (In ρ)) (s : State ρ) : ∀ x ∈ (run v Z C s h).2, Built v Z C x.1 x.2 :=
  (run_invariant v Z C (I := fun _ => True) (P := fun _ => True)
    (fun s i _ _ => let ⟨_, _, _, _, _, _, hb⟩ := stepIn_does v Z C hr s i; ⟨trivial, hb⟩) h s (fun _ _ => trivial) trivial).2

theorem emitted_built (h : List (In ρ)) (s : State ρ) : ∀ p ∈ emitted v Z C s h, ∃ st, Built v Z C st p := by
  intro p hp
  obtain ⟨x, hx, rfl⟩ := List.mem_map.mp hp
  exact ⟨x.1, history_built v Z C hr h s x hx⟩

theorem settings_const (h : List (In ρ)) (s : State ρ) (hc : ∀ i ∈ h, isConfig i = false) :
    (final v Z C s h).settings = s.settings ∧ ∀ x ∈ (run v Z C s h).2, x.1 = s.settings :=
  run_invariant v Z C (I := fun t => t.settings = s.settings) (O := fun st _ => st = s.settings)
    (fun t i hi ht => let ⟨_, _, _, _, _, hs, _⟩ := stepIn_does v Z C hr t i; ⟨(hs hi).trans ht, fun _ _ => ht⟩) h s hc rfl

end

end ZipSender
