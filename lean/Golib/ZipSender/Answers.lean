/-
  Golib.ZipSender.Answers — a hand-over is final whatever the client answers.

  The client's answers to `SendFlush` are an environment stream in the state (`State.answers`).
  The code logs an error answer and carries on (`Variant.resetOnError`); hence every operation
  commutes with forgetting the answers still to come (`State.core`): run from `s.core` it hands over
  the same packs and reaches the same state, answers forgotten.  Two runs that differ only in the
  answers start from the same `core`, so they hand over the same packs and reach the same state up to
  the remaining answers (`Sim`); that statement is `C16.hand_over_final` in Props/C16.lean, proved from
  `run_core`.  Together with `history_feeds` (which holds for every answer stream) this is "no
  duplicate and no loss after a failed hand-over".
-/
import Golib.ZipSender.History

namespace ZipSender

variable {ρ : Type}

/-- everything but the remaining answers -/
def State.core (s : State ρ) : State ρ := { s with answers := [] }

/-- equal up to the client's remaining answers -/
def Sim (s t : State ρ) : Prop := s.core = t.core

theorem Sim.refl (s : State ρ) : Sim s s := rfl
theorem Sim.symm {s t : State ρ} (h : Sim s t) : Sim t s := Eq.symm h
theorem Sim.trans {s t u : State ρ} (h : Sim s t) (h' : Sim t u) : Sim s u := Eq.trans h h'

theorem Sim.fields {s t : State ρ} (h : Sim s t) :
    s.settings = t.settings ∧ s.queue = t.queue ∧ s.buf = t.buf ∧ s.bufLen = t.bufLen ∧ s.count = t.count ∧
    s.firstTime = t.firstTime ∧ s.stopped = t.stopped ∧ s.store = t.store ∧ s.dstores = t.dstores := by
  unfold Sim State.core at h
  simp only [State.mk.injEq, and_true] at h
  exact h

theorem sim_answers (s : State ρ) (a : List Bool) : Sim { s with answers := a } s := rfl

/-- `f` does not look at the answers: from the state without them it does the same, answers forgotten -/
def Blind (f : State ρ → State ρ × List (Pack ρ)) : Prop := ∀ s, f s.core = ((f s).1.core, (f s).2)

theorem Blind.comp {f g : State ρ → State ρ × List (Pack ρ)} (hf : Blind f) (hg : Blind g) :
    Blind (fun s => ((g (f s).1).1, (f s).2 ++ (g (f s).1).2)) := by
  intro s; simp only [hf s, hg (f s).1]

section
variable (v : Variant) (Z : Zip) (C : Codec ρ) (hr : v.sound = true)
include hr

theorem sendAndClear_blind : Blind (sendAndClear v Z C) := by
  intro s
  rw [sendAndClear_eq v Z C hr, sendAndClear_eq v Z C hr]
  by_cases h0 : s.bufLen = 0
  · rw [if_pos h0, if_pos (show s.core.bufLen = 0 from h0)]
  · rw [if_neg h0, if_neg (show ¬ s.core.bufLen = 0 from h0)]; rfl

theorem appendRec_blind (r : ρ) : Blind (appendRec v Z C · r) := by
  intro s
  cases hf : C.fails r
  · simp only [appendRec_ok v Z C _ r hf]
    by_cases hm : mustFlush C s r
    · rw [if_pos hm, if_pos (show mustFlush C s.core r from hm)]; exact sendAndClear_blind v Z C hr (appended C s r)
    · rw [if_neg hm, if_neg (show ¬ mustFlush C s.core r from hm)]; rfl
  · simp only [append_fail_noop v Z C _ r hr hf]

theorem drain_blind (q : List ρ) : Blind (drain v Z C · q) := by
  induction q with
  | nil => exact fun _ => rfl
  | cons r q ih => exact (appendRec_blind v Z C hr r).comp ih

theorem step_blind : Blind (step v Z C) := by
  intro s
  cases hs : s.stopped
  · cases hq : s.queue with
    | nil => rw [step_idle v Z C s hs hq, step_idle v Z C s.core hs hq]; exact sendAndClear_blind v Z C hr s
    | cons r q =>
      rw [step_got v Z C s r q hs hq, step_got v Z C s.core r q hs hq]
      exact appendRec_blind v Z C hr r { s with queue := q }
  · rw [(stopped_inert v Z C s hs).1, (stopped_inert v Z C s.core hs).1]

theorem stop_blind : Blind (stop v Z C) := by
  intro s
  cases hs : s.stopped
  · have hd : Blind (stopDrain v Z C) := by
      intro s; unfold stopDrain; split
      · exact drain_blind v Z C hr s.queue { s with queue := [] }
      · rfl
    have := hd.comp (sendAndClear_blind v Z C hr) s
    rw [stop_eq v Z C s hs, stop_eq v Z C s.core hs]
    simp only [Prod.mk.injEq] at this ⊢
    exact ⟨by rw [this.1]; rfl, this.2⟩
  · rw [(stopped_inert v Z C s hs).2, (stopped_inert v Z C s.core hs).2]

end

section
variable (v : Variant) (Z : Zip) (C : Codec ρ)

/-- the local loop of `SendDirect` with its answers forgotten -/
def DLoop.core (d : DLoop ρ) : DLoop ρ := { d with ans := [] }

theorem directLoop_core (st : Settings) (k : Nat) (a : List Bool) (rs : List ρ) :
    directLoop v Z C st k [] rs = (directLoop v Z C st k a rs).core := by
  have step (d : DLoop ρ) (r : ρ) : directStep v Z C st k d.core r = (directStep v Z C st k d r).core := by
    unfold directStep
    simp only []
    by_cases h : st.maxBuf ≤ ((d.len + (C.enc r).length : Nat) : Int)
    · rw [if_pos h, if_pos (show st.maxBuf ≤ ((d.core.len + (C.enc r).length : Nat) : Int) from h)]; rfl
    · rw [if_neg h, if_neg (show ¬ st.maxBuf ≤ ((d.core.len + (C.enc r).length : Nat) : Int) from h)]; rfl
  exact List.foldl_hom DLoop.core (init := { cur := [], len := 0, count := 0, store := [], out := [], ans := a }) step

theorem sendDirect_blind (rs : List ρ) : Blind (sendDirect v Z C · rs) := by
  intro s
  show sendDirect v Z C s.core rs = ((sendDirect v Z C s rs).1.core, (sendDirect v Z C s rs).2)
  unfold sendDirect
  rw [show directLoop v Z C s.core.settings s.core.dstores.length s.core.answers rs = _ from
    directLoop_core v Z C s.settings s.dstores.length s.answers rs]
  generalize directLoop v Z C s.settings s.dstores.length s.answers rs = d
  unfold directFinish
  by_cases h : d.len > 0
  · rw [if_pos h, if_pos (show d.core.len > 0 from h)]; rfl
  · rw [if_neg h, if_neg (show ¬ d.core.len > 0 from h)]; rfl

end

section
variable (v : Variant) (Z : Zip) (C : Codec ρ) (hr : v.sound = true)
include hr

theorem stepIn_blind (i : In ρ) : Blind (stepIn v Z C · i) := by
  cases i with
  | add r => intro s; simp only [stepIn, add]; rw [show canPut s.core = canPut s from rfl]; split <;> rfl
  | step => exact step_blind v Z C hr
  | stop => exact stop_blind v Z C hr
  | append r => exact appendRec_blind v Z C hr r
  | sendDirect rs => exact sendDirect_blind v Z C rs
  | applyConfig c => exact fun _ => rfl

/-- a run does not look at the answers either -/
theorem run_core (h : List (In ρ)) : ∀ s : State ρ,
    run v Z C s.core h = ((run v Z C s h).1.core, (run v Z C s h).2) := by
  induction h with
  | nil => exact fun _ => rfl
  | cons i is ih =>
    intro s
    have e : stepIn v Z C s.core i = _ := stepIn_blind v Z C hr i s
    rw [run_cons, run_cons, e, ih]; rfl

end

end ZipSender
