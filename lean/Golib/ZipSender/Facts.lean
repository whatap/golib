/-
  Golib.ZipSender.Facts — vocabulary for the facts the translator `xlate/c16` regenerates from
  logsink/zip/ZipSendProxyThread.go (tie A), the reference values the model was written
  against, and the environments in which the model's decisions are compared with those expressions
  (the comparison itself is in Golib/Props/C16Gen.lean).
-/
import Golib.ZipSender.Lemmas

namespace ZipSender

/-- integer terms occurring in the sender's conditions -/
inductive T
  | bufLen        -- this.buffer.Len()  /  buffer.Len()
  | maxBuf        -- this.logsinkMaxBufferSize
  | recTime       -- p.Time
  | firstTime     -- this.firstTime
  | maxWait       -- this.logsinkMaxWaitTime
  | zipMin        -- this.logsinkZipMinSize
  | recordsLen    -- len(p.Records)
  | status        -- p.Status
  | lit (n : Int)
  | sub (a b : T)
  | unknown (src : String)
deriving DecidableEq, Repr

inductive Cnd
  | ge (a b : T) | gt (a b : T) | lt (a b : T) | le (a b : T) | eq (a b : T) | ne (a b : T)
  | or (a b : Cnd) | and (a b : Cnd)
  | unknown (src : String)
deriving DecidableEq, Repr

structure Env where
  bufLen : Int
  maxBuf : Int
  recTime : Int
  firstTime : Int
  maxWait : Int
  zipMin : Int
  recordsLen : Int
  status : Int

def Env.zero : Env := ⟨0, 0, 0, 0, 0, 0, 0, 0⟩

def T.eval (e : Env) : T → Int
  | .bufLen => e.bufLen | .maxBuf => e.maxBuf | .recTime => e.recTime | .firstTime => e.firstTime
  | .maxWait => e.maxWait | .zipMin => e.zipMin | .recordsLen => e.recordsLen | .status => e.status
  | .lit n => n | .sub a b => a.eval e - b.eval e | .unknown _ => 0

def Cnd.eval (e : Env) : Cnd → Bool
  | .ge a b => decide (a.eval e ≥ b.eval e) | .gt a b => decide (a.eval e > b.eval e)
  | .lt a b => decide (a.eval e < b.eval e) | .le a b => decide (a.eval e ≤ b.eval e)
  | .eq a b => decide (a.eval e = b.eval e) | .ne a b => decide (a.eval e ≠ b.eval e)
  | .or a b => a.eval e || b.eval e | .and a b => a.eval e && b.eval e
  | .unknown _ => false

/-- shape of `Append`: `if <split> { firstTime = p.Time; if <first> {flush} } else { if <other> {flush} }` -/
structure AppendShape where
  split : Cnd
  setsFirstTime : Bool
  first : Cnd
  other : Cnd
deriving DecidableEq, Repr

/-- a `client.SendFlush(p, …)` site -/
structure HandOver where
  fn          : String   -- enclosing function
  recordsFrom : String   -- expression assigned to p.Records before ("buffer.Bytes" = view of a bytes.Buffer)
  doZipBefore : Bool     -- this.doZip(p) runs between that assignment and the hand-over
  resetAfter  : Bool     -- the buffer is Reset (and reused) after the hand-over
deriving DecidableEq, Repr

def refAppend : AppendShape :=
  { split := .eq .firstTime (.lit 0), setsFirstTime := true,
    first := .ge .bufLen .maxBuf,
    other := .or (.ge .bufLen .maxBuf) (.ge (.sub .recTime .firstTime) .maxWait) }

def refSendAndClearGuard : Cnd := .eq .bufLen (.lit 0)
def refDoZipGuards : List Cnd := [.ne .status (.lit 0), .lt .recordsLen .zipMin]
def refDirectLoop : Cnd := .ge .bufLen .maxBuf
def refDirectTail : Cnd := .gt .bufLen (.lit 0)

def refHandOvers : List HandOver :=
  [⟨"sendAndClear", "buffer.Bytes", true, true⟩, ⟨"SendDirect", "buffer.Bytes", true, true⟩,
   ⟨"SendDirect", "buffer.Bytes", true, true⟩]

def refConfigKeys : List (Field × String × Int) :=
  [(.queueCap, "logsink_queue_size", 1000), (.maxWait, "max_wait_time", 2000),
   (.maxBuf, "max_buffer_size", 65536), (.zipMin, "logsink_zip_min_size", 100)]

variable {ρ : Type}

/-- environment in which `Append` evaluates its conditions: after the write -/
def appendEnv (C : Codec ρ) (s : State ρ) (r : ρ) : Env :=
  { Env.zero with
    bufLen := ((s.bufLen + (C.enc r).length : Nat) : Int)
    maxBuf := s.settings.maxBuf
    recTime := C.time r
    firstTime := s.firstTime
    maxWait := s.settings.maxWait
    zipMin := s.settings.zipMin }

theorem confFallback_is_refConfigKeys :
    refConfigKeys.map (fun x => (x.1, x.2.2)) =
      [(.queueCap, confFallback.queueCap), (.maxWait, confFallback.maxWait), (.maxBuf, confFallback.maxBuf),
       (.zipMin, confFallback.zipMin)] := by decide

/-- `ApplyConfig` given a semantics: for each (setting, key, fall-back) row, in source order,
    `this.<setting> = conf.GetInt(key, fall-back)` -/
def applyKeys (keys : List (Field × String × Int)) (lookup : String → Option Int) (s : Settings) : Settings :=
  keys.foldl (fun acc row => acc.set row.1 ((lookup row.2.1).getD row.2.2)) s

/-- the configuration the model's `Conf` stands for -/
def Conf.lookup (c : Conf) (key : String) : Option Int :=
  if key = "logsink_queue_size" then c.queueSize else if key = "max_wait_time" then c.maxWait
  else if key = "max_buffer_size" then c.maxBuf else if key = "logsink_zip_min_size" then c.zipMin else none

/-- `if this.logsinkQueueSize != queueSize { this.logsinkQueueSize = queueSize … }` is the unconditional
    assignment (which is how the translator records that `if`) -/
theorem conditional_set_is_set (s : Settings) (q : Int) :
    (if s.queueCap ≠ q then s.set .queueCap q else s) = s.set .queueCap q := by
  by_cases h : s.queueCap = q
  · subst h; simp [Settings.set]
  · simp [h]

end ZipSender
