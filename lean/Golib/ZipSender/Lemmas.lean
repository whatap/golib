/-
  Golib.ZipSender.Lemmas — what the operations of the ZipSender CodeModel do to a state.

  * `Interleave`  – order-preserving merge of two producers' records
  * `Built`       – a pack is `mkPack` of its records under given settings
  * `WF`          – the cached counters (`count`, `bufLen`) agree with the buffered records
  * `Feeds`       – the records handed to `Append` on the way from one state to another, and what became
                    of them; composes (`Feeds.trans`), along an operation here and along a history in
                    History.lean
  * `Op`          – `Feeds`, and the settings stay and every pack handed over is `Built` under them:
                    what `sendAndClear`, `Append`, the drain and `SendDirect` each satisfy
  * `flushed`, `flushPack`, `mustFlush`, `appended` – the state after `sendAndClear` / `Append` and the
                    pack and the flush condition in closed form
  * `DInv`        – the invariant of the `SendDirect` loop
-/
import Golib.ZipSender.Model

namespace ZipSender

open Prim (encMany)

variable {ρ : Type}

theorem bytesOf_cons (C : Codec ρ) (r : ρ) (b : List ρ) : bytesOf C (r :: b) = bytesOf C b ++ C.enc r := by
  simp [bytesOf, Prim.encMany_eq_flatMap]

theorem bytesOf_eq_nil (C : Codec ρ) (hne : ∀ r, C.enc r ≠ []) {b : List ρ} (h : (bytesOf C b).length = 0) : b = [] := by
  cases b with
  | nil => rfl
  | cons r b =>
    have := List.length_pos_iff.mpr (hne r)
    rw [bytesOf_cons, List.length_append] at h
    omega

inductive Interleave : List ρ → List ρ → List ρ → Prop
  | nil : Interleave [] [] []
  | left (x : ρ) {xs ys zs : List ρ} : Interleave xs ys zs → Interleave (x :: xs) ys (x :: zs)
  | right (y : ρ) {xs ys zs : List ρ} : Interleave xs ys zs → Interleave xs (y :: ys) (y :: zs)

theorem Interleave.symm {xs ys zs : List ρ} (h : Interleave xs ys zs) : Interleave ys xs zs := by
  induction h with
  | nil => exact .nil
  | left x _ ih => exact .right x ih
  | right y _ ih => exact .left y ih

theorem Interleave.left_only (xs : List ρ) : Interleave xs [] xs := by
  induction xs with
  | nil => exact .nil
  | cons x xs ih => exact .left x ih

theorem Interleave.right_only (ys : List ρ) : Interleave [] ys ys := (left_only ys).symm

theorem Interleave.append {a b c a' b' c' : List ρ} (h : Interleave a b c) (h' : Interleave a' b' c') :
    Interleave (a ++ a') (b ++ b') (c ++ c') := by
  induction h with
  | nil => simpa using h'
  | left x _ ih => exact .left x ih
  | right y _ ih => exact .right y ih

theorem Interleave.nil_right {xs zs : List ρ} (h : Interleave xs [] zs) : zs = xs := by
  generalize hy : ([] : List ρ) = ys at h
  induction h with
  | nil => rfl
  | left x _ ih => rw [ih hy]
  | right y _ _ => cases hy

theorem Interleave.nil_left {ys zs : List ρ} (h : Interleave [] ys zs) : zs = ys := h.symm.nil_right

theorem Interleave.length {xs ys zs : List ρ} (h : Interleave xs ys zs) : zs.length = xs.length + ys.length := by
  induction h with
  | nil => rfl
  | left x _ ih => rw [List.length_cons, List.length_cons, ih]; omega
  | right y _ ih => rw [List.length_cons, List.length_cons, ih]; omega

@[simp] theorem sharedRecs_nil : sharedRecs ([] : List (Pack ρ)) = [] := rfl
@[simp] theorem directRecs_nil : directRecs ([] : List (Pack ρ)) = [] := rfl

theorem sharedRecs_append (a b : List (Pack ρ)) : sharedRecs (a ++ b) = sharedRecs a ++ sharedRecs b := by
  simp [sharedRecs, List.filter_append, List.flatMap_append]

theorem directRecs_append (a b : List (Pack ρ)) : directRecs (a ++ b) = directRecs a ++ directRecs b := by
  simp [directRecs, List.filter_append, List.flatMap_append]

theorem sharedRecs_cons (p : Pack ρ) (ps : List (Pack ρ)) :
    sharedRecs (p :: ps) = (if p.src = .shared then p.recs else []) ++ sharedRecs ps := by
  by_cases h : p.src = .shared <;> simp [sharedRecs, h]

theorem directRecs_cons (p : Pack ρ) (ps : List (Pack ρ)) :
    directRecs (p :: ps) = (if p.src = .direct then p.recs else []) ++ directRecs ps := by
  by_cases h : p.src = .direct <;> simp [directRecs, h]

section mk
variable (v : Variant) (Z : Zip) (st : Settings) (src : Src) (alias : Ref) (recs : List ρ) (count : Nat) (bytes : Bytes)

@[simp] theorem mkPack_src : (mkPack v Z st src alias recs count bytes).src = src := by
  unfold mkPack; split <;> rfl
@[simp] theorem mkPack_recs : (mkPack v Z st src alias recs count bytes).recs = recs := by
  unfold mkPack; split <;> rfl
@[simp] theorem mkPack_count : (mkPack v Z st src alias recs count bytes).count = count := by
  unfold mkPack; split <;> rfl
end mk

/-- `p` was produced by `doZip` from its records under settings `st` -/
def Built (v : Variant) (Z : Zip) (C : Codec ρ) (st : Settings) (p : Pack ρ) : Prop :=
  ∃ src alias recs count, p = mkPack v Z st src alias recs count (encMany C.enc recs)

theorem Built.zipped_iff {v : Variant} {Z : Zip} {C : Codec ρ} {st : Settings} {p : Pack ρ} (h : Built v Z C st p) :
    p.zipped = true ↔ st.zipMin ≤ ((encMany C.enc p.recs).length : Int) := by
  obtain ⟨src, alias, recs, count, rfl⟩ := h
  rw [mkPack_recs]; fun_cases mkPack <;> simp <;> omega

theorem Built.payload {v : Variant} {Z : Zip} {C : Codec ρ} {st : Settings} {p : Pack ρ} (h : Built v Z C st p) :
    p.payload = if p.zipped then Z.zip (encMany C.enc p.recs) else encMany C.enc p.recs := by
  obtain ⟨src, alias, recs, count, rfl⟩ := h
  rw [mkPack_recs]; fun_cases mkPack <;> rfl

/-- the repaired code copies a small payload, and gzip allocates in every variant -/
theorem Built.owned {v : Variant} {Z : Zip} {C : Codec ρ} {st : Settings} {p : Pack ρ} (h : Built v Z C st p)
    (hv : v.copyOnHandOver = true ∨ p.zipped = true) : p.ref = .owned := by
  obtain ⟨src, alias, recs, count, rfl⟩ := h
  revert hv
  fun_cases mkPack <;> simp_all

def WF (C : Codec ρ) (s : State ρ) : Prop := s.count = s.buf.length ∧ s.bufLen = (bytesOf C s.buf).length

theorem WF_init (C : Codec ρ) (st : Settings) (ans : List Bool := []) : WF C (init st ans : State ρ) := ⟨rfl, rfl⟩

theorem buf_nil_of_len (C : Codec ρ) (hne : ∀ r, C.enc r ≠ []) (s : State ρ) (hw : WF C s) (h0 : s.bufLen = 0) : s.buf = [] :=
  bytesOf_eq_nil C hne (hw.2 ▸ h0)

/-! ### what a stretch of the sender's life does with the records

  `x` (a state and the packs handed over on the way) is reached from `s`, `Append` having been given the
  records `fed` and `SendDirect` the records `snt`. -/

structure Feeds (C : Codec ρ) (s : State ρ) (fed snt : List ρ) (x : State ρ × List (Pack ρ)) : Prop where
  /-- the serialisable ones of `fed` follow what was buffered, in order: in shared packs, then in the buffer -/
  recs : sharedRecs x.2 ++ x.1.buf.reverse = s.buf.reverse ++ good C fed
  /-- `SendDirect` hands its last batch over only `if buffer.Len() > 0`: records without bytes at the end of
      its argument would stay behind, hence the hypothesis -/
  direct : (∀ r, C.enc r ≠ []) → directRecs x.2 = snt
  wf : WF C s → WF C x.1 ∧ ∀ p ∈ x.2, p.count = p.recs.length

@[simp] theorem good_nil (C : Codec ρ) : good C ([] : List ρ) = [] := rfl

theorem good_append (C : Codec ρ) (a b : List ρ) : good C (a ++ b) = good C a ++ good C b := by
  simp [good, List.filter_append]

theorem good_singleton (C : Codec ρ) (r : ρ) : good C [r] = if C.fails r then [] else [r] := by
  unfold good; cases h : C.fails r <;> simp [h]

theorem Feeds.idle {C : Codec ρ} {s t : State ρ} (h1 : t.buf = s.buf) (h2 : t.count = s.count) (h3 : t.bufLen = s.bufLen) :
    Feeds C s [] [] (t, []) :=
  ⟨by simp [h1], fun _ => rfl, fun hw => ⟨by unfold WF; rw [h1, h2, h3]; exact hw, by simp⟩⟩

theorem Feeds.refl (C : Codec ρ) (s : State ρ) : Feeds C s [] [] (s, []) := .idle rfl rfl rfl

theorem Feeds.trans {C : Codec ρ} {s : State ρ} {f a g b : List ρ} {x y : State ρ × List (Pack ρ)}
    (h : Feeds C s f a x) (h' : Feeds C x.1 g b y) : Feeds C s (f ++ g) (a ++ b) (y.1, x.2 ++ y.2) where
  recs := by rw [sharedRecs_append, List.append_assoc, h'.recs, ← List.append_assoc, h.recs, List.append_assoc, good_append]
  direct hne := by rw [directRecs_append, h.direct hne, h'.direct hne]
  wf hw := by
    obtain ⟨w, c⟩ := h.wf hw
    obtain ⟨w', c'⟩ := h'.wf w
    exact ⟨w', fun p hp => (List.mem_append.mp hp).elim (c p) (c' p)⟩

/-- … and, for `sendAndClear`, `Append`, the drain and `SendDirect`: the settings, the queue and the
    loop's liveness stay, and every pack handed over was built under these settings -/
structure Op (v : Variant) (Z : Zip) (C : Codec ρ) (s : State ρ) (fed snt : List ρ) (x : State ρ × List (Pack ρ)) : Prop
    extends Feeds C s fed snt x where
  settings : x.1.settings = s.settings
  queue : x.1.queue = s.queue
  stopped : x.1.stopped = s.stopped
  built : ∀ p ∈ x.2, Built v Z C s.settings p

theorem Op.refl (v : Variant) (Z : Zip) (C : Codec ρ) (s : State ρ) : Op v Z C s [] [] (s, []) :=
  ⟨.refl C s, rfl, rfl, rfl, by simp⟩

theorem Op.trans {v : Variant} {Z : Zip} {C : Codec ρ} {s : State ρ} {f a g b : List ρ} {x y : State ρ × List (Pack ρ)}
    (h : Op v Z C s f a x) (h' : Op v Z C x.1 g b y) : Op v Z C s (f ++ g) (a ++ b) (y.1, x.2 ++ y.2) :=
  ⟨h.toFeeds.trans h'.toFeeds, h'.settings.trans h.settings, h'.queue.trans h.queue, h'.stopped.trans h.stopped,
    fun p hp => (List.mem_append.mp hp).elim (h.built p) (fun hp => h.settings ▸ h'.built p hp)⟩

section
variable (v : Variant) (Z : Zip) (C : Codec ρ) (s : State ρ) (r : ρ)

theorem append_fail_noop (hr : v.sound = true) (hf : C.fails r = true) : appendRec v Z C s r = (s, []) := by
  unfold appendRec; simp [hf, (Bool.and_eq_true_iff.mp hr).2]
end

section ops
variable (v : Variant) (Z : Zip) (C : Codec ρ) (hr : v.sound = true)

/-- the state a flush leaves behind (when the batch is reset) -/
def flushed (C : Codec ρ) (s : State ρ) : State ρ :=
  { s with answers := s.answers.tail, buf := [], bufLen := 0, count := 0, firstTime := 0,
           store := encMany C.enc s.buf.reverse ++ s.store.drop (encMany C.enc s.buf.reverse).length }

/-- the pack a flush hands over -/
def flushPack (v : Variant) (Z : Zip) (C : Codec ρ) (s : State ρ) : Pack ρ :=
  mkPack v Z s.settings .shared .sharedBuf s.buf.reverse s.count (encMany C.enc s.buf.reverse)

include hr in
/-- an error answer is logged and the batch reset all the same: the answer plays no part -/
theorem sendAndClear_eq (s : State ρ) :
    sendAndClear v Z C s = if s.bufLen = 0 then (s, []) else (flushed C s, [flushPack v Z C s]) := by
  unfold sendAndClear flushed flushPack
  simp [(Bool.and_eq_true_iff.mp hr).1]

include hr in
theorem sendAndClear_op (s : State ρ) : Op v Z C s [] [] (sendAndClear v Z C s) := by
  rw [sendAndClear_eq v Z C hr]
  split
  · exact .refl v Z C s
  · exact ⟨⟨by simp [sharedRecs_cons, flushPack, flushed], fun _ => by simp [directRecs_cons, flushPack],
        fun hw => ⟨⟨rfl, rfl⟩, by simp [flushPack, hw.1]⟩⟩,
      rfl, rfl, rfl, fun p hp => ⟨_, _, _, _, List.mem_singleton.mp hp⟩⟩

include hr in
theorem sendAndClear_bufLen (s : State ρ) : (sendAndClear v Z C s).1.bufLen = 0 := by
  rw [sendAndClear_eq v Z C hr]; split
  · assumption
  · rfl

theorem sendAndClear_emits (s : State ρ) : (sendAndClear v Z C s).2 = [] ↔ s.bufLen = 0 := by
  fun_cases sendAndClear v Z C s <;> simp [*]

/-- the flush decision of `Append`, as written in the code -/
def mustFlush (C : Codec ρ) (s : State ρ) (r : ρ) : Prop :=
  s.settings.maxBuf ≤ ((s.bufLen + (C.enc r).length : Nat) : Int) ∨
  (s.firstTime ≠ 0 ∧ s.settings.maxWait ≤ C.time r - s.firstTime)

instance (s : State ρ) (r : ρ) : Decidable (mustFlush C s r) := by unfold mustFlush; infer_instance

/-- the state `Append` reaches before it decides about flushing -/
def appended (C : Codec ρ) (s : State ρ) (r : ρ) : State ρ :=
  { s with buf := r :: s.buf, bufLen := s.bufLen + (C.enc r).length, count := s.count + 1,
           firstTime := if s.firstTime = 0 then C.time r else s.firstTime }

theorem appendRec_ok (s : State ρ) (r : ρ) (hf : C.fails r = false) : appendRec v Z C s r =
    if mustFlush C s r then sendAndClear v Z C (appended C s r) else (appended C s r, []) := by
  unfold appendRec appendOk mustFlush appended
  by_cases h0 : s.firstTime = 0
  · simp only [hf, h0, if_true, ne_eq, not_true_eq_false, false_and, or_false, Bool.false_eq_true, if_false]
  · simp only [hf, h0, if_false, ne_eq, not_false_eq_true, true_and, Bool.false_eq_true]

include hr in
theorem appendRec_op (s : State ρ) (r : ρ) : Op v Z C s [r] [] (appendRec v Z C s r) := by
  cases hf : C.fails r
  · have a : Op v Z C s [r] [] (appended C s r, []) :=
      ⟨⟨by simp [appended, good_singleton, hf], fun _ => rfl,
        fun hw => ⟨by simp [WF, appended, bytesOf_cons, hw.1, hw.2], by simp⟩⟩, rfl, rfl, rfl, by simp⟩
    rw [appendRec_ok v Z C s r hf]
    split
    · exact a.trans (sendAndClear_op v Z C hr _)
    · exact a
  · rw [append_fail_noop v Z C s r hr hf]
    exact ⟨⟨by simp [good_singleton, hf], fun _ => rfl, fun hw => ⟨hw, by simp⟩⟩, rfl, rfl, rfl, by simp⟩

include hr in
theorem drain_op (q : List ρ) : ∀ s : State ρ, Op v Z C s q [] (drain v Z C s q) := by
  induction q with
  | nil => exact .refl v Z C
  | cons r q ih => exact fun s => (appendRec_op v Z C hr s r).trans (ih _)

end ops

section direct
variable (v : Variant) (Z : Zip) (C : Codec ρ) (st : Settings) (k : Nat)

/-- loop invariant of `SendDirect` after the records `done`: no shared pack, the records handed over and
    those in the local buffer are `done`, the counters are true, every pack is well built -/
structure DInv (d : DLoop ρ) (done : List ρ) : Prop where
  shared : sharedRecs d.out.reverse = []
  recs   : directRecs d.out.reverse ++ d.cur.reverse = done
  len    : d.len = (bytesOf C d.cur).length
  count  : d.count = d.cur.length
  packs  : ∀ p ∈ d.out, Built v Z C st p ∧ p.count = p.recs.length

/-- handing the local buffer over as a pack keeps the invariant -/
theorem DInv.flush {d : DLoop ρ} {done : List ρ} (h : DInv v Z C st d done) (bs : Bytes) (a : List Bool) :
    DInv v Z C st ⟨[], 0, 0, bs, mkPack v Z st .direct (.directBuf k) d.cur.reverse d.count (encMany C.enc d.cur.reverse) :: d.out, a⟩
      done where
  shared := by simp [sharedRecs_append, sharedRecs_cons, h.shared]
  recs := by simpa [directRecs_append, directRecs_cons] using h.recs
  len := rfl
  count := rfl
  packs p hp := by
    rcases List.mem_cons.mp hp with rfl | e
    · exact ⟨⟨_, _, _, _, rfl⟩, by simp [h.count]⟩
    · exact h.packs p e

theorem directLoop_inv (rs : List ρ) : ∀ (d : DLoop ρ) (done : List ρ), DInv v Z C st d done →
    DInv v Z C st (rs.foldl (directStep v Z C st k) d) (done ++ rs) := by
  induction rs with
  | nil => intro d done h; simpa using h
  | cons r rs ih =>
    intro d done h
    have h1 : DInv v Z C st { d with cur := r :: d.cur, len := d.len + (C.enc r).length, count := d.count + 1 } (done ++ [r]) :=
      ⟨h.shared, by simp [← h.recs], by simp [bytesOf_cons, h.len], by simp [h.count], h.packs⟩
    have h2 : DInv v Z C st (directStep v Z C st k d r) (done ++ [r]) := by
      unfold directStep
      simp only []
      split
      · exact h1.flush v Z C st k _ _
      · exact h1
    simpa using ih _ _ h2

/-- the packs of `SendDirect` are direct ones and hold exactly its arguments (a trailing record
    without bytes would stay behind in the local buffer: hence `hne`) -/
theorem sendDirect_out (s : State ρ) (rs : List ρ) :
    sharedRecs (sendDirect v Z C s rs).2 = [] ∧
    ((∀ r, C.enc r ≠ []) → directRecs (sendDirect v Z C s rs).2 = rs) ∧
    ∀ p ∈ (sendDirect v Z C s rs).2, Built v Z C s.settings p ∧ p.count = p.recs.length := by
  have inv : DInv v Z C s.settings (directLoop v Z C s.settings s.dstores.length s.answers rs) rs := by
    simpa [directLoop] using directLoop_inv v Z C s.settings s.dstores.length rs _ [] ⟨rfl, rfl, rfl, rfl, by simp⟩
  unfold sendDirect
  generalize directLoop v Z C s.settings s.dstores.length s.answers rs = d at inv ⊢
  unfold directFinish
  split
  · have f := inv.flush v Z C s.settings s.dstores.length [] []
    exact ⟨f.shared, fun _ => by simpa using f.recs, fun p hp => f.packs p (List.mem_reverse.mp hp)⟩
  · refine ⟨inv.shared, fun hne => ?_, fun p hp => inv.packs p (List.mem_reverse.mp hp)⟩
    have e := inv.recs
    rw [bytesOf_eq_nil C hne (b := d.cur) (by have := inv.len; omega)] at e
    simpa using e

theorem sendDirect_frame (s : State ρ) (rs : List ρ) :
    ∃ ds a, (sendDirect v Z C s rs).1 = { s with dstores := ds, answers := a } := by
  unfold sendDirect; fun_cases directFinish <;> exact ⟨_, _, rfl⟩

theorem sendDirect_op (s : State ρ) (rs : List ρ) : Op v Z C s [] rs (sendDirect v Z C s rs) := by
  obtain ⟨e1, e2, e3⟩ := sendDirect_out v Z C s rs
  obtain ⟨ds, a, f⟩ := sendDirect_frame v Z C s rs
  exact ⟨⟨by simp [e1, f], e2, fun hw => ⟨by rw [f]; exact hw, fun p hp => (e3 p hp).2⟩⟩,
    by rw [f], by rw [f], by rw [f], fun p hp => (e3 p hp).1⟩

end direct

end ZipSender
