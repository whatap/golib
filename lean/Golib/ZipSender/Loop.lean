/-
  Golib.ZipSender.Loop — the real background loop `run()` as an action machine, and the queue of
  the sender as an instance of the C11 queue model.

  ```
  for true {
    select {
    case <-this.ctx.Done():  (drain;) this.sendAndClear(); return
    default:
      if tmp := this.Queue.GetTimeout(int(this.maxWaitTime())); tmp != nil { this.Append(data) }
      else { this.sendAndClear() }
    }
  }
  ```
  `GetTimeout` polls: `for { if v, ok := this.poll(); ok { return v }; sleep(t/3); t = timeto-now; if t <= 0 { return nil } }`
  (`poll` is `GetNoWait` that also tells whether an element was taken).

  The goroutine's program counter is `top` (at the `select`), `polling timeto` (inside GetTimeout with
  deadline `timeto` = the clock read when the call started + the waiting time in force then) or `exited`.
  Clock readings are supplied by the environment with each `select` and `poll` (any integers: the
  theorems quantify over arbitrary clock histories, including a clock that jumps or goes backwards).
  The actions of the environment (producers, configuration, cancellation) interleave freely with the
  loop's own actions `select` and `poll`; a cancellation is noticed only at the `select`.

  `loop_refines`: every execution of the machine is an execution of the atomic-action model of
  Model.lean (`absHist`: a poll that finds a record or times out is a `step`, the `select` that sees
  the cancellation is a `stop`, everything else of the loop stutters), so what is proved about
  histories can be read off for the schedules of the loop (as `C16.loop_exactly_once` does).

  `exit_emits_everything`: the stop clause over these schedules.  Whatever happened before (producers,
  SendDirect callers, configuration updates, any clock readings), when the loop meets the cancellation
  at its `select` it exits, and at that moment every serialisable record the queue ever accepted has
  been handed over, in order.
-/
import Golib.Queue.Thms
import Golib.ZipSender.Theorems

namespace ZipSender

variable {ρ : Type}

/-- the sender's queue seen as a `Queue.Q` of record handles (`key r ≠ 0`: a non-nil pointer) -/
def qAbs (key : ρ → Nat) (s : State ρ) : Queue.Q := ⟨s.queue.map key, s.settings.queueCap⟩

theorem canPut_eq_room (key : ρ → Nat) (s : State ρ) : canPut s = (qAbs key s).room := by
  simp only [canPut, qAbs, Queue.Q.room, Queue.Q.size, List.length_map]; rfl

/-- `Add` is `RequestQueue.Put`: same new content, same answer, `accepted`/`failed` event -/
theorem add_refines_put (key : ρ → Nat) (s : State ρ) (r : ρ) :
    Queue.step (qAbs key s) (.put (key r)) =
      (qAbs key (add s r).1, .bool (canPut s),
       [if canPut s then Queue.Ev.accepted (key r) else Queue.Ev.failed (key r)]) := by
  unfold add; rw [canPut_eq_room key s]
  cases h : (qAbs key s).room <;> simp [Queue.step_put_of_room, Queue.step_put_of_full, h] <;> simp [qAbs]

/-- acceptance as the C11 model decides it: the answer of `Put` -/
def putAccepts (key : ρ → Nat) (s : State ρ) (r : ρ) : Bool :=
  (Queue.step (qAbs key s) (.put (key r))).2.1 == .bool true

theorem putAccepts_eq (key : ρ → Nat) (s : State ρ) (r : ρ) : putAccepts key s r = canPut s := by
  unfold putAccepts; rw [add_refines_put]; cases canPut s <;> rfl

/-- `ApplyConfig` → `SetCapacity` -/
theorem applyConfig_refines_setCapacity (key : ρ → Nat) (s : State ρ) (c : Conf) :
    (Queue.step (qAbs key s) (.setCapacity c.resolve.queueCap)).1 = qAbs key { s with settings := c.resolve } :=
  congrArg Prod.fst (Queue.step_setCapacity _ _)

/-- records accepted by the queue along a history, acceptance decided by the C11 model -/
def acceptedQ (key : ρ → Nat) (v : Variant) (Z : Zip) (C : Codec ρ) : State ρ → List (In ρ) → List ρ
  | _, [] => []
  | s, i :: is =>
    (match i with | .add r => if putAccepts key s r then [r] else [] | _ => []) ++
      acceptedQ key v Z C (stepIn v Z C s i).1 is

theorem acceptedQ_eq (key : ρ → Nat) (v : Variant) (Z : Zip) (C : Codec ρ) (h : List (In ρ)) (s : State ρ) :
    acceptedQ key v Z C s h = accepted v Z C s h := by
  fun_induction acceptedQ key v Z C s h with
  | case1 => rfl
  | case2 s i is ih => cases i <;> simp [accepted, ih, putAccepts_eq]

inductive PC
  | top                      -- at the `select`
  | polling (timeto : Int)   -- inside GetTimeout: `timeto := SystemNow() + timeout`
  | exited                   -- `run` has returned
deriving DecidableEq, Repr

structure LState (ρ : Type) where
  core      : State ρ
  pc        : PC
  cancelled : Bool          -- ctx.Done() is closed

inductive Act (ρ : Type)
  | add (r : ρ)
  | sendDirect (rs : List ρ)
  | applyConfig (c : Conf)
  | cancel
  | select (now : Int)   -- the loop evaluates its `select`; if not cancelled it enters
                         -- `GetTimeout(maxWait)`, which reads the clock: `now`
  | poll (now : Int)     -- one round of the polling loop: `poll()`, and when that comes back
                         -- empty-handed the sleep and the clock reading `now` for `t = timeto - now; if t <= 0 { return nil }`

def linit (st : Settings) (ans : List Bool := []) : LState ρ := ⟨init st ans, .top, false⟩

def lstep (v : Variant) (Z : Zip) (C : Codec ρ) (l : LState ρ) : Act ρ → LState ρ × List (Pack ρ)
  | .add r => ({ l with core := (add l.core r).1 }, [])
  | .sendDirect rs => ({ l with core := (sendDirect v Z C l.core rs).1 }, (sendDirect v Z C l.core rs).2)
  | .applyConfig c => ({ l with core := { l.core with settings := c.resolve } }, [])
  | .cancel => ({ l with cancelled := true }, [])
  | .select now =>
    match l.pc with
    | .top =>
      if l.cancelled then ({ l with core := (stop v Z C l.core).1, pc := .exited }, (stop v Z C l.core).2)
      else ({ l with pc := .polling (now + l.core.settings.maxWait) }, [])
    | _ => (l, [])
  | .poll now =>
    match l.pc with
    | .polling timeto =>
      match l.core.queue with
      | r :: q =>
        ({ l with core := (appendRec v Z C { l.core with queue := q } r).1, pc := .top },
         (appendRec v Z C { l.core with queue := q } r).2)
      | [] =>
        if timeto - now ≤ 0 then
          ({ l with core := (sendAndClear v Z C l.core).1, pc := .top }, (sendAndClear v Z C l.core).2)
        else (l, [])
    | _ => (l, [])

def lrun (v : Variant) (Z : Zip) (C : Codec ρ) : LState ρ → List (Act ρ) → LState ρ × List (Pack ρ)
  | l, [] => (l, [])
  | l, a :: as =>
    ((lrun v Z C (lstep v Z C l a).1 as).1, (lstep v Z C l a).2 ++ (lrun v Z C (lstep v Z C l a).1 as).2)

/-- the atomic actions of Model.lean that one machine action amounts to -/
def absAct (l : LState ρ) : Act ρ → List (In ρ)
  | .add r => [.add r]
  | .sendDirect rs => [.sendDirect rs]
  | .applyConfig c => [.applyConfig c]
  | .cancel => []
  | .select _ => if l.pc = .top ∧ l.cancelled = true then [.stop] else []
  | .poll now =>
    match l.pc with
    | .polling timeto => if l.core.queue ≠ [] ∨ timeto - now ≤ 0 then [.step] else []
    | _ => []

def absHist (v : Variant) (Z : Zip) (C : Codec ρ) : LState ρ → List (Act ρ) → List (In ρ)
  | _, [] => []
  | l, a :: as => absAct l a ++ absHist v Z C (lstep v Z C l a).1 as

/-- the goroutine is alive exactly as long as the model's `stopped` flag is down -/
def LInv (l : LState ρ) : Prop := l.pc ≠ .exited → l.core.stopped = false

theorem LInv_init (st : Settings) (ans : List Bool) : LInv (linit st ans : LState ρ) := fun _ => rfl

section
variable (v : Variant) (Z : Zip) (C : Codec ρ) (hr : v.sound = true)
include hr

/-- one machine action = the model run on its abstraction -/
theorem lstep_refines (l : LState ρ) (a : Act ρ) (hi : LInv l) :
    (lstep v Z C l a).1.core = final v Z C l.core (absAct l a) ∧
    (lstep v Z C l a).2 = emitted v Z C l.core (absAct l a) ∧
    LInv (lstep v Z C l a).1 := by
  -- the cases are the branches of `lstep`, in the order written
  fun_cases lstep v Z C l a
  case case1 r =>
    exact ⟨rfl, by simp only [absAct, emitted_cons, emitted_nil, stepIn, add]; split <;> rfl,
      fun hp => by have := hi hp; simp only [add]; split <;> exact this⟩
  case case2 rs =>
    exact ⟨rfl, by simp [absAct, emitted_cons, emitted_nil, stepIn],
      fun hp => (sendDirect_op v Z C l.core rs).stopped.trans (hi hp)⟩
  case case3 c => exact ⟨rfl, rfl, hi⟩
  case case4 => exact ⟨rfl, rfl, hi⟩
  case case5 now hpc hc =>
    simp only [absAct, hpc, hc, and_self, if_true, final_cons, final_nil, emitted_cons, emitted_nil, stepIn, List.append_nil]
    exact ⟨trivial, trivial, fun hp => absurd rfl hp⟩
  case case6 now hpc hc =>
    rw [absAct, if_neg (fun h => hc h.2)]
    exact ⟨rfl, rfl, fun _ => hi (hpc ▸ PC.noConfusion)⟩
  case case7 now hpc =>
    rw [absAct, if_neg (fun h => hpc h.1)]
    exact ⟨rfl, rfl, hi⟩
  case case8 now tt hpc r q hq =>
    have hs : l.core.stopped = false := hi (hpc ▸ PC.noConfusion)
    simp only [absAct, hpc, hq, ne_eq, reduceCtorEq, not_false_eq_true, true_or, if_true, final_cons, final_nil,
      emitted_cons, emitted_nil, stepIn, List.append_nil, step_got v Z C l.core r q hs hq]
    exact ⟨trivial, trivial, fun _ => (appendRec_op v Z C hr { l.core with queue := q } r).stopped.trans hs⟩
  case case9 now tt hpc hq hn =>
    have hs : l.core.stopped = false := hi (hpc ▸ PC.noConfusion)
    simp only [absAct, hpc, hq, hn, ne_eq, not_true_eq_false, false_or, if_true, final_cons, final_nil,
      emitted_cons, emitted_nil, stepIn, List.append_nil, step_idle v Z C l.core hs hq]
    exact ⟨trivial, trivial, fun _ => (sendAndClear_op v Z C hr l.core).stopped.trans hs⟩
  case case10 now tt hpc hq hn =>
    simp only [absAct, hpc, hq, hn, ne_eq, not_true_eq_false, false_or, if_false]
    exact ⟨rfl, rfl, hi⟩
  case case11 now hpc =>
    rw [absAct]
    split
    · exact absurd ‹_› (hpc _)
    · exact ⟨rfl, rfl, hi⟩

/-- **every schedule of the real loop, under every history of clock readings, is a history of the
    atomic-action model** -/
theorem loop_refines (as : List (Act ρ)) : ∀ l : LState ρ, LInv l →
    (lrun v Z C l as).1.core = final v Z C l.core (absHist v Z C l as) ∧
    (lrun v Z C l as).2 = emitted v Z C l.core (absHist v Z C l as) ∧
    LInv (lrun v Z C l as).1 := by
  induction as with
  | nil => intro l hi; exact ⟨rfl, rfl, hi⟩
  | cons a as ih =>
    intro l hi
    obtain ⟨a1, a2, a3⟩ := lstep_refines v Z C hr l a hi
    obtain ⟨b1, b2, b3⟩ := ih (lstep v Z C l a).1 a3
    simp only [lrun, absHist]
    rw [final_append, emitted_append, ← a1, ← a2]
    exact ⟨b1, by rw [b2], b3⟩

end

section
variable (v : Variant) (Z : Zip) (C : Codec ρ)

theorem lrun_snoc (as : List (Act ρ)) (a : Act ρ) : ∀ l : LState ρ,
    lrun v Z C l (as ++ [a]) =
      ((lstep v Z C (lrun v Z C l as).1 a).1, (lrun v Z C l as).2 ++ (lstep v Z C (lrun v Z C l as).1 a).2) := by
  induction as with
  | nil => intro l; simp [lrun]
  | cons b bs ih => intro l; simp only [List.cons_append, lrun, ih, List.append_assoc]

/-- entering GetTimeout fixes the deadline: clock now + the waiting time in force at that moment -/
theorem select_sets_deadline (l : LState ρ) (t0 : Int) (hpc : l.pc = .top) (hc : l.cancelled = false) :
    lstep v Z C l (.select t0) = ({ l with pc := .polling (t0 + l.core.settings.maxWait) }, []) := by
  simp [lstep, hpc, hc]

/-- **waiting time, both directions**: inside GetTimeout with nothing queued, the round that reads
    the clock `now` flushes the batch (idle timeout) exactly when the deadline has been reached;
    before that it changes nothing at all -/
theorem idle_flush_iff_due (l : LState ρ) (timeto now : Int) (hpc : l.pc = .polling timeto) (hq : l.core.queue = []) :
    (timeto ≤ now → lstep v Z C l (.poll now) =
        ({ l with core := (sendAndClear v Z C l.core).1, pc := .top }, (sendAndClear v Z C l.core).2)) ∧
    (now < timeto → lstep v Z C l (.poll now) = (l, [])) := by
  constructor
  · intro h
    have : timeto - now ≤ 0 := by omega
    simp [lstep, hpc, hq, this]
  · intro h
    have : ¬ (timeto - now ≤ 0) := by omega
    simp [lstep, hpc, hq, this]

/-- any number of rounds whose clock readings are all before the deadline — in any order, the clock
    may stand still or jump back — leave the sender untouched: no early idle flush -/
theorem no_flush_before_deadline (nows : List Int) : ∀ (l : LState ρ) (timeto : Int), l.pc = .polling timeto →
    l.core.queue = [] → (∀ n ∈ nows, n < timeto) → lrun v Z C l (nows.map .poll) = (l, []) := by
  induction nows with
  | nil => intro l _ _ _ _; rfl
  | cons n ns ih =>
    intro l timeto hpc hq hb
    have e := (idle_flush_iff_due v Z C l timeto n hpc hq).2 (hb n (by simp))
    simp only [List.map_cons, lrun]
    rw [e]
    simp only [List.nil_append]
    exact ih l timeto hpc hq (fun m hm => hb m (by simp [hm]))

/-- cancellation: at the next `select` the loop drains, flushes and returns -/
theorem cancel_exits (hr : v.sound = true) (hv : v.drainOnStop = true) (l : LState ρ) (k : Int)
    (hi : LInv l) (hpc : l.pc = .top) (hc : l.cancelled = true) :
    let l' := (lstep v Z C l (.select k)).1
    l'.pc = .exited ∧ l'.core.queue = [] ∧ l'.core.bufLen = 0 ∧ l'.core.stopped = true := by
  have hs : l.core.stopped = false := hi (by rw [hpc]; exact PC.noConfusion)
  simp only [lstep, hpc, hc, if_true]
  exact ⟨trivial, stop_drains v Z C hv l.core hr hs, stop_flushes v Z C l.core hr hs, stop_stopped v Z C l.core⟩

theorem absHist_snoc (as : List (Act ρ)) (a : Act ρ) : ∀ l : LState ρ,
    absHist v Z C l (as ++ [a]) = absHist v Z C l as ++ absAct (lrun v Z C l as).1 a := by
  induction as with
  | nil => intro l; simp [absHist, lrun]
  | cons b bs ih => intro l; simp only [List.cons_append, absHist, lrun, ih, List.append_assoc]

/-- the loop never calls `Append` from outside: all it feeds the batch comes through the queue -/
theorem absHist_no_append (as : List (Act ρ)) (l : LState ρ) : directAppends (absHist v Z C l as) = [] := by
  fun_induction absHist v Z C l as with
  | case1 => rfl
  | case2 l a as ih => rw [directAppends_append, ih, List.append_nil]; fun_cases absAct l a <;> rfl

/-- the exit is the `stop` of the atomic model, so this is `all_emitted_at_stop` read off the schedule -/
theorem exit_emits_everything (hr : v.sound = true) (hv : v.drainOnStop = true) (hne : ∀ r, C.enc r ≠ [])
    (st : Settings) (ans : List Bool) (as : List (Act ρ)) (k : Int)
    (hpc : (lrun v Z C (linit st ans) as).1.pc = .top) (hc : (lrun v Z C (linit st ans) as).1.cancelled = true) :
    (lrun v Z C (linit st ans) (as ++ [.select k])).1.pc = .exited ∧
    sharedRecs (lrun v Z C (linit st ans) (as ++ [.select k])).2 =
      good C (accepted v Z C (init st ans) (absHist v Z C (linit st ans) (as ++ [.select k]))) := by
  obtain ⟨r1, _, hi⟩ := loop_refines v Z C hr as (linit st ans) (LInv_init st ans)
  have r2 : (lrun v Z C (linit st ans) (as ++ [.select k])).2 = emitted v Z C (init st ans) _ :=
    (loop_refines v Z C hr (as ++ [.select k]) (linit st ans) (LInv_init st ans)).2.1
  have hs : (final v Z C (init st ans) (absHist v Z C (linit st ans) as)).stopped = false :=
    r1 ▸ hi (by rw [hpc]; exact PC.noConfusion)
  have ha : absHist v Z C (linit st ans) (as ++ [.select k]) = absHist v Z C (linit st ans) as ++ [.stop] := by
    rw [absHist_snoc]; simp [absAct, hpc, hc]
  obtain ⟨fed, f1, f2⟩ := all_emitted_at_stop v Z C hv hr hne st ans _ hs
  rw [absHist_no_append] at f1
  constructor
  · rw [lrun_snoc]; exact (cancel_exits v Z C hr hv _ k hi hpc hc).1
  · rw [r2, ha, f2, f1.nil_right]

/-- the verification hook `StepForVerif` (select without blocking, one `GetNoWait`, else flush)
    is one `select` and one round whose clock reading is already at the deadline -/
def hookStep (l : LState ρ) : LState ρ × List (Pack ρ) :=
  if l.cancelled then (l, []) else ({ l with core := (step v Z C l.core).1 }, (step v Z C l.core).2)

end

end ZipSender
