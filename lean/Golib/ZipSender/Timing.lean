/-
  Golib.ZipSender.Timing — the size and time clauses as invariants of whole histories.

  `flush_on_append` / `no_flush_below_limits` (Props) speak about one `Append`.  Here the same
  clauses are lifted to histories (`history_BInv`): from a state in which they hold, along a history
  without a configuration update, the batch under construction stays below the buffer limit in
  force (or is empty), and every record in it whose time is not 0 carries `firstTime` or is younger
  than the waiting time in force counted from it (the code's `0 = "no first record yet"` sentinel
  spelled out).
  An update in the middle of a batch can lower the limits below what is buffered already; the
  clauses hold again from the next flush on, until the next update.
-/
import Golib.ZipSender.Theorems

namespace ZipSender

variable {ρ : Type}

/-- the batch under construction respects the limits in force -/
def BInv (C : Codec ρ) (s : State ρ) : Prop :=
  ((s.bufLen : Int) < s.settings.maxBuf ∨ s.bufLen = 0) ∧
  (s.firstTime = 0 → ∀ r ∈ s.buf, C.time r = 0) ∧
  (s.firstTime ≠ 0 → ∀ r ∈ s.buf,
    C.time r = 0 ∨ C.time r = s.firstTime ∨ C.time r - s.firstTime < s.settings.maxWait)

theorem BInv_empty (C : Codec ρ) (s : State ρ) (hb : s.buf = []) (hl : s.bufLen = 0) : BInv C s :=
  ⟨Or.inr hl, fun _ r hr => by simp [hb] at hr, fun _ r hr => by simp [hb] at hr⟩

section
variable (v : Variant) (Z : Zip) (C : Codec ρ)

theorem sendAndClear_BInv (hr : v.sound = true) (s : State ρ) (h : BInv C s) : BInv C (sendAndClear v Z C s).1 := by
  rw [sendAndClear_eq v Z C hr]
  split
  · exact h
  · exact BInv_empty C _ rfl rfl

/-- a record that does not trigger a flush keeps the batch within the limits: that is what the flush
    conditions of `Append` are the negation of -/
theorem appended_BInv (s : State ρ) (r : ρ) (hm : ¬ mustFlush C s r) (h : BInv C s) : BInv C (appended C s r) := by
  unfold mustFlush at hm
  obtain ⟨_, b2, b3⟩ := h
  refine ⟨Or.inl (show ((s.bufLen + (C.enc r).length : Nat) : Int) < s.settings.maxBuf by omega), ?_, ?_⟩
  · show (if s.firstTime = 0 then C.time r else s.firstTime) = 0 → ∀ x ∈ r :: s.buf, C.time x = 0
    split
    · intro h0 x hx
      rcases List.mem_cons.mp hx with rfl | e
      · exact h0
      · exact b2 ‹_› x e
    · exact fun h0 => absurd h0 ‹_›
  · show _ → ∀ x ∈ r :: s.buf, C.time x = 0 ∨ C.time x = (if s.firstTime = 0 then C.time r else s.firstTime) ∨
      C.time x - (if s.firstTime = 0 then C.time r else s.firstTime) < s.settings.maxWait
    split
    · intro _ x hx
      rcases List.mem_cons.mp hx with rfl | e
      · exact Or.inr (Or.inl rfl)
      · exact Or.inl (b2 ‹_› x e)
    · intro _ x hx
      rcases List.mem_cons.mp hx with rfl | e
      · right; right; omega
      · exact b3 ‹_› x e

theorem appendRec_BInv (hr : v.sound = true) (hne : ∀ r, C.enc r ≠ []) (s : State ρ) (r : ρ) (h : BInv C s) :
    BInv C (appendRec v Z C s r).1 := by
  cases hf : C.fails r
  · rw [appendRec_ok v Z C s r hf]
    split
    · -- the record has bytes, so the flush does happen and leaves an empty batch
      have h0 : (appended C s r).bufLen ≠ 0 := Nat.ne_of_gt (Nat.add_pos_right _ (List.length_pos_iff.mpr (hne r)))
      rw [sendAndClear_eq v Z C hr, if_neg h0]
      exact BInv_empty C _ rfl rfl
    · exact appended_BInv C s r ‹_› h
  · rw [append_fail_noop v Z C s r hr hf]; exact h

theorem drain_BInv (hr : v.sound = true) (hne : ∀ r, C.enc r ≠ []) (q : List ρ) : ∀ s : State ρ, BInv C s →
    BInv C (drain v Z C s q).1 := by
  induction q with
  | nil => exact fun _ h => h
  | cons r q ih => exact fun s h => ih _ (appendRec_BInv v Z C hr hne s r h)

theorem stepIn_BInv (hr : v.sound = true) (hne : ∀ r, C.enc r ≠ []) (s : State ρ) (i : In ρ) (hc : isConfig i = false)
    (h : BInv C s) : BInv C (stepIn v Z C s i).1 := by
  cases i with
  | add r => simp only [stepIn, add]; split <;> exact h
  | step =>
    show BInv C (step v Z C s).1
    fun_cases step v Z C s
    next => exact h
    next r q _ => exact appendRec_BInv v Z C hr hne _ r h
    next => exact sendAndClear_BInv v Z C hr s h
  | stop =>
    cases hs : s.stopped
    · obtain ⟨d0, q', _, e⟩ := stopDrain_eq v Z C s
      rw [show stepIn v Z C s .stop = _ from stop_eq v Z C s hs, e]
      exact sendAndClear_BInv v Z C hr _ (drain_BInv v Z C hr hne d0 _ h)
    · rw [show stepIn v Z C s .stop = _ from (stopped_inert v Z C s hs).2]; exact h
  | append r => exact appendRec_BInv v Z C hr hne s r h
  | sendDirect rs =>
    obtain ⟨ds, a, f⟩ := sendDirect_frame v Z C s rs
    show BInv C (sendDirect v Z C s rs).1
    rw [f]; exact h
  | applyConfig c => simp [isConfig] at hc

/-- **size and time clauses over whole histories**: whatever the history (no configuration update in
    it), the client's answers and the records that fail, the batch under construction stays below
    the buffer limit and within the waiting time -/
theorem history_BInv (hr : v.sound = true) (hne : ∀ r, C.enc r ≠ []) (h : List (In ρ)) (s : State ρ)
    (hc : ∀ i ∈ h, isConfig i = false) (hb : BInv C s) : BInv C (final v Z C s h) :=
  (run_invariant v Z C (O := fun _ _ => True)
    (fun s i hi hs => ⟨stepIn_BInv v Z C hr hne s i hi hs, fun _ _ => trivial⟩) h s hc hb).1

end

end ZipSender
