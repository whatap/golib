/-
  Golib.ZipSender.Client — `SetTcpClient`: the sender's TCP client can be replaced (the assignment is
  assumed atomic w.r.t. the other inputs).

  `this.client = c` touches nothing else: no pack is handed over, the batch under construction, the
  queue and the settings stay as they are, and every later hand-over (`sendAndClear`, `SendDirect`)
  calls `SendFlush` on the client in force at that moment.  The model wraps the histories of
  `Golib.ZipSender.Model`: `CIn` adds the input `setClient k` (clients are numbered; 0 is the one
  given at construction), `crun` tags every hand-over with the client that received it.  Forgetting
  the tags, a history with switches is the history without them (`crun_erase`), so every theorem about
  `run` / `emitted` / `final` carries over.
-/
import Golib.ZipSender.History

namespace ZipSender

variable {ρ : Type}

inductive CIn (ρ : Type)
  | op (i : In ρ)
  | setClient (k : Nat)      -- SetTcpClient(c_k)

/-- a hand-over as the outside sees it -/
structure Delivery (ρ : Type) where
  dest : Nat               -- which client's `SendFlush` was called
  settings : Settings      -- the settings in force
  pack : Pack ρ

def crun (v : Variant) (Z : Zip) (C : Codec ρ) : State ρ → Nat → List (CIn ρ) → (State ρ × Nat) × List (Delivery ρ)
  | s, k, [] => ((s, k), [])
  | s, _, .setClient k' :: is => crun v Z C s k' is
  | s, k, .op i :: is =>
    let (s1, o1) := stepIn v Z C s i
    let (r, o2) := crun v Z C s1 k is
    (r, o1.map (fun p => ⟨k, s.settings, p⟩) ++ o2)

/-- the history without the client switches -/
def erase : List (CIn ρ) → List (In ρ)
  | [] => []
  | .op i :: is => i :: erase is
  | .setClient _ :: is => erase is

def isSwitch : CIn ρ → Bool
  | .setClient _ => true
  | .op _ => false

section
variable (v : Variant) (Z : Zip) (C : Codec ρ)

theorem crun_op (s : State ρ) (k : Nat) (i : In ρ) (is : List (CIn ρ)) :
    crun v Z C s k (.op i :: is) =
      ((crun v Z C (stepIn v Z C s i).1 k is).1,
       (stepIn v Z C s i).2.map (fun p => ⟨k, s.settings, p⟩) ++ (crun v Z C (stepIn v Z C s i).1 k is).2) := by
  simp only [crun]

/-- `SetTcpClient` hands nothing over and leaves the sender's state as it is -/
theorem crun_setClient (s : State ρ) (k k' : Nat) (is : List (CIn ρ)) :
    crun v Z C s k (.setClient k' :: is) = crun v Z C s k' is := rfl

theorem crun_erase (h : List (CIn ρ)) : ∀ (s : State ρ) (k : Nat),
    (crun v Z C s k h).1.1 = final v Z C s (erase h) ∧
    (crun v Z C s k h).2.map (fun x => (x.settings, x.pack)) = (run v Z C s (erase h)).2 := by
  induction h with
  | nil => intro s k; exact ⟨rfl, rfl⟩
  | cons i is ih =>
    intro s k
    cases i with
    | setClient k' => rw [crun_setClient]; exact ih s k'
    | op i =>
      obtain ⟨h1, h2⟩ := ih (stepIn v Z C s i).1 k
      rw [crun_op]
      simp only [erase, final_cons, run_cons, List.map_append, List.map_map, Function.comp_def]
      exact ⟨h1, by rw [h2]⟩

theorem crun_append (h h' : List (CIn ρ)) : ∀ (s : State ρ) (k : Nat),
    crun v Z C s k (h ++ h') =
      ((crun v Z C (crun v Z C s k h).1.1 (crun v Z C s k h).1.2 h').1,
       (crun v Z C s k h).2 ++ (crun v Z C (crun v Z C s k h).1.1 (crun v Z C s k h).1.2 h').2) := by
  induction h with
  | nil => intro s k; simp [crun]
  | cons i is ih =>
    intro s k
    cases i with
    | setClient k' => simp only [List.cons_append, crun_setClient]; exact ih s k'
    | op i =>
      simp only [List.cons_append, crun_op, ih, List.append_assoc]

/-- without a switch in the history the client stays, and every pack goes to it -/
theorem dest_constant (h : List (CIn ρ)) (hn : ∀ i ∈ h, isSwitch i = false) : ∀ (s : State ρ) (k : Nat),
    (crun v Z C s k h).1.2 = k ∧ ∀ x ∈ (crun v Z C s k h).2, x.dest = k := by
  induction h with
  | nil => intro s k; exact ⟨rfl, by simp [crun]⟩
  | cons i is ih =>
    intro s k
    cases i with
    | setClient k' => have := hn (.setClient k') (by simp); simp [isSwitch] at this
    | op i =>
      obtain ⟨h1, h2⟩ := ih (fun j hj => hn j (by simp [hj])) (stepIn v Z C s i).1 k
      rw [crun_op]
      refine ⟨h1, ?_⟩
      intro x hx
      rcases List.mem_append.mp hx with hx | hx
      · obtain ⟨p, _, rfl⟩ := List.mem_map.mp hx; rfl
      · exact h2 x hx

/-- **a switch in the middle of any history**: what was handed over before stays handed over (to
    whoever received it), the switch itself hands nothing over, and everything handed over until the
    next switch — the batch that was under construction included — goes to the new client -/
theorem crun_switch (h1 h2 : List (CIn ρ)) (k' : Nat) (hn : ∀ i ∈ h2, isSwitch i = false) (s : State ρ) (k : Nat) :
    (crun v Z C s k (h1 ++ .setClient k' :: h2)).2 =
      (crun v Z C s k h1).2 ++ (crun v Z C (crun v Z C s k h1).1.1 k' h2).2 ∧
    (∀ x ∈ (crun v Z C (crun v Z C s k h1).1.1 k' h2).2, x.dest = k') ∧
    (crun v Z C s k (h1 ++ .setClient k' :: h2)).1.2 = k' := by
  rw [crun_append, crun_setClient]
  obtain ⟨d1, d2⟩ := dest_constant v Z C h2 hn (crun v Z C s k h1).1.1 k'
  exact ⟨rfl, d2, d1⟩

/-- the packs of a history with switches, whoever received them -/
def cemitted (s : State ρ) (k : Nat) (h : List (CIn ρ)) : List (Pack ρ) := (crun v Z C s k h).2.map (·.pack)

theorem cemitted_erase (s : State ρ) (k : Nat) (h : List (CIn ρ)) :
    cemitted v Z C s k h = emitted v Z C s (erase h) := by
  have := (crun_erase v Z C h s k).2
  unfold cemitted emitted
  rw [← this, List.map_map]; rfl

end

end ZipSender
