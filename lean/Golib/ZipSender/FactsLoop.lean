/-
  Golib.ZipSender.FactsLoop — interpreted tie A for the background loop and for the tail of
  `sendAndClear`.

  `xlate/c16` transcribes the body of `run()` into a `RunIR` (the statements of the Done branch, of
  the "GetTimeout returned a record" branch and of its else branch) and the statements of
  `sendAndClear` from the hand-over on into a `List SStmt`.  Both get a semantics here (`execR`,
  `execS`), and the model's `stop` / `step` / `sendAndClear` are proved to *be* that semantics of the
  reference IRs for every state and input; the generated obligations then only have to say that the
  transcribed IR is the reference IR.
-/
import Golib.ZipSender.Facts

namespace ZipSender

open Prim (encMany)

variable {ρ : Type}

inductive RStmt
  | drain        -- `for tmp := Queue.GetNoWait(); tmp != nil; tmp = Queue.GetNoWait() { …this.Append(data)… }`
  | flush        -- `this.sendAndClear()`
  | ret          -- `return`
  | appendData   -- `if data, ok := tmp.(*pack.LogSinkPack); ok { this.Append(data) }`
  | unknown (src : String)
deriving DecidableEq, Repr

structure RunIR where
  done    : List RStmt   -- `case <-this.ctx.Done():`
  got     : List RStmt   -- `default:` … `GetTimeout(…)` returned a record
  idle    : List RStmt   -- … returned nil
  timeout : T            -- the argument of GetTimeout
deriving DecidableEq, Repr

/-- (state, packs handed over, returned from `run`) -/
def execR (v : Variant) (Z : Zip) (C : Codec ρ) (data : Option ρ) : List RStmt → State ρ → State ρ × List (Pack ρ) × Bool
  | [], s => (s, [], false)
  | .ret :: _, s => ({ s with stopped := true }, [], true)
  | .drain :: rest, s =>
    let x := drain v Z C { s with queue := [] } s.queue
    let y := execR v Z C data rest x.1
    (y.1, x.2 ++ y.2.1, y.2.2)
  | .flush :: rest, s =>
    let x := sendAndClear v Z C s
    let y := execR v Z C data rest x.1
    (y.1, x.2 ++ y.2.1, y.2.2)
  | .appendData :: rest, s =>
    match data with
    | some r =>
      let x := appendRec v Z C s r
      let y := execR v Z C data rest x.1
      (y.1, x.2 ++ y.2.1, y.2.2)
    | none => execR v Z C data rest s
  | .unknown _ :: rest, s => execR v Z C data rest s

/-- the loop body the model of variant `v` stands for -/
def runIROf (v : Variant) : RunIR :=
  { done := if v.drainOnStop then [.drain, .flush, .ret] else [.flush, .ret],
    got := [.appendData], idle := [.flush], timeout := .maxWait }

def refRun : RunIR := runIROf .fixed

theorem stop_is_execR (v : Variant) (Z : Zip) (C : Codec ρ) (s : State ρ) (hs : s.stopped = false) :
    execR v Z C none (runIROf v).done s = ((stop v Z C s).1, (stop v Z C s).2, true) := by
  have hs' : ¬ s.stopped = true := by simp [hs]
  by_cases hv : v.drainOnStop = true
  · unfold stop; rw [if_neg hs']
    simp [runIROf, hv, execR]
  · have hv' : v.drainOnStop = false := by simpa using hv
    unfold stop; rw [if_neg hs']
    simp [runIROf, hv', execR]

theorem step_got_is_execR (v : Variant) (Z : Zip) (C : Codec ρ) (s : State ρ) (r : ρ) (q : List ρ)
    (hs : s.stopped = false) (hq : s.queue = r :: q) :
    execR v Z C (some r) (runIROf v).got { s with queue := q } = ((step v Z C s).1, (step v Z C s).2, false) := by
  unfold step; rw [if_neg (by simp [hs]), hq]
  simp [runIROf, execR]

theorem step_idle_is_execR (v : Variant) (Z : Zip) (C : Codec ρ) (s : State ρ)
    (hs : s.stopped = false) (hq : s.queue = []) :
    execR v Z C none (runIROf v).idle s = ((step v Z C s).1, (step v Z C s).2, false) := by
  unfold step; rw [if_neg (by simp [hs]), hq]
  simp [runIROf, execR]

/-- statements of an error branch (no nested hand-over) -/
inductive EStmt | log | ret | unknown (src : String)
deriving DecidableEq, Repr

inductive SStmt
  | handOver (onError : List EStmt)
  | resetBuf | clearFirst | clearCount
  | unknown (src : String)
deriving DecidableEq, Repr

def errReturns : List EStmt → Bool
  | [] => false
  | .ret :: _ => true
  | _ :: rest => errReturns rest

/-- `this.buffer.Reset()`: the bytes stay in the backing array -/
def resetBuffer (C : Codec ρ) (s : State ρ) : State ρ :=
  { s with buf := [], bufLen := 0,
           store := encMany C.enc s.buf.reverse ++ s.store.drop (encMany C.enc s.buf.reverse).length }

/-- run the tail; `ok` is the client's answer to this hand-over (already taken off `answers`) -/
def execS (C : Codec ρ) (ok : Bool) : List SStmt → State ρ → State ρ
  | [], s => s
  | .handOver onErr :: rest, s => if !ok && errReturns onErr then s else execS C ok rest s
  | .resetBuf :: rest, s => execS C ok rest (resetBuffer C s)
  | .clearFirst :: rest, s => execS C ok rest { s with firstTime := 0 }
  | .clearCount :: rest, s => execS C ok rest { s with count := 0 }
  | .unknown _ :: rest, s => execS C ok rest s

def tailOf (v : Variant) : List SStmt :=
  [.handOver (if v.resetOnError then [.log] else [.log, .ret]), .resetBuf, .clearFirst, .clearCount]

def refTail : List SStmt := tailOf .fixed

/-- the model's flush, for every variant, state and answer, is the semantics of `tailOf v` -/
theorem sendAndClear_is_execS (v : Variant) (Z : Zip) (C : Codec ρ) (s : State ρ) (h : s.bufLen ≠ 0) :
    (sendAndClear v Z C s).1 = execS C (s.answers.headD true) (tailOf v) { s with answers := s.answers.tail } := by
  unfold sendAndClear
  rw [if_neg h]
  cases hv : v.resetOnError <;> cases ha : s.answers.headD true <;>
    simp [tailOf, execS, errReturns, resetBuffer, hv]

/-- **a hand-over is final**: with the reference tail the state after a flush does not depend on
    what the client answered -/
theorem refTail_ignores_answer (C : Codec ρ) (s : State ρ) (ok ok' : Bool) :
    execS C ok refTail s = execS C ok' refTail s := by
  cases ok <;> cases ok' <;> simp [refTail, tailOf, Variant.fixed, execS, errReturns]

end ZipSender
