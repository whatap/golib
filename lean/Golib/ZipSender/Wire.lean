/-
  Golib.ZipSender.Wire — the emitted ZipPack as it travels and as it is received.

  What the TCP client does with a pack handed to it is `pack.WritePack(dout, p)`; the receiving
  side is an assumed server (no Go in /repo decompresses a ZipPack): it calls `pack.ReadPack`, which
  dispatches on the type code (PACK_ZIP = 0x170b) to `ZipPack.Read`, decompresses `Records` when
  `Status == ZIPPED` and calls `ZipPack.GetRecords`.

    zipRec / zipPV   the ZipPack object (header, Status, RecordCount, Records) as a `Layout.Rec`;
                     its writer and reader layouts are the ones `xlate/c03` regenerates from
                     ZipPack.Write / ZipPack.Read on every run (`Gen.Packs.ZipPack.w / .r`)
    wire             `pack.WritePack` of it: 16-bit type code ++ header ++ status byte ++ decimal
                     record count ++ blob
    unwire           `pack.ReadPack` with the factory entry for the type code, projected to the
                     fields a receiver uses

  Definitions are executable (the driver runs `wire` / `unwire`); the facts are in WireFacts.lean.
-/
import Golib.Packs.Container
import Golib.Gen.PackLayouts

namespace ZipSender.Wire

open Layout Packs

/-- PACK_ZIP = 0x170b -/
def zipCode : Int := 5899

/-- a ZipPack object: the AbstractPack header and the three fields of ZipPack.go -/
def zipRec (h : Hdr) (status count : Int) (records : Bytes) : Rec := fun k =>
  if k = "Pcode" then .int h.pcode else if k = "Oid" then .int h.oid
  else if k = "Okind" then .int h.okind else if k = "Onode" then .int h.onode
  else if k = "Time" then .int h.time
  else if k = "Status" then .int status else if k = "RecordCount" then .int count
  else if k = "Records" then .bytes records else .int 0

def zipPV (h : Hdr) (status count : Int) (records : Bytes) : PV :=
  ⟨zipCode, Gen.Packs.ZipPack.w, Gen.Packs.ZipPack.r, zipRec h status count records⟩

/-- `pack.WritePack(dout, zipPack)` -/
def wire (h : Hdr) (status count : Int) (records : Bytes) : Bytes := writePack (zipPV h status count records)

/-- `CreatePack`: the factory constructs a ZipPack for its type code -/
def facZ : Factory := fun c => if c = zipCode then some Gen.Packs.ZipPack.r else none

/-- what a receiver takes from a pack that `ReadPack` delivered -/
structure Received where
  hdr : Hdr
  status : Int
  count : Int
  records : Bytes
deriving Repr

def getInt (o : Out) (k : String) : Int := ((o.lookup k).getD (.int 0)).toInt
def getBytes (o : Out) (k : String) : Bytes :=
  match o.lookup k with
  | some (.bytes b) => b
  | _ => []

def received (o : Out) : Received :=
  ⟨⟨getInt o "Pcode", getInt o "Oid", getInt o "Okind", getInt o "Onode", getInt o "Time"⟩,
   getInt o "Status", getInt o "RecordCount", getBytes o "Records"⟩

/-- `pack.ReadPack(din)` for a ZipPack on the wire: the fields read and what follows in the stream -/
def unwire (fac : Factory) (bs : Bytes) : Option (Received × Bytes) :=
  match readPack fac bs with
  | some ((code, o), rest) => if code = zipCode then some (received o, rest) else none
  | none => none

end ZipSender.Wire
