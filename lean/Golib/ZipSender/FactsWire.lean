/-
  Golib.ZipSender.FactsWire — tie A, interpreted, for the container methods of lang/pack/ZipPack.go
  and for `SetTcpClient`: the statements `xlate/c16` transcribes (`ZStmt`), their semantics
  (`execSet`, `execGet`, `execClient`).  That the reference transcriptions *are* C03's container
  model (`Packs.Zip.setRecords`, `Packs.Zip.getRecords`) and the `setClient` input of
  `Golib.ZipSender.Client`, for all inputs, is proved in Golib/Props/C16Gen.lean
  (`zip_setRecords_is_source`, `zip_getRecords_is_source`, `setTcpClient_is_source`).
-/
import Golib.Packs.Container
import Golib.ZipSender.Client

namespace ZipSender

open Layout Packs

/-- the statements of `ZipPack.SetRecords`, `ZipPack.GetRecords` and `SetTcpClient`, as transcribed -/
inductive ZStmt
  | setCountLen              -- this.RecordCount = len(items)
  | newOut                   -- o := io.NewDataOutputX()
  | writeEach                -- for _, it := range items { o = WritePack(o, it) }
  | setRecordsOut            -- this.Records = o.ToByteArray()
  | retThis                  -- return this
  | newItems                 -- items := make([]Pack, 0)
  | nilGuard                 -- if this.Records == nil { return nil }
  | newIn                    -- in := io.NewDataInputX(this.Records)
  | readLoop (bound : String) (stamps : List (String × String)) (appends : Bool)
      -- for i := 0; i < this.<bound>; i++ { p := ReadPack(in); p.<setter>(this.<field>) …; items = append(items, p) }
  | retItems                 -- return items
  | setClient                -- this.client = c
  | unknown (src : String)
deriving DecidableEq, Repr

def refSetRecords : List ZStmt := [.setCountLen, .newOut, .writeEach, .setRecordsOut, .retThis]

/-- run the statements on the receiver `z` with the argument `ps`; `o` is the local output stream -/
def execSet (ps : List PV) : List ZStmt → Packs.Zip → Bytes → Option Packs.Zip
  | [], _, _ => none                                   -- fell off the end without `return this`
  | .setCountLen :: r, z, o => execSet ps r { z with count := ps.length } o
  | .newOut :: r, z, _ => execSet ps r z []
  | .writeEach :: r, z, o => execSet ps r z (o ++ writePacks ps)
  | .setRecordsOut :: r, z, o => execSet ps r { z with records := o } o
  | .retThis :: _, z, _ => some z
  | _ :: _, _, _ => none

def refStamps : List (String × String) :=
  [("SetPCODE", "Pcode"), ("SetOID", "Oid"), ("SetOKIND", "Okind"), ("SetONODE", "Onode")]

def refGetRecords : List ZStmt :=
  [.newItems, .nilGuard, .newIn, .readLoop "RecordCount" refStamps true, .retItems]

/-- the header field of the container a stamp reads (`this.<field>`) -/
def hdrGet (h : Hdr) : String → Option Int
  | "Pcode" => some h.pcode | "Oid" => some h.oid | "Okind" => some h.okind | "Onode" => some h.onode
  | "Time" => some h.time | _ => none

/-- the field of the inner pack a setter writes -/
def setterKey : String → Option String
  | "SetPCODE" => some "Pcode" | "SetOID" => some "Oid" | "SetOKIND" => some "Okind" | "SetONODE" => some "Onode"
  | _ => none

/-- one `p.<setter>(this.<field>)` applied to a field of the inner pack -/
def applyStamp (h : Hdr) (kv : String × Val) (st : String × String) : String × Val :=
  match setterKey st.1, hdrGet h st.2 with
  | some k, some v => if kv.1 = k then (kv.1, .int v) else kv
  | _, _ => kv

def stampWith (h : Hdr) (stamps : List (String × String)) (p : Int × Out) : Int × Out :=
  (p.1, p.2.map (fun kv => stamps.foldl (applyStamp h) kv))

structure GetSt where
  items : List (Int × Out)
  inp : Bytes

def execGet (fac : Factory) (z : Packs.Zip) : List ZStmt → GetSt → Option (List (Int × Out))
  | [], _ => none
  | .newItems :: r, g => execGet fac z r { g with items := [] }
  | .nilGuard :: r, g => execGet fac z r g       -- the model's `records` is never nil (nil = no payload at all)
  | .newIn :: r, g => execGet fac z r { g with inp := z.records }
  | .readLoop bound stamps appends :: r, g =>
    if bound = "RecordCount" ∧ appends = true then
      match readPacks fac z.count g.inp with
      | none => none                               -- ReadPack panics on a short / foreign payload
      | some (xs, rest) => execGet fac z r { items := g.items ++ xs.map (stampWith z.hdr stamps), inp := rest }
    else none
  | .retItems :: _, g => some g.items
  | _ :: _, _ => none

theorem stampField_eq (h : Hdr) (kv : String × Val) : refStamps.foldl (applyStamp h) kv = stampField h kv := by
  simp only [refStamps, List.foldl_cons, List.foldl_nil, applyStamp, setterKey, hdrGet, stampField]
  by_cases h1 : kv.1 = "Pcode"
  · simp [h1]
  · by_cases h2 : kv.1 = "Oid"
    · simp [h2]
    · by_cases h3 : kv.1 = "Okind"
      · simp [h3]
      · by_cases h4 : kv.1 = "Onode" <;> simp [h1, h2, h3, h4]

theorem stampWith_ref (h : Hdr) : stampWith h refStamps = stamp h := by
  funext p
  unfold stampWith stamp
  rw [funext (stampField_eq h)]

def refSetTcpClient : List ZStmt := [.setClient]

/-- the body of `SetTcpClient(c_k')` on a sender in state `s` whose client is `k`: new pair and the
    packs handed over -/
def execClient {ρ : Type} (k' : Nat) : List ZStmt → State ρ × Nat → Option ((State ρ × Nat) × List (Pack ρ))
  | [], x => some (x, [])
  | .setClient :: r, (s, _) => execClient k' r (s, k')
  | _ :: _, _ => none

theorem execClient_ref {ρ : Type} (s : State ρ) (k k' : Nat) :
    execClient k' refSetTcpClient (s, k) = some ((s, k'), []) := rfl

end ZipSender
