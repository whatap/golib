/-
  Golib.ZipSender.Model — CodeModel of logsink/zip/ZipSendProxyThread.go.

  The sender batches encoded log records in one reusable `bytes.Buffer`, wraps the
  buffer in a `ZipPack` when a flush condition is met and hands the pack to a TCP
  client.  The model follows the code that exists, statement by statement:

    GetInstance   → `resolve`        (the settings assignments as an effect list)
    ApplyConfig   → `Conf.resolve`
    Add           → `add`            (RequestQueue.Put: bounded, drops on overflow)
    run (1 iter.) → `step`           (dequeue → Append | queue idle → sendAndClear)
    run (Done)    → `stop`
    Append        → `appendRec`
    sendAndClear  → `sendAndClear`
    doZip         → `mkPack`
    SendDirect    → `sendDirect`

  Three behaviours of the code as found (and two seeded regressions) are switched by a `Variant` so that the same
  definitions describe the repaired code (`Variant.fixed`, what the theorems are about and
  what the driver runs) and the code as found (`Variant.asFound`, for the `finding_*`
  witnesses): D31 defaults overwritten, D32 uncompressed payload aliases the reusable
  buffer, D33 queue not drained on stop.

  Aliasing is modelled explicitly because the property is about it: a pack's payload is
  either `owned` or a view (`sharedBuf`, `directBuf k`) of a reusable buffer whose
  backing array persists across `Reset` and is overwritten by later writes
  (`State.store`; worst case of `bytes.Buffer`: the capacity suffices, no reallocation).

  Records are abstract (`ρ`) with an encoder and a time stamp (`Codec`); gzip is abstract
  (`Zip`).  Their round-trip facts are *hypotheses of theorems*, not axioms.
-/
import Golib.Prim.Codec

namespace ZipSender

open Prim (encMany)

/-! ### settings, construction, configuration -/

structure Settings where
  maxWait  : Int      -- logsinkMaxWaitTime (ms)
  queueCap : Int      -- logsinkQueueSize
  maxBuf   : Int      -- logsinkMaxBufferSize (bytes)
  zipMin   : Int      -- logsinkZipMinSize (bytes)
deriving DecidableEq, Repr, Inhabited

/-- the constants of the `const (…)` block: 5 s, 1000 records, 64 KiB, 100 bytes -/
def defaults : Settings := ⟨5000, 1000, 65536, 100⟩

structure Variant where
  keepDefaults   : Bool   -- D31 repaired: an option left at zero keeps the default
  copyOnHandOver : Bool   -- D32 repaired: an uncompressed payload is copied out of the reusable buffer
  drainOnStop    : Bool   -- D33 repaired: the queue is drained into the last batch on cancellation
  resetOnError   : Bool := true
    -- the code logs a SendFlush error and resets the batch all the same (true in the code as found
    -- and in the repaired code; `false` describes the seeded regression "return on error before the reset")
  countAfterWrite : Bool := true
    -- `packCount += 1` comes after the record has been written to the buffer (true in the code);
    -- `false` describes the seeded regression "count first, then serialise"
deriving DecidableEq, Repr

def Variant.fixed : Variant := ⟨true, true, true, true, true⟩
def Variant.asFound : Variant := ⟨false, false, false, true, true⟩
/-- the repaired code with the regression "sendAndClear returns when SendFlush fails" -/
def Variant.returnOnError : Variant := ⟨true, true, true, false, true⟩
/-- the repaired code with the regression "packCount += 1 before WritePack" -/
def Variant.countFirst : Variant := ⟨true, true, true, true, false⟩

/-- the two error-path behaviours every theorem about histories relies on -/
def Variant.sound (v : Variant) : Bool := v.resetOnError && v.countAfterWrite

inductive Field | maxWait | queueCap | maxBuf | zipMin
deriving DecidableEq, Repr

def Settings.get (s : Settings) : Field → Int
  | .maxWait => s.maxWait | .queueCap => s.queueCap | .maxBuf => s.maxBuf | .zipMin => s.zipMin

def Settings.set (s : Settings) (f : Field) (x : Int) : Settings :=
  match f with
  | .maxWait => { s with maxWait := x } | .queueCap => { s with queueCap := x }
  | .maxBuf => { s with maxBuf := x } | .zipMin => { s with zipMin := x }

/-- one assignment `p.<field> = …` of `GetInstance`: the right-hand side is a constant or the
    same field of the option struct `o`; `guarded` = wrapped in `if o.<field> > 0 { … }` -/
inductive Rhs | const (n : Int) | opt
deriving DecidableEq, Repr

structure Assign where
  field   : Field
  rhs     : Rhs
  guarded : Bool
deriving DecidableEq, Repr

def applyAssign (o : Settings) (p : Settings) (a : Assign) : Settings :=
  match a.rhs with
  | .const n => p.set a.field n
  | .opt => if a.guarded && !(o.get a.field > 0) then p else p.set a.field (o.get a.field)

/-- run the assignment sequence on a zero-initialised struct (`new(ZipSendProxyThread)`) -/
def resolveBy (as : List Assign) (o : Settings) : Settings := as.foldl (applyAssign o) ⟨0, 0, 0, 0⟩

def defaultAssigns : List Assign :=
  [⟨.maxWait, .const 5000, false⟩, ⟨.queueCap, .const 1000, false⟩,
   ⟨.maxBuf, .const 65536, false⟩, ⟨.zipMin, .const 100, false⟩]

/-- the settings assignments of `GetInstance`, in source order, repaired (D31) -/
def getInstanceFixed : List Assign :=
  defaultAssigns ++ [⟨.maxWait, .opt, true⟩, ⟨.queueCap, .opt, true⟩, ⟨.maxBuf, .opt, true⟩, ⟨.zipMin, .opt, true⟩]

/-- … and as found: defaults, then an unconditional overwrite from the option struct -/
def getInstanceFound : List Assign :=
  defaultAssigns ++ [⟨.maxWait, .opt, false⟩, ⟨.queueCap, .opt, false⟩, ⟨.maxBuf, .opt, false⟩, ⟨.zipMin, .opt, false⟩]

/-- settings of a sender created by `GetInstance` when the option struct carries `o`
    (no exported option sets these four fields, so `o` is all zeros in practice) -/
def resolve (v : Variant) (o : Settings) : Settings :=
  resolveBy (if v.keepDefaults then getInstanceFixed else getInstanceFound) o

/-- a configuration as `ApplyConfig` sees it: the four keys, `none` = key absent -/
structure Conf where
  queueSize : Option Int   -- logsink_queue_size
  maxWait   : Option Int   -- max_wait_time
  maxBuf    : Option Int   -- max_buffer_size
  zipMin    : Option Int   -- logsink_zip_min_size
deriving DecidableEq, Repr

/-- fall-back values written in `ApplyConfig` (note: 2000 ms, not the 5000 ms default) -/
def confFallback : Settings := ⟨2000, 1000, 65536, 100⟩

def Conf.resolve (c : Conf) : Settings :=
  ⟨c.maxWait.getD confFallback.maxWait, c.queueSize.getD confFallback.queueCap,
   c.maxBuf.getD confFallback.maxBuf, c.zipMin.getD confFallback.zipMin⟩

/-! ### records, packs, state -/

structure Codec (ρ : Type) where
  enc   : ρ → Bytes    -- pack.WritePack
  time  : ρ → Int      -- LogSinkPack.Time
  fails : ρ → Bool     -- pack.WritePack panics on this record (nil Tags, nil *LogSinkPack) or the queue
                       -- element is not a *LogSinkPack at all: `Append` recovers / the loop skips it

/-- the records that serialise -/
def good (C : Codec ρ) (rs : List ρ) : List ρ := rs.filter (fun r => !C.fails r)

structure Zip where
  zip : Bytes → Bytes -- compressutil.DoZip

/-- hand-over site: `sendAndClear` (the shared batch) or `SendDirect` -/
inductive Src | shared | direct
deriving DecidableEq, Repr

/-- what `ZipPack.Records` refers to -/
inductive Ref
  | owned                 -- a slice of its own
  | sharedBuf             -- a view of the sender's reusable buffer
  | directBuf (k : Nat)   -- a view of the local buffer of the k-th `SendDirect` call
deriving DecidableEq, Repr

structure Pack (ρ : Type) where
  src     : Src
  recs    : List ρ     -- ghost: the records the pack was built from
  count   : Nat        -- RecordCount
  zipped  : Bool       -- Status == ZIPPED
  payload : Bytes      -- Records, as handed over
  ref     : Ref

structure State (ρ : Type) where
  settings  : Settings
  queue     : List ρ      -- RequestQueue, oldest first
  buf       : List ρ      -- records encoded into the buffer, newest first
  bufLen    : Nat         -- buffer.Len()
  count     : Nat         -- packCount
  firstTime : Int
  stopped   : Bool        -- the background loop has returned
  store     : Bytes       -- backing array of the reusable buffer as of its last Reset
  dstores   : List Bytes  -- backing arrays of the local buffers of finished SendDirect calls, newest first
  answers   : List Bool   -- environment: what the client will answer to the hand-overs to come
                          -- (`true` = nil error; an exhausted list answers `true`)

/-- a fresh sender; `ans` = the client's future answers (any list: the theorems quantify over it) -/
def init (st : Settings) (ans : List Bool := []) : State ρ :=
  { settings := st, queue := [], buf := [], bufLen := 0, count := 0, firstTime := 0,
    stopped := false, store := [], dstores := [], answers := ans }

/-- bytes of a batch whose records are listed newest first -/
def bytesOf (C : Codec ρ) (bufRev : List ρ) : Bytes := encMany C.enc bufRev.reverse

/-! ### doZip, sendAndClear, Append -/

/-- `NewZipPack` + `RecordCount`/`Records` assignments + `doZip` -/
def mkPack (v : Variant) (Z : Zip) (st : Settings) (src : Src) (alias : Ref)
    (recs : List ρ) (count : Nat) (bytes : Bytes) : Pack ρ :=
  if (bytes.length : Int) < st.zipMin then
    { src, recs, count, zipped := false, payload := bytes,
      ref := if v.copyOnHandOver then .owned else alias }
  else
    { src, recs, count, zipped := true, payload := Z.zip bytes, ref := .owned }

def sendAndClear (v : Variant) (Z : Zip) (C : Codec ρ) (s : State ρ) : State ρ × List (Pack ρ) :=
  if s.bufLen = 0 then (s, [])
  else
    let recs := s.buf.reverse
    let bytes := encMany C.enc recs
    let p := mkPack v Z s.settings .shared .sharedBuf recs s.count bytes
    -- `if err := this.client.SendFlush(p, true); err != nil { this.Log.Errorf(…) }`
    let ok := s.answers.headD true
    let s1 := { s with answers := s.answers.tail }
    if !ok && !v.resetOnError then (s1, [p])
    else
      ({ s1 with buf := [], bufLen := 0, count := 0, firstTime := 0,
                 store := bytes ++ s.store.drop bytes.length },
       [p])

/-- `Append` when the record serialises -/
def appendOk (v : Variant) (Z : Zip) (C : Codec ρ) (s : State ρ) (r : ρ) : State ρ × List (Pack ρ) :=
  let s1 := { s with buf := r :: s.buf, bufLen := s.bufLen + (C.enc r).length, count := s.count + 1 }
  if s.firstTime = 0 then
    let s2 := { s1 with firstTime := C.time r }
    if s.settings.maxBuf ≤ (s2.bufLen : Int) then sendAndClear v Z C s2 else (s2, [])
  else
    if s.settings.maxBuf ≤ (s1.bufLen : Int) ∨ s.settings.maxWait ≤ C.time r - s.firstTime then
      sendAndClear v Z C s1
    else (s1, [])

/-- `Append`: `defer recover()`; a record whose serialisation panics is dropped and — the count is
    incremented only after the write — leaves no trace in the batch -/
def appendRec (v : Variant) (Z : Zip) (C : Codec ρ) (s : State ρ) (r : ρ) : State ρ × List (Pack ρ) :=
  if C.fails r then
    (if v.countAfterWrite then s else { s with count := s.count + 1 }, [])
  else appendOk v Z C s r

/-! ### queue, background loop -/

/-- `RequestQueue.Put` succeeds -/
def canPut (s : State ρ) : Bool := decide (s.settings.queueCap ≤ 0) || decide ((s.queue.length : Int) < s.settings.queueCap)

def add (s : State ρ) (r : ρ) : State ρ × List (Pack ρ) :=
  if canPut s then ({ s with queue := s.queue ++ [r] }, []) else (s, [])

/-- one iteration of `run` while the context is live -/
def step (v : Variant) (Z : Zip) (C : Codec ρ) (s : State ρ) : State ρ × List (Pack ρ) :=
  if s.stopped then (s, [])
  else match s.queue with
    | r :: q => appendRec v Z C { s with queue := q } r
    | [] => sendAndClear v Z C s

/-- `Append` every record of `q` in turn -/
def drain (v : Variant) (Z : Zip) (C : Codec ρ) : State ρ → List ρ → State ρ × List (Pack ρ)
  | s, [] => (s, [])
  | s, r :: q =>
    let (s1, o1) := appendRec v Z C s r
    let (s2, o2) := drain v Z C s1 q
    (s2, o1 ++ o2)

/-- cancellation observed by `run`: (drain,) final flush, return -/
def stop (v : Variant) (Z : Zip) (C : Codec ρ) (s : State ρ) : State ρ × List (Pack ρ) :=
  if s.stopped then (s, [])
  else
    let d := if v.drainOnStop then drain v Z C { s with queue := [] } s.queue else (s, [])
    let f := sendAndClear v Z C d.1
    ({ f.1 with stopped := true }, d.2 ++ f.2)

/-! ### SendDirect -/

structure DLoop (ρ : Type) where
  cur   : List ρ          -- records in the local buffer, newest first
  len   : Nat             -- buffer.Len()
  count : Nat             -- p.RecordCount
  store : Bytes           -- backing array of the local buffer as of its last Reset
  out   : List (Pack ρ)   -- packs handed over so far, newest first
  ans   : List Bool       -- client answers still to come (an error is logged, nothing else)

def directStep (v : Variant) (Z : Zip) (C : Codec ρ) (st : Settings) (k : Nat) (d : DLoop ρ) (r : ρ) : DLoop ρ :=
  let cur := r :: d.cur
  let len := d.len + (C.enc r).length
  let count := d.count + 1
  if st.maxBuf ≤ (len : Int) then
    let recs := cur.reverse
    let bytes := encMany C.enc recs
    { cur := [], len := 0, count := 0, store := bytes ++ d.store.drop bytes.length,
      out := mkPack v Z st .direct (.directBuf k) recs count bytes :: d.out, ans := d.ans.tail }
  else { d with cur, len, count }

/-- the `for _, it := range arr` loop -/
def directLoop (v : Variant) (Z : Zip) (C : Codec ρ) (st : Settings) (k : Nat) (ans : List Bool) (rs : List ρ) : DLoop ρ :=
  rs.foldl (directStep v Z C st k) { cur := [], len := 0, count := 0, store := [], out := [], ans := ans }

/-- the `if buffer.Len() > 0 { … }` after the loop -/
def directFinish (v : Variant) (Z : Zip) (C : Codec ρ) (s : State ρ) (k : Nat) (d : DLoop ρ) : State ρ × List (Pack ρ) :=
  if d.len > 0 then
    let recs := d.cur.reverse
    let bytes := encMany C.enc recs
    ({ s with dstores := (bytes ++ d.store.drop bytes.length) :: s.dstores, answers := d.ans.tail },
     (mkPack v Z s.settings .direct (.directBuf k) recs d.count bytes :: d.out).reverse)
  else ({ s with dstores := d.store :: s.dstores, answers := d.ans }, d.out.reverse)

def sendDirect (v : Variant) (Z : Zip) (C : Codec ρ) (s : State ρ) (rs : List ρ) : State ρ × List (Pack ρ) :=
  directFinish v Z C s s.dstores.length (directLoop v Z C s.settings s.dstores.length s.answers rs)

/-! ### histories -/

inductive In (ρ : Type)
  | add (r : ρ)                -- Add: Queue.Put
  | step                       -- one iteration of the background loop
  | stop                       -- cancel + the loop's Done branch
  | append (r : ρ)             -- Append called directly (sender used without its queue)
  | sendDirect (rs : List ρ)
  | applyConfig (c : Conf)

def stepIn (v : Variant) (Z : Zip) (C : Codec ρ) (s : State ρ) : In ρ → State ρ × List (Pack ρ)
  | .add r => add s r
  | .step => step v Z C s
  | .stop => stop v Z C s
  | .append r => appendRec v Z C s r
  | .sendDirect rs => sendDirect v Z C s rs
  | .applyConfig c => ({ s with settings := c.resolve }, [])

/-- run a history; every emitted pack is paired with the settings in force when it was built -/
def run (v : Variant) (Z : Zip) (C : Codec ρ) : State ρ → List (In ρ) → State ρ × List (Settings × Pack ρ)
  | s, [] => (s, [])
  | s, i :: is =>
    let (s1, o1) := stepIn v Z C s i
    let (s2, o2) := run v Z C s1 is
    (s2, o1.map (fun p => (s.settings, p)) ++ o2)

def emitted (v : Variant) (Z : Zip) (C : Codec ρ) (s : State ρ) (h : List (In ρ)) : List (Pack ρ) :=
  (run v Z C s h).2.map (·.2)

def final (v : Variant) (Z : Zip) (C : Codec ρ) (s : State ρ) (h : List (In ρ)) : State ρ :=
  (run v Z C s h).1

/-! ### what a retained pack shows later -/

/-- current content of the reusable buffer's backing array -/
def backing (C : Codec ρ) (s : State ρ) : Bytes := bytesOf C s.buf ++ s.store.drop s.bufLen

/-- `p.Records` as a client that kept the pack reads it in state `s` -/
def view (C : Codec ρ) (s : State ρ) (p : Pack ρ) : Bytes :=
  match p.ref with
  | .owned => p.payload
  | .sharedBuf => (backing C s).take p.payload.length
  | .directBuf k => ((s.dstores.reverse)[k]?.getD []).take p.payload.length

/-! ### ghost projections of a history (specification side) -/

/-- records accepted by the queue, in order -/
def accepted (v : Variant) (Z : Zip) (C : Codec ρ) : State ρ → List (In ρ) → List ρ
  | _, [] => []
  | s, i :: is =>
    (match i with | .add r => if canPut s then [r] else [] | _ => []) ++ accepted v Z C (stepIn v Z C s i).1 is

/-- records passed to `Append` directly, in order -/
def directAppends : List (In ρ) → List ρ
  | [] => []
  | .append r :: is => r :: directAppends is
  | _ :: is => directAppends is

/-- records passed to `SendDirect`, in order -/
def directSent : List (In ρ) → List ρ
  | [] => []
  | .sendDirect rs :: is => rs ++ directSent is
  | _ :: is => directSent is

def sharedRecs (ps : List (Pack ρ)) : List ρ := (ps.filter (fun p => p.src == .shared)).flatMap (·.recs)
def directRecs (ps : List (Pack ρ)) : List ρ := (ps.filter (fun p => p.src == .direct)).flatMap (·.recs)

end ZipSender
