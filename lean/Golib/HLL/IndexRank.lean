/-
  Golib.HLL.IndexRank — what `offerHashed` computes from the 32-bit hashed value.

  For 2 ≤ p ≤ 32 (the range the lemmas below assume; `PrecOK` is 2 ≤ p ≤ 30):
    idx p h  = the top p bits of h,
    rank p h = (number of leading zeros of the remaining 32−p bits, as a (32−p)-bit field) + 1,
               i.e. (32 − p) − bitlen (h mod 2^(32−p)) + 1, which is 32−p+1 when the rest is 0.
-/
import Golib.HLL.Model

namespace HLL

/-- the low `32 − p` bits of the hashed value -/
def rest (p h : Nat) : Nat := h % 2 ^ (32 - p)

theorem idx_rest (p h : Nat) : h = idx p h * 2 ^ (32 - p) + rest p h := by
  unfold idx rest
  rw [Nat.mul_comm]; exact (Nat.div_add_mod h _).symm

theorem rest_lt (p h : Nat) : rest p h < 2 ^ (32 - p) := Nat.mod_lt _ (Nat.two_pow_pos _)

theorem idx_lt (p h : Nat) (hp : p ≤ 32) (hh : h < 4294967296) : idx p h < 2 ^ p := by
  unfold idx
  apply (Nat.div_lt_iff_lt_mul (Nat.two_pow_pos _)).mpr
  rw [← Nat.pow_add]
  have : p + (32 - p) = 32 := by omega
  rw [this]; exact hh

theorem two_pow_pred (p : Nat) (hp : 2 ≤ p) : 2 ^ p = 2 ^ (p - 1) * 2 ∧ 2 ≤ 2 ^ (p - 1) := by
  constructor
  · rw [← Nat.pow_succ, Nat.succ_eq_add_one, Nat.sub_add_cancel (by omega)]
  · exact Nat.pow_le_pow_right (n := 2) (by decide) (show 1 ≤ p - 1 by omega)

/-- the argument of `clz32` in arithmetic form: rest·2^p + 2^(p−1) + 1 (the shift drops the index
    bits, the `|` sets a bit that is clear, and (rest + 1)·2^p ≤ 2^32 leaves room for the `+ 1`) -/
theorem rankArg_eq (p h : Nat) (hp1 : 2 ≤ p) (hp2 : p ≤ 32) :
    rankArg p h = rest p h * 2 ^ p + 2 ^ (p - 1) + 1 := by
  unfold rankArg rest
  obtain ⟨hpow, h2⟩ := two_pow_pred p hp1
  have e32 : (4294967296 : Nat) = 2 ^ (32 - p) * 2 ^ p := by
    rw [← Nat.pow_add, Nat.sub_add_cancel hp2]
  have hr := Nat.mul_le_mul_right (2 ^ p) (Nat.mod_lt h (Nat.two_pow_pos (32 - p)))
  rw [Nat.succ_mul] at hr
  rw [e32, Nat.mul_mod_mul_right, Nat.mul_comm _ (2 ^ p),
    ← Nat.two_pow_add_eq_or_of_lt (show 2 ^ (p - 1) < 2 ^ p by omega), Nat.mul_comm (2 ^ p)]
  exact Nat.mod_eq_of_lt (by omega)

theorem rankArg_lt (p h : Nat) : rankArg p h < 4294967296 := Nat.mod_lt _ (by decide)

theorem bitlen_rankArg (p h : Nat) (hp1 : 2 ≤ p) (hp2 : p ≤ 32) :
    bitlen (rankArg p h) = bitlen (rest p h) + p := by
  rw [rankArg_eq p h hp1 hp2]
  obtain ⟨hpow, h1⟩ := two_pow_pred p hp1
  rcases Nat.eq_zero_or_pos (rest p h) with e | hpos'
  · rw [e, bitlen_zero]; simp only [Nat.zero_mul, Nat.zero_add]
    have := bitlen_unique (2 ^ (p - 1) + 1) (p - 1) (by omega)
      (by rw [show p - 1 + 1 = p by omega, hpow]; omega)
    rw [this]; omega
  · have hdiv : (rest p h * 2 ^ p + 2 ^ (p - 1) + 1) / 2 ^ p = rest p h := by
      rw [Nat.add_assoc, Nat.mul_comm, Nat.mul_add_div (Nat.two_pow_pos p)]
      rw [Nat.div_eq_of_lt (by omega)]; rfl
    have := bitlen_shift (rest p h * 2 ^ p + 2 ^ (p - 1) + 1) p (by rw [hdiv]; exact hpos')
    rw [hdiv] at this
    exact this

/-- `rank` = leading zeros of the remaining `32 − p` bits (as a field of that width) + 1;
    an all-zero rest gives `32 − p + 1` -/
theorem rank_spec (p h : Nat) (hp1 : 2 ≤ p) (hp2 : p ≤ 32) :
    rank p h = (32 - p) - bitlen (rest p h) + 1 := by
  unfold rank
  rw [clz32_correct _ (rankArg_lt p h)]
  unfold nlz32
  rw [bitlen_rankArg p h hp1 hp2]
  omega

theorem rank_pos (p h : Nat) : 1 ≤ rank p h := by unfold rank; omega

theorem rank_le (p h : Nat) (hp1 : 2 ≤ p) (hp2 : p ≤ 32) : rank p h ≤ 33 - p := by
  rw [rank_spec p h hp1 hp2]; omega

/-- the rank always fits a 5-bit register -/
theorem rank_lt_32 (p h : Nat) (hp1 : 2 ≤ p) (hp2 : p ≤ 32) : rank p h < 32 := by
  have := rank_le p h hp1 hp2; omega

theorem rank_of_rest_zero (p h : Nat) (hp1 : 2 ≤ p) (hp2 : p ≤ 32) (hz : rest p h = 0) :
    rank p h = 32 - p + 1 := by
  rw [rank_spec p h hp1 hp2, hz, bitlen_zero]; omega

end HLL
