/-
  Golib.HLL.Murmur — the hash `Offer`/`OfferLong` use: `MurmurHashLong` of util/hll/MurmurHash.go
  (MurmurHash2 on the two 32-bit halves of the item), in fixed-width arithmetic on `Nat`.
  `MurmurHash(o uint32) = MurmurHashLong(uint64(o))`.
-/
namespace HLL

/-- `x ^= x >> s` -/
def xorShr (x s : Nat) : Nat := x ^^^ (x / 2 ^ s)

/-- `x * m` in `uint32`, `m = 0x5bd1e995` -/
def mulM (x : Nat) : Nat := x * 1540483477 % 4294967296

/-- `MurmurHashLong(data uint64) uint32` -/
def murmurLong (data : Nat) : Nat :=
  let k0 := data * 1540483477 % 18446744073709551616 % 4294967296   -- uint32(data * uint64(m))
  let k1 := xorShr k0 24
  let h1 := 0 ^^^ mulM k1
  let k2 := (data / 4294967296) * 1540483477 % 18446744073709551616 % 4294967296
  let k3 := xorShr k2 24
  let h2 := mulM h1
  let h3 := h2 ^^^ mulM k3
  let h4 := xorShr h3 13
  let h5 := mulM h4
  xorShr h5 15

/-- `MurmurHash(o uint32) uint32` -/
def murmur32 (o : Nat) : Nat := murmurLong (o % 4294967296)

theorem xorShr_lt (x s : Nat) (h : x < 4294967296) : xorShr x s < 4294967296 := by
  unfold xorShr
  have h2 : x / 2 ^ s < 2 ^ 32 := Nat.lt_of_le_of_lt (Nat.div_le_self _ _) (by simpa using h)
  have := Nat.xor_lt_two_pow (show x < 2 ^ 32 by simpa using h) h2
  simpa using this

theorem mulM_lt (x : Nat) : mulM x < 4294967296 := Nat.mod_lt _ (by decide)

/-- the hash is a 32-bit value for every item -/
theorem murmurLong_lt (data : Nat) : murmurLong data < 4294967296 := by
  unfold murmurLong
  exact xorShr_lt _ _ (mulM_lt _)

/-- test vectors: the values the implementation returned when this file was written; the harness
    re-computes them with the implementation on every run and compares them with this model -/
def murmurVectors : List (Nat × Nat) :=
  [(0, 0), (1, 1527037976), (2, 2262979730), (255, 2629850360), (4294967295, 114743869),
   (4294967296, 2990572385), (4294967297, 1040440789), (9223372036854775808, 630388283),
   (9223372036854775809, 2302716845), (18446744073709551615, 2257181111),
   (81985529216486895, 3944479949), (16045690981097406464, 180615490),
   (1234567890123456789, 3964538363), (180388626432, 4209428433), (180388626439, 1111865740)]

end HLL
