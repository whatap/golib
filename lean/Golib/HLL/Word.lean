/-
  Golib.HLL.Word — six 5-bit registers packed in one 32-bit word.

  CodeModel of the word-level part of /repo/util/hll/RegisterSet.go
  (`Get`, `Set`, `UpdateIfGreater`, the inner loop of `Merge`) in arithmetic
  form: register `i` of word `w` is the base-32 digit `w / 32^i % 32`
  (`(w & (0x1f << 5i)) >> 5i` in the code).
-/

namespace HLL

/-- `RegisterSet.Get` on one word: `(w & (0x1f << shift)) >> shift`, `shift = 5·i` -/
def wordGet (w i : Nat) : Nat := w / 2 ^ (5 * i) % 32

/-- `RegisterSet.Set` on one word: `(w & ^(0x1f << shift)) | (v << shift)` (for `v < 32`) -/
def wordSet (w i v : Nat) : Nat := w - wordGet w i * 2 ^ (5 * i) + v * 2 ^ (5 * i)

/-- `RegisterSet.UpdateIfGreater` on one word: compare the masked current value with the
    shifted new value, store the new value if greater; returns the word and "changed" -/
def wordUpd (w i v : Nat) : Nat × Bool :=
  if wordGet w i < v then (wordSet w i v, true) else (w, false)

/-- inner loop of `RegisterSet.Merge`: register-wise maximum, bits 30/31 dropped -/
def mergeWord (a b : Nat) : Nat :=
  max (wordGet a 0) (wordGet b 0)
  + max (wordGet a 1) (wordGet b 1) * 32
  + max (wordGet a 2) (wordGet b 2) * 1024
  + max (wordGet a 3) (wordGet b 3) * 32768
  + max (wordGet a 4) (wordGet b 4) * 1048576
  + max (wordGet a 5) (wordGet b 5) * 33554432

theorem wordGet_lt (w i : Nat) : wordGet w i < 32 := Nat.mod_lt _ (by decide)

theorem wordGet_zero (i : Nat) : wordGet 0 i = 0 := by simp [wordGet]

/-- register `i + k` is register `k` of the word shifted right by `i` registers -/
theorem wordGet_add (w i k : Nat) : wordGet w (i + k) = wordGet (w / 2 ^ (5 * i)) k := by
  unfold wordGet
  rw [Nat.mul_add, Nat.pow_add, Nat.div_div_eq_div_mul]

/-- the registers below `i` are those of the low `5·i` bits -/
theorem wordGet_mod (w : Nat) {i j : Nat} (h : j < i) : wordGet (w % 2 ^ (5 * i)) j = wordGet w j := by
  unfold wordGet
  rw [show 5 * i = 5 * j + (5 + 5 * (i - j - 1)) by omega, Nat.pow_add, Nat.pow_add,
    Nat.mod_mul_right_div_self, Nat.mod_mul_right_mod]

/-- `Set` in positional form: the part above the field, the new value, the part below it -/
theorem wordSet_eq (w i v : Nat) :
    wordSet w i v = 2 ^ (5 * i) * (w / 2 ^ (5 * i) / 32 * 32 + v) + w % 2 ^ (5 * i) := by
  unfold wordSet wordGet
  generalize 2 ^ (5 * i) = P
  have h1 := Nat.div_add_mod w P
  have h2 : P * (w / P) = P * (w / P / 32 * 32) + w / P % 32 * P := by
    rw [Nat.mul_comm _ P, ← Nat.mul_add, Nat.div_add_mod']
  rw [Nat.mul_add, Nat.mul_comm P v]
  omega

theorem wordSet_div (w i v : Nat) :
    wordSet w i v / 2 ^ (5 * i) = w / 2 ^ (5 * i) / 32 * 32 + v := by
  rw [wordSet_eq, Nat.mul_add_div (Nat.two_pow_pos _),
    Nat.div_eq_of_lt (Nat.mod_lt _ (Nat.two_pow_pos _)), Nat.add_zero]

theorem wordSet_mod (w i v : Nat) : wordSet w i v % 2 ^ (5 * i) = w % 2 ^ (5 * i) := by
  rw [wordSet_eq, Nat.mul_add_mod, Nat.mod_mod]

theorem wordGet_wordSet (w i j v : Nat) (hv : v < 32) :
    wordGet (wordSet w i v) j = if i = j then v else wordGet w j := by
  rcases Nat.lt_or_ge j i with h | h
  · rw [if_neg (by omega), ← wordGet_mod _ h, wordSet_mod, wordGet_mod _ h]
  · obtain ⟨k, rfl⟩ := Nat.exists_eq_add_of_le h
    rw [wordGet_add, wordGet_add, wordSet_div]
    cases k with
    | zero => simp only [wordGet, Nat.add_zero, if_true]; omega
    | succ k =>
      rw [if_neg (by omega), Nat.add_comm k, wordGet_add, wordGet_add]
      congr 1
      omega

/-- `Set` stays within any width that contains the field -/
theorem wordSet_lt {n : Nat} (w i v : Nat) (hn : 5 * (i + 1) ≤ n) (hv : v < 32) (hw : w < 2 ^ n) :
    wordSet w i v < 2 ^ n := by
  have e : 2 ^ n = 2 ^ (n - 5 * (i + 1)) * 32 * 2 ^ (5 * i) := by
    rw [show n = n - 5 * (i + 1) + 5 + 5 * i by omega, Nat.pow_add, Nat.pow_add]
    congr 3; omega
  rw [e, ← Nat.div_lt_iff_lt_mul (Nat.two_pow_pos _), ← Nat.div_lt_iff_lt_mul (by decide)] at hw ⊢
  rw [wordSet_div]
  omega

theorem wordSet_same (w i : Nat) : wordSet w i (wordGet w i) = w :=
  Nat.sub_add_cancel (Nat.le_trans (Nat.mul_le_mul_right _ (Nat.mod_le _ _)) (Nat.div_mul_le_self _ _))

theorem wordGet_ext (n a b : Nat) (ha : a < 2 ^ (5 * n)) (hb : b < 2 ^ (5 * n))
    (h : ∀ i, i < n → wordGet a i = wordGet b i) : a = b := by
  induction n generalizing a b with
  | zero => simp at ha hb; omega
  | succ n ih =>
    have h0 := h 0 (by omega)
    rw [Nat.mul_succ, Nat.pow_add, ← Nat.div_lt_iff_lt_mul (Nat.two_pow_pos 5)] at ha hb
    have := ih _ _ ha hb fun i hi => by
      have := h (1 + i) (by omega)
      rwa [wordGet_add, wordGet_add] at this
    simp only [wordGet] at h0
    omega

/-- `UpdateIfGreater` stores the maximum of the old and the offered value … -/
theorem wordUpd_fst (w i v : Nat) :
    (wordUpd w i v).1 = wordSet w i (max (wordGet w i) v) := by
  unfold wordUpd
  split
  · rw [Nat.max_eq_right (by omega)]
  · rw [Nat.max_eq_left (by omega), wordSet_same]

/-- … and reports whether the register grew -/
theorem wordUpd_snd (w i v : Nat) : (wordUpd w i v).2 = decide (wordGet w i < v) := by
  unfold wordUpd
  split <;> simp [*]

theorem wordGet_wordUpd (w i j v : Nat) (hv : v < 32) :
    wordGet (wordUpd w i v).1 j = if i = j then max (wordGet w i) v else wordGet w j := by
  rw [wordUpd_fst]
  exact wordGet_wordSet w i j _ (Nat.max_lt.mpr ⟨wordGet_lt w i, hv⟩)

theorem wordUpd_lt30 (w i v : Nat) (hi : i < 6) (hv : v < 32) (hw : w < 1073741824) :
    (wordUpd w i v).1 < 1073741824 := by
  unfold wordUpd
  split
  · exact wordSet_lt (n := 30) w i v (by omega) hv hw
  · exact hw

/-- the registers of `m + 32·r`: `m`, then those of `r` -/
theorem wordGet_cons_zero (m r : Nat) (hm : m < 32) : wordGet (m + 32 * r) 0 = m := by
  simp only [wordGet, Nat.mul_zero, Nat.pow_zero, Nat.div_one]; omega

theorem wordGet_cons_succ (m r k : Nat) (hm : m < 32) :
    wordGet (m + 32 * r) (k + 1) = wordGet r k := by
  rw [Nat.add_comm k, wordGet_add]
  congr 1
  omega

/-- six values below 32 packed base 32 are a 30-bit word whose registers they are -/
theorem wordGet_pack (g : Nat → Nat) (hg : ∀ j, j < 6 → g j < 32) :
    let w := g 0 + g 1 * 32 + g 2 * 1024 + g 3 * 32768 + g 4 * 1048576 + g 5 * 33554432
    w < 1073741824 ∧ ∀ j, j < 6 → wordGet w j = g j := by
  intro w
  have h0 := hg 0 (by decide); have h1 := hg 1 (by decide); have h2 := hg 2 (by decide)
  have h3 := hg 3 (by decide); have h4 := hg 4 (by decide); have h5 := hg 5 (by decide)
  have e : w = g 0 + 32 * (g 1 + 32 * (g 2 + 32 * (g 3 + 32 * (g 4 + 32 * (g 5 + 32 * 0))))) := by omega
  refine ⟨by omega, fun j hj => ?_⟩
  have : j = 0 ∨ j = 1 ∨ j = 2 ∨ j = 3 ∨ j = 4 ∨ j = 5 := by omega
  rcases this with rfl | rfl | rfl | rfl | rfl | rfl <;> rw [e] <;>
    simp only [wordGet_cons_succ, wordGet_cons_zero, *]

theorem wordGet_mergeWord (a b i : Nat) (hi : i < 6) :
    wordGet (mergeWord a b) i = max (wordGet a i) (wordGet b i) :=
  (wordGet_pack (fun j => max (wordGet a j) (wordGet b j))
    fun j _ => Nat.max_lt.mpr ⟨wordGet_lt a j, wordGet_lt b j⟩).2 i hi

theorem mergeWord_lt30 (a b : Nat) : mergeWord a b < 1073741824 :=
  (wordGet_pack (fun j => max (wordGet a j) (wordGet b j))
    fun j _ => Nat.max_lt.mpr ⟨wordGet_lt a j, wordGet_lt b j⟩).1

theorem mergeWord_comm (a b : Nat) : mergeWord a b = mergeWord b a := by
  unfold mergeWord; simp only [Nat.max_comm]

theorem mergeWord_assoc (a b c : Nat) :
    mergeWord (mergeWord a b) c = mergeWord a (mergeWord b c) := by
  apply wordGet_ext 6 _ _ (mergeWord_lt30 _ _) (mergeWord_lt30 _ _)
  intro i hi
  rw [wordGet_mergeWord _ _ i hi, wordGet_mergeWord _ _ i hi, wordGet_mergeWord _ _ i hi,
    wordGet_mergeWord _ _ i hi, Nat.max_assoc]

theorem mergeWord_idem (a : Nat) (ha : a < 1073741824) : mergeWord a a = a := by
  apply wordGet_ext 6 _ _ (mergeWord_lt30 _ _) ha
  intro i hi
  rw [wordGet_mergeWord _ _ i hi, Nat.max_self]

theorem mergeWord_zero_left (a : Nat) (ha : a < 1073741824) : mergeWord 0 a = a := by
  apply wordGet_ext 6 _ _ (mergeWord_lt30 _ _) ha
  intro i hi
  rw [wordGet_mergeWord _ _ i hi]
  rw [wordGet_zero, Nat.zero_max]

end HLL
