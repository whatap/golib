/-
  Golib.HLL.Model — CodeModel of /repo/util/hll/{HyperLogLog,RegisterSet}.go.

  * a hashed value is a `Nat` below 2^32 (the code's `uint32`); the hash itself is a
    parameter (its identity is property C15's business);
  * the register set is the array of packed words `M` (six 5-bit registers per word);
  * `idx`/`rank` are the expressions of `offerHashed`;
  * `Cardinality` is modelled by its decision logic over the exact integer register sum
    `S = Σ 2^(31 - reg)` (so that `registerSum = S / 2^31` exactly — all partial sums of the
    Go loop are exactly representable, see `HLL.regSum_prefix_le`) with the floating-point
    formulas as the opaque parameter `Est`.

  The model describes the code as committed (`cardBranch`: /repo commit a79bf01, fix-D30, is in);
  `cardBranchOrig` is the behaviour before that commit.
-/
import Golib.HLL.Bits
import Golib.HLL.Word
import Golib.Prim.Codec

namespace HLL
open Prim

/-! ### offerHashed: register index and rank -/

/-- `j := hashedValue >> (32 - log2m)` -/
def idx (p h : Nat) : Nat := h / 2 ^ (32 - p)

/-- `(hashedValue<<log2m) | (1<<(log2m-1)) + 1` in `uint32` arithmetic
    (Go parses it as `((h<<p) | (1<<(p-1))) + 1`; `|` and `+` have the same precedence) -/
def rankArg (p h : Nat) : Nat :=
  ((((h * 2 ^ p) % 4294967296) ||| 2 ^ (p - 1)) + 1) % 4294967296

/-- `r := uint32(clz32(…) + 1)` -/
def rank (p h : Nat) : Nat := clz32 (rankArg p h) + 1

/-! ### RegisterSet -/

def LOG2_BITS_PER_WORD : Nat := 6
def REGISTER_SIZE : Nat := 5

/-- `getSizeForCount` -/
def wordCount (count : Nat) : Nat :=
  let bits := count / 6
  if bits = 0 then 1 else if bits % 32 = 0 then bits else bits + 1

/-- `NewRegisterSet(1 << log2m)` -/
def fresh (p : Nat) : Array Nat := Array.replicate (wordCount (2 ^ p)) 0

/-- `RegisterSet.Get(position)` -/
def regGet (ws : Array Nat) (r : Nat) : Nat := wordGet (ws.getD (r / 6) 0) (r % 6)

/-- `RegisterSet.Set(position, value)` -/
def regSet (ws : Array Nat) (r v : Nat) : Array Nat :=
  ws.setIfInBounds (r / 6) (wordSet (ws.getD (r / 6) 0) (r % 6) v)

/-- `RegisterSet.UpdateIfGreater(position, value)`: new words and the returned boolean.
    (The code stores only when the value grew; storing the unchanged word is the same.) -/
def regUpd (ws : Array Nat) (r v : Nat) : Array Nat × Bool :=
  let u := wordUpd (ws.getD (r / 6) 0) (r % 6) v
  (ws.setIfInBounds (r / 6) u.1, u.2)

/-- `RegisterSet.Merge(that)` (equal sizes; `AddAll` panics otherwise) -/
def merge (a b : Array Nat) : Array Nat := Array.zipWith mergeWord a b

/-! ### HyperLogLog -/

/-- `offerHashed(hashedValue)` -/
def offerHashed (p : Nat) (ws : Array Nat) (h : Nat) : Array Nat × Bool :=
  regUpd ws (idx p h) (rank p h)

/-- offering a sequence of hashed values; the booleans are returned in order -/
def offerAllB (p : Nat) (ws : Array Nat) (hs : List Nat) : Array Nat × List Bool :=
  let r := hs.foldl (fun (s : Array Nat × List Bool) h =>
    let o := offerHashed p s.1 h
    (o.1, o.2 :: s.2)) (ws, [])
  (r.1, r.2.reverse)

def offerAll (p : Nat) (ws : Array Nat) (hs : List Nat) : Array Nat :=
  hs.foldl (fun s h => (offerHashed p s h).1) ws

/-- `Offer(o)` / `OfferLong(o)`: hash, then `offerHashed` -/
def offer {α : Type} (hash : α → Nat) (p : Nat) (ws : Array Nat) (x : α) : Array Nat × Bool :=
  offerHashed p ws (hash x)

def offerItems {α : Type} (hash : α → Nat) (p : Nat) (ws : Array Nat) (xs : List α) : Array Nat :=
  xs.foldl (fun s x => (offer hash p s x).1) ws

/-- the state of a counter of precision `p` that was offered the hashed values `hs` -/
def stateOf (p : Nat) (hs : List Nat) : Array Nat := offerAll p (fresh p) hs

/-- `this.Merge(others…)`: a fresh register set, `AddAll(this)`, then `AddAll` of each -/
def mergeAll (p : Nat) (this : Array Nat) (others : List (Array Nat)) : Array Nat :=
  (this :: others).foldl merge (fresh p)

/-- `GetBytes()`: log2m, word count (`WriteInt(int32(Size))`), words — each a big-endian
    32-bit integer -/
def getBytes (p : Nat) (ws : Array Nat) : Bytes :=
  beN 4 p ++ (encI 4 (ws.size : Int) ++ encMany (beN 4) ws.toList)

/-- `BuildHyperLogLog(bytes)`: `none` where the code returns nil or panics.  Same order as the
    code: precision, word count (`make` panics on a negative count), the words, and only then
    `NewHyperLogLog` validates the precision (nil above 30). -/
def build : P (Nat × Array Nat) :=
  P.bind (rdU 4) (fun p =>
  P.bind (rdI 4) (fun n =>
    if n < 0 then .fail else
    P.bind (decMany (rdU 4) n.toNat) (fun ws =>
      if 30 < p then .fail else .pure (p, ws.toArray))))

/-! ### Cardinality -/

/-- the registers `0 … 2^p − 1` in order (the loop of `Cardinality`) -/
def regs (p : Nat) (ws : Array Nat) : List Nat := (List.range (2 ^ p)).map (regGet ws)

/-- `registerSum · 2^31`: every term `1/2^val` (`val ≤ 31`) scaled to an integer -/
def regSum (rs : List Nat) : Nat := (rs.map (fun v => 2 ^ (31 - v))).sum

/-- number of registers that are zero (`zeros`) -/
def zeros (rs : List Nat) : Nat := rs.count 0

/-- the floating-point formulas of `Cardinality`, opaque to the proofs:
    `raw p S` = `alphaMM * (1 / (S / 2^31))`, `small e m` = `e <= (5.0/2.0) * m`,
    `linear m V` = `uint64(Round(m * log(m / V)))`, `round e` = `uint64(Round(e))` -/
structure Est (α : Type) where
  raw : Nat → Nat → α
  small : α → Nat → Bool
  linear : Nat → Nat → Nat
  round : α → Nat

inductive Branch (α : Type) where
  | linear (m V : Nat)
  | raw (e : α)
deriving DecidableEq, Repr

/-- decision logic of `Cardinality` with fix-D30: linear counting only if some register is empty -/
def cardBranch {α : Type} (F : Est α) (p : Nat) (rs : List Nat) : Branch α :=
  let e := F.raw p (regSum rs)
  if F.small e (2 ^ p) && zeros rs != 0 then .linear (2 ^ p) (zeros rs) else .raw e

/-- decision logic of `Cardinality` as it stands in the unchanged code -/
def cardBranchOrig {α : Type} (F : Est α) (p : Nat) (rs : List Nat) : Branch α :=
  let e := F.raw p (regSum rs)
  if F.small e (2 ^ p) then .linear (2 ^ p) (zeros rs) else .raw e

def Branch.eval {α : Type} (F : Est α) : Branch α → Nat
  | .linear m V => F.linear m V
  | .raw e => F.round e

def cardinality {α : Type} (F : Est α) (p : Nat) (ws : Array Nat) : Nat :=
  (cardBranch F p (regs p ws)).eval F

def cardinalityOrig {α : Type} (F : Est α) (p : Nat) (ws : Array Nat) : Nat :=
  (cardBranchOrig F p (regs p ws)).eval F

/-- the decimal constants of `getAlphaMM` and of the small-range threshold, as written in
    the source: (mantissa, number of decimals) -/
structure Consts where
  alpha4 : Nat × Nat
  alpha5 : Nat × Nat
  alpha6 : Nat × Nat
  alphaInf : Nat × Nat
  alphaCorr : Nat × Nat
  thresholdNum : Nat × Nat
  thresholdDen : Nat × Nat
deriving DecidableEq, Repr

def consts : Consts :=
  { alpha4 := (673, 3), alpha5 := (697, 3), alpha6 := (709, 3),
    alphaInf := (7213, 4), alphaCorr := (1079, 3),
    thresholdNum := (50, 1), thresholdDen := (20, 1) }

end HLL
