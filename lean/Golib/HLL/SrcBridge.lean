/-
  Golib.HLL.SrcBridge — bridge theorems of tie A: the Go expressions of util/hll (as the trees of
  Golib.HLL.Src, evaluated with fixed-width Go semantics) equal the arithmetic CodeModel.
-/
import Golib.HLL.Src
import Golib.HLL.IndexRank

namespace HLL.Src
open HLL

/-- masking a register: `w & (0x1f << s)` is the digit, still in place -/
theorem and_mask (w s : Nat) : w &&& (31 * 2 ^ s) = (w / 2 ^ s % 32) * 2 ^ s := Golib.and_mask w 5 s

/-- a register value shifted to any of the six positions stays within 32 bits -/
theorem field_lt (v s : Nat) (hv : v < 32) (hs : s ≤ 25) : v * 2 ^ s < 4294967296 := by
  have h1 : v * 2 ^ s ≤ 31 * 2 ^ 25 :=
    Nat.mul_le_mul (by omega) (Nat.pow_le_pow_right (by decide) hs)
  exact Nat.lt_of_le_of_lt h1 (by decide)

/-- clearing the bits of a mask: `w & ^M = w − (w & M)` on 32-bit words (`w` is the disjoint union
    of `w & M` and `w & ^M`) -/
theorem and_compl (w M : Nat) (hw : w < 4294967296) (hM : M < 4294967296) :
    w &&& (4294967296 - 1 - M) = w - (w &&& M) := by
  have hbit (k : Nat) : (4294967296 - 1 - M).testBit k = (decide (k < 32) && !M.testBit k) := by
    rw [Nat.sub_sub, Nat.add_comm]
    exact Nat.testBit_two_pow_sub_succ (n := 32) hM k
  have hdisj : (w &&& M) &&& (w &&& (4294967296 - 1 - M)) = 0 := by
    apply Nat.eq_of_testBit_eq
    intro k
    simp only [Nat.testBit_and, hbit, Nat.zero_testBit]
    cases w.testBit k <;> cases M.testBit k <;> simp
  have hor : (w &&& M) ||| (w &&& (4294967296 - 1 - M)) = w := by
    apply Nat.eq_of_testBit_eq
    intro k
    simp only [Nat.testBit_or, Nat.testBit_and, hbit]
    by_cases hk : k < 32
    · cases w.testBit k <;> cases M.testBit k <;> simp [hk]
    · have : w.testBit k = false := Nat.testBit_lt_two_pow (Nat.lt_of_lt_of_le hw
        (by have : 2 ^ 32 ≤ 2 ^ k := Nat.pow_le_pow_right (by decide) (by omega)
            simpa using this))
      simp [this]
  have hsum := Golib.add_eq_or_of_and_eq_zero _ _ hdisj
  omega

/-- storing a register: `(w & ^mask) | (v << s)` is the arithmetic `wordSet` -/
theorem set_bits (w i v : Nat) (hw : w < 4294967296) (hi : i < 6) (hv : v < 32) :
    (w &&& (4294967296 - 1 - 31 * 2 ^ (5 * i))) ||| (v * 2 ^ (5 * i)) = wordSet w i v := by
  have hs : 5 * i ≤ 25 := by omega
  have hM := field_lt 31 (5 * i) (by decide) hs
  -- the shifted value lies under the mask, and the mask is disjoint from its complement
  have hx : v * 2 ^ (5 * i) &&& 31 * 2 ^ (5 * i) = v * 2 ^ (5 * i) := by
    rw [and_mask, Nat.mul_div_cancel _ (Nat.two_pow_pos _), Nat.mod_eq_of_lt hv]
  have hdisj : (w &&& (4294967296 - 1 - 31 * 2 ^ (5 * i))) &&& (v * 2 ^ (5 * i)) = 0 := by
    rw [← hx, Nat.and_comm (v * _), ← Nat.and_assoc, Nat.and_assoc w, Nat.and_comm _ (31 * _),
      and_compl _ _ hM hM, Nat.and_self, Nat.sub_self, Nat.and_zero, Nat.zero_and]
  rw [← Golib.add_eq_or_of_and_eq_zero _ _ hdisj,
    and_compl w _ hw hM, and_mask]
  rfl

theorem trunc_eq_self {ty x : Nat} (h : x < card ty) : trunc ty x = x := by
  unfold trunc
  split
  · rfl
  · exact Nat.mod_eq_of_lt h

theorem trunc32 {x : Nat} (h : x < 4294967296) : trunc 32 x = x := trunc_eq_self h
theorem trunc64 {x : Nat} (h : x < 18446744073709551616) : trunc 64 x = x := trunc_eq_self h

/-- `uint32(REGISTER_SIZE * (position - bucketPos*6))`, whichever integer type `position` has -/
theorem shift_eval (ρ : Env) (ty pos : Nat) (h : ρ.args.getD 0 0 = pos) (hc : pos < card ty)
    (h32 : 32 ≤ card ty) :
    (Ex.conv 32 (.bin .mul ty (.lit 5) (.bin .sub ty (.arg 0)
      (.bin .mul ty (.bin .div ty (.arg 0) (.lit 6)) (.lit 6))))).eval ρ = 5 * (pos % 6) := by
  simp only [Ex.eval, binop, h]
  rw [trunc_eq_self (x := pos / 6 * 6) (by omega), if_pos (by omega),
    trunc_eq_self (x := 5 * (pos - pos / 6 * 6)) (by omega),
    trunc_eq_self (ty := 32) (show _ < 4294967296 by omega)]
  omega

theorem shiftI_eval (ρ : Env) (pos : Nat) (h : ρ.args.getD 0 0 = pos) (hp : pos < 4611686018427387904) :
    shiftI.eval ρ = 5 * (pos % 6) :=
  shift_eval ρ 63 pos h (show _ < 18446744073709551616 by omega) (by decide)

theorem shiftU_eval (ρ : Env) (pos : Nat) (h : ρ.args.getD 0 0 = pos) (hp : pos < 4294967296) :
    shiftU.eval ρ = 5 * (pos % 6) :=
  shift_eval ρ 32 pos h hp (by decide)

/-- **Get**: the source expression of `RegisterSet.Get(position)` is `wordGet M[position/6] (position%6)` -/
theorem get_bridge (ρ : Env) (pos : Nat) (h : ρ.args.getD 0 0 = pos) (hp : pos < 4611686018427387904) :
    get.eval ρ = wordGet (ρ.tab "M" (pos / 6)) (pos % 6) := by
  have hm := field_lt 31 (5 * (pos % 6)) (by decide) (by omega)
  simp only [get, Ex.eval, binop, shiftI_eval ρ pos h hp, wordI, tabName, h]
  rw [trunc32 hm, and_mask, Nat.mul_div_cancel _ (Nat.two_pow_pos _)]
  rfl

/-- **Set**: the word stored by `RegisterSet.Set(position, value)` is `wordSet` of the old word -/
theorem set_bridge (ρ : Env) (pos v : Nat) (h0 : ρ.args.getD 0 0 = pos) (h1 : ρ.args.getD 1 0 = v)
    (hp : pos < 4294967296) (hv : v < 32) (hw : ρ.tab "M" (pos / 6) < 4294967296) :
    setIdx.eval ρ = pos / 6 ∧ setVal.eval ρ = wordSet (ρ.tab "M" (pos / 6)) (pos % 6) v := by
  have hm := field_lt 31 (5 * (pos % 6)) (by decide) (by omega)
  have hvs := field_lt v (5 * (pos % 6)) hv (by omega)
  constructor
  · simp only [setIdx, Ex.eval, binop, h0]
  · simp only [setVal, Ex.eval, binop, shiftU_eval ρ pos h0 hp, wordU, tabName, h0, h1]
    rw [trunc32 hm, trunc32 hvs]
    exact set_bits _ _ _ hw (Nat.mod_lt _ (by decide)) hv

/-- **UpdateIfGreater**: the comparison is "old register < value", the word stored is `wordSet` -/
theorem upd_bridge (ρ : Env) (pos v : Nat) (h0 : ρ.args.getD 0 0 = pos) (h1 : ρ.args.getD 1 0 = v)
    (hp : pos < 4294967296) (hv : v < 32) (hw : ρ.tab "M" (pos / 6) < 4294967296) :
    updIdx.eval ρ = pos / 6 ∧
    (updCond.eval ρ ≠ 0 ↔ wordGet (ρ.tab "M" (pos / 6)) (pos % 6) < v) ∧
    updVal.eval ρ = wordSet (ρ.tab "M" (pos / 6)) (pos % 6) v := by
  have hm := field_lt 31 (5 * (pos % 6)) (by decide) (by omega)
  have hvs := field_lt v (5 * (pos % 6)) hv (by omega)
  have hd := field_lt _ (5 * (pos % 6)) (wordGet_lt (ρ.tab "M" (pos / 6)) (pos % 6)) (by omega)
  have hset := wordSet_lt (n := 32) _ (pos % 6) v (by omega) hv hw
  refine ⟨?_, ?_, ?_⟩
  · simp only [updIdx, Ex.eval, binop, h0]
  · simp only [updCond, maskU, newValU, Ex.eval, binop, shiftU_eval ρ pos h0 hp, wordU, tabName, h0, h1]
    rw [trunc32 (x := 31) (by decide), trunc32 hm, and_mask, trunc64 (x := v) (by omega),
      trunc64 (x := v * _) (by omega)]
    unfold wordGet at hd ⊢
    rw [trunc64 (by omega)]
    simp only [Nat.mul_lt_mul_right (Nat.two_pow_pos _)]
    split <;> simp [*]
  · simp only [updVal, maskU, newValU, Ex.eval, binop, card, shiftU_eval ρ pos h0 hp, wordU, tabName, h0, h1]
    rw [trunc32 (x := 31) (by decide), trunc32 hm, trunc64 (x := v) (by omega),
      trunc64 (x := v * _) (by omega),
      trunc64 (Nat.lt_of_le_of_lt Nat.and_le_left (show _ < 18446744073709551616 by omega)),
      set_bits _ _ _ hw (Nat.mod_lt _ (by decide)) hv]
    exact trunc32 hset

/-- **getSizeForCount**: `getBits(count)` is `count / 6`, and the source's choice between 1,
    `bits` and `bits + 1` words is the model's `wordCount` -/
theorem sizeForCount_bridge (ρ : Env) (count : Nat) (h0 : ρ.args.getD 0 0 = count)
    (hf : ρ.fn1 "getBits" count = count / 6) (hc : count < 4611686018427387904) :
    getBits.eval ρ = count / 6 ∧ sizeForCount.eval ρ = wordCount count := by
  constructor
  · simp only [getBits, Ex.eval, binop, h0]
  · simp only [sizeForCount, Ex.eval, binop, h0, hf, trunc, card, wordCount]
    simp only [Nat.reduceEqDiff, if_false]
    by_cases h1 : count / 6 = 0
    · simp [h1]
    · by_cases h2 : count / 6 % 32 = 0
      · simp [h1, h2]
      · simp only [h1, h2, if_false, ne_eq, not_true_eq_false]
        rw [Nat.mod_eq_of_lt (by omega)]

theorem eval_ite_ge (ρ : Env) (ty : Nat) (a b t e : Ex) :
    (Ex.ite (.bin .ge ty a b) t e).eval ρ = if a.eval ρ ≥ b.eval ρ then t.eval ρ else e.eval ρ := by
  simp only [Ex.eval, binop]
  split <;> simp [*]

theorem eval_pow2 (ρ : Env) (k : Nat) (hk : k < 32) : (pow2 k).eval ρ = 2 ^ k := by
  have : 2 ^ k < 2 ^ 32 := Nat.pow_lt_pow_right (by decide) hk
  simp only [pow2, Ex.eval, binop, trunc, card, Nat.one_mul]
  exact Nat.mod_eq_of_lt this

/-- the comparison tree of the source is the one of `HLL.clzShift`, node by node -/
theorem clzN_eval (ρ : Env) : clzN.eval ρ = clzShift (ρ.args.getD 0 0) := by
  simp only [clzN, eval_ite_ge, eval_pow2, Nat.reduceLT]
  rfl

/-- **clz32**: the comparison tree and the table lookup are `HLL.clz32`; the `uint8` subtraction
    does not wrap because every table entry is at least 28 ≥ the shift -/
theorem clz32_bridge (ρ : Env) (x : Nat) (h0 : ρ.args.getD 0 0 = x) (hx : x < 4294967296)
    (ht : ∀ i, ρ.tab "clzLookup" i = HLL.clzLookup.getD i 0) :
    Src.clz32.eval ρ = HLL.clz32 x := by
  obtain ⟨h28, hlt, _⟩ := clzShift_spec x hx
  have := (bitlen_le_iff _ 4).mpr hlt
  simp only [Src.clz32, Ex.eval, binop, clzN_eval, tabName, ht, h0, HLL.clz32]
  rw [if_pos (by rw [lookup_spec _ hlt]; omega)]

/-- **offerHashed**: the index and rank expressions are `HLL.idx` and `HLL.rank` -/
theorem offer_bridge (ρ : Env) (p h : Nat) (h0 : ρ.args.getD 0 0 = h) (hl : ρ.fldv "log2m" = p)
    (hc : ∀ x, ρ.fn1 "clz32" x = HLL.clz32 x) (hp1 : 1 ≤ p) (hp2 : p ≤ 32) :
    offerIdx.eval ρ = idx p h ∧ offerRank.eval ρ = rank p h := by
  constructor
  · simp only [offerIdx, Ex.eval, binop, h0, hl, idx]
    rw [if_pos hp2]
  · have hlt : 1 * 2 ^ (p - 1) < 4294967296 :=
      Nat.lt_of_le_of_lt (Nat.mul_le_mul_left 1 (Nat.pow_le_pow_right (by decide) (show p - 1 ≤ 31 by omega)))
        (by decide)
    have := clz32_le (rankArg p h) (Nat.mod_lt _ (by decide))
    simp only [offerRank, Ex.eval, binop, h0, hl, hc]
    rw [if_pos hp1, trunc32 hlt, Nat.one_mul]
    -- the two remaining inner truncations are the `%` of `rankArg`; `uint8` and `uint32` of `clz + 1` do not wrap
    show trunc 32 (trunc 8 (HLL.clz32 (rankArg p h) + 1)) = rank p h
    rw [trunc_eq_self (ty := 8) (show _ < 256 by omega), trunc32 (by omega)]
    rfl

/-- one iteration: the larger of the two masked registers (still in place) -/
def mergeTerm (a b j : Nat) : Nat :=
  if a &&& 31 * 2 ^ (5 * j) < b &&& 31 * 2 ^ (5 * j) then b &&& 31 * 2 ^ (5 * j) else a &&& 31 * 2 ^ (5 * j)

/-- `word := 0; for j := 0; j < 6; j++ { word |= … }` -/
def mergeLoop (a b : Nat) : Nat :=
  (((((0 ||| mergeTerm a b 0) ||| mergeTerm a b 1) ||| mergeTerm a b 2) ||| mergeTerm a b 3) |||
    mergeTerm a b 4) ||| mergeTerm a b 5

theorem mergeTerm_eq (a b j : Nat) :
    mergeTerm a b j = max (wordGet a j) (wordGet b j) * 2 ^ (5 * j) := by
  unfold mergeTerm
  rw [and_mask, and_mask]
  have hpos : 0 < 2 ^ (5 * j) := Nat.two_pow_pos _
  show (if wordGet a j * 2 ^ (5 * j) < wordGet b j * 2 ^ (5 * j) then wordGet b j * 2 ^ (5 * j)
    else wordGet a j * 2 ^ (5 * j)) = _
  split
  · rename_i h
    have := Nat.lt_of_mul_lt_mul_right h
    rw [Nat.max_eq_right (by omega)]
  · rename_i h
    have : ¬ wordGet a j < wordGet b j := fun hlt => h (Nat.mul_lt_mul_of_pos_right hlt hpos)
    rw [Nat.max_eq_left (by omega)]

/-- the OR-accumulation of the six masked maxima is the arithmetic `mergeWord` -/
theorem mergeLoop_eq (a b : Nat) : mergeLoop a b = mergeWord a b := by
  unfold mergeLoop mergeWord
  simp only [mergeTerm_eq, Nat.reduceMul, Nat.reducePow, Nat.zero_or, Nat.mul_one]
  have m0 := Nat.max_lt.mpr ⟨wordGet_lt a 0, wordGet_lt b 0⟩
  have m1 := Nat.max_lt.mpr ⟨wordGet_lt a 1, wordGet_lt b 1⟩
  have m2 := Nat.max_lt.mpr ⟨wordGet_lt a 2, wordGet_lt b 2⟩
  have m3 := Nat.max_lt.mpr ⟨wordGet_lt a 3, wordGet_lt b 3⟩
  have m4 := Nat.max_lt.mpr ⟨wordGet_lt a 4, wordGet_lt b 4⟩
  generalize max (wordGet a 0) (wordGet b 0) = x0 at *
  generalize max (wordGet a 1) (wordGet b 1) = x1 at *
  generalize max (wordGet a 2) (wordGet b 2) = x2 at *
  generalize max (wordGet a 3) (wordGet b 3) = x3 at *
  generalize max (wordGet a 4) (wordGet b 4) = x4 at *
  generalize max (wordGet a 5) (wordGet b 5) = x5
  have step : ∀ (i P acc x : Nat), P = 2 ^ i → acc < P → acc ||| x * P = acc + x * P := by
    intro i P acc x e h
    subst e
    rw [Nat.or_comm, Nat.mul_comm, ← Nat.two_pow_add_eq_or_of_lt h, Nat.add_comm]
  -- each `|||` puts a register above everything accumulated so far, so it is an addition
  rw [step 5 32 _ _ rfl, step 10 1024 _ _ rfl, step 15 32768 _ _ rfl, step 20 1048576 _ _ rfl,
    step 25 33554432 _ _ rfl]
  all_goals omega

/-- **Merge**: one iteration of the source loop is `mergeTerm` -/
theorem merge_bridge (ρ : Env) (a b j : Nat) (hj : ρ.locv "l2" = j) (hj6 : j < 6)
    (ha : ρ.tab "M" (ρ.locv "l0") = a) (hb : ρ.tab "that.M" (ρ.locv "l0") = b) :
    (if mergeCond.eval ρ ≠ 0 then mergeThat.eval ρ else mergeThis.eval ρ) = mergeTerm a b j := by
  have hm : mergeMask.eval ρ = 31 * 2 ^ (5 * j) := by
    simp only [mergeMask, Ex.eval, binop, hj]
    rw [trunc_eq_self (ty := 63) (show 5 * j < 18446744073709551616 by omega),
      trunc32 (show 5 * j < 4294967296 by omega)]
    exact trunc32 (field_lt 31 _ (by decide) (by omega))
  have hb' : ρ.tab ("that." ++ "M") (ρ.locv "l0") = b := hb
  simp only [mergeCond, mergeThis, mergeThat, Ex.eval, binop, hm, tabName, ha, hb', mergeTerm]
  split <;> simp
  
end HLL.Src
