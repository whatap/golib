/-
  Golib.HLL.Card — the decision logic of `Cardinality`.

  * the integer register sum makes the floating-point loop exact (`regSum_prefix_le`);
  * in the code as committed (with fix-D30, /repo commit a79bf01) the linear-counting formula is
    evaluated only with `V ≠ 0` (`cardBranch_linear`); the code before that commit
    (`cardBranchOrig`) evaluates it with `V = 0` on the reachable witness state
    `stateOf 4 d30Hashes`.
-/
import Golib.HLL.Merge

namespace HLL

theorem regSum_nil : regSum [] = 0 := rfl
theorem regSum_cons (v : Nat) (rs : List Nat) : regSum (v :: rs) = 2 ^ (31 - v) + regSum rs := by
  simp [regSum]

theorem regSum_le (rs : List Nat) : regSum rs ≤ rs.length * 2147483648 := by
  induction rs with
  | nil => simp [regSum_nil]
  | cons v rs ih =>
    rw [regSum_cons, List.length_cons]
    have : 2 ^ (31 - v) ≤ 2 ^ 31 := Nat.pow_le_pow_right (by decide) (by omega)
    simp only [Nat.reducePow] at this
    omega

theorem regSum_pos (rs : List Nat) (h : rs ≠ []) : 0 < regSum rs := by
  cases rs with
  | nil => exact absurd rfl h
  | cons v rs =>
    rw [regSum_cons]
    have : 0 < 2 ^ (31 - v) := Nat.two_pow_pos _
    omega

theorem regs_length (p : Nat) (ws : Array Nat) : (regs p ws).length = 2 ^ p := by
  simp [regs]

theorem regs_eq_replicate (p : Nat) (ws : Array Nat) (c : Nat) (h : ∀ r, r < 2 ^ p → regGet ws r = c) :
    regs p ws = List.replicate (2 ^ p) c :=
  List.ext_getElem (by simp [regs]) fun i h1 _ => by
    simp only [regs, List.getElem_map, List.getElem_range, List.getElem_replicate]
    exact h i (by simpa [regs] using h1)

/-- every partial sum of the loop of `Cardinality`, scaled by 2^31, is an integer not above 2^53
    for `p ≤ 22`.  This is the reason why the model may use the integer sum (not what is proved
    here): below 2^53 the `float64` additions `registerSum += 1/2^val` are exact, so
    `registerSum = regSum / 2^31`, whatever the register order -/
theorem regSum_prefix_le (p : Nat) (ws : Array Nat) (k : Nat) (hp : p ≤ 22) :
    regSum ((regs p ws).take k) ≤ 9007199254740992 := by
  have h1 := regSum_le ((regs p ws).take k)
  have h2 : ((regs p ws).take k).length ≤ 2 ^ p := by
    rw [List.length_take, regs_length]; omega
  have h3 : 2 ^ p ≤ 2 ^ 22 := Nat.pow_le_pow_right (by decide) hp
  simp only [Nat.reducePow] at h3
  have h4 : ((regs p ws).take k).length * 2147483648 ≤ 4194304 * 2147483648 :=
    Nat.mul_le_mul_right _ (by omega)
  omega

/-- **linear_only_if_V**: the linear-counting formula is evaluated only with a non-zero number
    of empty registers (and then with exactly `m = 2^p` and `V = zeros`) -/
theorem cardBranch_linear {α : Type} (F : Est α) (p : Nat) (rs : List Nat) (m V : Nat)
    (h : cardBranch F p rs = .linear m V) :
    V ≠ 0 ∧ V = zeros rs ∧ m = 2 ^ p ∧ F.small (F.raw p (regSum rs)) (2 ^ p) = true := by
  unfold cardBranch at h
  simp only at h
  split at h
  · rename_i hc
    simp only [Bool.and_eq_true, bne_iff_ne, ne_eq] at hc
    injection h with h1 h2
    subst h1; subst h2
    exact ⟨hc.2, rfl, rfl, hc.1⟩
  · cases h

/-- no empty register ⇒ the raw estimate is returned (the branch the standard algorithm takes) -/
theorem cardBranch_no_empty {α : Type} (F : Est α) (p : Nat) (rs : List Nat) (h : zeros rs = 0) :
    cardBranch F p rs = .raw (F.raw p (regSum rs)) := by
  unfold cardBranch
  simp [h]

/-- when some register is empty the committed code and the code before commit a79bf01 agree -/
theorem cardBranch_eq_orig {α : Type} (F : Est α) (p : Nat) (rs : List Nat) (h : zeros rs ≠ 0) :
    cardBranch F p rs = cardBranchOrig F p rs := by
  unfold cardBranch cardBranchOrig
  simp [h]

/-- before commit a79bf01 a small raw estimate with no empty register evaluates the
    linear-counting formula with `V = 0` (`log(m/0)`) -/
theorem cardBranchOrig_no_empty {α : Type} (F : Est α) (p : Nat) (rs : List Nat) (h : zeros rs = 0)
    (hs : F.small (F.raw p (regSum rs)) (2 ^ p) = true) :
    cardBranchOrig F p rs = .linear (2 ^ p) 0 := by
  unfold cardBranchOrig
  simp [h, hs]

/-- hashed values `r·2^28 + 2^27` for `r = 0 … 15`: register `r`, rank 1 (precision 4) -/
def d30Hashes : List Nat := (List.range 16).map (fun r => r * 268435456 + 134217728)

theorem d30_hashed : ∀ h ∈ d30Hashes, Hashed h := by decide

theorem d30_supRank : ∀ r, r < 16 → supRank 4 d30Hashes r = 1 := by decide

theorem d30_regs : regs 4 (stateOf 4 d30Hashes) = List.replicate 16 1 :=
  regs_eq_replicate 4 _ 1 fun r hr => by
    rw [regGet_stateOf 4 d30Hashes r (by decide) d30_hashed]; exact d30_supRank r hr

theorem d30_zeros : zeros (regs 4 (stateOf 4 d30Hashes)) = 0 := by rw [d30_regs]; decide

theorem d30_regSum : regSum (regs 4 (stateOf 4 d30Hashes)) = 8 * 2147483648 := by
  rw [d30_regs]; decide

end HLL
