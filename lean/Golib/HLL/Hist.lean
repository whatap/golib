/-
  Golib.HLL.Hist — the register sum of `Cardinality` grouped by register value.

  `Cardinality` adds `2^-M[j]` register by register.  Any reformulation that first counts the
  registers per value (a histogram) computes the same sum if the histogram covers every
  value that occurs; `regSum_by_value` is that statement on the integer sum `regSum`
  (`Σ 2^(31−M[j])`, see `regSum_prefix_le` for why the float sum is exact).
-/
import Golib.HLL.Card

namespace HLL

/-- sum of `2^(31−v)` over a register list, grouped by value -/
def histSum (K : Nat) (rs : List Nat) : Nat :=
  ((List.range (K + 1)).map (fun v => rs.count v * 2 ^ (31 - v))).sum

theorem indicator_sum (K v : Nat) (f : Nat → Nat) (hv : v ≤ K) :
    ((List.range (K + 1)).map (fun u => (if v = u then 1 else 0) * f u)).sum = f v := by
  induction K with
  | zero =>
    have : v = 0 := by omega
    subst this; simp
  | succ K ih =>
    rw [List.range_succ, List.map_append, List.sum_append]
    by_cases h : v ≤ K
    · rw [ih h]
      have : v ≠ K + 1 := by omega
      simp [this]
    · have hv' : v = K + 1 := by omega
      subst hv'
      have hz : ((List.range (K + 1)).map (fun u => (if K + 1 = u then 1 else 0) * f u)).sum = 0 := by
        refine List.sum_eq_zero_iff_forall_eq_nat.mpr (List.forall_mem_map.mpr fun u hu => ?_)
        have hu' := List.mem_range.mp hu
        have : K + 1 ≠ u := by omega
        simp [this]
      rw [hz]; simp

theorem histSum_nil (K : Nat) : histSum K [] = 0 := by
  unfold histSum
  refine List.sum_eq_zero_iff_forall_eq_nat.mpr (List.forall_mem_map.mpr fun u _ => ?_)
  simp

theorem histSum_cons (K v : Nat) (rs : List Nat) (hv : v ≤ K) :
    histSum K (v :: rs) = 2 ^ (31 - v) + histSum K rs := by
  unfold histSum
  have h1 : (List.range (K + 1)).map (fun u => (v :: rs).count u * 2 ^ (31 - u)) =
      (List.range (K + 1)).map (fun u => (if v = u then 1 else 0) * 2 ^ (31 - u) + rs.count u * 2 ^ (31 - u)) := by
    apply List.map_congr_left
    intro u _
    rw [List.count_cons]
    by_cases h : v = u
    · subst h; simp [Nat.add_mul, Nat.add_comm]
    · simp [h]
  rw [h1]
  have h2 : ∀ (l : List Nat) (f g : Nat → Nat), (l.map (fun u => f u + g u)).sum = (l.map f).sum + (l.map g).sum := by
    intro l f g
    induction l with
    | nil => rfl
    | cons a l ih => simp only [List.map_cons, List.sum_cons, ih]; omega
  rw [h2, indicator_sum K v (fun u => 2 ^ (31 - u)) hv]

/-- grouping the register sum by value is exact if the histogram covers every value present -/
theorem regSum_by_value (K : Nat) (rs : List Nat) (h : ∀ v ∈ rs, v ≤ K) : regSum rs = histSum K rs := by
  induction rs with
  | nil => rw [histSum_nil]; rfl
  | cons v rs ih =>
    rw [regSum_cons, histSum_cons K v rs (h v (List.mem_cons_self ..)), ih (fun u hu => h u (List.mem_cons_of_mem _ hu))]


end HLL
