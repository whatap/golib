/-
  Golib.HLL.SrcProg — tie A for the byte form: `GetBytes` and `BuildHyperLogLog` as *interpreted*
  statement lists.

  `xlate/c14` transcribes the two function bodies into the step lists below (locals are named
  v0, v1, … in order of definition).  The steps have a semantics — `WStep.run` produces the bytes,
  `RStep.sem` a decoder in the parser monad `P` — and the bridge theorems say that the transcribed
  programs are the model's `getBytes` and `build` for all inputs.
-/
import Golib.HLL.Src
import Golib.HLL.Serial

namespace HLL.Src
open HLL Prim

inductive WStep
  | newOut (v : String)                                  -- v := io.NewDataOutputX()
  | writeInt (out : String) (e : Ex)                     -- out.WriteInt(e)      (e of type int32)
  | forWriteInt (out : String) (coll : String) (x : String) (e : Ex)
                                                         -- for _, x := range recv.coll() { out.WriteInt(e) }
  | retBytes (out : String)                              -- return out.ToByteArray()
  | unknown (why : String)
deriving DecidableEq, Repr

def Env.withLoc (ρ : Env) (x : String) (v : Nat) : Env :=
  { ρ with locv := fun n => if n = x then v else ρ.locv n }

/-- `WriteInt(int32(v))`: the four bytes of `v mod 2^32`, most significant first -/
def writeInt32 (v : Nat) : Bytes := beN 4 (v % 4294967296)

/-- bytes written by a program (one output stream; `none` for a shape that is not understood) -/
def WStep.run (ρ : Env) (colls : String → List Nat) : List WStep → Bytes → Option Bytes
  | [], _ => none
  | .newOut _ :: rest, _ => WStep.run ρ colls rest []
  | .writeInt _ e :: rest, acc => WStep.run ρ colls rest (acc ++ writeInt32 (e.eval ρ))
  | .forWriteInt _ c x e :: rest, acc =>
    WStep.run ρ colls rest (acc ++ encMany (fun w => writeInt32 (e.eval (ρ.withLoc x w))) (colls c))
  | .retBytes _ :: _, acc => some acc
  | .unknown _ :: _, _ => none

/-- `GetBytes` -/
def getBytesProg : List WStep :=
  [.newOut "v0",
   .writeInt "v0" (.conv 63 (.recv "log2m")),
   .writeInt "v0" (.conv 63 (.recv "registerSet.Size")),
   .forWriteInt "v0" "registerSet.ReadOnlyBits" "v1" (.conv 63 (.loc "v1")),
   .retBytes "v0"]

/-- **GetBytes**: the transcribed program writes the model's `getBytes` -/
theorem getBytes_bridge (ρ : Env) (colls : String → List Nat) (p : Nat) (ws : Array Nat)
    (hl : ρ.fldv "log2m" = p) (hsz : ρ.fldv "registerSet.Size" = ws.size)
    (hc : colls "registerSet.ReadOnlyBits" = ws.toList)
    (hp : p < 4294967296) (hs : ws.size < 4294967296) (hw : ∀ w ∈ ws.toList, w < 4294967296) :
    WStep.run ρ colls getBytesProg [] = some (getBytes p ws) := by
  simp only [getBytesProg, WStep.run, Ex.eval, trunc, card, hl, hsz, hc, writeInt32, List.nil_append]
  simp only [Nat.reduceEqDiff, if_false]
  have e1 : p % 18446744073709551616 % 4294967296 = p := by omega
  have e2 : ws.size % 18446744073709551616 % 4294967296 = ws.size := by omega
  rw [e1, e2]
  have e3 : encMany (fun w => beN 4 ((ρ.withLoc "v1" w).locv "v1" % 18446744073709551616 % 4294967296))
      ws.toList = encMany (beN 4) ws.toList := by
    apply encMany_congr
    intro w hm
    have := hw w hm
    simp only [Env.withLoc, if_true]
    congr 1; omega
  rw [e3]
  unfold getBytes
  rw [encI_of_lt 4 _ hs, List.append_assoc]

inductive RStep
  | newIn (v : String) (src : Ex)              -- v := io.NewDataInputX(src)
  | readU32 (v : String) (inp : String)        -- v := uint32(inp.ReadInt())
  | readI32 (v : String) (inp : String)        -- v := inp.ReadInt()
  | makeU32 (v : String) (cnt : String)        -- v := make([]uint32, cnt)
  | fillU32 (arr : String) (cnt : String) (inp : String)
                                               -- for i := 0; i < int(cnt); i++ { arr[i] = uint32(inp.ReadInt()) }
  | retNew (log2m : String) (arr : String)     -- return NewHyperLogLog(log2m, NewRegisterSetInit(int(1<<log2m), arr))
  | unknown (why : String)
deriving DecidableEq, Repr

structure Store where
  int : String → Int
  arr : String → List Nat

def Store.setInt (σ : Store) (x : String) (v : Int) : Store :=
  { σ with int := fun n => if n = x then v else σ.int n }
def Store.setArr (σ : Store) (x : String) (v : List Nat) : Store :=
  { σ with arr := fun n => if n = x then v else σ.arr n }

/-- meaning of a reader program as a decoder: `ReadInt` reads four bytes (signed, or its
    `uint32` conversion), `make` panics on a negative length, the loop reads `cnt` words,
    `NewHyperLogLog` returns nil for a precision above 30 (`validateLog2m`).
    (Input-count guards `CheckCount` are listed separately by the translator — `countGuards` —
    and reject only input on which the reads below fail anyway.) -/
def RStep.sem : List RStep → Store → P (Nat × Array Nat)
  | [], _ => .fail
  | .newIn _ _ :: rest, σ => RStep.sem rest σ
  | .readU32 v _ :: rest, σ => P.bind (rdU 4) (fun x => RStep.sem rest (σ.setInt v (x : Int)))
  | .readI32 v _ :: rest, σ => P.bind (rdI 4) (fun x => RStep.sem rest (σ.setInt v x))
  | .makeU32 v cnt :: rest, σ =>
    if σ.int cnt < 0 then .fail else RStep.sem rest (σ.setArr v (List.replicate (σ.int cnt).toNat 0))
  | .fillU32 arr cnt _ :: rest, σ =>
    P.bind (decMany (rdU 4) (σ.int cnt).toNat) (fun ws => RStep.sem rest (σ.setArr arr ws))
  | .retNew l a :: _, σ =>
    if 30 < σ.int l then .fail else .pure ((σ.int l).toNat, (σ.arr a).toArray)
  | .unknown _ :: _, _ => .fail

/-- `BuildHyperLogLog` -/
def buildProg : List RStep :=
  [.newIn "v0" (.arg 0),
   .readU32 "v1" "v0",
   .readI32 "v2" "v0",
   .makeU32 "v3" "v2",
   .fillU32 "v3" "v2" "v0",
   .retNew "v1" "v3"]

/-- **BuildHyperLogLog**: the transcribed program is the model's decoder `build` -/
theorem build_bridge (σ : Store) : RStep.sem buildProg σ = build := by
  have e12 : ("v1" = "v2") = False := by decide
  simp only [buildProg, RStep.sem, build, Store.setInt, Store.setArr, if_true, e12, if_false]
  refine congrArg (P.bind (rdU 4)) (funext fun p => ?_)
  refine congrArg (P.bind (rdI 4)) (funext fun n => ?_)
  split
  · rfl
  · refine congrArg (P.bind (decMany (rdU 4) n.toNat)) (funext fun ws => ?_)
    have : ((30 : Int) < (p : Int)) ↔ 30 < p := by omega
    simp only [this, Int.toNat_natCast]

end HLL.Src
