/-
  Golib.HLL.SrcObj — tie A for the counter-level methods: `HyperLogLog.Merge` and
  `HyperLogLog.AddAll` as *interpreted* statement lists.

  The steps act on the receiver's register words, the words of the argument counters and local
  counters; a step that panics in the code (`AddAll` on different sizes) yields `none`.  The bridge
  theorems: the transcribed `Merge` returns the model's `mergeAll` **and leaves the receiver and the
  arguments as they were** (no step writes them); the transcribed `AddAll` replaces the receiver's
  words by `merge recv other` and nothing else.
-/
import Golib.HLL.Merge

namespace HLL.Src
open HLL

inductive MStep
  | newLike (v : String)                         -- v := NewHyperLogLog(recv.log2m, NewRegisterSet(recv.registerSet.Count))
  | addAll (dst src : String)                    -- dst.AddAll(src)            (src: "recv" or a local)
  | retIfNil (param v : String)                  -- if param == nil { return v }
  | forAddAll (param dst : String)               -- for _, x := range param { y := x; dst.AddAll(y) }
  | ret (v : String)                             -- return v
  | panicUnlessSameSize (q : String)             -- if recv.Sizeof() != q.Sizeof() { panic(…) }
  | mergeRegisters (q : String)                  -- recv.registerSet.Merge(q.registerSet)
  | unknown (why : String)
deriving DecidableEq, Repr

/-- the receiver (precision and words), the argument counters, the local counters -/
structure MState where
  p : Nat
  recv : Array Nat
  args : List (Array Nat)
  locals : String → Array Nat

def MState.get (σ : MState) (x : String) : Array Nat := if x = "recv" then σ.recv else σ.locals x
def MState.setLocal (σ : MState) (x : String) (v : Array Nat) : MState :=
  { σ with locals := fun n => if n = x then v else σ.locals n }

/-- `a.AddAll(b)` on words: panics (none) when the sizes differ -/
def addAllWords (a b : Array Nat) : Option (Array Nat) := if a.size = b.size then some (merge a b) else none

def addAllMany : Array Nat → List (Array Nat) → Option (Array Nat)
  | acc, [] => some acc
  | acc, b :: bs => match addAllWords acc b with
    | some acc' => addAllMany acc' bs
    | none => none

/-- result: `none` = panic; `some (returned counter?, final state)` -/
def MStep.sem : List MStep → MState → Option (Option (Array Nat) × MState)
  | [], σ => some (none, σ)
  | .newLike v :: rest, σ => MStep.sem rest (σ.setLocal v (fresh σ.p))
  | .addAll dst src :: rest, σ =>
    match addAllWords (σ.get dst) (σ.get src) with
    | some w => MStep.sem rest (σ.setLocal dst w)
    | none => none
  | .retIfNil _ v :: rest, σ => if σ.args = [] then some (some (σ.get v), σ) else MStep.sem rest σ
  | .forAddAll _ dst :: rest, σ =>
    match addAllMany (σ.get dst) σ.args with
    | some w => MStep.sem rest (σ.setLocal dst w)
    | none => none
  | .ret v :: _, σ => some (some (σ.get v), σ)
  | .panicUnlessSameSize _ :: rest, σ =>
    match σ.args with
    | [b] => if σ.recv.size = b.size then MStep.sem rest σ else none
    | _ => none
  | .mergeRegisters _ :: rest, σ =>
    match σ.args with
    | [b] => MStep.sem rest { σ with recv := merge σ.recv b }
    | _ => none
  | .unknown _ :: _, _ => none

/-- `HyperLogLog.Merge(estimators ...*HyperLogLog)` -/
def mergeProg : List MStep :=
  [.newLike "v0", .addAll "v0" "recv", .retIfNil "p0" "v0", .forAddAll "p0" "v0", .ret "v0"]

/-- `HyperLogLog.AddAll(other *HyperLogLog)` -/
def addAllProg : List MStep := [.panicUnlessSameSize "p0", .mergeRegisters "p0"]

theorem addAllMany_eq (acc : Array Nat) (bs : List (Array Nat)) (h : ∀ b ∈ bs, b.size = acc.size) :
    addAllMany acc bs = some (bs.foldl merge acc) := by
  induction bs generalizing acc with
  | nil => rfl
  | cons b bs ih =>
    have hb := h b List.mem_cons_self
    simp only [addAllMany, addAllWords, hb, if_true, List.foldl_cons]
    apply ih
    intro c hc
    rw [merge_size, hb, Nat.min_self]
    exact h c (List.mem_cons_of_mem _ hc)

/-- **Merge**: the transcribed body returns `mergeAll` of receiver and arguments, and the receiver
    and the arguments are exactly as before (the only thing written is the fresh local) -/
theorem merge_bridge_obj (σ : MState) (hr : σ.recv.size = wordCount (2 ^ σ.p))
    (ha : ∀ b ∈ σ.args, b.size = wordCount (2 ^ σ.p)) :
    ∃ τ, MStep.sem mergeProg σ = some (some (mergeAll σ.p σ.recv σ.args), τ) ∧
      τ.recv = σ.recv ∧ τ.args = σ.args ∧ τ.p = σ.p := by
  have hf : (fresh σ.p).size = σ.recv.size := by rw [hr]; simp [fresh]
  have e0 : ("v0" = "recv") = False := by decide
  have hacc : (merge (fresh σ.p) σ.recv).size = wordCount (2 ^ σ.p) := by
    rw [merge_size, hf, Nat.min_self, hr]
  have hm := addAllMany_eq (merge (fresh σ.p) σ.recv) σ.args (by intro b hb; rw [hacc]; exact ha b hb)
  simp only [mergeProg, MStep.sem, MState.get, MState.setLocal, addAllWords, e0, if_true, if_false, hf, hm]
  rw [show mergeAll σ.p σ.recv σ.args = σ.args.foldl merge (merge (fresh σ.p) σ.recv) from rfl]
  -- the early return for no arguments and the return after the loop yield the same fold
  split
  · rename_i hnil
    rw [hnil]
    exact ⟨_, rfl, rfl, rfl, rfl⟩
  · exact ⟨_, rfl, rfl, rfl, rfl⟩

/-- **AddAll**: the transcribed body panics exactly when the sizes differ; otherwise the receiver's
    words become `merge recv other`, the argument is untouched, nothing is returned -/
theorem addAll_bridge_obj (σ : MState) (b : Array Nat) (hb : σ.args = [b]) :
    MStep.sem addAllProg σ =
      if σ.recv.size = b.size then some (none, { σ with recv := merge σ.recv b }) else none := by
  simp only [addAllProg, MStep.sem, hb]

end HLL.Src
