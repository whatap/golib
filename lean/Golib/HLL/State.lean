/-
  Golib.HLL.State — the register array: what `offerHashed` does to it, and the proof that the
  state after offering a sequence is the pointwise supremum of the ranks (a function of the
  *set* offered).
-/
import Golib.HLL.IndexRank

namespace HLL

theorem getD_of_size_le (ws : Array Nat) (i d : Nat) (h : ws.size ≤ i) : ws.getD i d = d := by
  simp [Array.getD_eq_getD_getElem?, Array.getElem?_eq_none h]

theorem ext_getD (a b : Array Nat) (hs : a.size = b.size)
    (h : ∀ i, i < a.size → a.getD i 0 = b.getD i 0) : a = b := by
  apply Array.ext hs
  intro i h1 h2
  rw [Array.getElem_eq_getD 0, Array.getElem_eq_getD 0]
  exact h i h1

/-- canonical words: bits 30 and 31 are clear (true of every state the code reaches from
    `NewRegisterSet`) -/
def Canon (ws : Array Nat) : Prop := ∀ i, ws.getD i 0 < 1073741824

/-- a well-formed register set of precision `p` -/
structure WFState (p : Nat) (ws : Array Nat) : Prop where
  size : ws.size = wordCount (2 ^ p)
  canon : Canon ws

/-- the precisions for which the model is claimed: `2 ≤ p ≤ 30` (the property quantifies over
    `4 ≤ p ≤ 16`; `validateLog2m` admits `0 … 30`) -/
structure PrecOK (p : Nat) : Prop where
  lo : 2 ≤ p
  hi : p ≤ 30

instance (p : Nat) : Decidable (PrecOK p) :=
  decidable_of_iff (2 ≤ p ∧ p ≤ 30) ⟨fun h => ⟨h.1, h.2⟩, fun h => ⟨h.lo, h.hi⟩⟩

theorem PrecOK.of_range {p : Nat} (h1 : 4 ≤ p) (h2 : p ≤ 16) : PrecOK p := ⟨by omega, by omega⟩

theorem wordCount_le (c : Nat) : wordCount c ≤ c / 6 + 1 := by
  unfold wordCount
  simp only
  split
  · omega
  · split <;> omega

theorem two_pow_mod_three (k : Nat) : 2 ^ k % 3 = 1 ∨ 2 ^ k % 3 = 2 := by
  induction k with
  | zero => exact Or.inl rfl
  | succ k ih => rw [Nat.pow_succ]; omega

/-- `2^p / 6` is never a non-zero multiple of 32 (from `p = 6` on, `2^p = 64·2^(p−6)` and
    `2^(p−6)` is 1 or 2 modulo 3, so `2^p / 6` is 10 or 21 modulo 32) -/
theorem two_pow_div_six (p : Nat) : 2 ^ p / 6 < 32 ∨ 2 ^ p / 6 % 32 ≠ 0 := by
  rcases Nat.lt_or_ge p 6 with h | h
  · have : 2 ^ p ≤ 2 ^ 5 := Nat.pow_le_pow_right (by decide) (by omega)
    omega
  · obtain ⟨k, rfl⟩ := Nat.exists_eq_add_of_le h
    have := two_pow_mod_three k
    rw [Nat.pow_add]
    omega

/-- exactly which register counts `getSizeForCount` allocates enough words for: all but those with
    `count/6` a non-zero multiple of 32 and `count % 6 ≠ 0` -/
theorem wordCount_enough (c : Nat) :
    c ≤ 6 * wordCount c ↔ (c / 6 = 0 ∨ c / 6 % 32 ≠ 0 ∨ c % 6 = 0) := by
  unfold wordCount
  simp only
  split
  · omega
  · split <;> omega

/-- `getSizeForCount(2^p)` allocates enough words: `6 · wordCount ≥ 2^p`, and its
    `bits % 32 == 0` arm is never taken for a power of two -/
theorem sizes_ok_all (p : Nat) :
    2 ^ p ≤ 6 * wordCount (2 ^ p) ∧ (2 ^ p / 6 ≠ 0 → 2 ^ p / 6 % 32 ≠ 0) := by
  have := two_pow_div_six p
  refine ⟨(wordCount_enough _).mpr ?_, ?_⟩ <;> generalize 2 ^ p = n at * <;> omega

theorem sizes_ok (p : Nat) (hp : PrecOK p) : 2 ^ p ≤ 6 * wordCount (2 ^ p) := (sizes_ok_all p).1

/-- for a power of two from 8 on, `getSizeForCount` takes its last arm: `count/6 + 1` words -/
theorem wordCount_two_pow_eq (p : Nat) (hp : 3 ≤ p) : wordCount (2 ^ p) = 2 ^ p / 6 + 1 := by
  have := two_pow_div_six p
  have : 2 ^ 3 ≤ 2 ^ p := Nat.pow_le_pow_right (by decide) hp
  unfold wordCount
  generalize 2 ^ p = n at *
  simp only
  rw [if_neg (by omega), if_neg (by omega)]

theorem wordCount_two_pow_lt (p q : Nat) (hp : 2 ≤ p) (h : p < q) :
    wordCount (2 ^ p) < wordCount (2 ^ q) := by
  have hq : 2 * 2 ^ p ≤ 2 ^ q := by
    rw [← Nat.pow_succ']; exact Nat.pow_le_pow_right (by decide) h
  have h4 : 2 ^ 2 ≤ 2 ^ p := Nat.pow_le_pow_right (by decide) hp
  have := wordCount_le (2 ^ p)
  rw [wordCount_two_pow_eq q (by omega)]
  omega

/-- `AddAll` compares `Sizeof()` (word counts), the model compares precisions: the same test,
    because distinct precisions ≥ 2 have distinct word counts (precisions 0, 1, 2 share one word) -/
theorem wordCount_injective (p q : Nat) (hp : 2 ≤ p) (hq : 2 ≤ q)
    (h : wordCount (2 ^ p) = wordCount (2 ^ q)) : p = q := by
  rcases Nat.lt_trichotomy p q with hlt | heq | hgt
  · have := wordCount_two_pow_lt p q hp hlt; omega
  · exact heq
  · have := wordCount_two_pow_lt q p hq hgt; omega

theorem regGet_lt (ws : Array Nat) (r : Nat) : regGet ws r < 32 := wordGet_lt _ _

theorem getD_fresh (p i : Nat) : (fresh p).getD i 0 = 0 := by
  simp only [fresh, Array.getD_eq_getD_getElem?, Array.getElem?_replicate]
  split <;> rfl

theorem regGet_fresh (p r : Nat) : regGet (fresh p) r = 0 := by
  unfold regGet
  rw [getD_fresh, wordGet_zero]

theorem fresh_wf (p : Nat) : WFState p (fresh p) :=
  ⟨by simp [fresh], fun i => by rw [getD_fresh]; decide⟩

theorem regUpd_size (ws : Array Nat) (r v : Nat) : (regUpd ws r v).1.size = ws.size := by
  simp [regUpd]

/-- register `r'` after `UpdateIfGreater(r, v)`: the maximum at `r`, untouched elsewhere -/
theorem regGet_regUpd (ws : Array Nat) (r r' v : Nat) (hr : r < 6 * ws.size) (hv : v < 32) :
    regGet (regUpd ws r v).1 r' = if r = r' then max (regGet ws r) v else regGet ws r' := by
  unfold regGet regUpd
  simp only
  rw [Golib.getD_setIfInBounds]
  have hlt : r / 6 < ws.size := by omega
  by_cases hq : r / 6 = r' / 6
  · rw [if_pos ⟨hq, hlt⟩]
    rw [wordGet_wordUpd _ _ _ _ hv]
    by_cases hm : r % 6 = r' % 6
    · have : r = r' := by omega
      subst this; simp
    · have : r ≠ r' := by intro h; subst h; exact hm rfl
      rw [if_neg hm, if_neg this, hq]
  · have : r ≠ r' := by intro h; subst h; exact hq rfl
    rw [if_neg (fun h => hq h.1), if_neg this]

theorem regUpd_snd (ws : Array Nat) (r v : Nat) : (regUpd ws r v).2 = decide (regGet ws r < v) := by
  unfold regUpd regGet
  exact wordUpd_snd _ _ _

theorem regUpd_canon (ws : Array Nat) (r v : Nat) (hv : v < 32) (hc : Canon ws) :
    Canon (regUpd ws r v).1 := by
  intro i
  unfold regUpd
  simp only
  rw [Golib.getD_setIfInBounds]
  split
  · exact wordUpd_lt30 _ _ _ (Nat.mod_lt _ (by decide)) hv (hc _)
  · exact hc i

theorem state_ext (a b : Array Nat) (hs : a.size = b.size) (ha : Canon a) (hb : Canon b)
    (h : ∀ r, r < 6 * a.size → regGet a r = regGet b r) : a = b := by
  apply ext_getD a b hs
  intro i hi
  apply wordGet_ext 6 _ _ (ha i) (hb i)
  intro j hj
  have := h (6 * i + j) (by omega)
  unfold regGet at this
  have q : (6 * i + j) / 6 = i := by omega
  have m : (6 * i + j) % 6 = j := by omega
  rw [q, m] at this
  exact this

theorem offerHashed_size (p : Nat) (ws : Array Nat) (h : Nat) :
    (offerHashed p ws h).1.size = ws.size := regUpd_size _ _ _

theorem offerHashed_wf (p : Nat) (ws : Array Nat) (h : Nat) (hp : PrecOK p) (hw : WFState p ws) :
    WFState p (offerHashed p ws h).1 :=
  ⟨by rw [offerHashed_size]; exact hw.size,
   regUpd_canon _ _ _ (rank_lt_32 p h hp.lo (by have := hp.hi; omega)) hw.canon⟩

/-- a hashed value is a 32-bit number -/
def Hashed (h : Nat) : Prop := h < 4294967296

instance (h : Nat) : Decidable (Hashed h) := Nat.decLt _ _

theorem idx_in_range (p : Nat) (ws : Array Nat) (h : Nat) (hp : PrecOK p) (hw : WFState p ws)
    (hh : Hashed h) : idx p h < 6 * ws.size := by
  have a := idx_lt p h (by have := hp.hi; omega) hh
  have b := sizes_ok p hp
  rw [hw.size]; omega

/-- one `offerHashed`: the selected register becomes the maximum of its old value and the rank -/
theorem regGet_offerHashed (p : Nat) (ws : Array Nat) (h r : Nat) (hp : PrecOK p)
    (hw : WFState p ws) (hh : Hashed h) :
    regGet (offerHashed p ws h).1 r =
      if idx p h = r then max (regGet ws r) (rank p h) else regGet ws r := by
  unfold offerHashed
  rw [regGet_regUpd ws _ r _ (idx_in_range p ws h hp hw hh)
    (rank_lt_32 p h hp.lo (by have := hp.hi; omega))]
  split
  · rename_i e; rw [e]
  · rfl

/-- the booleans: `Offer` returns true exactly when the selected register grows -/
theorem offerHashed_snd (p : Nat) (ws : Array Nat) (h : Nat) :
    (offerHashed p ws h).2 = decide (regGet ws (idx p h) < rank p h) := regUpd_snd _ _ _

/-- pointwise supremum of the ranks of the hashed values that select register `r` -/
def supRank (p : Nat) (hs : List Nat) (r : Nat) : Nat :=
  hs.foldr (fun h acc => if idx p h = r then max (rank p h) acc else acc) 0

theorem supRank_nil (p r : Nat) : supRank p [] r = 0 := rfl

theorem supRank_cons (p h : Nat) (hs : List Nat) (r : Nat) :
    supRank p (h :: hs) r = if idx p h = r then max (rank p h) (supRank p hs r) else supRank p hs r := rfl

/-- `supRank` is the least upper bound of `{ rank h | h ∈ hs, idx h = r }` -/
theorem supRank_le_iff (p : Nat) (hs : List Nat) (r k : Nat) :
    supRank p hs r ≤ k ↔ ∀ h ∈ hs, idx p h = r → rank p h ≤ k := by
  induction hs with
  | nil => simp [supRank_nil]
  | cons x xs ih =>
    rw [supRank_cons]
    constructor
    · intro hle h hm hi
      rcases List.mem_cons.mp hm with rfl | hm
      · rw [if_pos hi] at hle; omega
      · apply ih.mp _ h hm hi
        split at hle <;> omega
    · intro hall
      have h2 := ih.mpr (fun h hm hi => hall h (List.mem_cons_of_mem _ hm) hi)
      split
      · rename_i hi
        have := hall x (List.mem_cons_self) hi
        omega
      · exact h2

/-- … hence a function of the set of hashed values only -/
theorem supRank_set (p : Nat) (xs ys : List Nat) (h : ∀ x, x ∈ xs ↔ x ∈ ys) (r : Nat) :
    supRank p xs r = supRank p ys r := by
  apply Nat.le_antisymm
  · apply (supRank_le_iff p xs r _).mpr
    intro x hx hi
    exact (supRank_le_iff p ys r _).mp (Nat.le_refl _) x ((h x).mp hx) hi
  · apply (supRank_le_iff p ys r _).mpr
    intro x hx hi
    exact (supRank_le_iff p xs r _).mp (Nat.le_refl _) x ((h x).mpr hx) hi

theorem supRank_append (p : Nat) (xs ys : List Nat) (r : Nat) :
    supRank p (xs ++ ys) r = max (supRank p xs r) (supRank p ys r) := by
  induction xs with
  | nil => simp [supRank_nil]
  | cons x xs ih =>
    rw [List.cons_append, supRank_cons, supRank_cons, ih]
    split <;> omega

/-- the supremum is attained (or it is 0 and no offered value selects the register) -/
theorem supRank_attained (p : Nat) (hs : List Nat) (r : Nat) :
    (supRank p hs r = 0 ∧ ∀ h ∈ hs, idx p h ≠ r) ∨
    (∃ h ∈ hs, idx p h = r ∧ rank p h = supRank p hs r) := by
  have hle := (supRank_le_iff p hs r _).mp (Nat.le_refl _)
  by_cases hex : ∃ h ∈ hs, idx p h = r ∧ rank p h = supRank p hs r
  · exact .inr hex
  · -- nothing attains the bound, so the bound minus one is a bound too: the bound is 0
    have : supRank p hs r ≤ supRank p hs r - 1 := (supRank_le_iff ..).mpr fun h hm hi => by
      have := hle h hm hi
      have : rank p h ≠ supRank p hs r := fun e => hex ⟨h, hm, hi, e⟩
      omega
    refine .inl ⟨by omega, fun h hm hi => ?_⟩
    have := hle h hm hi
    have := rank_pos p h
    omega

theorem offerAll_cons (p : Nat) (ws : Array Nat) (h : Nat) (hs : List Nat) :
    offerAll p ws (h :: hs) = offerAll p (offerHashed p ws h).1 hs := rfl

theorem offerAll_wf (p : Nat) (ws : Array Nat) (hs : List Nat) (hp : PrecOK p) (hw : WFState p ws) :
    WFState p (offerAll p ws hs) :=
  List.foldlRecOn hs _ hw fun ws hw h _ => offerHashed_wf p ws h hp hw

/-- **state_is_set_fn** (general start state): after offering `hs`, every register is the maximum
    of its old value and the supremum of the ranks that select it -/
theorem regGet_offerAll (p : Nat) (ws : Array Nat) (hs : List Nat) (r : Nat) (hp : PrecOK p)
    (hw : WFState p ws) (hh : ∀ h ∈ hs, Hashed h) :
    regGet (offerAll p ws hs) r = max (regGet ws r) (supRank p hs r) := by
  induction hs generalizing ws with
  | nil => simp [offerAll, supRank_nil]
  | cons h hs ih =>
    rw [offerAll_cons, ih _ (offerHashed_wf p ws h hp hw) (fun x hx => hh x (List.mem_cons_of_mem _ hx)),
      regGet_offerHashed p ws h r hp hw (hh h List.mem_cons_self), supRank_cons]
    split
    · omega
    · rfl

theorem stateOf_wf (p : Nat) (hs : List Nat) (hp : PrecOK p) : WFState p (stateOf p hs) :=
  offerAll_wf p _ hs hp (fresh_wf p)

theorem regGet_stateOf (p : Nat) (hs : List Nat) (r : Nat) (hp : PrecOK p) (hh : ∀ h ∈ hs, Hashed h) :
    regGet (stateOf p hs) r = supRank p hs r := by
  unfold stateOf
  rw [regGet_offerAll p _ hs r hp (fresh_wf p) hh, regGet_fresh, Nat.zero_max]

theorem offerAll_congr (p : Nat) (ws : Array Nat) (xs ys : List Nat) (hp : PrecOK p)
    (hw : WFState p ws) (hx : ∀ h ∈ xs, Hashed h) (hy : ∀ h ∈ ys, Hashed h)
    (h : ∀ r, supRank p xs r = supRank p ys r) : offerAll p ws xs = offerAll p ws ys := by
  have wx := offerAll_wf p ws xs hp hw
  have wy := offerAll_wf p ws ys hp hw
  apply state_ext _ _ (by rw [wx.size, wy.size]) wx.canon wy.canon
  intro r _
  rw [regGet_offerAll p ws xs r hp hw hx, regGet_offerAll p ws ys r hp hw hy, h r]

/-- offering is idempotent and commutative at the level of the words -/
theorem offerAll_set (p : Nat) (ws : Array Nat) (xs ys : List Nat) (hp : PrecOK p)
    (hw : WFState p ws) (hx : ∀ h ∈ xs, Hashed h) (hy : ∀ h ∈ ys, Hashed h)
    (h : ∀ x, x ∈ xs ↔ x ∈ ys) : offerAll p ws xs = offerAll p ws ys :=
  offerAll_congr p ws xs ys hp hw hx hy (supRank_set p xs ys h)

theorem offerAllB_fst (p : Nat) (ws : Array Nat) (hs : List Nat) :
    (offerAllB p ws hs).1 = offerAll p ws hs :=
  (List.foldl_hom Prod.fst fun _ _ => rfl).symm

theorem offerItems_eq {α : Type} (hash : α → Nat) (p : Nat) (ws : Array Nat) (xs : List α) :
    offerItems hash p ws xs = offerAll p ws (xs.map hash) := by
  unfold offerItems offerAll offer
  rw [List.foldl_map]

theorem mem_map_congr {α β : Type} (f : α → β) {xs ys : List α} (h : ∀ x, x ∈ xs ↔ x ∈ ys) (v : β) :
    v ∈ xs.map f ↔ v ∈ ys.map f := by
  simp only [List.mem_map, h]

/-- items offered through a hash function: only the set of hashed values matters -/
theorem offerItems_set {α : Type} (hash : α → Nat) (hH : ∀ x, Hashed (hash x)) (p : Nat)
    (ws : Array Nat) (xs ys : List α) (hp : PrecOK p) (hw : WFState p ws)
    (h : ∀ v, v ∈ xs.map hash ↔ v ∈ ys.map hash) :
    offerItems hash p ws xs = offerItems hash p ws ys := by
  have hm : ∀ zs : List α, ∀ v ∈ zs.map hash, Hashed v := fun zs v hv => by
    obtain ⟨x, _, rfl⟩ := List.mem_map.mp hv; exact hH x
  rw [offerItems_eq, offerItems_eq]
  exact offerAll_set p ws _ _ hp hw (hm xs) (hm ys) h

end HLL
