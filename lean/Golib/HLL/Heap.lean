/-
  Golib.HLL.Heap — histories over several counters: "inputs untouched" as a theorem.

  A world is a list of counters (the index is the counter's identity); every counter carries, as
  ghost state, the list of hashed values that were offered to it directly or through merges.
  Operations (the public API of util/hll that creates, changes or reads counters):

      new p            NewHyperLogLogInt(p)                         → a new counter
      offer i h        counter i .offerHashed(h)  (Offer/OfferLong after hashing)
      addAll i j       counter i .AddAll(counter j)                 (panics if the sizes differ)
      merge i js       counter i .Merge(counters js…)                → a new counter (panics on a size mismatch)
      build i          BuildHyperLogLog(counter i .GetBytes())      → a new counter
      getBytes i       observation only

  An operation that panics (unknown counter, different precision) leaves the world as it is.
  Here: the frame condition of every operation (only the receiver of offer/addAll changes;
  merge/build/getBytes/new change no existing counter) and the invariant every operation keeps —
  every counter's words are `stateOf p (its ghost items)`, so its bytes depend only on the *set* of
  items that reached it, whatever the order, the duplication, self-merges or the same counter
  passed twice.  The statements about whole histories are in `Golib/Props/C14.lean`.
-/
import Golib.HLL.Abstract

namespace HLL

structure Counter where
  p : Nat
  ws : Array Nat
  items : List Nat        -- ghost: everything that reached this counter

abbrev World := List Counter

inductive HOp
  | new (p : Nat)
  | offer (i h : Nat)
  | addAll (i j : Nat)
  | merge (i : Nat) (js : List Nat)
  | build (i : Nat)
  | getBytes (i : Nat)
deriving Repr

/-- all arguments exist and have the precision `p` (otherwise `AddAll` panics) -/
def argsOK (w : World) (p : Nat) : List Nat → Bool
  | [] => true
  | j :: js => (match w[j]? with | some c => c.p == p | none => false) && argsOK w p js

/-- `merged.AddAll(arg)` for each argument in turn -/
def mergeArgs (w : World) : Array Nat → List Nat → List Nat → Array Nat × List Nat
  | acc, its, [] => (acc, its)
  | acc, its, j :: js =>
    match w[j]? with
    | some c => mergeArgs w (merge acc c.ws) (its ++ c.items) js
    | none => mergeArgs w acc its js

/-- `BuildHyperLogLog(a.GetBytes())` (the ghost items travel with the bytes) -/
def rebuildOf (r : Option ((Nat × Array Nat) × Bytes)) (items : List Nat) : Option Counter :=
  match r with
  | some ((p, ws), _) => some ⟨p, ws, items⟩
  | none => none

def rebuild (a : Counter) : Option Counter := rebuildOf (P.run build (getBytes a.p a.ws)) a.items

/-- one operation; the rebuilding function is a parameter so that the frame proofs do not look
    into the decoder -/
def stepWith (rb : Counter → Option Counter) (w : World) : HOp → World
  | .new p => w ++ [⟨p, fresh p, []⟩]
  | .offer i h =>
    match w[i]? with
    | some c => w.set i ⟨c.p, (offerHashed c.p c.ws h).1, c.items ++ [h]⟩
    | none => w
  | .addAll i j =>
    match w[i]?, w[j]? with
    | some a, some b => if a.p = b.p then w.set i ⟨a.p, merge a.ws b.ws, a.items ++ b.items⟩ else w
    | _, _ => w
  | .merge i js =>
    match w[i]? with
    | some a =>
      if argsOK w a.p js then
        let r := mergeArgs w (merge (fresh a.p) a.ws) a.items js
        w ++ [⟨a.p, r.1, r.2⟩]
      else w
    | none => w
  | .build i =>
    match w[i]? with
    | some a =>
      match rb a with
      | some c => w ++ [c]
      | none => w
    | none => w
  | .getBytes _ => w

def step (w : World) (op : HOp) : World := stepWith rebuild w op

def run (ops : List HOp) : World := ops.foldl step []

/-- what `GetBytes()` of counter `i` returns -/
def bytesAt (w : World) (i : Nat) : Option Bytes := (w[i]?).map (fun c => getBytes c.p c.ws)

/-- the only counter an operation may change -/
def target : HOp → Option Nat
  | .offer i _ => some i
  | .addAll i _ => some i
  | _ => none

/-- an operation leaves the world as it is, replaces its target, or appends one counter -/
theorem stepWith_shape (rb : Counter → Option Counter) (w : World) (op : HOp) :
    stepWith rb w op = w ∨ (∃ i c, target op = some i ∧ stepWith rb w op = w.set i c) ∨
    ∃ c, stepWith rb w op = w ++ [c] := by
  cases op <;> simp only [stepWith, target]
  · exact .inr (.inr ⟨_, rfl⟩)
  · split
    · exact .inr (.inl ⟨_, _, rfl, rfl⟩)
    · exact .inl rfl
  · split
    · split
      · exact .inr (.inl ⟨_, _, rfl, rfl⟩)
      · exact .inl rfl
    · exact .inl rfl
  · split
    · split
      · exact .inr (.inr ⟨_, rfl⟩)
      · exact .inl rfl
    · exact .inl rfl
  · split
    · split
      · exact .inr (.inr ⟨_, rfl⟩)
      · exact .inl rfl
    · exact .inl rfl
  · exact .inl trivial

/-- identities are stable: the world only grows -/
theorem stepWith_length_le (rb : Counter → Option Counter) (w : World) (op : HOp) :
    w.length ≤ (stepWith rb w op).length := by
  rcases stepWith_shape rb w op with h | ⟨i, c, _, h⟩ | ⟨c, h⟩ <;> rw [h] <;> simp

/-- **frame**: every existing counter other than the receiver of `offer`/`addAll` is untouched —
    same precision, same words (hence same bytes), same identity; `new`, `merge`, `build` and
    `getBytes` touch no existing counter at all -/
theorem step_frame (w : World) (op : HOp) (k : Nat) (hk : k < w.length) (hne : target op ≠ some k) :
    (step w op)[k]? = w[k]? := by
  unfold step
  rcases stepWith_shape rebuild w op with h | ⟨i, c, ht, h⟩ | ⟨c, h⟩ <;> rw [h]
  · exact List.getElem?_set_ne fun e => hne (by rw [ht, e])
  · exact List.getElem?_append_left hk

/-- the invariant of a counter: valid precision, hashed ghost items, words = state of the items -/
structure CInv (c : Counter) : Prop where
  prec : PrecOK c.p
  hashed : ∀ h ∈ c.items, Hashed h
  state : c.ws = stateOf c.p c.items

def WInv (w : World) : Prop := ∀ c ∈ w, CInv c

/-- the operations of a history are well-formed: precisions in range, hashed values 32-bit -/
def OpOK : HOp → Prop
  | .new p => PrecOK p
  | .offer _ h => Hashed h
  | _ => True

instance : (op : HOp) → Decidable (OpOK op)
  | .new _ | .offer _ _ => by unfold OpOK; infer_instance
  | .addAll _ _ | .merge _ _ | .build _ | .getBytes _ => .isTrue trivial

theorem stateOf_snoc (p : Nat) (xs : List Nat) (h : Nat) :
    (offerHashed p (stateOf p xs) h).1 = stateOf p (xs ++ [h]) := by
  unfold stateOf offerAll
  rw [List.foldl_append]; rfl

theorem WInv_set (w : World) (i : Nat) (c : Counter) (hw : WInv w) (hc : CInv c) : WInv (w.set i c) := by
  intro d hd
  rcases List.mem_or_eq_of_mem_set hd with h | h
  · exact hw d h
  · rw [h]; exact hc

theorem WInv_append (w : World) (c : Counter) (hw : WInv w) (hc : CInv c) : WInv (w ++ [c]) := by
  intro d hd
  rcases List.mem_append.mp hd with h | h
  · exact hw d h
  · simp at h; rw [h]; exact hc

theorem CInv.wf {c : Counter} (h : CInv c) : WFState c.p c.ws := h.state ▸ stateOf_wf c.p c.items h.prec

/-- counters of one precision reached by the same set of items hold the same words -/
theorem CInv.ws_eq {c d : Counter} (hc : CInv c) (hd : CInv d) (hp : c.p = d.p)
    (h : ∀ x, x ∈ c.items ↔ x ∈ d.items) : c.ws = d.ws := by
  rw [hc.state, hd.state, ← hp]
  exact offerAll_set c.p _ _ _ hc.prec (fresh_wf c.p) hc.hashed hd.hashed h

theorem CInv.new {p : Nat} (hp : PrecOK p) : CInv ⟨p, fresh p, []⟩ := ⟨hp, nofun, rfl⟩

theorem CInv.offer {c : Counter} (hc : CInv c) {h : Nat} (hh : Hashed h) :
    CInv ⟨c.p, (offerHashed c.p c.ws h).1, c.items ++ [h]⟩ :=
  ⟨hc.prec, List.forall_mem_append.mpr ⟨hc.hashed, List.forall_mem_singleton.mpr hh⟩,
    (congrArg (fun s => (offerHashed c.p s h).1) hc.state).trans (stateOf_snoc c.p c.items h)⟩

theorem CInv.addAll {a b : Counter} (ha : CInv a) (hb : CInv b) (hp : a.p = b.p) :
    CInv ⟨a.p, merge a.ws b.ws, a.items ++ b.items⟩ :=
  ⟨ha.prec, List.forall_mem_append.mpr ⟨ha.hashed, hb.hashed⟩, by
    show merge a.ws b.ws = stateOf a.p (a.items ++ b.items)
    rw [ha.state, hb.state, ← hp]; exact merge_stateOf a.p _ _ ha.prec hb.hashed⟩

/-- `Merge`: the accumulator stays a counter of the receiver's precision while the arguments are
    added, one `AddAll` each -/
theorem CInv.mergeArgs {w : World} (hw : WInv w) {p : Nat} (js : List Nat) {acc : Array Nat}
    {its : List Nat} (hok : argsOK w p js = true) (h : CInv ⟨p, acc, its⟩) :
    CInv ⟨p, (mergeArgs w acc its js).1, (mergeArgs w acc its js).2⟩ := by
  fun_induction HLL.mergeArgs w acc its js with
  | case1 => exact h
  | case2 acc its j js c hj ih =>
    simp only [argsOK, hj, Bool.and_eq_true, beq_iff_eq] at hok
    exact ih hok.2 (h.addAll (hw c (List.mem_of_getElem? hj)) hok.1.symm)
  | case3 acc its j js hj => simp [argsOK, hj] at hok

/-- what `Merge` starts from: a new counter, then `AddAll(receiver)` -/
theorem CInv.mergeStart {a : Counter} (ha : CInv a) : CInv ⟨a.p, merge (fresh a.p) a.ws, a.items⟩ :=
  (CInv.new ha.prec).addAll ha rfl

theorem stepWith_inv (rb : Counter → Option Counter)
    (hrb : ∀ a, CInv a → rb a = some ⟨a.p, a.ws, a.items⟩)
    (w : World) (op : HOp) (hw : WInv w) (hop : OpOK op) : WInv (stepWith rb w op) := by
  have at' {i c} (h : w[i]? = some c) : CInv c := hw c (List.mem_of_getElem? h)
  cases op <;> simp only [stepWith]
  · exact WInv_append w _ hw (CInv.new hop)
  · split
    · exact WInv_set w _ _ hw ((at' ‹_›).offer hop)
    · exact hw
  · split
    · split
      · exact WInv_set w _ _ hw ((at' ‹_›).addAll (at' ‹_›) ‹_›)
      · exact hw
    · exact hw
  · split
    · split
      · exact WInv_append w _ hw (CInv.mergeArgs hw _ ‹_› (at' ‹_›).mergeStart)
      · exact hw
    · exact hw
  · split
    · rw [hrb _ (at' ‹_›)]
      exact WInv_append w _ hw (at' ‹_›)
    · exact hw
  · exact hw

theorem rebuild_eq (a : Counter) (ai : CInv a) : rebuild a = some ⟨a.p, a.ws, a.items⟩ := by
  have rt := run_build_getBytes_wf a.p a.ws [] ai.prec ai.wf
  rw [List.append_nil] at rt
  exact congrArg (fun r => rebuildOf r a.items) rt

theorem step_inv (w : World) (op : HOp) (hw : WInv w) (hop : OpOK op) : WInv (step w op) :=
  stepWith_inv rebuild rebuild_eq w op hw hop

theorem mem_mergeArgs_items (w : World) (x : Nat) (js : List Nat) (acc : Array Nat) (its : List Nat) :
    x ∈ (mergeArgs w acc its js).2 ↔ x ∈ its ∨ ∃ j ∈ js, ∃ b, w[j]? = some b ∧ x ∈ b.items := by
  fun_induction mergeArgs w acc its js with
  | case1 => simp
  | case2 acc its j js c hj ih =>
    simp only [ih, List.mem_append, or_assoc, List.mem_cons, exists_eq_or_imp, hj, Option.some.injEq,
      exists_eq_left']
  | case3 acc its j js hj ih =>
    simp only [ih, List.mem_cons, exists_eq_or_imp, hj, reduceCtorEq, false_and, exists_false, false_or]

end HLL
