/-
  Golib.HLL.Abstract — the abstract register function and the packed bytes: the commuting square.

      registers f : Nat → Nat  ──absOffer──▶  registers f'
            │ bytesOfRegs                          │ bytesOfRegs
            ▼                                      ▼
      GetBytes() of the counter ──Offer──▶  GetBytes() of the counter

  `bytesOfRegs p` is injective on the registers `0 … 2^p − 1` (values < 32), and every state the
  code reaches from `NewHyperLogLog` (`Reach`: canonical words, empty padding registers) is the
  packing of its own registers.  Hence every statement about abstract registers (set-dependence,
  commutativity, idempotence, merge = union) holds literally for the bytes.
-/
import Golib.HLL.Serial
import Golib.HLL.Merge

namespace HLL

/-- the registers beyond `2^p` in the last word are never written -/
def Padded (p : Nat) (ws : Array Nat) : Prop := ∀ r, 2 ^ p ≤ r → regGet ws r = 0

/-- an invariant of every state reachable from a fresh counter by offers and merges (`fresh_reach`,
    `offerAll_reach`, `merge_reach`); the converse is not claimed -/
structure Reach (p : Nat) (ws : Array Nat) : Prop where
  wf : WFState p ws
  pad : Padded p ws

def clip (p : Nat) (f : Nat → Nat) (r : Nat) : Nat := if r < 2 ^ p then f r else 0

/-- six consecutive registers as one word -/
def packWord (g : Nat → Nat) (i : Nat) : Nat :=
  g (6 * i) + g (6 * i + 1) * 32 + g (6 * i + 2) * 1024 + g (6 * i + 3) * 32768 +
    g (6 * i + 4) * 1048576 + g (6 * i + 5) * 33554432

/-- the packed words of a register function -/
def packRegs (p : Nat) (f : Nat → Nat) : Array Nat :=
  Array.ofFn (n := wordCount (2 ^ p)) (fun i => packWord (clip p f) i.val)

/-- `GetBytes()` of the counter whose registers are `f` -/
def bytesOfRegs (p : Nat) (f : Nat → Nat) : Bytes := getBytes p (packRegs p f)

/-- one offer on abstract registers -/
def absOffer (p : Nat) (f : Nat → Nat) (h : Nat) (r : Nat) : Nat :=
  if idx p h = r then max (f r) (rank p h) else f r

theorem clip_lt (p : Nat) (f : Nat → Nat) (hf : ∀ r, f r < 32) (r : Nat) : clip p f r < 32 := by
  unfold clip; split
  · exact hf r
  · decide

theorem packRegs_size (p : Nat) (f : Nat → Nat) : (packRegs p f).size = wordCount (2 ^ p) := by
  simp [packRegs]

theorem getD_packRegs (p : Nat) (f : Nat → Nat) (i : Nat) (hi : i < wordCount (2 ^ p)) :
    (packRegs p f).getD i 0 = packWord (clip p f) i := by
  rw [← Array.getElem_eq_getD (xs := packRegs p f) (h := by rw [packRegs_size]; exact hi)]
  simp [packRegs]

theorem wordGet_packWord (g : Nat → Nat) (hg : ∀ r, g r < 32) (i j : Nat) (hj : j < 6) :
    wordGet (packWord g i) j = g (6 * i + j) ∧ packWord g i < 1073741824 :=
  have h := wordGet_pack (fun k => g (6 * i + k)) fun _ _ => hg _
  ⟨h.2 j hj, h.1⟩

/-- also beyond the last word: both sides are 0 there -/
theorem regGet_packRegs (p : Nat) (f : Nat → Nat) (hf : ∀ r, f r < 32) (r : Nat) :
    regGet (packRegs p f) r = clip p f r := by
  unfold regGet
  by_cases hr : r < 6 * wordCount (2 ^ p)
  · rw [getD_packRegs p f _ (by omega),
      (wordGet_packWord _ (clip_lt p f hf) (r / 6) (r % 6) (Nat.mod_lt _ (by decide))).1]
    congr 1; omega
  · have := (sizes_ok_all p).1
    rw [getD_of_size_le _ _ _ (by rw [packRegs_size]; omega), wordGet_zero, clip, if_neg (by omega)]

theorem packRegs_reach (p : Nat) (f : Nat → Nat) (hf : ∀ r, f r < 32) : Reach p (packRegs p f) := by
  refine ⟨⟨packRegs_size p f, fun i => ?_⟩, fun r hr => ?_⟩
  · by_cases hi : i < wordCount (2 ^ p)
    · rw [getD_packRegs p f i hi]
      exact (wordGet_packWord _ (clip_lt p f hf) i 0 (by decide)).2
    · rw [getD_of_size_le _ _ _ (by rw [packRegs_size]; omega)]; decide
  · rw [regGet_packRegs p f hf, clip, if_neg (by omega)]

/-- a reachable state is the packing of its own registers -/
theorem packRegs_regGet (p : Nat) (ws : Array Nat) (hr : Reach p ws) : packRegs p (regGet ws) = ws := by
  have hp := packRegs_reach p (regGet ws) (regGet_lt ws)
  apply state_ext _ _ (by rw [packRegs_size, hr.wf.size]) hp.wf.canon hr.wf.canon
  intro r _
  rw [regGet_packRegs p _ (regGet_lt ws) r]
  unfold clip
  split
  · rfl
  · exact (hr.pad r (by omega)).symm

/-- `bytesOfRegs` depends only on the registers below `2^p` … -/
theorem bytesOfRegs_congr (p : Nat) (f g : Nat → Nat) (h : ∀ r, r < 2 ^ p → f r = g r) :
    bytesOfRegs p f = bytesOfRegs p g := by
  have : clip p f = clip p g := by
    funext r; unfold clip; split
    · rename_i hr; exact h r hr
    · rfl
  unfold bytesOfRegs packRegs
  rw [this]

/-- … and is injective on them -/
theorem bytesOfRegs_injective (p : Nat) (f g : Nat → Nat) (hp : PrecOK p) (hf : ∀ r, f r < 32)
    (hg : ∀ r, g r < 32) (h : bytesOfRegs p f = bytesOfRegs p g) : ∀ r, r < 2 ^ p → f r = g r := by
  intro r hr
  have h2 := (getBytes_injective p p _ _ hp hp (packRegs_reach p f hf).wf (packRegs_reach p g hg).wf h).2
  have := regGet_packRegs p f hf r
  rw [h2, regGet_packRegs p g hg r, clip, clip, if_pos hr, if_pos hr] at this
  exact this.symm

/-- the bytes of a reachable counter are the bytes of its registers -/
theorem getBytes_eq_bytesOfRegs (p : Nat) (ws : Array Nat) (hr : Reach p ws) :
    getBytes p ws = bytesOfRegs p (regGet ws) := by
  unfold bytesOfRegs; rw [packRegs_regGet p ws hr]

theorem fresh_reach (p : Nat) : Reach p (fresh p) :=
  ⟨fresh_wf p, fun r _ => regGet_fresh p r⟩

theorem offerHashed_reach (p : Nat) (ws : Array Nat) (h : Nat) (hp : PrecOK p) (hr : Reach p ws)
    (hh : Hashed h) : Reach p (offerHashed p ws h).1 := by
  refine ⟨offerHashed_wf p ws h hp hr.wf, ?_⟩
  intro r hge
  rw [regGet_offerHashed p ws h r hp hr.wf hh]
  have := idx_lt p h (by have := hp.hi; omega) hh
  rw [if_neg (by omega)]
  exact hr.pad r hge

theorem offerAll_reach (p : Nat) (ws : Array Nat) (hs : List Nat) (hp : PrecOK p) (hr : Reach p ws)
    (hh : ∀ h ∈ hs, Hashed h) : Reach p (offerAll p ws hs) :=
  List.foldlRecOn hs _ hr fun ws hr h hm => offerHashed_reach p ws h hp hr (hh h hm)

theorem merge_reach (p : Nat) (a b : Array Nat) (ha : Reach p a) (hb : Reach p b) :
    Reach p (merge a b) := by
  refine ⟨merge_wf p a b ha.wf hb.wf, ?_⟩
  intro r hge
  rw [regGet_merge a b (by rw [ha.wf.size, hb.wf.size]), ha.pad r hge, hb.pad r hge]
  rfl

/-- the registers after an offer are the abstract offer on the registers before -/
theorem regGet_offerHashed_abs (p : Nat) (ws : Array Nat) (h : Nat) (hp : PrecOK p)
    (hw : WFState p ws) (hh : Hashed h) :
    regGet (offerHashed p ws h).1 = absOffer p (regGet ws) h :=
  funext fun r => regGet_offerHashed p ws h r hp hw hh

/-- **Offer**: bytes after an offer = bytes of the abstractly updated registers -/
theorem getBytes_offerHashed (p : Nat) (ws : Array Nat) (h : Nat) (hp : PrecOK p) (hr : Reach p ws)
    (hh : Hashed h) :
    getBytes p (offerHashed p ws h).1 = bytesOfRegs p (absOffer p (regGet ws) h) := by
  rw [getBytes_eq_bytesOfRegs p _ (offerHashed_reach p ws h hp hr hh),
    regGet_offerHashed_abs p ws h hp hr.wf hh]

/-- bytes of the counter that was offered `hs` = bytes of the pointwise suprema -/
theorem getBytes_stateOf (p : Nat) (hs : List Nat) (hp : PrecOK p) (hh : ∀ h ∈ hs, Hashed h) :
    getBytes p (stateOf p hs) = bytesOfRegs p (supRank p hs) := by
  have hr : Reach p (stateOf p hs) := offerAll_reach p _ hs hp (fresh_reach p) hh
  rw [getBytes_eq_bytesOfRegs p _ hr]
  apply bytesOfRegs_congr
  intro r _
  exact regGet_stateOf p hs r hp hh

/-- abstract offers commute and are idempotent (pure arithmetic on `max`) -/
theorem absOffer_comm (p : Nat) (f : Nat → Nat) (h1 h2 : Nat) :
    absOffer p (absOffer p f h1) h2 = absOffer p (absOffer p f h2) h1 := by
  funext r
  unfold absOffer
  by_cases a : idx p h1 = r <;> by_cases b : idx p h2 = r <;> simp [a, b] <;> omega

theorem absOffer_idem (p : Nat) (f : Nat → Nat) (h : Nat) :
    absOffer p (absOffer p f h) h = absOffer p f h := by
  funext r
  unfold absOffer
  by_cases a : idx p h = r <;> simp [a]

end HLL
