/-
  Golib.HLL.EstSpec — a real-valued (rational) specification of `Cardinality`.

  The floating-point formulas of the code are the opaque parameter `Est` of the CodeModel.  Here the
  parameter is instantiated with exact rational arithmetic:

      raw     = alpha_p · m² / (S / 2^31)            (S = regSum, so S/2^31 = Σ 2^(-M[j]))
      small e = e ≤ 5/2 · m
      linear  = round (m · ln (m / V))               (`ln` stays a parameter)
      round x = ⌊x + 1/2⌋

  (`alpha_p` is built from the decimals of `HLL.consts`, which tie A regenerates from the source.)
  About this specification: the raw estimate is antitone in the register sum (and an offer never
  lowers a register), the small-range test is a threshold on the integer register sum, an empty
  counter estimates 0, with no empty register the raw estimate is returned (fix-D30).  That the
  code before commit a79bf01 evaluates ln(m/0) on the D30 witness, without any assumption on the
  comparison, is `C14.finding_D30_exact`.
-/
import Golib.HLL.Card

namespace HLL

/-- pointwise order on register lists -/
def RegsLe : List Nat → List Nat → Prop
  | [], [] => True
  | a :: as, b :: bs => a ≤ b ∧ RegsLe as bs
  | _, _ => False

theorem regSum_antitone (a b : List Nat) (h : RegsLe a b) : regSum b ≤ regSum a := by
  fun_induction RegsLe a b with
  | case1 => exact Nat.le_refl _
  | case2 x as y bs ih =>
    rw [regSum_cons, regSum_cons]
    have : 2 ^ (31 - y) ≤ 2 ^ (31 - x) := Nat.pow_le_pow_right (by decide) (by omega)
    have := ih h.2
    omega
  | case3 => exact h.elim

theorem zeros_antitone (a b : List Nat) (h : RegsLe a b) : zeros b ≤ zeros a := by
  fun_induction RegsLe a b with
  | case1 => exact Nat.le_refl _
  | case2 x as y bs ih =>
    have := ih h.2
    unfold zeros at *
    rw [List.count_cons, List.count_cons]
    have : (if y == 0 then 1 else 0) ≤ (if x == 0 then 1 else 0) := by
      by_cases hy : y = 0
      · simp [hy, show x = 0 by omega]
      · simp [hy]
    omega
  | case3 => exact h.elim

theorem RegsLe_snoc {xs ys : List Nat} {a b : Nat} (h : RegsLe xs ys) (hab : a ≤ b) :
    RegsLe (xs ++ [a]) (ys ++ [b]) := by
  fun_induction RegsLe xs ys with
  | case1 => exact ⟨hab, trivial⟩
  | case2 x as y bs ih => exact ⟨h.1, ih h.2⟩
  | case3 => exact h.elim

theorem RegsLe_map_range (f g : Nat → Nat) (n : Nat) (h : ∀ r, r < n → f r ≤ g r) :
    RegsLe ((List.range n).map f) ((List.range n).map g) := by
  induction n with
  | zero => trivial
  | succ n ih =>
    rw [List.range_succ, List.map_append, List.map_append]
    exact RegsLe_snoc (ih fun r hr => h r (by omega)) (h n (by omega))

/-- an offer never lowers a register -/
theorem regs_offer_le (p : Nat) (ws : Array Nat) (h : Nat) (hp : PrecOK p) (hw : WFState p ws)
    (hh : Hashed h) : RegsLe (regs p ws) (regs p (offerHashed p ws h).1) := by
  unfold regs
  apply RegsLe_map_range
  intro r _
  rw [regGet_offerHashed p ws h r hp hw hh]
  split <;> omega

def decQ (c : Nat × Nat) : Rat := (c.1 : Rat) / ((10 ^ c.2 : Nat) : Rat)

def mQ (p : Nat) : Rat := ((2 ^ p : Nat) : Rat)

/-- `getAlphaMM / m²`: the constants of the source (`HLL.consts`) as exact rationals -/
def alphaQ (p : Nat) : Rat :=
  if p = 4 then decQ consts.alpha4 else if p = 5 then decQ consts.alpha5
  else if p = 6 then decQ consts.alpha6
  else decQ consts.alphaInf / (1 + decQ consts.alphaCorr / mQ p)

/-- `alphaMM * (1 / registerSum)` with `registerSum = S / 2^31` -/
def rawQ (p S : Nat) : Rat := alphaQ p * mQ p * mQ p / ((S : Rat) / 2147483648)

def roundQ (x : Rat) : Nat := (x + 1 / 2).floor.toNat

/-- the exact specification of the formulas of `Cardinality`; `ln` is a parameter -/
def specEst (ln : Rat → Rat) : Est Rat :=
  { raw := rawQ
    small := fun e m => decide (e ≤ decQ consts.thresholdNum / decQ consts.thresholdDen * (m : Rat))
    linear := fun m V => roundQ ((m : Rat) * ln ((m : Rat) / (V : Rat)))
    round := roundQ }

theorem mQ_pos (p : Nat) : 0 < mQ p := Rat.natCast_pos.mpr (Nat.two_pow_pos p)

theorem rat_div_pos {a b : Rat} (ha : 0 < a) (hb : 0 < b) : 0 < a / b := by
  rw [Rat.div_def]; exact Rat.mul_pos ha (Rat.inv_pos.mpr hb)

theorem rat_div_antitone {A x y : Rat} (hA : 0 ≤ A) (hx : 0 < x) (hxy : x ≤ y) : A / y ≤ A / x := by
  have hy : 0 < y := by grind
  have hxy0 : 0 < x * y := Rat.mul_pos hx hy
  apply Rat.le_of_mul_le_mul_right (c := x * y) _ hxy0
  have e1 : A / y * (x * y) = A * x := by
    rw [Rat.mul_comm x y, ← Rat.mul_assoc, Rat.div_mul_cancel (Rat.ne_of_gt hy)]
  have e2 : A / x * (x * y) = A * y := by
    rw [← Rat.mul_assoc, Rat.div_mul_cancel (Rat.ne_of_gt hx)]
  rw [e1, e2]
  exact Rat.mul_le_mul_of_nonneg_left hxy hA

theorem alphaQ_bounds (p : Nat) : 0 < alphaQ p ∧ alphaQ p ≤ 1 := by
  unfold alphaQ
  split
  · decide +kernel
  · split
    · decide +kernel
    · split
      · decide +kernel
      · -- 0 < 0.7213 / (1 + 1.079/m) ≤ 0.7213 / 1 ≤ 1
        have h1 : 0 < decQ consts.alphaCorr / mQ p := rat_div_pos (by decide +kernel) (mQ_pos p)
        have h2 : (1 : Rat) ≤ 1 + decQ consts.alphaCorr / mQ p := by
          have := Rat.add_le_add_left (c := 1) |>.mpr (Rat.le_of_lt h1)
          rwa [Rat.add_zero] at this
        exact ⟨rat_div_pos (by decide +kernel) (by grind),
          Rat.le_trans (rat_div_antitone (A := decQ consts.alphaInf) (by decide +kernel) (by decide +kernel) h2)
            (by decide +kernel)⟩

theorem rawQ_antitone (p S S' : Nat) (h0 : 0 < S') (h : S' ≤ S) : rawQ p S ≤ rawQ p S' := by
  unfold rawQ
  have hA : 0 ≤ alphaQ p * mQ p * mQ p :=
    Rat.le_of_lt (Rat.mul_pos (Rat.mul_pos (alphaQ_bounds p).1 (mQ_pos p)) (mQ_pos p))
  have hx : 0 < (S' : Rat) / 2147483648 := rat_div_pos (Rat.natCast_pos.mpr h0) (by decide +kernel)
  have hxy : (S' : Rat) / 2147483648 ≤ (S : Rat) / 2147483648 := by
    rw [Rat.div_def, Rat.div_def]
    exact Rat.mul_le_mul_of_nonneg_right (Rat.natCast_le_natCast.mpr h) (by decide +kernel)
  exact rat_div_antitone hA hx hxy

theorem roundQ_monotone {a b : Rat} (h : a ≤ b) : roundQ a ≤ roundQ b := by
  unfold roundQ
  have := Rat.floor_monotone (Rat.add_le_add_right (c := 1 / 2) |>.mpr h)
  omega

theorem regs_ne_nil (p : Nat) (ws : Array Nat) : regs p ws ≠ [] := by
  intro h
  have := regs_length p ws
  rw [h] at this
  have : 0 < 2 ^ p := Nat.two_pow_pos p
  simp at *
  omega

/-- the small-range test is a threshold on the register sum: `raw ≤ 5/2·m` iff
    `alpha_p · m · 2^32 ≤ 5 · S` (so it is decided by integer data and the constants alone) -/
theorem small_iff_regsum (ln : Rat → Rat) (p S : Nat) (hS : 0 < S) :
    (specEst ln).small (rawQ p S) (2 ^ p) = true ↔ alphaQ p * mQ p * 4294967296 ≤ 5 * (S : Rat) := by
  show decide (rawQ p S ≤ decQ consts.thresholdNum / decQ consts.thresholdDen * mQ p) = true ↔ _
  have ht : decQ consts.thresholdNum / decQ consts.thresholdDen = 5 / 2 := by decide +kernel
  have hs : (0 : Rat) < (S : Rat) / 2147483648 := rat_div_pos (Rat.natCast_pos.mpr hS) (by decide +kernel)
  have hc : 0 < mQ p / 4294967296 := rat_div_pos (mQ_pos p) (by decide +kernel)
  unfold rawQ
  rw [decide_eq_true_eq, ht, ← Rat.not_lt, Rat.lt_div_iff hs, Rat.not_lt]
  -- `α·m·m ≤ 5/2·m·(S/2^31)` is the claimed inequality multiplied by `m/2^32`
  have e1 : alphaQ p * mQ p * mQ p = alphaQ p * mQ p * 4294967296 * (mQ p / 4294967296) := by grind
  have e2 : 5 / 2 * mQ p * ((S : Rat) / 2147483648) = 5 * (S : Rat) * (mQ p / 4294967296) := by grind
  rw [e1, e2]
  exact ⟨fun h => Rat.le_of_mul_le_mul_right h hc, fun h => Rat.mul_le_mul_of_nonneg_right h (Rat.le_of_lt hc)⟩

theorem regs_fresh (p : Nat) : regs p (fresh p) = List.replicate (2 ^ p) 0 :=
  regs_eq_replicate p _ 0 fun r _ => regGet_fresh p r

theorem regSum_replicate (n v : Nat) : regSum (List.replicate n v) = n * 2 ^ (31 - v) := by
  induction n with
  | zero => simp [regSum]
  | succ n ih => rw [List.replicate_succ, regSum_cons, ih]; rw [Nat.succ_mul]; omega

theorem zeros_replicate_zero (n : Nat) : zeros (List.replicate n 0) = n := by
  unfold zeros; simp

/-- the raw estimate of the empty counter is `alpha·m`, below the small-range threshold -/
theorem rawQ_fresh (p : Nat) : rawQ p (2 ^ p * 2147483648) = alphaQ p * mQ p := by
  unfold rawQ
  have hm := mQ_pos p
  have e : ((2 ^ p * 2147483648 : Nat) : Rat) / 2147483648 = mQ p := by
    rw [Rat.natCast_mul]
    exact Rat.mul_div_cancel (by decide +kernel)
  rw [e, Rat.mul_div_cancel (Rat.ne_of_gt hm)]

/-- **0 items ⇒ 0**: the empty counter takes the linear-counting branch with `V = m`, i.e.
    `m · ln 1`, which rounds to 0 when `ln 1 = 0` -/
theorem cardinality_fresh (ln : Rat → Rat) (hln : ln 1 = 0) (p : Nat) :
    cardBranch (specEst ln) p (regs p (fresh p)) = .linear (2 ^ p) (2 ^ p) ∧
    cardinality (specEst ln) p (fresh p) = 0 := by
  have hb : cardBranch (specEst ln) p (regs p (fresh p)) = .linear (2 ^ p) (2 ^ p) := by
    unfold cardBranch
    rw [regs_fresh, regSum_replicate, zeros_replicate_zero]
    have hs : (specEst ln).small ((specEst ln).raw p (2 ^ p * 2 ^ (31 - 0))) (2 ^ p) = true := by
      show decide (rawQ p (2 ^ p * 2 ^ (31 - 0)) ≤ _) = true
      simp only [Nat.sub_zero, Nat.reducePow, decide_eq_true_eq]
      rw [rawQ_fresh]
      have h1 : alphaQ p * mQ p ≤ 1 * mQ p :=
        Rat.mul_le_mul_of_nonneg_right (alphaQ_bounds p).2 (Rat.le_of_lt (mQ_pos p))
      have h2 : (1 : Rat) * mQ p ≤ decQ consts.thresholdNum / decQ consts.thresholdDen * mQ p :=
        Rat.mul_le_mul_of_nonneg_right (by decide +kernel) (Rat.le_of_lt (mQ_pos p))
      exact Rat.le_trans h1 h2
    have hz : (2 ^ p != 0) = true := by
      simp
    simp only [hs, hz, Bool.and_self, if_true]
  refine ⟨hb, ?_⟩
  unfold cardinality
  rw [hb]
  show roundQ (((2 ^ p : Nat) : Rat) * ln (((2 ^ p : Nat) : Rat) / ((2 ^ p : Nat) : Rat))) = 0
  have hm := mQ_pos p
  have : ((2 ^ p : Nat) : Rat) / ((2 ^ p : Nat) : Rat) = 1 := by
    rw [Rat.div_def]; exact Rat.mul_inv_cancel _ (Rat.ne_of_gt hm)
  rw [this, hln, Rat.mul_zero]
  decide +kernel

/-- **V = 0 ⇒ raw estimate** (fix-D30), for the exact specification -/
theorem cardinality_no_empty (ln : Rat → Rat) (p : Nat) (ws : Array Nat) (h : zeros (regs p ws) = 0) :
    cardinality (specEst ln) p ws = roundQ (rawQ p (regSum (regs p ws))) := by
  unfold cardinality
  rw [cardBranch_no_empty _ p _ h]
  rfl

end HLL
