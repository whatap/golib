/-
  Golib.HLL.Src — tie A for C14: the *source expressions* of util/hll as data.

  `Ex` is a small expression tree; `xlate/c14` regenerates one tree per function of
  /repo/util/hll from the Go source on every run (`Golib/Gen/C14.lean`), after normalising
  names (receiver, parameters by position, single-assignment locals inlined, constants
  replaced by their values).  This file holds

    * the trees the CodeModel was written from (`Src.get`, `Src.setVal`, `Src.updCond`, …) —
      `Golib/Props/C14Gen.lean` checks `Gen.C14.x = Src.x` for each of them;
    * an evaluator `Ex.eval` giving the integer fragment its Go meaning (fixed-width
      wrap-around arithmetic, shifts, bitwise operators);
    * bridge theorems: the evaluated source expression equals the arithmetic CodeModel
      (`HLL.wordGet`, `HLL.wordSet`, `HLL.wordUpd`, `HLL.wordCount`, `HLL.idx`, `HLL.rank`,
      `HLL.clz32`) for all inputs in range.

  Type tags: 0 untyped constant, 8/32/64 = uint8/uint32/uint64, 63 = int, 1 = float64, 2 = bool.
-/
import Golib.HLL.Model

namespace HLL.Src

inductive Op
  | add | sub | mul | div | mod | shl | shr | and | or | andnot | xor
  | lt | le | gt | ge | eq | ne | land | lor
deriving DecidableEq, Repr

inductive Ex
  | lit (n : Nat)
  | flit (mant dec : Nat)
  | tt | ff
  | arg (i : Nat)
  | loc (name : String)
  | glob (name : String)
  | recv (path : String)
  | fld (a : Ex) (name : String)
  | idx (a i : Ex)
  | bin (op : Op) (ty : Nat) (a b : Ex)
  | not (ty : Nat) (a : Ex)
  | conv (ty : Nat) (a : Ex)
  | call1 (f : String) (a : Ex)
  | call2 (f : String) (a b : Ex)
  | ite (c t e : Ex)
  | unknown (why : String)
deriving DecidableEq, Repr

/-! ### meaning of the integer fragment -/

/-- number of values of a type tag (0 = unbounded) -/
def card : Nat → Nat
  | 8 => 256
  | 32 => 4294967296
  | 63 => 18446744073709551616
  | 64 => 18446744073709551616
  | _ => 0

def trunc (ty x : Nat) : Nat := if card ty = 0 then x else x % card ty

def binop (op : Op) (ty a b : Nat) : Nat :=
  match op with
  | .add => trunc ty (a + b)
  | .sub => if b ≤ a then a - b else trunc ty (a + card ty - b)
  | .mul => trunc ty (a * b)
  | .div => a / b
  | .mod => a % b
  | .shl => trunc ty (a * 2 ^ b)
  | .shr => a / 2 ^ b
  | .and => a &&& b
  | .or => a ||| b
  | .xor => a ^^^ b
  | .andnot => a - (a &&& b)
  | .lt => (if a < b then 1 else 0)
  | .le => (if a ≤ b then 1 else 0)
  | .gt => (if b < a then 1 else 0)
  | .ge => (if b ≤ a then 1 else 0)
  | .eq => (if a = b then 1 else 0)
  | .ne => (if a ≠ b then 1 else 0)
  | .land => (if a ≠ 0 ∧ b ≠ 0 then 1 else 0)
  | .lor => (if a ≠ 0 ∨ b ≠ 0 then 1 else 0)

/-- environment: parameters, indexed tables (`M`, `clzLookup`), receiver fields, unary calls -/
structure Env where
  args : List Nat
  tab : String → Nat → Nat
  fldv : String → Nat
  fn1 : String → Nat → Nat
  locv : String → Nat

def tabName : Ex → String
  | .recv n => n
  | .glob n => n
  | .fld _ n => "that." ++ n
  | _ => ""

def Ex.eval (ρ : Env) : Ex → Nat
  | .lit n => n
  | .tt => 1
  | .ff => 0
  | .arg i => ρ.args.getD i 0
  | .recv p => ρ.fldv p
  | .loc n => ρ.locv n
  | .idx a i => ρ.tab (tabName a) (i.eval ρ)
  | .bin op ty a b => binop op ty (a.eval ρ) (b.eval ρ)
  | .not ty a => card ty - 1 - a.eval ρ
  | .conv ty a => trunc ty (a.eval ρ)
  | .call1 f a => ρ.fn1 f (a.eval ρ)
  | .ite c t e => if c.eval ρ ≠ 0 then t.eval ρ else e.eval ρ
  | _ => 0

/-! ### the source expressions (as in /repo/util/hll as committed; fix-D30 is commit a79bf01) -/

/-- `REGISTER_SIZE * (position - (bucketPos * LOG2_BITS_PER_WORD))` with `position int` (Get) -/
def shiftI : Ex :=
  .conv 32 (.bin .mul 63 (.lit 5) (.bin .sub 63 (.arg 0) (.bin .mul 63 (.bin .div 63 (.arg 0) (.lit 6)) (.lit 6))))

/-- the same with `position uint32` (Set, UpdateIfGreater) -/
def shiftU : Ex :=
  .conv 32 (.bin .mul 32 (.lit 5) (.bin .sub 32 (.arg 0) (.bin .mul 32 (.bin .div 32 (.arg 0) (.lit 6)) (.lit 6))))

def wordI : Ex := .idx (.recv "M") (.bin .div 63 (.arg 0) (.lit 6))
def wordU : Ex := .idx (.recv "M") (.bin .div 32 (.arg 0) (.lit 6))

/-- `RegisterSet.Get`: `(this.M[bucketPos] & (0x1f << uint32(shift))) >> uint32(shift)` -/
def get : Ex := .bin .shr 32 (.bin .and 32 wordI (.bin .shl 32 (.lit 31) shiftI)) shiftI

/-! `RegisterSet.Set`: `this.M[bucketPos] = (this.M[bucketPos] & ^(0x1f << uint32(shift)) | (value << uint32(shift)))` -/
def setIdx : Ex := .bin .div 32 (.arg 0) (.lit 6)
def setVal : Ex :=
  .bin .or 32 (.bin .and 32 wordU (.not 32 (.bin .shl 32 (.lit 31) shiftU))) (.bin .shl 32 (.arg 1) shiftU)

/-! `RegisterSet.UpdateIfGreater`: `mask := uint32(0x1f) << uint32(shift)`,
    `curVal := uint64(this.M[bucket] & mask)`, `newVal := uint64(value) << uint32(shift)`,
    `if curVal < newVal { this.M[bucket] = uint32(uint64(this.M[bucket] & ^mask) | newVal); return true } else { return false }` -/
def maskU : Ex := .bin .shl 32 (.conv 32 (.lit 31)) shiftU
def newValU : Ex := .bin .shl 64 (.conv 64 (.arg 1)) shiftU
def updCond : Ex := .bin .lt 64 (.conv 64 (.bin .and 32 wordU maskU)) newValU
def updIdx : Ex := .bin .div 32 (.arg 0) (.lit 6)
def updVal : Ex := .conv 32 (.bin .or 64 (.conv 64 (.bin .and 32 wordU (.not 32 maskU))) newValU)

/-! `RegisterSet.Merge`, inner loop: `mask := uint32(0x1f << uint32(REGISTER_SIZE * j))`,
    `thisVal := this.M[bucket] & mask`, `thatVal := that.M[bucket] & mask`,
    `if thisVal < thatVal { word |= thatVal } else { word |= thisVal }` -/
def mergeMask : Ex := .conv 32 (.bin .shl 0 (.lit 31) (.conv 32 (.bin .mul 63 (.lit 5) (.loc "l2"))))
def mergeThis : Ex := .bin .and 32 (.idx (.recv "M") (.loc "l0")) mergeMask
def mergeThat : Ex := .bin .and 32 (.idx (.fld (.arg 0) "M") (.loc "l0")) mergeMask
def mergeCond : Ex := .bin .lt 32 mergeThis mergeThat

/-! `getBits` / `getSizeForCount` -/
def getBits : Ex := .bin .div 63 (.arg 0) (.lit 6)
def sizeForCount : Ex :=
  .ite (.bin .eq 63 (.call1 "getBits" (.arg 0)) (.lit 0)) (.lit 1)
    (.ite (.bin .eq 63 (.bin .mod 63 (.call1 "getBits" (.arg 0)) (.lit 32)) (.lit 0))
      (.call1 "getBits" (.arg 0))
      (.bin .add 63 (.call1 "getBits" (.arg 0)) (.lit 1)))

/-! `clz32`: the comparison tree that selects `n`, then `clzLookup[x>>n] - n` -/
def pow2 (k : Nat) : Ex := .bin .shl 32 (.lit 1) (.lit k)
def clzN : Ex :=
  .ite (.bin .ge 32 (.arg 0) (pow2 16))
    (.ite (.bin .ge 32 (.arg 0) (pow2 24))
      (.ite (.bin .ge 32 (.arg 0) (pow2 28)) (.lit 28) (.lit 24))
      (.ite (.bin .ge 32 (.arg 0) (pow2 20)) (.lit 20) (.lit 16)))
    (.ite (.bin .ge 32 (.arg 0) (pow2 8))
      (.ite (.bin .ge 32 (.arg 0) (pow2 12)) (.lit 12) (.lit 8))
      (.ite (.bin .ge 32 (.arg 0) (pow2 4)) (.lit 4) (.lit 0)))
def clz32 : Ex := .bin .sub 8 (.idx (.glob "clzLookup") (.bin .shr 32 (.arg 0) clzN)) clzN

/-! `offerHashed`: `j := hashedValue >> (32 - this.log2m)`,
    `r := uint32(clz32((hashedValue<<this.log2m)|(1<<(this.log2m-1))+1) + 1)` -/
def offerIdx : Ex := .bin .shr 32 (.arg 0) (.bin .sub 32 (.lit 32) (.recv "log2m"))
def offerRank : Ex :=
  .conv 32 (.bin .add 8 (.call1 "clz32"
    (.bin .add 32 (.bin .or 32 (.bin .shl 32 (.arg 0) (.recv "log2m"))
      (.bin .shl 32 (.lit 1) (.bin .sub 32 (.recv "log2m") (.lit 1)))) (.lit 1))) (.lit 1))

/-! `Cardinality`: loop term, zero test, the final branch (`&& zeros != 0` is fix-D30, commit a79bf01) -/
def rawEstimate : Ex := .bin .mul 1 (.recv "alphaMM") (.bin .div 1 (.conv 1 (.lit 1)) (.loc "l0"))
def cardTerm : Ex :=
  .bin .add 1 (.loc "l0") (.bin .div 1 (.conv 1 (.flit 10 1))
    (.conv 1 (.bin .shl 63 (.conv 63 (.lit 1)) (.conv 64 (.call1 "registerSet.Get" (.loc "l2"))))))
def cardZeroTest : Ex :=
  .ite (.bin .eq 32 (.call1 "registerSet.Get" (.loc "l2")) (.lit 0)) (.bin .add 1 (.loc "l1") (.lit 1)) (.loc "l1")
def cardSmall : Ex :=
  .bin .le 1 rawEstimate
    (.bin .mul 1 (.bin .div 1 (.conv 1 (.flit 50 1)) (.conv 1 (.flit 20 1))) (.conv 1 (.recv "registerSet.Count")))
def cardCond : Ex := .bin .land 2 cardSmall (.bin .ne 1 (.loc "l1") (.lit 0))
/-- the condition before commit a79bf01 (no test of `zeros`) -/
def cardCondOrig : Ex := cardSmall
def cardThen : Ex := .conv 64 (.call1 "Round" (.call2 "linearCounting" (.recv "registerSet.Count") (.loc "l1")))
def cardElse : Ex := .conv 64 (.call1 "Round" rawEstimate)

def linearCounting : Ex :=
  .bin .mul 1 (.conv 1 (.arg 0)) (.call1 "math.Log" (.bin .div 1 (.conv 1 (.arg 0)) (.arg 1)))
def round : Ex :=
  .ite (.bin .lt 1 (.arg 0) (.lit 0)) (.conv 63 (.bin .sub 1 (.arg 0) (.flit 5 1)))
    (.conv 63 (.bin .add 1 (.arg 0) (.flit 5 1)))

/-! `getAlphaMM(p, m)` -/
def alphaSimple (c : Nat × Nat) : Ex :=
  .bin .mul 1 (.bin .mul 1 (.flit c.1 c.2) (.conv 1 (.arg 1))) (.conv 1 (.arg 1))
def alphaMM : Ex :=
  .ite (.bin .eq 32 (.arg 0) (.lit 4)) (alphaSimple consts.alpha4)
    (.ite (.bin .eq 32 (.arg 0) (.lit 5)) (alphaSimple consts.alpha5)
      (.ite (.bin .eq 32 (.arg 0) (.lit 6)) (alphaSimple consts.alpha6)
        (.bin .mul 1 (.bin .mul 1
          (.bin .div 1 (.flit consts.alphaInf.1 consts.alphaInf.2)
            (.bin .add 1 (.lit 1) (.bin .div 1 (.flit consts.alphaCorr.1 consts.alphaCorr.2) (.conv 1 (.arg 1)))))
          (.conv 1 (.arg 1))) (.conv 1 (.arg 1)))))

/-- statement skeletons (identifiers normalised by the translator) -/
def getBytesBody : List String :=
  ["v0 := io.NewDataOutputX()",
   "v0.WriteInt(int32(recv.log2m))",
   "v0.WriteInt(int32(recv.registerSet.Size))",
   "for _, v1 := range recv.registerSet.ReadOnlyBits() {; v0.WriteInt(int32(v1)); }",
   "return v0.ToByteArray()"]

def buildBody : List String :=
  ["v0 := io.NewDataInputX(p0)",
   "v1 := uint32(v0.ReadInt())",
   "v2 := v0.ReadInt()",
   "v3 := make([]uint32, v2)",
   "for v4 := 0; v4 < int(v2); v4++ {; v3[v4] = uint32(v0.ReadInt()); }",
   "return NewHyperLogLog(v1, NewRegisterSetInit(int(1<<v1), v3))"]

def mergeBody : List String :=
  ["v0 := NewHyperLogLog(recv.log2m, NewRegisterSet(recv.registerSet.Count))",
   "v0.AddAll(recv)",
   "if p0 == nil {; return v0; }",
   "for _, v1 := range p0 {; v2 := v1; v0.AddAll(v2); }",
   "return v0"]

def addAllBody : List String :=
  ["if recv.Sizeof() != p0.Sizeof() {; panic(\"AddAll Cannot merge estimators of different sizes\"); }",
   "recv.registerSet.Merge(p0.registerSet)"]

def newIntBody : List String :=
  ["v0 := NewHyperLogLog(p0, NewRegisterSet(1<<p0))",
   "return v0"]

def newRegisterSetInitBody : List String :=
  ["v0 := new(RegisterSet)",
   "v0.Count = p0",
   "if p1 == nil {; v0.M = make([]uint32, getSizeForCount(p0)); } else {; v0.M = p1; }",
   "v0.Size = len(v0.M)",
   "return v0"]

end HLL.Src
