/-
  Golib.HLL.Merge — `RegisterSet.Merge` / `HyperLogLog.AddAll` / `HyperLogLog.Merge`:
  register-wise maximum, hence exactly the state of the counter that saw the union.
-/
import Golib.HLL.State

namespace HLL

theorem merge_size (a b : Array Nat) : (merge a b).size = min a.size b.size :=
  (Array.size_zipWith : (Array.zipWith mergeWord a b).size = min a.size b.size)

theorem getD_zipWith (f : Nat → Nat → Nat) (hf : f 0 0 = 0) (a b : Array Nat)
    (hs : a.size = b.size) (i : Nat) :
    (Array.zipWith f a b).getD i 0 = f (a.getD i 0) (b.getD i 0) := by
  by_cases h : i < a.size
  · have h2 : i < b.size := by omega
    have h3 : i < (Array.zipWith f a b).size := by rw [Array.size_zipWith]; omega
    rw [← Array.getElem_eq_getD (h := h3), ← Array.getElem_eq_getD (h := h), ← Array.getElem_eq_getD (h := h2),
      Array.getElem_zipWith]
  · rw [getD_of_size_le (Array.zipWith f a b) _ _ (by rw [Array.size_zipWith]; omega),
      getD_of_size_le a _ _ (by omega), getD_of_size_le b _ _ (by omega), hf]

theorem getD_merge (a b : Array Nat) (hs : a.size = b.size) (i : Nat) :
    (merge a b).getD i 0 = mergeWord (a.getD i 0) (b.getD i 0) :=
  getD_zipWith mergeWord (mergeWord_zero_left 0 (by decide)) a b hs i

theorem regGet_merge (a b : Array Nat) (hs : a.size = b.size) (r : Nat) :
    regGet (merge a b) r = max (regGet a r) (regGet b r) := by
  unfold regGet
  rw [getD_merge a b hs, wordGet_mergeWord _ _ _ (Nat.mod_lt _ (by decide))]

theorem merge_canon (a b : Array Nat) (hs : a.size = b.size) : Canon (merge a b) := by
  intro i; rw [getD_merge a b hs]; exact mergeWord_lt30 _ _

theorem merge_wf (p : Nat) (a b : Array Nat) (ha : WFState p a) (hb : WFState p b) :
    WFState p (merge a b) :=
  ⟨by rw [merge_size, ha.size, hb.size, Nat.min_self], merge_canon a b (by rw [ha.size, hb.size])⟩

theorem merge_comm (a b : Array Nat) (hs : a.size = b.size) : merge a b = merge b a := by
  apply ext_getD _ _ (by rw [merge_size, merge_size, Nat.min_comm])
  intro i _
  rw [getD_merge a b hs, getD_merge b a hs.symm, mergeWord_comm]

theorem merge_assoc (a b c : Array Nat) (h1 : a.size = b.size) (h2 : b.size = c.size) :
    merge (merge a b) c = merge a (merge b c) := by
  have s1 : (merge a b).size = c.size := by rw [merge_size]; omega
  have s2 : a.size = (merge b c).size := by rw [merge_size]; omega
  apply ext_getD _ _ (by rw [merge_size, merge_size, merge_size, merge_size]; omega)
  intro i _
  rw [getD_merge _ c s1, getD_merge a b h1, getD_merge a _ s2, getD_merge b c h2, mergeWord_assoc]

theorem merge_idem (a : Array Nat) (ha : Canon a) : merge a a = a := by
  apply ext_getD _ _ (by rw [merge_size, Nat.min_self])
  intro i _
  rw [getD_merge a a rfl, mergeWord_idem _ (ha i)]

theorem merge_fresh_left (p : Nat) (a : Array Nat) (ha : WFState p a) : merge (fresh p) a = a := by
  have hs : (fresh p).size = a.size := by rw [(fresh_wf p).size, ha.size]
  apply ext_getD _ _ (by rw [merge_size]; omega)
  intro i _
  rw [getD_merge _ a hs, getD_fresh, mergeWord_zero_left _ (ha.canon i)]

/-- `AddAll(b)` on any well-formed counter = offering `b`'s items to it: both sides are well-formed
    with registers `max (regGet a r) (supRank p ys r)` -/
theorem merge_offerAll (p : Nat) (a : Array Nat) (ys : List Nat) (hp : PrecOK p)
    (ha : WFState p a) (hy : ∀ h ∈ ys, Hashed h) : merge a (stateOf p ys) = offerAll p a ys := by
  have wy := stateOf_wf p ys hp
  have wm := merge_wf p _ _ ha wy
  have wo := offerAll_wf p a ys hp ha
  apply state_ext _ _ (by rw [wm.size, wo.size]) wm.canon wo.canon
  intro r _
  rw [regGet_merge _ _ (by rw [ha.size, wy.size]), regGet_stateOf p ys r hp hy,
    regGet_offerAll p a ys r hp ha hy]

/-- **merge_is_union**: merging the counters that saw `xs` and `ys` gives exactly the counter
    that saw `xs ++ ys` -/
theorem merge_stateOf (p : Nat) (xs ys : List Nat) (hp : PrecOK p) (hy : ∀ h ∈ ys, Hashed h) :
    merge (stateOf p xs) (stateOf p ys) = stateOf p (xs ++ ys) := by
  rw [merge_offerAll p _ ys hp (stateOf_wf p xs hp) hy]
  unfold stateOf offerAll
  rw [List.foldl_append]

/-- `this.Merge(others…)` on any well-formed receiver = offering it everything the others saw -/
theorem mergeAll_eq_offerAll (p : Nat) (hp : PrecOK p) (a : Array Nat) (ha : WFState p a)
    (yss : List (List Nat)) (hy : ∀ ys ∈ yss, ∀ h ∈ ys, Hashed h) :
    mergeAll p a (yss.map (stateOf p)) = offerAll p a yss.flatten := by
  unfold mergeAll
  rw [List.foldl_cons, merge_fresh_left p a ha]
  induction yss generalizing a with
  | nil => rfl
  | cons ys yss ih =>
    rw [List.map_cons, List.foldl_cons, merge_offerAll p a ys hp ha (hy ys List.mem_cons_self),
      ih _ (offerAll_wf p a ys hp ha) fun zs hz => hy zs (List.mem_cons_of_mem _ hz),
      List.flatten_cons, offerAll, offerAll, offerAll, List.foldl_append]

end HLL
