/-
  Golib.HLL.Serial — `GetBytes` / `BuildHyperLogLog` round trip.
-/
import Golib.HLL.State

namespace HLL
open Prim

/-- **bytes_roundtrip**: rebuilding from `GetBytes()` gives back precision, word count and
    words, and consumes exactly the bytes produced -/
theorem run_build_getBytes (p : Nat) (ws : Array Nat) (r : Bytes) (hp : p ≤ 30)
    (hs : ws.size < 2147483648) (hw : ∀ w ∈ ws.toList, w < 4294967296) :
    P.run build (getBytes p ws ++ r) = some ((p, ws), r) := by
  unfold build getBytes
  rw [List.append_assoc, P.run_bind_some _ _ _ _ _ (run_rdU 4 p _ (by simp only [Nat.reducePow]; omega))]
  rw [List.append_assoc, P.run_bind_some _ _ _ _ _ (run_rdI 4 (ws.size : Int) _
      ((inRange_4 _).mpr (by omega)))]
  have hn : ¬ ((ws.size : Int) < 0) := by omega
  rw [if_neg hn, Int.toNat_natCast]
  have hlen : ws.size = ws.toList.length := by simp
  rw [hlen]
  rw [P.run_bind_some _ _ _ _ _ (run_decMany (beN 4) (rdU 4) (fun w => w < 4294967296)
      (fun x r hx => run_rdU 4 x r (by simp only [Nat.reducePow]; exact hx)) ws.toList r hw)]
  rw [if_neg (by omega)]
  simp

/-- a well-formed state meets the hypotheses of the round trip -/
theorem wf_words_lt (p : Nat) (ws : Array Nat) (hw : WFState p ws) : ∀ w ∈ ws.toList, w < 4294967296 := by
  intro w hm
  rw [Array.mem_toList_iff, Array.mem_iff_getElem] at hm
  obtain ⟨i, hi, rfl⟩ := hm
  have := hw.canon i
  rw [← Array.getElem_eq_getD (h := hi)] at this
  omega

theorem wordCount_lt (p : Nat) (hp : p ≤ 30) : wordCount (2 ^ p) < 2147483648 := by
  have h1 := wordCount_le (2 ^ p)
  have h2 : 2 ^ p ≤ 2 ^ 30 := Nat.pow_le_pow_right (by decide) hp
  omega

theorem run_build_getBytes_wf (p : Nat) (ws : Array Nat) (r : Bytes) (hp : PrecOK p) (hw : WFState p ws) :
    P.run build (getBytes p ws ++ r) = some ((p, ws), r) :=
  run_build_getBytes p ws r hp.hi (by rw [hw.size]; exact wordCount_lt p hp.hi) (wf_words_lt p ws hw)

/-- … hence equal bytes mean equal precision and equal words -/
theorem getBytes_injective (p q : Nat) (a b : Array Nat) (hp : PrecOK p) (hq : PrecOK q)
    (ha : WFState p a) (hb : WFState q b) (h : getBytes p a = getBytes q b) : p = q ∧ a = b := by
  have h1 := run_build_getBytes_wf p a [] hp ha
  rw [h, run_build_getBytes_wf q b [] hq hb] at h1
  simp only [Option.some.injEq, Prod.mk.injEq, and_true] at h1
  exact ⟨h1.1.symm, h1.2.symm⟩

end HLL
