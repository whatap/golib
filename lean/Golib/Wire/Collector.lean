/-
  Golib.Wire.Collector — a whole receiver ("a non-Go collector"): parse the frame, read the pack
  type, dispatch to the reference decoder of that pack, require that the payload is consumed exactly.

  `collect` is executable (the driver runs it on the frames the implementation produces); the theorems
  `C05.collector_decodes_*` state that it recovers project code, license hash, pack type and every
  field from what the reference encoder emits.
-/
import Golib.Wire.CounterCodec
import Golib.Wire.EventAttrs
import Golib.Value.WF

namespace Wire
open Prim Codec

inductive AnyPack where
  | tagcount (p : TagCount)
  | logsink (p : LogSink)
  | text (p : TextP)
  | param (p : Param)
  | event (e : Event)
  | zip (p : Zip)
  | hitmap (p : HitMap)
  | counter (p : Counter)
deriving Repr

structure Received where
  pcode : Int
  licHash : Int
  packType : Nat
  pack : AnyPack
deriving Repr

def mapDec (f : α → β) (d : Option (α × Bytes)) : Option (β × Bytes) :=
  match d with
  | none => none
  | some (x, r) => some (f x, r)

theorem mapDec_nil (f : α → β) {dec : Bytes → Option (α × Bytes)} {bs : Bytes} {x : α}
    (h : dec (bs ++ []) = some (x, [])) : mapDec f (dec bs) = some (f x, []) := by
  rw [List.append_nil] at h
  rw [h]; rfl

/-- decode the body of a pack of type `ty` -/
def decodeBody (ty : Nat) (body : Bytes) : Option (AnyPack × Bytes) :=
  if ty = typeTagCount then mapDec .tagcount ((tagCountC Value.WFV).dec body)
  else if ty = typeLogSink then mapDec .logsink ((logSinkC Value.WFV).dec body)
  else if ty = typeText then mapDec .text (textC.dec body)
  else if ty = typeParameter then mapDec .param ((paramC Value.WFV).dec body)
  else if ty = typeEvent then
    match eventWireC.dec body with
    | none => none
    | some (w, r) => match Event.ofWire w with
      | none => none
      | some e => some (.event e, r)
  else if ty = typeZip then mapDec .zip (zipC.dec body)
  else if ty = typeHitMap1 then mapDec .hitmap (hitMapC.dec body)
  else if ty = typeCounter1 then mapDec .counter ((counterC Value.WFV).dec body)
  else none

/-- the body must consume the payload exactly -/
def finish (pcode licHash : Int) (ty : Nat) (rest : Bytes) (d : Option (AnyPack × Bytes)) : Option (Received × Bytes) :=
  match d with
  | some (p, []) => some (⟨pcode, licHash, ty, p⟩, rest)
  | _ => none

/-- frame → payload → pack type → body (consumed exactly) -/
def collect (bs : Bytes) : Option (Received × Bytes) :=
  (P.run parseFrame bs).bind fun fr =>
    (P.run (rdU 2) fr.1.payload).bind fun tb =>
      finish fr.1.pcode fr.1.licHash tb.1 fr.2 (decodeBody tb.1 tb.2)

theorem collect_frame (pcode : Int) (license body r : Bytes) (ty : Nat) (p : AnyPack)
    (hty : ty < 65536) (hp : inRange 8 pcode) (hl : (payload ty body).length < 2147483648)
    (hb : decodeBody ty body = some (p, [])) :
    collect (frame pcode license (payload ty body) ++ r) = some (⟨pcode, hash64 license, ty, p⟩, r) := by
  have h2 : P.run (rdU 2) (payload ty body) = some (ty, body) := by
    have := run_rdU 2 ty body (by omega)
    simpa [payload] using this
  generalize hd : decodeBody ty body = d at hb
  subst hb
  show Option.bind (P.run parseFrame (frame pcode license (payload ty body) ++ r)) _ = _
  rw [run_parseFrame pcode license (payload ty body) r hp hl, Option.bind_some]
  show Option.bind (P.run (rdU 2) (payload ty body)) _ = _
  rw [h2, Option.bind_some]
  dsimp only
  rw [hd]
  rfl

end Wire
