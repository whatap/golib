/-
  Golib.Wire.Codec — encoder/decoder pairs and their combinators.

  A `Codec α` packages an encoder, a *reference decoder* and the set of values the field can
  carry (`wf`).  `Codec.RT c` says: decoding what was encoded gives the value back and leaves
  whatever follows untouched, that is `Reads c.dec (c.enc x) x` (Golib.Basic) for every `x` the field can
  carry; so the encoding is injective and prefix-free there.  Every combinator comes with the lemma
  that it preserves `RT`, so the decodability of a whole pack body follows from its shape.
-/
import Golib.Prim.Codec
import Golib.Value.Model
import Golib.Wire.Reference

namespace Wire
open Prim

structure Codec (α : Type) where
  enc : α → Bytes
  dec : Bytes → Option (α × Bytes)
  wf : α → Prop

namespace Codec

def RT (c : Codec α) : Prop := ∀ x r, c.wf x → c.dec (c.enc x ++ r) = some (x, r)

/-- a round trip is a `Reads` (Golib.Basic) of the encoding by the reference decoder -/
theorem RT.reads {c : Codec α} (h : c.RT) {x : α} (wx : c.wf x) : Reads c.dec (c.enc x) x := (h x · wx)

/-- a decodable encoding is injective on the values the fields can carry -/
theorem RT.injective {c : Codec α} (h : c.RT) (x y : α) (wx : c.wf x) (wy : c.wf y)
    (e : c.enc x = c.enc y) : x = y := ((h.reads wx).inj (h.reads wy) (r := []) (s := []) (by rw [e])).1

/-- … and prefix-free: no encoding is a proper prefix of another -/
theorem RT.prefix_free {c : Codec α} (h : c.RT) (x y : α) (r s : Bytes) (wx : c.wf x) (wy : c.wf y)
    (e : c.enc x ++ r = c.enc y ++ s) : x = y ∧ r = s := (h.reads wx).inj (h.reads wy) e

/-- a codec whose decoder is a program of the decoder monad -/
def ofP (enc : α → Bytes) (p : P α) (wf : α → Prop) : Codec α := ⟨enc, P.run p, wf⟩

def decimal : Codec Int := ofP encDecimal decDecimal (inRange 8)
def i16 : Codec Int := ofP (encI 2) (rdI 2) (inRange 2)
def i32 : Codec Int := ofP (encI 4) (rdI 4) (inRange 4)
def i64 : Codec Int := ofP (encI 8) (rdI 8) (inRange 8)
/-- a float as its 32-bit pattern -/
def f32 : Codec Nat := ofP (beN 4) (rdU 4) (fun n => n < 4294967296)
/-- one unsigned byte -/
def u8 : Codec Nat := ofP (fun n => [n % 256]) (rdU 1) (fun n => n < 256)
/-- an unsigned 16-bit count (written by truncation, read masked with 0xffff) -/
def u16 : Codec Int where
  enc := encI 2
  dec bs := match P.run (rdU 2) bs with | none => none | some (n, r) => some ((n : Int), r)
  wf v := 0 ≤ v ∧ v < 65536
/-- blob / text -/
def blob : Codec Bytes := ofP encBlob decBlob (fun bs => bs.length < 2147483648)

theorem decimal_RT : decimal.RT := fun v r h => run_decDecimal v r h
theorem i16_RT : i16.RT := fun v r h => run_rdI 2 v r h
theorem i32_RT : i32.RT := fun v r h => run_rdI 4 v r h
theorem i64_RT : i64.RT := fun v r h => run_rdI 8 v r h
theorem f32_RT : f32.RT := fun n r h => run_rdU 4 n r h
theorem u8_RT : u8.RT := by
  intro n r h
  show P.run (rdU 1) ([n % 256] ++ r) = some (n, r)
  have : [n % 256] = beN 1 n := by simp [beN]
  rw [this]; exact run_rdU 1 n r h
theorem u16_RT : u16.RT := by
  intro v r h
  have h' : 0 ≤ v ∧ v < 65536 := h
  simp only [u16]
  rw [encI_of_nonneg 2 v h'.1 (by omega), run_rdU 2 v.toNat r (by omega)]
  simp [Int.toNat_of_nonneg h'.1]
theorem blob_RT : blob.RT := fun bs r h => run_decBlob bs r h

def seq (a : Codec α) (b : Codec β) : Codec (α × β) where
  enc p := a.enc p.1 ++ b.enc p.2
  dec bs :=
    match a.dec bs with
    | none => none
    | some (x, r) =>
      match b.dec r with
      | none => none
      | some (y, r') => some ((x, y), r')
  wf p := a.wf p.1 ∧ b.wf p.2

theorem seq_wf (a : Codec α) (b : Codec β) (p : α × β) : (seq a b).wf p = (a.wf p.1 ∧ b.wf p.2) := rfl

theorem seq_RT {a : Codec α} {b : Codec β} (ha : a.RT) (hb : b.RT) : (a.seq b).RT := by
  intro p r h
  obtain ⟨x, y⟩ := p
  simp only [seq, List.append_assoc]
  rw [ha x _ h.1]
  simp only []
  rw [hb y _ h.2]

/-- fixed bytes (version bytes, reserved zero counts) -/
def lit (bs : Bytes) : Codec Unit where
  enc _ := bs
  dec inp := if inp.take bs.length = bs then some ((), inp.drop bs.length) else none
  wf _ := True

theorem lit_RT (bs : Bytes) : (lit bs).RT := by
  intro x r _
  simp [lit]

/-- change of representation -/
def iso (c : Codec α) (f : α → β) (g : β → α) : Codec β where
  enc b := c.enc (g b)
  dec bs := match c.dec bs with | none => none | some (a, r) => some (f a, r)
  wf b := c.wf (g b)

theorem iso_wf (c : Codec α) (f : α → β) (g : β → α) (b : β) : (iso c f g).wf b = c.wf (g b) := rfl

theorem iso_RT {c : Codec α} {f : α → β} {g : β → α} (hc : c.RT) (fg : ∀ b, f (g b) = b) :
    (c.iso f g).RT := by
  intro b r h
  simp only [iso]
  rw [hc (g b) r h]
  simp [fg]

/-- change of representation that is faithful only on part of the target type -/
def isoW (c : Codec α) (f : α → β) (g : β → α) (extra : β → Prop) : Codec β where
  enc b := c.enc (g b)
  dec bs := match c.dec bs with | none => none | some (a, r) => some (f a, r)
  wf b := c.wf (g b) ∧ extra b

theorem isoW_RT {c : Codec α} {f : α → β} {g : β → α} {extra : β → Prop} (hc : c.RT)
    (fg : ∀ b, extra b → f (g b) = b) : (c.isoW f g extra).RT := by
  intro b r h
  simp only [isoW]
  rw [hc (g b) r h.1]
  simp [fg b h.2]

def decList (dec : Bytes → Option (α × Bytes)) : Nat → List α → Bytes → Option (List α × Bytes)
  | 0, acc, bs => some (acc.reverse, bs)
  | n+1, acc, bs =>
    match dec bs with
    | none => none
    | some (x, r) => decList dec n (x :: acc) r

theorem decList_encMany (c : Codec α) (hc : c.RT) (xs acc : List α) (r : Bytes)
    (h : ∀ x ∈ xs, c.wf x) :
    decList c.dec xs.length acc (encMany c.enc xs ++ r) = some (acc.reverse ++ xs, r) := by
  induction xs generalizing acc with
  | nil => simp [decList, encMany]
  | cons x xs ih =>
    simp only [List.length_cons, decList, encMany, List.append_assoc]
    rw [hc x _ (h x (by simp))]
    simp only []
    rw [ih (x :: acc) (fun y hy => h y (by simp [hy]))]
    simp

/-- a count field followed by that many elements -/
def counted (cnt : Codec Nat) (e : Codec α) : Codec (List α) where
  enc xs := cnt.enc xs.length ++ encMany e.enc xs
  dec bs :=
    match cnt.dec bs with
    | none => none
    | some (n, r) => decList e.dec n [] r
  wf xs := cnt.wf xs.length ∧ ∀ x ∈ xs, e.wf x

theorem counted_RT {cnt : Codec Nat} {e : Codec α} (hn : cnt.RT) (he : e.RT) : (counted cnt e).RT := by
  intro xs r h
  simp only [counted, List.append_assoc]
  rw [hn xs.length _ h.1]
  simp only []
  rw [decList_encMany e he xs [] r h.2]
  simp

/-- exactly `n` elements, no count on the wire -/
def rep (n : Nat) (e : Codec α) : Codec (List α) where
  enc xs := encMany e.enc xs
  dec bs := decList e.dec n [] bs
  wf xs := xs.length = n ∧ ∀ x ∈ xs, e.wf x

theorem rep_RT {n : Nat} {e : Codec α} (he : e.RT) : (rep n e).RT := by
  intro xs r h
  simp only [rep]
  rw [← h.1, decList_encMany e he xs [] r h.2]
  simp

/-- a count written as a decimal -/
def decimalCount : Codec Nat where
  enc n := encDecimal n
  dec bs := match P.run decDecimal bs with
    | none => none
    | some (v, r) => if v < 0 then none else some (v.toNat, r)
  wf n := n < 9223372036854775808

theorem decimalCount_RT : decimalCount.RT := by
  intro n r h
  have h' : n < 9223372036854775808 := h
  simp only [decimalCount]
  rw [run_decDecimal (n : Int) r ((inRange_8 _).mpr (by omega))]
  have : ¬ ((n : Int) < 0) := by omega
  simp [this]

/-- a count written as one byte -/
def byteCount : Codec Nat := u8

/-- presence byte (0 / 1), then the section; the decoder takes every non-zero byte for "present", as CounterPack1
    does for db pool, netstat and websocket (`if din.ReadByte() != 0`); its `Extra` and LogSinkPack's `Fields` test
    `== 1` (`ReadBool`), so there the decoder accepts more than the Go reader (the writers emit 0 / 1 only) -/
def opt (e : Codec α) : Codec (Option α) where
  enc := encOption 1 e.enc
  dec bs :=
    match bs with
    | [] => none
    | 0 :: r => some (none, r)
    | _ :: r => match e.dec r with | none => none | some (x, r') => some (some x, r')
  wf
    | none => True
    | some x => e.wf x

theorem opt_RT {e : Codec α} (he : e.RT) : (opt e).RT := by
  intro x r h
  cases x with
  | none => simp [opt, encOption]
  | some x =>
    simp only [opt, encOption, List.cons_append]
    rw [he x r h]

/-- a section introduced by a format-version byte `ver ≠ 0`; absent = the single byte 0.  The decoder accepts the
    version the writer emits and no other (the Go readers also read the layouts of older versions) -/
def versioned (ver : Nat) (e : Codec α) : Codec (Option α) where
  enc := encOption ver e.enc
  dec bs :=
    match bs with
    | [] => none
    | b :: r =>
      if b = 0 then some (none, r)
      else if b = ver then match e.dec r with | none => none | some (x, r') => some (some x, r')
      else none
  wf
    | none => True
    | some x => ver ≠ 0 ∧ e.wf x

theorem versioned_RT {ver : Nat} {e : Codec α} (he : e.RT) : (versioned ver e).RT := by
  intro x r h
  cases x with
  | none => simp [versioned, encOption]
  | some x =>
    simp only [versioned, encOption, List.cons_append]
    rw [if_neg h.1]
    simp only [if_true, he x r h.2]

/-- a sub-stream carried inside a blob; the inner decoder must consume the blob exactly -/
def wrapBlob (e : Codec α) : Codec α where
  enc x := encBlob (e.enc x)
  dec bs :=
    match P.run decBlob bs with
    | none => none
    | some (inner, r) =>
      match e.dec inner with
      | some (x, []) => some (x, r)
      | _ => none
  wf x := e.wf x ∧ (e.enc x).length < 2147483648

theorem wrapBlob_RT {e : Codec α} (he : e.RT) : (wrapBlob e).RT := by
  intro x r h
  simp only [wrapBlob]
  rw [run_decBlob _ r h.2]
  simp only [(he.reads h.1).nil]

/-! ### tagged values (the value codec is C02's; its round trip is a parameter) -/

/-- what C05 needs from the tagged value codec: a class of values that round-trips -/
structure VOK where
  wf : Value → Prop
  rt : ∀ v r, wf v → Value.decode (Value.encV v ++ r) = some (v, r)

def value (wfv : Value → Prop) : Codec Value := ⟨Value.encV, Value.decode, wfv⟩

theorem value_RT (V : VOK) : (value V.wf).RT := V.rt

/-- a string-keyed map value (tag 80) -/
def smap (wfv : Value → Prop) : Codec (List (Bytes × Value)) where
  enc kvs := Value.encV (.map kvs)
  dec bs := match Value.decode bs with
    | some (.map kvs, r) => some (kvs, r)
    | _ => none
  wf kvs := wfv (.map kvs)

theorem smap_RT (V : VOK) : (smap V.wf).RT := by
  intro kvs r h
  simp only [smap]
  rw [V.rt _ r h]

/-- an int-keyed map value (tag 81) -/
def imap (wfv : Value → Prop) : Codec (List (Int × Value)) where
  enc kvs := Value.encV (.imap kvs)
  dec bs := match Value.decode bs with
    | some (.imap kvs, r) => some (kvs, r)
    | _ => none
  wf kvs := wfv (.imap kvs)

theorem imap_RT (V : VOK) : (imap V.wf).RT := by
  intro kvs r h
  simp only [imap]
  rw [V.rt _ r h]

end Codec
end Wire
