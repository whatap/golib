/-
  Queue mode of the one-way client, at the level of pack VALUES (C05: "for all … times and all field values",
  whatever the route the pack takes to the wire).

  In queue mode `Send` / `SendFlush` do not build the frame: they put a POINTER to the caller's pack object and
  the per-send options on the client's queue; the frame is built later — by the background goroutine
  (`process`) or by `SendAndClear` — from whatever the object holds THEN, with the client's license of THEN.

    Client   the implementation's shape: heap of pack objects, queue of (pointer, per-send license)
    Spec     what the property asks for: the queue holds the VALUE handed to Send

  `refines`: for every history in which the application does not mutate an object while it is queued, the two
  put the same frames on the wire — provided the route itself leaves the object alone between Send and the
  encoding (`step … (.send …)` changes nothing but the queue: that is the clause the tie checks on the Go code)
  and re-encoding after a send gives the same bytes (`enc l (after s) = enc l s`, the frame conditions of C05).
  It is read off `run_erase`: the client's whole state is the specification's with the snapshots forgotten
  (`Spec.erase`), as long as every queued snapshot encodes like its object (`Current`).
-/
import Golib.Basic

namespace Wire.Queue

/-- the license in effect: the per-send one if non-empty, else the client's -/
def eff (perSend client : Bytes) : Bytes := if perSend ≠ [] then perSend else client

def upd {σ : Type} (h : Nat → σ) (r : Nat) (v : σ) : Nat → σ := fun x => if x = r then v else h x

/-- what the application and the client's goroutine do -/
inductive Op (σ : Type) where
  | mutate (ref : Nat) (f : σ → σ)      -- the application changes one of its objects
  | send (ref : Nat) (lic : Bytes)       -- Send / SendFlush in queue mode
  | drain                                 -- process() / SendAndClear take the oldest item and write its frame
  | setLicense (l : Bytes)               -- the client's license changes (field / ApplyConfig)

structure Item where
  ref : Nat
  lic : Bytes

/-- the implementation's shape: pointers on the queue -/
structure Client (σ : Type) where
  license : Bytes
  heap : Nat → σ
  queue : List Item
  wireRev : List Bytes          -- frames written, newest first

def Client.wire {σ : Type} (c : Client σ) : List Bytes := c.wireRev.reverse

section
variable {σ : Type} (enc : Bytes → σ → Bytes) (after : σ → σ)

def step (c : Client σ) : Op σ → Client σ
  | .mutate r f => { c with heap := upd c.heap r (f (c.heap r)) }
  | .send r l => { c with queue := c.queue ++ [⟨r, l⟩] }
  | .drain =>
    match c.queue with
    | [] => c
    | it :: q => { c with queue := q, wireRev := enc (eff it.lic c.license) (c.heap it.ref) :: c.wireRev,
                          heap := upd c.heap it.ref (after (c.heap it.ref)) }
  | .setLicense l => { c with license := l }

def run (ops : List (Op σ)) (c : Client σ) : Client σ := ops.foldl (step enc after) c

/-- the specification: the queue holds the value handed to Send -/
structure SItem (σ : Type) where
  ref : Nat
  lic : Bytes
  snap : σ

structure Spec (σ : Type) where
  license : Bytes
  heap : Nat → σ
  queue : List (SItem σ)
  wireRev : List Bytes

def Spec.wire {σ : Type} (c : Spec σ) : List Bytes := c.wireRev.reverse

def sstep (c : Spec σ) : Op σ → Spec σ
  | .mutate r f => { c with heap := upd c.heap r (f (c.heap r)) }
  | .send r l => { c with queue := c.queue ++ [⟨r, l, c.heap r⟩] }
  | .drain =>
    match c.queue with
    | [] => c
    | it :: q => { c with queue := q, wireRev := enc (eff it.lic c.license) it.snap :: c.wireRev,
                          heap := upd c.heap it.ref (after (c.heap it.ref)) }
  | .setLicense l => { c with license := l }

def srun (ops : List (Op σ)) (c : Spec σ) : Spec σ := ops.foldl (sstep enc after) c

/-- the application's discipline: an object is not mutated while a pointer to it is on the queue -/
def okOp (c : Client σ) : Op σ → Prop
  | .mutate r _ => ∀ it ∈ c.queue, it.ref ≠ r
  | _ => True

def Disciplined : List (Op σ) → Client σ → Prop
  | [], _ => True
  | op :: ops, c => okOp c op ∧ Disciplined ops (step enc after c op)

/-- a client that has sent nothing yet -/
def Client.fresh (license : Bytes) (heap : Nat → σ) : Client σ := ⟨license, heap, [], []⟩
def Spec.fresh (license : Bytes) (heap : Nat → σ) : Spec σ := ⟨license, heap, [], []⟩

/-- the implementation's state that a specification state stands for: the snapshots forgotten -/
def Spec.erase (s : Spec σ) : Client σ := ⟨s.license, s.heap, s.queue.map (fun it => ⟨it.ref, it.lic⟩), s.wireRev⟩

/-- every queued snapshot still encodes like the object it was taken of -/
def Current (s : Spec σ) : Prop := ∀ it ∈ s.queue, ∀ l, enc l (s.heap it.ref) = enc l it.snap

/-- the wire sees a snapshot only through `enc`: a drain writes the same frame from the object as from its snapshot -/
theorem step_erase (s : Spec σ) (op : Op σ) (hs : Current enc s) :
    step enc after s.erase op = (sstep enc after s op).erase := by
  obtain ⟨lic, heap, queue, wire⟩ := s
  cases op with
  | drain =>
    cases queue with
    | nil => rfl
    | cons it q =>
      show Client.mk _ _ _ (enc _ (heap it.ref) :: wire) = Client.mk _ _ _ (enc _ it.snap :: wire)
      rw [hs it List.mem_cons_self]; rfl
  | send r l => simp [step, sstep, Spec.erase]
  | _ => rfl

/-- a snapshot stays current: a queued object is not mutated, and what a send does to it (`after`) does not show
    in its encoding -/
theorem current_step (h1 : ∀ l s, enc l (after s) = enc l s) (s : Spec σ) (op : Op σ)
    (hs : Current enc s) (hok : okOp s.erase op) : Current enc (sstep enc after s op) := by
  obtain ⟨lic, heap, queue, wire⟩ := s
  cases op with
  | mutate r f =>
    intro it hit l
    have hne : it.ref ≠ r := hok ⟨it.ref, it.lic⟩ (List.mem_map.mpr ⟨it, hit, rfl⟩)
    simpa [sstep, upd, hne] using hs it hit l
  | send r l =>
    intro it hit l'
    rcases List.mem_append.mp hit with hit | hit
    · exact hs it hit l'
    · cases List.mem_singleton.mp hit; rfl
  | setLicense l => exact hs
  | drain =>
    cases queue with
    | nil => exact hs
    | cons it q =>
      intro it' hit' l
      have := hs it' (List.mem_cons_of_mem _ hit') l
      show enc l (upd heap it.ref (after (heap it.ref)) it'.ref) = _
      by_cases e : it'.ref = it.ref
      · rw [upd, if_pos e, h1, ← e]; exact this
      · rw [upd, if_neg e]; exact this

/-- the implementation's whole state is the specification's with the snapshots forgotten -/
theorem run_erase (h1 : ∀ l s, enc l (after s) = enc l s) (ops : List (Op σ)) (s : Spec σ)
    (hs : Current enc s) (hd : Disciplined enc after ops s.erase) :
    run enc after ops s.erase = (srun enc after ops s).erase := by
  induction ops generalizing s with
  | nil => rfl
  | cons op ops ih =>
    have e := step_erase enc after s op hs
    exact (congrArg (run enc after ops) e).trans
      (ih _ (current_step enc after h1 s op hs hd.1) (e ▸ hd.2))

theorem refines (h1 : ∀ l s, enc l (after s) = enc l s) (ops : List (Op σ)) (license : Bytes) (heap : Nat → σ)
    (hd : Disciplined enc after ops (Client.fresh license heap)) :
    (run enc after ops (Client.fresh license heap)).wire = (srun enc after ops (Spec.fresh license heap)).wire ∧
    (run enc after ops (Client.fresh license heap)).heap = (srun enc after ops (Spec.fresh license heap)).heap := by
  have := run_erase enc after h1 ops (Spec.fresh license heap) (fun _ h => nomatch h) hd
  exact ⟨congrArg Client.wire this, congrArg Client.heap this⟩

/-! the specification, spelled out for a batch: `k` sends, then `k` drains -/

theorem srun_sends (s : Spec σ) (xs : List (Nat × Bytes)) :
    srun enc after (xs.map (fun x => Op.send x.1 x.2)) s =
      { s with queue := s.queue ++ xs.map (fun x => ⟨x.1, x.2, s.heap x.1⟩) } := by
  induction xs generalizing s with
  | nil => simp [srun]
  | cons x xs ih =>
    have := ih (sstep enc after s (.send x.1 x.2))
    simp only [srun, List.map_cons, List.foldl_cons] at this ⊢
    rw [this]
    simp [sstep, List.append_assoc]

theorem srun_drains (s : Spec σ) (n : Nat) (hn : n = s.queue.length) :
    (srun enc after (List.replicate n .drain) s).wireRev =
      (s.queue.map (fun it => enc (eff it.lic s.license) it.snap)).reverse ++ s.wireRev ∧
    (srun enc after (List.replicate n .drain) s).queue = [] ∧
    (srun enc after (List.replicate n .drain) s).license = s.license := by
  induction n generalizing s with
  | zero =>
    have : s.queue = [] := List.length_eq_zero_iff.mp hn.symm
    simp [srun, this]
  | succ n ih =>
    cases hq : s.queue with
    | nil => rw [hq] at hn; simp at hn
    | cons it q =>
      have e : sstep enc after s .drain =
          { s with queue := q, wireRev := enc (eff it.lic s.license) it.snap :: s.wireRev,
                   heap := upd s.heap it.ref (after (s.heap it.ref)) } := by simp [sstep, hq]
      have hlen : n = (sstep enc after s .drain).queue.length := by rw [e]; rw [hq] at hn; simpa using hn
      have := ih (sstep enc after s .drain) hlen
      simp only [srun, List.replicate_succ, List.foldl_cons] at this ⊢
      rw [this.1, this.2.1, this.2.2, e]
      simp

/-- **a batch in queue mode** (what the harness stage does): the application hands `xs` to Send (object, per-send
    license), then the queue is drained: the frames on the wire are, in the order of the Send calls, the encodings
    of the values the objects had AT Send, under the license in effect — and nothing else. -/
theorem batch (h1 : ∀ l s, enc l (after s) = enc l s) (license : Bytes) (heap : Nat → σ) (xs : List (Nat × Bytes)) :
    (run enc after (xs.map (fun x => Op.send x.1 x.2) ++ List.replicate xs.length .drain) (Client.fresh license heap)).wire
      = xs.map (fun x => enc (eff x.2 license) (heap x.1)) := by
  have hd : Disciplined enc after (xs.map (fun x => Op.send x.1 x.2) ++ List.replicate xs.length .drain)
      (Client.fresh license heap) := by
    generalize Client.fresh license heap = c
    generalize hk : xs.length = k
    clear hk
    induction xs generalizing c with
    | nil =>
      induction k generalizing c with
      | zero => trivial
      | succ k ih => exact ⟨trivial, ih _⟩
    | cons x xs ih => exact ⟨trivial, ih _⟩
  rw [(refines enc after h1 _ license heap hd).1]
  simp only [Spec.wire, srun, List.foldl_append]
  have e := srun_sends enc after (Spec.fresh license heap) xs
  simp only [srun] at e
  rw [e]
  have d := srun_drains enc after
    ({ Spec.fresh license heap with queue := (Spec.fresh license heap).queue ++ xs.map (fun x => ⟨x.1, x.2, (Spec.fresh license heap).heap x.1⟩) } : Spec σ)
    xs.length (by simp [Spec.fresh])
  simp only [srun] at d
  rw [d.1]
  simp [Spec.fresh, List.map_map, Function.comp_def]

end

end Wire.Queue
