/-
  Golib.Wire.Steps — a meaning for the write steps that xlate/c05 transcribes from the Go `Write`
  methods (tie A of C05).

  A step is a statement of a Go function that puts bytes on a stream; if / for statements carry their
  bodies (nested steps).  `run` gives a step list its bytes relative to a semantics `Sem`: what each
  written Go expression holds (`env`), the truth of each condition (`cond`), the elements a loop visits
  (`coll`: per element, the meaning of the expressions of the loop body), what a helper call
  contributes (`call`).  The obligations `…_is_reference` in Golib/Props/C05Gen.lean state, for all field
  values, that the regenerated step list of a function means exactly the reference encoder.
-/
import Golib.Wire.Counter

namespace Wire
open Prim

inductive Step where
  | w (method arg : String)          -- stream.M(arg), pkg.M(stream, arg), arg.ToBytes(stream): main stream
  | side (method arg : String)       -- the same on a side buffer (contributes nothing to the main stream)
  | lit (method : String) (v : Nat)  -- stream.M(<literal>)
  | hdr                              -- this.AbstractPack.Write(stream)
  | arr8 (arg : String)              -- this.writeShortArray(stream, arg)
  | call (name : String)             -- this.name(stream)
  | put (key value : String)         -- this.Attr.Put(key, value): no bytes, changes the attribute map
  | ite (cond : String) (t e : List Step)
  | loop (name : String) (body : List Step)
  | wrapHeader (args : List String)  -- stream.WriteHeader(args): wraps what the stream holds
  | blobWrap                         -- out.WriteBlob(side.ToByteArray())
  -- `interp` gives `wrapHeader` and `blobWrap` `poison`: they act on what was written before them, so the obligations take
  -- them off the step list and state their effect (`C05Gen.makeDataMeaning`, `counter_writer_is_reference`)
  | other (text : String)
deriving Repr

/-- what a written Go expression holds -/
inductive FV where
  | i (v : Int)
  | n (v : Nat)
  | b (bs : Bytes)                         -- a string / byte slice written with its own length prefix
  | raw (bs : Bytes)                       -- bytes copied as they are
  | is (xs : List Int)
  | m (kvs : List (Bytes × Value))
  | im (kvs : List (Int × Value))
  | ii (kvs : List (Int × Int))
  | v (x : Value)
  | none

/-- bytes that no encoder produces at a field position: an unknown method / expression / section makes
    the obligation fail instead of being skipped -/
def poison : Bytes := [999999]

/-- the stream method applied to a value -/
def wr (method : String) (x : FV) : Bytes :=
  match method, x with
  | "WriteDecimal", .i v => encDecimal v
  | "WriteInt", .i v => encI 4 v
  | "WriteLong", .i v => encI 8 v
  | "WriteShort", .i v => encI 2 v
  | "WriteFloat", .n b => beN 4 b
  | "WriteByte", .n b => [b % 256]
  | "WriteText", .b s => encText s
  | "WriteBlob", .b s => encBlob s
  | "WriteBytes", .raw s => s
  | "Write", .raw s => s                   -- pack.Write(stream): the pack's own bytes
  | "WriteIntBytes", .raw s => encI 4 s.length ++ s
  | "WriteValue", .m kvs => encMap kvs
  | "WriteMapValue", .m kvs => encMap kvs
  | "WriteValue", .im kvs => encIntMap kvs
  | "WriteValue", .v x => Value.encV x
  | "ToBytes", .ii kvs => encCounted encIntIntEntry kvs
  | _, _ => poison

def wrLit (method : String) (v : Nat) : Bytes :=
  match method with
  | "WriteByte" => [v % 256]
  | "WriteBool" => [v % 256]
  | "WriteDecimal" => encDecimal v
  | "WriteInt" => encI 4 v
  | _ => poison

structure Sem where
  hdr : Bytes
  env : String → FV
  cond : String → Bool
  coll : String → List (String → FV)
  call : String → Bytes

/-- inside a loop body the expressions of the element come first -/
def Sem.withElem (S : Sem) (el : String → FV) : Sem :=
  { S with env := fun a => match el a with | .none => S.env a | x => x }

mutual
def interp (S : Sem) : Step → Bytes
  | .w m a => wr m (S.env a)
  | .side _ _ => []
  | .lit m v => wrLit m v
  | .hdr => S.hdr
  | .arr8 a => match S.env a with | .is xs => encShorts8 xs | _ => poison
  | .call n => S.call n
  | .put _ _ => []
  | .ite c t e => if S.cond c then run S t else run S e
  | .loop n body => (S.coll n).flatMap (fun el => run (S.withElem el) body)
  | .wrapHeader _ => poison
  | .blobWrap => poison
  | .other _ => poison
def run (S : Sem) : List Step → Bytes
  | [] => []
  | s :: rest => interp S s ++ run S rest
end

mutual
/-- what a statement writes to the side buffer (`.side` steps; branches by their condition) -/
def sideI (S : Sem) : Step → Bytes
  | .side m a => wr m (S.env a)
  | .ite c t e => if S.cond c then sideOf S t else sideOf S e
  | _ => []
def sideOf (S : Sem) : List Step → Bytes
  | [] => []
  | s :: rest => sideI S s ++ sideOf S rest
end

theorem run_append (S : Sem) (a b : List Step) : run S (a ++ b) = run S a ++ run S b := by
  induction a with
  | nil => simp [run]
  | cons s a ih => simp [run, ih]

/-- the `Attr.Put` statements of a step list, in execution order.  A `Put` in a shape not listed here is
    passed over; the obligations compare the resulting list or map with the reference's
    (`C05Gen.event_puts_are_reference`, `event_put_keys`), where a missing `Put` shows. -/
def putsOf (S : Sem) : List Step → List (String × String)
  | [] => []
  | .put k v :: rest => (k, v) :: putsOf S rest
  | .ite c [.put k v] [] :: rest => (if S.cond c then [(k, v)] else []) ++ putsOf S rest
  | .ite c [.put k v] [.put k' v'] :: rest => (if S.cond c then (k, v) else (k', v')) :: putsOf S rest
  | _ :: rest => putsOf S rest

/-- `stream.WriteHeader(src, ver, pcode, hash)`: the stream's content `t` becomes
    src, ver, be8 pcode, be8 hash, be4 |t|, t -/
def wrapHeader (src ver : Nat) (pcode hash : Int) (t : Bytes) : Bytes :=
  [src % 256] ++ ([ver % 256] ++ (encI 8 pcode ++ (encI 8 hash ++ (encI 4 t.length ++ t))))

theorem interp_ite (S : Sem) (c : String) (t e : List Step) :
    interp S (.ite c t e) = if S.cond c then run S t else run S e := by
  simp only [interp]

/-- a test whose two branches write the same bytes -/
theorem interp_ite_same {S : Sem} {c : String} {t e : List Step} (h : run S t = run S e) :
    interp S (.ite c t e) = run S e := by
  rw [interp_ite, h, ite_self]

/-- a loop whose collection is `xs` seen through `el`, and whose body writes `f x` for the element `x`,
    writes the elements one after the other -/
theorem interp_loop {α : Type} {S : Sem} {n : String} {body : List Step} (xs : List α) (el : α → String → FV)
    (f : α → Bytes) (hc : S.coll n = xs.map el) (hb : ∀ x, run (S.withElem (el x)) body = f x) :
    interp S (.loop n body) = encMany f xs := by
  simp only [interp, hc, List.flatMap_map, hb, encMany_eq_flatMap]

/-- an optional section as one statement: the `then` branch writes the byte 0, the `else` branch the presence byte
    and the section -/
theorem interp_opt {α : Type} {S : Sem} {c : String} {t e : List Step} {v : Nat} (o : Option α) (f : α → Bytes)
    (hc : S.cond c = o.isNone) (ht : run S t = [0]) (he : ∀ x, o = some x → run S e = v :: f x) :
    interp S (.ite c t e) = encOption v f o := by
  rw [interp_ite, hc]
  cases o with
  | none => exact ht
  | some x => exact he x rfl

/-- a reference body that is a `List.flatten` of chunks is met chunk by chunk: the first step writes the first
    chunk, the remaining steps the remaining chunks -/
theorem run_chunk {S : Sem} {s : Step} {ss : List Step} {c : Bytes} {cs : List Bytes}
    (h : interp S s = c) (t : run S ss = cs.flatten) : run S (s :: ss) = (c :: cs).flatten := by
  rw [run, h, t, List.flatten_cons]

/-- … or the first two steps together write the first chunk (a count written by one statement, its elements by
    the loop that follows) -/
theorem run_chunk₂ {S : Sem} {s s' : Step} {ss : List Step} {c : Bytes} {cs : List Bytes}
    (h : interp S s ++ interp S s' = c) (t : run S ss = cs.flatten) : run S (s :: s' :: ss) = (c :: cs).flatten := by
  rw [run, run, ← List.append_assoc, h, t, List.flatten_cons]

/-- a meter helper of the counter pack: byte 0 when the map is nil, else the version byte 9, the count and
    the entries -/
theorem run_meter {α : Type} {S : Sem} {cnil size loopn : String} {body : List Step} (o : Option (List α))
    (el : α → String → FV) (f : α → Bytes) (hc : S.cond cnil = o.isNone)
    (hs : S.env size = .i (o.getD []).length) (hl : S.coll loopn = (o.getD []).map el)
    (hb : ∀ x, run (S.withElem (el x)) body = f x) :
    run S [.ite cnil [.lit "WriteDecimal" 0] [.lit "WriteByte" 9, .w "WriteDecimal" size, .loop loopn body]]
      = encOption 9 (encCounted f) o := by
  simp only [run, interp_ite, List.append_nil, interp_loop _ el f hl hb, hc]
  simp only [interp, hs]
  cases o <;> rfl

end Wire
