/-
  Golib.Wire.EventAttrs — what a receiver does with the attributes of an event pack, and the proof
  that it gets uuid, escalation, status and object type back.

  The event pack has no wire fields for these four; they travel as attributes under reserved keys
  (`_uuid_`, `_esca_`, `_status_`, `_otype_`; status and object type as decimal text).  A receiver
  looks the keys up, parses the two numbers and removes the reserved keys from the attribute map.
-/
import Golib.Wire.Reference

namespace Wire

def digitStep (acc : Option Nat) (d : Nat) : Option Nat :=
  acc.bind (fun a => if 48 ≤ d ∧ d ≤ 57 then some (a * 10 + (d - 48)) else none)

/-- value of a non-empty string of ASCII digits -/
def digitsVal (ds : List Nat) : Option Nat := if ds = [] then none else ds.foldl digitStep (some 0)

/-- `strconv.Atoi` on the texts the writer produces: optional minus sign, then digits -/
def parseDecText : Bytes → Option Int
  | 45 :: ds => (digitsVal ds).map (fun n => -(n : Int))
  | ds => (digitsVal ds).map (fun n => (n : Int))

theorem natDigits_ne_nil (f n : Nat) : natDigits f n ≠ [] := by
  fun_cases natDigits f n <;> simp

theorem natDigits_val (f n : Nat) (h : n ≤ f) : (natDigits f n).foldl digitStep (some 0) = some n := by
  fun_induction natDigits f n with
  | case1 n => simp [digitStep, show n = 0 by omega]
  | case2 f n hlt =>
    simp only [List.foldl_cons, List.foldl_nil, digitStep, Option.bind_some]
    rw [if_pos (by omega)]
    congr 1; omega
  | case3 f n hge ih =>
    rw [List.foldl_append, ih (by omega)]
    simp only [List.foldl_cons, List.foldl_nil, digitStep, Option.bind_some]
    rw [if_pos (by omega)]
    congr 1; omega

theorem natDigits_head (f n : Nat) : ∃ d rest, natDigits f n = d :: rest ∧ 48 ≤ d ∧ d ≤ 57 := by
  fun_induction natDigits f n with
  | case1 n => exact ⟨48, [], rfl, by omega, by omega⟩
  | case2 f n hlt => exact ⟨48 + n, [], rfl, by omega, by omega⟩
  | case3 f n hge ih =>
    obtain ⟨d, rest, hr, h1, h2⟩ := ih
    exact ⟨d, rest ++ [48 + n % 10], by rw [hr]; rfl, h1, h2⟩

theorem digitsVal_natDigits (n : Nat) : digitsVal (natDigits n n) = some n := by
  unfold digitsVal
  rw [if_neg (natDigits_ne_nil n n)]
  exact natDigits_val n n (Nat.le_refl n)

theorem parseDecText_decText (v : Int) : parseDecText (decText v) = some v := by
  fun_cases decText v with
  | case1 hneg =>
    simp only [parseDecText, digitsVal_natDigits]
    have : (v.natAbs : Int) = -v := Int.ofNat_natAbs_of_nonpos (by omega)
    simp [this]
  | case2 hpos =>
    obtain ⟨d, rest, hr, h1, h2⟩ := natDigits_head v.natAbs v.natAbs
    have hv := digitsVal_natDigits v.natAbs
    rw [hr] at hv ⊢
    have hd : d ≠ 45 := by omega
    unfold parseDecText
    split
    · rename_i heq
      simp at heq; omega
    · simp only [hv]
      have : (v.natAbs : Int) = v := Int.natAbs_of_nonneg (by omega)
      simp [this]

def lookupAttr (kvs : List (Bytes × Bytes)) (k : Bytes) : Option Bytes :=
  (kvs.find? (fun p => p.1 == k)).map (·.2)

def reserved (k : Bytes) : Bool := k == keyUuid || k == keyEsca || k == keyStatus || k == keyOtype

/-- what a receiver reconstructs from the wire form of an event -/
def Event.ofWire (w : EventWire) : Option Event :=
  match (lookupAttr w.attrs keyStatus).bind parseDecText, (lookupAttr w.attrs keyOtype).bind parseDecText with
  | some st, some ot =>
    some { hdr := w.hdr,
           uuid := (lookupAttr w.attrs keyUuid).getD [],
           escalation := lookupAttr w.attrs keyEsca == some (ascii "true"),
           level := w.level, title := w.title, message := w.message,
           status := st, otype := ot,
           attr := w.attrs.filter (fun p => !reserved p.1) }
  | _, _ => none

/-! the attribute map as a map: what `putAttr` does to a lookup, to a filter on keys, and to a prefix that
    does not hold the key -/

theorem lookupAttr_cons (p : Bytes × Bytes) (kvs : List (Bytes × Bytes)) (k : Bytes) :
    lookupAttr (p :: kvs) k = if p.1 = k then some p.2 else lookupAttr kvs k := by
  by_cases e : p.1 = k <;> simp [lookupAttr, e]

/-- an entry under the key takes the new value where it stands (and so does every later one); otherwise the
    put goes on behind it -/
theorem putAttr_cons (p : Bytes × Bytes) (kvs : List (Bytes × Bytes)) (k v : Bytes) :
    putAttr (p :: kvs) k v = if p.1 = k then (p.1, v) :: kvs.map (fun q => if q.1 = k then (q.1, v) else q)
      else p :: putAttr kvs k v := by
  by_cases e : p.1 = k
  · simp [putAttr, e]
  · by_cases a : kvs.any (fun q => q.1 == k) <;> simp [putAttr, e, a]

theorem lookupAttr_putAttr (kvs : List (Bytes × Bytes)) (k v k' : Bytes) :
    lookupAttr (putAttr kvs k v) k' = if k = k' then some v else lookupAttr kvs k' := by
  induction kvs with
  | nil => simp [putAttr, lookupAttr_cons]
  | cons p kvs ih =>
    rw [putAttr_cons]
    by_cases e : p.1 = k
    · subst e
      simp only [if_true, lookupAttr_cons]
      by_cases e' : p.1 = k'
      · simp [e']
      · simp only [e', if_false]
        clear ih
        -- rewriting the later entries of the key does not show under another key
        induction kvs with
        | nil => rfl
        | cons q kvs ih => by_cases a : q.1 = p.1 <;> simp [lookupAttr_cons, a, e', ih]
    · simp only [e, if_false, lookupAttr_cons, ih]
      by_cases e' : k = k' <;> simp [e']
      intro h; exact absurd h (e' ▸ e)

/-- a key the filter drops: putting it makes no difference to what the filter keeps -/
theorem filter_putAttr (keep : Bytes → Bool) (kvs : List (Bytes × Bytes)) (k v : Bytes) (h : keep k = false) :
    (putAttr kvs k v).filter (fun p => keep p.1) = kvs.filter (fun p => keep p.1) := by
  induction kvs with
  | nil => simp [putAttr, h]
  | cons p kvs ih =>
    rw [putAttr_cons]
    by_cases e : p.1 = k
    · subst e
      simp only [if_true, List.filter_cons, h, Bool.false_eq_true, if_false]
      clear ih
      induction kvs with
      | nil => rfl
      | cons q kvs ih => by_cases a : q.1 = p.1 <;> simp [List.filter_cons, a, h, ih]
    · simp [e, List.filter_cons, ih]

theorem putAttr_append_miss (a b : List (Bytes × Bytes)) (k v : Bytes) (h : ∀ p ∈ a, p.1 ≠ k) :
    putAttr (a ++ b) k v = a ++ putAttr b k v := by
  induction a with
  | nil => rfl
  | cons p a ih =>
    rw [List.cons_append, putAttr_cons, if_neg (h p (by simp)), ih fun q hq => h q (by simp [hq]), List.cons_append]

/-- the user's entries in front that use no reserved key stay where they are, untouched, whatever follows -/
theorem foldAttrs_append (e : Event) (a b : List (Bytes × Bytes)) (h : ∀ p ∈ a, reserved p.1 = false) :
    foldAttrs { e with attr := a ++ b } = a ++ foldAttrs { e with attr := b } := by
  have hk : ∀ k, reserved k = true → ∀ p ∈ a, p.1 ≠ k := fun k hk p hp e => by
    rw [← e, h p hp] at hk; cases hk
  have h1 := hk keyUuid (by decide)
  have h2 := hk keyEsca (by decide)
  have h3 := hk keyStatus (by decide)
  have h4 := hk keyOtype (by decide)
  unfold foldAttrs
  split <;> simp only [putAttr_append_miss _ _ _ _ h1, putAttr_append_miss _ _ _ _ h2,
    putAttr_append_miss _ _ _ _ h3, putAttr_append_miss _ _ _ _ h4]

/-- the public state of an event after it was sent: the attributes under reserved keys exist only on the wire,
    a send takes them out of the object's attribute map again -/
def Event.afterSend (e : Event) : Event := { e with attr := e.attr.filter (fun p => !reserved p.1) }

theorem Event.afterSend_id (e : Event) (h : ∀ p ∈ e.attr, reserved p.1 = false) : e.afterSend = e := by
  have : e.attr.filter (fun p => !reserved p.1) = e.attr := by
    rw [List.filter_eq_self]
    intro p hp
    simp [h p hp]
  unfold Event.afterSend
  rw [this]

theorem Event.afterSend_idem (e : Event) : e.afterSend.afterSend = e.afterSend := by
  simp [Event.afterSend, List.filter_filter]

/-- what a receiver recovers from any event, whatever keys the user's attributes use: the reserved keys are gone
    from the attributes, and an unset uuid reads as what the user put under its key -/
theorem Event.ofWire_toWire_gen (e : Event) :
    Event.ofWire e.toWire = some { e.afterSend with
      uuid := if e.uuid = [] then (lookupAttr e.attr keyUuid).getD [] else e.uuid } := by
  have k1 : keyEsca ≠ keyUuid := by decide
  have k2 : keyStatus ≠ keyUuid := by decide
  have k3 : keyOtype ≠ keyUuid := by decide
  have k4 : keyStatus ≠ keyEsca := by decide
  have k5 : keyOtype ≠ keyEsca := by decide
  have k6 : keyOtype ≠ keyStatus := by decide
  have r1 : (!reserved keyUuid) = false := by decide
  have r2 : (!reserved keyEsca) = false := by decide
  have r3 : (!reserved keyStatus) = false := by decide
  have r4 : (!reserved keyOtype) = false := by decide
  have esc : (some (ascii (if e.escalation then "true" else "false")) == some (ascii "true")) = e.escalation := by
    cases e.escalation <;> decide
  have fl : (foldAttrs e).filter (fun p => !reserved p.1) = e.attr.filter (fun p => !reserved p.1) := by
    unfold foldAttrs
    split <;> simp only [filter_putAttr (fun k => !reserved k) _ _ _ r1, filter_putAttr (fun k => !reserved k) _ _ _ r2,
      filter_putAttr (fun k => !reserved k) _ _ _ r3, filter_putAttr (fun k => !reserved k) _ _ _ r4]
  unfold Event.ofWire Event.toWire
  simp only [fl]
  unfold foldAttrs
  by_cases hu : e.uuid = [] <;>
    simp only [hu, if_true, if_false, lookupAttr_putAttr, k1, k2, k3, k4, k5, k6, Option.bind_some,
      parseDecText_decText, esc, Option.getD_some] <;> rfl

/-- a receiver recovers the whole event — uuid, escalation, status, object type and the user's
    attributes — from the wire form -/
theorem Event.ofWire_toWire (e : Event) (h : ∀ p ∈ e.attr, reserved p.1 = false) :
    Event.ofWire e.toWire = some e := by
  have hu : lookupAttr e.attr keyUuid = none := by
    simp only [lookupAttr, Option.map_eq_none_iff, List.find?_eq_none, beq_iff_eq]
    intro p hp e'
    have := h p hp
    rw [e'] at this
    exact absurd this (by decide)
  rw [Event.ofWire_toWire_gen, Event.afterSend_id e h, hu]
  by_cases hn : e.uuid = []
  · simp only [hn, if_true, Option.getD_none]
    rw [← hn]
  · simp only [hn, if_false]

end Wire
