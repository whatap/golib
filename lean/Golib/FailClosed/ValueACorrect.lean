/-
  Golib.FailClosed.ValueACorrect — the instrumented value decoder `decVA` against `Value.decV`:

  * `run_decVA`          – it decodes exactly what `Value.decV` decodes (both variants): arm by arm it
                           runs as the program `Value.decP` does (`run_decVA_all`), and that program
                           is `decV` (`Value.run_decP`);
  * `tailFree_decVA`     – it never asks whether the input has ended;
  * `decV_prefix_fails`  – a strict prefix of a complete value encoding never decodes, as for every
                           program of `P`.
-/
import Golib.FailClosed.ValueArms
import Golib.Value.Prog
namespace FailClosed
open Prim Value

theorem run_decVA_all (fx : Bool) (f : Nat) :
    (∀ bs, A.run (decVA fx f) bs = P.run (decP f) bs) ∧
    (∀ c acc bs, A.run (decVsA fx f c acc) bs =
        (P.run (decPs f c) bs).map (fun (xs, r) => (acc.reverse ++ xs, r))) ∧
    (∀ c acc bs, A.run (decKVsA fx f c acc) bs = P.run (decKP f c acc) bs) ∧
    (∀ c acc bs, A.run (decIKVsA fx f c acc) bs = P.run (decIKP f c acc) bs) := by
  induction f with
  | zero =>
    refine ⟨fun bs => rfl, fun c acc bs => ?_, fun c acc bs => ?_, fun c acc bs => ?_⟩
    · cases c <;> simp [decVsA, decPs]
    · cases c <;> rfl
    · cases c <;> rfl
  | succ f ih =>
    obtain ⟨ihV, ihVs, ihK, ihI⟩ := ih
    refine ⟨?_, ?_, ?_, ?_⟩
    · intro bs
      cases bs with
      | nil => rfl
      | cons t r =>
        unfold decVA decP
        rw [A.run_read1_cons, A.run_alloc, P.run_read1, List.headD_cons]
        split
        case h_15 | h_16 | h_17 | h_18 =>
          exact (run_map_arrA fx _ _ _ _ (consumes_read _ _) r).trans (P.run_map _ _ r).symm
        case h_14 =>
          rw [bodyP, A.run_bind, A.run_ofP, P.run_bind]
          rcases decDecimal.run r with _ | ⟨n, r1⟩
          · rfl
          simp only
          split
          · rfl
          · have key : A.run (A.map Value.list (decVsA fx f n.toNat [])) r1 =
                P.run ((decPs f n.toNat).map Value.list) r1 := by
              rw [A.run_map, ihVs, P.run_map]; cases P.run (decPs f n.toNat) r1 <;> rfl
            cases fx <;> exact key
        case h_19 =>
          rw [bodyP, A.run_bind, A.run_ofP, P.run_bind]
          rcases decDecimal.run r with _ | ⟨n, r1⟩
          · rfl
          simp only; rw [A.run_map, ihK, P.run_map]
        case h_20 =>
          rw [bodyP, A.run_bind, A.run_ofP, P.run_bind]
          rcases decDecimal.run r with _ | ⟨n, r1⟩
          · rfl
          simp only; rw [A.run_map, ihI, P.run_map]
        case h_1 => rfl
        case h_8 | h_9 => exact A.run_ofP _ r
        case h_21 => rw [bodyP.eq_21] <;> first | rfl | assumption
        all_goals exact run_map_ofP _ _ r
    · intro c acc bs
      cases c with
      | zero => simp [decVsA, decPs]
      | succ c =>
        unfold decVsA decPs
        rw [A.run_bind, ihV, P.run_bind]
        rcases P.run (decP f) bs with _ | ⟨v, r1⟩
        · rfl
        simp only [A.run_alloc]
        rw [ihVs, P.run_map]
        cases P.run (decPs f c) r1 <;> simp
    · intro c acc bs
      cases c with
      | zero => rfl
      | succ c =>
        unfold decKVsA decKP
        rw [A.run_bind, A.run_ofP, P.run_bind]
        rcases decBlob.run bs with _ | ⟨k, r1⟩
        · rfl
        simp only
        rw [A.run_bind, ihV, P.run_bind]
        rcases P.run (decP f) r1 with _ | ⟨v, r2⟩
        · rfl
        exact ihK _ _ _
    · intro c acc bs
      cases c with
      | zero => rfl
      | succ c =>
        unfold decIKVsA decIKP
        rw [A.run_bind, A.run_ofP, P.run_bind]
        rcases (rdI 4).run bs with _ | ⟨k, r1⟩
        · rfl
        simp only
        rw [A.run_bind, ihV, P.run_bind]
        rcases P.run (decP f) r1 with _ | ⟨v, r2⟩
        · rfl
        exact ihI _ _ _

theorem run_decVA (fx : Bool) (f : Nat) (bs : Bytes) : A.run (decVA fx f) bs = decV f bs :=
  ((run_decVA_all fx f).1 bs).trans (run_decP f bs)

theorem run_decodeA (fx : Bool) (bs : Bytes) : A.run (decodeA fx bs) bs = Value.decode bs :=
  run_decVA fx _ bs

theorem tailFree_decVA (fx : Bool) (f : Nat) : A.TailFree (decVA fx f) := (free_decVA_all fx f).1.tailFree

/-- **prefix failure for `Value.decV`**: if the bytes `q ++ s` decode completely (nothing left
    over) and `s` is not empty, the strict prefix `q` does not decode -/
theorem decV_prefix_fails (f : Nat) (q s : Bytes) (v : Value) (hs : s ≠ [])
    (h : decV f (q ++ s) = some (v, [])) : decV f q = none := by
  rw [← run_decP] at h ⊢
  exact P.prefix_fails _ q s v hs h

end FailClosed
