/-
  Golib.FailClosed.PackA — one count-prefixed pack in the instrumented syntax: `pack.TextPack`.

      AbstractPack.Read;  size := ReadDecimal()
      [repaired: din.CheckCount(size, 6)]
      records = make([]TextRec, size)            -- 24 bytes each
      size times: div := ReadByte(); hash := ReadInt(); text := ReadText()

  (the SM packs, CompositePack's guard, ReadDecimalArray* and BuildHyperLogLog have the same
  shape: a count, a guard, an allocation, a loop — `arrBody`)
-/
import Golib.FailClosed.PrimA

namespace FailClosed
open Prim

/-- `AbstractPack.Read` -/
def headerP : P Unit :=
  .read 1 (fun v =>
    if v.headD 0 ≤ 8 then
      P.bind (decDecimalLen (v.headD 0)) (fun _ => P.bind (rdI 4) (fun _ => P.bind (rdI 8) (fun _ => .pure ())))
    else
      P.bind decDecimal (fun _ => P.bind (rdI 4) (fun _ => P.bind (rdI 4) (fun _ =>
        P.bind (rdI 4) (fun _ => P.bind (rdI 8) (fun _ => .pure ()))))))

/-- one `TextRec` -/
def textRec : P (Nat × Int × Bytes) :=
  P.bind (rdU 1) (fun d => P.bind (rdI 4) (fun h => P.bind decBlob (fun t => .pure (d, h, t))))

theorem textRec_consumes : ConsumesAtLeast textRec 6 :=
  (consumes_rdU 1).bind fun _ => (consumes_rdI 4).bind fun _ => consumes_decBlob.bind fun _ => .pure _

def textPackA (guarded : Bool) : A (List (Nat × Int × Bytes)) :=
  A.bind (A.ofP headerP) (fun _ => A.bind (A.ofP decDecimal) (fun n =>
    if n < 0 then .fail else arrBody guarded 6 24 textRec n.toNat))

theorem tailFree_textPackA (g : Bool) : A.TailFree (textPackA g) := by
  unfold textPackA
  refine A.Free.tailFree (g := g) (A.free_bind _ _ (A.free_ofP _ _) fun _ =>
    A.free_bind _ _ (A.free_ofP _ _) fun n => ?_)
  split
  · exact .fail
  · exact free_arrBody g 6 24 textRec _

/-- repaired `TextPack.Read`: at most 5 bytes allocated per input byte, on every input (24 bytes per
    `TextRec`, which takes at least 6 input bytes: 4 per byte, beside the bytes read themselves) -/
theorem paid_textPackA : Paid 5 0 (textPackA true) := by
  unfold textPackA
  apply paid_bind (paid_ofP0 _ (by omega))
  intro _
  apply paid_bind (paid_ofP0 _ (by omega))
  intro n
  split
  · exact paid_fail _ _
  · unfold arrBody
    simp only [if_true]
    apply paid_need_alloc (c0 := 1) (d := 4) _ _ _ (paid_ofP0 _ (Nat.le_refl 1))
    · omega
    · exact consumes_ofP (decManyAcc_consumes textRec 6 textRec_consumes _ [])

/-- header (14 bytes), then the count 2^31-1: as found 48 GiB are requested for this 18-byte input
    (`C04.finding_D02_textPack`) -/
theorem textPack_witness_repaired :
    A.cost (textPackA true) [0, 0, 0, 0, 1, 0, 0, 0, 0, 0, 0, 0, 2, 4, 127, 255, 255, 255] = 18 := by
  decide +kernel

end FailClosed
