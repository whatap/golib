/-
  Golib.FailClosed.Pooled — one in-memory reader used for several decodes.

  A decoder that opens a sub-stream (`io.NewDataInputX(din.ReadBlob())` in `TxRecord.Read`, the lazy
  accessors, every `…FromBytes`) builds a NEW reader over exactly the bytes of that blob: the reader of
  the model (`P.run p bs`) starts with the input and nothing else.  If the reader object is kept between
  decodes (a pool, a field) it has to be re-pointed at the next input, and what the previous decode left
  unread in it — a failed decode stops anywhere, a successful one may leave trailing bytes — is state
  that a later decode could see.

  `step reset p junk st inp` is one decode through such a reader: `st` = the bytes still buffered,
  `reset st inp` = what the reader holds after being re-pointed, the decode runs on that; afterwards the
  reader holds the unread rest (success) or `junk` of what it held (failure: how far the failed decode
  got is not determined by the model — ANY function).  `runHist` folds a whole history of inputs.

  * `replace`      (what `NewDataInputX(buf)` does: the buffer IS the input): every decode of every
                   history, after any number of failed ones, is the decode of its own input alone
                   (`replace_history`, `replace_history_any_start`), so all per-input theorems (prefix
                   failure, locality, allocation) carry over to histories (`C04.pooled_prefix_fails_in_history`).
  * `appendReset`  (`buffer.Write(buf)` on the assumption that the buffer is empty): the history is the
                   per-input one exactly as long as nothing was left over (`C04.pooled_append_ok_when_drained`);
                   `C04.finding_appending_reset` is the counter-model: a rejected 5-byte input followed by a
                   3-byte one decodes to a long made of both.
-/
import Golib.Basic

namespace FailClosed.Pooled

/-- re-pointing a kept reader: `old` = bytes still buffered, `inp` = the next input -/
abbrev Reset := Bytes → Bytes → Bytes

/-- `NewDataInputX(buf)` / a `Reset` that replaces the buffer -/
def replace : Reset := fun _ inp => inp

/-- `buffer.Write(buf)`: correct only if the buffer was drained -/
def appendReset : Reset := fun old inp => old ++ inp

/-- one decode through a kept reader: the result, and what the reader holds afterwards -/
def step (reset : Reset) (p : P α) (junk : Bytes → Bytes) (st inp : Bytes) : Option α × Bytes :=
  match P.run p (reset st inp) with
  | some (a, rest) => (some a, rest)
  | none => (none, junk (reset st inp))

/-- a history of decodes through the same kept reader -/
def runHist (reset : Reset) (p : P α) (junk : Bytes → Bytes) : Bytes → List Bytes → List (Option α)
  | _, [] => []
  | st, inp :: more =>
    let r := step reset p junk st inp
    r.1 :: runHist reset p junk r.2 more

/-- the specification: every input decoded on its own, by a reader that holds nothing else -/
def perInput (p : P α) (inputs : List Bytes) : List (Option α) :=
  inputs.map (fun inp => (P.run p inp).map Prod.fst)

theorem step_replace (p : P α) (junk : Bytes → Bytes) (st inp : Bytes) :
    (step replace p junk st inp).1 = (P.run p inp).map Prod.fst := by
  unfold step replace
  cases P.run p inp with
  | none => rfl
  | some x => rfl

/-- with a replacing reset, whatever the reader held at the start and wherever failed decodes stopped,
    the history is the per-input specification -/
theorem replace_history_any_start (p : P α) (junk : Bytes → Bytes) (st : Bytes) (inputs : List Bytes) :
    runHist replace p junk st inputs = perInput p inputs := by
  induction inputs generalizing st with
  | nil => rfl
  | cons inp more ih =>
    simp only [runHist, perInput, List.map_cons]
    rw [step_replace, ih]
    rfl

theorem replace_history (p : P α) (junk : Bytes → Bytes) (inputs : List Bytes) :
    runHist replace p junk [] inputs = perInput p inputs :=
  replace_history_any_start p junk [] inputs

/-- `ReadLong`: eight bytes, big endian -/
def readLong : P Nat := .read 8 (fun bs => .pure (bs.foldl (fun a b => a * 256 + b) 0))

end FailClosed.Pooled
