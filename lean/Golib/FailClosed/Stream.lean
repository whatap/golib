/-
  Golib.FailClosed.Stream — the stream input path (`io.NewDataInputNet`): fragmentation-independence.

  A connection delivers the bytes in fragments of its own choosing: a `Read(p)` returns any prefix
  of what the peer has sent so far (possibly nothing), and once everything has been delivered the
  next `Read` reports the end (io.EOF or an error).  `Conn` is the list of fragments still to
  come; `DataInputX.ReadBytes(n)` on that path is the loop

      for left > 0 { k, err := tcp.Read(buff[got:]); if err != nil { panic }; left -= k; got += k }

  modelled by `readN`: it takes fragments (splitting one when it holds more than is needed) until
  `n` bytes are there, and fails when the connection ends first.  `runC` runs a decoder of the
  monad `P` over a connection.

  `readN` and `runC` are the connection model of Golib.Prim.Stream (`Prim.Stream.readN`, `P.runC`, over
  which C01 states its stream results) written out a second time for C04's statements; the two are
  equal (`readN_eq`, `runC_eq_runC`), and what is proved about the one there is read off here.

  `runC_eq` (`P.runC_iff` through that equality): decoding over ANY fragmentation equals decoding the
  concatenation of the fragments — same value, and what is left of the connection is what is left of
  the bytes (one equation).  Hence every
  theorem about `P.run` (round trips, `P.prefix_fails`) holds verbatim on the stream path:
  `stream_prefix_fails` — a connection that ends before the end of a complete encoding makes
  the decoder fail, whatever the fragments.
-/
import Golib.Prim.Stream

namespace FailClosed

/-- fragments still to be delivered (an empty fragment is a `Read` that returned 0 bytes) -/
abbrev Conn := List Bytes

def Conn.bytes (c : Conn) : Bytes := c.flatten

/-- `ReadBytes(n)` over a connection -/
def readN : Nat → Conn → Option (Bytes × Conn)
  | 0, c => some ([], c)
  | _+1, [] => none                                   -- the connection ended: err ≠ nil → panic
  | n+1, f :: c =>
    if f.length ≤ n + 1 then
      match readN (n + 1 - f.length) c with
      | none => none
      | some (b, c') => some (f ++ b, c')
    else some (f.take (n + 1), f.drop (n + 1) :: c)   -- the Read filled the rest of the buffer

/-- a decoder of the monad `P` reading from a connection -/
def runC : P α → Conn → Option (α × Conn)
  | .pure a, c => some (a, c)
  | .fail, _ => none
  | .read n k, c =>
    match readN n c with
    | none => none
    | some (b, c') => runC (k b) c'

/-- this connection model is the one of `Golib.Prim.Stream` -/
theorem readN_eq : readN = Prim.Stream.readN := by
  funext n c
  fun_induction readN n c with
  | case1 c => rw [Prim.Stream.readN_zero]
  | case2 n => rfl
  | case3 n f c hf hr ih => rw [Prim.Stream.readN, if_pos hf, ← ih, hr]
  | case4 n f c hf b c' hr ih => rw [Prim.Stream.readN, if_pos hf, ← ih, hr]
  | case5 n f c hf => rw [Prim.Stream.readN, if_neg hf]

theorem runC_eq_runC (p : P α) (c : Conn) : runC p c = P.runC p c := by
  induction p generalizing c with
  | pure a => rfl
  | fail => rfl
  | read n k ih =>
    rw [runC, P.runC, readN_eq]
    cases Prim.Stream.readN n c with
    | none => rfl
    | some x => exact ih _ _

/-- **fragmentation-independence**: over any fragmentation the decoder does what it does on the
    concatenated bytes — same outcome, same value, and what is left of the connection is what is left
    of the bytes -/
theorem runC_eq (p : P α) (c : Conn) : (runC p c).map (fun x => (x.1, x.2.bytes)) = P.run p c.bytes :=
  runC_eq_runC p c ▸ P.runC_iff p c

theorem runC_some (p : P α) (c : Conn) (v : α) (c' : Conn) (h : runC p c = some (v, c')) :
    P.run p c.bytes = some (v, c'.bytes) := by
  rw [← runC_eq, h]; rfl

theorem runC_none (p : P α) (c : Conn) (h : runC p c = none) : P.run p c.bytes = none := by
  rw [← runC_eq, h]; rfl

/-- **a stream that ends mid-encoding fails**: if the bytes `q ++ s` (`s ≠ []`) are a complete
    encoding for the decoder `p` and the connection delivers only `q` — in whatever fragments — before
    it ends, the decoder fails -/
theorem stream_prefix_fails (p : P α) (c : Conn) (s : Bytes) (v : α) (hs : s ≠ [])
    (h : P.run p (c.bytes ++ s) = some (v, [])) : runC p c = none :=
  Option.map_eq_none_iff.mp ((runC_eq p c).trans (P.prefix_fails p c.bytes s v hs h))

end FailClosed
