/-
  Golib.FailClosed.LayoutA — the pack layout reader with its allocations.

  `toA F l pfx e` is `Layout.L.read l pfx e` (the reader semantics C03 verifies) in the
  instrumented syntax `A`: every primitive read is charged byte for byte (`primA`), a counted
  table `rep` is the repaired code
      n := Read<cnt>();  din.CheckCount(n, 1);  t = make([]T, n)   -- at most SL bytes per element
      n times: the element layout
  (only the repaired code: `toA` takes no flag as `decVA` / `textPackA` do, the unguarded `make` as found
  has no counterpart here) and a sub-stream `wrap` is charged what decoding the blob costs.  By induction on the IR
  (`paid_toA_all`) it allocates at most `coef l` bytes per input byte on every input, where
  `coef l = KL + SL·(number of tables on the deepest path) + (sub-stream depth)`.  That it reads what
  `L.read` reads (`run_toA`) is at the end, with the relation `Sim` it is stated with and its rules.
-/
import Golib.FailClosed.LayoutPrim
import Golib.Layout.Reader

namespace FailClosed
open Layout (L Val Env Out elemPfx RDec)

abbrev RA := A (Out × Env)

def elemsA (f : String → Env → RA) (pfx name : String) : Nat → Nat → Env → RA
  | _, 0, e => .pure ([], e)
  | i, n+1, e =>
    A.bind (f (elemPfx pfx name i) e) (fun x =>
      A.map (fun y => (x.1 ++ y.1, y.2)) (elemsA f pfx name (i+1) n x.2))

-- only `rep` allocates from its count: `mrep` / `vrep` fill a keyed table by one `Put` per decoded element
-- (CounterPack1.readHttpcMeter), `srep` drops its rows and `times` has no count
def toA (F : Nat) : L → String → Env → RA
  | .nil, _, e => .pure ([], e)
  | .fld name p _ rest, pfx, e =>
    A.bind (primA F p) (fun v => A.map (fun y => ((pfx ++ name, v) :: y.1, y.2)) (toA F rest pfx e))
  | .lit _ _ rest, pfx, e => toA F rest pfx e
  | .skip p rest, pfx, e => A.bind (primA F p) (fun _ => toA F rest pfx e)
  | .var name p rest, pfx, e => A.bind (primA F p) (fun v => toA F rest pfx (e.set name v.toInt))
  | .ite c t el rest, pfx, e =>
    A.bind (if c.eval e then toA F t pfx e else toA F el pfx e) (fun x =>
      A.map (fun y => (x.1 ++ y.1, y.2)) (toA F rest pfx x.2))
  | .guard c rest, pfx, e => if c.eval e then .fail else toA F rest pfx e
  | .opt name body rest, pfx, e =>
    A.bind (primA F .u8) (fun flag =>
      if flag.toInt != 0 then
        A.bind (toA F body pfx e) (fun x =>
          A.map (fun y => ((pfx ++ name ++ "?", Val.int 1) :: (x.1 ++ y.1), y.2)) (toA F rest pfx x.2))
      else A.map (fun y => ((pfx ++ name ++ "?", Val.int 0) :: y.1, y.2)) (toA F rest pfx e))
  | .rep cnt name body rest, pfx, e =>
    A.bind (primA F cnt) (fun n =>
      .need n.toInt.toNat (.alloc (n.toInt.toNat * SL)
        (A.bind (elemsA (fun q e' => toA F body q e') pfx name 0 n.toInt.toNat e) (fun x =>
          A.map (fun y => ((pfx ++ name ++ "#", Val.int n.toInt.toNat) :: (x.1 ++ y.1), y.2))
            (toA F rest pfx x.2)))))
  | .wrap body rest, pfx, e =>
    A.bind (A.ofP Prim.decBlob) (fun inner =>
      .alloc (A.cost (toA F body pfx e) inner)
        (match A.run (toA F body pfx e) inner with
         | none => .fail
         | some (x, _) => A.map (fun y => (x.1 ++ y.1, y.2)) (toA F rest pfx x.2)))
  | .hdr rest, pfx, e =>
    A.bind (A.ofP Layout.decHeader) (fun h =>
      A.map (fun y => (Layout.hdrOut pfx h ++ y.1, y.2)) (toA F rest pfx e))
  | .times n name body rest, pfx, e =>
    A.bind (elemsA (fun q e' => toA F body q e') pfx name 0 n e) (fun x =>
      A.map (fun y => (x.1 ++ y.1, y.2)) (toA F rest pfx x.2))
  | .sub name body rest, pfx, e =>
    A.bind (toA F body (pfx ++ name ++ ".") e) (fun x =>
      A.map (fun y => (x.1 ++ y.1, y.2)) (toA F rest pfx x.2))
  | .kfld name p _ rest, pfx, e =>
    A.bind (primA F p) (fun v => A.map (fun y => ((pfx ++ name, v) :: y.1, y.2)) (toA F rest pfx e))
  | .key name p vn rest, pfx, e =>
    A.bind (primA F p) (fun v =>
      A.map (fun y => ((pfx ++ name, v) :: y.1, y.2)) (toA F rest pfx (e.set vn v.toInt)))
  | .mopt _ name body rest, pfx, e =>
    A.bind (primA F .u8) (fun flag =>
      if flag.toInt != 0 then
        A.bind (toA F body pfx e) (fun x =>
          A.map (fun y => ((pfx ++ name ++ "?", Val.int 1) :: (x.1 ++ y.1), y.2)) (toA F rest pfx x.2))
      else A.map (fun y => ((pfx ++ name ++ "?", Val.int 0) :: y.1, y.2)) (toA F rest pfx e))
  | .vopt vn name body rest, pfx, e =>
    A.bind (primA F .u8) (fun flag =>
      if flag.toInt != 0 then
        A.bind (toA F body pfx (e.set vn flag.toInt)) (fun x =>
          A.map (fun y => ((pfx ++ name ++ "?", Val.int 1) :: (x.1 ++ y.1), y.2)) (toA F rest pfx x.2))
      else A.map (fun y => ((pfx ++ name ++ "?", Val.int 0) :: y.1, y.2)) (toA F rest pfx (e.set vn 0)))
  | .mrep _ name body rest, pfx, e =>
    A.bind (primA F .u8) (fun b =>
      if b.toInt = 0 then
        A.map (fun y => ((pfx ++ name ++ "#", Val.int 0) :: y.1, y.2)) (toA F rest pfx (e.set "" 0))
      else
        A.bind (A.ofP (if b.toInt ≤ 8 then Prim.decDecimalLen b.toInt.toNat else Prim.decDecimal)) (fun n =>
          A.bind (elemsA (fun q e' => toA F body q e') pfx name 0 n.toNat (e.set "" b.toInt)) (fun x =>
            A.map (fun y => ((pfx ++ name ++ "#", Val.int n.toNat) :: (x.1 ++ y.1), y.2))
              (toA F rest pfx x.2))))
  | .vrep vn name body rest, pfx, e =>
    A.bind (primA F .u8) (fun b =>
      if b.toInt = 0 then
        A.map (fun y => ((pfx ++ name ++ "#", Val.int 0) :: y.1, y.2)) (toA F rest pfx (e.set vn 0))
      else
        A.bind (A.ofP (if b.toInt ≤ 8 then Prim.decDecimalLen b.toInt.toNat else Prim.decDecimal)) (fun n =>
          A.bind (elemsA (fun q e' => toA F body q e') pfx name 0 n.toNat (e.set vn b.toInt)) (fun x =>
            A.map (fun y => ((pfx ++ name ++ "#", Val.int n.toNat) :: (x.1 ++ y.1), y.2))
              (toA F rest pfx x.2))))
  | .srep cnt body rest, pfx, e =>
    A.bind (primA F cnt) (fun n =>
      A.bind (elemsA (fun q e' => toA F body q e') pfx "" 0 n.toInt.toNat e) (fun x => toA F rest pfx x.2))
  | .avail body, pfx, e => .avail0 (.pure ([], e)) (toA F body pfx e)
  | .unknown _, _, _ => .fail

/-- the layout begins with a primitive read of at least one byte -/
def reads1 : L → Bool
  | .fld _ p _ _ => simplePrim p
  | .skip p _ => simplePrim p
  | .var _ p _ => simplePrim p
  | .hdr _ => true
  | .wrap _ _ => true          -- the length prefix of the blob
  | .lit _ _ rest => reads1 rest
  | _ => false

/-- every `rep` body begins with a read (so that `n` elements consume the `n` bytes the guard in front
    of the table's allocation asks for) -/
def costOK : L → Bool
  | .nil => true
  | .fld _ _ _ rest => costOK rest
  | .lit _ _ rest => costOK rest
  | .skip _ rest => costOK rest
  | .var _ _ rest => costOK rest
  | .ite _ t e rest => costOK t && costOK e && costOK rest
  | .guard _ rest => costOK rest
  | .opt _ body rest => costOK body && costOK rest
  | .rep _ _ body rest => reads1 body && costOK body && costOK rest
  | .wrap body rest => costOK body && costOK rest
  | .hdr rest => costOK rest
  | .times _ _ body rest => costOK body && costOK rest
  | .sub _ body rest => costOK body && costOK rest
  | .kfld _ _ _ rest => costOK rest
  | .key _ _ _ rest => costOK rest
  | .mopt _ _ body rest => costOK body && costOK rest
  | .vopt _ _ body rest => costOK body && costOK rest
  | .mrep _ _ body rest => costOK body && costOK rest
  | .vrep _ _ body rest => costOK body && costOK rest
  | .srep _ body rest => costOK body && costOK rest
  | .avail body => costOK body
  | .unknown _ => true

/-- bytes allocated per input byte: `KL + SL·(number of tables on the deepest path) + (sub-stream depth)` -/
def coef : L → Nat
  | .nil => KL
  | .fld _ _ _ rest => coef rest
  | .lit _ _ rest => coef rest
  | .skip _ rest => coef rest
  | .var _ _ rest => coef rest
  | .ite _ t e rest => max (max (coef t) (coef e)) (coef rest)
  | .guard _ rest => coef rest
  | .opt _ body rest => max (coef body) (coef rest)
  | .rep _ _ body rest => max (coef body) (coef rest) + SL
  | .wrap body rest => max (coef body + 1) (coef rest)
  | .hdr rest => coef rest
  | .times _ _ body rest => max (coef body) (coef rest)
  | .sub _ body rest => max (coef body) (coef rest)
  | .kfld _ _ _ rest => coef rest
  | .key _ _ _ rest => coef rest
  | .mopt _ _ body rest => max (coef body) (coef rest)
  | .vopt _ _ body rest => max (coef body) (coef rest)
  | .mrep _ _ body rest => max (coef body) (coef rest)
  | .vrep _ _ body rest => max (coef body) (coef rest)
  | .srep _ body rest => max (coef body) (coef rest)
  | .avail body => coef body
  | .unknown _ => KL

theorem KL_le_coef (l : L) : KL ≤ coef l := by
  induction l with
  | nil | unknown _ => exact Nat.le_refl _
  | fld _ _ _ _ ih | lit _ _ _ ih | skip _ _ ih | var _ _ _ ih | guard _ _ ih | hdr _ ih
  | kfld _ _ _ _ ih | key _ _ _ _ ih | avail _ ih => exact ih
  | rep _ _ _ _ _ ih => exact Nat.le_trans ih (Nat.le_trans (Nat.le_max_right _ _) (Nat.le_add_right _ _))
  | ite _ _ _ _ _ _ ih | opt _ _ _ _ ih | wrap _ _ _ ih | times _ _ _ _ _ ih | sub _ _ _ _ ih
  | mopt _ _ _ _ _ ih | vopt _ _ _ _ _ ih | mrep _ _ _ _ _ ih | vrep _ _ _ _ _ ih | srep _ _ _ _ ih =>
    exact Nat.le_trans ih (Nat.le_max_right _ _)

theorem paid_elemsA0 {c : Nat} (f : String → Env → RA) (hf : ∀ q e, Paid c 0 (f q e))
    (pfx name : String) : ∀ n i e, Paid c 0 (elemsA f pfx name i n e)
  | 0, _, _ => paid_pure _ _
  | n + 1, i, e => paid_bind (hf _ e) fun x => paid_map _ (paid_elemsA0 f hf pfx name n (i + 1) x.2)

/-- the payload of a blob is among the bytes the blob reader consumed -/
theorem decBlob_payload (bs b r : Bytes) (h : P.run Prim.decBlob bs = some (b, r)) :
    b.length + r.length + 1 ≤ bs.length := by
  obtain ⟨a, rfl, ha⟩ := P.run_eq_some_iff.mp h
  have := (Prim.decBlob_post ha).1
  rw [List.length_append]; omega

/-- a sub-stream: the blob is read (and copied), then decoded on its own; what that costs is at
    most `d` units per byte of the blob -/
theorem paid_wrap {c d : Nat} (u : Bytes → Nat) (k : Bytes → A β) (hu : ∀ b, u b ≤ d * b.length)
    (hk : ∀ b, Paid c 0 (k b)) (hc : d + 1 ≤ c) :
    Paid c 0 (A.bind (A.ofP Prim.decBlob) (fun b => .alloc (u b) (k b))) := by
  intro bs
  rw [A.run_bind, A.cost_bind, A.run_ofP]
  have h0 := A.cost_ofP Prim.decBlob bs
  cases hr : P.run Prim.decBlob bs with
  | none =>
    rw [hr] at h0; simp only at h0 ⊢
    have : bs.length ≤ c * bs.length := Nat.le_mul_of_pos_left _ (by omega)
    omega
  | some x =>
    obtain ⟨b, r⟩ := x
    rw [hr] at h0; simp only [A.run_alloc, A.cost_alloc] at h0 ⊢
    have hb := decBlob_payload bs b r hr
    have h1 := hk b r
    have h2 := hu b
    obtain ⟨e1, he1⟩ : ∃ e1, bs.length = b.length + r.length + (e1 + 1) :=
      ⟨bs.length - (b.length + r.length) - 1, by omega⟩
    obtain ⟨g, hg⟩ : ∃ g, c = d + 1 + g := ⟨c - (d + 1), by omega⟩
    have hde : d ≤ d * (e1 + 1) := Nat.le_mul_of_pos_right d (by omega)
    cases hr2 : A.run (k b) r with
    | none =>
      rw [hr2] at h1; simp only at h1 ⊢
      rw [he1] at h0 ⊢
      subst hg
      simp only [Nat.add_mul, Nat.mul_add, Nat.one_mul, Nat.mul_one] at h1 hde ⊢
      omega
    | some y =>
      obtain ⟨w, r'⟩ := y
      rw [hr2] at h1; simp only at h1 ⊢
      rw [he1] at h0 ⊢
      subst hg
      simp only [Nat.add_mul, Nat.mul_add, Nat.one_mul, Nat.mul_one] at h1 hde ⊢
      omega

/-- `n` elements that each consume at least one byte consume at least `n` bytes -/
theorem elemsA_consumes (f : String → Env → RA) (hf : ∀ q e, A.ConsumesAtLeast (f q e) 1)
    (pfx name : String) : ∀ n i e, A.ConsumesAtLeast (elemsA f pfx name i n e) n
  | 0, _, _ => .zero _
  | n + 1, i, e =>
    ((hf _ e).bind fun x => (elemsA_consumes f hf pfx name n (i + 1) x.2).map _).mono (Nat.le_of_eq (Nat.add_comm n 1))

/-- a layout that begins with a read consumes at least one byte -/
theorem toA_consumes (F : Nat) (l : L) (h : reads1 l = true) (pfx : String) (e : Env) :
    A.ConsumesAtLeast (toA F l pfx e) 1 := by
  induction l with
  | lit _ _ rest ih => exact ih h
  | fld _ p _ _ | skip p _ | var _ p _ => rw [toA]; exact A.ConsumesAtLeast.bind (primA_consumes F p h) fun _ => .zero _
  | hdr _ | wrap _ _ => rw [toA]; exact (consumes_ofP (Prim.consumes_read 1 _)).bind fun _ => .zero _
  | _ => cases h

/-- every coefficient from `coef l` on bounds the allocation of `toA F l`.  Stated for all `c ≥ coef l`
    so that the parts of a layout, whose coefficients are below the maximum, need no adjustment. -/
theorem paid_toA_all (F : Nat) (l : L) (hok : costOK l = true) :
    ∀ c, coef l ≤ c → ∀ pfx e, Paid c 0 (toA F l pfx e) := by
  induction l with
  | nil => exact fun c _ pfx e => paid_pure _ _
  | fld name p rng rest ih | kfld name p _ rest ih | key name p _ rest ih =>
    intro c hc pfx e; rw [toA]
    exact paid_bind (paid_primA F p c (Nat.le_trans (KL_le_coef rest) hc)) (fun v => paid_map _ (ih hok c hc pfx _))
  | lit p v rest ih => exact ih hok
  | skip p rest ih | var name p rest ih =>
    intro c hc pfx e; rw [toA]
    exact paid_bind (paid_primA F p c (Nat.le_trans (KL_le_coef rest) hc)) (fun v => ih hok c hc pfx _)
  | ite cnd t el rest iht ihe ihr =>
    simp only [costOK, Bool.and_eq_true] at hok
    intro c hc pfx e
    obtain ⟨hte, hr⟩ := Nat.max_le.mp hc
    obtain ⟨ht, he⟩ := Nat.max_le.mp hte
    rw [toA]
    apply paid_bind
    · split
      · exact iht hok.1.1 c ht pfx e
      · exact ihe hok.1.2 c he pfx e
    · intro x; exact paid_map _ (ihr hok.2 c hr pfx x.2)
  | guard cnd rest ih =>
    intro c hc pfx e
    rw [toA]
    split
    · exact paid_fail _ _
    · exact ih hok c hc pfx e
  | opt name body rest ihb ihr | mopt _ name body rest ihb ihr | vopt _ name body rest ihb ihr =>
    simp only [costOK, Bool.and_eq_true] at hok
    intro c hc pfx e
    obtain ⟨hb, hr⟩ := Nat.max_le.mp hc
    rw [toA]
    apply paid_bind (paid_primA F .u8 c (Nat.le_trans (KL_le_coef rest) hr))
    intro flag
    split
    · exact paid_bind (ihb hok.1 c hb pfx _) (fun x => paid_map _ (ihr hok.2 c hr pfx x.2))
    · exact paid_map _ (ihr hok.2 c hr pfx _)
  | rep cnt name body rest ihb ihr =>
    simp only [costOK, Bool.and_eq_true] at hok
    intro c hc pfx e
    obtain ⟨c', rfl⟩ := Nat.exists_eq_add_of_le' (Nat.le_trans (Nat.le_add_left SL _) hc)
    have hc' : max (coef body) (coef rest) ≤ c' := Nat.le_of_add_le_add_right hc
    obtain ⟨hb, hr⟩ := Nat.max_le.mp hc'
    rw [toA]
    apply paid_bind (paid_primA F cnt _ (Nat.le_trans (Nat.le_trans (KL_le_coef rest) hr) (Nat.le_add_right _ _)))
    intro n
    -- every element begins with a read, so `n` elements take `n` bytes: the guard makes the input pay for the table
    exact paid_need_alloc _ _ _
      (paid_bind (paid_elemsA0 _ (ihb hok.1.2 c' hb) pfx name _ 0 e) fun x => paid_map _ (ihr hok.2 c' hr pfx x.2))
      (Nat.le_of_eq (Nat.mul_comm _ _))
      ((elemsA_consumes _ (toA_consumes F body hok.1.1) pfx name _ 0 e).bind fun _ => .zero _)
  | wrap body rest ihb ihr =>
    simp only [costOK, Bool.and_eq_true] at hok
    intro c hc pfx e
    obtain ⟨hb, hr⟩ := Nat.max_le.mp hc
    rw [toA]
    apply paid_wrap (d := coef body) _ _ (fun b => (ihb hok.1 _ (Nat.le_refl _) pfx e).bounded b) _ hb
    intro b
    split
    · exact paid_fail _ _
    · exact paid_map _ (ihr hok.2 c hr pfx _)
  | hdr rest ih =>
    intro c hc pfx e; rw [toA]
    exact paid_bind (paid_ofP0 _ (one_le_of_KL_le (Nat.le_trans (KL_le_coef rest) hc))) (fun v => paid_map _ (ih hok c hc pfx e))
  | times n name body rest ihb ihr =>
    simp only [costOK, Bool.and_eq_true] at hok
    intro c hc pfx e
    obtain ⟨hb, hr⟩ := Nat.max_le.mp hc
    rw [toA]
    exact paid_bind (paid_elemsA0 _ (ihb hok.1 c hb) pfx name n 0 e)
      (fun x => paid_map _ (ihr hok.2 c hr pfx x.2))
  | sub name body rest ihb ihr =>
    simp only [costOK, Bool.and_eq_true] at hok
    intro c hc pfx e
    obtain ⟨hb, hr⟩ := Nat.max_le.mp hc
    rw [toA]
    exact paid_bind (ihb hok.1 c hb _ e) (fun x => paid_map _ (ihr hok.2 c hr pfx x.2))
  | unknown w => exact fun c _ pfx e => paid_fail _ _
  | mrep _ name body rest ihb ihr | vrep _ name body rest ihb ihr =>
    simp only [costOK, Bool.and_eq_true] at hok
    intro c hc pfx e
    obtain ⟨hb, hr⟩ := Nat.max_le.mp hc
    have hK := Nat.le_trans (KL_le_coef rest) hr
    rw [toA]
    apply paid_bind (paid_primA F .u8 c hK)
    intro b
    split
    · exact paid_map _ (ihr hok.2 c hr pfx _)
    · exact paid_bind (paid_ofP0 _ (one_le_of_KL_le hK)) (fun n =>
        paid_bind (paid_elemsA0 _ (ihb hok.1 c hb) pfx name n.toNat 0 _)
          (fun x => paid_map _ (ihr hok.2 c hr pfx x.2)))
  | srep cnt body rest ihb ihr =>
    simp only [costOK, Bool.and_eq_true] at hok
    intro c hc pfx e
    obtain ⟨hb, hr⟩ := Nat.max_le.mp hc
    rw [toA]
    exact paid_bind (paid_primA F cnt c (Nat.le_trans (KL_le_coef rest) hr)) (fun n =>
      paid_bind (paid_elemsA0 _ (ihb hok.1 c hb) pfx "" _ 0 e) (fun x => ihr hok.2 c hr pfx x.2))
  | avail body ih =>
    intro c hc pfx e
    rw [toA]
    exact paid_avail0 (paid_pure _ _) (ih hok c hc pfx e)

/-- **alloc_bounded for every layout** whose tables are guarded: the instrumented reader allocates
    at most `coef l` bytes per input byte, on every byte string -/
theorem cost_toA_le (F : Nat) (l : L) (hok : costOK l = true) (pfx : String) (e : Env) (bs : Bytes) :
    A.cost (toA F l pfx e) bs ≤ coef l * bs.length :=
  (paid_toA_all F l hok _ (Nat.le_refl _) pfx e).bounded bs

/-! ### the instrumented reader reads what `L.read` reads

    The two are compared on inputs of at most `F - 2` bytes (`F` is the fuel of the value decoder inside
    `primA`).  `L.read` is a program over the combinators of Golib.Layout.Reader; `Sim` has one rule for
    each of them, and `toA` unfolds to the left-hand sides of the rules, so `run_toA` reads the clauses of
    `L.read` off one by one.  The `CheckCount` guard in front of a table's allocation is invisible in the
    result, because it refuses only counts the element loop would fail on (every element begins with a
    read of at least one byte). -/

def reshape (t : Out × Env × Bytes) : (Out × Env) × Bytes := ((t.1, t.2.1), t.2.2)

/-- on inputs the fuel `F` covers, the instrumented reader `a` returns what the layout reader `d` returns -/
def Sim (F : Nat) (a : Env → RA) (d : RDec) : Prop :=
  ∀ e bs, bs.length + 2 ≤ F → A.run (a e) bs = (d e bs).map reshape

namespace Sim
open Layout.RDec
variable {F : Nat} {a b : Env → RA} {d d' : RDec}

theorem ret (o : Out) : Sim F (fun e => .pure (o, e)) (ret o) := fun _ _ _ => rfl

theorem fail : Sim F (fun _ => .fail) fail := fun _ _ _ => rfl

/-- a successful run leaves no more than it was given, so the bound on the input passes on to what comes next -/
theorem andThen {k : Out → Env → RA} {kd : Out → RDec} (ha : Sim F a d) (hk : ∀ o, Sim F (k o) (kd o)) :
    Sim F (fun e => A.bind (a e) fun x => k x.1 x.2) (d.andThen kd) := by
  intro e bs hF
  have h := ha e bs hF
  rw [A.run_bind, h]
  simp only [RDec.andThen]
  cases hg : d e bs with
  | none => rfl
  | some t =>
    obtain ⟨o, e1, r⟩ := t
    have := A.run_length_le (a e) bs (o, e1) r (h.trans (by rw [hg]; rfl))
    exact hk o e1 r (by omega)

theorem map (ha : Sim F a d) (c : Out → Out) :
    Sim F (fun e => A.map (fun y => (c y.1, y.2)) (a e)) (d.andThen fun o => RDec.ret (c o)) :=
  ha.andThen fun o => ret (c o)

theorem seq (ha : Sim F a d) (hb : Sim F b d') :
    Sim F (fun e => A.bind (a e) fun x => A.map (fun y => (x.1 ++ y.1, y.2)) (b x.2)) (seq d d') :=
  ha.andThen fun o1 => hb.map (o1 ++ ·)

theorem prim {α : Type} {pa : A α} {dd : Layout.Dec α} {k : α → Env → RA} {kd : α → RDec}
    (hp : ∀ bs, bs.length + 2 ≤ F → A.run pa bs = dd bs) (hk : ∀ v, Sim F (k v) (kd v)) :
    Sim F (fun e => A.bind pa fun v => k v e) (prim dd kd) := by
  intro e bs hF
  have h := hp bs hF
  rw [A.run_bind, h]
  simp only [RDec.prim]
  cases hg : dd bs with
  | none => rfl
  | some t =>
    obtain ⟨v, r⟩ := t
    have := A.run_length_le pa bs v r (h.trans hg)
    exact hk v e r (by omega)

theorem ofP {α : Type} (p : P α) : ∀ bs, bs.length + 2 ≤ F → A.run (A.ofP p) bs = P.run p bs :=
  fun bs _ => A.run_ofP p bs

theorem cond {c : Env → Prop} [DecidablePred c] (ha : Sim F a d) (hb : Sim F b d') :
    Sim F (fun e => if c e then a e else b e) (cond c d d') := by
  intro e bs hF
  simp only [RDec.cond]
  split
  · exact ha e bs hF
  · exact hb e bs hF

theorem bindLocal {n : String} {v : Int} (ha : Sim F a d) : Sim F (fun e => a (e.set n v)) (bindLocal n v d) :=
  fun e => ha (e.set n v)

theorem elems {f : String → Env → RA} {g : String → RDec} (hfg : ∀ q, Sim F (f q) (g q))
    (pfx name : String) : ∀ n i, Sim F (elemsA f pfx name i n) (Layout.readElems g pfx name i n)
  | 0, _ => .ret []
  | n + 1, i => (hfg _).andThen fun o1 => (elems hfg pfx name n (i + 1)).map (o1 ++ ·)

/-- `CheckCount` in front of a table's allocation refuses only counts the element loop would fail on -/
theorem need {n : Nat} (u : Nat) (ha : Sim F a d) (hc : ∀ e, A.ConsumesAtLeast (a e) n) :
    Sim F (fun e => .need n (.alloc u (a e))) d := by
  intro e bs hF
  rw [A.run_need_invisible (a := .alloc u (a e)) (hc e)]
  exact ha e bs hF

/-- a sub-stream is part of the blob it came in, so the bound holds for it too; the instrumented reader
    is charged what decoding it costs -/
theorem within {inner : Bytes} {k : Out → Env → RA} {kd : Out → RDec} (hi : inner.length + 2 ≤ F)
    (ha : Sim F a d) (hk : ∀ o, Sim F (k o) (kd o)) :
    Sim F (fun e => .alloc (A.cost (a e) inner)
      (match A.run (a e) inner with | none => .fail | some (x, _) => k x.1 x.2)) (within inner d kd) := by
  intro e bs hF
  rw [A.run_alloc, ha e inner hi]
  simp only [RDec.within]
  cases d e inner with
  | none => rfl
  | some t => exact hk t.1 t.2.1 bs hF

/-- `if in.Available() == 0 { return }` -/
theorem atEnd (ha : Sim F a d) : Sim F (fun e => .avail0 (.pure ([], e)) (a e)) (atEnd d) := by
  intro e bs hF
  simp only [A.run, RDec.atEnd]
  split
  · next hb => rw [List.isEmpty_iff.mp hb]; rfl
  · exact ha e bs hF

end Sim

theorem run_decCount (F : Nat) (b : Int) : ∀ bs, bs.length + 2 ≤ F →
    A.run (A.ofP (if b ≤ 8 then Prim.decDecimalLen b.toNat else Prim.decDecimal)) bs = Layout.decCount b bs := by
  intro bs _
  rw [A.run_ofP]; unfold Layout.decCount; split <;> rfl

theorem run_toA (F : Nat) (l : L) (hok : costOK l = true) : ∀ pfx, Sim F (toA F l pfx) (l.read pfx) := by
  induction l with
  | nil => exact fun _ => .ret []
  | unknown w => exact fun _ => .fail
  | lit p v rest ih => exact ih hok
  | fld name p _ rest ih | kfld name p _ rest ih =>
    intro pfx
    simp only [Layout.read_kfld, Layout.read_fld]
    exact .prim (run_primA F p) fun v => (ih hok pfx).map ((pfx ++ name, v) :: ·)
  | key name p vn rest ih =>
    intro pfx; rw [Layout.read_key]
    exact .prim (run_primA F p) fun v => .bindLocal ((ih hok pfx).map ((pfx ++ name, v) :: ·))
  | skip p rest ih =>
    intro pfx; rw [Layout.read_skip]
    exact .prim (run_primA F p) fun _ => ih hok pfx
  | var name p rest ih =>
    intro pfx; rw [Layout.read_var]
    exact .prim (run_primA F p) fun v => .bindLocal (ih hok pfx)
  | guard c rest ih =>
    intro pfx; rw [Layout.read_guard]
    exact .cond .fail (ih hok pfx)
  | hdr rest ih =>
    intro pfx; rw [Layout.read_hdr]
    exact .prim (Sim.ofP _) fun h => (ih hok pfx).map (Layout.hdrOut pfx h ++ ·)
  | ite c t el rest iht ihe ihr =>
    simp only [costOK, Bool.and_eq_true] at hok
    intro pfx; rw [Layout.read_ite]
    exact .seq (.cond (iht hok.1.1 pfx) (ihe hok.1.2 pfx)) (ihr hok.2 pfx)
  | sub name body rest ihb ihr =>
    simp only [costOK, Bool.and_eq_true] at hok
    intro pfx; rw [Layout.read_sub]
    exact .seq (ihb hok.1 _) (ihr hok.2 pfx)
  | times n name body rest ihb ihr =>
    simp only [costOK, Bool.and_eq_true] at hok
    intro pfx; rw [Layout.read_times]
    exact .seq (.elems (ihb hok.1) pfx name _ 0) (ihr hok.2 pfx)
  | opt name body rest ihb ihr | mopt _ name body rest ihb ihr =>
    simp only [costOK, Bool.and_eq_true] at hok
    intro pfx
    simp only [Layout.read_mopt, Layout.read_opt]
    exact .prim (run_primA F .u8) fun flag =>
      .cond ((ihb hok.1 pfx).andThen fun o1 => (ihr hok.2 pfx).map fun o => (pfx ++ name ++ "?", Val.int 1) :: (o1 ++ o))
        ((ihr hok.2 pfx).map ((pfx ++ name ++ "?", Val.int 0) :: ·))
  | vopt vn name body rest ihb ihr =>
    simp only [costOK, Bool.and_eq_true] at hok
    intro pfx; rw [Layout.read_vopt]
    exact .prim (run_primA F .u8) fun flag =>
      .cond (.bindLocal ((ihb hok.1 pfx).andThen fun o1 =>
          (ihr hok.2 pfx).map fun o => (pfx ++ name ++ "?", Val.int 1) :: (o1 ++ o)))
        (.bindLocal ((ihr hok.2 pfx).map ((pfx ++ name ++ "?", Val.int 0) :: ·)))
  | vrep _ name body rest ihb ihr | mrep _ name body rest ihb ihr =>
    simp only [costOK, Bool.and_eq_true] at hok
    intro pfx
    simp only [Layout.read_mrep, Layout.read_vrep]
    exact .prim (run_primA F .u8) fun b =>
      .cond (.bindLocal ((ihr hok.2 pfx).map ((pfx ++ name ++ "#", Val.int 0) :: ·)))
        (.prim (run_decCount F b.toInt) fun k => .bindLocal ((Sim.elems (ihb hok.1) pfx name _ 0).andThen fun o1 =>
          (ihr hok.2 pfx).map fun o => (pfx ++ name ++ "#", Val.int k.toNat) :: (o1 ++ o)))
  | srep cnt body rest ihb ihr =>
    simp only [costOK, Bool.and_eq_true] at hok
    intro pfx; rw [Layout.read_srep]
    exact .prim (run_primA F cnt) fun k => (Sim.elems (ihb hok.1) pfx "" _ 0).andThen fun _ => ihr hok.2 pfx
  | rep cnt name body rest ihb ihr =>
    simp only [costOK, Bool.and_eq_true] at hok
    intro pfx; rw [Layout.read_rep]
    -- every element begins with a read (`reads1`), so `k` elements take `k` bytes
    exact .prim (run_primA F cnt) fun k => .need _
      ((Sim.elems (ihb hok.1.2) pfx name _ 0).andThen fun o1 =>
        (ihr hok.2 pfx).map fun o => (pfx ++ name ++ "#", Val.int k.toInt.toNat) :: (o1 ++ o))
      fun e => (elemsA_consumes _ (toA_consumes F body hok.1.1) pfx name _ 0 e).bind fun _ => .zero _
  | avail body ih =>
    intro pfx; rw [Layout.read_avail]
    exact .atEnd (ih hok pfx)
  | wrap body rest ihb ihr =>
    simp only [costOK, Bool.and_eq_true] at hok
    intro pfx e bs hF
    rw [Layout.read_wrap]
    simp only [toA, A.run_bind, A.run_ofP, RDec.prim]
    cases h1 : P.run Prim.decBlob bs with
    | none => rfl
    | some t =>
      have hp := decBlob_payload bs t.1 t.2 h1
      exact Sim.within (by omega) (ihb hok.1 pfx) (fun o1 => (ihr hok.2 pfx).map (o1 ++ ·)) e t.2 (by omega)

end FailClosed
