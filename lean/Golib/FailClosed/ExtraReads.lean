/-
  Golib.FailClosed.ExtraReads — the fixed-width readers of `DataInputX` that no writer-side program
  of `Prim.Op` reaches: `ReadShortLittle`, `ReadUnsignedShortLittle`, `ReadIntLittle`,
  `ReadUintLittle`, `ReadUnsignedInt`, `ReadUShort` and `ReadDecimalLen(sz)` (the width is the
  caller's: 0 → nothing read, 1,2,3,4,5 → that many bytes, anything else → 8).

  Each is one `ReadBytes(w)` followed by a pure conversion, so it is a one-node `P` program;
  `run_rd` is the whole behaviour: it fails exactly when fewer than `w` bytes are there, consumes
  exactly `w` bytes, and its value is a function of those `w` bytes alone (no byte that is not in
  the input, no byte beyond the `w`-th).  `run_rdAll` lifts this to programs of such reads.
-/
import Golib.Prim.Ops

namespace FailClosed.Extra
open Prim

inductive K where
  | shortLE | ushortLE | intLE | uintLE | uint | ushort
  | decLen (sz : Nat)
deriving DecidableEq, Repr

def decWidth (sz : Nat) : Nat :=
  if sz = 0 then 0 else if sz ≤ 5 then sz else 8

def width : K → Nat
  | .shortLE | .ushortLE | .ushort => 2
  | .intLE | .uintLE | .uint => 4
  | .decLen sz => decWidth sz

/-- the conversion applied to the `width k` bytes read -/
def val : K → Bytes → Int
  | .shortLE, bs => decILittle 2 bs
  | .ushortLE, bs => unleN bs
  | .intLE, bs => decILittle 4 bs
  | .uintLE, bs => unleN bs
  | .uint, bs => unbeN bs
  | .ushort, bs => unbeN bs
  | .decLen sz, bs => if sz = 0 then 0 else decI (decWidth sz) bs

def rd (k : K) : P Int := .read (width k) (fun bs => .pure (val k bs))

theorem run_rd (k : K) (bs : Bytes) :
    P.run (rd k) bs =
      if width k ≤ bs.length then some (val k (bs.take (width k)), bs.drop (width k)) else none := by
  unfold rd
  rw [P.run_read]
  rfl

def rdAll : List K → P (List Int)
  | [] => .pure []
  | k :: ks => P.bind (rd k) (fun v => P.bind (rdAll ks) (fun vs => .pure (v :: vs)))

def total (ks : List K) : Nat := (ks.map width).sum

/-- the values of a program of reads over `bs` (meaningful when `total ks ≤ bs.length`) -/
def vals : List K → Bytes → List Int
  | [], _ => []
  | k :: ks, bs => val k (bs.take (width k)) :: vals ks (bs.drop (width k))

theorem run_rdAll (ks : List K) (bs : Bytes) :
    P.run (rdAll ks) bs =
      if total ks ≤ bs.length then some (vals ks bs, bs.drop (total ks)) else none := by
  induction ks generalizing bs with
  | nil => simp [rdAll, total, vals]
  | cons k ks ih =>
    simp only [rdAll, total, List.map_cons, List.sum_cons, vals]
    rw [P.run_bind, run_rd]
    by_cases h1 : width k ≤ bs.length
    · rw [if_pos h1]
      simp only []
      rw [P.run_bind, ih]
      have hl : (bs.drop (width k)).length = bs.length - width k := List.length_drop
      by_cases h2 : total ks ≤ (bs.drop (width k)).length
      · rw [if_pos h2]
        have : width k + (ks.map width).sum ≤ bs.length := by unfold total at h2; omega
        rw [if_pos this]
        simp only [P.run_pure, List.drop_drop]
        unfold total
        rfl
      · rw [if_neg h2]
        have : ¬ width k + (ks.map width).sum ≤ bs.length := by unfold total at h2; omega
        rw [if_neg this]
    · rw [if_neg h1]
      have : ¬ width k + (ks.map width).sum ≤ bs.length := by omega
      rw [if_neg this]

end FailClosed.Extra
