/-
  Golib.FailClosed.Tail — the one documented exception to prefix failure.

  `SMBasePack.Read` ends with

      if din.Available() == 0 { return }          -- message written by an older agent
      if din.ReadByte() > 0 { this.Extra = value.ReadMapValue(din) }

  i.e. the format *defines* the message without the tail as a complete older version.
  `withTail a old t` is that shape: decode the body `a`; if the input has ended return the
  older-version object `old x`, otherwise decode the tail `t x`.

  `older_version_only`: among the strict prefixes of a complete new-version message the only one
  that decodes is the complete older-version message, and it decodes to the older-version object.
-/
import Golib.FailClosed.Alloc

namespace FailClosed
namespace A

def withTail (a : A α) (old : α → β) (t : α → A β) : A β :=
  bind a (fun x => .avail0 (.pure (old x)) (t x))

/-- **older_version_only**: if `q ++ s` is a complete newer-version message (`s ≠ []`) and the
    strict prefix `q` decodes at all, then `q` is a complete older-version message (the body
    decoder consumes exactly `q`) and the result is the older-version object -/
theorem older_version_only (a : A α) (old : α → β) (t : α → A β)
    (ha : TailFree a) (ht : ∀ x, TailFree (t x))
    (q s : Bytes) (v v' : β) (r' : Bytes) (hs : s ≠ [])
    (hfull : run (withTail a old t) (q ++ s) = some (v, []))
    (hq : run (withTail a old t) q = some (v', r')) :
    r' = [] ∧ ∃ x, run a q = some (x, []) ∧ v' = old x := by
  unfold withTail at hfull hq
  rw [run_bind] at hq
  cases h1 : run a q with
  | none => rw [h1] at hq; simp at hq
  | some p =>
    obtain ⟨x, r1⟩ := p
    rw [h1] at hq
    simp only [run] at hq
    cases r1 with
    | nil =>
      simp only [List.isEmpty_nil, if_true, Option.some.injEq, Prod.mk.injEq] at hq
      exact ⟨hq.2.symm, x, rfl, hq.1.symm⟩
    | cons b r1 =>
      simp only [List.isEmpty_cons, Bool.false_eq_true, if_false] at hq
      have h2 := run_append a ha q s x _ h1
      rw [run_bind, h2] at hfull
      simp only [run, List.cons_append, List.isEmpty_cons, Bool.false_eq_true, if_false] at hfull
      have := prefix_fails (t x) (ht x) (b :: r1) s v hs (by simpa using hfull)
      rw [this] at hq
      simp at hq

end A

/-! non-vacuity: body = one byte, tail = a presence flag and one more byte -/
example :
    let d : A Nat := A.withTail (.read 1 (fun b => .pure (b.headD 0))) (fun x => x)
      (fun x => .read 1 (fun fl => if fl.headD 0 > 0 then .read 1 (fun e => .pure (x + 256 * e.headD 0)) else .pure x))
    A.run d [7, 1, 2] = some (519, []) ∧      -- the complete newer-version message
    A.run d [7, 1] = none ∧                   -- a strict prefix inside the tail: fails
    A.run d [7] = some (7, []) ∧              -- the complete older-version message
    A.run d [] = none := by
  decide

end FailClosed
