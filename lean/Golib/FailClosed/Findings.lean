/-
  Golib.FailClosed.Findings — what the code *as found* does (witnesses for D01 and D02),
  evaluated on the as-found semantics `runF` / `costF` of Golib.FailClosed.Alloc.
-/
import Golib.FailClosed.ValueArms

namespace FailClosed
open Prim Value

/-! ### D01 — a short read is answered with zero padding -/

/-- `ReadLong()` over the three bytes `01 02 03`: the repaired reader refuses (as found it returns
    0x0102030000000000, `C04.finding_D01`) -/
theorem d01_readLong_strict : A.run (A.ofP (rdI 8)) [1, 2, 3] = none := by decide +kernel

/-- a truncated value: `DecimalValue` tag, width 4, two of four bytes -/
def decOf : Value → Option Int
  | .dec v => some v
  | _ => none

theorem d01_value_padded :
    (A.runF (decVA false 3) [20, 4, 1, 2] false).map (fun p => (decOf p.1, p.2)) =
      some (some 16908288, []) := by decide +kernel

theorem d01_value_strict : (A.run (decVA true 3) [20, 4, 1, 2]).isNone = true := by decide +kernel

/-! ### D02 — allocation sized by a field of the input, before any availability check -/

/-- `ReadBlob` on `fe 7f ff ff ff`: as found `make([]byte, 0x7fffffff)` for a 5-byte input -/
theorem d02_blob_repaired : A.cost (A.ofP decBlob) [254, 127, 255, 255, 255] = 5 := by
  decide +kernel

/-- `ListValue.Read`: list tag, count 2^31-1 as a 4-byte decimal — as found 32 GiB for a 6-byte input -/
theorem d02_list_repaired : A.cost (decVA true 7) [70, 4, 127, 255, 255, 255] = 54 := by
  decide +kernel

/-- `ReadTextArray`: count 32767 — 512 KiB of string headers for a 3-byte input; with the repaired
    `ReadBytes` but without the count guard the allocation is still made -/
theorem d02_textArray_asFound : A.costF (decVA false 3) [73, 127, 255] false = 524324 := by
  decide +kernel

theorem d02_textArray_repaired : A.cost (decVA true 3) [73, 127, 255] = 51 := by decide +kernel

end FailClosed
