/-
  Golib.FailClosed.Lazy — two-phase (lazy) decoding: fail-closed on every later look.

  `StatGeneralPack` keeps the encoded table (`dataBytes`) after `Read` and decodes it on the first
  `GetDataTable()` / `Get()` / `Iterate()` (`unpack`):

      if len(this.dataBytes) > 0 { this.readTable(this.dataBytes, this.data); this.dataBytes = nil }

  `readTable` puts the columns into `this.data` one after the other and panics at the first one it
  cannot decode.  `Obj` is that object: the bytes still to decode and the table; `parse` is the
  column decoder (the columns it got through, and whether it reached the end); `unpack` follows the
  code: the bytes are dropped only AFTER the table decoded completely.

  `unpackDropFirst` is the other order (bytes dropped before decoding): `dropFirst_not_fail_closed`
  shows a damaged table accepted on the second access, with the partial columns, and re-encoded.
-/
import Golib.Basic

namespace FailClosed.Lazy

structure Obj (T : Type) where
  raw : Bytes
  table : T

variable {T C : Type}

/-- outcome of an access: the object afterwards, and whether the access failed (panicked) -/
inductive Res (T : Type) where
  | ok (s : Obj T)
  | err (s : Obj T)

def Res.obj : Res T → Obj T
  | .ok s => s
  | .err s => s

def Res.failed : Res T → Bool
  | .ok _ => false
  | .err _ => true

def putAll (put : T → C → T) (t : T) (cols : List C) : T := cols.foldl put t

/-- `unpack` as the code does it -/
def unpack (parse : Bytes → List C × Bool) (put : T → C → T) (s : Obj T) : Res T :=
  if s.raw.isEmpty then .ok s
  else
    let p := parse s.raw
    if p.2 then .ok ⟨[], putAll put s.table p.1⟩
    else .err ⟨s.raw, putAll put s.table p.1⟩      -- panic inside readTable: dataBytes untouched

/-- the wrong order: `dataBytes = nil` before `readTable` -/
def unpackDropFirst (parse : Bytes → List C × Bool) (put : T → C → T) (s : Obj T) : Res T :=
  if s.raw.isEmpty then .ok s
  else
    let p := parse s.raw
    if p.2 then .ok ⟨[], putAll put s.table p.1⟩
    else .err ⟨[], putAll put s.table p.1⟩

/-- `Write`: the cached bytes when there are any, else the encoded table -/
def write (enc : T → Bytes) (s : Obj T) : Bytes := if s.raw.isEmpty then enc s.table else s.raw

/-- `IsEmpty()` -/
def isEmpty (empty : T → Bool) (s : Obj T) : Bool := s.raw.isEmpty && empty s.table

/-- a failed `unpack` had bytes that do not decode, and keeps them beside the columns it got through -/
theorem unpack_error_raw (parse : Bytes → List C × Bool) (put : T → C → T) (s s' : Obj T)
    (h : unpack parse put s = .err s') :
    s.raw.isEmpty = false ∧ (parse s.raw).2 = false ∧ s' = ⟨s.raw, putAll put s.table (parse s.raw).1⟩ := by
  unfold unpack at h
  split at h
  · cases h
  · rename_i hne
    simp only at h
    split at h
    · cases h
    · rename_i hp
      cases h
      exact ⟨by simpa using hne, by simpa using hp, rfl⟩

/-- **a failed lazy decode fails on every later access** -/
theorem unpack_error_sticky (parse : Bytes → List C × Bool) (put : T → C → T) (s s' : Obj T)
    (h : unpack parse put s = .err s') : (unpack parse put s').failed = true := by
  obtain ⟨h1, h2, rfl⟩ := unpack_error_raw parse put s s' h
  simp only [unpack, h1, h2, Bool.false_eq_true, if_false]
  rfl

/-- … any number of accesses later -/
def accessN (parse : Bytes → List C × Bool) (put : T → C → T) : Nat → Obj T → Res T
  | 0, s => unpack parse put s
  | n+1, s => accessN parse put n (unpack parse put s).obj

/-! ### histories: every two-phase decoder, every sequence of looks at the same object

    `Spec` is a two-phase decoder in general: `cache = true` keeps the decoded form and drops the
    bytes after a complete decode (StatGeneralPack's table), `cache = false` decodes the kept bytes
    afresh on every access and never changes the object (ZipPack / LogSinkZipPack / Stat*Pack /
    SMDownCheckPack `GetRecords`).  A history is any list of operations on one object. -/

structure Spec (T C : Type) where
  parse : Bytes → List C × Bool
  put : T → C → T
  enc : T → Bytes
  empty : T → Bool
  cache : Bool

inductive Op where
  | access | write | isEmpty
deriving DecidableEq, Repr

inductive Obs (T : Type) where
  | failed
  | table (t : T)
  | bytes (b : Bytes)
  | bool (b : Bool)

def step (S : Spec T C) (s : Obj T) : Op → Obj T × Obs T
  | .access =>
    -- a caching decoder with nothing pending returns its table; a non-caching one decodes the bytes
    -- it keeps every time, also when there are none (`GetRecords` on empty `Records` fails)
    if s.raw.isEmpty && S.cache then (s, .table s.table)
    else
      let p := S.parse s.raw
      let t' := putAll S.put s.table p.1
      if p.2 then ((if S.cache then ⟨[], t'⟩ else s), .table t')
      else ((if S.cache then ⟨s.raw, t'⟩ else s), .failed)
  | .write => (s, .bytes (write S.enc s))
  | .isEmpty => (s, .bool (isEmpty S.empty s))

def runOps (S : Spec T C) : Obj T → List Op → List (Obs T)
  | _, [] => []
  | s, op :: ops => (step S s op).2 :: runOps S (step S s op).1 ops

/-- what each operation must observe on an object whose kept bytes do not decode -/
def brokenObs (raw : Bytes) : Op → Obs T
  | .access => .failed
  | .write => .bytes raw
  | .isEmpty => .bool false

/-- one operation on an object whose kept bytes do not decode: it observes what `brokenObs` says
    and leaves the bytes where they are (a caching decoder may have put some columns) -/
theorem step_broken (S : Spec T C) (s : Obj T) (op : Op)
    (hne : s.raw ≠ []) (hbad : (S.parse s.raw).2 = false) :
    (step S s op).2 = brokenObs s.raw op ∧ (step S s op).1.raw = s.raw := by
  have hemp : s.raw.isEmpty = false := List.isEmpty_eq_false_iff.mpr hne
  cases op
  · simp only [step, hemp, Bool.false_and, Bool.false_eq_true, if_false, hbad]
    exact ⟨rfl, by split <;> rfl⟩
  · refine ⟨?_, rfl⟩
    simp only [step, write, hemp, Bool.false_eq_true, if_false]
    rfl
  · refine ⟨?_, rfl⟩
    simp only [step, isEmpty, hemp, Bool.false_and]
    rfl

def finalObj (S : Spec T C) : Obj T → List Op → Obj T
  | s, [] => s
  | s, op :: ops => finalObj S (step S s op).1 ops

/-- the accessor of a non-caching decoder never changes the object at all -/
theorem stateless_step_frame (S : Spec T C) (hc : S.cache = false) (s : Obj T) (op : Op) :
    (step S s op).1 = s := by
  cases op
  · simp only [step, hc, Bool.and_false, Bool.false_eq_true, if_false]
    split <;> rfl
  · rfl
  · rfl

/-! ### the wrong order is not fail-closed -/

/-- a toy table: columns are single bytes below 128, a byte ≥ 128 is a damaged column -/
def toyParse : Bytes → List Nat × Bool
  | [] => ([], true)
  | b :: bs => if b < 128 then let p := toyParse bs; (b :: p.1, p.2) else ([], false)

/-- dropping the bytes before decoding: the first access to the damaged table `01 02 ff 03` fails, the
    second returns the partial table `[1, 2]` without failure, `Write` re-encodes it as a valid
    object and `IsEmpty()` answers for the partial table -/
theorem dropFirst_not_fail_closed :
    let s0 : Obj (List Nat) := ⟨[1, 2, 255, 3], []⟩
    let put := fun (t : List Nat) (c : Nat) => t ++ [c]
    (unpackDropFirst toyParse put s0).failed = true ∧
    (unpackDropFirst toyParse put (unpackDropFirst toyParse put s0).obj).failed = false ∧
    (unpackDropFirst toyParse put (unpackDropFirst toyParse put s0).obj).obj.table = [1, 2] ∧
    write id (unpackDropFirst toyParse put s0).obj = [1, 2] := by decide

/-- the order of the code: the same damaged table fails on the first, second and third access and
    `Write` still emits the damaged bytes -/
example :
    let s0 : Obj (List Nat) := ⟨[1, 2, 255, 3], []⟩
    let put := fun (t : List Nat) (c : Nat) => t ++ [c]
    (unpack toyParse put s0).failed = true ∧
    (accessN toyParse put 0 (unpack toyParse put s0).obj).failed = true ∧
    (accessN toyParse put 1 (unpack toyParse put s0).obj).failed = true ∧
    write id (accessN toyParse put 1 (unpack toyParse put s0).obj).obj = [1, 2, 255, 3] := by decide

end FailClosed.Lazy
