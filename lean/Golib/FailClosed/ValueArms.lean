/-
  Golib.FailClosed.ValueArms — the arms of `decVA` by kind, and what follows from them by kind.

  What follows the type byte of a value is a primitive reader under a constructor, an array reader,
  or the count and the loop of one of the three containers (`Arm`).  A fact about the syntax of the
  instrumented decoder goes through `decVA_succ` and has one case per kind: `free_decVA_all` (which
  input-inspecting nodes occur) and `paid_decVA_all` (the allocation bound of the repaired decoder).
  Only `run_decVA_all` (Golib.FailClosed.ValueACorrect), which compares `decVA` with the program
  `Value.decP` arm by arm, takes the `match` apart itself.

  The bound: every decoded value leaves `slot` units of slack (its own type byte pays for the slot it
  will occupy in the list or map that contains it), so it is linear in the input whatever the nesting:
  `cost (decVA true f) bs ≤ 1280 · |bs|`.  The type byte has to pay for what the constructor allocates
  (`objUnits`, at most 1088) and for the slot (96): any rate from 1185 on would do, 1280 is a round figure.
-/
import Golib.FailClosed.ValueA
namespace FailClosed
open Prim Value

inductive Arm (fx : Bool) (f : Nat) : A Value → Prop
  | prog (p : P Value) : Arm fx f (A.ofP p)
  | leaf {β : Type} (g : β → Value) (p : P β) : Arm fx f (A.map g (A.ofP p))
  | arr {β : Type} (g : List β → Value) (w w' n : Nat) (k : Bytes → P β) (hw : 1 ≤ w) (hw' : w' ≤ 16 * w)
      (hn : w ≤ n) : Arm fx f (A.map g (arrA fx w w' (.read n k)))
  | list : Arm fx f (A.bind (A.ofP decDecimal) (fun n =>
      if n < 0 then .fail
      else if fx then A.map Value.list (decVsA fx f n.toNat [])
      else .alloc (16 * n.toNat) (A.map Value.list (decVsA fx f n.toNat []))))
  | map : Arm fx f (A.bind (A.ofP decDecimal) (fun n => A.map Value.map (decKVsA fx f n.toNat [])))
  | imap : Arm fx f (A.bind (A.ofP decDecimal) (fun n => A.map Value.imap (decIKVsA fx f n.toNat [])))

theorem decVA_succ (fx : Bool) (f : Nat) : ∃ body : Bytes → A Value,
    decVA fx (f + 1) = .read 1 (fun t => .alloc (objUnits (t.headD 0)) (body t)) ∧ ∀ t, Arm fx f (body t) := by
  refine ⟨_, by rw [decVA], fun t => ?_⟩
  split
  case h_1 => exact .prog (.pure .null)
  case h_8 | h_9 => exact .prog _
  case h_15 | h_16 | h_17 | h_18 => exact .arr _ _ _ _ _ (by omega) (by omega) (by omega)
  case h_14 => exact .list
  case h_19 => exact .map
  case h_20 => exact .imap
  case h_21 => exact .prog .fail
  all_goals exact .leaf _ _

/-- neither variant asks whether the input has ended, and the code as found (`fx = false`) has no guard -/
theorem free_decVA_all (fx : Bool) (f : Nat) :
    A.Free fx (decVA fx f) ∧
    (∀ c acc, A.Free fx (decVsA fx f c acc)) ∧
    (∀ c acc, A.Free fx (decKVsA fx f c acc)) ∧
    (∀ c acc, A.Free fx (decIKVsA fx f c acc)) := by
  induction f with
  | zero =>
    refine ⟨.fail, fun c acc => ?_, fun c acc => ?_, fun c acc => ?_⟩ <;> cases c
    all_goals first | exact .pure _ | exact .fail
  | succ f ih =>
    obtain ⟨ihV, ihVs, ihK, ihI⟩ := ih
    refine ⟨?_, fun c acc => ?_, fun c acc => ?_, fun c acc => ?_⟩
    · obtain ⟨body, hd, hb⟩ := decVA_succ fx f
      rw [hd]
      refine .read _ _ fun t => .alloc _ _ ?_
      have h := hb t
      generalize body t = a at h ⊢
      cases h with
      | prog p => exact A.free_ofP _ _
      | leaf g p => exact A.free_map _ _ (A.free_ofP _ _)
      | arr g w w' n k => exact A.free_map _ _ (free_arrA _ _ _ _)
      | list =>
        refine A.free_bind _ _ (A.free_ofP _ _) fun n => ?_
        split
        · exact .fail
        · split
          · exact A.free_map _ _ (ihVs _ _)
          · exact .alloc _ _ (A.free_map _ _ (ihVs _ _))
      | map => exact A.free_bind _ _ (A.free_ofP _ _) fun n => A.free_map _ _ (ihK _ _)
      | imap => exact A.free_bind _ _ (A.free_ofP _ _) fun n => A.free_map _ _ (ihI _ _)
    · cases c with
      | zero => exact .pure _
      | succ c => exact A.free_bind _ _ ihV fun x => .alloc _ _ (ihVs _ _)
    · cases c with
      | zero => exact .pure _
      | succ c => exact A.free_bind _ _ (A.free_ofP _ _) fun k => A.free_bind _ _ ihV fun x => .alloc _ _ (ihK _ _)
    · cases c with
      | zero => exact .pure _
      | succ c => exact A.free_bind _ _ (A.free_ofP _ _) fun k => A.free_bind _ _ ihV fun x => .alloc _ _ (ihI _ _)

theorem paid_decVA_all (f : Nat) :
    Paid 1280 slot (decVA true f) ∧
    (∀ c acc, Paid 1280 0 (decVsA true f c acc)) ∧
    (∀ c acc, Paid 1280 0 (decKVsA true f c acc)) ∧
    (∀ c acc, Paid 1280 0 (decIKVsA true f c acc)) := by
  induction f with
  | zero =>
    refine ⟨paid_fail _ _, fun c acc => ?_, fun c acc => ?_, fun c acc => ?_⟩ <;> cases c
    all_goals first | exact paid_pure _ _ | exact paid_fail _ _
  | succ f ih =>
    obtain ⟨ihV, ihVs, ihK, ihI⟩ := ih
    have h0 {β : Type} (p : P β) : Paid 1280 0 (A.ofP p) := paid_ofP0 p (by omega)
    refine ⟨?_, fun c acc => ?_, fun c acc => ?_, fun c acc => ?_⟩
    · obtain ⟨body, hd, hb⟩ := decVA_succ true f
      rw [hd]
      -- the type byte pays for what the constructor allocates (≤ 1088) and for the slot the value will occupy
      refine paid_read_alloc (c := 1280) (U := 1088) 1 _ _ (by omega)
        (fun b => by unfold objUnits; split <;> omega) (by unfold slot; omega) fun t => ?_
      have h := hb t
      generalize body t = a at h ⊢
      cases h with
      | prog p => exact h0 p
      | leaf g p => exact paid_map _ (h0 p)
      | arr g w w' n k hw hw' hn =>
        exact paid_map _ (paid_arrA _ _ _ (by omega) (by omega) fun bs v r h => by
          have := consumes_read _ _ bs v r h; omega)
      | list =>
        refine paid_bind (h0 _) fun n => ?_
        split
        · exact paid_fail _ _
        · exact paid_map _ (ihVs _ _)
      | map => exact paid_bind (h0 _) fun n => paid_map _ (ihK _ _)
      | imap => exact paid_bind (h0 _) fun n => paid_map _ (ihI _ _)
    · cases c with
      | zero => exact paid_pure _ _
      | succ c => exact paid_bind_alloc ihV fun x => ihVs _ _
    · cases c with
      | zero => exact paid_pure _ _
      | succ c => exact paid_bind (h0 _) fun k => paid_bind_alloc ihV fun x => ihK _ _
    · cases c with
      | zero => exact paid_pure _ _
      | succ c => exact paid_bind (h0 _) fun k => paid_bind_alloc ihV fun x => ihI _ _

theorem paid_decVA (f : Nat) : Paid 1280 slot (decVA true f) := (paid_decVA_all f).1

end FailClosed
