/-
  Golib.FailClosed.Alloc — the instrumented decoder syntax `A` (property C04).

  `A α` extends the decoder syntax `P` of Golib.Basic by the three other things a Go decoder of
  /repo does with its input stream besides asking for the next `n` bytes:

  * `alloc u rest`  – `make(…, k)` ahead of reading (`u` = bytes requested from the allocator),
  * `need n rest`   – a guard `if n > Available() { panic }` (the repaired code),
  * `avail0 e t`    – `if din.Available() == 0 { e } else { t }` (SMBasePack: the tail added by a
                      newer version of the format).

  Two semantics are given:

  * `run` / `cost`   – the repaired `io.DataInputX.ReadBytes`: a read of `n` bytes fails when fewer
                       than `n` remain, and allocates its `n` bytes only after that check;
  * `runF` / `costF` – `ReadBytes` *as found*: `make([]byte, n)` first, then `bytes.Buffer.Read`,
                       whose short read (0 < remaining < n) is not an error — the caller gets the
                       remaining bytes followed by zeros (candidate defect D01), and the allocation is
                       charged whether or not the bytes exist (D02).  `Available()` is
                       `bufsize - offset` with `offset += n` on every read, so after a short read it is
                       negative: the flag `over` records that.

  `cost` counts allocation units: `n` per `ReadBytes(n)` performed, `u` per `alloc u`.
-/
import Golib.Basic

namespace FailClosed

inductive A (α : Type) where
  | pure : α → A α
  | fail : A α
  | read : (n : Nat) → (Bytes → A α) → A α
  | alloc : (units : Nat) → A α → A α
  | need : (n : Nat) → A α → A α
  | avail0 : A α → A α → A α

/-- what the as-found `ReadBytes(n)` hands back on a short read: the bytes that are there, then zeros -/
def pad (n : Nat) (bs : Bytes) : Bytes := bs.take n ++ List.replicate (n - bs.length) 0

theorem pad_length (n : Nat) (bs : Bytes) : (pad n bs).length = n := by
  unfold pad
  simp only [List.length_append, List.length_take, List.length_replicate]
  omega

namespace A

def run : A α → Bytes → Option (α × Bytes)
  | .pure a, bs => some (a, bs)
  | .fail, _ => none
  | .read n k, bs => if hasAtLeast n bs then run (k (bs.take n)) (bs.drop n) else none
  | .alloc _ rest, bs => run rest bs
  | .need n rest, bs => if hasAtLeast n bs then run rest bs else none
  | .avail0 e t, bs => if bs.isEmpty then run e bs else run t bs

def cost : A α → Bytes → Nat
  | .pure _, _ => 0
  | .fail, _ => 0
  | .read n k, bs => if hasAtLeast n bs then n + cost (k (bs.take n)) (bs.drop n) else 0
  | .alloc u rest, bs => u + cost rest bs
  | .need n rest, bs => if hasAtLeast n bs then cost rest bs else 0
  | .avail0 e t, bs => if bs.isEmpty then cost e bs else cost t bs

/-! ### the reader as found (`over` = a short read has happened, `Available()` is negative) -/

def runF : A α → Bytes → Bool → Option (α × Bytes)
  | .pure a, bs, _ => some (a, bs)
  | .fail, _, _ => none
  | .read n k, bs, over =>
    if n == 0 then runF (k []) bs over            -- Buffer.Read(empty slice) = (0, nil), always
    else if bs.isEmpty then none                   -- io.EOF → panic "WA003-01"
    else runF (k (pad n bs)) (bs.drop n) (over || !hasAtLeast n bs)
  | .alloc _ rest, bs, over => runF rest bs over
  | .need n rest, bs, over => if !over && hasAtLeast n bs then runF rest bs over else none
  | .avail0 e t, bs, over => if !over && bs.isEmpty then runF e bs over else runF t bs over

def costF : A α → Bytes → Bool → Nat
  | .pure _, _, _ => 0
  | .fail, _, _ => 0
  | .read n k, bs, over =>
    n + (if n == 0 then costF (k []) bs over       -- `make([]byte, n)` comes first
         else if bs.isEmpty then 0
         else costF (k (pad n bs)) (bs.drop n) (over || !hasAtLeast n bs))
  | .alloc u rest, bs, over => u + costF rest bs over
  | .need n rest, bs, over => if !over && hasAtLeast n bs then costF rest bs over else 0
  | .avail0 e t, bs, over => if !over && bs.isEmpty then costF e bs over else costF t bs over

def bind : A α → (α → A β) → A β
  | .pure a, f => f a
  | .fail, _ => .fail
  | .read n k, f => .read n (fun bs => bind (k bs) f)
  | .alloc u rest, f => .alloc u (bind rest f)
  | .need n rest, f => .need n (bind rest f)
  | .avail0 e t, f => .avail0 (bind e f) (bind t f)

def map (f : α → β) (a : A α) : A β := bind a (fun x => .pure (f x))

/-- a `P` program is an `A` program without allocations, guards or tails -/
def ofP : P α → A α
  | .pure a => .pure a
  | .fail => .fail
  | .read n k => .read n (fun bs => ofP (k bs))

/-- forget allocations and guards (for `avail0` the newer-version branch is kept) -/
def toP : A α → P α
  | .pure a => .pure a
  | .fail => .fail
  | .read n k => .read n (fun bs => toP (k bs))
  | .alloc _ rest => toP rest
  | .need _ rest => toP rest
  | .avail0 _ t => toP t

/-- no `avail0` node: the decoder never asks whether the input has ended -/
inductive TailFree : A α → Prop
  | pure (a : α) : TailFree (.pure a)
  | fail : TailFree .fail
  | read (n : Nat) (k : Bytes → A α) (h : ∀ bs, TailFree (k bs)) : TailFree (.read n k)
  | alloc (u : Nat) (rest : A α) (h : TailFree rest) : TailFree (.alloc u rest)
  | need (n : Nat) (rest : A α) (h : TailFree rest) : TailFree (.need n rest)

@[simp] theorem run_pure (a : α) (bs : Bytes) : run (.pure a) bs = some (a, bs) := rfl
@[simp] theorem run_fail (bs : Bytes) : run (.fail : A α) bs = none := rfl
@[simp] theorem cost_pure (a : α) (bs : Bytes) : cost (.pure a) bs = 0 := rfl
@[simp] theorem cost_fail (bs : Bytes) : cost (.fail : A α) bs = 0 := rfl
@[simp] theorem run_alloc (u : Nat) (r : A α) (bs : Bytes) : run (.alloc u r) bs = run r bs := rfl
@[simp] theorem cost_alloc (u : Nat) (r : A α) (bs : Bytes) :
    cost (.alloc u r) bs = u + cost r bs := rfl

theorem run_need (n : Nat) (r : A α) (bs : Bytes) :
    run (.need n r) bs = if n ≤ bs.length then run r bs else none := by
  simp only [run, hasAtLeast_iff]

theorem cost_need (n : Nat) (r : A α) (bs : Bytes) :
    cost (.need n r) bs = if n ≤ bs.length then cost r bs else 0 := by
  simp only [cost, hasAtLeast_iff]

theorem run_read (n : Nat) (k : Bytes → A α) (bs : Bytes) :
    run (.read n k) bs = if n ≤ bs.length then run (k (bs.take n)) (bs.drop n) else none := by
  simp only [run, hasAtLeast_iff]

theorem cost_read (n : Nat) (k : Bytes → A α) (bs : Bytes) :
    cost (.read n k) bs = if n ≤ bs.length then n + cost (k (bs.take n)) (bs.drop n) else 0 := by
  simp only [cost, hasAtLeast_iff]

theorem run_read1_cons (k : Bytes → A α) (b : Nat) (r : Bytes) :
    run (.read 1 k) (b :: r) = run (k [b]) r := by
  simp [run_read]

-- the cases of `fun_induction run a bs`, here and below: 1 pure, 2 fail, 3 / 4 read with / without the bytes
-- there, 5 alloc, 6 / 7 need passed / refused, 8 / 9 avail0 at the end of the input / before it
theorem run_bind (a : A α) (f : α → A β) (bs : Bytes) :
    run (bind a f) bs = match run a bs with | none => none | some (x, r) => run (f x) r := by
  fun_induction run a bs with
  | case1 | case2 => rfl
  | case3 n k bs hn ih | case6 n k bs hn ih | case8 n k bs hn ih | case9 n k bs hn ih =>
    simp only [bind, run, hn, if_true]; exact ih
  | case4 n k bs hn | case7 n k bs hn => simp [bind, run, hn]
  | case5 u rest bs ih => exact ih

theorem cost_bind (a : A α) (f : α → A β) (bs : Bytes) :
    cost (bind a f) bs =
      cost a bs + match run a bs with | none => 0 | some (x, r) => cost (f x) r := by
  fun_induction run a bs with
  | case1 | case2 => simp [bind, cost]
  | case3 n k bs hn ih => simp only [bind, cost, hn, if_true]; rw [ih, Nat.add_assoc]
  | case4 n k bs hn | case7 n k bs hn => simp [bind, cost, hn]
  | case5 u rest bs ih => simp only [bind, cost]; rw [ih, Nat.add_assoc]
  | case6 n k bs hn ih | case8 n k bs hn ih | case9 n k bs hn ih =>
    simp only [bind, cost, hn, if_true]; exact ih

theorem run_bind_some (a : A α) (f : α → A β) (bs r : Bytes) (x : α)
    (h : run a bs = some (x, r)) : run (bind a f) bs = run (f x) r := by
  rw [run_bind, h]

theorem run_bind_none (a : A α) (f : α → A β) (bs : Bytes)
    (h : run a bs = none) : run (bind a f) bs = none := by
  rw [run_bind, h]

theorem run_map (f : α → β) (a : A α) (bs : Bytes) :
    run (map f a) bs = (run a bs).map (fun (x, r) => (f x, r)) := by
  unfold map
  rw [run_bind]
  cases run a bs with
  | none => rfl
  | some p => obtain ⟨x, r⟩ := p; rfl

theorem cost_map (f : α → β) (a : A α) (bs : Bytes) : cost (map f a) bs = cost a bs := by
  unfold map
  rw [cost_bind]
  cases run a bs with
  | none => rfl
  | some p => obtain ⟨x, r⟩ := p; simp

theorem run_ofP (p : P α) (bs : Bytes) : run (ofP p) bs = P.run p bs := by
  induction p generalizing bs with
  | pure a => rfl
  | fail => rfl
  | read n k ih =>
    simp only [ofP, run, P.run]
    split
    · exact ih _ _
    · rfl

theorem toP_ofP (p : P α) : toP (ofP p) = p := by
  induction p with
  | pure a => rfl
  | fail => rfl
  | read n k ih => simp only [ofP, toP]; congr 1; funext bs; exact ih bs

theorem ofP_bind (p : P α) (f : α → P β) :
    ofP (P.bind p f) = bind (ofP p) (fun x => ofP (f x)) := by
  induction p with
  | pure a => rfl
  | fail => rfl
  | read n k ih => simp only [P.bind, ofP, bind]; congr 1; funext bs; exact ih bs

/-- a read of the repaired reader allocates exactly the bytes it consumes: a `P` program costs
    what it consumed when it succeeds and never more than the input when it fails -/
theorem cost_ofP (p : P α) (bs : Bytes) :
    match P.run p bs with
    | some (_, r) => cost (ofP p) bs + r.length = bs.length
    | none => cost (ofP p) bs ≤ bs.length := by
  fun_induction P.run p bs with
  | case1 | case2 => simp [ofP]
  | case3 n k bs hn ih =>
    have hl := (hasAtLeast_iff n bs).mp hn
    simp only [ofP, cost, hn, if_true]
    split <;> rename_i hr <;> rw [hr] at ih <;> simp only [List.length_drop] at ih <;> omega
  | case4 n k bs hn => simp [ofP, cost, hn]

/-- a tail-free decoder that succeeded does the same when more input follows -/
theorem run_append (a : A α) (ht : TailFree a) (q s : Bytes) (x : α) (r : Bytes)
    (h : run a q = some (x, r)) : run a (q ++ s) = some (x, r ++ s) := by
  induction ht generalizing q with
  | pure v => simp only [run, Option.some.injEq, Prod.mk.injEq] at h ⊢; exact ⟨h.1, by rw [h.2]⟩
  | fail => simp [run] at h
  | read n k _ ih =>
    rw [run_read] at h ⊢
    split at h
    · rename_i hn
      have hn' : n ≤ (q ++ s).length := by rw [List.length_append]; omega
      rw [if_pos hn', List.take_append_of_le_length hn, List.drop_append_of_le_length hn]
      exact ih _ _ h
    · simp at h
  | alloc u rest _ ih => exact ih q h
  | need n rest _ ih =>
    rw [run_need] at h ⊢
    split at h
    · rename_i hn
      have hn' : n ≤ (q ++ s).length := by rw [List.length_append]; omega
      rw [if_pos hn']; exact ih q h
    · simp at h

/-- **prefix failure** for every tail-free instrumented decoder: had the prefix decoded, the whole
    would have decoded the same way and left `s` over (`run_append`) -/
theorem prefix_fails (a : A α) (ht : TailFree a) (q s : Bytes) (v : α) (hs : s ≠ [])
    (h : run a (q ++ s) = some (v, [])) : run a q = none :=
  Stable1.prefix_fails (run_append a ht) hs h

/-- which nodes that look at the remaining input occur: never `avail0`, and `need` only if `g`
    (`g = false`: the stream path, where `CheckCount` is a no-op) -/
inductive Free (g : Bool) : A α → Prop
  | pure (a : α) : Free g (.pure a)
  | fail : Free g .fail
  | read (n : Nat) (k : Bytes → A α) (h : ∀ bs, Free g (k bs)) : Free g (.read n k)
  | alloc (u : Nat) (rest : A α) (h : Free g rest) : Free g (.alloc u rest)
  | need (n : Nat) (rest : A α) (hg : g = true) (h : Free g rest) : Free g (.need n rest)

theorem Free.tailFree {g : Bool} {a : A α} (h : Free g a) : TailFree a := by
  induction h with
  | pure a => exact .pure a
  | fail => exact .fail
  | read n k _ ih => exact .read n k ih
  | alloc u r _ ih => exact .alloc u r ih
  | need n r _ _ ih => exact .need n r ih

theorem free_ofP (g : Bool) (p : P α) : Free g (ofP p) := by
  induction p with
  | pure a => exact .pure a
  | fail => exact .fail
  | read n k ih => exact .read n _ ih

theorem free_bind {g : Bool} (a : A α) (f : α → A β) (ha : Free g a) (hf : ∀ x, Free g (f x)) :
    Free g (bind a f) := by
  induction ha with
  | pure x => exact hf x
  | fail => exact .fail
  | read n k _ ih => exact .read n _ ih
  | alloc u rest _ ih => exact .alloc u _ ih
  | need n rest hg _ ih => exact .need n _ hg ih

theorem free_map {g : Bool} (f : α → β) (a : A α) (ha : Free g a) : Free g (map f a) :=
  free_bind a _ ha (fun x => .pure (f x))

/-- without guards the program never looks at how much input remains: it is its `P` program -/
theorem run_eq_toP (a : A α) (h : Free false a) (bs : Bytes) : run a bs = P.run (toP a) bs := by
  induction h generalizing bs with
  | pure v => rfl
  | fail => rfl
  | read n k _ ih =>
    simp only [run, toP, P.run]
    split
    · exact ih _ _
    · rfl
  | alloc u rest _ ih => exact ih bs
  | need n rest hg => cases hg

theorem run_length_le (a : A α) (bs : Bytes) (v : α) (r : Bytes) (h : run a bs = some (v, r)) :
    r.length ≤ bs.length := by
  fun_induction run a bs with
  | case1 x bs => cases h; exact Nat.le_refl _
  | case2 | case4 | case7 => cases h
  | case3 n k bs _ ih => have := ih h; rw [List.length_drop] at this; omega
  | case5 _ _ _ ih | case6 _ _ _ _ ih | case8 _ _ _ _ ih | case9 _ _ _ _ ih => exact ih h

/-- every successful run of `a` consumes at least `w` bytes (`Prim.ConsumesAtLeast`, for instrumented decoders) -/
def ConsumesAtLeast (a : A α) (w : Nat) : Prop := ∀ bs v r, run a bs = some (v, r) → r.length + w ≤ bs.length

namespace ConsumesAtLeast

theorem zero (a : A α) : ConsumesAtLeast a 0 := run_length_le a

theorem mono {w w' : Nat} {a : A α} (h : ConsumesAtLeast a w) (hw : w' ≤ w) : ConsumesAtLeast a w' :=
  fun bs v r hr => Nat.le_trans (Nat.add_le_add_left hw _) (h bs v r hr)

theorem bind {w w' : Nat} {a : A α} {f : α → A β} (ha : ConsumesAtLeast a w)
    (hf : ∀ x, ConsumesAtLeast (f x) w') : ConsumesAtLeast (bind a f) (w + w') := by
  intro bs v r h
  rw [run_bind] at h
  cases h1 : run a bs with
  | none => rw [h1] at h; cases h
  | some x =>
    rw [h1] at h
    have := ha bs x.1 x.2 h1
    have := hf x.1 x.2 v r h
    omega

theorem map {w : Nat} {a : A α} (ha : ConsumesAtLeast a w) (g : α → β) : ConsumesAtLeast (map g a) w :=
  ha.bind fun x => zero (.pure (g x))

end ConsumesAtLeast

/-- a guard that asks for no more than a successful run of what it guards consumes is invisible -/
theorem run_need_invisible {n : Nat} {a : A α} (hc : ConsumesAtLeast a n) (bs : Bytes) :
    run (.need n a) bs = run a bs := by
  rw [run_need]
  split
  · rfl
  · cases h : run a bs with
    | none => rfl
    | some x => have := hc bs x.1 x.2 h; omega

end A

/-! ### allocation accounting: `Paid c s a` — on every input the decoder `a` allocates at most
    `c` units per byte it consumed (leaving `s` units of slack when it succeeds), and at most `c`
    units per input byte when it fails -/

def Paid (c s : Nat) (a : A α) : Prop :=
  ∀ bs, match A.run a bs with
    | some (_, r) => A.cost a bs + s + c * r.length ≤ c * bs.length
    | none => A.cost a bs ≤ c * bs.length

/-- **alloc_bounded** (generic form): a paid decoder allocates at most `c · |input|` -/
theorem Paid.bounded {c s : Nat} {a : A α} (h : Paid c s a) (bs : Bytes) :
    A.cost a bs ≤ c * bs.length := by
  have := h bs
  cases hr : A.run a bs with
  | none => rw [hr] at this; exact this
  | some x => rw [hr] at this; obtain ⟨v, r⟩ := x; simp only at this; omega

theorem Paid.weaken {c s s' : Nat} {a : A α} (h : Paid c s a) (hs : s' ≤ s) : Paid c s' a := by
  intro bs
  have := h bs
  revert this
  cases A.run a bs with
  | none => exact id
  | some x => obtain ⟨v, r⟩ := x; simp only; omega

theorem paid_pure (c : Nat) (x : α) : Paid c 0 (.pure x) := by
  intro bs; simp [A.run, A.cost]

theorem paid_fail (c s : Nat) : Paid c s (.fail : A α) := by
  intro bs; simp [A.run, A.cost]

/-- slack of both parts adds up -/
theorem paid_bind_slack {c s s' : Nat} {a : A α} {f : α → A β} (ha : Paid c s a)
    (hf : ∀ x, Paid c s' (f x)) : Paid c (s + s') (A.bind a f) := by
  intro bs
  rw [A.run_bind, A.cost_bind]
  have h1 := ha bs
  cases hr : A.run a bs with
  | none => rw [hr] at h1; simpa using h1
  | some x =>
    obtain ⟨v, r⟩ := x
    rw [hr] at h1; simp only at h1 ⊢
    have h2 := hf v r
    cases hr2 : A.run (f v) r with
    | none => rw [hr2] at h2; simp only at h2 ⊢; omega
    | some y => obtain ⟨w, r'⟩ := y; rw [hr2] at h2; simp only at h2 ⊢; omega

theorem paid_bind {c s : Nat} {a : A α} {f : α → A β} (ha : Paid c 0 a) (hf : ∀ x, Paid c s (f x)) :
    Paid c s (A.bind a f) :=
  Nat.zero_add s ▸ paid_bind_slack ha hf

theorem paid_map {c s : Nat} {a : A α} (f : α → β) (ha : Paid c s a) : Paid c s (A.map f a) :=
  paid_bind_slack ha (fun x => paid_pure c (f x))

/-- the budget `c·l` of an input of `l ≥ n` bytes: the `n` bytes a read allocates, `(c-1)·n` to
    spare, and the budget of what remains -/
theorem read_budget {c n l : Nat} (hc : 1 ≤ c) (h : n ≤ l) :
    c * l = n + (c - 1) * n + c * (l - n) := by
  obtain ⟨c1, rfl⟩ := Nat.exists_eq_add_of_le' hc
  obtain ⟨d, rfl⟩ := Nat.exists_eq_add_of_le h
  rw [Nat.add_sub_cancel, Nat.add_sub_cancel_left, Nat.mul_add, Nat.add_mul c1 1 n, Nat.one_mul]
  omega

/-- one read of `n` bytes leaves `(c-1)·n` more units of slack -/
theorem paid_read {c s : Nat} (n : Nat) (k : Bytes → A α) (hc : 1 ≤ c) (hk : ∀ b, Paid c s (k b)) :
    Paid c (s + (c - 1) * n) (.read n k) := by
  intro bs
  rw [A.run_read, A.cost_read]
  by_cases h : n ≤ bs.length
  · simp only [if_pos h]
    have h1 := hk (bs.take n) (bs.drop n)
    have hl : (bs.drop n).length = bs.length - n := List.length_drop
    have hb := read_budget hc h
    cases hr : A.run (k (List.take n bs)) (List.drop n bs) with
    | none => rw [hr] at h1; simp only at h1 ⊢; rw [hl] at h1; omega
    | some x => obtain ⟨v, r⟩ := x; rw [hr] at h1; simp only at h1 ⊢; rw [hl] at h1; omega
  · simp [if_neg h]

/-- `b := ReadBytes(n); make(u b units); k b` with `u b ≤ U`: the read pays for the allocation
    and for `s` units of slack when `U + s ≤ (c-1)·n` -/
theorem paid_read_alloc {c s U : Nat} (n : Nat) (u : Bytes → Nat) (k : Bytes → A α) (hc : 1 ≤ c)
    (hu : ∀ b, u b ≤ U) (hU : U + s ≤ (c - 1) * n) (hk : ∀ b, Paid c 0 (k b)) :
    Paid c s (.read n (fun b => .alloc (u b) (k b))) := by
  intro bs
  rw [A.run_read, A.cost_read]
  by_cases h : n ≤ bs.length
  · simp only [if_pos h, A.run_alloc, A.cost_alloc]
    have h1 := hk (bs.take n) (bs.drop n)
    have h2 := hu (bs.take n)
    have hl : (bs.drop n).length = bs.length - n := List.length_drop
    have hb := read_budget hc h
    cases hr : A.run (k (List.take n bs)) (List.drop n bs) with
    | none => rw [hr] at h1; simp only at h1 ⊢; rw [hl] at h1; omega
    | some x => obtain ⟨v, r⟩ := x; rw [hr] at h1; simp only at h1 ⊢; rw [hl] at h1; omega
  · simp [if_neg h]

/-- `x := a; make(s units); g x` — the allocation is paid from the slack `a` left -/
theorem paid_bind_alloc {c s s' : Nat} {a : A α} {g : α → A β} (ha : Paid c s a)
    (hg : ∀ x, Paid c s' (g x)) : Paid c s' (A.bind a (fun x => .alloc s (g x))) := by
  intro bs
  rw [A.run_bind, A.cost_bind]
  have h1 := ha bs
  cases hr : A.run a bs with
  | none => rw [hr] at h1; simpa using h1
  | some x =>
    obtain ⟨v, r⟩ := x
    rw [hr] at h1; simp only [A.run_alloc, A.cost_alloc] at h1 ⊢
    have h2 := hg v r
    cases hr2 : A.run (g v) r with
    | none => rw [hr2] at h2; simp only at h2 ⊢; omega
    | some y => obtain ⟨w, r'⟩ := y; rw [hr2] at h2; simp only at h2 ⊢; omega

/-- `if Available() == 0 { e } else { t }` -/
theorem paid_avail0 {c s : Nat} {e t : A α} (he : Paid c s e) (ht : Paid c s t) : Paid c s (.avail0 e t) := by
  intro bs
  by_cases hb : bs.isEmpty = true
  · have := he bs
    simpa only [A.run, A.cost, hb, if_true] using this
  · have := ht bs
    have hb' : bs.isEmpty = false := by simpa using hb
    simpa only [A.run, A.cost, hb', Bool.false_eq_true, if_false] using this

/-- a `P` program allocates exactly the bytes it consumes -/
theorem paid_ofP0 {c : Nat} (p : P α) (hc : 1 ≤ c) : Paid c 0 (A.ofP p) := by
  intro bs
  rw [A.run_ofP]
  have h2 := A.cost_ofP p bs
  cases hr : P.run p bs with
  | none =>
    rw [hr] at h2
    exact Nat.le_trans h2 (Nat.le_mul_of_pos_left _ hc)
  | some x =>
    obtain ⟨v, r⟩ := x
    rw [hr] at h2; simp only at h2 ⊢
    have := Nat.le_mul_of_pos_left (A.cost (A.ofP p) bs) hc
    rw [← h2, Nat.mul_add]; omega

end FailClosed
