/-
  Golib.FailClosed.ValueStream — `value.ReadValue` on the stream input path.

  On a connection `CheckCount` is a no-op (the number of bytes to come is unknown), so the decoder
  that runs there is the one without guards, `decVA false`.  It has neither guards nor tails, hence
  it IS a program of the decoder monad (`A.run_eq_toP`) and the fragmentation theorems of
  Golib.FailClosed.Stream apply to it: `valueP f` decodes over a connection what `Value.decV f`
  decodes from the concatenated bytes.
-/
import Golib.FailClosed.ValueACorrect
import Golib.FailClosed.Stream

namespace FailClosed
open Prim Value

/-- `value.ReadValue` as a program of the decoder monad -/
def valueP (f : Nat) : P Value := A.toP (decVA false f)

theorem run_valueP (f : Nat) (bs : Bytes) : P.run (valueP f) bs = decV f bs := by
  unfold valueP
  rw [← A.run_eq_toP _ (free_decVA_all false f).1, run_decVA]

end FailClosed
