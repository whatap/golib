/-
  Golib.FailClosed.PrimA — the primitive readers of io.DataInputX with their allocations.

  Only the count-prefixed array readers allocate ahead of reading (`v := make([]T, sz)` with
  `sz := int(in.ReadShort())`); every other reader allocates through `ReadBytes` only, which
  `A.cost` charges at the `read` nodes.  `arrA guarded w w' elem` is `Read<T>Array`:

      sz := ReadShort();  [repaired: if sz*w > Available() { panic }]
      v := make([]T, sz)  -- sz*w' bytes
      sz times: elem

  `w` = the least number of input bytes one element takes, `w'` = sizeof(T).
-/
import Golib.FailClosed.Alloc
import Golib.Prim.Api

namespace FailClosed
open Prim

/-- `if N > Available() { panic }; make(…, u bytes); body` where `u ≤ d·N` and a successful
    `body` consumes at least `N` bytes: the allocation is paid at `d` more units per byte -/
theorem paid_need_alloc {c0 d s : Nat} (N u : Nat) (body : A α) (hb : Paid c0 s body)
    (hu : u ≤ d * N) (hcons : A.ConsumesAtLeast body N) :
    Paid (c0 + d) s (.need N (.alloc u body)) := by
  intro bs
  rw [A.run_need, A.cost_need]
  by_cases h : N ≤ bs.length
  · simp only [if_pos h, A.run_alloc, A.cost_alloc]
    have h1 := hb bs
    have hdn : d * N ≤ d * bs.length := Nat.mul_le_mul_left d h
    cases hr : A.run body bs with
    | none =>
      rw [hr] at h1; simp only at h1 ⊢
      rw [Nat.add_mul]; omega
    | some x =>
      obtain ⟨v, r⟩ := x
      rw [hr] at h1; simp only at h1 ⊢
      have h2 := hcons bs v r hr
      have h3 : d * (r.length + N) ≤ d * bs.length := Nat.mul_le_mul_left d h2
      rw [Nat.mul_add] at h3
      rw [Nat.add_mul, Nat.add_mul]; omega
  · simp [if_neg h]

theorem Paid.mono {c c' s : Nat} {a : A α} (h : Paid c s a) (hc : c ≤ c') : Paid c' s a := by
  intro bs
  have h1 := h bs
  cases hr : A.run a bs with
  | none =>
    rw [hr] at h1; simp only at h1 ⊢
    exact Nat.le_trans h1 (Nat.mul_le_mul_right _ hc)
  | some x =>
    obtain ⟨v, r⟩ := x
    rw [hr] at h1; simp only at h1 ⊢
    have hl := A.run_length_le a bs v r hr
    obtain ⟨e, he⟩ : ∃ e, bs.length = r.length + e := ⟨bs.length - r.length, by omega⟩
    obtain ⟨g, hg⟩ : ∃ g, c' = c + g := ⟨c' - c, by omega⟩
    rw [he, Nat.mul_add] at h1
    rw [he, hg, Nat.add_mul, Nat.add_mul, Nat.mul_add, Nat.mul_add]
    omega

def arrBody (guarded : Bool) (w w' : Nat) (elem : P α) (n : Nat) : A (List α) :=
  if guarded then .need (n * w) (.alloc (n * w') (A.ofP (decMany elem n)))
  else .alloc (n * w') (A.ofP (decMany elem n))

def arrA (guarded : Bool) (w w' : Nat) (elem : P α) : A (List α) :=
  A.bind (A.ofP (rdI 2)) (fun n => if n < 0 then .fail else arrBody guarded w w' elem n.toNat)

theorem consumes_ofP {p : P α} {w : Nat} (h : ConsumesAtLeast p w) : A.ConsumesAtLeast (A.ofP p) w :=
  fun bs v r hr => h bs v r (by rwa [A.run_ofP] at hr)

/-- the guard is invisible: it refuses only counts the loop would have failed on anyway -/
theorem run_arrBody (guarded : Bool) (w w' : Nat) (elem : P α) (he : ConsumesAtLeast elem w) (n : Nat)
    (bs : Bytes) : A.run (arrBody guarded w w' elem n) bs = P.run (decMany elem n) bs := by
  unfold arrBody
  cases guarded with
  | false => simp [A.run_ofP]
  | true =>
    rw [if_pos rfl, A.run_need_invisible (a := .alloc _ _) (consumes_ofP (p := decMany elem n) (decManyAcc_consumes elem w he n [])),
      A.run_alloc, A.run_ofP]

theorem run_arrA (guarded : Bool) (w w' : Nat) (elem : P α) (he : ConsumesAtLeast elem w) (bs : Bytes) :
    A.run (arrA guarded w w' elem) bs = P.run (decArr elem) bs := by
  unfold arrA decArr
  rw [A.run_bind, P.run_bind, A.run_ofP]
  cases P.run (rdI 2) bs with
  | none => rfl
  | some x =>
    obtain ⟨n, r⟩ := x
    simp only
    split
    · rfl
    · exact run_arrBody guarded w w' elem he n.toNat r

theorem free_arrBody (g : Bool) (w w' : Nat) (elem : P α) (n : Nat) : A.Free g (arrBody g w w' elem n) := by
  unfold arrBody
  cases g with
  | false => exact .alloc _ _ (A.free_ofP _ _)
  | true => exact .need _ _ rfl (.alloc _ _ (A.free_ofP _ _))

theorem free_arrA (g : Bool) (w w' : Nat) (elem : P α) : A.Free g (arrA g w w' elem) := by
  unfold arrA
  refine A.free_bind _ _ (A.free_ofP _ _) fun n => ?_
  split
  · exact .fail
  · exact free_arrBody g w w' elem _

/-- the repaired array reader: `w'` bytes made per element that takes at least `w` input bytes are
    paid at every `c` with `w' ≤ (c - 1)·w` -/
theorem paid_arrA {c : Nat} (w w' : Nat) (elem : P α) (hc : 1 ≤ c) (hw : w' ≤ (c - 1) * w)
    (he : ConsumesAtLeast elem w) :
    Paid c 0 (arrA true w w' elem) := by
  obtain ⟨d, rfl⟩ := Nat.exists_eq_add_of_le hc
  rw [Nat.add_sub_cancel_left] at hw
  unfold arrA
  apply paid_bind (paid_ofP0 _ (by omega))
  intro n
  split
  · exact paid_fail _ _
  · unfold arrBody
    simp only [if_true]
    apply paid_need_alloc (c0 := 1) (d := d) _ _ _ (paid_ofP0 _ (Nat.le_refl 1))
    · calc n.toNat * w' ≤ n.toNat * (d * w) := Nat.mul_le_mul_left _ hw
        _ = d * (n.toNat * w) := by rw [Nat.mul_left_comm]
    · exact consumes_ofP (decManyAcc_consumes elem w he _ [])

def readOpA (g : Bool) : Op → A Op
  | .shortArr _ => A.map Op.shortArr (arrA g 2 2 (rdI 2))
  | .intArr _ => A.map Op.intArr (arrA g 4 4 (rdI 4))
  | .longArr _ => A.map Op.longArr (arrA g 8 8 (rdI 8))
  | .floatArr _ => A.map Op.floatArr (arrA g 4 4 (rdU 4))
  | .doubleArr _ => A.map Op.doubleArr (arrA g 8 8 (rdU 8))
  | .textArr _ => A.map Op.textArr (arrA g 1 16 decBlob)
  | .bool b => A.ofP (readOp (.bool b))
  | .byte b => A.ofP (readOp (.byte b))
  | .short b => A.ofP (readOp (.short b))
  | .ushort b => A.ofP (readOp (.ushort b))
  | .int3 b => A.ofP (readOp (.int3 b))
  | .int b => A.ofP (readOp (.int b))
  | .long5 b => A.ofP (readOp (.long5 b))
  | .long b => A.ofP (readOp (.long b))
  | .float b => A.ofP (readOp (.float b))
  | .double b => A.ofP (readOp (.double b))
  | .decimal b => A.ofP (readOp (.decimal b))
  | .blob b => A.ofP (readOp (.blob b))
  | .text b => A.ofP (readOp (.text b))
  | .shortBytes b => A.ofP (readOp (.shortBytes b))
  | .intBytes b => A.ofP (readOp (.intBytes b))
  | .textShort b => A.ofP (readOp (.textShort b))

/-- right-nested with an accumulator (linear time in the driver) -/
def readAllAcc (g : Bool) : List Op → List Op → A (List Op)
  | [], acc => .pure acc.reverse
  | op :: ops, acc => A.bind (readOpA g op) (fun v => readAllAcc g ops (v :: acc))

def readAllA (g : Bool) (ops : List Op) : A (List Op) := readAllAcc g ops []

theorem run_map_ofP' (f : α → β) (p : P α) (bs : Bytes) :
    A.run (A.map f (A.ofP p)) bs = Option.map (fun x => (f x.fst, x.snd)) (P.run p bs) := by
  rw [A.run_map, A.run_ofP]

theorem run_map_ofP (f : α → β) (p : P α) (bs : Bytes) :
    A.run (A.map f (A.ofP p)) bs = P.run (P.map f p) bs :=
  (run_map_ofP' f p bs).trans (P.run_map f p bs).symm

theorem run_map_arrA (g : Bool) (f : List α → β) (w w' : Nat) (elem : P α) (he : ConsumesAtLeast elem w)
    (bs : Bytes) :
    A.run (A.map f (arrA g w w' elem)) bs =
      Option.map (fun x => (f x.fst, x.snd)) (P.run (decArr elem) bs) := by
  rw [A.run_map, run_arrA g w w' elem he]

theorem run_readOpA (g : Bool) (op : Op) (bs : Bytes) :
    A.run (readOpA g op) bs = P.run (readOp op) bs := by
  cases op
  case shortArr | intArr | longArr | floatArr | doubleArr | textArr =>
    exact (run_map_arrA g _ _ _ _ (consumes_read _ _) bs).trans (P.run_map _ _ bs).symm
  all_goals exact A.run_ofP _ _

theorem run_readAllAcc (g : Bool) (ops acc : List Op) (bs : Bytes) :
    A.run (readAllAcc g ops acc) bs =
      (P.run (readAll ops) bs).map (fun (vs, r) => (acc.reverse ++ vs, r)) := by
  induction ops generalizing acc bs with
  | nil => simp [readAllAcc, readAll]
  | cons op ops ih =>
    simp only [readAllAcc, readAll]
    rw [A.run_bind, P.run_bind, run_readOpA]
    cases P.run (readOp op) bs with
    | none => rfl
    | some x =>
      obtain ⟨v, r⟩ := x
      simp only
      rw [ih, P.run_bind]
      cases P.run (readAll ops) r with
      | none => rfl
      | some y => obtain ⟨vs, r'⟩ := y; simp

theorem free_readOpA (g : Bool) (op : Op) : A.Free g (readOpA g op) := by
  cases op
  case shortArr | intArr | longArr | floatArr | doubleArr | textArr =>
    exact A.free_map _ _ (free_arrA _ _ _ _)
  all_goals exact A.free_ofP _ _

theorem free_readAllAcc (g : Bool) (ops acc : List Op) : A.Free g (readAllAcc g ops acc) := by
  induction ops generalizing acc with
  | nil => exact .pure _
  | cons op ops ih => exact A.free_bind _ _ (free_readOpA g op) (fun v => ih _)

theorem tailFree_readAllAcc (g : Bool) (ops acc : List Op) : A.TailFree (readAllAcc g ops acc) :=
  (free_readAllAcc g ops acc).tailFree

/-- 17: the dearest element is that of a text array, 16 bytes of string header for at least one input
    byte (`paid_arrA` with `w = 1`, `w' = 16`), beside the bytes read themselves -/
theorem paid_readOpA (op : Op) : Paid 17 0 (readOpA true op) := by
  cases op
  case shortArr | intArr | longArr | floatArr | doubleArr | textArr =>
    exact paid_map _ (paid_arrA _ _ _ (by omega) (by omega) (consumes_read _ _))
  all_goals exact paid_ofP0 _ (by omega)

theorem paid_readAllAcc (ops acc : List Op) : Paid 17 0 (readAllAcc true ops acc) := by
  induction ops generalizing acc with
  | nil => exact paid_pure _ _
  | cons op ops ih => exact paid_bind (paid_readOpA op) (fun v => ih _)

end FailClosed
