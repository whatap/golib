/-
  Golib.FailClosed.Reuse — reusing one object for several `Read`s.

  A `Read` method decodes INTO an object that already exists.  `Reader S` is such a method: the
  object before, the input, the object after and whether it returned (a panic leaves whatever it
  had stored so far).  `Resets rd obs`: a successful `Read` determines everything `obs` shows of the
  object from the input alone.  For such readers a failed `Read` leaves nothing behind that a later
  valid `Read` into the same object could show (`reuse_after_failure`, and over whole histories
  `reuse_history`).  Readers that `Put` into a table the object already holds do not reset
  (`additive_not_reset`): they are the exceptions, listed exactly by tie A
  (`Gen.AllocSites.additiveReaders`, obligation `C04Gen.additive_readers_exact`).
-/
import Golib.Basic

namespace FailClosed.Reuse

abbrev Reader (S : Type) := S → Bytes → S × Bool

def Resets {S O : Type} (rd : Reader S) (obs : S → O) : Prop :=
  ∀ s s' bs, (rd s bs).2 = true → (rd s' bs).2 = true ∧ obs (rd s bs).1 = obs (rd s' bs).1

/-- a failed `Read`, then a valid `Read` into the same object: what a fresh decode gives -/
theorem reuse_after_failure {S O : Type} (rd : Reader S) (obs : S → O) (h : Resets rd obs)
    (fresh : S) (bad good : Bytes) (hgood : (rd fresh good).2 = true) :
    (rd (rd fresh bad).1 good).2 = true ∧ obs (rd (rd fresh bad).1 good).1 = obs (rd fresh good).1 := by
  have := h fresh (rd fresh bad).1 good hgood
  exact ⟨this.1, this.2.symm⟩

/-- the object after a whole history of `Read`s (failed or not) -/
def readAll {S : Type} (rd : Reader S) (s : S) : List Bytes → S
  | [] => s
  | b :: bs => readAll rd (rd s b).1 bs

/-- … after ANY history of earlier `Read`s into the object, failed or successful, in any order -/
theorem reuse_history {S O : Type} (rd : Reader S) (obs : S → O) (h : Resets rd obs)
    (fresh : S) (hist : List Bytes) (good : Bytes) (hgood : (rd fresh good).2 = true) :
    (rd (readAll rd fresh hist) good).2 = true ∧
      obs (rd (readAll rd fresh hist) good).1 = obs (rd fresh good).1 := by
  have := h fresh (readAll rd fresh hist) good hgood
  exact ⟨this.1, this.2.symm⟩

/-! ### the layout readers

    A `Read` method transcribed into the layout IR assigns the fields its layout names, in wire order
    (`Layout.L.read` returns exactly that list).  Seen through the fields it assigns, the object after a
    successful `Read` is that list whatever the object held before; after a failed `Read` it is anything
    (`junk`).  What this observation does NOT show: fields the reader never assigns, and entries a reader
    `Put`s into a table it does not replace — the additive readers of tie A. -/

def fieldReader {F : Type} (read : Bytes → Option F) (junk : Option F → Bytes → Option F) : Reader (Option F) :=
  fun s bs => match read bs with
    | some o => (some o, true)
    | none => (junk s bs, false)

theorem fieldReader_resets {F : Type} (read : Bytes → Option F) (junk : Option F → Bytes → Option F) :
    Resets (fieldReader read junk) id := by
  intro s s' bs h
  unfold fieldReader at h ⊢
  cases hr : read bs with
  | none => rw [hr] at h; simp at h
  | some o => simp

/-- a reader that assigns its fields from the input (`this.f = in.Read…()`), here: two bytes into two
    fields; on a short input it keeps what it had assigned so far -/
def assignReader : Reader (Nat × Nat)
  | (_, _), [a, b] => ((a, b), true)
  | (_, y), [a] => ((a, y), false)
  | s, _ => (s, false)

theorem assignReader_resets : Resets assignReader id := by
  intro s s' bs h
  obtain ⟨x, y⟩ := s
  obtain ⟨x', y'⟩ := s'
  match bs, h with
  | [a, b], _ => exact ⟨rfl, rfl⟩
  | [a], h => simp [assignReader] at h
  | [], h => simp [assignReader] at h
  | _ :: _ :: _ :: _, h => simp [assignReader] at h

/-- a reader that `Put`s what it decodes into the table the object holds (MapValue.Read, ParamPack,
    StatRemoteIpPack, StatUserAgentPack, EventPack.Attr): count byte, then that many keys -/
def putReader : Reader (List Nat)
  | t, n :: ks => if ks.length = n then (t ++ ks, true) else (t ++ ks, false)
  | t, [] => (t, false)

/-- … does not reset: after the failed `Read` of `02 07` the valid `Read` of `01 09` shows the key 7
    of the damaged input -/
theorem additive_not_reset : ¬ Resets putReader id := by
  intro h
  have := (h [] (putReader [] [2, 7]).1 [1, 9] (by decide)).2
  revert this; decide

end FailClosed.Reuse
