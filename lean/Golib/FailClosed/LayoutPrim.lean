/-
  Golib.FailClosed.LayoutPrim — the wire primitives of the pack layout IR (Golib.Layout.IR) with
  their allocations: `primA F p` is `Layout.Prim.decode p` in the instrumented syntax `A`
  (reads charged byte for byte, array readers with their guarded `make`, tagged values through
  `decVA true`, `F` = fuel of the value decoder).

    run_primA   : it decodes exactly what `Layout.Prim.decode` decodes (for `|input| + 2 ≤ F`)
    paid_primA  : at most `KL = 2048` bytes allocated per input byte
    primA_consumes : the non-array, non-value primitives consume at least one byte
-/
import Golib.Layout.IR
import Golib.FailClosed.ValueACorrect
import Golib.Value.Fuel

namespace FailClosed
open Prim Value

/-- bytes per input byte for layouts without tables (values: 1280) -/
def KL : Nat := 2048
/-- upper bound of the size of one table element (`sizeof` of the largest record struct, ProcPerf: 208) -/
def SL : Nat := 512

theorem one_le_of_KL_le {c : Nat} (h : KL ≤ c) : 1 ≤ c := by unfold KL at h; omega

/-- `MapValue.Read` into a map the pack's constructor made (no tag, no constructor allocation) -/
def mapBodyA (f : Nat) : A Value :=
  A.bind (A.ofP decDecimal) (fun n => A.map Value.map (decKVsA true f n.toNat []))
def imapBodyA (f : Nat) : A Value :=
  A.bind (A.ofP decDecimal) (fun n => A.map Value.imap (decIKVsA true f n.toNat []))

def primA (F : Nat) : Layout.Prim → A Layout.Val
  | .bool => A.map (fun b => Layout.Val.int (if b then 1 else 0)) (A.ofP rdBool)
  | .u8 => A.map (fun n : Nat => Layout.Val.int n) (A.ofP (rdU 1))
  | .i16 => A.map Layout.Val.int (A.ofP (rdI 2))
  | .i24 => A.map Layout.Val.int (A.ofP (rdI 3))
  | .i32 => A.map Layout.Val.int (A.ofP (rdI 4))
  | .i64 => A.map Layout.Val.int (A.ofP (rdI 8))
  | .f32 => A.map (fun n : Nat => Layout.Val.int n) (A.ofP (rdU 4))
  | .f64 => A.map (fun n : Nat => Layout.Val.int n) (A.ofP (rdU 8))
  | .dec => A.map Layout.Val.int (A.ofP decDecimal)
  | .blob => A.map Layout.Val.bytes (A.ofP decBlob)
  | .aI16 => A.map Layout.Val.ints (arrA true 2 2 (rdI 2))
  | .aI32 => A.map Layout.Val.ints (arrA true 4 4 (rdI 4))
  | .aI64 => A.map Layout.Val.ints (arrA true 8 8 (rdI 8))
  | .aF32 => A.map (fun xs : List Nat => Layout.Val.ints (xs.map Int.ofNat)) (arrA true 4 4 (rdU 4))
  | .aF64 => A.map (fun xs : List Nat => Layout.Val.ints (xs.map Int.ofNat)) (arrA true 8 8 (rdU 8))
  | .aText => A.map Layout.Val.strs (arrA true 1 16 decBlob)
  | .value => A.map Layout.Val.value (decVA true F)
  | .mapV => A.map Layout.Val.value (decVA true F)
  | .imapV => A.map Layout.Val.value (decVA true F)
  | .mapBody => A.map Layout.Val.value (mapBodyA F)
  | .imapBody => A.map Layout.Val.value (imapBodyA F)
  | .u16 => A.map (fun n : Nat => Layout.Val.int n) (A.ofP (rdU 2))
  | .a8I16 => A.map Layout.Val.ints (A.ofP (P.bind (rdU 1) (fun n => decMany (rdI 2) n)))
  | .b24 => A.map Layout.Val.bytes (A.ofP (P.bind (rdI 3) (fun n => if n < 0 then .fail else rdBytes n.toNat)))
  | .anylist => A.map id (A.ofP Layout.decAnyList)

/-- the primitives that are plain `P` programs consuming at least one byte -/
def simplePrim : Layout.Prim → Bool
  | .bool | .u8 | .i16 | .i24 | .i32 | .i64 | .f32 | .f64 | .dec | .blob | .u16 => true
  | _ => false

/-- with enough fuel the instrumented value decoder is `Value.decode` -/
theorem run_decVA_decode (F : Nat) (bs : Bytes) (hF : bs.length < F) :
    A.run (decVA true F) bs = Value.decode bs :=
  (run_decVA true F bs).trans (decV_fuel_irrelevant F (bs.length + 1) bs hF (Nat.lt_succ_self _))

/-- the instrumented primitive decodes exactly what the layout primitive decodes -/
theorem run_primA (F : Nat) (p : Layout.Prim) (bs : Bytes) (hF : bs.length + 2 ≤ F) :
    A.run (primA F p) bs = p.decode bs := by
  cases p
  case aI16 | aI32 | aI64 | aF32 | aF64 | aText =>
    exact run_map_arrA true _ _ _ _ (consumes_read _ _) bs
  case value | mapV | imapV =>
    simp only [primA, Layout.Prim.decode, A.run_map, run_decVA_decode F bs (by omega)]
  -- a map body is what the value decoder does after the type byte of a map
  case mapBody =>
    simp only [primA, Layout.Prim.decode, A.run_map]
    rw [show A.run (mapBodyA F) bs = A.run (decVA true (F + 1)) (80 :: bs) from rfl,
      run_decVA_decode _ _ (by rw [List.length_cons]; omega)]
  case imapBody =>
    simp only [primA, Layout.Prim.decode, A.run_map]
    rw [show A.run (imapBodyA F) bs = A.run (decVA true (F + 1)) (81 :: bs) from rfl,
      run_decVA_decode _ _ (by rw [List.length_cons]; omega)]
  all_goals exact run_map_ofP' _ _ bs

/-- every primitive: at most `c` bytes per input byte, for any `c ≥ KL` -/
theorem paid_primA (F : Nat) (p : Layout.Prim) (c : Nat) (hc : KL ≤ c) : Paid c 0 (primA F p) := by
  have h1 : 1 ≤ c := one_le_of_KL_le hc
  have h17 : 17 ≤ c := by unfold KL at hc; omega
  have h1280 : 1280 ≤ c := by unfold KL at hc; omega
  cases p
  case aI16 | aI32 | aI64 | aF32 | aF64 | aText =>
    exact paid_map _ (paid_arrA _ _ _ h1 (by omega) (consumes_read _ _))
  case value | mapV | imapV => exact paid_map _ (((paid_decVA F).weaken (Nat.zero_le _)).mono h1280)
  case mapBody =>
    exact paid_map _ (paid_bind (paid_ofP0 _ h1) fun n => paid_map _ (((paid_decVA_all F).2.2.1 _ _).mono h1280))
  case imapBody =>
    exact paid_map _ (paid_bind (paid_ofP0 _ h1) fun n => paid_map _ (((paid_decVA_all F).2.2.2 _ _).mono h1280))
  all_goals exact paid_map _ (paid_ofP0 _ h1)

/-- a successful run of a simple primitive consumes at least one byte -/
theorem primA_consumes (F : Nat) (p : Layout.Prim) (hp : simplePrim p = true) (bs : Bytes)
    (v : Layout.Val) (r : Bytes) (h : A.run (primA F p) bs = some (v, r)) : r.length + 1 ≤ bs.length := by
  cases p <;> simp only [simplePrim, Bool.false_eq_true] at hp
  all_goals exact ((consumes_ofP (consumes_read _ _)).map _).mono (by decide) bs v r h

end FailClosed
