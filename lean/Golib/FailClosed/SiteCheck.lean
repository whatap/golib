/-
  Golib.FailClosed.SiteCheck — an interpreted form of "every allocation sized from the input is
  guarded" (tie A of C04).

  `xlate/c04` transcribes the body of every decoder function that sizes an allocation from a
  decoded value into a tiny statement language `Prog`:

    read x src    x := … in.Read<src>() …        (a value decoded from the input: anything;
                                                   `ReadByte` yields 0..255)
    copy x y      x := int(y) / int32(y) / y      (a conversion of another variable)
    havoc x       x := anything else
    check x k     in.CheckCount(x, k)   or   if x > Available()/buffer.Len() { panic }  (k = 1)
    make e x      make([]e, x)  /  New…Map(x, …)
    block b       the body of an if / for / switch case: executed any number of times

  `Exec` is its semantics over a state (variable values, bytes still available, log of the sizes
  allocated); the decoded values, the number of bytes each read consumes and the number of times a
  block runs are arbitrary.  `safe` is the dominance check (which variables are known to be bounded
  at each point); `safe_sound` proves it against the semantics: in every execution that starts with
  at most `N` bytes available every allocation is sized by at most `max N 255` elements — by the
  bytes of the input, not by a field found in it.
-/
namespace FailClosed.Sites

inductive Prog where
  | done
  | read (x src : String) (rest : Prog)
  | copy (x y : String) (rest : Prog)
  | havoc (x : String) (rest : Prog)
  | check (x : String) (k : Nat) (rest : Prog)
  | make (elem x : String) (rest : Prog)
  | block (body rest : Prog)
deriving DecidableEq, Repr

structure St where
  env : String → Int
  avail : Nat
  log : List (String × Int)

def St.set (s : St) (x : String) (v : Int) : St :=
  { s with env := fun y => if y = x then v else s.env y }

/-- what a `Read<src>()` can return -/
def srcOK (src : String) (v : Int) : Prop := src = "ReadByte" → 0 ≤ v ∧ v ≤ 255

inductive Exec : Prog → St → St → Prop where
  | done (s : St) : Exec .done s s
  | read (x src rest s s' v a) (hv : srcOK src v) (ha : a ≤ s.avail)
      (h : Exec rest { (s.set x v) with avail := a } s') : Exec (.read x src rest) s s'
  | copy (x y rest s s') (h : Exec rest (s.set x (s.env y)) s') : Exec (.copy x y rest) s s'
  | havoc (x rest s s' v) (h : Exec rest (s.set x v) s') : Exec (.havoc x rest) s s'
  | check (x : String) (k : Nat) (rest s s') (h0 : 0 ≤ s.env x) (hk : s.env x * (k : Int) ≤ (s.avail : Int))
      (h : Exec rest s s') : Exec (.check x k rest) s s'
  | make (e x rest s s') (h : Exec rest { s with log := (e, s.env x) :: s.log } s') :
      Exec (.make e x rest) s s'
  | blockSkip (body rest s s') (h : Exec rest s s') : Exec (.block body rest) s s'
  | blockStep (body rest s s1 s') (h1 : Exec body s s1) (h2 : Exec (.block body rest) s1 s') :
      Exec (.block body rest) s s'

/-- variables assigned somewhere in the program -/
def Prog.assigned : Prog → List String
  | .done => []
  | .read x _ rest => x :: rest.assigned
  | .copy x _ rest => x :: rest.assigned
  | .havoc x rest => x :: rest.assigned
  | .check _ _ rest => rest.assigned
  | .make _ _ rest => rest.assigned
  | .block body rest => body.assigned ++ rest.assigned

def Prog.makes : Prog → Nat
  | .done => 0
  | .read _ _ rest => rest.makes
  | .copy _ _ rest => rest.makes
  | .havoc _ rest => rest.makes
  | .check _ _ rest => rest.makes
  | .make _ _ rest => 1 + rest.makes
  | .block body rest => body.makes + rest.makes

/-- the dominance check: `F` = variables known to be bounded here; `false` = an allocation is sized
    by a variable that is not known to be bounded -/
def safe : Prog → List String → Bool
  | .done, _ => true
  | .read x src rest, F => safe rest (if src = "ReadByte" then x :: F else F.filter (· ≠ x))
  | .copy x y rest, F => safe rest (if y ∈ F then x :: F else F.filter (· ≠ x))
  | .havoc x rest, F => safe rest (F.filter (· ≠ x))
  | .check x k rest, F => if k = 0 then safe rest F else safe rest (x :: F)
  | .make _ x rest, F => decide (x ∈ F) && safe rest F
  | .block body rest, F =>
    let F0 := F.filter (fun v => !(body.assigned.contains v))
    safe body F0 && safe rest F0

def Inv (B : Int) (F : List String) (s : St) : Prop := ∀ x ∈ F, s.env x ≤ B

def LogOK (B : Int) (s : St) : Prop := ∀ e ∈ s.log, e.2 ≤ B

theorem inv_filter {B : Int} {F : List String} {s : St} (p : String → Bool) (h : Inv B F s) :
    Inv B (F.filter p) s := fun x hx => h x (List.mem_filter.mp hx).1

/-- assigning `x` keeps what is known of the other variables -/
theorem Inv.set_drop {B : Int} {F : List String} {s : St} (h : Inv B F s) (x : String) (v : Int) (a : Nat) :
    Inv B (F.filter (· ≠ x)) { (s.set x v) with avail := a } := by
  intro y hy
  have := List.mem_filter.mp hy
  have hne : y ≠ x := by simpa using this.2
  simp only [St.set, hne, if_false]; exact h y this.1

/-- … and adds `x` when the value assigned is bounded -/
theorem Inv.set_keep {B : Int} {F : List String} {s : St} (h : Inv B F s) (x : String) {v : Int} (hv : v ≤ B) (a : Nat) :
    Inv B (x :: F) { (s.set x v) with avail := a } := by
  intro y hy
  by_cases hyx : y = x
  · subst hyx; simpa only [St.set, if_true] using hv
  · simp only [St.set, hyx, if_false]
    exact h y ((List.mem_cons.mp hy).resolve_left hyx)

theorem exec_frame (p : Prog) (s s' : St) (h : Exec p s s') (x : String) (hx : x ∉ p.assigned) :
    s'.env x = s.env x := by
  induction h with
  | done s => rfl
  | read y src rest s s' v a hv ha h ih =>
    simp only [Prog.assigned, List.mem_cons, not_or] at hx
    rw [ih hx.2]; simp [St.set, hx.1]
  | copy y z rest s s' h ih =>
    simp only [Prog.assigned, List.mem_cons, not_or] at hx
    rw [ih hx.2]; simp [St.set, hx.1]
  | havoc y rest s s' v h ih =>
    simp only [Prog.assigned, List.mem_cons, not_or] at hx
    rw [ih hx.2]; simp [St.set, hx.1]
  | check y k rest s s' h0 hk h ih => exact ih hx
  | make e y rest s s' h ih => rw [ih hx]
  | blockSkip body rest s s' h ih =>
    simp only [Prog.assigned, List.mem_append, not_or] at hx
    exact ih hx.2
  | blockStep body rest s s1 s' h1 h2 ih1 ih2 =>
    have hx' := hx
    simp only [Prog.assigned, List.mem_append, not_or] at hx'
    rw [ih2 hx, ih1 hx'.1]

/-- **soundness of the dominance check** -/
theorem safe_sound (N : Nat) (p : Prog) (s s' : St) (h : Exec p s s') :
    ∀ F, safe p F = true → Inv (max N 255) F s → s.avail ≤ N → LogOK (max N 255) s →
      LogOK (max N 255) s' ∧ s'.avail ≤ N := by
  induction h with
  | done s => intro F _ _ ha hl; exact ⟨hl, ha⟩
  | read x src rest s s' v a hv hav h ih =>
    intro F hs hi ha hl
    simp only [safe] at hs
    refine ih _ hs ?_ (Nat.le_trans hav ha) hl
    split
    · next hb => exact hi.set_keep x (by have := hv hb; omega) a
    · exact hi.set_drop x v a
  | copy x y rest s s' h ih =>
    intro F hs hi ha hl
    simp only [safe] at hs
    refine ih _ hs ?_ ha hl
    split
    · next hb => exact hi.set_keep x (hi y hb) s.avail
    · exact hi.set_drop x _ s.avail
  | havoc x rest s s' v h ih =>
    intro F hs hi ha hl
    exact ih _ hs (hi.set_drop x v s.avail) ha hl
  | check x k rest s s' h0 hk h ih =>
    intro F hs hi ha hl
    simp only [safe] at hs
    split at hs
    · exact ih _ hs hi ha hl
    · next hk0 =>
      refine ih _ hs (fun z hz => ?_) ha hl
      rcases List.mem_cons.mp hz with rfl | hz
      · -- env z * k ≤ avail ≤ N with k ≥ 1
        have hk1 : (1 : Int) ≤ (k : Int) := by omega
        have : s.env z * 1 ≤ s.env z * (k : Int) := Int.mul_le_mul_of_nonneg_left hk1 h0
        have hN : (s.avail : Int) ≤ (N : Int) := by exact_mod_cast ha
        omega
      · exact hi z hz
  | make e x rest s s' h ih =>
    intro F hs hi ha hl
    simp only [safe, Bool.and_eq_true, decide_eq_true_eq] at hs
    refine ih _ hs.2 hi ha fun en hen => ?_
    rcases List.mem_cons.mp hen with rfl | hen
    · exact hi x hs.1
    · exact hl en hen
  | blockSkip body rest s s' h ih =>
    intro F hs hi ha hl
    simp only [safe, Bool.and_eq_true] at hs
    exact ih _ hs.2 (inv_filter _ hi) ha hl
  | blockStep body rest s s1 s' h1 h2 ih1 ih2 =>
    intro F hs hi ha hl
    have hs' := hs
    simp only [safe, Bool.and_eq_true] at hs'
    have hb := ih1 _ hs'.1 (inv_filter _ hi) ha hl
    -- one run of the body keeps the filtered facts (their variables are not assigned in it)
    refine ih2 (F.filter fun v => !(body.assigned.contains v))
      (by simp only [safe, List.filter_filter, Bool.and_self, Bool.and_eq_true]; exact hs') (fun z hz => ?_) hb.2 hb.1
    have hm := List.mem_filter.mp hz
    rw [exec_frame body s s1 h1 z (by simpa using hm.2)]
    exact hi z hm.1
end FailClosed.Sites
