/-
  Golib.Hash.GoSimp — the simp sets `go_run` and `go_arith` (declared here because an attribute cannot be used in the
  module that declares it; their members are named at the head of Golib.Hash.GoSemProofs).
-/
import Lean.Meta.Tactic.Simp.RegisterCommand

/-- the evaluation equations of `GoSem` for running transcribed code: a call (`call`, `bindArgs`), statements
    (`runEnv`, `runRet`, `step`), expressions and conditions (`eval`, `evalC`), assignment (`upd`) -/
register_simp_attr go_run

/-- what an operation on a Go integer type is, as arithmetic: `evalOp`, `bitsOp`, `pat`, `norm` and the constants
    `Ty.half`, `Ty.modulus` of the type -/
register_simp_attr go_arith
