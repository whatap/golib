/-
  Golib.Hash.CrcProofs — the table-driven loop of `Hash` computes bit-by-bit CRC-32;
  the two v2 64-bit hashes agree.
-/
import Golib.Hash.Crc

namespace Hash

theorem table_length : table.length = 256 := by decide +kernel

theorem table_eq_entries : table = (List.range 256).map crcEntry := by decide +kernel

theorem tbl_eq_entry' {i : Nat} (h : i < 256) : tbl i = crcEntry i := by
  simp only [tbl, tableArr, Array.getD_eq_getD_getElem?, List.getElem?_toArray, table_eq_entries,
    List.getElem?_map, List.getElem?_range h, Option.map_some, Option.getD_some]

/-- a shift keeps the register below `2^32`: `poly` has 32 bits -/
theorem bit1_lt {c : Nat} (h : c < 2 ^ 32) : bit1 c < 2 ^ 32 := by
  have hs : c >>> 1 < 2 ^ 32 := Nat.lt_of_le_of_lt (Nat.shiftRight_le c 1) h
  unfold bit1
  split
  · exact Nat.xor_lt_two_pow hs (by decide)
  · exact hs

theorem bitN_lt (k : Nat) {c : Nat} (h : c < 2 ^ 32) : bitN k c < 2 ^ 32 := by
  induction k generalizing c with
  | zero => exact h
  | succ k ih => exact ih (bit1_lt h)

theorem tbl_lt' {i : Nat} (h : i < 256) : tbl i < 4294967296 := by
  rw [tbl_eq_entry' h]
  exact bitN_lt 8 (Nat.lt_trans h (by decide))

theorem xor_cancel_mid (x y p : Nat) : (x ^^^ p) ^^^ (y ^^^ p) = x ^^^ y := by
  rw [Nat.xor_assoc, Nat.xor_comm y p, ← Nat.xor_assoc p, Nat.xor_self, Nat.zero_xor]

theorem bit1_xor (a b : Nat) : bit1 (a ^^^ b) = bit1 a ^^^ bit1 b := by
  unfold bit1
  rw [show (a ^^^ b) % 2 = a % 2 ^^^ b % 2 from Nat.xor_mod_two_pow (n := 1), Nat.shiftRight_xor_distrib]
  have ha : a % 2 = 0 ∨ a % 2 = 1 := by omega
  have hb : b % 2 = 0 ∨ b % 2 = 1 := by omega
  rcases ha with ha | ha <;> rcases hb with hb | hb <;> simp only [ha, hb]
  · simp
  · simp only [show (0 ^^^ 1 : Nat) = 1 from rfl, if_true, show ((0:Nat) = 1) = False from by simp, if_false]
    ac_rfl
  · simp only [show (1 ^^^ 0 : Nat) = 1 from rfl, if_true, show ((0:Nat) = 1) = False from by simp, if_false]
    ac_rfl
  · simp only [show (1 ^^^ 1 : Nat) = 0 from rfl, if_true, show ((0:Nat) = 1) = False from by simp, if_false]
    exact (xor_cancel_mid _ _ _).symm

theorem bitN_xor (k a b : Nat) : bitN k (a ^^^ b) = bitN k a ^^^ bitN k b := by
  induction k generalizing a b with
  | zero => rfl
  | succ k ih => simp only [bitN, bit1_xor, ih]

theorem bit1_double (y : Nat) : bit1 (2 * y) = y := by
  unfold bit1
  have : (2 * y) % 2 = 0 := by omega
  simp only [this, Nat.shiftRight_eq_div_pow]
  simp

theorem bitN_shl (k h : Nat) : bitN k (h * 2 ^ k) = h := by
  induction k generalizing h with
  | zero => simp [bitN]
  | succ k ih =>
    have e : h * 2 ^ (k + 1) = 2 * (h * 2 ^ k) := by rw [Nat.pow_succ]; ac_rfl
    simp only [bitN, e, bit1_double, ih]

theorem split_low (k x : Nat) : x = ((x >>> k) * 2 ^ k) ^^^ (x % 2 ^ k) := by
  apply Nat.eq_of_testBit_eq
  intro i
  rw [Nat.testBit_xor, ← Nat.shiftLeft_eq, Nat.testBit_shiftLeft, Nat.testBit_shiftRight, Nat.testBit_mod_two_pow]
  by_cases h : i < k
  · have : ¬ i ≥ k := by omega
    simp [h, this]
  · have h' : i ≥ k := by omega
    have e : k + (i - k) = i := by omega
    simp [h, h', e]

/-- the eight shifts act on the high part by shifting and on the low byte through the table -/
theorem bitN8_split (x : Nat) : bitN 8 x = (x >>> 8) ^^^ bitN 8 (x % 256) := by
  conv => lhs; rw [split_low 8 x]
  rw [bitN_xor, bitN_shl]

theorem crcStep_eq (c b : Nat) (hb : b < 256) : crcStep c b = crc32Step c b := by
  unfold crcStep crc32Step
  have hi : (c ^^^ b) % 256 < 256 := Nat.mod_lt _ (by decide)
  rw [bitN8_split (c ^^^ b), Nat.mod_eq_of_lt (tbl_lt' hi), tbl_eq_entry' hi, Nat.shiftRight_xor_distrib]
  have : b >>> 8 = 0 := by rw [Nat.shiftRight_eq_div_pow]; exact Nat.div_eq_of_lt hb
  rw [this, Nat.xor_zero]
  rfl

theorem foldl_crcStep_eq (bs : Bytes) (h : WFB bs) (c : Nat) :
    bs.foldl crcStep c = bs.foldl crc32Step c := by
  induction bs generalizing c with
  | nil => exact Eq.refl c  -- plain `rfl` first tries to unify the two step functions, table and all
  | cons b bs ih =>
    have ⟨hb, hbs⟩ := WFB_cons.mp h
    rw [List.foldl_cons, List.foldl_cons, crcStep_eq c b hb, ih hbs]

/-- `Hash` (before the int32 view) is CRC-32 of the bytes -/
theorem hashU_eq_crc32 (bs : Bytes) (h : WFB bs) : hashU bs = crc32 bs := by
  unfold hashU crc32
  rw [foldl_crcStep_eq bs h]

theorem low8_xor (c b : Nat) : ((c % 4294967296) ^^^ b) % 256 = (((c % 256) ^^^ b) % 256) &&& 0xff := by
  have e : (0xff : Nat) = 2 ^ 8 - 1 := rfl
  rw [e, Nat.and_two_pow_sub_one_eq_mod]
  simp only [show (256 : Nat) = 2 ^ 8 from rfl, Nat.xor_mod_two_pow, Nat.mod_mod]
  congr 1
  have : (4294967296 : Nat) = 2 ^ 8 * 16777216 := rfl
  rw [this, Nat.mod_mul_right_mod]

theorem v2Step_eq (c b : Nat) : v2StepA c b = v2StepB c b := by
  unfold v2StepA v2StepB
  simp only [low8_xor]

theorem hash64v2_agree (o : Option Bytes) : hash64v2 o = hash64V2 o := by
  unfold hash64v2 hash64V2
  rcases o with _ | _ | ⟨b, bs⟩
  · rfl
  · rfl
  · have : v2StepA = v2StepB := by funext c b; exact v2Step_eq c b
    simp [this]

end Hash
