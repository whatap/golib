/-
  Golib.Hash.GoBridgeMurmur — bridge theorems for util/hll/MurmurHash.go:
  `MurmurHashLong` (whole function), `murmurHash` (prelude, loop body, tail, avalanche; the whole function is in
  `GoBridgeFull`) and, in the same steps over `uint64`, `murmurHashLong` (`murmur64_*`), for all inputs.  The `uint32`/`uint64` arithmetic is read off by the lemmas of `GoU`; the index
  arithmetic (`int`, `int32`) is unfolded to integers and left to `omega`.
-/
import Golib.Hash.GoBridgeHash
import Golib.Hash.MurmurProofs
set_option linter.unusedVariables false
set_option linter.unusedSimpArgs false
namespace GoBridge
open GoSem

theorem lit_m32 : (1540483477 : Int) = ((1540483477 : Nat) : Int) := rfl
theorem lit_0 : (0 : Int) = ((0 : Nat) : Int) := rfl
def M32 : Nat := 4294967296
theorem lit_255 : (255 : Int) = ((255 : Nat) : Int) := rfl
theorem lit_8 : (8 : Int) = ((8 : Nat) : Int) := rfl
theorem lit_24 : (24 : Int) = ((24 : Nat) : Int) := rfl
theorem blocksG_lt_aux : True := trivial
theorem lit_16 : (16 : Int) = ((16 : Nat) : Int) := rfl
theorem lit_13 : (13 : Int) = ((13 : Nat) : Int) := rfl
theorem lit_15 : (15 : Int) = ((15 : Nat) : Int) := rfl
theorem sm3 (a k : Nat) : (a % 4294967296 * Murmur.m32 % 4294967296) >>> k % 4294967296 = (a % 4294967296 * Murmur.m32 % 4294967296) >>> k :=
  Nat.mod_eq_of_lt (Nat.lt_of_le_of_lt (Nat.shiftRight_le _ _) (Nat.mod_lt _ (by decide)))
theorem lit_m64 : (14313749767032793493 : Int) = ((14313749767032793493 : Nat) : Int) := rfl
theorem lit_47 : (47 : Int) = ((47 : Nat) : Int) := rfl
theorem lit_32 : (32 : Int) = ((32 : Nat) : Int) := rfl
theorem lit_40 : (40 : Int) = ((40 : Nat) : Int) := rfl
theorem lit_48 : (48 : Int) = ((48 : Nat) : Int) := rfl
theorem lit_56 : (56 : Int) = ((56 : Nat) : Int) := rfl
theorem sm2_64 (a b k : Nat) : (a % 18446744073709551616 ^^^ b % 18446744073709551616) >>> k % 18446744073709551616 = (a % 18446744073709551616 ^^^ b % 18446744073709551616) >>> k :=
  Nat.mod_eq_of_lt (Nat.lt_of_le_of_lt (Nat.shiftRight_le _ _)
    (Nat.xor_lt_two_pow (n := 64) (Nat.mod_lt _ (by decide)) (Nat.mod_lt _ (by decide))))

theorem m32_lt : Murmur.m32 < Ty.size .u32 := by decide
theorem m64_lt : Murmur.m64 < Ty.size .u64 := by decide

theorem murmurLong_bridge (d : Nat) (hd : d < 18446744073709551616) :
    call noArr GoModel.fn_MurmurHashLong [(d : Int)] = ((Murmur.murmurLong d : Nat) : Int) := by
  go_call GoModel.fn_MurmurHashLong
  have hd' : d < Ty.size .u64 := hd
  simp (config := {maxDischargeDepth := 8, decide := true}) only [← Int.cast_ofNat_Int, conv_fit, norm_nat, bxor_fit, mul_nat,
    shr_nat, xor_lt_size, shr_lt_size, mod_lt_size, hd', Int.toNat_natCast]
  simp only [Ty.size, Ty.bits, Nat.reducePow, Nat.reduceMod]
  rfl

def dataArrs (data : Bytes) : Arrays := fun n => if n = 0 then data.map Int.ofNat else []

theorem dataArrs_getD (data : Bytes) (k : Nat) : (dataArrs data 0).getD k 0 = ((data.getD k 0 : Nat) : Int) := by
  simp only [dataArrs, if_true, bytes_getD]

theorem idx_i64 (i : Nat) (j : Int) (h0 : 0 ≤ j) (h7 : j ≤ 7) (hi : 8 * i + 7 < 4611686018427387904) :
    (evalOp .add .i64 (evalOp .shl .i64 (i : Int) 2) j).toNat = 4 * i + j.toNat := by
  simp only [go_arith, Int.reduceToNat, Int.reducePow]; omega

theorem murmur32_body_bridge (data : Bytes) (hw : WFB data) (ρ : Env) (i h : Nat) (h3 : ρ 3 = (i : Int))
    (h4 : ρ 4 = (h : Int)) (h5 : ρ 5 = ((Murmur.m32 : Nat) : Int)) (h6 : ρ 6 = 24) (hh : h < 4294967296)
    (hi : 8 * i + 7 < 4611686018427387904) :
    runEnv (dataArrs data) ρ GoModel.loop_murmurHash.body 4
      = ((Murmur.step32 h (data.getD (4 * i) 0) (data.getD (4 * i + 1) 0) (data.getD (4 * i + 2) 0)
          (data.getD (4 * i + 3) 0) : Nat) : Int) := by
  have bnd (k : Nat) : data.getD k 0 < Ty.size .u32 := byte_lt_size (getD_lt data hw k)
  have hh' : h < Ty.size .u32 := hh
  have j (c : Int) (h0 : 0 ≤ c) (h7 : c ≤ 7) := idx_i64 i c h0 h7 hi
  simp (config := {decide := true}) only [GoModel.loop_murmurHash.body, go_run, if_true, Nat.reduceEqDiff, if_false,
      h3, h4, h5, h6, j, Int.reduceLE, Int.reduceToNat, Nat.add_zero, dataArrs_getD]
  simp (config := {maxDischargeDepth := 8, decide := true}) only [← Int.cast_ofNat_Int, conv_fit, bxor_fit, bor_fit, band_fit,
    shl_nat, mul_nat, shr_nat, xor_lt_size, shr_lt_size, or_lt_size, and_lt_size, mod_lt_size, m32_lt, bnd, hh',
    Int.toNat_natCast]
  simp only [Murmur.step32, Murmur.mixK32, Murmur.loadK, Murmur.mul32, Murmur.shl32, Ty.size, Ty.bits, Nat.reducePow]

theorem murmur32_body_frame (A : Arrays) (ρ : Env) (x : Nat) (hx : x ≠ 8 ∧ x ≠ 9 ∧ x ≠ 4) :
    runEnv A ρ GoModel.loop_murmurHash.body x = ρ x := by
  obtain ⟨h8, h9, h4⟩ := hx
  apply runEnv_frame
  simp [GoModel.loop_murmurHash.body, Stmt.sets, Ne.symm h8, Ne.symm h9, Ne.symm h4]

theorem step32_lt (h d0 d1 d2 d3 : Nat) : Murmur.step32 h d0 d1 d2 d3 < 4294967296 := by
  unfold Murmur.step32 Murmur.mixK32 Murmur.mul32
  exact Nat.xor_lt_two_pow (n := 32) (Nat.mod_lt _ (by decide)) (Nat.mod_lt _ (by decide))

theorem drop4 (data : Bytes) (k : Nat) (h : 4 * k + 3 < data.length) :
    data.drop (4 * k) = data.getD (4 * k) 0 :: data.getD (4 * k + 1) 0 :: data.getD (4 * k + 2) 0
      :: data.getD (4 * k + 3) 0 :: data.drop (4 * (k + 1)) := by
  rw [drop_cons_getD data (4 * k) (by omega), drop_cons_getD data (4 * k + 1) (by omega),
      drop_cons_getD data (4 * k + 2) (by omega), drop_cons_getD data (4 * k + 3) (by omega)]
  rfl

theorem murmur32_pre_bridge (A : Arrays) (ρ : Env) (len seed : Nat) (h1 : ρ 1 = (len : Int)) (h2 : ρ 2 = (seed : Int))
    (hl : len < 2147483648) (hs : seed < 4294967296) :
    let ρ' := runEnv A ρ GoModel.loop_murmurHash.pre
    ρ' 4 = ((seed ^^^ len % 4294967296 : Nat) : Int) ∧ ρ' 5 = ((Murmur.m32 : Nat) : Int) ∧ ρ' 6 = 24
    ∧ ρ' 7 = ((len / 4 : Nat) : Int) ∧ ρ' 1 = (len : Int) := by
  have hs' : seed < Ty.size .u32 := hs
  simp only [GoModel.loop_murmurHash.pre, go_run, h1, h2, if_true, Nat.reduceEqDiff, if_false]
  refine ⟨?_, rfl, trivial, ?_, trivial⟩
  · simp only [norm_nat, bxor_fit hs' (mod_lt_size _ _)]
    rfl
  · rw [norm_nat, shr_nat]
    apply congrArg (fun n : Nat => (n : Int))
    simp only [Ty.size, Ty.bits, Int.reduceToNat, Nat.shiftRight_eq_div_pow]; omega

theorem drop_tail1 (data : Bytes) (n : Nat) (h : n + 1 = data.length) : data.drop n = [data.getD n 0] := by
  rw [drop_cons_getD data n (by omega), List.drop_eq_nil_of_le (by omega)]
theorem drop_tail2 (data : Bytes) (n : Nat) (h : n + 2 = data.length) :
    data.drop n = [data.getD n 0, data.getD (n + 1) 0] := by
  rw [drop_cons_getD data n (by omega), drop_tail1 data (n + 1) (by omega)]
theorem drop_tail3 (data : Bytes) (n : Nat) (h : n + 3 = data.length) :
    data.drop n = [data.getD n 0, data.getD (n + 1) 0, data.getD (n + 2) 0] := by
  rw [drop_cons_getD data n (by omega), drop_tail2 data (n + 1) (by omega)]

/-- `data[length-j]` (below the length the difference is negative and reads index 0, as `Nat` subtraction does) -/
theorem idx_sub (len : Nat) (j : Int) (hl : len < 2147483648) (hj : 0 ≤ j ∧ j ≤ 2147483648) :
    (evalOp .sub .i32 (len : Int) j).toNat = len - j.toNat := by
  simp only [go_arith]; omega

theorem cond_upd (c : Bool) (ρ : Env) (n : Nat) (v : Int) :
    (bif c then upd ρ n v else ρ) = upd ρ n (bif c then v else ρ n) := by
  cases c
  · exact (upd_self ρ n).symm
  · rfl

/-- a conditional `h ^= x` with `h` written once, so that a chain of them stays linear in size -/
theorem cond_xor (c : Bool) (h x : Nat) : (bif c then h ^^^ x else h) = h ^^^ (bif c then x else 0) := by
  cases c <;> simp

/-- the four guarded assignments `if left >= 3 { h ^= … << 16 } … if left != 0 { h *= m }`: they are evaluated once for a
    general length; only then is `data[len/4*4:]` split by its number of bytes -/
theorem murmur32_tail_bridge (data : Bytes) (hw : WFB data) (ρ : Env) (h : Nat)
    (h1 : ρ 1 = (data.length : Int)) (h4 : ρ 4 = (h : Int)) (h5 : ρ 5 = ((Murmur.m32 : Nat) : Int))
    (h7 : ρ 7 = ((data.length / 4 : Nat) : Int)) (hh : h < 4294967296) (hl : data.length < 2147483648) :
    runEnv (dataArrs data) ρ (GoModel.loop_murmurHash.after.take 6) 4
      = ((Murmur.tail32 (data.drop (data.length / 4 * 4)) h : Nat) : Int) := by
  generalize hlen : data.length = len at *
  have bnd (k : Nat) : data.getD k 0 < Ty.size .u32 := byte_lt_size (getD_lt data hw k)
  have hh' : h < Ty.size .u32 := hh
  have e10 : evalOp .shl .u32 ((len / 4 : Nat) : Int) 2 = ((len / 4 * 4 : Nat) : Int) := by
    rw [← Int.cast_ofNat_Int, shl_nat]; apply congrArg (fun n : Nat => (n : Int))
    simp only [Ty.size, Ty.bits, Int.toNat_natCast, Nat.shiftLeft_eq]; omega
  have e11 : evalOp .sub .u32 (norm .u32 (len : Int)) ((len / 4 * 4 : Nat) : Int) = ((len % 4 : Nat) : Int) := by
    simp only [go_arith]; omega
  simp (config := {decide := true}) only [GoModel.loop_murmurHash.after, List.take, go_run, cond_upd, h1, h4, h5, h7,
      if_true, Nat.reduceEqDiff, if_false, e10, e11, idx_sub _ _ hl, Int.reduceToNat, dataArrs_getD]
  simp (config := {maxDischargeDepth := 8, decide := true}) only [← Int.cast_ofNat_Int, conv_fit, bxor_fit, shl_nat, mul_nat,
    ← Bool.apply_cond (Nat.cast : Nat → Int), cond_xor, xor_lt_size, mod_lt_size, cond_lt_size, m32_lt, bnd, hh', Int.toNat_natCast]
  apply congrArg (fun n : Nat => (n : Int))
  have hr : len % 4 = 0 ∨ len % 4 = 1 ∨ len % 4 = 2 ∨ len % 4 = 3 := by omega
  -- `Bool.cond_pos/neg` and not `cond_true/false`: those hold by `rfl`, `simp` then leaves it to the kernel to see that
  -- `bif true then mul32 x m else x` is `mul32 x m`, and the kernel starts by unfolding `mul32`
  rcases hr with hr | hr | hr | hr <;>
    simp only [hr, eqb, leb, Int.cast_ofNat_Int, Int.reduceEq, Int.reduceLE, decide_true, decide_false, Bool.not_true,
      Bool.not_false, Bool.and_true, Bool.and_false, Bool.true_and, Bool.false_and, Bool.cond_pos, Bool.cond_neg,
      Nat.xor_zero]
  · rw [List.drop_eq_nil_of_le (by omega)]; rfl
  · rw [drop_tail1 data _ (by omega), show len - 1 = len / 4 * 4 by omega]; rfl
  · rw [drop_tail2 data _ (by omega), show len - 2 = len / 4 * 4 by omega, show len - 1 = len / 4 * 4 + 1 by omega]; rfl
  · rw [drop_tail3 data _ (by omega), show len - 3 = len / 4 * 4 by omega, show len - 2 = len / 4 * 4 + 1 by omega,
      show len - 1 = len / 4 * 4 + 2 by omega]; rfl

theorem murmur32_fin_bridge (A : Arrays) (σ : Env) (t : Nat) (s4 : σ 4 = (t : Int))
    (s5 : σ 5 = ((Murmur.m32 : Nat) : Int)) (ht : t < 4294967296) :
    runRet A σ (GoModel.loop_murmurHash.after.drop 6) = some ((Murmur.fin32 t : Nat) : Int) := by
  have ht' : t < Ty.size .u32 := ht
  simp only [GoModel.loop_murmurHash.after, List.drop, go_run, s4, s5, if_true, Nat.reduceEqDiff, if_false]
  simp (config := {maxDischargeDepth := 8, decide := true}) only [← Int.cast_ofNat_Int, bxor_fit, mul_nat, shr_nat,
    Int.toNat_natCast, xor_lt_size, shr_lt_size, mod_lt_size, ht']
  rfl

theorem tail32_lt (t : Bytes) (h : Nat) (hh : h < 4294967296) : Murmur.tail32 t h < 4294967296 := by
  unfold Murmur.tail32
  split <;> first | exact Nat.mod_lt _ (by decide) | exact hh

theorem murmur32_after_bridge (data : Bytes) (hw : WFB data) (ρ : Env) (h : Nat)
    (h1 : ρ 1 = (data.length : Int)) (h4 : ρ 4 = (h : Int)) (h5 : ρ 5 = ((Murmur.m32 : Nat) : Int))
    (h7 : ρ 7 = ((data.length / 4 : Nat) : Int)) (hh : h < 4294967296) (hl : data.length < 2147483648) :
    runRet (dataArrs data) ρ GoModel.loop_murmurHash.after
      = some ((Murmur.fin32 (Murmur.tail32 (data.drop (data.length / 4 * 4)) h) : Nat) : Int) := by
  have fr : runEnv (dataArrs data) ρ (GoModel.loop_murmurHash.after.take 6) 5 = ρ 5 :=
    runEnv_frame _ 5 _ _ (by decide)
  exact murmur32_fin_bridge _ _ _ (murmur32_tail_bridge data hw ρ h h1 h4 h5 h7 hh hl) (fr.trans h5) (tail32_lt _ _ hh)

theorem shl255 (d k : Nat) (hk : k ≤ 56) : (d &&& 255) <<< k % 18446744073709551616 = (d &&& 255) <<< k := by
  apply Nat.mod_eq_of_lt
  rw [Nat.shiftLeft_eq]
  have h1 : d &&& 255 < 256 := Nat.and_lt_two_pow d (by decide : 255 < 2 ^ 8)
  have h2 : 2 ^ k ≤ 2 ^ 56 := Nat.pow_le_pow_right (by decide) hk
  calc (d &&& 255) * 2 ^ k ≤ 255 * 2 ^ 56 := Nat.mul_le_mul (by omega) h2
    _ < 18446744073709551616 := by decide

theorem idx8_i64 (i : Nat) (j : Int) (h0 : 0 ≤ j) (h7 : j ≤ 7) (hi : 8 * i + 7 < 4611686018427387904) :
    (evalOp .add .i64 (evalOp .mul .i64 (i : Int) 8) j).toNat = 8 * i + j.toNat := by
  simp only [go_arith]; omega

theorem murmur64_body_bridge (data : Bytes) (hw : WFB data) (ρ : Env) (i h : Nat) (h3 : ρ 3 = (i : Int))
    (h4 : ρ 4 = (h : Int)) (h5 : ρ 5 = ((Murmur.m64 : Nat) : Int)) (h6 : ρ 6 = 47) (hh : h < 18446744073709551616)
    (hi : 8 * i + 7 < 4611686018427387904) :
    runEnv (dataArrs data) ρ GoModel.loop_murmurHashLong.body 4
      = ((Murmur.step64 h (data.getD (8 * i) 0) (data.getD (8 * i + 1) 0) (data.getD (8 * i + 2) 0)
          (data.getD (8 * i + 3) 0) (data.getD (8 * i + 4) 0) (data.getD (8 * i + 5) 0) (data.getD (8 * i + 6) 0)
          (data.getD (8 * i + 7) 0) : Nat) : Int) := by
  have bnd (k : Nat) : data.getD k 0 < Ty.size .u64 := byte_lt_size (getD_lt data hw k)
  have hh' : h < Ty.size .u64 := hh
  have j (c : Int) (h0 : 0 ≤ c) (h7 : c ≤ 7) := idx8_i64 i c h0 h7 hi
  simp (config := {decide := true}) only [GoModel.loop_murmurHashLong.body, go_run, if_true, Nat.reduceEqDiff,
      if_false, h3, h4, h5, h6, j, Int.reduceLE, Int.reduceToNat, Nat.add_zero, dataArrs_getD]
  simp (config := {maxDischargeDepth := 8, decide := true}) only [← Int.cast_ofNat_Int, conv_fit, bxor_fit, band_fit,
    shl_nat, mul_nat, add_nat, shr_nat, xor_lt_size, shr_lt_size, and_lt_size, mod_lt_size, m64_lt, bnd, hh',
    Int.toNat_natCast]
  -- the Go code reduces after every `+`, the model once: both sides lose the inner reductions, the shifted bytes fit
  simp only [Murmur.step64, Murmur.mixK64, Murmur.loadK64, Murmur.mul64, Murmur.shl64, Ty.size, Ty.bits, Nat.reducePow,
    shl255 _ 8 (by decide), shl255 _ 16 (by decide), shl255 _ 24 (by decide), shl255 _ 32 (by decide),
    shl255 _ 40 (by decide), shl255 _ 48 (by decide), shl255 _ 56 (by decide), Nat.mod_add_mod, Nat.add_mod_mod]

theorem murmur64_body_frame (A : Arrays) (ρ : Env) (x : Nat) (hx : x ≠ 8 ∧ x ≠ 9 ∧ x ≠ 4) :
    runEnv A ρ GoModel.loop_murmurHashLong.body x = ρ x := by
  obtain ⟨h8, h9, h4⟩ := hx
  apply runEnv_frame
  simp [GoModel.loop_murmurHashLong.body, Stmt.sets, Ne.symm h8, Ne.symm h9, Ne.symm h4]

theorem step64_lt (h d0 d1 d2 d3 d4 d5 d6 d7 : Nat) : Murmur.step64 h d0 d1 d2 d3 d4 d5 d6 d7 < 18446744073709551616 := by
  unfold Murmur.step64 Murmur.mul64
  exact Nat.mod_lt _ (by decide)

theorem drop8 (data : Bytes) (k : Nat) (h : 8 * k + 7 < data.length) :
    data.drop (8 * k) = data.getD (8 * k) 0 :: data.getD (8 * k + 1) 0 :: data.getD (8 * k + 2) 0
      :: data.getD (8 * k + 3) 0 :: data.getD (8 * k + 4) 0 :: data.getD (8 * k + 5) 0 :: data.getD (8 * k + 6) 0
      :: data.getD (8 * k + 7) 0 :: data.drop (8 * (k + 1)) := by
  rw [drop_cons_getD data (8 * k) (by omega), drop_cons_getD data (8 * k + 1) (by omega),
      drop_cons_getD data (8 * k + 2) (by omega), drop_cons_getD data (8 * k + 3) (by omega),
      drop_cons_getD data (8 * k + 4) (by omega), drop_cons_getD data (8 * k + 5) (by omega),
      drop_cons_getD data (8 * k + 6) (by omega), drop_cons_getD data (8 * k + 7) (by omega)]
  rfl

theorem murmur64_pre_bridge (A : Arrays) (ρ : Env) (len seed : Nat) (h1 : ρ 1 = (len : Int)) (h2 : ρ 2 = (seed : Int))
    (hl : len < 2147483648) (hs : seed < 4294967296) :
    let ρ' := runEnv A ρ GoModel.loop_murmurHashLong.pre
    ρ' 4 = (((seed &&& 0xffffffff) ^^^ Murmur.mul64 (len % 18446744073709551616) Murmur.m64 : Nat) : Int)
    ∧ ρ' 5 = ((Murmur.m64 : Nat) : Int) ∧ ρ' 6 = 47 ∧ ρ' 7 = ((len / 8 : Nat) : Int) ∧ ρ' 1 = (len : Int) := by
  have hs' : seed < Ty.size .u32 := hs
  simp only [GoModel.loop_murmurHashLong.pre, go_run, h1, h2, if_true, Nat.reduceEqDiff, if_false]
  refine ⟨?_, rfl, trivial, ?_, trivial⟩
  · simp (config := {maxDischargeDepth := 8, decide := true}) only [← Int.cast_ofNat_Int, band_fit, conv_fit, and_lt_size, hs']
    simp (config := {maxDischargeDepth := 8, decide := true}) only [norm_nat, mul_nat, bxor_fit, and_lt_size, mod_lt_size]
    rfl
  · simp only [evalOp, show (len : Int).tdiv 8 = ((len / 8 : Nat) : Int) from (Int.ofNat_tdiv len 8).symm]
    simp only [go_arith]; omega

-- the instance of `and_clear_low 32 3` with the mask as the literal that `band_m8` rewrites with; citing the general
-- lemma there instead is about a third slower to check
theorem and_m8 (x : Nat) (hx : x < 2 ^ 32) : x &&& 4294967288 = x - x % 8 :=
  and_clear_low 32 3 x (by decide) hx

theorem band_m8 (len : Nat) (hl : len < 2147483648) :
    evalOp .band .i32 (len : Int) (-8) = ((len - len % 8 : Nat) : Int) := by
  simp only [go_arith, Int.reduceNeg, Int.reduceMod, Int.reduceToNat]
  have e : ((len : Int) % 4294967296).toNat = len := by omega
  rw [e, and_m8 len (by omega)]
  omega

theorem rem8_i32 (len : Nat) (hl : len < 2147483648) : evalOp .rem .i32 (len : Int) 8 = ((len % 8 : Nat) : Int) := by
  simp only [evalOp, show (len : Int).tmod 8 = ((len % 8 : Nat) : Int) from (Int.ofNat_tmod len 8).symm]
  simp only [go_arith]; omega

theorem tail64_lt (t : Bytes) (h : Nat) (hh : h < 18446744073709551616) : Murmur.tail64 t h < 18446744073709551616 := by
  unfold Murmur.tail64
  split <;> first | exact Nat.mod_lt _ (by decide) | exact hh

theorem tail_idx (len : Nat) (j : Nat) (hl : len < 2147483648) (hj : j ≤ 7) :
    (evalOp .add .i32 (evalOp .band .i32 (len : Int) (-8)) (j : Int)).toNat = len / 8 * 8 + j := by
  rw [band_m8 len hl]
  simp only [go_arith]; omega

/-- the `switch length % 8` with fall-through, transcribed as eight guarded assignments: they are evaluated once
    for a general length; only then is the remainder `data[length&^7:]` split by its number of bytes -/
theorem murmur64_tail_bridge (data : Bytes) (hw : WFB data) (ρ : Env) (h : Nat)
    (h1 : ρ 1 = (data.length : Int)) (h4 : ρ 4 = (h : Int)) (h5 : ρ 5 = ((Murmur.m64 : Nat) : Int))
    (hh : h < 18446744073709551616) (hl : data.length < 2147483648) :
    runEnv (dataArrs data) ρ (GoModel.loop_murmurHashLong.after.take 8) 4
      = ((Murmur.tail64 (data.drop (data.length / 8 * 8)) h : Nat) : Int) := by
  generalize hlen : data.length = len at *
  have bnd8 (k : Nat) : data.getD k 0 < Ty.size .u8 := getD_lt data hw k
  have bnd (k : Nat) : data.getD k 0 < Ty.size .u64 := byte_lt_size (getD_lt data hw k)
  have hh' : h < Ty.size .u64 := hh
  have i0 : (evalOp .band .i32 (len : Int) (-8)).toNat = len / 8 * 8 := by rw [band_m8 len hl]; omega
  have i1 : (evalOp .add .i32 (evalOp .band .i32 (len : Int) (-8)) 1).toNat = len / 8 * 8 + 1 := tail_idx len 1 hl (by decide)
  have i2 : (evalOp .add .i32 (evalOp .band .i32 (len : Int) (-8)) 2).toNat = len / 8 * 8 + 2 := tail_idx len 2 hl (by decide)
  have i3 : (evalOp .add .i32 (evalOp .band .i32 (len : Int) (-8)) 3).toNat = len / 8 * 8 + 3 := tail_idx len 3 hl (by decide)
  have i4 : (evalOp .add .i32 (evalOp .band .i32 (len : Int) (-8)) 4).toNat = len / 8 * 8 + 4 := tail_idx len 4 hl (by decide)
  have i5 : (evalOp .add .i32 (evalOp .band .i32 (len : Int) (-8)) 5).toNat = len / 8 * 8 + 5 := tail_idx len 5 hl (by decide)
  have i6 : (evalOp .add .i32 (evalOp .band .i32 (len : Int) (-8)) 6).toNat = len / 8 * 8 + 6 := tail_idx len 6 hl (by decide)
  simp only [GoModel.loop_murmurHashLong.after, List.take, go_run, cond_upd, h1, h4, h5, if_true, Nat.reduceEqDiff,
      if_false, rem8_i32 len hl, i0, i1, i2, i3, i4, i5, i6, dataArrs_getD]
  simp (config := {maxDischargeDepth := 8, decide := true}) only [← Int.cast_ofNat_Int, conv_fit, bxor_fit, band_fit, shl_nat,
    mul_nat, ← Bool.apply_cond (Nat.cast : Nat → Int), cond_xor, xor_lt_size, cond_lt_size, mod_lt_size, and_lt_size, m64_lt, bnd, bnd8, hh',
    Int.toNat_natCast]
  apply congrArg (fun n : Nat => (n : Int))
  have hr : len % 8 = (data.drop (len / 8 * 8)).length := by rw [List.length_drop]; omega
  have hd (j : Nat) : data.getD (len / 8 * 8 + j) 0 = (data.drop (len / 8 * 8)).getD j 0 := by
    simp only [List.getD, List.getElem?_drop]
  have ht : (data.drop (len / 8 * 8)).length < 8 := by rw [← hr]; omega
  have hd0 := hd 0
  rw [Nat.add_zero] at hd0
  simp only [hd, hd0, hr]
  generalize data.drop (len / 8 * 8) = t at ht
  rcases t with _ | ⟨a, _ | ⟨b, _ | ⟨c, _ | ⟨d, _ | ⟨e, _ | ⟨f, _ | ⟨g, _ | ⟨i, t⟩⟩⟩⟩⟩⟩⟩⟩
  -- `Bool.cond_pos/neg` and not `cond_true/false`: those hold by `rfl`, `simp` then leaves it to the kernel to see that
  -- `bif true then x * m % 2^64 else x` is `x * m % 2^64`, and the kernel starts by evaluating the product
  all_goals simp only [Murmur.tail64, Murmur.mul64, Murmur.shl64, Ty.size, Ty.bits, Nat.reducePow, List.length_cons,
    List.length_nil, Nat.zero_add, Nat.reduceAdd, Int.cast_ofNat_Int, List.contains_cons, List.contains_nil,
    Int.reduceBEq, Bool.or_false, Bool.or_true, Bool.false_or, Bool.true_or, Bool.cond_pos, Bool.cond_neg, Nat.xor_zero,
    List.getD_cons_zero, List.getD_cons_succ]
  exact absurd ht (by simp only [List.length_cons]; omega)

theorem murmur64_fin_bridge (A : Arrays) (σ : Env) (t : Nat) (s4 : σ 4 = (t : Int))
    (s5 : σ 5 = ((Murmur.m64 : Nat) : Int)) (s6 : σ 6 = 47) (ht : t < 18446744073709551616) :
    runRet A σ (GoModel.loop_murmurHashLong.after.drop 8) = some ((Murmur.fin64 t : Nat) : Int) := by
  have ht' : t < Ty.size .u64 := ht
  simp only [GoModel.loop_murmurHashLong.after, List.drop, go_run, s4, s5, s6, if_true, Nat.reduceEqDiff, if_false]
  simp (config := {maxDischargeDepth := 8, decide := true}) only [← Int.cast_ofNat_Int, bxor_fit, mul_nat, shr_nat,
    Int.toNat_natCast, xor_lt_size, shr_lt_size, mod_lt_size, ht']
  rfl

theorem murmur64_after_bridge (data : Bytes) (hw : WFB data) (ρ : Env) (h : Nat)
    (h1 : ρ 1 = (data.length : Int)) (h4 : ρ 4 = (h : Int)) (h5 : ρ 5 = ((Murmur.m64 : Nat) : Int)) (h6 : ρ 6 = 47)
    (hh : h < 18446744073709551616) (hl : data.length < 2147483648) :
    runRet (dataArrs data) ρ GoModel.loop_murmurHashLong.after
      = some ((Murmur.fin64 (Murmur.tail64 (data.drop (data.length / 8 * 8)) h) : Nat) : Int) := by
  have fr (x : Nat) (hx : x ≠ 4) : runEnv (dataArrs data) ρ (GoModel.loop_murmurHashLong.after.take 8) x = ρ x := by
    apply runEnv_frame
    simp [GoModel.loop_murmurHashLong.after, Stmt.sets, Ne.symm hx]
  exact murmur64_fin_bridge _ _ _ (murmur64_tail_bridge data hw ρ h h1 h4 h5 hh hl) ((fr 5 (by decide)).trans h5)
    ((fr 6 (by decide)).trans h6) (tail64_lt _ _ hh)

end GoBridge
