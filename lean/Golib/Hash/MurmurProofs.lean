/-
  Golib.Hash.MurmurProofs — the transcribed murmur functions against the published algorithms.
-/
import Golib.Hash.Murmur

namespace Murmur
open Ref

theorem walk4_short (step) (t : Bytes) (h : Nat) (ht : t.length < 4) : walk4 step t h = (h, t) := by
  fun_cases walk4 step t h with
  | case1 => simp at ht; omega
  | case2 => rfl

theorem walk4_cons (step) (d0 d1 d2 d3 h : Nat) (rest : Bytes) :
    walk4 step (d0 :: d1 :: d2 :: d3 :: rest) h = walk4 step rest (step h d0 d1 d2 d3) := by
  rw [walk4]

/-- two step functions that agree on bytes walk alike; `B` whole blocks followed by any short tails -/
theorem walk4_app (s1 s2 : Nat → Nat → Nat → Nat → Nat → Nat)
    (hs : ∀ h d0 d1 d2 d3, d0 < 256 → d1 < 256 → d2 < 256 → d3 < 256 → s1 h d0 d1 d2 d3 = s2 h d0 d1 d2 d3)
    (n : Nat) : ∀ (B t t' : Bytes) (h : Nat), B.length = 4 * n → t.length < 4 → t'.length < 4 → WFB B →
    walk4 s1 (B ++ t) h = ((walk4 s2 B h).1, t) ∧ walk4 s2 (B ++ t') h = ((walk4 s2 B h).1, t') := by
  induction n with
  | zero =>
    intro B t t' h hB ht ht' _
    have : B = [] := List.eq_nil_of_length_eq_zero (by omega)
    subst this
    simp only [List.nil_append, walk4_short _ t h ht, walk4_short _ t' h ht', walk4_short s2 [] h (by simp)]
    simp
  | succ n ih =>
    intro B t t' h hB ht ht' hw
    rcases B with _ | ⟨d0, _ | ⟨d1, _ | ⟨d2, _ | ⟨d3, rest⟩⟩⟩⟩
    · simp at hB
    · simp at hB; omega
    · simp at hB; omega
    · simp at hB; omega
    · have hB' : rest.length = 4 * n := by simp at hB; omega
      have ⟨h0, hw⟩ := WFB_cons.mp hw
      have ⟨h1, hw⟩ := WFB_cons.mp hw
      have ⟨h2, hw⟩ := WFB_cons.mp hw
      have ⟨h3, hw⟩ := WFB_cons.mp hw
      simp only [List.cons_append, walk4_cons, hs h d0 d1 d2 d3 h0 h1 h2 h3]
      exact ih rest t t' _ hB' ht ht' hw

theorem walk8_short (step) (t : Bytes) (h : Nat) (ht : t.length < 8) : walk8 step t h = (h, t) := by
  fun_cases walk8 step t h with
  | case1 => simp at ht; omega
  | case2 => rfl

theorem walk8_cons (step) (d0 d1 d2 d3 d4 d5 d6 d7 h : Nat) (rest : Bytes) :
    walk8 step (d0 :: d1 :: d2 :: d3 :: d4 :: d5 :: d6 :: d7 :: rest) h
      = walk8 step rest (step h d0 d1 d2 d3 d4 d5 d6 d7) := by
  rw [walk8]

theorem walk8_congr (s1 s2 : Nat → Nat → Nat → Nat → Nat → Nat → Nat → Nat → Nat → Nat)
    (hs : ∀ h d0 d1 d2 d3 d4 d5 d6 d7, d0 < 256 → d1 < 256 → d2 < 256 → d3 < 256 → d4 < 256 → d5 < 256 →
      d6 < 256 → d7 < 256 → s1 h d0 d1 d2 d3 d4 d5 d6 d7 = s2 h d0 d1 d2 d3 d4 d5 d6 d7)
    (data : Bytes) (h : Nat) (hw : WFB data) :
    walk8 s1 data h = walk8 s2 data h ∧ WFB (walk8 s2 data h).2 := by
  fun_induction walk8 s2 data h with
  | case1 d0 d1 d2 d3 d4 d5 d6 d7 rest h ih =>
    have ⟨h0, hw⟩ := WFB_cons.mp hw
    have ⟨h1, hw⟩ := WFB_cons.mp hw
    have ⟨h2, hw⟩ := WFB_cons.mp hw
    have ⟨h3, hw⟩ := WFB_cons.mp hw
    have ⟨h4, hw⟩ := WFB_cons.mp hw
    have ⟨h5, hw⟩ := WFB_cons.mp hw
    have ⟨h6, hw⟩ := WFB_cons.mp hw
    have ⟨h7, hw⟩ := WFB_cons.mp hw
    rw [walk8_cons, hs h d0 d1 d2 d3 d4 d5 d6 d7 h0 h1 h2 h3 h4 h5 h6 h7]
    exact ih hw
  | case2 tail h hne => rw [walk8.eq_2 _ _ _ hne]; exact ⟨rfl, hw⟩

theorem and_ff (d : Nat) (h : d < 256) : d &&& 0xff = d := by
  have e : (0xff : Nat) = 2 ^ 8 - 1 := rfl
  rw [e, Nat.and_two_pow_sub_one_eq_mod]
  exact Nat.mod_eq_of_lt h

theorem shl32_8 (a : Nat) : shl32 a 8 = (a * 256) % 4294967296 := by
  unfold shl32; rw [Nat.shiftLeft_eq]
theorem shl32_16 (a : Nat) : shl32 a 16 = (a * 65536) % 4294967296 := by
  unfold shl32; rw [Nat.shiftLeft_eq]

theorem shl_or (a d : Nat) (ha : a < 16777216) (hd : d < 256) : (a * 256) % 4294967296 ||| d = a * 256 + d := by
  have e : a * 256 % 4294967296 = a * 256 := by omega
  rw [e]; exact Golib.or_disjoint 8 _ d (Nat.mul_mod_left a 256) hd

theorem loadK_eq (d0 d1 d2 d3 : Nat) (h0 : d0 < 256) (h1 : d1 < 256) (h2 : d2 < 256) (h3 : d3 < 256) :
    loadK d0 d1 d2 d3 = le32 d0 d1 d2 d3 := by
  unfold loadK le32
  simp only [and_ff _ h0, and_ff _ h1, and_ff _ h2, shl32_8]
  rw [shl_or d3 d2 (by omega) h2, shl_or _ d1 (by omega) h1, shl_or _ d0 (by omega) h0]
  omega

theorem step32_eq (h d0 d1 d2 d3 : Nat) (h0 : d0 < 256) (h1 : d1 < 256) (h2 : d2 < 256) (h3 : d3 < 256) :
    step32 h d0 d1 d2 d3 = step2 h d0 d1 d2 d3 := by
  unfold step32 step2
  rw [loadK_eq _ _ _ _ h0 h1 h2 h3]
  simp only [mixK32, mul32, Nat.shiftRight_eq_div_pow, Nat.reducePow]

theorem tail32_rev (t : Bytes) (h : Nat) (ht : t.length < 4) (hw : WFB t) : tail32 t h = tail2 t.reverse h := by
  rcases t with _ | ⟨x, _ | ⟨y, _ | ⟨z, _ | ⟨w, r⟩⟩⟩⟩
  · rfl
  · simp only [tail32, tail2, mul32, List.reverse_cons, List.reverse_nil, List.nil_append]
  · have ⟨hx, hw⟩ := WFB_cons.mp hw
    have e : x * 256 % 4294967296 = x * 256 := Nat.mod_eq_of_lt (by omega)
    simp only [tail32, tail2, mul32, shl32_8, e, List.reverse_cons, List.reverse_nil, List.nil_append,
      List.cons_append]
  · have ⟨hx, hw⟩ := WFB_cons.mp hw
    have ⟨hy, hw⟩ := WFB_cons.mp hw
    have e : x * 65536 % 4294967296 = x * 65536 := Nat.mod_eq_of_lt (by omega)
    have e' : y * 256 % 4294967296 = y * 256 := Nat.mod_eq_of_lt (by omega)
    simp only [tail32, tail2, mul32, shl32_8, shl32_16, e, e', List.reverse_cons, List.reverse_nil,
      List.nil_append, List.cons_append]
  · simp at ht; omega

theorem fin32_eq (h : Nat) :
    fin32 h = (((h ^^^ (h / 8192)) * m32) % 4294967296) ^^^ ((((h ^^^ (h / 8192)) * m32) % 4294967296) / 32768) := by
  simp only [fin32, mul32, Nat.shiftRight_eq_div_pow, Nat.reducePow]

/-- what `MurmurHashByteSeed` computes, in terms of the published algorithm: MurmurHash2 of the input
    whose last `len % 4` bytes are reversed -/
theorem murmur32_blocks_tail (B t : Bytes) (seed n : Nat) (hB : B.length = 4 * n) (ht : t.length < 4)
    (hw : WFB (B ++ t)) : murmur32 (B ++ t) seed = murmurHash2 (B ++ t.reverse) seed := by
  have ⟨hwB, hwt⟩ := WFB_append.mp hw
  have ⟨e1, e2⟩ := walk4_app step32 step2 step32_eq n B t t.reverse (seed ^^^ ((B ++ t).length % 4294967296)) hB ht
    (by simpa using ht) hwB
  have hl : (B ++ t.reverse).length = (B ++ t).length := by simp
  simp only [murmur32, murmurHash2, blocks32, loop2, hl, e1, e2, tail32_rev t _ ht hwt, fin32_eq]

theorem split_blocks (data : Bytes) :
    data = data.take (data.length / 4 * 4) ++ data.drop (data.length / 4 * 4)
    ∧ (data.take (data.length / 4 * 4)).length = 4 * (data.length / 4)
    ∧ (data.drop (data.length / 4 * 4)).length = data.length % 4 := by
  refine ⟨(List.take_append_drop _ _).symm, ?_, ?_⟩
  · rw [List.length_take]; omega
  · rw [List.length_drop]; omega

theorem tail32_java (t : Bytes) (h : Nat) (ht : ∀ b ∈ t, b < 128) : tail32 t h = javaTail32 t h := by
  have sx : ∀ b ∈ t, sext8 b = b := fun b hb => by unfold sext8; simp [ht b hb]
  rcases t with _ | ⟨x, _ | ⟨y, _ | ⟨z, _ | ⟨w, r⟩⟩⟩⟩
  · rfl
  · simp only [tail32, javaTail32, mul32, sx x (by simp)]
  · simp only [tail32, javaTail32, mul32, shl32_8, sx x (by simp), sx y (by simp)]
  · simp only [tail32, javaTail32, mul32, shl32_8, shl32_16, sx x (by simp), sx y (by simp), sx z (by simp)]
  · simp only [tail32, javaTail32]

/-- on inputs whose left-over bytes are all below 0x80 the Go function coincides with the stream-lib Java
    port it was translated from (which sign-extends the tail bytes) -/
theorem murmur32_blocks_java (B t : Bytes) (seed n : Nat) (hB : B.length = 4 * n) (ht : t.length < 4)
    (hw : WFB (B ++ t)) (h7 : ∀ b ∈ t, b < 128) : murmur32 (B ++ t) seed = javaMurmur32 (B ++ t) seed := by
  have ⟨hwB, hwt⟩ := WFB_append.mp hw
  have ⟨e1, e2⟩ := walk4_app step32 step2 step32_eq n B t t (seed ^^^ ((B ++ t).length % 4294967296)) hB ht ht hwB
  simp only [murmur32, javaMurmur32, blocks32, loop2, e1, e2, tail32_java t _ h7, fin32_eq]

theorem murmur32_eq_ref_swapTail (data : Bytes) (seed : Nat) (hw : WFB data) :
    murmur32 data seed = murmurHash2 (swapTail data) seed := by
  have ⟨e, hB, ht⟩ := split_blocks data
  have := murmur32_blocks_tail (data.take (data.length / 4 * 4)) (data.drop (data.length / 4 * 4)) seed _ hB
    (by omega) (by rw [← e]; exact hw)
  rw [← e] at this
  exact this

theorem le32_low (d : Nat) : le32 (d % 256) (d / 256 % 256) (d / 65536 % 256) (d / 16777216 % 256) = d % 4294967296 := by
  unfold le32; omega

theorem le32_high (d : Nat) (hd : d < 18446744073709551616) :
    le32 (d / 4294967296 % 256) (d / 1099511627776 % 256) (d / 281474976710656 % 256) (d / 72057594037927936 % 256)
      = d / 4294967296 := by
  unfold le32; omega

theorem mulm_low (d : Nat) :
    (d * 1540483477) % 18446744073709551616 % 4294967296 = (d % 4294967296 * 1540483477) % 4294967296 := by omega

theorem mulm_high (d : Nat) :
    (d / 4294967296 * 1540483477) % 18446744073709551616 % 4294967296 = (d / 4294967296 * 1540483477) % 4294967296 := by
  omega

/-- `MurmurHashLong(d)` is MurmurHash2 of the eight little-endian bytes of `d` with seed 8
    (so that `seed ^ len = 0`, the `h = 0` of the Java `hashLong`) -/
theorem murmurLong_ref (d : Nat) (hd : d < 18446744073709551616) :
    murmurLong d = murmurHash2 (bytes8 d) 8 := by
  have e32 : d >>> 32 = d / 4294967296 := by rw [Nat.shiftRight_eq_div_pow]
  have em : m32 = 1540483477 := rfl
  have w : walk4 step2 (bytes8 d) 0 =
      (step2 (step2 0 (d % 256) (d / 256 % 256) (d / 65536 % 256) (d / 16777216 % 256))
        (d / 4294967296 % 256) (d / 1099511627776 % 256) (d / 281474976710656 % 256) (d / 72057594037927936 % 256), []) := by
    unfold bytes8
    rw [walk4_cons, walk4_cons, walk4_short _ [] _ (by simp)]
  have h0 : (8 : Nat) ^^^ (bytes8 d).length % 4294967296 = 0 := by
    have : (bytes8 d).length = 8 := rfl
    rw [this]; decide
  simp only [murmurHash2, loop2, h0, w, tail2, step2, le32_low, le32_high d hd]
  simp only [murmurLong, mul32, mul64, Nat.shiftRight_eq_div_pow, Nat.reducePow, e32, fin32_eq, em, mulm_low]
  simp

theorem shl64_of_lt (a s : Nat) (h : a * 2 ^ s < 18446744073709551616) : shl64 a s = a * 2 ^ s := by
  unfold shl64; rw [Nat.shiftLeft_eq]; exact Nat.mod_eq_of_lt h

theorem shl64_byte (a s : Nat) (ha : a < 256) (hs : s ≤ 56) : shl64 a s = a * 2 ^ s := by
  apply shl64_of_lt
  have h1 : 2 ^ s ≤ 2 ^ 56 := Nat.pow_le_pow_right (by decide) hs
  have h2 : a * 2 ^ s ≤ 255 * 2 ^ 56 := Nat.mul_le_mul (by omega) h1
  have h3 : 255 * 2 ^ 56 < 18446744073709551616 := by decide
  omega

theorem loadK64_eq (d0 d1 d2 d3 d4 d5 d6 d7 : Nat) (h0 : d0 < 256) (h1 : d1 < 256) (h2 : d2 < 256)
    (h3 : d3 < 256) (h4 : d4 < 256) (h5 : d5 < 256) (h6 : d6 < 256) (h7 : d7 < 256) :
    loadK64 d0 d1 d2 d3 d4 d5 d6 d7 = le64 d0 d1 d2 d3 d4 d5 d6 d7 := by
  unfold loadK64 le64
  simp only [and_ff _ h0, and_ff _ h1, and_ff _ h2, and_ff _ h3, and_ff _ h4, and_ff _ h5, and_ff _ h6, and_ff _ h7]
  rw [shl64_byte d1 8 h1 (by decide), shl64_byte d2 16 h2 (by decide), shl64_byte d3 24 h3 (by decide),
      shl64_byte d4 32 h4 (by decide), shl64_byte d5 40 h5 (by decide), shl64_byte d6 48 h6 (by decide),
      shl64_byte d7 56 h7 (by decide)]
  simp only [Nat.reducePow]
  omega

theorem step64_eq (h d0 d1 d2 d3 d4 d5 d6 d7 : Nat) (h0 : d0 < 256) (h1 : d1 < 256) (h2 : d2 < 256)
    (h3 : d3 < 256) (h4 : d4 < 256) (h5 : d5 < 256) (h6 : d6 < 256) (h7 : d7 < 256) :
    step64 h d0 d1 d2 d3 d4 d5 d6 d7 = step64A h d0 d1 d2 d3 d4 d5 d6 d7 := by
  unfold step64 step64A
  rw [loadK64_eq _ _ _ _ _ _ _ _ h0 h1 h2 h3 h4 h5 h6 h7]
  simp only [mixK64, mul64, Nat.shiftRight_eq_div_pow, Nat.reducePow]

theorem tail64_eq (t : Bytes) (h : Nat) (hw : WFB t) : tail64 t h = tail64A t h := by
  rcases t with _ | ⟨a, _ | ⟨b, _ | ⟨c, _ | ⟨d, _ | ⟨e, _ | ⟨f, _ | ⟨g, _ | ⟨i, r⟩⟩⟩⟩⟩⟩⟩⟩
  · rfl
  · have ⟨ha, hw⟩ := WFB_cons.mp hw
    simp only [tail64, tail64A, mul64, and_ff _ ha]
  · have ⟨ha, hw⟩ := WFB_cons.mp hw
    have ⟨hb, hw⟩ := WFB_cons.mp hw
    simp only [tail64, tail64A, mul64, and_ff _ ha, and_ff _ hb, shl64_byte b 8 hb (by decide), Nat.reducePow]
  · have ⟨ha, hw⟩ := WFB_cons.mp hw
    have ⟨hb, hw⟩ := WFB_cons.mp hw
    have ⟨hc, hw⟩ := WFB_cons.mp hw
    simp only [tail64, tail64A, mul64, and_ff _ ha, and_ff _ hb, and_ff _ hc, shl64_byte b 8 hb (by decide),
      shl64_byte c 16 hc (by decide), Nat.reducePow]
  · have ⟨ha, hw⟩ := WFB_cons.mp hw
    have ⟨hb, hw⟩ := WFB_cons.mp hw
    have ⟨hc, hw⟩ := WFB_cons.mp hw
    have ⟨hd, hw⟩ := WFB_cons.mp hw
    simp only [tail64, tail64A, mul64, and_ff _ ha, and_ff _ hb, and_ff _ hc, and_ff _ hd,
      shl64_byte b 8 hb (by decide), shl64_byte c 16 hc (by decide), shl64_byte d 24 hd (by decide), Nat.reducePow]
  · have ⟨ha, hw⟩ := WFB_cons.mp hw
    have ⟨hb, hw⟩ := WFB_cons.mp hw
    have ⟨hc, hw⟩ := WFB_cons.mp hw
    have ⟨hd, hw⟩ := WFB_cons.mp hw
    have ⟨he, hw⟩ := WFB_cons.mp hw
    simp only [tail64, tail64A, mul64, and_ff _ ha, and_ff _ hb, and_ff _ hc, and_ff _ hd, and_ff _ he,
      shl64_byte b 8 hb (by decide), shl64_byte c 16 hc (by decide), shl64_byte d 24 hd (by decide),
      shl64_byte e 32 he (by decide), Nat.reducePow]
  · have ⟨ha, hw⟩ := WFB_cons.mp hw
    have ⟨hb, hw⟩ := WFB_cons.mp hw
    have ⟨hc, hw⟩ := WFB_cons.mp hw
    have ⟨hd, hw⟩ := WFB_cons.mp hw
    have ⟨he, hw⟩ := WFB_cons.mp hw
    have ⟨hf, hw⟩ := WFB_cons.mp hw
    simp only [tail64, tail64A, mul64, and_ff _ ha, and_ff _ hb, and_ff _ hc, and_ff _ hd, and_ff _ he, and_ff _ hf,
      shl64_byte b 8 hb (by decide), shl64_byte c 16 hc (by decide), shl64_byte d 24 hd (by decide),
      shl64_byte e 32 he (by decide), shl64_byte f 40 hf (by decide), Nat.reducePow]
  · have ⟨ha, hw⟩ := WFB_cons.mp hw
    have ⟨hb, hw⟩ := WFB_cons.mp hw
    have ⟨hc, hw⟩ := WFB_cons.mp hw
    have ⟨hd, hw⟩ := WFB_cons.mp hw
    have ⟨he, hw⟩ := WFB_cons.mp hw
    have ⟨hf, hw⟩ := WFB_cons.mp hw
    have ⟨hg, hw⟩ := WFB_cons.mp hw
    simp only [tail64, tail64A, mul64, and_ff _ ha, and_ff _ hb, and_ff _ hc, and_ff _ hd, and_ff _ he, and_ff _ hf,
      and_ff _ hg, shl64_byte b 8 hb (by decide), shl64_byte c 16 hc (by decide), shl64_byte d 24 hd (by decide),
      shl64_byte e 32 he (by decide), shl64_byte f 40 hf (by decide), shl64_byte g 48 hg (by decide), Nat.reducePow]
  · simp only [tail64, tail64A]

/-- `murmurHashLong(data, len(data), seed)` is MurmurHash64A -/
theorem murmur64_eq_ref (data : Bytes) (seed : Nat) (hw : WFB data) :
    murmur64 data seed = murmurHash64A data seed := by
  have es : seed &&& 0xffffffff = seed % 4294967296 := by
    have e : (0xffffffff : Nat) = 2 ^ 32 - 1 := rfl
    rw [e, Nat.and_two_pow_sub_one_eq_mod]
  have el : (data.length % 18446744073709551616 * m64) % 18446744073709551616
      = (data.length * m64) % 18446744073709551616 := Nat.mod_mul_mod _ _ _
  have ⟨e1, e2⟩ := walk8_congr step64 step64A step64_eq data
    ((seed % 4294967296) ^^^ ((data.length * m64) % 18446744073709551616)) hw
  simp only [murmur64, murmurHash64A, blocks64, loop64A, mul64, es, el, e1]
  rw [tail64_eq _ _ e2]
  simp only [fin64, mul64, Nat.shiftRight_eq_div_pow, Nat.reducePow]

end Murmur
