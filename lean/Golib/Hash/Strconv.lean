/-
  Golib.Hash.Strconv — the two `strconv` functions the identifier encodings call, as specified by
  the Go documentation (modelled, not verified: package strconv).

  (core Lean only; imported by the driver)
-/
import Golib.Basic

namespace Strconv

/-- decimal text of a non-negative `int` as `strconv.Itoa` prints it -/
def itoaNat (n : Nat) : List Char := (Nat.toDigits 10 n)

def atoiDigits : List Char → Nat → Option Nat
  | [], acc => some acc
  | c :: cs, acc => if '0' ≤ c ∧ c ≤ '9' then atoiDigits cs (acc * 10 + (c.toNat - 48)) else none

def atoiSigned (neg : Bool) (body : List Char) : Option Int :=
  if body.isEmpty then none else
  match atoiDigits body 0 with
  | none => none
  | some n =>
    if neg then (if n ≤ 9223372036854775808 then some (-(n : Int)) else none)
    else (if n ≤ 9223372036854775807 then some (n : Int) else none)

/-- `strconv.Atoi` on a 64-bit platform: optional sign, at least one decimal digit, nothing else,
    value within int64; otherwise an error (`none`) -/
def atoi (s : List Char) : Option Int :=
  match s with
  | '-' :: r => atoiSigned true r
  | '+' :: r => atoiSigned false r
  | r => atoiSigned false r

/-- `strings.Split(s, ".")`-style split of a character list on one separator character -/
def splitOn (sep : Char) : List Char → List (List Char)
  | [] => [[]]
  | c :: cs =>
    match splitOn sep cs with
    | [] => [[c]]          -- unreachable: `splitOn` never returns `[]`
    | p :: ps => if c = sep then [] :: p :: ps else (c :: p) :: ps

end Strconv
