/-
  Golib.Hash.GoBridgeHash — bridge theorems: the loop bodies and after-loop blocks of
  hash.Hash / Hash64 / Hash64v2 / Hash64V2 and stringutil.HashCode compute the CodeModel steps for every
  register value, every byte slice and every index (the whole functions: `GoBridgeFull`).
-/
import Golib.Hash.GoU
import Golib.Hash.Crc
import Golib.Hash.BitIp
set_option linter.unusedVariables false
set_option linter.unusedSimpArgs false

namespace GoBridge
open GoSem

def tableInts : List Int := Hash.table.map Int.ofNat

/-- arrays of the hash functions for a possibly-nil slice (`none` = nil): 0 is the slice parameter (slice parameters are
    numbered with the function's identifiers), 1000 the package-level `table` (the translator gives package-level
    arrays fixed numbers from 1000 on: `table` 1000, `digits` 1001), `nilTag 0` records that parameter 0 is nil -/
def hashArrsO (o : Option Bytes) : Arrays := fun n =>
  if n = 0 then (o.getD []).map Int.ofNat else if n = 1000 then tableInts
  else if n = nilTag 0 then (if o.isNone then [1] else []) else []

theorem tbl_eq_getD (k : Nat) : Hash.tbl k = Hash.table.getD k 0 := by
  by_cases h : k < Hash.table.length
  · simp [Hash.tbl, Hash.tableArr, Array.getD, List.getD, h]
  · have h' : Hash.table.length ≤ k := by omega
    simp [Hash.tbl, Hash.tableArr, Array.getD, List.getD, h, List.getElem?_eq_none h']

theorem tableInts_getD (k : Nat) : tableInts.getD k 0 = ((Hash.tbl k : Nat) : Int) := by
  rw [tbl_eq_getD]
  unfold tableInts
  simp only [List.getD, List.getElem?_map]
  cases Hash.table[k]? <;> rfl

theorem bytes_getD (bs : Bytes) (i : Nat) : (bs.map Int.ofNat).getD i 0 = ((bs.getD i 0 : Nat) : Int) := by
  simp only [List.getD, List.getElem?_map]
  cases bs[i]? <;> rfl

theorem cast_mod_toNat (n : Nat) (m : Nat) (hm : 0 < m) : (((n : Int) % (m : Int)).toNat) = n % m := by
  rw [← Int.natCast_emod]; exact Int.toNat_natCast _

theorem getD_lt (bs : Bytes) (hw : WFB bs) (i : Nat) : bs.getD i 0 < 256 := by
  simp only [List.getD]
  cases h : bs[i]? with
  | none => simp
  | some b => exact hw b (List.mem_of_getElem? h)

/- The four loop bodies go the same way: run the block; rewrite with the lemmas of `GoU`, which speak of casts of
   naturals, so every integer literal of the code is first turned into the cast of a `Nat` literal
   (`← Int.cast_ofNat_Int`); the side goals `x < t.size` come from the closure lemmas, closed ones from `decide`;
   unfold the model's step. -/
theorem hash_body_bridge (o : Option Bytes) (hw : WFB (o.getD [])) (ρ : Env) (i c : Nat) (hρ : ρ 2 = (c : Int)) (hc : c < 4294967296) :
    step (hashArrsO o) (upd ρ 1 (i : Int)) GoModel.loop_Hash.body 2
      = ((Hash.crcStep c ((o.getD []).getD i 0) : Nat) : Int) := by
  have hc' : c < Ty.size .u32 := hc
  have hb : (o.getD []).getD i 0 < Ty.size .u32 := byte_lt_size (getD_lt _ hw i)
  simp only [go_run, GoModel.loop_Hash.body, hashArrsO, if_true, Nat.reduceEqDiff, if_false, hρ, Int.toNat_natCast,
      bytes_getD, tableInts_getD]
  simp (config := {maxDischargeDepth := 8, decide := true}) only [← Int.cast_ofNat_Int, conv_fit, norm_nat, bxor_fit, shr_nat,
    norm_norm, xor_lt_size, shr_lt_size, mod_lt_size, hc', hb, Int.toNat_natCast]
  simp only [Hash.crcStep, Ty.size, Ty.bits, Nat.reducePow]

theorem sext_eq (t : Nat) : norm .u64 (norm .i32 (t : Int)) = ((Hash.sext32to64 t : Nat) : Int) := by
  unfold Hash.sext32to64
  simp only [go_arith]
  split <;> omega

theorem sext_lt (t : Nat) : Hash.sext32to64 t < 18446744073709551616 := by
  unfold Hash.sext32to64; split <;> omega

theorem hash64_body_bridge (o : Option Bytes) (hw : WFB (o.getD [])) (ρ : Env) (i c : Nat) (hρ : ρ 2 = (c : Int))
    (hc : c < 18446744073709551616) :
    step (hashArrsO o) (upd ρ 1 (i : Int)) GoModel.loop_Hash64.body 2
      = ((Hash.crc64Step c ((o.getD []).getD i 0) : Nat) : Int) := by
  have hc' : c < Ty.size .u64 := hc
  have hb : (o.getD []).getD i 0 < Ty.size .u64 := byte_lt_size (getD_lt _ hw i)
  have hs (t : Nat) : Hash.sext32to64 t < Ty.size .u64 := sext_lt t
  simp only [go_run, GoModel.loop_Hash64.body, hashArrsO, if_true, Nat.reduceEqDiff, if_false, hρ, Int.toNat_natCast,
      bytes_getD, tableInts_getD, sext_eq]
  simp (config := {maxDischargeDepth := 8, decide := true}) only [← Int.cast_ofNat_Int, conv_fit, norm_nat, bxor_fit, shr_nat,
    xor_lt_size, shr_lt_size, hs, hc', hb, Int.toNat_natCast]
  simp only [Hash.crc64Step, Ty.size, Ty.bits, Nat.reducePow]

/-- `byte(int32(x) ^ int32(y))`: the low byte of the `xor` of the low 32 bits -/
theorem byte_xor_i32 (x y : Nat) :
    norm .u8 (evalOp .bxor .i32 (norm .i32 (x : Int)) (norm .i32 (y : Int))) = (((x % 4294967296 ^^^ y % 4294967296) % 256 : Nat) : Int) := by
  show norm .u8 (norm .i32 ((pat .i32 (norm .i32 x) ^^^ pat .i32 (norm .i32 y) : Nat) : Int)) = _
  rw [norm_norm (by decide), pat_norm_self, pat_norm_self, pat_nat, pat_nat, norm_nat]
  rfl

theorem hash64v2_body_bridge (o : Option Bytes) (hw : WFB (o.getD [])) (ρ : Env) (i c : Nat) (hρ : ρ 2 = (c : Int))
    (hc : c < 18446744073709551616) :
    step (hashArrsO o) (upd ρ 1 (i : Int)) GoModel.loop_Hash64v2.body 2
      = ((Hash.v2StepA c ((o.getD []).getD i 0) : Nat) : Int) := by
  have hc' : c < Ty.size .u64 := hc
  have hb := getD_lt _ hw i
  simp only [go_run, GoModel.loop_Hash64v2.body, hashArrsO, if_true, Nat.reduceEqDiff, if_false, hρ,
      Int.toNat_natCast, bytes_getD, tableInts_getD]
  simp (config := {maxDischargeDepth := 8, decide := true}) only [← Int.cast_ofNat_Int, shr_nat, byte_xor_i32, Int.toNat_natCast]
  simp (config := {maxDischargeDepth := 8, decide := true}) only [norm_nat, band_fit, bxor_fit, shl_nat, shr_lt_size, xor_lt_size,
    and_lt_size, mod_lt_size, hc', Int.toNat_natCast]
  generalize (o.getD []).getD i 0 = b at hb
  have e : b % 4294967296 = b := Nat.mod_eq_of_lt (by omega)
  simp only [Hash.v2StepA, Ty.size, Ty.bits, Nat.reducePow, e]

theorem hash64V2_body_bridge (o : Option Bytes) (hw : WFB (o.getD [])) (ρ : Env) (i c : Nat) (hρ : ρ 2 = (c : Int))
    (hc : c < 18446744073709551616) :
    step (hashArrsO o) (upd ρ 1 (i : Int)) GoModel.loop_Hash64V2.body 2
      = ((Hash.v2StepB c ((o.getD []).getD i 0) : Nat) : Int) := by
  have hc' : c < Ty.size .u64 := hc
  have hb : (o.getD []).getD i 0 < Ty.size .u8 := getD_lt _ hw i
  simp only [go_run, GoModel.loop_Hash64V2.body, hashArrsO, if_true, Nat.reduceEqDiff, if_false, hρ,
      Int.toNat_natCast, bytes_getD, tableInts_getD]
  simp (config := {maxDischargeDepth := 8, decide := true}) only [← Int.cast_ofNat_Int, shr_nat, norm_nat, bxor_fit, band_fit,
    xor_lt_size, mod_lt_size, hb, Int.toNat_natCast]
  simp (config := {maxDischargeDepth := 8, decide := true}) only [norm_nat, band_fit, bxor_fit, shl_nat, shr_lt_size, xor_lt_size,
    and_lt_size, mod_lt_size, hc', Int.toNat_natCast]
  have e (x : Nat) : (x % 256 ^^^ (o.getD []).getD i 0) % 256 = x % 256 ^^^ (o.getD []).getD i 0 :=
    Nat.mod_eq_of_lt (Nat.xor_lt_two_pow (n := 8) (Nat.mod_lt _ (by decide)) hb)
  simp only [Hash.v2StepB, Ty.size, Ty.bits, Nat.reducePow, e]

/-! ### after-loop blocks: `crc = crc ^ 0xff…ff; return intN(crc)` -/

theorem norm_i32_cast (n : Nat) : norm .i32 (n : Int) = Hash.toI32 n := by
  unfold Hash.toI32
  simp only [go_arith]
  split <;> omega

theorem norm_i64_cast (n : Nat) : norm .i64 (n : Int) = Hash.toI64 n := by
  unfold Hash.toI64
  simp only [go_arith]
  split <;> omega

theorem hash_after_bridge (A : Arrays) (ρ : Env) (c : Nat) (hρ : ρ 2 = (c : Int)) (hc : c < 4294967296) :
    runRet A ρ GoModel.loop_Hash.after = some (Hash.toI32 (c ^^^ 0xffffffff)) := by
  have hc' : c < Ty.size .u32 := hc
  simp only [GoModel.loop_Hash.after, go_run, if_true, hρ]
  simp (config := {decide := true}) only [← Int.cast_ofNat_Int, bxor_fit, hc', norm_i32_cast]

theorem hash64_after_bridge (A : Arrays) (ρ : Env) (c : Nat) (hρ : ρ 2 = (c : Int)) (hc : c < 18446744073709551616) :
    runRet A ρ GoModel.loop_Hash64.after = some (Hash.toI64 (c ^^^ 0xffffffffffffffff)) := by
  have hc' : c < Ty.size .u64 := hc
  simp only [GoModel.loop_Hash64.after, go_run, if_true, hρ]
  simp (config := {decide := true}) only [← Int.cast_ofNat_Int, bxor_fit, hc', norm_i64_cast]

theorem crcStep_lt (c b : Nat) (hc : c < 4294967296) : Hash.crcStep c b < 4294967296 := by
  unfold Hash.crcStep
  exact Nat.xor_lt_two_pow (n := 32) (Nat.lt_of_le_of_lt (Nat.shiftRight_le c 8) hc) (Nat.mod_lt _ (by decide))

theorem crc64Step_lt (c b : Nat) (hc : c < 18446744073709551616) : Hash.crc64Step c b < 18446744073709551616 := by
  unfold Hash.crc64Step
  exact Nat.xor_lt_two_pow (n := 64) (Nat.lt_of_le_of_lt (Nat.shiftRight_le c 8) hc) (sext_lt _)

theorem v2Step_lt (x n1 n2 : Nat) (hx : x < 18446744073709551616) :
    x ^^^ (n1 &&& 4294967295) ^^^ ((n2 <<< 32) % 18446744073709551616) < 18446744073709551616 := by
  have a1 : n1 &&& 4294967295 < 2 ^ 64 :=
    Nat.lt_of_lt_of_le (Nat.and_lt_two_pow n1 (by decide : 4294967295 < 2 ^ 32)) (by decide)
  exact Nat.xor_lt_two_pow (n := 64) (Nat.xor_lt_two_pow hx a1) (Nat.mod_lt _ (by decide))

theorem v2StepA_lt (c b : Nat) (hc : c < 18446744073709551616) : Hash.v2StepA c b < 18446744073709551616 := by
  simp only [Hash.v2StepA]
  exact v2Step_lt _ _ _ (Nat.lt_of_le_of_lt (Nat.shiftRight_le c 8) hc)

theorem v2StepB_lt (c b : Nat) (hc : c < 18446744073709551616) : Hash.v2StepB c b < 18446744073709551616 := by
  simp only [Hash.v2StepB]
  exact v2Step_lt _ _ _ (Nat.lt_of_le_of_lt (Nat.shiftRight_le c 8) hc)

theorem drop_cons_getD (bs : Bytes) (k : Nat) (h : k < bs.length) : bs.drop k = bs.getD k 0 :: bs.drop (k + 1) := by
  rw [List.drop_eq_getElem_cons h]
  simp [List.getD, List.getElem?_eq_getElem h]

theorem foldl_take_succ {α : Type} (f : α → Nat → α) (bs : Bytes) (c : α) (k : Nat) (h : k < bs.length) :
    (bs.take (k + 1)).foldl f c = f ((bs.take k).foldl f c) (bs.getD k 0) := by
  rw [List.take_add_one, List.foldl_append]
  simp [List.getD, List.getElem?_eq_getElem h]

/-- arrays of `HashCode`: the string parameter (number 0) as its bytes -/
def strArrs (bs : Bytes) : Arrays := fun n => if n = 0 then bs.map Int.ofNat else []

theorem hashCode_body_bridge (bs : Bytes) (hw : WFB bs) (ρ : Env) (i : Nat) (h : Int) (hρ : ρ 2 = h)
    (hh : BitUtil.isI64 h) :
    step (strArrs bs) (upd ρ 1 (i : Int)) GoModel.loop_HashCode.body 2
      = BitUtil.wrap64 (31 * h + ((bs.getD i 0 : Nat) : Int)) := by
  have hb := getD_lt bs hw i
  unfold BitUtil.isI64 at hh
  simp only [go_run, GoModel.loop_HashCode.body, strArrs]
  simp only [if_true, Nat.reduceEqDiff, if_false, hρ, Int.toNat_natCast, bytes_getD, tableInts_getD]
  generalize bs.getD i 0 = b at hb
  simp only [go_arith]
  unfold BitUtil.wrap64
  omega

theorem wrap64_range (v : Int) : BitUtil.isI64 (BitUtil.wrap64 v) := by
  unfold BitUtil.isI64 BitUtil.wrap64; omega

def bufArrs (bs : Bytes) : Arrays := fun n => if n = 0 then bs.map Int.ofNat else []

theorem norm_i64_add (x y : Int) : norm .i64 (norm .i64 x + norm .i64 y) = norm .i64 (x + y) := by
  simp only [go_arith]; omega
theorem norm_i32_add (x y : Int) : norm .i32 (norm .i32 x + norm .i32 y) = norm .i32 (x + y) := by
  simp only [go_arith]; omega
theorem norm_i32_idem (x : Int) : norm .i32 (norm .i32 x) = norm .i32 x := by
  simp only [go_arith]; omega
theorem norm_i64_idem (x : Int) : norm .i64 (norm .i64 x) = norm .i64 x := by
  simp only [go_arith]; omega
theorem norm_i32_byte (a : Nat) (h : a < 256) : norm .i32 (a : Int) = a := by
  simp only [go_arith]; omega
theorem norm_i64_byte (a : Nat) (h : a < 256) : norm .i64 (a : Int) = a := by
  simp only [go_arith]; omega
theorem norm_i32_wrap (x : Int) : norm .i32 x = Hash.wrap32 x := rfl
theorem norm_i64_wrap (x : Int) : norm .i64 x = Hash.wrap64 x := rfl

theorem w32_l (x y : Int) : Hash.wrap32 (Hash.wrap32 x + y) = Hash.wrap32 (x + y) := by unfold Hash.wrap32; omega
theorem w32_r (x y : Int) : Hash.wrap32 (x + Hash.wrap32 y) = Hash.wrap32 (x + y) := by unfold Hash.wrap32; omega
theorem w32_i (x : Int) : Hash.wrap32 (Hash.wrap32 x) = Hash.wrap32 x := by unfold Hash.wrap32; omega
theorem w64_l (x y : Int) : Hash.wrap64 (Hash.wrap64 x + y) = Hash.wrap64 (x + y) := by unfold Hash.wrap64; omega
theorem w64_r (x y : Int) : Hash.wrap64 (x + Hash.wrap64 y) = Hash.wrap64 (x + y) := by unfold Hash.wrap64; omega
theorem w64_i (x : Int) : Hash.wrap64 (Hash.wrap64 x) = Hash.wrap64 x := by unfold Hash.wrap64; omega

end GoBridge
