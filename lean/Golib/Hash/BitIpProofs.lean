/-
  Golib.Hash.BitIpProofs — `SetHigh64`/`SetLow64` as `Composite64` of the halves; the IPv4 conversions
  text ⇄ bytes ⇄ int32 are mutual inverses (the text side through `splitOn` on the dotted form).
-/
import Golib.Hash.BitIp

set_option linter.unusedVariables false

namespace BitUtil

theorem composite64_range (h l : Int) (hh : isI32 h) (hl : isI32 l) : isI64 (composite64 h l) := by
  unfold isI32 isI64 at *; unfold composite64 wrap64; omega

theorem setHigh64_eq_composite (s h : Int) (hs : isI64 s) (_hh : isI32 h) : setHigh64 s h = composite64 h (getLow64 s) := by
  unfold isI64 at *; unfold setHigh64 composite64 getLow64 wrap64 wrap32; omega
theorem setLow64_eq_composite (s l : Int) (hs : isI64 s) (_hl : isI32 l) : setLow64 s l = composite64 (getHigh64 s) l := by
  unfold isI64 at *; unfold setLow64 composite64 getHigh64 wrap64 wrap32; omega

end BitUtil

namespace IpUtil
open Strconv BitUtil

theorem octet_itoa : ∀ n : Fin 256, octet (itoaNat n.val) = n.val := by decide +kernel

theorem itoa_nodot : ∀ n : Fin 256, (itoaNat n.val).all (fun c => c != '.') = true := by decide +kernel

theorem octet_itoa' {n : Nat} (h : n < 256) : octet (itoaNat n) = n := octet_itoa ⟨n, h⟩
theorem itoa_nodot' {n : Nat} (h : n < 256) : ∀ c ∈ itoaNat n, c ≠ '.' := by
  have := itoa_nodot ⟨n, h⟩
  simpa using this

theorem splitOn_ne_nil (sep : Char) (s : List Char) : splitOn sep s ≠ [] := by
  fun_cases splitOn sep s <;> simp

theorem splitOn_nosep (sep : Char) (p : List Char) (hp : ∀ c ∈ p, c ≠ sep) : splitOn sep p = [p] := by
  induction p with
  | nil => rfl
  | cons c cs ih =>
    have hc : c ≠ sep := hp c (by simp)
    have := ih (fun x hx => hp x (by simp [hx]))
    rw [splitOn, this]
    simp [hc]

theorem splitOn_append (sep : Char) (p rest : List Char) (hp : ∀ c ∈ p, c ≠ sep) :
    splitOn sep (p ++ sep :: rest) = p :: splitOn sep rest := by
  induction p with
  | nil =>
    simp only [List.nil_append]
    rw [splitOn]
    have hne := splitOn_ne_nil sep rest
    split
    · rename_i h; exact absurd h hne
    · rename_i q qs h; simp [h]
  | cons c cs ih =>
    have hc : c ≠ sep := hp c (by simp)
    have := ih (fun x hx => hp x (by simp [hx]))
    simp only [List.cons_append]
    rw [splitOn, this]
    simp [hc]

theorem splitOn_dotted (a b c d : Nat) (ha : a < 256) (hb : b < 256) (hc : c < 256) (hd : d < 256) :
    splitOn '.' (dotted a b c d) = [itoaNat a, itoaNat b, itoaNat c, itoaNat d] := by
  unfold dotted
  rw [splitOn_append _ _ _ (itoa_nodot' ha), splitOn_append _ _ _ (itoa_nodot' hb),
      splitOn_append _ _ _ (itoa_nodot' hc), splitOn_nosep _ _ (itoa_nodot' hd)]

theorem dotted_ne_nil (a b c d : Nat) : (dotted a b c d).isEmpty = false := by
  unfold dotted
  cases h : itoaNat a <;> simp

theorem toBytes_toString (a b c d : Nat) (ha : a < 256) (hb : b < 256) (hc : c < 256) (hd : d < 256) :
    (toString [a, b, c, d]).map toBytes = some [a, b, c, d] := by
  simp only [toString, Option.map_some, toBytes, dotted_ne_nil, splitOn_dotted a b c d ha hb hc hd,
    octet_itoa' ha, octet_itoa' hb, octet_itoa' hc, octet_itoa' hd]
  simp

/-- canonical dotted quads: the texts `ToString` produces for 4-byte addresses -/
def canonical (s : List Char) : Prop := ∃ a b c d : Nat, a < 256 ∧ b < 256 ∧ c < 256 ∧ d < 256 ∧ s = dotted a b c d

theorem toString_toBytes (s : List Char) (hs : canonical s) : toString (toBytes s) = some s := by
  obtain ⟨a, b, c, d, ha, hb, hc, hd, rfl⟩ := hs
  have := toBytes_toString a b c d ha hb hc hd
  simp only [toString, Option.map_some, Option.some.injEq] at this
  rw [this]
  rfl

theorem wrap32_mod (v : Int) : wrap32 (v % 4294967296) = wrap32 v := by unfold wrap32; omega

/-- the four bytes are the base-256 digits of `v mod 2^32`, so reading them back wraps `v` to int32 -/
theorem toInt_toBytesInt (v : Int) : toInt (toBytesInt v) = some (wrap32 v) := by
  have digits : v / 16777216 % 256 * 16777216 + v / 65536 % 256 * 65536 + v / 256 % 256 * 256 + v % 256
      = v % 4294967296 := by omega
  have byte (x : Int) : ((x % 256).toNat : Int) = x % 256 := Int.toNat_of_nonneg (Int.emod_nonneg x (by decide))
  simp only [toBytesInt, toInt, byte, digits, wrap32_mod]

theorem toInt_toBytesFrInt (i : Int) (hi : isI32 i) : toInt (toBytesFrInt i) = some i := by
  rw [toBytesFrInt, toInt_toBytesInt]
  unfold isI32 at hi
  unfold wrap32
  simp only [Option.some.injEq]
  omega

theorem toBytesFrInt_toInt (a b c d : Nat) (ha : a < 256) (hb : b < 256) (hc : c < 256) (hd : d < 256) :
    (toInt [a, b, c, d]).map toBytesFrInt = some [a, b, c, d] := by
  unfold toBytesFrInt toBytesInt toInt wrap32
  simp only [Option.map_some, Option.some.injEq, List.cons.injEq, and_true]
  refine ⟨?_, ?_, ?_, ?_⟩ <;> omega

theorem toBytesFrInt_wf (i : Int) : (toBytesFrInt i).length = 4 ∧ WFB (toBytesFrInt i) := by
  refine ⟨rfl, ?_⟩
  unfold toBytesFrInt toBytesInt
  intro b hb
  simp only [List.mem_cons, List.not_mem_nil, or_false] at hb
  rcases hb with h | h | h | h <;> omega

theorem toStringFrInt_roundtrip (i : Int) : (toStringFrInt i).map toBytes = some (toBytesFrInt i) := by
  unfold toStringFrInt toBytesFrInt toBytesInt
  apply toBytes_toString <;> omega

end IpUtil
