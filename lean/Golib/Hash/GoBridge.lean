/-
  Golib.Hash.GoBridge — bridge theorems: the transcribed Go code (`GoModel`), run by the semantics of
  `GoSem`, computes the arithmetic CodeModels, **for all inputs**.
  Here: the bit operators of `GoSem` as arithmetic, at any integer type, and the evaluation of a transcribed
  function applied to variables (util/bitutil is done with these in Props.C15Gen).
-/
import Golib.Hash.GoSemProofs
import Golib.Hash.GoModel

set_option linter.unusedVariables false
set_option linter.unusedSimpArgs false

namespace GoBridge
open GoSem

def noArr : Arrays := fun _ => []

theorem retVal_some (v : Int) : retVal (some v) = v := rfl

theorem norm_i64_nat (n : Nat) (h : n < 4611686018427387904) : norm .i64 (n : Int) = n := by
  simp only [go_arith]; omega

/-- `i++` on a counter of type `int` -/
theorem succ_i64 (k : Nat) (h : k < 4611686018427387904) : evalOp .add .i64 (k : Int) 1 = ((k + 1 : Nat) : Int) := by
  simp only [go_arith]; omega

theorem pat_cast (t : Ty) (v : Int) : ((pat t v : Nat) : Int) = v % t.modulus :=
  Int.toNat_of_nonneg (Int.emod_nonneg v (Int.ne_of_gt (modulus_pos t)))

theorem pat_of_nonneg {t : Ty} {v : Int} (h0 : 0 ≤ v) (h1 : v < t.modulus) : pat t v = v.toNat := by
  unfold pat; rw [Int.emod_eq_of_lt h0 h1]

/-- `x & (p - 1)` for a power of two `p` that fits the type: the low bits, whatever the sign of `x` -/
theorem band_low (t : Ty) (k : Nat) (x m p : Int) (hp : p = ((2 ^ k : Nat) : Int)) (hm : m = p - 1)
    (hd : t.modulus % p = 0) (hr : p ≤ t.modulus - t.half) : evalOp .band t x m = x % p := by
  subst hm hp
  have hpos : 0 < 2 ^ k := Nat.two_pow_pos k
  have hb := half_bounds t
  have e1 : pat t (((2 ^ k : Nat) : Int) - 1) = 2 ^ k - 1 := by
    rw [pat_of_nonneg (by omega) (by omega)]; omega
  show norm t ((pat t x &&& pat t _ : Nat) : Int) = _
  rw [e1, Nat.and_two_pow_sub_one_eq_mod, Int.natCast_emod, pat_cast,
    Int.emod_emod_of_dvd _ (Int.dvd_of_emod_eq_zero hd)]
  have h0 := Int.emod_nonneg x (Int.ne_of_gt (show (0 : Int) < ((2 ^ k : Nat) : Int) by omega))
  have h1 := Int.emod_lt_of_pos x (show (0 : Int) < ((2 ^ k : Nat) : Int) by omega)
  exact norm_of_inRange ⟨by omega, by omega⟩

theorem band_neg_one (t : Ty) (x : Int) : evalOp .band t x (-1) = norm t x := by
  have e : pat t (-1) = 2 ^ t.bits - 1 := by cases t <;> decide
  show norm t ((pat t x &&& pat t (-1) : Nat) : Int) = _
  rw [e, Nat.and_two_pow_sub_one_eq_mod, Nat.mod_eq_of_lt (pat_lt t x), pat_cast, norm_emod]

/-- `a | b` when the low `k` bits of `a` are clear and `b < 2^k` -/
theorem bor_disjoint (t : Ty) (k : Nat) (a b p : Int) (hp : p = ((2 ^ k : Nat) : Int)) (hd : t.modulus % p = 0)
    (ha : a % p = 0) (hb0 : 0 ≤ b) (hb1 : b < p) (hr : inRange t (a + b)) : evalOp .bor t a b = a + b := by
  subst hp
  have dvd := Int.dvd_of_emod_eq_zero hd
  have hle : ((2 ^ k : Nat) : Int) ≤ t.modulus := Int.le_of_dvd (modulus_pos t) dvd
  have ea : pat t a % 2 ^ k = 0 := by
    have : ((pat t a % 2 ^ k : Nat) : Int) = 0 := by
      rw [Int.natCast_emod, pat_cast, Int.emod_emod_of_dvd _ dvd]; exact ha
    exact_mod_cast this
  have en : norm t (a % t.modulus + b) = norm t (a + b) := by
    rw [← norm_emod t (a % _ + b), Int.emod_add_emod, norm_emod]
  show norm t ((pat t a ||| pat t b : Nat) : Int) = _
  rw [pat_of_nonneg hb0 (by omega), Golib.or_disjoint k _ _ ea (by omega), Int.natCast_add, pat_cast,
    Int.toNat_of_nonneg hb0, en]
  exact norm_of_inRange hr

/-- `a | (l & (2^k - 1))` when the low `k` bits of `a` are clear, at a type whose modulus and half are multiples of
    `2^k`: `a` with the low `k` bits of `l` -/
theorem bor_band_low (t : Ty) (k : Nat) (a l p : Int) (hp : p = ((2 ^ k : Nat) : Int)) (hd : t.modulus % p = 0)
    (hh : t.half % p = 0) (hr : p ≤ t.modulus - t.half) (ha : a % p = 0) (hra : inRange t a) :
    evalOp .bor t a (evalOp .band t l (p - 1)) = a + l % p := by
  have ppos : 0 < p := by rw [hp]; exact_mod_cast Nat.two_pow_pos k
  have l0 := Int.emod_nonneg l (Int.ne_of_gt ppos)
  have l1 := Int.emod_lt_of_pos l ppos
  rw [band_low t k l _ p hp rfl hd hr]
  refine bor_disjoint t k _ _ p hp hd ha l0 l1 ?_
  -- `a` and the upper end of the range are multiples of `p`, so there is room for `l % p < p`
  obtain ⟨q, eq⟩ := Int.dvd_of_emod_eq_zero ha
  obtain ⟨m, em⟩ : p ∣ t.modulus - t.half := Int.dvd_sub (Int.dvd_of_emod_eq_zero hd) (Int.dvd_of_emod_eq_zero hh)
  have hq : q + 1 ≤ m := by
    have : p * q < p * m := by rw [← eq, ← em]; exact hra.2
    have := Int.lt_of_mul_lt_mul_left this (Int.le_of_lt ppos)
    omega
  have := Int.mul_le_mul_of_nonneg_left hq (Int.le_of_lt ppos)
  rw [Int.mul_add, Int.mul_one, ← eq, ← em] at this
  exact ⟨by have := hra.1; omega, by omega⟩

/-- `(h << k) | (l & (2^k - 1))`: the shifted `h` with the low `k` bits of `l` -/
theorem shl_bor_low (t : Ty) (k : Nat) (h l p : Int) (hp : p = ((2 ^ k : Nat) : Int)) (hd : t.modulus % p = 0)
    (hh : t.half % p = 0) (hr : p ≤ t.modulus - t.half) :
    evalOp .bor t (evalOp .shl t h k) (evalOp .band t l (p - 1)) = norm t (h * p) + l % p := by
  have es : evalOp .shl t h k = norm t (h * p) := by
    show norm t (h * 2 ^ (k : Int).toNat) = _
    rw [Int.toNat_natCast, hp, Int.natCast_pow]; rfl
  have en : norm t (h * p) % p = 0 := by
    unfold norm
    rw [Int.sub_emod, Int.emod_emod_of_dvd _ (Int.dvd_of_emod_eq_zero hd), Int.add_emod, Int.mul_emod_left, hh]; rfl
  rw [es]
  exact bor_band_low t k _ l p hp hd hh hr en (norm_inRange t _)

theorem inRange_mono {s t : Ty} {v : Int} (h : inRange s v) (h1 : s.half ≤ t.half := by decide)
    (h2 : s.modulus - s.half ≤ t.modulus - t.half := by decide) : inRange t v :=
  ⟨by have := h.1; omega, by have := h.2; omega⟩

/-- `x & m` for the mask `m` of the bits `k … n-1` of an `n`-bit pattern clears the low `k` bits -/
theorem and_clear_low (n k x : Nat) (hk : k ≤ n) (hx : x < 2 ^ n) :
    x &&& ((2 ^ (n - k) - 1) * 2 ^ k) = x - x % 2 ^ k := by
  have hd : x / 2 ^ k < 2 ^ (n - k) :=
    Nat.div_lt_of_lt_mul (by rwa [← Nat.pow_add, Nat.add_sub_cancel' hk])
  rw [Golib.and_mask, Nat.mod_eq_of_lt hd, Nat.mul_comm]
  exact (Nat.sub_eq_of_eq_add (Nat.div_add_mod x (2 ^ k)).symm).symm

/-- `x & 0xffffffff00000000` on a 64-bit pattern -/
theorem band_high32 (x : Int) (hx : inRange .i64 x) : evalOp .band .i64 x (-4294967296) = x - x % 4294967296 := by
  have e : pat .i64 (-4294967296) = 18446744069414584320 := by decide
  show norm .i64 ((pat .i64 x &&& pat .i64 (-4294967296) : Nat) : Int) = _
  rw [e, and_clear_low 64 32 _ (by decide) (pat_lt .i64 x)]
  have := pat_cast .i64 x
  simp only [inRange, go_arith] at *
  omega

/-- symbolic evaluation of a transcribed function applied to variables, down to `norm` and `evalOp`; the function
    must return on every path (the last step is `rw [retVal_some]`).  It names its five equations itself: with the
    larger set `go_run` each of its users is slower to check -/
macro "go_call" f:ident : tactic => `(tactic| (
  simp only [call, $f:ident, bindArgs, runRet, eval, upd]
  simp only [if_true, Nat.reduceEqDiff, if_false]
  rw [retVal_some]))

/-- symbolic evaluation of a transcribed function applied to variables -/
macro "go_eval" f:ident : tactic => `(tactic| (
  simp only [call, $f:ident, bindArgs, runRet, eval, upd]
  simp only [if_true, Nat.reduceEqDiff, if_false]
  rw [retVal_some]
  simp only [evalOp, bitsOp, norm, pat, Ty.half, Ty.modulus, Int.reduceToNat, Int.reducePow, Int.reduceMod, Int.reduceAdd, Int.reduceSub, Int.reduceNeg]))

end GoBridge
