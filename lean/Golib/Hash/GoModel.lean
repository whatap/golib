/-
  Golib.Hash.GoModel — hand-kept copy of the transcribed Go code that the bridge theorems of
  `Golib.Hash.GoBridge` are about (same role as the hand copy of the CRC table in `Golib.Hash.Crc`).

  Tie A regenerates `Golib/Gen/C15.lean` from the source on every run; `Props/C15Gen.lean` checks, for
  the blocks its obligations name, that the regenerated block has the same *canonical form*
  (`GoSem.canonRet` / `canonVar` / `normStmts`) as the block here (71 of the 140 definitions below,
  the `.names`, `.loopVar`, `.carried` lists among them, are named by no obligation), and
  `GoSemProofs` proves that equal canonical forms compute the same value on every input.  So a rename, a reordering of independent statements, swapped operands of `| & ^ + *`, a
  temporary variable, `x op= e` for `x = x op e` keep the obligations true; a changed shift, mask,
  conversion, constant, operator or index does not.

  Identifier numbers: parameters, the loop variable, the loop-carried variables, then the others in
  source order (`X.names` lists them).
-/
import Golib.Hash.GoSem

namespace GoModel

def loop_Hash.loopVar : Int := 1
def loop_Hash.carried : List Nat := [2]
def loop_Hash.regInit : Option Int := some 4294967295
def loop_Hash.pre : List GoSem.Stmt := [
    .set 2 (.lit 4294967295),
    .set 3 (.len 0)]
def loop_Hash.init : List GoSem.Stmt := [
    .set 1 (.lit 0)]
def loop_Hash.cond : GoSem.Cond := (.lt (.var 1) (.var 3))
def loop_Hash.post : List GoSem.Stmt := [
    .set 1 (.bin .add .i64 (.var 1) (.lit 1))]
def loop_Hash.body : List GoSem.Stmt := [
    .set 4 (.idx 0 (.var 1)),
    .set 2 (.bin .bxor .u32 (.bin .shr .u32 (.var 2) (.lit 8)) (.conv .u32 (.conv .i32 (.idx 1000 (.conv .u8 (.bin .bxor .u32 (.var 2) (.conv .u32 (.var 4))))))))]
def loop_Hash.after : List GoSem.Stmt := [
    .set 2 (.bin .bxor .u32 (.var 2) (.lit 4294967295)),
    .ret (.conv .i32 (.var 2))]
def loop_Hash.header : List String := ["#1 := 0", "#1 < len(#0)", "#1++"]
def loop_Hash.names : List (String × Nat) := [("bytes", 0), ("i", 1), ("crc", 2), ("sz", 3), ("b", 4)]

def loop_Hash64.loopVar : Int := 1
def loop_Hash64.carried : List Nat := [2]
def loop_Hash64.regInit : Option Int := some 18446744073709551615
def loop_Hash64.pre : List GoSem.Stmt := [
    .set 2 (.lit 18446744073709551615),
    .set 3 (.len 0)]
def loop_Hash64.init : List GoSem.Stmt := [
    .set 1 (.lit 0)]
def loop_Hash64.cond : GoSem.Cond := (.lt (.var 1) (.var 3))
def loop_Hash64.post : List GoSem.Stmt := [
    .set 1 (.bin .add .i64 (.var 1) (.lit 1))]
def loop_Hash64.body : List GoSem.Stmt := [
    .set 4 (.idx 0 (.var 1)),
    .set 2 (.bin .bxor .u64 (.bin .shr .u64 (.var 2) (.lit 8)) (.conv .u64 (.conv .i32 (.idx 1000 (.conv .u8 (.bin .bxor .u64 (.var 2) (.conv .u64 (.var 4))))))))]
def loop_Hash64.after : List GoSem.Stmt := [
    .set 2 (.bin .bxor .u64 (.var 2) (.lit 18446744073709551615)),
    .ret (.conv .i64 (.var 2))]
def loop_Hash64.header : List String := ["#1 := 0", "#1 < len(#0)", "#1++"]
def loop_Hash64.names : List (String × Nat) := [("bytes", 0), ("i", 1), ("crc", 2), ("sz", 3), ("b", 4)]

def loop_Hash64v2.loopVar : Int := 1
def loop_Hash64v2.carried : List Nat := [2]
def loop_Hash64v2.regInit : Option Int := some 18446744073709551615
def loop_Hash64v2.pre : List GoSem.Stmt := [
    .retIf (.isNil 0) (.lit 0),
    .set 2 (.lit 18446744073709551615),
    .set 3 (.len 0)]
def loop_Hash64v2.init : List GoSem.Stmt := [
    .set 1 (.lit 0)]
def loop_Hash64v2.cond : GoSem.Cond := (.lt (.var 1) (.var 3))
def loop_Hash64v2.post : List GoSem.Stmt := [
    .set 1 (.bin .add .i64 (.var 1) (.lit 1))]
def loop_Hash64v2.body : List GoSem.Stmt := [
    .set 4 (.idx 0 (.var 1)),
    .set 2 (.bin .shr .u64 (.var 2) (.lit 8)),
    .set 5 (.conv .u64 (.idx 1000 (.conv .u8 (.bin .bxor .i32 (.conv .i32 (.var 2)) (.conv .i32 (.var 4)))))),
    .set 6 (.conv .u64 (.idx 1000 (.conv .u8 (.bin .bxor .i32 (.conv .i32 (.bin .shr .u64 (.var 2) (.lit 32))) (.conv .i32 (.var 4)))))),
    .set 2 (.bin .bxor .u64 (.var 2) (.bin .band .u64 (.var 5) (.lit 4294967295))),
    .set 2 (.bin .bxor .u64 (.var 2) (.bin .shl .u64 (.var 6) (.lit 32)))]
def loop_Hash64v2.after : List GoSem.Stmt := [
    .set 2 (.bin .bxor .u64 (.var 2) (.lit 18446744073709551615)),
    .ret (.conv .i64 (.var 2))]
def loop_Hash64v2.header : List String := ["#1 := 0", "#1 < len(#0)", "#1++"]
def loop_Hash64v2.names : List (String × Nat) := [("bytes", 0), ("i", 1), ("crc", 2), ("sz", 3), ("b", 4), ("n1", 5), ("n2", 6)]

def loop_Hash64V2.loopVar : Int := 1
def loop_Hash64V2.carried : List Nat := [2]
def loop_Hash64V2.regInit : Option Int := some 18446744073709551615
def loop_Hash64V2.pre : List GoSem.Stmt := [
    .set 3 (.len 0),
    .retIf (.eq (.var 3) (.lit 0)) (.lit 0),
    .set 2 (.lit 18446744073709551615)]
def loop_Hash64V2.init : List GoSem.Stmt := [
    .set 1 (.lit 0)]
def loop_Hash64V2.cond : GoSem.Cond := (.lt (.var 1) (.var 3))
def loop_Hash64V2.post : List GoSem.Stmt := [
    .set 1 (.bin .add .i64 (.var 1) (.lit 1))]
def loop_Hash64V2.body : List GoSem.Stmt := [
    .set 2 (.bin .shr .u64 (.var 2) (.lit 8)),
    .set 4 (.idx 0 (.var 1)),
    .set 5 (.conv .u64 (.idx 1000 (.bin .band .u8 (.bin .bxor .u8 (.conv .u8 (.var 2)) (.var 4)) (.lit 255)))),
    .set 6 (.conv .u64 (.idx 1000 (.bin .band .u8 (.bin .bxor .u8 (.conv .u8 (.bin .shr .u64 (.var 2) (.lit 32))) (.var 4)) (.lit 255)))),
    .set 2 (.bin .bxor .u64 (.var 2) (.bin .band .u64 (.var 5) (.lit 4294967295))),
    .set 2 (.bin .bxor .u64 (.var 2) (.bin .shl .u64 (.var 6) (.lit 32)))]
def loop_Hash64V2.after : List GoSem.Stmt := [
    .set 2 (.bin .bxor .u64 (.var 2) (.lit 18446744073709551615)),
    .ret (.conv .i64 (.var 2))]
def loop_Hash64V2.header : List String := ["#1 := 0", "#1 < len(#0)", "#1++"]
def loop_Hash64V2.names : List (String × Nat) := [("bytes", 0), ("i", 1), ("crc", 2), ("sz", 3), ("b", 4), ("n1", 5), ("n2", 6)]

def fn_HashAddr : GoSem.Fn :=
  { params := [], result := .i64, body := [
    .setIf (.oneOf (.len 0) [4]) 2 (.var 1),
    .retIf (.oneOf (.len 0) [4]) (.bin .mul .i64 (.conv .i64 (.var 2)) (.conv .i64 (.var 2))),
    .retIf (.oneOf (.len 0) [8]) (.var 3),
    .ret (.conv .i64 (.var 4))] }
def fn_HashAddr.names : List (String × Nat) := [("src", 0), ("ToInt(#0)", 1), ("c", 2), ("ToLong(#0)", 3), ("Hash(#0)", 4)]

def fn_ToInt : GoSem.Fn :=
  { params := [], result := .i32, body := [
    .set 1 (.conv .i32 (.idx 0 (.lit 0))),
    .set 2 (.conv .i32 (.idx 0 (.lit 1))),
    .set 3 (.conv .i32 (.idx 0 (.lit 2))),
    .set 4 (.conv .i32 (.idx 0 (.lit 3))),
    .ret (.conv .i32 (.bin .add .i32 (.bin .add .i32 (.bin .add .i32 (.bin .shl .i32 (.var 1) (.lit 24)) (.bin .shl .i32 (.var 2) (.lit 16))) (.bin .shl .i32 (.var 3) (.lit 8))) (.bin .shl .i32 (.var 4) (.lit 0))))] }
def fn_ToInt.names : List (String × Nat) := [("buf", 0), ("ch1", 1), ("ch2", 2), ("ch3", 3), ("ch4", 4)]

def fn_ToLong : GoSem.Fn :=
  { params := [], result := .i64, body := [
    .set 1 (.bin .shl .i64 (.conv .i64 (.idx 0 (.lit 0))) (.lit 56)),
    .set 1 (.bin .add .i64 (.var 1) (.bin .shl .i64 (.conv .i64 (.idx 0 (.lit 1))) (.lit 48))),
    .set 1 (.bin .add .i64 (.var 1) (.bin .shl .i64 (.conv .i64 (.idx 0 (.lit 2))) (.lit 40))),
    .set 1 (.bin .add .i64 (.var 1) (.bin .shl .i64 (.conv .i64 (.idx 0 (.lit 3))) (.lit 32))),
    .set 1 (.bin .add .i64 (.var 1) (.bin .shl .i64 (.conv .i64 (.idx 0 (.lit 4))) (.lit 24))),
    .set 1 (.bin .add .i64 (.var 1) (.bin .shl .i64 (.conv .i64 (.idx 0 (.lit 5))) (.lit 16))),
    .set 1 (.bin .add .i64 (.var 1) (.bin .shl .i64 (.conv .i64 (.idx 0 (.lit 6))) (.lit 8))),
    .set 1 (.bin .add .i64 (.var 1) (.bin .shl .i64 (.conv .i64 (.idx 0 (.lit 7))) (.lit 0))),
    .ret (.var 1)] }
def fn_ToLong.names : List (String × Nat) := [("buf", 0), ("v", 1)]

def wrapper_HashStr : String × Option Int := ("Hash", none)
def wrapper_Hash64Str : String × Option Int := ("Hash64", none)
def wrapper_Hash64StrV2 : String × Option Int := ("Hash64V2", none)
def wrapper_GetLongHash : String × Option Int := ("Hash64v2", some 0)

def loop_HashCode.loopVar : Int := 1
def loop_HashCode.carried : List Nat := [2]
def loop_HashCode.regInit : Option Int := some 0
def loop_HashCode.pre : List GoSem.Stmt := [
    .set 2 (.lit 0)]
def loop_HashCode.init : List GoSem.Stmt := [
    .set 1 (.lit 0)]
def loop_HashCode.cond : GoSem.Cond := (.lt (.var 1) (.len 0))
def loop_HashCode.post : List GoSem.Stmt := [
    .set 1 (.bin .add .i64 (.var 1) (.lit 1))]
def loop_HashCode.body : List GoSem.Stmt := [
    .set 2 (.bin .add .i64 (.bin .mul .i64 (.lit 31) (.var 2)) (.conv .i64 (.idx 0 (.var 1))))]
def loop_HashCode.after : List GoSem.Stmt := [
    .ret (.var 2)]
def loop_HashCode.header : List String := ["#1 := 0", "#1 < len(#0)", "#1++"]
def loop_HashCode.names : List (String × Nat) := [("s", 0), ("i", 1), ("h", 2)]

def plusChar : Option Nat := some 120
def minusChar : Option Nat := some 122
def toString32Texts : List String := ["z8000000000000", "z", "x"]
def toLong32Texts : List String := ["", "z8000000000000"]

def loop_to_str.pre : List GoSem.Stmt := [
    .set 3 (.lit 32),
    .set 1 (.lit 64)]
def loop_to_str.init : List GoSem.Stmt := [
    .set 0 (.neg .i64 (.var 0))]
def loop_to_str.cond : GoSem.Cond := (.le (.var 0) (.neg .i64 (.var 3)))
def loop_to_str.post : List GoSem.Stmt := [
    .set 0 (.bin .quo .i64 (.var 0) (.var 3))]
def loop_to_str.body : List GoSem.Stmt := [
    .set 4 (.idx 1001 (.conv .i64 (.neg .i64 (.bin .rem .i64 (.var 0) (.var 3))))),
    .set 1 (.bin .sub .i64 (.var 1) (.lit 1))]
def loop_to_str.after : List GoSem.Stmt := [
    .set 4 (.idx 1001 (.conv .i64 (.neg .i64 (.var 0))))]
def loop_to_str.names : List (String × Nat) := [("i", 0), ("charPos", 1), ("buf", 2), ("radix", 3), ("buf@", 4)]

def loop_to_long.pre : List GoSem.Stmt := [
    .set 2 (.lit 0),
    .set 5 (.lit (-9223372036854775807)),
    .set 4 (.bin .quo .i64 (.var 5) (.lit 32))]
def loop_to_long.body : List GoSem.Stmt := [
    .retIf (.lt (.var 2) (.var 4)) (.lit 0),
    .set 2 (.bin .mul .i64 (.var 2) (.lit 32)),
    .retIf (.lt (.var 2) (.bin .add .i64 (.var 5) (.var 6))) (.lit 0),
    .set 2 (.bin .sub .i64 (.var 2) (.var 6))]
def loop_to_long.after : List GoSem.Stmt := [
    .ret (.neg .i64 (.var 2))]
def loop_to_long.header : List String := ["#1 := 0", "#1 < len(#0)", "#1++"]
def loop_to_long.names : List (String × Nat) := [("s", 0), ("i", 1), ("result", 2), ("findc", 3), ("multmin", 4), ("limit", 5), ("digit", 6)]

def fn_findc : GoSem.Fn :=
  { params := [(0, .i64)], result := .i64, body := [
    .retIf (.and (.le (.lit 48) (.var 0)) (.le (.var 0) (.lit 57))) (.conv .i64 (.bin .sub .i64 (.var 0) (.lit 48))),
    .retIf (.and (.le (.lit 97) (.var 0)) (.le (.var 0) (.lit 122))) (.conv .i64 (.bin .add .i64 (.bin .sub .i64 (.var 0) (.lit 97)) (.lit 10))),
    .retIf (.and (.le (.lit 65) (.var 0)) (.le (.var 0) (.lit 90))) (.conv .i64 (.bin .add .i64 (.bin .sub .i64 (.var 0) (.lit 65)) (.lit 10))),
    .ret (.lit 0)] }

def tree_ToString32 : GoSem.STree :=
  (.ite (.lt (.var 0) (.lit 0)) (.ite (.eq (.var 0) (.lit (-9223372036854775808))) (.ret (.lit "z8000000000000")) (.ret (.cat (.lit "z") (.toStr (.neg .i64 (.var 0)))))) (.ite (.lt (.var 0) (.lit 10)) (.ret (.itoa (.conv .i64 (.var 0)))) (.ret (.cat (.lit "x") (.toStr (.var 0))))))
def tree_ToString32.names : List (String × Nat) := [("num", 0)]

def tree_ToLong32 : GoSem.DTree :=
  (.ite .isEmpty (.ret (.const 0)) (.ite (.firstIs 122) (.ite (.eqLit "z8000000000000") (.ret (.const (-9223372036854775808))) (.ret (.mulToLongTail (-1)))) (.ite (.firstIs 120) (.ret (.mulToLongTail 1)) (.ret (.atoiOr 0)))))

def loop_murmurHash.loopVar : Int := 3
def loop_murmurHash.carried : List Nat := [4]
def loop_murmurHash.regInit : Option Int := none
def loop_murmurHash.pre : List GoSem.Stmt := [
    .set 5 (.lit 1540483477),
    .set 6 (.lit 24),
    .set 4 (.bin .bxor .u32 (.var 2) (.conv .u32 (.var 1))),
    .set 7 (.bin .shr .u32 (.conv .u32 (.var 1)) (.lit 2))]
def loop_murmurHash.init : List GoSem.Stmt := [
    .set 3 (.lit 0)]
def loop_murmurHash.cond : GoSem.Cond := (.lt (.var 3) (.conv .i64 (.var 7)))
def loop_murmurHash.post : List GoSem.Stmt := [
    .set 3 (.bin .add .i64 (.var 3) (.lit 1))]
def loop_murmurHash.body : List GoSem.Stmt := [
    .set 8 (.bin .shl .i64 (.var 3) (.lit 2)),
    .set 9 (.conv .u32 (.idx 0 (.bin .add .i64 (.var 8) (.lit 3)))),
    .set 9 (.bin .shl .u32 (.var 9) (.lit 8)),
    .set 9 (.bin .bor .u32 (.var 9) (.bin .band .u32 (.conv .u32 (.idx 0 (.bin .add .i64 (.var 8) (.lit 2)))) (.lit 255))),
    .set 9 (.bin .shl .u32 (.var 9) (.lit 8)),
    .set 9 (.bin .bor .u32 (.var 9) (.bin .band .u32 (.conv .u32 (.idx 0 (.bin .add .i64 (.var 8) (.lit 1)))) (.lit 255))),
    .set 9 (.bin .shl .u32 (.var 9) (.lit 8)),
    .set 9 (.bin .bor .u32 (.var 9) (.bin .band .u32 (.conv .u32 (.idx 0 (.bin .add .i64 (.var 8) (.lit 0)))) (.lit 255))),
    .set 9 (.bin .mul .u32 (.var 9) (.var 5)),
    .set 9 (.bin .bxor .u32 (.var 9) (.bin .shr .u32 (.var 9) (.var 6))),
    .set 9 (.bin .mul .u32 (.var 9) (.var 5)),
    .set 4 (.bin .mul .u32 (.var 4) (.var 5)),
    .set 4 (.bin .bxor .u32 (.var 4) (.var 9))]
def loop_murmurHash.after : List GoSem.Stmt := [
    .set 10 (.bin .shl .u32 (.var 7) (.lit 2)),
    .set 11 (.bin .sub .u32 (.conv .u32 (.var 1)) (.var 10)),
    .setIf (.and (.ne (.var 11) (.lit 0)) (.le (.lit 3) (.var 11))) 4 (.bin .bxor .u32 (.var 4) (.bin .shl .u32 (.conv .u32 (.idx 0 (.bin .sub .i32 (.var 1) (.lit 3)))) (.lit 16))),
    .setIf (.and (.ne (.var 11) (.lit 0)) (.le (.lit 2) (.var 11))) 4 (.bin .bxor .u32 (.var 4) (.bin .shl .u32 (.conv .u32 (.idx 0 (.bin .sub .i32 (.var 1) (.lit 2)))) (.lit 8))),
    .setIf (.and (.ne (.var 11) (.lit 0)) (.le (.lit 1) (.var 11))) 4 (.bin .bxor .u32 (.var 4) (.conv .u32 (.idx 0 (.bin .sub .i32 (.var 1) (.lit 1))))),
    .setIf (.ne (.var 11) (.lit 0)) 4 (.bin .mul .u32 (.var 4) (.var 5)),
    .set 4 (.bin .bxor .u32 (.var 4) (.bin .shr .u32 (.var 4) (.lit 13))),
    .set 4 (.bin .mul .u32 (.var 4) (.var 5)),
    .set 4 (.bin .bxor .u32 (.var 4) (.bin .shr .u32 (.var 4) (.lit 15))),
    .ret (.var 4)]
def loop_murmurHash.header : List String := ["#3 := 0", "#3 < int(#7)", "#3++"]
def loop_murmurHash.names : List (String × Nat) := [("data", 0), ("length", 1), ("seed", 2), ("i", 3), ("h", 4), ("m", 5), ("r", 6), ("len_4", 7), ("i_4", 8), ("k", 9), ("len_m", 10), ("left", 11)]

def loop_murmurHashLong.loopVar : Int := 3
def loop_murmurHashLong.carried : List Nat := [4]
def loop_murmurHashLong.regInit : Option Int := none
def loop_murmurHashLong.pre : List GoSem.Stmt := [
    .set 5 (.lit 14313749767032793493),
    .set 6 (.lit 47),
    .set 4 (.bin .bxor .u64 (.conv .u64 (.bin .band .u32 (.var 2) (.lit 4294967295))) (.bin .mul .u64 (.conv .u64 (.var 1)) (.var 5))),
    .set 7 (.bin .quo .i32 (.var 1) (.lit 8))]
def loop_murmurHashLong.init : List GoSem.Stmt := [
    .set 3 (.lit 0)]
def loop_murmurHashLong.cond : GoSem.Cond := (.lt (.var 3) (.conv .i64 (.var 7)))
def loop_murmurHashLong.post : List GoSem.Stmt := [
    .set 3 (.bin .add .i64 (.var 3) (.lit 1))]
def loop_murmurHashLong.body : List GoSem.Stmt := [
    .set 8 (.bin .mul .i64 (.var 3) (.lit 8)),
    .set 9 (.bin .add .u64 (.bin .add .u64 (.bin .add .u64 (.bin .add .u64 (.bin .add .u64 (.bin .add .u64 (.bin .add .u64 (.bin .band .u64 (.conv .u64 (.idx 0 (.bin .add .i64 (.var 8) (.lit 0)))) (.lit 255)) (.bin .shl .u64 (.bin .band .u64 (.conv .u64 (.idx 0 (.bin .add .i64 (.var 8) (.lit 1)))) (.lit 255)) (.lit 8))) (.bin .shl .u64 (.bin .band .u64 (.conv .u64 (.idx 0 (.bin .add .i64 (.var 8) (.lit 2)))) (.lit 255)) (.lit 16))) (.bin .shl .u64 (.bin .band .u64 (.conv .u64 (.idx 0 (.bin .add .i64 (.var 8) (.lit 3)))) (.lit 255)) (.lit 24))) (.bin .shl .u64 (.bin .band .u64 (.conv .u64 (.idx 0 (.bin .add .i64 (.var 8) (.lit 4)))) (.lit 255)) (.lit 32))) (.bin .shl .u64 (.bin .band .u64 (.conv .u64 (.idx 0 (.bin .add .i64 (.var 8) (.lit 5)))) (.lit 255)) (.lit 40))) (.bin .shl .u64 (.bin .band .u64 (.conv .u64 (.idx 0 (.bin .add .i64 (.var 8) (.lit 6)))) (.lit 255)) (.lit 48))) (.bin .shl .u64 (.bin .band .u64 (.conv .u64 (.idx 0 (.bin .add .i64 (.var 8) (.lit 7)))) (.lit 255)) (.lit 56))),
    .set 9 (.bin .mul .u64 (.var 9) (.var 5)),
    .set 9 (.bin .bxor .u64 (.var 9) (.bin .shr .u64 (.var 9) (.var 6))),
    .set 9 (.bin .mul .u64 (.var 9) (.var 5)),
    .set 4 (.bin .bxor .u64 (.var 4) (.var 9)),
    .set 4 (.bin .mul .u64 (.var 4) (.var 5))]
def loop_murmurHashLong.after : List GoSem.Stmt := [
    .setIf (.oneOf (.bin .rem .i32 (.var 1) (.lit 8)) [7]) 4 (.bin .bxor .u64 (.var 4) (.bin .shl .u64 (.bin .band .u64 (.conv .u64 (.idx 0 (.bin .add .i32 (.bin .band .i32 (.var 1) (.lit (-8))) (.lit 6)))) (.lit 255)) (.lit 48))),
    .setIf (.oneOf (.bin .rem .i32 (.var 1) (.lit 8)) [7, 6]) 4 (.bin .bxor .u64 (.var 4) (.bin .shl .u64 (.conv .u64 (.bin .band .u8 (.idx 0 (.bin .add .i32 (.bin .band .i32 (.var 1) (.lit (-8))) (.lit 5))) (.lit 255))) (.lit 40))),
    .setIf (.oneOf (.bin .rem .i32 (.var 1) (.lit 8)) [7, 6, 5]) 4 (.bin .bxor .u64 (.var 4) (.bin .shl .u64 (.conv .u64 (.bin .band .u8 (.idx 0 (.bin .add .i32 (.bin .band .i32 (.var 1) (.lit (-8))) (.lit 4))) (.lit 255))) (.lit 32))),
    .setIf (.oneOf (.bin .rem .i32 (.var 1) (.lit 8)) [7, 6, 5, 4]) 4 (.bin .bxor .u64 (.var 4) (.bin .shl .u64 (.conv .u64 (.bin .band .u8 (.idx 0 (.bin .add .i32 (.bin .band .i32 (.var 1) (.lit (-8))) (.lit 3))) (.lit 255))) (.lit 24))),
    .setIf (.oneOf (.bin .rem .i32 (.var 1) (.lit 8)) [7, 6, 5, 4, 3]) 4 (.bin .bxor .u64 (.var 4) (.bin .shl .u64 (.conv .u64 (.bin .band .u8 (.idx 0 (.bin .add .i32 (.bin .band .i32 (.var 1) (.lit (-8))) (.lit 2))) (.lit 255))) (.lit 16))),
    .setIf (.oneOf (.bin .rem .i32 (.var 1) (.lit 8)) [7, 6, 5, 4, 3, 2]) 4 (.bin .bxor .u64 (.var 4) (.bin .shl .u64 (.conv .u64 (.bin .band .u8 (.idx 0 (.bin .add .i32 (.bin .band .i32 (.var 1) (.lit (-8))) (.lit 1))) (.lit 255))) (.lit 8))),
    .setIf (.oneOf (.bin .rem .i32 (.var 1) (.lit 8)) [7, 6, 5, 4, 3, 2, 1]) 4 (.bin .bxor .u64 (.var 4) (.conv .u64 (.bin .band .u8 (.idx 0 (.bin .band .i32 (.var 1) (.lit (-8)))) (.lit 255)))),
    .setIf (.oneOf (.bin .rem .i32 (.var 1) (.lit 8)) [7, 6, 5, 4, 3, 2, 1]) 4 (.bin .mul .u64 (.var 4) (.var 5)),
    .set 4 (.bin .bxor .u64 (.var 4) (.bin .shr .u64 (.var 4) (.var 6))),
    .set 4 (.bin .mul .u64 (.var 4) (.var 5)),
    .set 4 (.bin .bxor .u64 (.var 4) (.bin .shr .u64 (.var 4) (.var 6))),
    .ret (.var 4)]
def loop_murmurHashLong.header : List String := ["#3 := 0", "#3 < int(#7)", "#3++"]
def loop_murmurHashLong.names : List (String × Nat) := [("data", 0), ("length", 1), ("seed", 2), ("i", 3), ("h", 4), ("m", 5), ("r", 6), ("length8", 7), ("i8", 8), ("k", 9)]

def fn_MurmurHashLong : GoSem.Fn :=
  { params := [(0, .u64)], result := .u32, body := [
    .set 1 (.lit 1540483477),
    .set 2 (.lit 24),
    .set 3 (.lit 0),
    .set 4 (.conv .u32 (.bin .mul .u64 (.var 0) (.conv .u64 (.var 1)))),
    .set 4 (.bin .bxor .u32 (.var 4) (.bin .shr .u32 (.var 4) (.var 2))),
    .set 3 (.bin .bxor .u32 (.var 3) (.bin .mul .u32 (.var 4) (.var 1))),
    .set 4 (.conv .u32 (.bin .mul .u64 (.bin .shr .u64 (.var 0) (.lit 32)) (.conv .u64 (.var 1)))),
    .set 4 (.bin .bxor .u32 (.var 4) (.bin .shr .u32 (.var 4) (.var 2))),
    .set 3 (.bin .mul .u32 (.var 3) (.var 1)),
    .set 3 (.bin .bxor .u32 (.var 3) (.bin .mul .u32 (.var 4) (.var 1))),
    .set 3 (.bin .bxor .u32 (.var 3) (.bin .shr .u32 (.var 3) (.lit 13))),
    .set 3 (.bin .mul .u32 (.var 3) (.var 1)),
    .set 3 (.bin .bxor .u32 (.var 3) (.bin .shr .u32 (.var 3) (.lit 15))),
    .ret (.var 3)] }
def fn_MurmurHashLong.names : List (String × Nat) := [("data", 0), ("m", 1), ("r", 2), ("h", 3), ("k", 4)]

def murmur_MurmurHashByte_seed : Option Nat := some 3782874213
def murmur_MurmurHashLongByte_seed : Option Nat := some 3782874213

def fn_Composite64 : GoSem.Fn :=
  { params := [(0, .i32), (1, .i32)], result := .i64, body := [
    .ret (.bin .bor .i64 (.bin .shl .i64 (.conv .i64 (.var 0)) (.lit 32)) (.bin .band .i64 (.conv .i64 (.var 1)) (.lit 4294967295)))] }
def fn_Composite64.names : List (String × Nat) := [("hkey", 0), ("wkey", 1)]

def fn_Composite32 : GoSem.Fn :=
  { params := [(0, .i16), (1, .i16)], result := .i32, body := [
    .ret (.bin .bor .i32 (.bin .shl .i32 (.conv .i32 (.var 0)) (.lit 16)) (.bin .band .i32 (.conv .i32 (.var 1)) (.lit 65535)))] }
def fn_Composite32.names : List (String × Nat) := [("hkey", 0), ("wkey", 1)]

def fn_Composite16 : GoSem.Fn :=
  { params := [(0, .u8), (1, .u8)], result := .i16, body := [
    .ret (.bin .bor .i16 (.bin .shl .i16 (.conv .i16 (.var 0)) (.lit 8)) (.bin .band .i16 (.conv .i16 (.var 1)) (.lit 255)))] }
def fn_Composite16.names : List (String × Nat) := [("hkey", 0), ("wkey", 1)]

def fn_SetHigh64 : GoSem.Fn :=
  { params := [(0, .i64), (1, .i32)], result := .i64, body := [
    .ret (.bin .bor .i64 (.bin .band .i64 (.var 0) (.lit 4294967295)) (.bin .shl .i64 (.conv .i64 (.var 1)) (.lit 32)))] }
def fn_SetHigh64.names : List (String × Nat) := [("src", 0), ("hkey", 1)]

def fn_SetLow64 : GoSem.Fn :=
  { params := [(0, .i64), (1, .i32)], result := .i64, body := [
    .set 2 (.lit 18446744069414584320),
    .ret (.bin .bor .i64 (.bin .band .i64 (.var 0) (.conv .i64 (.var 2))) (.bin .band .i64 (.conv .i64 (.var 1)) (.lit 4294967295)))] }
def fn_SetLow64.names : List (String × Nat) := [("src", 0), ("wkey", 1), ("x", 2)]

def fn_GetHigh64 : GoSem.Fn :=
  { params := [(0, .i64)], result := .i32, body := [
    .set 1 (.lit 4294967295),
    .ret (.bin .band .i32 (.conv .i32 (.bin .shr .i64 (.var 0) (.lit 32))) (.conv .i32 (.var 1)))] }
def fn_GetHigh64.names : List (String × Nat) := [("key", 0), ("x", 1)]

def fn_GetLow64 : GoSem.Fn :=
  { params := [(0, .i64)], result := .i32, body := [
    .set 1 (.lit 4294967295),
    .ret (.bin .band .i32 (.conv .i32 (.var 0)) (.conv .i32 (.var 1)))] }
def fn_GetLow64.names : List (String × Nat) := [("key", 0), ("x", 1)]

def fn_GetHigh32 : GoSem.Fn :=
  { params := [(0, .i32)], result := .i16, body := [
    .set 1 (.lit 65535),
    .ret (.bin .band .i16 (.conv .i16 (.bin .shr .i32 (.var 0) (.lit 16))) (.conv .i16 (.var 1)))] }
def fn_GetHigh32.names : List (String × Nat) := [("key", 0), ("x", 1)]

def fn_GetLow32 : GoSem.Fn :=
  { params := [(0, .i32)], result := .i16, body := [
    .ret (.conv .i16 (.bin .band .i32 (.var 0) (.lit 65535)))] }
def fn_GetLow32.names : List (String × Nat) := [("key", 0)]

def fn_GetHigh16 : GoSem.Fn :=
  { params := [(0, .i16)], result := .u8, body := [
    .ret (.conv .u8 (.bin .band .i16 (.bin .shr .i16 (.var 0) (.lit 8)) (.lit 255)))] }
def fn_GetHigh16.names : List (String × Nat) := [("key", 0)]

def fn_GetLow16 : GoSem.Fn :=
  { params := [(0, .i16)], result := .u8, body := [
    .ret (.conv .u8 (.bin .band .i16 (.var 0) (.lit 255)))] }
def fn_GetLow16.names : List (String × Nat) := [("key", 0)]

def ipToString_pieces : List GoSem.IpPiece := [.octet 0, .text ".", .octet 1, .text ".", .octet 2, .text ".", .octet 3]
def ipToString_empty : String := "0.0.0.0"
def ipToBytes_sep : String := "."
def ipToBytes_count : Int := 4
def ipToBytes_bound : Int := 4
def ipToBytes_mask : Int := 255
def ipToBytes_default : List Nat := [0, 0, 0, 0]

end GoModel
