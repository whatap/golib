/-
  Golib.Hash.IpProofs — `ToBytes` on *every* text: it is total, and a text is its dot-free parts joined by
  dots (`joinDots_splitOn`, `splitOn_parts_nodot`); `isCanonical`, the decidable syntactic form of the
  canonical dotted quads (that it is equivalent to `canonical` is the second half of
  `C15.ip_text_fixed_iff`).
-/
import Golib.Hash.BitIpProofs

set_option linter.unusedVariables false

namespace IpUtil
open Strconv BitUtil

theorem octet_lt (p : List Char) : octet p < 256 := by
  fun_cases octet p <;> omega

theorem toBytes_wf (s : List Char) : (toBytes s).length = 4 ∧ WFB (toBytes s) := by
  have zero : ([0, 0, 0, 0] : Bytes).length = 4 ∧ WFB [0, 0, 0, 0] := ⟨rfl, by decide⟩
  fun_cases toBytes s with
  | case1 => exact zero
  | case2 _ a b c d =>
    refine ⟨rfl, ?_⟩
    intro x hx
    simp only [List.mem_cons, List.not_mem_nil, or_false] at hx
    rcases hx with h | h | h | h <;> subst h <;> exact octet_lt _
  | case3 => exact zero

def joinDots : List (List Char) → List Char
  | [] => []
  | [p] => p
  | p :: q :: rest => p ++ '.' :: joinDots (q :: rest)

theorem splitOn_cons_ne (sep c : Char) (cs : List Char) (h : c ≠ sep) :
    splitOn sep (c :: cs) = match splitOn sep cs with | [] => [[c]] | p :: ps => (c :: p) :: ps := by
  rw [splitOn]; cases splitOn sep cs <;> simp [h]

theorem joinDots_splitOn (s : List Char) : joinDots (splitOn '.' s) = s := by
  fun_induction splitOn '.' s with
  | case1 => rfl
  | case2 c cs h => exact absurd h (splitOn_ne_nil '.' cs)
  | case3 cs p ps h ih =>
    rw [h] at ih
    show [] ++ '.' :: joinDots (p :: ps) = '.' :: cs
    rw [ih]; rfl
  | case4 c cs p ps h hc ih =>
    rw [h] at ih
    cases ps with
    | nil => simp only [joinDots] at ih ⊢; rw [ih]
    | cons q rest =>
      simp only [joinDots] at ih ⊢
      rw [List.cons_append, ih]

theorem splitOn_parts_nodot (s : List Char) : ∀ p ∈ splitOn '.' s, ∀ c ∈ p, c ≠ '.' := by
  fun_induction splitOn '.' s with
  | case1 => intro p hp c hc; simp at hp; subst hp; simp at hc
  | case2 x xs h => exact absurd h (splitOn_ne_nil '.' xs)
  | case3 xs q qs h ih =>
    rw [h] at ih
    intro p hp c hc
    simp only [List.mem_cons] at hp
    rcases hp with h | h
    · subst h; simp at hc
    · exact ih p (by simpa using h) c hc
  | case4 x xs q qs h hx ih =>
    rw [h] at ih
    intro p hp c hc
    simp only [List.mem_cons] at hp
    rcases hp with h | h
    · subst h
      simp only [List.mem_cons] at hc
      rcases hc with h | h
      · subst h; exact hx
      · exact ih q (by simp) c h
    · exact ih p (by simp [h]) c hc

/-- a part is canonical iff it is the decimal numeral of its own value (no sign, no leading zero, ≤ 255) -/
def canonPart (p : List Char) : Bool := decide (itoaNat (octet p) = p)

def isCanonical (s : List Char) : Bool :=
  match splitOn '.' s with
  | [a, b, c, d] => canonPart a && canonPart b && canonPart c && canonPart d
  | _ => false

end IpUtil
