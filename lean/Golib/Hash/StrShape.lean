/-
  Golib.Hash.StrShape — semantics of the string-level decision trees that tie A extracts from the top
  level of hexa32.ToString32 / ToLong32, and the bridge to the CodeModel `Hexa32.toString32` /
  `Hexa32.toLong32` for ALL inputs.  The callees `to_str` / `to_long` are parameters (`toStrF`, `toLongF`):
  Props.C15Gen instantiates them with the Go-interpreted functions, for which `toStr_tied` / `toLong_tied` hold.
-/
import Golib.Hash.GoSemProofs
import Golib.Hash.GoModel
import Golib.Hash.Hexa32Proofs

set_option linter.unusedVariables false

namespace StrShape
open GoSem Hexa32 Strconv

/-- `strconv.Itoa` of an `int` -/
def itoaInt (v : Int) : List Char := if v < 0 then '-' :: itoaNat (-v).toNat else itoaNat v.toNat

def evalS (toStrF : Int → List Char) (ρ : Env) (A : Arrays) : SExpr → List Char
  | .lit s => s.toList
  | .cat a b => evalS toStrF ρ A a ++ evalS toStrF ρ A b
  | .toStr e => toStrF (eval ρ A e)
  | .itoa e => itoaInt (eval ρ A e)
  | .unknown _ => []

def evalT (toStrF : Int → List Char) (ρ : Env) (A : Arrays) : STree → List Char
  | .ret s => evalS toStrF ρ A s
  | .ite c t e => bif evalC ρ A c then evalT toStrF ρ A t else evalT toStrF ρ A e
  | .unknown _ => []

/-- `str == ""`, `str[0] == c` (bytes; the text is not empty where it is asked), `str == "lit"` -/
def evalDC (s : List Char) : DCond → Bool
  | .isEmpty => s.isEmpty
  | .firstIs c => match s with | [] => false | x :: _ => decide ((x.toNat : Int) = c)
  | .eqLit t => decide (s = t.toList)
  | .unknown _ => false

def evalDR (toLongF : List Char → Int) (s : List Char) : DRet → Int
  | .const v => v
  | .mulToLongTail k => norm .i64 (k * toLongF s.tail)
  | .atoiOr d => match atoi s with | some i => i | none => d
  | .unknown _ => 0

def evalD (toLongF : List Char → Int) (s : List Char) : DTree → Int
  | .ret r => evalDR toLongF s r
  | .ite c t e => bif evalDC s c then evalD toLongF s t else evalD toLongF s e
  | .unknown _ => 0

/-- **`ToString32` as transcribed = `Hexa32.toString32`** on all of int64, for any `to_str` that agrees
    with `Hexa32.toStr` on `[0, MaxInt64]` -/
theorem toString32_bridge (toStrF : Int → List Char)
    (hF : ∀ v, 0 ≤ v → v ≤ maxInt64 → toStrF v = toStr v)
    (A : Arrays) (ρ : Env) (n : Int) (h0 : ρ 0 = n) (hlo : minInt64 ≤ n) (hhi : n ≤ maxInt64) :
    evalT toStrF ρ A GoModel.tree_ToString32 = toString32 n := by
  unfold minInt64 maxInt64 at *
  have nn : norm .i64 n = n := by simp only [go_arith]; omega
  unfold toString32
  simp only [GoModel.tree_ToString32, evalT, evalS, evalC, eval, h0, nn]
  by_cases hneg : n < 0
  · rw [(ltb_iff _ _).mpr hneg, cond_true]
    simp only [hneg, if_true]
    by_cases hmin : n = minInt64
    · unfold minInt64 at hmin
      rw [(eqb_iff _ _).mpr hmin, cond_true]
      simp [minInt64, hmin]
    · unfold minInt64 at hmin
      rw [(eqb_false _ _).mpr hmin, cond_false]
      have e : norm .i64 (-n) = -n := by simp only [go_arith]; omega
      simp only [minInt64, hmin, if_false, e]
      rw [hF (-n) (by omega) (by omega)]
      rfl
  · rw [(ltb_false _ _).mpr hneg, cond_false]
    simp only [hneg, if_false]
    by_cases h10 : n < 10
    · rw [(ltb_iff _ _).mpr h10, cond_true]
      simp only [h10, if_true, itoaInt, hneg, if_false]
    · rw [(ltb_false _ _).mpr h10, cond_false]
      simp only [h10, if_false]
      rw [hF n (by omega) hhi]
      rfl

/-- comparing a character with a literal by its code, as the transcribed `str[0] == 'z'` does -/
theorem char_code (c k : Char) : decide ((c.toNat : Int) = (k.toNat : Int)) = decide (c = k) := by
  by_cases h : c = k
  · subst h; simp
  · have : ¬ ((c.toNat : Int) = (k.toNat : Int)) := by
      intro h'
      have h2 : c.toNat = k.toNat := by omega
      exact h (by rw [← Char.ofNat_toNat c, h2, Char.ofNat_toNat])
    simp [h, this]

/-- **`ToLong32` as transcribed = `Hexa32.toLong32`** on every text, for any `to_long` equal to `Hexa32.toLong` -/
theorem toLong32_bridge (toLongF : List Char → Int) (hF : ∀ t, toLongF t = toLong t) (s : List Char) :
    evalD toLongF s GoModel.tree_ToLong32 = toLong32 s := by
  unfold toLong32
  cases s with
  | nil => rfl
  | cons c rest =>
    simp only [GoModel.tree_ToLong32, evalD, evalDC, evalDR, List.isEmpty_cons, cond_false, List.tail_cons, hF]
    rw [show decide ((c.toNat : Int) = 122) = decide (c = 'z') from char_code c 'z',
      show decide ((c.toNat : Int) = 120) = decide (c = 'x') from char_code c 'x']
    have ⟨r0, r1⟩ := toLong_range rest
    unfold maxInt64 at r1
    by_cases hz : c = 'z'
    · simp only [hz, decide_true, cond_true, if_true]
      by_cases hm : ('z' :: rest) = "z8000000000000".toList
      · simp only [hm, decide_true, cond_true, if_true]; rfl
      · simp only [hm, decide_false, cond_false, if_false]
        simp only [go_arith]; omega
    · simp only [hz, decide_false, cond_false, if_false]
      by_cases hx : c = 'x'
      · simp only [hx, decide_true, cond_true, if_true]
        simp only [go_arith]; omega
      · simp only [hx, decide_false, cond_false, if_false]
        rfl

end StrShape
