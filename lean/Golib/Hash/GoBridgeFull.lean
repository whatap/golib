/-
  Golib.Hash.GoBridgeFull — bridge theorems: whole functions with their own loop headers and
  guards.  The transcribed `for init; cond; post` has the `while` semantics (`GoSem.whileLoop`); each function is one
  use of the loop rule `callWhile_inv` with its invariant; `if bytes == nil`, `if sz == 0`, `switch len(src)` are
  interpreted.
  The environment the function starts in is constrained only where the function has parameters
  beside the byte slice (`murmurHash`: `ρ 1` = length, `ρ 2` = seed) or calls (`HashAddr`: the three
  callee results as pseudo-variables).
-/
import Golib.Hash.GoBridgeHash
import Golib.Hash.GoBridgeMurmur

set_option linter.unusedVariables false
set_option linter.unusedSimpArgs false

namespace GoBridge
open GoSem

/-- what the ties of a register loop `pre; for i := 0; i < sz; i++ { body }; after` give: every block
    behaves like the model's (`M*` are the blocks of `GoModel`) -/
structure RegLoopTies (pre init : List Stmt) (cond : Cond) (post body after : List Stmt)
    (Mpre Minit : List Stmt) (Mcond : Cond) (Mpost Mbody Mafter : List Stmt) : Prop where
  pre : normStmts pre = normStmts Mpre
  init : normStmts init = normStmts Minit
  cond : normC cond = normC Mcond
  post : normStmts post = normStmts Mpost
  body : sameVars [2, 1, 3] body Mbody = true
  after : canonRet after = canonRet Mafter

/-- a whole register-loop function `pre; for i := 0; i < sz; i++ { body }; after` (i 1, register 2, sz 3), tied block
    by block to model blocks `M*`: if the guard passes and leaves `c0` and the length behind, `Mbody` maps the
    register by `f` and `Mafter` returns `fin` of it, the function returns `fin` of the fold -/
theorem RegLoopTies.run {pre init : List Stmt} {cond : Cond} {post body after Mpre Minit : List Stmt} {Mcond : Cond}
    {Mpost Mbody Mafter : List Stmt} (T : RegLoopTies pre init cond post body after Mpre Minit Mcond Mpost Mbody Mafter)
    (A : Arrays) (bs : Bytes) (f : Nat → Nat → Nat) (M : Nat) (fin : Nat → Int) (c0 : Nat) (ρ : Env)
    (sa : (canonRet Mafter).isSome)
    (hpre : runRet A ρ Mpre = none)
    (h2 : runEnv A ρ Mpre 2 = (c0 : Int)) (h3 : runEnv A ρ Mpre 3 = (bs.length : Int))
    (hinit : ∀ σ, runEnv A σ Minit = upd σ 1 0)
    (hcond : ∀ σ, evalC σ A Mcond = ltb (σ 1) (σ 3))
    (hpost : ∀ σ, runEnv A σ Mpost = upd σ 1 (evalOp .add .i64 (σ 1) 1))
    (hframe : Mbody.all (fun s => !s.sets 1) = true ∧ Mbody.all (fun s => !s.sets 3) = true)
    (hstep : ∀ (σ : Env) (i c : Nat), σ 2 = (c : Int) → c < M →
      step A (upd σ 1 (i : Int)) Mbody 2 = ((f c (bs.getD i 0) : Nat) : Int))
    (hlt : ∀ c b, c < M → f c b < M)
    (hfin : ∀ (σ : Env) (c : Nat), σ 2 = (c : Int) → c < M → runRet A σ Mafter = some (fin c))
    (h0 : c0 < M) (hN : bs.length < 4611686018427387904) (e : Nat) :
    callWhile A pre init cond post body after (bs.length + 1 + e) ρ = fin (bs.foldl f c0) := by
  have ePre := normStmts_eq T.pre A ρ
  have eB (x : Nat) (hx : x ∈ [2, 1, 3]) (σ : Env) := sameVars_eq T.body A σ x hx
  obtain ⟨σ, ⟨-, -, s2, hc⟩, hr⟩ := callWhile_inv A pre init cond post body after bs.length ρ
    (fun k σ => σ 1 = (k : Int) ∧ σ 3 = (bs.length : Int) ∧ σ 2 = (((bs.take k).foldl f c0 : Nat) : Int)
      ∧ (bs.take k).foldl f c0 < M)
    (ePre.2.trans hpre)
    (by rw [ePre.1, (normStmts_eq T.init A _).1, hinit]; exact ⟨rfl, h3, h2, h0⟩)
    (fun k σ ⟨s1, s3, _⟩ => by rw [evalC_tie T.cond, hcond, s1, s3, ltb_cast])
    (fun k σ hk ⟨s1, s3, s2, hc⟩ => by
      rw [(normStmts_eq T.post A _).1, hpost]
      simp only [upd, Nat.reduceEqDiff, if_true, if_false]
      rw [eB 1 (by simp), eB 3 (by simp), eB 2 (by simp), runEnv_frame A 1 _ σ hframe.1, runEnv_frame A 3 _ σ hframe.2,
        foldl_take_succ f bs c0 k hk, s1]
      refine ⟨succ_i64 k (by omega), s3, ?_, hlt _ _ hc⟩
      have := hstep σ k _ s2 hc
      rwa [← s1, upd_self] at this)
    e
  rw [List.take_length] at s2 hc
  rw [hr, canonRet_eq T.after sa, hfin σ _ s2 hc, retVal_some]

theorem hash_full_bridge (pre init : List Stmt) (cond : Cond) (post body after : List Stmt)
    (T : RegLoopTies pre init cond post body after GoModel.loop_Hash.pre GoModel.loop_Hash.init GoModel.loop_Hash.cond
      GoModel.loop_Hash.post GoModel.loop_Hash.body GoModel.loop_Hash.after)
    (o : Option Bytes) (hw : WFB (o.getD [])) (hl : (o.getD []).length < 4611686018427387904) (ρ : Env) (e : Nat) :
    callWhile (hashArrsO o) pre init cond post body after ((o.getD []).length + 1 + e) ρ = Hash.hash (o.getD []) :=
  T.run (hashArrsO o) (o.getD []) Hash.crcStep 4294967296 (fun c => Hash.toI32 (c ^^^ 0xffffffff)) 4294967295 ρ
    (by decide +kernel) rfl rfl (by simp [GoModel.loop_Hash.pre, runEnv, eval, upd, hashArrsO])
    (fun _ => rfl) (fun _ => rfl) (fun _ => rfl) (by decide) (hash_body_bridge o hw) crcStep_lt (hash_after_bridge _)
    (by decide) hl e

theorem hash64_full_bridge (pre init : List Stmt) (cond : Cond) (post body after : List Stmt)
    (T : RegLoopTies pre init cond post body after GoModel.loop_Hash64.pre GoModel.loop_Hash64.init GoModel.loop_Hash64.cond
      GoModel.loop_Hash64.post GoModel.loop_Hash64.body GoModel.loop_Hash64.after)
    (o : Option Bytes) (hw : WFB (o.getD [])) (hl : (o.getD []).length < 4611686018427387904) (ρ : Env) (e : Nat) :
    callWhile (hashArrsO o) pre init cond post body after ((o.getD []).length + 1 + e) ρ = Hash.hash64 (o.getD []) :=
  T.run (hashArrsO o) (o.getD []) Hash.crc64Step 18446744073709551616 (fun c => Hash.toI64 (c ^^^ 0xffffffffffffffff))
    18446744073709551615 ρ
    (by decide +kernel) rfl rfl (by simp [GoModel.loop_Hash64.pre, runEnv, eval, upd, hashArrsO])
    (fun _ => rfl) (fun _ => rfl) (fun _ => rfl) (by decide) (hash64_body_bridge o hw) crc64Step_lt (hash64_after_bridge _)
    (by decide) hl e

/-! ### Hash64v2: `if bytes == nil { return 0 }` in front -/

theorem hash64v2_full_bridge (pre init : List Stmt) (cond : Cond) (post body after : List Stmt)
    (T : RegLoopTies pre init cond post body after GoModel.loop_Hash64v2.pre GoModel.loop_Hash64v2.init
      GoModel.loop_Hash64v2.cond GoModel.loop_Hash64v2.post GoModel.loop_Hash64v2.body GoModel.loop_Hash64v2.after)
    (o : Option Bytes) (hw : WFB (o.getD [])) (hl : (o.getD []).length < 4611686018427387904) (ρ : Env) (e : Nat) :
    callWhile (hashArrsO o) pre init cond post body after ((o.getD []).length + 1 + e) ρ = Hash.hash64v2 o := by
  cases o with
  | none =>
    unfold callWhile
    rw [(normStmts_eq T.pre _ ρ).2]
    simp [GoModel.loop_Hash64v2.pre, runRet, eval, evalC, hashArrsO, nilTag, Hash.hash64v2]
  | some bs =>
    have hnil : hashArrsO (some bs) (nilTag 0) = [] := by simp [hashArrsO, nilTag]
    have hlen : (hashArrsO (some bs) 0).length = bs.length := by simp [hashArrsO]
    exact T.run _ bs Hash.v2StepA 18446744073709551616 (fun c => Hash.toI64 (c ^^^ 0xffffffffffffffff))
      18446744073709551615 ρ (by decide +kernel)
      (by simp [GoModel.loop_Hash64v2.pre, runRet, evalC, hnil])
      (by simp [GoModel.loop_Hash64v2.pre, runEnv, eval, evalC, upd, hnil])
      (by simp [GoModel.loop_Hash64v2.pre, runEnv, eval, evalC, upd, hnil, hlen])
      (fun _ => rfl) (fun _ => rfl) (fun _ => rfl) (by decide) (hash64v2_body_bridge (some bs) hw) v2StepA_lt
      (hash64_after_bridge _) (by decide) hl e

/-! ### Hash64V2: `if sz := len(bytes); sz == 0 { return 0 } else { … }` -/

theorem hash64V2_full_bridge (pre init : List Stmt) (cond : Cond) (post body after : List Stmt)
    (T : RegLoopTies pre init cond post body after GoModel.loop_Hash64V2.pre GoModel.loop_Hash64V2.init
      GoModel.loop_Hash64V2.cond GoModel.loop_Hash64V2.post GoModel.loop_Hash64V2.body GoModel.loop_Hash64V2.after)
    (o : Option Bytes) (hw : WFB (o.getD [])) (hl : (o.getD []).length < 4611686018427387904) (ρ : Env) (e : Nat) :
    callWhile (hashArrsO o) pre init cond post body after ((o.getD []).length + 1 + e) ρ = Hash.hash64V2 o := by
  by_cases hemp : (o.getD []) = []
  · -- nil or empty: the guard returns 0
    unfold callWhile
    rw [(normStmts_eq T.pre _ ρ).2]
    have : (hashArrsO o 0).length = 0 := by simp [hashArrsO, hemp]
    simp [GoModel.loop_Hash64V2.pre, runRet, eval, evalC, upd, this, eqb, Hash.hash64V2, hemp]
  · cases o with
    | none => exact absurd rfl hemp
    | some bs =>
      simp only [Option.getD_some] at hw hl hemp ⊢
      have hlen : (hashArrsO (some bs) 0).length = bs.length := by simp [hashArrsO]
      have hz : eqb ((bs.length : Nat) : Int) 0 = false :=
        (eqb_false _ _).mpr (by intro h; exact hemp (List.eq_nil_of_length_eq_zero (by omega)))
      rw [T.run _ bs Hash.v2StepB 18446744073709551616 (fun c => Hash.toI64 (c ^^^ 0xffffffffffffffff))
        18446744073709551615 ρ (by decide +kernel)
        (by simp [GoModel.loop_Hash64V2.pre, runRet, eval, evalC, upd, hlen, hz])
        (by simp [GoModel.loop_Hash64V2.pre, runEnv, eval, evalC, upd, hlen, hz])
        (by simp [GoModel.loop_Hash64V2.pre, runEnv, eval, evalC, upd, hlen, hz])
        (fun _ => rfl) (fun _ => rfl) (fun _ => rfl) (by decide) (hash64V2_body_bridge (some bs) hw) v2StepB_lt
        (hash64_after_bridge _) (by decide) hl e]
      cases bs with
      | nil => exact absurd rfl hemp
      | cons b bs => rfl

/-! ### stringutil.HashCode: `for i := 0; i < len(s); i++` -/

theorem hashCode_full_bridge (pre init : List Stmt) (cond : Cond) (post body after : List Stmt)
    (hpure : isPure pre = true)
    (hpre : canonVar 2 (pre ++ init) = canonVar 2 GoModel.loop_HashCode.pre)
    (hinit : normStmts init = normStmts GoModel.loop_HashCode.init)
    (hcond : normC cond = normC GoModel.loop_HashCode.cond)
    (hpost : normStmts post = normStmts GoModel.loop_HashCode.post)
    (hbody : sameVars [2, 1] body GoModel.loop_HashCode.body = true)
    (hafter : canonRet after = canonRet GoModel.loop_HashCode.after)
    (bs : Bytes) (hw : WFB bs) (hl : bs.length < 4611686018427387904) (ρ : Env) (e : Nat) :
    callWhile (strArrs bs) pre init cond post body after (bs.length + 1 + e) ρ = StrHash.hashCode bs := by
  obtain ⟨σ, ⟨-, s2, -⟩, hr⟩ := callWhile_inv (strArrs bs) pre init cond post body after bs.length ρ
    (fun k σ => σ 1 = (k : Int)
      ∧ σ 2 = (bs.take k).foldl (fun (h : Int) (b : Nat) => BitUtil.wrap64 (31 * h + (b : Int))) 0 ∧ BitUtil.isI64 (σ 2))
    (runRet_pure _ pre ρ hpure)
    (by
      have h2 : runEnv (strArrs bs) (runEnv (strArrs bs) ρ pre) init 2 = 0 := by
        rw [← runEnv_append _ pre init ρ hpure]
        exact (canonVar_eq hpre (by decide +kernel) (strArrs bs) ρ).trans rfl
      exact ⟨by rw [(normStmts_eq hinit _ _).1]; rfl, h2, by rw [h2]; unfold BitUtil.isI64; omega⟩)
    (fun k σ ⟨s1, _⟩ => by
      rw [evalC_tie hcond]
      show ltb (σ 1) (((strArrs bs 0).length : Nat) : Int) = _
      rw [s1, ltb_cast]; simp [strArrs])
    (fun k σ hk ⟨s1, s2, hi⟩ => by
      have e2 := hashCode_body_bridge bs hw σ k _ rfl hi
      rw [← s1, upd_self] at e2
      replace e2 := (sameVars_eq hbody (strArrs bs) σ 2 (by simp)).trans e2
      rw [(normStmts_eq hpost _ _).1]
      refine ⟨?_, ?_, ?_⟩
      · show evalOp .add .i64 (runEnv (strArrs bs) σ body 1) 1 = _
        rw [sameVars_eq hbody (strArrs bs) σ 1 (by simp), runEnv_frame _ 1 _ σ (by decide), s1, succ_i64 _ (by omega)]
      · show runEnv (strArrs bs) σ body 2 = _
        rw [e2, foldl_take_succ _ bs 0 k hk, ← s2]
      · show BitUtil.isI64 (runEnv (strArrs bs) σ body 2)
        rw [e2]; exact wrap64_range _)
    e
  rw [hr, canonRet_eq hafter (by decide +kernel)]
  show σ 2 = _
  rw [s2, List.take_length]; rfl

/-! ### murmurHash / murmurHashLong: `for i := 0; i < int(len_4); i++` -/

theorem murmur32_full_bridge (pre init : List Stmt) (cond : Cond) (post body after : List Stmt)
    (hpure : isPure pre = true)
    (hpre : sameVars [4, 5, 6, 7, 1] (pre ++ init) GoModel.loop_murmurHash.pre = true)
    (hinit : normStmts init = normStmts GoModel.loop_murmurHash.init)
    (hcond : normC cond = normC GoModel.loop_murmurHash.cond)
    (hpost : normStmts post = normStmts GoModel.loop_murmurHash.post)
    (hbody : sameVars [4, 5, 6, 1, 7, 3] body GoModel.loop_murmurHash.body = true)
    (hafter : normStmts after = normStmts GoModel.loop_murmurHash.after)
    (data : Bytes) (hw : WFB data) (seed : Nat) (hs : seed < 4294967296) (hl : data.length < 2147483648)
    (ρ : Env) (h1 : ρ 1 = (data.length : Int)) (h2 : ρ 2 = (seed : Int)) (e : Nat) :
    callWhile (dataArrs data) pre init cond post body after (data.length / 4 + 1 + e) ρ
      = ((Murmur.murmur32 data seed : Nat) : Int) := by
  -- before round `k`: `i = k`, `len_4` as computed, and `Murmur.walk4` from the current `h` over the bytes not yet read
  -- is the whole walk
  obtain ⟨σ, ⟨-, s7, c, s4, hc, hwalk, s5, -, s1⟩, hr⟩ := callWhile_inv (dataArrs data) pre init cond post body after
    (data.length / 4) ρ
    (fun k σ => σ 3 = (k : Int) ∧ σ 7 = ((data.length / 4 : Nat) : Int) ∧ ∃ c : Nat, σ 4 = (c : Int) ∧ c < 4294967296
      ∧ Murmur.walk4 Murmur.step32 data (seed ^^^ data.length % 4294967296)
          = Murmur.walk4 Murmur.step32 (data.drop (4 * k)) c
      ∧ σ 5 = ((Murmur.m32 : Nat) : Int) ∧ σ 6 = 24 ∧ σ 1 = (data.length : Int))
    (runRet_pure _ pre ρ hpure)
    (by
      have ⟨p4, p5, p6, p7, p1⟩ := murmur32_pre_bridge (dataArrs data) ρ data.length seed h1 h2 hl hs
      have sv (x : Nat) (hx : x ∈ [4, 5, 6, 7, 1]) :
          runEnv (dataArrs data) (runEnv (dataArrs data) ρ pre) init x = _ :=
        (runEnv_append _ pre init ρ hpure) ▸ sameVars_eq hpre (dataArrs data) ρ x hx
      exact ⟨by rw [(normStmts_eq hinit _ _).1]; rfl, (sv 7 (by simp)).trans p7, _, (sv 4 (by simp)).trans p4,
        Nat.xor_lt_two_pow (n := 32) hs (Nat.mod_lt _ (by decide)), rfl, (sv 5 (by simp)).trans p5,
        (sv 6 (by simp)).trans p6, (sv 1 (by simp)).trans p1⟩)
    (fun k σ ⟨s3, s7, _⟩ => by
      rw [evalC_tie hcond]
      show ltb (σ 3) (norm .i64 (σ 7)) = _
      rw [s3, s7, norm_i64_nat _ (by omega), ltb_cast])
    (fun k σ hk ⟨s3, s7, c, s4, hc, hwalk, s5, s6, s1⟩ => by
      have fr (x : Nat) (hx : x ∈ [4, 5, 6, 1, 7, 3]) (h : x ≠ 8 ∧ x ≠ 9 ∧ x ≠ 4) :=
        (sameVars_eq hbody (dataArrs data) σ x hx).trans (murmur32_body_frame _ σ x h)
      have e4 := (sameVars_eq hbody (dataArrs data) σ 4 (by simp)).trans
        (murmur32_body_bridge data hw σ k c s3 s4 s5 s6 hc (by omega))
      rw [(normStmts_eq hpost _ _).1]
      refine ⟨?_, (fr 7 (by simp) (by decide)).trans s7, _, e4, step32_lt _ _ _ _ _, ?_,
        (fr 5 (by simp) (by decide)).trans s5, (fr 6 (by simp) (by decide)).trans s6, (fr 1 (by simp) (by decide)).trans s1⟩
      · show evalOp .add .i64 (runEnv (dataArrs data) σ body 3) 1 = _
        rw [fr 3 (by simp) (by decide), s3, succ_i64 _ (by omega)]
      · rw [hwalk, drop4 data k (by omega), Murmur.walk4_cons])
    e
  rw [hr, (normStmts_eq hafter _ _).2, murmur32_after_bridge data hw σ c s1 s4 s5 s7 hc hl, retVal_some]
  apply congrArg (fun n : Nat => (n : Int))
  rw [Murmur.walk4_short _ (data.drop _) _ (by rw [List.length_drop]; omega), Nat.mul_comm] at hwalk
  unfold Murmur.murmur32 Murmur.blocks32
  simp only [hwalk]

theorem murmur64_full_bridge (pre init : List Stmt) (cond : Cond) (post body after : List Stmt)
    (hpure : isPure pre = true)
    (hpre : sameVars [4, 5, 6, 7, 1] (pre ++ init) GoModel.loop_murmurHashLong.pre = true)
    (hinit : normStmts init = normStmts GoModel.loop_murmurHashLong.init)
    (hcond : normC cond = normC GoModel.loop_murmurHashLong.cond)
    (hpost : normStmts post = normStmts GoModel.loop_murmurHashLong.post)
    (hbody : sameVars [4, 5, 6, 1, 7, 3] body GoModel.loop_murmurHashLong.body = true)
    (hafter : normStmts after = normStmts GoModel.loop_murmurHashLong.after)
    (data : Bytes) (hw : WFB data) (seed : Nat) (hs : seed < 4294967296) (hl : data.length < 2147483648)
    (ρ : Env) (h1 : ρ 1 = (data.length : Int)) (h2 : ρ 2 = (seed : Int)) (e : Nat) :
    callWhile (dataArrs data) pre init cond post body after (data.length / 8 + 1 + e) ρ
      = ((Murmur.murmur64 data seed : Nat) : Int) := by
  obtain ⟨σ, ⟨-, -, c, s4, hc, hwalk, s5, s6, s1⟩, hr⟩ := callWhile_inv (dataArrs data) pre init cond post body after
    (data.length / 8) ρ
    (fun k σ => σ 3 = (k : Int) ∧ σ 7 = ((data.length / 8 : Nat) : Int) ∧ ∃ c : Nat, σ 4 = (c : Int)
      ∧ c < 18446744073709551616
      ∧ Murmur.walk8 Murmur.step64 data
            ((seed &&& 0xffffffff) ^^^ Murmur.mul64 (data.length % 18446744073709551616) Murmur.m64)
          = Murmur.walk8 Murmur.step64 (data.drop (8 * k)) c
      ∧ σ 5 = ((Murmur.m64 : Nat) : Int) ∧ σ 6 = 47 ∧ σ 1 = (data.length : Int))
    (runRet_pure _ pre ρ hpure)
    (by
      have ⟨p4, p5, p6, p7, p1⟩ := murmur64_pre_bridge (dataArrs data) ρ data.length seed h1 h2 hl hs
      have sv (x : Nat) (hx : x ∈ [4, 5, 6, 7, 1]) :
          runEnv (dataArrs data) (runEnv (dataArrs data) ρ pre) init x = _ :=
        (runEnv_append _ pre init ρ hpure) ▸ sameVars_eq hpre (dataArrs data) ρ x hx
      exact ⟨by rw [(normStmts_eq hinit _ _).1]; rfl, (sv 7 (by simp)).trans p7, _, (sv 4 (by simp)).trans p4,
        Nat.xor_lt_two_pow (n := 64)
          (Nat.lt_of_lt_of_le (Nat.and_lt_two_pow seed (by decide : 0xffffffff < 2 ^ 32)) (by decide))
          (Nat.mod_lt _ (by decide)),
        rfl, (sv 5 (by simp)).trans p5, (sv 6 (by simp)).trans p6, (sv 1 (by simp)).trans p1⟩)
    (fun k σ ⟨s3, s7, _⟩ => by
      rw [evalC_tie hcond]
      show ltb (σ 3) (norm .i64 (σ 7)) = _
      rw [s3, s7, norm_i64_nat _ (by omega), ltb_cast])
    (fun k σ hk ⟨s3, s7, c, s4, hc, hwalk, s5, s6, s1⟩ => by
      have fr (x : Nat) (hx : x ∈ [4, 5, 6, 1, 7, 3]) (h : x ≠ 8 ∧ x ≠ 9 ∧ x ≠ 4) :=
        (sameVars_eq hbody (dataArrs data) σ x hx).trans (murmur64_body_frame _ σ x h)
      have e4 := (sameVars_eq hbody (dataArrs data) σ 4 (by simp)).trans
        (murmur64_body_bridge data hw σ k c s3 s4 s5 s6 hc (by omega))
      rw [(normStmts_eq hpost _ _).1]
      refine ⟨?_, (fr 7 (by simp) (by decide)).trans s7, _, e4, step64_lt _ _ _ _ _ _ _ _ _, ?_,
        (fr 5 (by simp) (by decide)).trans s5, (fr 6 (by simp) (by decide)).trans s6, (fr 1 (by simp) (by decide)).trans s1⟩
      · show evalOp .add .i64 (runEnv (dataArrs data) σ body 3) 1 = _
        rw [fr 3 (by simp) (by decide), s3, succ_i64 _ (by omega)]
      · rw [hwalk, drop8 data k (by omega), Murmur.walk8_cons])
    e
  rw [hr, (normStmts_eq hafter _ _).2, murmur64_after_bridge data hw σ c s1 s4 s5 s6 hc hl, retVal_some]
  apply congrArg (fun n : Nat => (n : Int))
  rw [Murmur.walk8_short _ (data.drop _) _ (by rw [List.length_drop]; omega), Nat.mul_comm] at hwalk
  unfold Murmur.murmur64 Murmur.blocks64
  simp only [hwalk]

/-! ### hash.HashAddr: `switch len(src)` -/

theorem len4_cases (src : List Nat) (h : src.length = 4) : ∃ a b c d, src = [a, b, c, d] := by
  match src, h with
  | [a, b, c, d], _ => exact ⟨a, b, c, d, rfl⟩
theorem len8_cases (src : List Nat) (h : src.length = 8) : ∃ a b c d e f g i, src = [a, b, c, d, e, f, g, i] := by
  match src, h with
  | [a, b, c, d, e, f, g, i], _ => exact ⟨a, b, c, d, e, f, g, i, rfl⟩

theorem hashAddr_4 (a b c d : Nat) : Hash.hashAddr [a, b, c, d]
    = Hash.wrap64 (Hash.wrap32 (a * 16777216 + b * 65536 + c * 256 + d) * Hash.wrap32 (a * 16777216 + b * 65536 + c * 256 + d)) := rfl
theorem hashAddr_8 (a b c d e f g h : Nat) :
    Hash.hashAddr [a, b, c, d, e, f, g, h] = (Hash.toLong [a, b, c, d, e, f, g, h]).getD 0 := rfl
theorem hashAddr_other (src : Bytes) (h4 : src.length ≠ 4) (h8 : src.length ≠ 8) : Hash.hashAddr src = Hash.hash src := by
  unfold Hash.hashAddr
  split
  · simp at h4
  · simp at h8
  · rfl

/-- identifiers: `ToInt(src)` 1, `c` 2, `ToLong(src)` 3, `Hash(src)` 4 — the three calls are pseudo-variables
    holding the callee's result (each callee has its own theorem: `toInt_tied`, `toLong_bytes_tied`, `hash_full_tied`) -/
theorem hashAddr_bridge (body : List Stmt) (hb : normStmts body = normStmts GoModel.fn_HashAddr.body)
    (src : Bytes) (hw : WFB src) (ρ : Env)
    (h1 : ρ 1 = (Hash.toInt src).getD 0) (h3 : ρ 3 = (Hash.toLong src).getD 0) (h4 : ρ 4 = Hash.hash src) :
    retVal (runRet (bufArrs src) ρ body) = Hash.hashAddr src := by
  rw [(normStmts_eq hb _ ρ).2]
  have hlen : (bufArrs src 0).length = src.length := by simp [bufArrs]
  have c4 : ([4] : List Int).contains ((src.length : Nat) : Int) = decide (src.length = 4) := by
    simp only [List.contains_cons, List.contains_nil, Bool.or_false]
    by_cases h : src.length = 4 <;> simp [h] <;> omega
  have c8 : ([8] : List Int).contains ((src.length : Nat) : Int) = decide (src.length = 8) := by
    simp only [List.contains_cons, List.contains_nil, Bool.or_false]
    by_cases h : src.length = 8 <;> simp [h] <;> omega
  simp only [GoModel.fn_HashAddr, go_run, hlen, c4, c8, if_true, Nat.reduceEqDiff, if_false]
  by_cases l4 : src.length = 4
  · simp only [l4, decide_true, cond_true, if_true, h1]
    rw [retVal_some]
    simp only [evalOp]
    obtain ⟨a, b, c, d, rfl⟩ := len4_cases src l4
    rw [hashAddr_4]
    have ti : Hash.toInt [a, b, c, d] = some (Hash.wrap32 (a * 16777216 + b * 65536 + c * 256 + d)) := rfl
    rw [ti, Option.getD_some]
    have hr : ∀ v : Int, norm .i64 (Hash.wrap32 v) = Hash.wrap32 v := by
      intro v; unfold Hash.wrap32; simp only [go_arith]; omega
    simp only [upd, if_true, hr]
    rfl
  · simp only [l4, decide_false, cond_false]
    by_cases l8 : src.length = 8
    · simp only [l8, decide_true, cond_true, h3]
      rw [retVal_some]
      obtain ⟨a, b, c, d, e, f, g, i, rfl⟩ := len8_cases src l8
      rw [hashAddr_8]
    · simp only [l8, decide_false, cond_false, h4]
      rw [retVal_some]
      have hh : norm .i64 (Hash.hash src) = Hash.hash src := by
        unfold Hash.hash Hash.toI32
        simp only [go_arith]; split <;> omega
      rw [hh, hashAddr_other src l4 l8]

end GoBridge
