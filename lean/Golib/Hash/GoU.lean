/-
  Golib.Hash.GoU — the unsigned types of `GoSem` as natural numbers: a value of `uint8 … uint64` is a natural below
  `t.size`; `^ & | >>` of values that fit need no reduction, `* + <<` reduce modulo `t.size`.  This is how the
  CodeModels of util/hash and util/hll/MurmurHash are written, so a bridge for unsigned code is: run the block,
  rewrite with these lemmas (side conditions `x < t.size` from the closure lemmas), unfold the model.
-/
import Golib.Hash.GoBridge

namespace GoSem
/-- the number of values of `t` (left folded by the lemmas of this file; `simp only [Ty.size, Ty.bits, Nat.reducePow]`
    turns it into the numeral the models use) -/
def Ty.size (t : Ty) : Nat := 2 ^ t.bits
end GoSem

namespace GoBridge
open GoSem

theorem modulus_eq (t : Ty) : t.modulus = ((t.size : Nat) : Int) := by cases t <;> rfl

/-- `uint8 … uint64`.  A class and not a hypothesis `t.half = 0`: `simp` has to supply it when it rewrites with the
    lemmas below, and a proof of `Ty.half .u32 = 0` found by unfolding is not accepted for the hypothesis. -/
class Unsigned (t : Ty) : Prop where
  half : t.half = 0
instance : Unsigned .u8 := ⟨rfl⟩
instance : Unsigned .u16 := ⟨rfl⟩
instance : Unsigned .u32 := ⟨rfl⟩
instance : Unsigned .u64 := ⟨rfl⟩

/-- a conversion through a type at least as wide, signed or not, is invisible -/
theorem norm_norm {s t : Ty} (h : t.modulus ∣ s.modulus) (v : Int) : norm t (norm s v) = norm t v := by
  rw [← norm_emod t (norm s v), ← norm_emod t v]
  congr 1
  unfold norm
  rw [Int.sub_emod, Int.emod_emod_of_dvd _ h, ← Int.sub_emod, Int.add_sub_cancel]

theorem pat_nat (t : Ty) (a : Nat) : pat t (a : Int) = a % t.size := by
  unfold pat; rw [modulus_eq, ← Int.natCast_emod]; exact Int.toNat_natCast _

theorem shr_nat (t : Ty) (a : Nat) (k : Int) : evalOp .shr t (a : Int) k = ((a >>> k.toNat : Nat) : Int) := by
  show (a : Int) / 2 ^ k.toNat = _
  rw [Nat.shiftRight_eq_div_pow, Int.natCast_ediv]; simp

section unsigned
variable {t : Ty} [ht : Unsigned t] {a b : Nat}

theorem norm_nat (a : Nat) : norm t (a : Int) = ((a % t.size : Nat) : Int) := by
  unfold norm; rw [ht.half, modulus_eq, Int.add_zero, Int.sub_zero, Int.natCast_emod]

theorem conv_fit (ha : a < t.size) : norm t (a : Int) = a := by
  rw [norm_nat, Nat.mod_eq_of_lt ha]

omit ht in
theorem pat_fit (ha : a < t.size) : pat t (a : Int) = a := by rw [pat_nat, Nat.mod_eq_of_lt ha]

theorem bxor_fit (ha : a < t.size) (hb : b < t.size) : evalOp .bxor t (a : Int) (b : Int) = ((a ^^^ b : Nat) : Int) := by
  show norm t ((pat t a ^^^ pat t b : Nat) : Int) = _
  rw [pat_fit ha, pat_fit hb, conv_fit (Nat.xor_lt_two_pow ha hb)]

theorem band_fit (ha : a < t.size) (hb : b < t.size) : evalOp .band t (a : Int) (b : Int) = ((a &&& b : Nat) : Int) := by
  show norm t ((pat t a &&& pat t b : Nat) : Int) = _
  rw [pat_fit ha, pat_fit hb, conv_fit (Nat.lt_of_le_of_lt Nat.and_le_left ha)]

theorem bor_fit (ha : a < t.size) (hb : b < t.size) : evalOp .bor t (a : Int) (b : Int) = ((a ||| b : Nat) : Int) := by
  show norm t ((pat t a ||| pat t b : Nat) : Int) = _
  rw [pat_fit ha, pat_fit hb, conv_fit (Nat.or_lt_two_pow ha hb)]

theorem mul_nat (a b : Nat) : evalOp .mul t (a : Int) (b : Int) = ((a * b % t.size : Nat) : Int) := by
  show norm t _ = _
  rw [← Int.natCast_mul, norm_nat]

theorem add_nat (a b : Nat) : evalOp .add t (a : Int) (b : Int) = (((a + b) % t.size : Nat) : Int) := by
  show norm t _ = _
  rw [← Int.natCast_add, norm_nat]

theorem shl_nat (a : Nat) (k : Int) : evalOp .shl t (a : Int) k = ((a <<< k.toNat % t.size : Nat) : Int) := by
  show norm t _ = _
  rw [Nat.shiftLeft_eq, ← norm_nat]; simp
end unsigned

section fits
variable {t : Ty} {a b : Nat}
theorem xor_lt_size (ha : a < t.size) (hb : b < t.size) : a ^^^ b < t.size := Nat.xor_lt_two_pow ha hb
theorem or_lt_size (ha : a < t.size) (hb : b < t.size) : a ||| b < t.size := Nat.or_lt_two_pow ha hb
theorem and_lt_size (hb : b < t.size) : a &&& b < t.size := Nat.lt_of_le_of_lt Nat.and_le_right hb
theorem shr_lt_size (k : Nat) (ha : a < t.size) : a >>> k < t.size := Nat.lt_of_le_of_lt (Nat.shiftRight_le _ _) ha
theorem cond_lt_size (c : Bool) (ha : a < t.size) (hb : b < t.size) : (bif c then a else b) < t.size := by
  cases c <;> assumption
theorem mod_lt_size (t : Ty) (a : Nat) : a % t.size < t.size := Nat.mod_lt _ (Nat.two_pow_pos _)
theorem byte_lt_size (h : b < 256) : b < t.size := Nat.lt_of_lt_of_le h (by cases t <;> decide)
end fits

end GoBridge
