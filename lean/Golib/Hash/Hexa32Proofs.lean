/-
  Golib.Hash.Hexa32Proofs — ToLong32 ∘ ToString32 = id on all of int64; what `to_long` and `ToLong32` return is an
  int64, on any text; `to_str` writes the radix-32 numeral `refDigits` of the magnitude.
-/
import Golib.Hash.Hexa32

namespace Hexa32
open Strconv

/-- `findc` inverts the digit alphabet (the first 32 entries are the ones `to_str` uses) -/
theorem findc_digitAt : ∀ k : Fin 36, findc (digitAt (k.val : Int)) = (k.val : Int) := by decide +kernel

theorem findc_digitAt' (k : Int) (h0 : 0 ≤ k) (h1 : k < 32) : findc (digitAt k) = k := by
  have := findc_digitAt ⟨k.toNat, by omega⟩
  have e : ((k.toNat : Nat) : Int) = k := by omega
  simp only [e] at this
  exact this

/-- Go's truncated division on a non-positive dividend, in terms of `/` and `%` on the magnitude -/
theorem tdiv_nonpos (i d : Int) (h : i ≤ 0) : i.tdiv d = -((-i) / d) := by
  have : i = -(-i) := by omega
  rw [this, Int.neg_tdiv, Int.tdiv_eq_ediv_of_nonneg (by omega)]
  simp

theorem tmod_nonpos (i d : Int) (h : i ≤ 0) : i.tmod d = -((-i) % d) := by
  have : i = -(-i) := by omega
  rw [this, Int.neg_tmod, Int.tmod_eq_emod_of_nonneg (by omega)]
  simp

/-- decoding what the digit loop produced for `i ≤ 0` continues from accumulator `i` -/
theorem toLongLoop_toStrLoop (i : Int) (acc : List Char) (h0 : i ≤ 0) (hl : limit ≤ i) :
    toLongLoop 0 (toStrLoop i acc) = toLongLoop i acc := by
  fun_induction toStrLoop i acc with
  | case1 i acc h ih =>
    have hd := tdiv_nonpos i 32 h0
    have hm := tmod_nonpos i 32 h0
    rw [ih (by rw [hd]; omega) (by rw [hd]; unfold limit at *; omega)]
    have hf : findc (digitAt (-(i.tmod 32))) = -(i.tmod 32) := findc_digitAt' _ (by rw [hm]; omega) (by rw [hm]; omega)
    rw [toLongLoop]
    simp only [hf]
    have g1 : ¬ (i.tdiv 32 < multmin) := by rw [hd]; unfold multmin limit at *; omega
    have g2 : ¬ (i.tdiv 32 * 32 < limit + -(i.tmod 32)) := by rw [hd, hm]; unfold limit at *; omega
    have e : i.tdiv 32 * 32 - -(i.tmod 32) = i := by rw [hd, hm]; omega
    simp only [g1, g2, if_false, e]
  | case2 i acc h =>
    have hf : findc (digitAt (-i)) = -i := findc_digitAt' _ (by omega) (by omega)
    rw [toLongLoop]
    simp only [hf]
    have g1 : ¬ ((0 : Int) < multmin) := by decide
    have g2 : ¬ ((0 : Int) * 32 < limit + -i) := by unfold limit at *; omega
    have e : (0 : Int) * 32 - -i = i := by omega
    simp only [g1, g2, if_false, e]

theorem toLong_toStr (v : Int) (h0 : 0 ≤ v) (h1 : v ≤ maxInt64) : toLong (toStr v) = v := by
  unfold toLong toStr
  rw [toLongLoop_toStrLoop (-v) [] (by omega) (by unfold limit maxInt64 at *; omega)]
  simp [toLongLoop]

theorem itoa_digit : ∀ k : Fin 10, toLong32 (itoaNat k.val) = (k.val : Int) := by decide +kernel

theorem toLong32_toString32 (n : Int) (hlo : minInt64 ≤ n) (hhi : n ≤ maxInt64) :
    toLong32 (toString32 n) = n := by
  unfold toString32
  by_cases hneg : n < 0
  · simp only [hneg, if_true]
    by_cases hmin : n = minInt64
    · subst hmin; decide +kernel
    · simp only [hmin, if_false]
      have hv : toLong (toStr (-n)) = -n := toLong_toStr (-n) (by omega) (by unfold minInt64 maxInt64 at *; omega)
      unfold toLong32
      simp only [if_true]
      by_cases hs : ('z' :: toStr (-n)) = "z8000000000000".toList
      · -- the text of −2^63 cannot come from another number: `toLong` of its digits is 0 (the
        -- overflow guard), while `toLong (toStr (-n)) = -n > 0`
        exfalso
        have e : toLong ('8' :: "000000000000".toList) = toLong (toStr (-n)) :=
          congrArg toLong (List.tail_eq_of_cons_eq (hs.trans
            (by decide +kernel : "z8000000000000".toList = 'z' :: '8' :: "000000000000".toList))).symm
        rw [hv] at e
        have : toLong ('8' :: "000000000000".toList) = 0 := by decide +kernel
        rw [this] at e
        omega
      · simp only [hs, if_false, hv]; omega
  · simp only [hneg, if_false]
    by_cases h10 : n < 10
    · simp only [h10, if_true]
      have := itoa_digit ⟨n.toNat, by omega⟩
      simp only at this
      rw [this]; omega
    · simp only [h10, if_false]
      unfold toLong32
      simp only [show ('x' = 'z') = False by decide, if_false, if_true]
      exact toLong_toStr n (by omega) hhi

/-! ### what `to_long`, `strconv.Atoi` and `ToLong32` return is in int64 -/

theorem findc_nonneg (c : Char) : 0 ≤ findc c ∧ findc c ≤ 35 := by
  fun_cases findc c <;> omega

/-- with the accumulator in `[limit, 0]` the returned value is in `[0, maxInt64]` -/
theorem toLongLoop_range (cs : List Char) (r : Int) (h1 : limit ≤ r) (h2 : r ≤ 0) :
    0 ≤ toLongLoop r cs ∧ toLongLoop r cs ≤ maxInt64 := by
  fun_induction toLongLoop r cs with
  | case1 r => unfold limit maxInt64 at *; omega
  | case2 => unfold maxInt64; omega
  | case3 => unfold maxInt64; omega
  | case4 r c cs digit g1 r32 g2 ih =>
    have := findc_nonneg c
    exact ih (by unfold limit at *; omega) (by omega)

theorem toLong_range (s : List Char) : 0 ≤ toLong s ∧ toLong s ≤ maxInt64 :=
  toLongLoop_range s 0 (by decide) (by decide)

theorem atoiSigned_range (neg : Bool) (body : List Char) (i : Int) (h : atoiSigned neg body = some i) :
    minInt64 ≤ i ∧ i ≤ maxInt64 := by
  revert h
  fun_cases atoiSigned neg body <;> intro h <;> cases h <;> (unfold minInt64 maxInt64; omega)

theorem atoi_range (s : List Char) (i : Int) (h : atoi s = some i) : minInt64 ≤ i ∧ i ≤ maxInt64 := by
  unfold atoi at h
  split at h <;> exact atoiSigned_range _ _ i h

theorem toLong32_range (s : List Char) : minInt64 ≤ toLong32 s ∧ toLong32 s ≤ maxInt64 := by
  fun_cases toLong32 s with
  | case1 => unfold minInt64 maxInt64; omega
  | case2 rest h => rw [if_pos h]; unfold minInt64 maxInt64; omega
  | case3 rest h => have := toLong_range rest; rw [if_neg h]; unfold minInt64 maxInt64 at *; omega
  | case4 rest => have := toLong_range rest; unfold minInt64 maxInt64 at *; omega
  | case5 c rest _ _ i hi => rw [hi]; exact atoi_range _ i hi
  | case6 c rest _ _ hn => simp only [hn]; unfold minInt64 maxInt64; omega

/-- reference radix-32 numeral of a natural number: most significant digit first, digits `0-9a-v`,
    no leading zero (written from the definition of positional notation, not from the Go loop) -/
def refDigits (n : Nat) : List Char :=
  if _h : n < 32 then [digitAt (n : Int)] else refDigits (n / 32) ++ [digitAt ((n % 32 : Nat) : Int)]
termination_by n
decreasing_by omega

theorem toStrLoop_ref (m : Nat) (acc : List Char) : toStrLoop (-(m : Int)) acc = refDigits m ++ acc := by
  fun_induction refDigits m generalizing acc with
  | case1 m h =>
    rw [toStrLoop, dif_neg (by omega), Int.neg_neg]; rfl
  | case2 m h ih =>
    have hd := tdiv_nonpos (-(m : Int)) 32 (by omega)
    have hm' := tmod_nonpos (-(m : Int)) 32 (by omega)
    have e1 : (-(m : Int)).tdiv 32 = -((m / 32 : Nat) : Int) := by rw [hd]; omega
    have e2 : -((-(m : Int)).tmod 32) = ((m % 32 : Nat) : Int) := by rw [hm']; omega
    rw [toStrLoop, dif_pos (by omega), e1, e2, ih]
    simp

theorem toStr_canonical (v : Int) (hv : 0 ≤ v) : toStr v = refDigits v.toNat := by
  unfold toStr
  have : -v = -((v.toNat : Nat) : Int) := by omega
  rw [this, toStrLoop_ref]
  simp

theorem digitAt_alphabet : ∀ k : Fin 32, (digitAt (k.val : Int)) ∈ digits.take 32 := by decide +kernel
theorem digitAt_ne_zero : ∀ k : Fin 32, k.val ≠ 0 → digitAt (k.val : Int) ≠ '0' := by decide +kernel

theorem refDigits_alphabet (n : Nat) : ∀ c ∈ refDigits n, c ∈ digits.take 32 := by
  fun_induction refDigits n with
  | case1 n h =>
    simp only [List.mem_singleton]
    intro c hc; subst hc; exact digitAt_alphabet ⟨n, h⟩
  | case2 n h ih =>
    simp only [List.mem_append, List.mem_singleton]
    intro c hc
    rcases hc with hc | hc
    · exact ih c hc
    · subst hc; exact digitAt_alphabet ⟨n % 32, by omega⟩

theorem refDigits_head (n : Nat) (hn : 0 < n) : ∃ c rest, refDigits n = c :: rest ∧ c ≠ '0' := by
  fun_induction refDigits n with
  | case1 n h => exact ⟨_, [], rfl, digitAt_ne_zero ⟨n, h⟩ (by simp; omega)⟩
  | case2 n h ih =>
    obtain ⟨c, rest, e, hc⟩ := ih (by omega)
    exact ⟨c, rest ++ [digitAt ((n % 32 : Nat) : Int)], by rw [e]; rfl, hc⟩

end Hexa32
