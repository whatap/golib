/-
  Golib.Hash.GoBridgeHexa — bridge theorems for util/hexa32:
  `findc`; the whole of `to_long` on every text (prelude, guarded loop body, final negation; the character loop is the
  recursion `goToLong`); `to_str` for `0 ≤ v ≤ MaxInt64`: the pieces of its digit loop (condition, stored digit, post
  statement, last digit), the loop (`goToStrLoop`, on the negated value `MinInt64 < i ≤ 0`) and the whole function.
-/
import Golib.Hash.GoBridge
import Golib.Hash.Hexa32Proofs

set_option linter.unusedVariables false
set_option linter.unusedSimpArgs false

namespace GoBridge
open GoSem Hexa32

theorem char_toNat_lt (c : Char) : c.toNat < 1114112 := by
  have := c.valid
  unfold Char.toNat
  rcases this with h | ⟨_, h⟩ <;> omega

/-- the closure `findc` of `to_long` -/
theorem findc_bridge (c : Char) : call noArr GoModel.fn_findc [(c.toNat : Int)] = findc c := by
  have hc := char_toNat_lt c
  simp only [go_run, GoModel.fn_findc]
  simp only [if_true, go_arith]
  unfold findc
  simp only []
  generalize c.toNat = x at hc
  have e : ((x : Int) + 9223372036854775808) % 18446744073709551616 - 9223372036854775808 = (x : Int) := by omega
  simp only [e, leb, ← Bool.decide_and, Bool.cond_decide]
  by_cases h1 : 48 ≤ x ∧ x ≤ 57
  · rw [if_pos h1, if_pos (show (48 : Int) ≤ x ∧ (x : Int) ≤ 57 by omega)]; simp only [retVal]; omega
  rw [if_neg h1, if_neg (show ¬((48 : Int) ≤ x ∧ (x : Int) ≤ 57) by omega)]
  by_cases h2 : 97 ≤ x ∧ x ≤ 122
  · rw [if_pos h2, if_pos (show (97 : Int) ≤ x ∧ (x : Int) ≤ 122 by omega)]; simp only [retVal]; omega
  rw [if_neg h2, if_neg (show ¬((97 : Int) ≤ x ∧ (x : Int) ≤ 122) by omega)]
  by_cases h3 : 65 ≤ x ∧ x ≤ 90
  · rw [if_pos h3, if_pos (show (65 : Int) ≤ x ∧ (x : Int) ≤ 90 by omega)]; simp only [retVal]; omega
  rw [if_neg h3, if_neg (show ¬((65 : Int) ≤ x ∧ (x : Int) ≤ 90) by omega)]; rfl

/-- how the pieces of `to_long` are put together: per character, `digit := findc(int(s[i]))`, then the
    loop body (which may return), finally the after-loop block.  Identifier numbers: result 2,
    multmin 4, limit 5, digit 6. -/
def goToLong (A : Arrays) (fc : Fn) (body after : List Stmt) : Env → List Char → Int
  | ρ, [] => retVal (runRet A ρ after)
  | ρ, c :: cs =>
    let ρ1 := upd ρ 6 (call A fc [(c.toNat : Int)])
    match runRet A ρ1 body with
    | some v => v
    | none => goToLong A fc body after (runEnv A ρ1 body) cs

theorem toLong_pre_bridge (A : Arrays) (ρ : Env) :
    runEnv A ρ GoModel.loop_to_long.pre 2 = 0 ∧ runEnv A ρ GoModel.loop_to_long.pre 5 = limit
    ∧ runEnv A ρ GoModel.loop_to_long.pre 4 = multmin := by
  simp only [GoModel.loop_to_long.pre, go_run, go_arith, limit, multmin]
  simp only [if_true, Nat.reduceEqDiff, if_false]
  decide

theorem toLong_body_bridge (A : Arrays) (ρ : Env) (r d : Int) (h2 : ρ 2 = r) (h3 : ρ 5 = limit) (h4 : ρ 4 = multmin)
    (h5 : ρ 6 = d) (hr : limit ≤ r ∧ r ≤ 0) (hd : 0 ≤ d ∧ d ≤ 35) :
    (runRet A ρ GoModel.loop_to_long.body
        = if r < multmin then some 0 else if r * 32 < limit + d then some 0 else none)
    ∧ (¬ r < multmin → ¬ r * 32 < limit + d →
        runEnv A ρ GoModel.loop_to_long.body 2 = r * 32 - d ∧ runEnv A ρ GoModel.loop_to_long.body 5 = limit
        ∧ runEnv A ρ GoModel.loop_to_long.body 4 = multmin) := by
  subst h2 h5
  unfold limit multmin at *
  have e2 : (-9223372036854775807 + ρ 6 + 9223372036854775808) % 18446744073709551616 - 9223372036854775808
      = -9223372036854775807 + ρ 6 := by omega
  constructor
  · simp only [GoModel.loop_to_long.body, go_run, h3, h4, go_arith, if_true, Nat.reduceEqDiff, if_false, e2]
    by_cases g1 : ρ 2 < -288230376151711743
    · simp only [g1, if_true, (ltb_iff _ _).mpr g1, cond_true]
    · have e1 : (ρ 2 * 32 + 9223372036854775808) % 18446744073709551616 - 9223372036854775808 = ρ 2 * 32 := by omega
      simp only [g1, if_false, (ltb_false _ _).mpr g1, cond_false, e1]
      by_cases g2 : ρ 2 * 32 < -9223372036854775807 + ρ 6
      · simp only [g2, if_true, (ltb_iff _ _).mpr g2, cond_true]
      · simp only [g2, if_false, (ltb_false _ _).mpr g2, cond_false]
  · intro g1 g2
    have e1 : (ρ 2 * 32 + 9223372036854775808) % 18446744073709551616 - 9223372036854775808 = ρ 2 * 32 := by omega
    simp only [GoModel.loop_to_long.body, go_run, go_arith]
    have c1 : ltb (ρ 2) (ρ 4) = false := by rw [h4]; exact (ltb_false _ _).mpr g1
    simp only [c1, cond_false, upd, if_true, Nat.reduceEqDiff, if_false, e1, h3, e2, (ltb_false _ _).mpr g2]
    refine ⟨?_, trivial, h4⟩
    omega

/-- **the whole of `to_long` as transcribed = `Hexa32.toLong`**, for every text; `pre`, `body`, `after`,
    any blocks with the normal forms of the model's, `fc` any function that computes `findc` -/
theorem toLong_fn_bridge (fc : Fn) (pre body after : List Stmt)
    (hcall : ∀ c : Char, call noArr fc [(c.toNat : Int)] = findc c)
    (hpre : sameVars [2, 5, 4] pre GoModel.loop_to_long.pre = true)
    (hbody : normStmts body = normStmts GoModel.loop_to_long.body)
    (hafter : normStmts after = normStmts GoModel.loop_to_long.after)
    (ρ : Env) (cs : List Char) :
    goToLong noArr fc body after (runEnv noArr ρ pre) cs = toLong cs := by
  have key : ∀ (cs : List Char) (ρ : Env) (r : Int), ρ 2 = r → ρ 5 = limit → ρ 4 = multmin → limit ≤ r ∧ r ≤ 0 →
      goToLong noArr fc body after ρ cs = toLongLoop r cs := by
    intro cs
    induction cs with
    | nil =>
      intro ρ r h2 h3 h4 hr
      simp only [goToLong, toLongLoop]
      rw [(normStmts_eq hafter noArr ρ).2]
      simp only [GoModel.loop_to_long.after, runRet, eval, h2, retVal, go_arith]
      unfold limit at hr; omega
    | cons c cs ih =>
      intro ρ r h2 h3 h4 hr
      have hd := findc_nonneg c
      simp only [goToLong, hcall]
      have ρ1p : ∀ k, k ≠ 6 → upd ρ 6 (findc c) k = ρ k := by intro k hk; simp [upd, hk]
      have ⟨b1, b2⟩ := toLong_body_bridge noArr (upd ρ 6 (findc c)) r (findc c) (by rw [ρ1p 2 (by decide)]; exact h2)
        (by rw [ρ1p 5 (by decide)]; exact h3) (by rw [ρ1p 4 (by decide)]; exact h4) (by simp [upd]) hr hd
      rw [(normStmts_eq hbody noArr _).2, b1, (normStmts_eq hbody noArr _).1]
      rw [toLongLoop]
      simp only []
      by_cases g1 : r < multmin
      · simp only [g1, if_true]
      · simp only [g1, if_false]
        by_cases g2 : r * 32 < limit + findc c
        · simp only [g2, if_true]
        · simp only [g2, if_false]
          have ⟨c2, c3, c4⟩ := b2 g1 g2
          exact ih _ _ c2 c3 c4 (by unfold limit multmin at *; omega)
  have ⟨p2, p3, p4⟩ := toLong_pre_bridge noArr ρ
  unfold toLong
  exact key cs _ 0 (by rw [sameVars_eq hpre noArr ρ 2 (by simp)]; exact p2)
    (by rw [sameVars_eq hpre noArr ρ 5 (by simp)]; exact p3)
    (by rw [sameVars_eq hpre noArr ρ 4 (by simp)]; exact p4) (by unfold limit; omega)

def digitsInts : List Int := Hexa32.digits.map (fun c => (c.toNat : Int))

/-- arrays of `to_str`: the package-level `digits` (number 1001, see `hashArrsO`) -/
def hexaArrs : Arrays := fun n => if n = 1001 then digitsInts else []

theorem digit_lookup : ∀ k : Fin 36, Char.ofNat (digitsInts.getD k.val 0).toNat = digitAt (k.val : Int) := by
  decide +kernel

theorem digit_lookup' (k : Int) (h0 : 0 ≤ k) (h1 : k < 36) : Char.ofNat (digitsInts.getD k.toNat 0).toNat = digitAt k := by
  have := digit_lookup ⟨k.toNat, by omega⟩
  have e : ((k.toNat : Nat) : Int) = k := by omega
  simp only [e] at this
  exact this

/-- how the pieces of `to_str` are put together (identifiers: i 0, charPos 1, radix 3, the byte just stored 4):
    while the condition holds, run the body (which stores a digit), cons that digit, run the post statement;
    then run the after-loop block and cons its digit.  `fuel` bounds the number of iterations. -/
def goToStrLoop (A : Arrays) (cond : Cond) (body post after : List Stmt) : Nat → Env → List Char → List Char
  | 0, _, acc => acc
  | n + 1, ρ, acc =>
    bif evalC ρ A cond then
      let ρ1 := runEnv A ρ body
      goToStrLoop A cond body post after n (runEnv A ρ1 post) (Char.ofNat (ρ1 4).toNat :: acc)
    else Char.ofNat ((runEnv A ρ after) 4).toNat :: acc

theorem toStr_cond_bridge (ρ : Env) (i : Int) (h0 : ρ 0 = i) (h2 : ρ 3 = 32) :
    evalC ρ hexaArrs GoModel.loop_to_str.cond = leb i (-32) := by
  simp only [GoModel.loop_to_str.cond, evalC, eval, h0, h2, go_arith]
  rfl

theorem toStr_body_bridge (ρ : Env) (i : Int) (h0 : ρ 0 = i) (h2 : ρ 3 = 32) (hi : i ≤ 0) (hlo : minInt64 < i) :
    runEnv hexaArrs ρ GoModel.loop_to_str.body 4 = digitsInts.getD (-(i.tmod 32)).toNat 0
    ∧ runEnv hexaArrs ρ GoModel.loop_to_str.body 0 = i ∧ runEnv hexaArrs ρ GoModel.loop_to_str.body 3 = 32 := by
  have hm := tmod_nonpos i 32 hi
  unfold minInt64 at hlo
  simp only [GoModel.loop_to_str.body, go_run, h0, h2, go_arith, hexaArrs, if_true, Nat.reduceEqDiff, if_false]
  refine ⟨?_, trivial, trivial⟩
  rw [hm]
  apply congrArg (fun k => digitsInts.getD k 0)
  omega

theorem toStr_post_bridge (ρ : Env) (i : Int) (h0 : ρ 0 = i) (h2 : ρ 3 = 32) (hi : i ≤ 0) (hlo : minInt64 < i) :
    runEnv hexaArrs ρ GoModel.loop_to_str.post 0 = i.tdiv 32 ∧ runEnv hexaArrs ρ GoModel.loop_to_str.post 3 = 32 := by
  have hd := tdiv_nonpos i 32 hi
  unfold minInt64 at hlo
  simp only [GoModel.loop_to_str.post, go_run, h0, h2, go_arith, if_true, Nat.reduceEqDiff, if_false]
  refine ⟨?_, trivial⟩
  rw [hd]; omega

theorem toStr_after_bridge (ρ : Env) (i : Int) (h0 : ρ 0 = i) (hi : i ≤ 0) (hlo : minInt64 < i) :
    runEnv hexaArrs ρ GoModel.loop_to_str.after 4 = digitsInts.getD (-i).toNat 0 := by
  unfold minInt64 at hlo
  simp only [GoModel.loop_to_str.after, go_run, h0, go_arith, hexaArrs, if_true, Nat.reduceEqDiff, if_false]
  apply congrArg (fun k => digitsInts.getD k 0)
  omega

/-- **the digit loop of `to_str` as transcribed = `Hexa32.toStrLoop`**, for every `i ≤ 0` above MinInt64 -/
theorem toStr_loop_bridge (cond : Cond) (body post after : List Stmt)
    (hcond : normC cond = normC GoModel.loop_to_str.cond)
    (hbody : sameVars [4, 0, 3] body GoModel.loop_to_str.body = true)
    (hpost : sameVars [0, 3] post GoModel.loop_to_str.post = true)
    (hafter : sameVars [4] after GoModel.loop_to_str.after = true) :
    ∀ (n : Nat) (i : Int) (ρ : Env) (acc : List Char), i.natAbs ≤ n → i ≤ 0 → minInt64 < i → ρ 0 = i → ρ 3 = 32 →
      goToStrLoop hexaArrs cond body post after (n + 1) ρ acc = toStrLoop i acc := by
  have hC := evalC_tie hcond hexaArrs
  intro n
  induction n with
  | zero =>
    intro i ρ acc hn hi hlo h0 h2
    have : i = 0 := by omega
    subst this
    rw [goToStrLoop, hC, toStr_cond_bridge ρ 0 h0 h2]
    have : leb 0 (-32) = false := by decide
    rw [this, cond_false, sameVars_eq hafter hexaArrs ρ 4 (by simp), toStr_after_bridge ρ 0 h0 (by omega) hlo, toStrLoop]
    simp only [show ¬ ((0 : Int) ≤ -32) by decide, dite_false]
    rw [digit_lookup' _ (by omega) (by omega)]
  | succ n ih =>
    intro i ρ acc hn hi hlo h0 h2
    rw [goToStrLoop, hC, toStr_cond_bridge ρ i h0 h2, toStrLoop]
    by_cases h : i ≤ -32
    · rw [(leb_iff _ _).mpr h, cond_true]
      simp only [h, dite_true]
      have ⟨b3, b0, b2⟩ := toStr_body_bridge ρ i h0 h2 hi hlo
      have c3 := sameVars_eq hbody hexaArrs ρ 4 (by simp)
      have c0 := sameVars_eq hbody hexaArrs ρ 0 (by simp)
      have c2 := sameVars_eq hbody hexaArrs ρ 3 (by simp)
      have ⟨p0, p2⟩ := toStr_post_bridge (runEnv hexaArrs ρ body) i (by rw [c0]; exact b0) (by rw [c2]; exact b2) hi hlo
      have hd := tdiv_nonpos i 32 hi
      have hm := tmod_nonpos i 32 hi
      rw [c3, b3, digit_lookup' _ (by rw [hm]; omega) (by rw [hm]; omega)]
      exact ih (i.tdiv 32) _ _ (by rw [hd]; omega) (by rw [hd]; omega) (by rw [hd]; unfold minInt64 at *; omega)
        (by rw [sameVars_eq hpost hexaArrs _ 0 (by simp)]; exact p0)
        (by rw [sameVars_eq hpost hexaArrs _ 3 (by simp)]; exact p2)
    · rw [(leb_false _ _).mpr h, cond_false]
      simp only [h, dite_false]
      rw [sameVars_eq hafter hexaArrs ρ 4 (by simp), toStr_after_bridge ρ i h0 hi hlo, digit_lookup' _ (by omega) (by omega)]

/-- **`to_str(v)` as transcribed = `Hexa32.toStr v`** for every `0 ≤ v ≤ MaxInt64`: prelude (`radix := 32`),
    `i = -i`, the digit loop, the last digit -/
theorem toStr_fn_bridge (cond : Cond) (pre init body post after : List Stmt)
    (hpre : sameVars [0, 3] pre GoModel.loop_to_str.pre = true)
    (hinit : sameVars [0, 3] init GoModel.loop_to_str.init = true)
    (hcond : normC cond = normC GoModel.loop_to_str.cond)
    (hbody : sameVars [4, 0, 3] body GoModel.loop_to_str.body = true)
    (hpost : sameVars [0, 3] post GoModel.loop_to_str.post = true)
    (hafter : sameVars [4] after GoModel.loop_to_str.after = true)
    (v : Int) (hv : 0 ≤ v ∧ v ≤ maxInt64) (ρ : Env) (h0 : ρ 0 = v) (fuel : Nat) (hf : v.natAbs ≤ fuel) :
    goToStrLoop hexaArrs cond body post after (fuel + 1) (runEnv hexaArrs (runEnv hexaArrs ρ pre) init) []
      = toStr v := by
  unfold maxInt64 at hv
  have q0 : runEnv hexaArrs ρ pre 0 = v := by
    rw [sameVars_eq hpre hexaArrs ρ 0 (by simp)]
    simp only [GoModel.loop_to_str.pre, runEnv, upd, Nat.reduceEqDiff, if_false]; exact h0
  have q2 : runEnv hexaArrs ρ pre 3 = 32 := by
    rw [sameVars_eq hpre hexaArrs ρ 3 (by simp)]
    simp only [GoModel.loop_to_str.pre, go_run, if_true, Nat.reduceEqDiff, if_false]
  have e0 : runEnv hexaArrs (runEnv hexaArrs ρ pre) init 0 = -v := by
    rw [sameVars_eq hinit hexaArrs _ 0 (by simp)]
    simp only [GoModel.loop_to_str.init, go_run, q0, go_arith, if_true]
    omega
  have e2 : runEnv hexaArrs (runEnv hexaArrs ρ pre) init 3 = 32 := by
    rw [sameVars_eq hinit hexaArrs _ 3 (by simp)]
    simp only [GoModel.loop_to_str.init, runEnv, upd, Nat.reduceEqDiff, if_false]; exact q2
  unfold toStr
  exact toStr_loop_bridge cond body post after hcond hbody hpost hafter fuel (-v) _ [] (by omega) (by omega)
    (by unfold minInt64; omega) e0 e2

end GoBridge
