/-
  Golib.Hash.Murmur — CodeModel of util/hll/MurmurHash.go and the reference algorithms.

  CodeModel (`murmur32`, `murmurLong`, `murmur64`): line-by-line transcription of the Go code on
  `Nat` bit patterns (`uint32` arithmetic is `% 2^32`, `uint64` arithmetic `% 2^64`, `|`,`&`,`^`,`<<`,`>>`
  are the `Nat` bit operations).

  Spec (`Ref.murmurHash2`, `Ref.murmurHash64A`): Austin Appleby's published MurmurHash2 (32 bit) and
  MurmurHash64A written arithmetically: little-endian block loads as sums, the tail `switch`
  statements with `data[0]` the *first* byte after the last whole block.

  (core Lean only; imported by the driver)
-/
import Golib.Basic

namespace Murmur

def m32 : Nat := 0x5bd1e995
def m64 : Nat := 0xc6a4a7935bd1e995
def defaultSeed : Nat := 0xe17a1465

@[inline] def mul32 (a b : Nat) : Nat := (a * b) % 4294967296
@[inline] def mul64 (a b : Nat) : Nat := (a * b) % 18446744073709551616
@[inline] def shl32 (a s : Nat) : Nat := (a <<< s) % 4294967296
@[inline] def shl64 (a s : Nat) : Nat := (a <<< s) % 18446744073709551616

/-- walk whole 4-byte blocks with a step function; returns the state and the unread tail -/
def walk4 (step : Nat → Nat → Nat → Nat → Nat → Nat) : Bytes → Nat → Nat × Bytes
  | d0 :: d1 :: d2 :: d3 :: rest, h => walk4 step rest (step h d0 d1 d2 d3)
  | tail, h => (h, tail)

/-- walk whole 8-byte blocks with a step function -/
def walk8 (step : Nat → Nat → Nat → Nat → Nat → Nat → Nat → Nat → Nat → Nat) : Bytes → Nat → Nat × Bytes
  | d0 :: d1 :: d2 :: d3 :: d4 :: d5 :: d6 :: d7 :: rest, h => walk8 step rest (step h d0 d1 d2 d3 d4 d5 d6 d7)
  | tail, h => (h, tail)

/-! ### CodeModel: `murmurHash(data, int32(len(data)), seed)` -/

/-- the block word as the Go loop assembles it: `k := uint32(d3); k = k<<8; k = k | uint32(d2)&0xff; …` -/
def loadK (d0 d1 d2 d3 : Nat) : Nat :=
  let k := d3
  let k := shl32 k 8
  let k := k ||| (d2 &&& 0xff)
  let k := shl32 k 8
  let k := k ||| (d1 &&& 0xff)
  let k := shl32 k 8
  k ||| (d0 &&& 0xff)

/-- `k *= m; k ^= k >> r; k *= m` (r = 24) -/
def mixK32 (k : Nat) : Nat :=
  let k := mul32 k m32
  let k := k ^^^ (k >>> 24)
  mul32 k m32

/-- body of the `for i < len_4` loop: `… k *= m; h *= m; h ^= k` -/
def step32 (h d0 d1 d2 d3 : Nat) : Nat := (mul32 h m32) ^^^ mixK32 (loadK d0 d1 d2 d3)

/-- the `for i < len_4` loop; returns the state and the unread tail (`left` bytes) -/
def blocks32 : Bytes → Nat → Nat × Bytes := walk4 step32

/-- the tail as the Go code reads it: `data[length-3] << 16`, `data[length-2] << 8`, `data[length-1]` —
    counted from the *end*, so the first tail byte gets the highest shift -/
def tail32 (t : Bytes) (h : Nat) : Nat :=
  match t with
  | [x] => mul32 (h ^^^ x) m32
  | [x, y] => mul32 ((h ^^^ shl32 x 8) ^^^ y) m32
  | [x, y, z] => mul32 (((h ^^^ shl32 x 16) ^^^ shl32 y 8) ^^^ z) m32
  | _ => h

/-- `h ^= h >> 13; h *= m; h ^= h >> 15` -/
def fin32 (h : Nat) : Nat :=
  let h := h ^^^ (h >>> 13)
  let h := mul32 h m32
  h ^^^ (h >>> 15)

/-- `MurmurHashByteSeed(data, seed)` -/
def murmur32 (data : Bytes) (seed : Nat) : Nat :=
  let h := seed ^^^ (data.length % 4294967296)
  let (h, t) := blocks32 data h
  fin32 (tail32 t h)

/-- `MurmurHashByte(data)` -/
def murmurByte (data : Bytes) : Nat := murmur32 data defaultSeed

/-- `MurmurHashLong(data uint64) uint32` -/
def murmurLong (data : Nat) : Nat :=
  let h := 0
  let k := (mul64 data m32) % 4294967296
  let k := k ^^^ (k >>> 24)
  let h := h ^^^ mul32 k m32
  let k := (mul64 (data >>> 32) m32) % 4294967296
  let k := k ^^^ (k >>> 24)
  let h := mul32 h m32
  let h := h ^^^ mul32 k m32
  fin32 h

/-- `MurmurHash(o uint32) uint32 { return MurmurHashLong(uint64(o)) }` -/
def murmurU32 (o : Nat) : Nat := murmurLong (o % 4294967296)

/-! ### CodeModel: `murmurHashLong(data, int32(len(data)), seed)` -/

/-- `(uint64(d0)&0xff) + ((uint64(d1)&0xff)<<8) + … + ((uint64(d7)&0xff)<<56)` -/
def loadK64 (d0 d1 d2 d3 d4 d5 d6 d7 : Nat) : Nat :=
  ((d0 &&& 0xff) + shl64 (d1 &&& 0xff) 8 + shl64 (d2 &&& 0xff) 16 + shl64 (d3 &&& 0xff) 24
   + shl64 (d4 &&& 0xff) 32 + shl64 (d5 &&& 0xff) 40 + shl64 (d6 &&& 0xff) 48 + shl64 (d7 &&& 0xff) 56)
  % 18446744073709551616

/-- `k *= m; k ^= k >> r; k *= m` (r = 47) -/
def mixK64 (k : Nat) : Nat :=
  let k := mul64 k m64
  let k := k ^^^ (k >>> 47)
  mul64 k m64

/-- body of the `for i < length8` loop: `… h ^= k; h *= m` -/
def step64 (h d0 d1 d2 d3 d4 d5 d6 d7 : Nat) : Nat := mul64 (h ^^^ mixK64 (loadK64 d0 d1 d2 d3 d4 d5 d6 d7)) m64

def blocks64 : Bytes → Nat → Nat × Bytes := walk8 step64

/-- the `switch length % 8` with fall-through; `t` is `data[length&^7:]` -/
def tail64 (t : Bytes) (h : Nat) : Nat :=
  match t with
  | [a] => mul64 (h ^^^ (a &&& 0xff)) m64
  | [a, b] => mul64 ((h ^^^ shl64 (b &&& 0xff) 8) ^^^ (a &&& 0xff)) m64
  | [a, b, c] => mul64 (((h ^^^ shl64 (c &&& 0xff) 16) ^^^ shl64 (b &&& 0xff) 8) ^^^ (a &&& 0xff)) m64
  | [a, b, c, d] =>
    mul64 ((((h ^^^ shl64 (d &&& 0xff) 24) ^^^ shl64 (c &&& 0xff) 16) ^^^ shl64 (b &&& 0xff) 8) ^^^ (a &&& 0xff)) m64
  | [a, b, c, d, e] =>
    mul64 (((((h ^^^ shl64 (e &&& 0xff) 32) ^^^ shl64 (d &&& 0xff) 24) ^^^ shl64 (c &&& 0xff) 16)
            ^^^ shl64 (b &&& 0xff) 8) ^^^ (a &&& 0xff)) m64
  | [a, b, c, d, e, f] =>
    mul64 ((((((h ^^^ shl64 (f &&& 0xff) 40) ^^^ shl64 (e &&& 0xff) 32) ^^^ shl64 (d &&& 0xff) 24)
             ^^^ shl64 (c &&& 0xff) 16) ^^^ shl64 (b &&& 0xff) 8) ^^^ (a &&& 0xff)) m64
  | [a, b, c, d, e, f, g] =>
    mul64 (((((((h ^^^ shl64 (g &&& 0xff) 48) ^^^ shl64 (f &&& 0xff) 40) ^^^ shl64 (e &&& 0xff) 32)
              ^^^ shl64 (d &&& 0xff) 24) ^^^ shl64 (c &&& 0xff) 16) ^^^ shl64 (b &&& 0xff) 8) ^^^ (a &&& 0xff)) m64
  | _ => h

/-- `h ^= h >> r; h *= m; h ^= h >> r` -/
def fin64 (h : Nat) : Nat :=
  let h := h ^^^ (h >>> 47)
  let h := mul64 h m64
  h ^^^ (h >>> 47)

/-- `murmurHashLong(data, int32(len(data)), seed)` -/
def murmur64 (data : Bytes) (seed : Nat) : Nat :=
  let h := (seed &&& 0xffffffff) ^^^ mul64 (data.length % 18446744073709551616) m64
  let (h, t) := blocks64 data h
  fin64 (tail64 t h)

/-- `MurmurHashLongByte(data, length)` with `0 ≤ length ≤ len(data)`: only `data[:length]` is read -/
def murmurLongByte (data : Bytes) (length : Nat) : Nat := murmur64 (data.take length) defaultSeed

/-! ### Spec: the published algorithms -/

namespace Ref

/-- little-endian 32-bit load -/
def le32 (d0 d1 d2 d3 : Nat) : Nat := d0 + 256 * d1 + 65536 * d2 + 16777216 * d3

def le64 (d0 d1 d2 d3 d4 d5 d6 d7 : Nat) : Nat :=
  d0 + 256 * d1 + 65536 * d2 + 16777216 * d3 + 4294967296 * d4 + 1099511627776 * d5
  + 281474976710656 * d6 + 72057594037927936 * d7

/-- the tail `switch` of MurmurHash2: `case 3: h ^= data[2] << 16; case 2: h ^= data[1] << 8;
    case 1: h ^= data[0]; h *= m;` — `data[0]` is the *first* byte after the last whole block -/
def tail2 (t : Bytes) (h : Nat) : Nat :=
  match t with
  | [a] => ((h ^^^ a) * m32) % 4294967296
  | [a, b] => (((h ^^^ b * 256) ^^^ a) * m32) % 4294967296
  | [a, b, c] => ((((h ^^^ c * 65536) ^^^ b * 256) ^^^ a) * m32) % 4294967296
  | _ => h

/-- the tail `switch` of MurmurHash64A: `case 7: h ^= uint64(data2[6]) << 48; … case 1: h ^= uint64(data2[0]); h *= m;` -/
def tail64A (t : Bytes) (h : Nat) : Nat :=
  match t with
  | [a] => ((h ^^^ a) * m64) % 18446744073709551616
  | [a, b] => (((h ^^^ b * 256) ^^^ a) * m64) % 18446744073709551616
  | [a, b, c] => ((((h ^^^ c * 65536) ^^^ b * 256) ^^^ a) * m64) % 18446744073709551616
  | [a, b, c, d] => (((((h ^^^ d * 16777216) ^^^ c * 65536) ^^^ b * 256) ^^^ a) * m64) % 18446744073709551616
  | [a, b, c, d, e] =>
    ((((((h ^^^ e * 4294967296) ^^^ d * 16777216) ^^^ c * 65536) ^^^ b * 256) ^^^ a) * m64) % 18446744073709551616
  | [a, b, c, d, e, f] =>
    (((((((h ^^^ f * 1099511627776) ^^^ e * 4294967296) ^^^ d * 16777216) ^^^ c * 65536) ^^^ b * 256) ^^^ a) * m64)
      % 18446744073709551616
  | [a, b, c, d, e, f, g] =>
    ((((((((h ^^^ g * 281474976710656) ^^^ f * 1099511627776) ^^^ e * 4294967296) ^^^ d * 16777216) ^^^ c * 65536)
        ^^^ b * 256) ^^^ a) * m64) % 18446744073709551616
  | _ => h

/-- MurmurHash2 loop body: `k = *(uint32*)data; k *= m; k ^= k >> 24; k *= m; h *= m; h ^= k;` -/
def step2 (h d0 d1 d2 d3 : Nat) : Nat :=
  let k := le32 d0 d1 d2 d3
  let k := (k * m32) % 4294967296
  let k := k ^^^ (k / 16777216)
  let k := (k * m32) % 4294967296
  ((h * m32) % 4294967296) ^^^ k

/-- MurmurHash2 main loop `while (len >= 4) { …; data += 4; len -= 4; }` -/
def loop2 : Bytes → Nat → Nat × Bytes := walk4 step2

/-- MurmurHash2, 32 bit (Appleby): `switch(len){case 3: h ^= data[2]<<16; case 2: h ^= data[1]<<8;
    case 1: h ^= data[0]; h *= m;}` then the avalanche `h ^= h>>13; h *= m; h ^= h>>15`. -/
def murmurHash2 (data : Bytes) (seed : Nat) : Nat :=
  let h := seed ^^^ (data.length % 4294967296)
  let (h, t) := loop2 data h
  let h := tail2 t h
  let h := h ^^^ (h / 8192)
  let h := (h * m32) % 4294967296
  h ^^^ (h / 32768)

/-- MurmurHash64A loop body: `k = *data++; k *= m; k ^= k >> 47; k *= m; h ^= k; h *= m;` -/
def step64A (h d0 d1 d2 d3 d4 d5 d6 d7 : Nat) : Nat :=
  let k := le64 d0 d1 d2 d3 d4 d5 d6 d7
  let k := (k * m64) % 18446744073709551616
  let k := k ^^^ (k / 140737488355328)
  let k := (k * m64) % 18446744073709551616
  ((h ^^^ k) * m64) % 18446744073709551616

def loop64A : Bytes → Nat → Nat × Bytes := walk8 step64A

/-- MurmurHash64A (Appleby), seed taken as an unsigned 32-bit value as in the Java/Go ports -/
def murmurHash64A (data : Bytes) (seed : Nat) : Nat :=
  let h := (seed % 4294967296) ^^^ ((data.length * m64) % 18446744073709551616)
  let (h, t) := loop64A data h
  let h := tail64A t h
  let h := h ^^^ (h / 140737488355328)
  let h := (h * m64) % 18446744073709551616
  h ^^^ (h / 140737488355328)

/-- the eight little-endian bytes of a 64-bit value -/
def bytes8 (d : Nat) : Bytes :=
  [d % 256, d / 256 % 256, d / 65536 % 256, d / 16777216 % 256, d / 4294967296 % 256,
   d / 1099511627776 % 256, d / 281474976710656 % 256, d / 72057594037927936 % 256]

def sext8 (b : Nat) : Nat := if b < 128 then b else b + 4294967040

/-- the tail as the stream-lib *Java* port reads it (`(int) data[length-3] << 16` on signed bytes):
    counted from the end like the Go code, and each byte sign-extended to 32 bits -/
def javaTail32 (t : Bytes) (h : Nat) : Nat :=
  match t with
  | [x] => (((h ^^^ sext8 x)) * m32) % 4294967296
  | [x, y] => (((h ^^^ ((sext8 x * 256) % 4294967296)) ^^^ sext8 y) * m32) % 4294967296
  | [x, y, z] =>
    ((((h ^^^ ((sext8 x * 65536) % 4294967296)) ^^^ ((sext8 y * 256) % 4294967296)) ^^^ sext8 z) * m32) % 4294967296
  | _ => h

/-- com.clearspring.analytics.hash.MurmurHash.hash(byte[], int, int) as published in stream-lib -/
def javaMurmur32 (data : Bytes) (seed : Nat) : Nat :=
  let h := seed ^^^ (data.length % 4294967296)
  let (h, t) := loop2 data h
  let h := javaTail32 t h
  let h := h ^^^ (h / 8192)
  let h := (h * m32) % 4294967296
  h ^^^ (h / 32768)

end Ref

/-- the input on which the Go tail handling coincides with the published algorithm:
    the last `len % 4` bytes reversed -/
def swapTail (data : Bytes) : Bytes :=
  let n := data.length / 4 * 4
  data.take n ++ (data.drop n).reverse

end Murmur
