/-
  Golib.Hash.GoSemProofs — soundness of the normaliser of `GoSem`:
  inlining and operand sorting do not change what a block computes, for every environment.
  Then the rule of the loop (`whileLoop_inv`, `callWhile_inv`) and the frame of a block for the variables it does
  not assign (`runEnv_frame`).  Before them the facts about `norm` and `pat` that hold at every type
  (`norm_of_inRange`, `norm_emod`, `norm_inRange`, `pat_lt`, `pat_norm`, `pat_norm_self`).
-/
import Golib.Hash.GoSem
import Golib.Hash.GoSimp

namespace GoSem

attribute [go_run] call bindArgs runEnv runRet step eval evalC upd
attribute [go_arith] evalOp bitsOp pat norm Ty.half Ty.modulus

/-- the environment a substitution denotes over the initial environment -/
def envOf (σ : List (Nat × Expr)) (ρ : Env) (A : Arrays) : Env :=
  fun n => match lookupE σ n with
    | some e => eval ρ A e
    | none => ρ n

theorem eval_subst (σ : List (Nat × Expr)) (ρ : Env) (A : Arrays) (e : Expr) :
    eval ρ A (subst σ e) = eval (envOf σ ρ A) A e := by
  induction e with
  | var n =>
    simp only [subst, eval, envOf]
    cases lookupE σ n <;> simp [eval]
  | lit v => rfl
  | conv t e ih => simp only [subst, eval, ih]
  | bin op t a b iha ihb => simp only [subst, eval, iha, ihb]
  | neg t e ih => simp only [subst, eval, ih]
  | not t e ih => simp only [subst, eval, ih]
  | idx a e ih => simp only [subst, eval, ih]
  | len a => rfl
  | unknown w => rfl

theorem envOf_nil (ρ : Env) (A : Arrays) : envOf [] ρ A = ρ := by
  funext n; simp [envOf, lookupE]

theorem envOf_cons (σ : List (Nat × Expr)) (ρ : Env) (A : Arrays) (n : Nat) (e : Expr) :
    envOf ((n, subst σ e) :: σ) ρ A = upd (envOf σ ρ A) n (eval (envOf σ ρ A) A e) := by
  funext m
  simp only [envOf, lookupE, upd]
  by_cases h : n = m
  · subst h; simp [eval_subst]
  · have h' : ¬ m = n := fun e => h e.symm
    simp [h, h']

theorem inlineRet_sound (A : Arrays) (ρ : Env) (body : List Stmt) (σ : List (Nat × Expr)) (e : Expr)
    (h : inlineRet σ body = some e) : runRet A (envOf σ ρ A) body = some (eval ρ A e) := by
  fun_induction inlineRet σ body with
  | case1 σ n x rest ih =>
    have := ih h
    rw [envOf_cons] at this
    simpa [runRet, runEnv] using this
  | case2 σ x rest => cases h; simp [runRet, eval_subst]
  | case3 => cases h

theorem inlineVar_sound (A : Arrays) (ρ : Env) (out : Nat) (body : List Stmt) (σ : List (Nat × Expr)) (e : Expr)
    (h : inlineVar out σ body = some e) : runEnv A (envOf σ ρ A) body out = eval ρ A e := by
  fun_induction inlineVar out σ body with
  | case1 σ => cases h; simp [runEnv, eval_subst, eval]
  | case2 σ n x rest ih =>
    have := ih h
    rw [envOf_cons] at this
    simpa [runRet, runEnv] using this
  | case3 => cases h

theorem pat_lt (t : Ty) (v : Int) : pat t v < 2 ^ t.bits := by
  cases t <;> simp only [pat, Ty.modulus, Ty.bits, Nat.reducePow] <;> omega

/-- reading back the pattern of a wrapped natural below `2^bits` gives that natural -/
theorem pat_norm (t : Ty) (n : Nat) (h : n < 2 ^ t.bits) : pat t (norm t (n : Int)) = n := by
  cases t <;> simp only [go_arith, Ty.bits, Nat.reducePow] at * <;> omega

/-! ### values of a type: only `0 < modulus` and `0 ≤ 2·half ≤ modulus` are used -/

theorem modulus_pos (t : Ty) : 0 < t.modulus := by cases t <;> decide
theorem half_bounds (t : Ty) : 0 ≤ t.half ∧ 2 * t.half ≤ t.modulus := by cases t <;> decide

theorem norm_of_inRange {t : Ty} {v : Int} (h : inRange t v) : norm t v = v := by
  unfold inRange at h
  unfold norm
  rw [Int.emod_eq_of_lt (by omega) (by omega)]; omega

theorem norm_emod (t : Ty) (v : Int) : norm t (v % t.modulus) = norm t v := by
  unfold norm; rw [Int.emod_add_emod]

theorem norm_inRange (t : Ty) (v : Int) : inRange t (norm t v) := by
  have hb := half_bounds t
  have h0 := Int.emod_nonneg (v + t.half) (Int.ne_of_gt (modulus_pos t))
  have h1 := Int.emod_lt_of_pos (v + t.half) (modulus_pos t)
  unfold inRange norm; omega

theorem pat_norm_self (t : Ty) (v : Int) : pat t (norm t v) = pat t v := by
  unfold pat norm
  rw [Int.sub_emod, Int.emod_emod_of_dvd _ (Int.dvd_refl _), ← Int.sub_emod, Int.add_sub_cancel]

theorem evalOp_comm (op : Op) (t : Ty) (a b : Int) (h : op.isAC = true ∨ op.isComm = true) :
    evalOp op t a b = evalOp op t b a := by
  cases op <;> simp [Op.isAC, Op.isComm] at h <;> simp only [evalOp, bitsOp]
  · rw [Nat.and_comm]
  · rw [Nat.or_comm]
  · rw [Nat.xor_comm]
  · rw [Int.add_comm]
  · rw [Int.mul_comm]

theorem evalOp_assoc (op : Op) (t : Ty) (a b c : Int) (h : op.isAC = true) :
    evalOp op t (evalOp op t a b) c = evalOp op t a (evalOp op t b c) := by
  have ha := pat_lt t a
  have hb := pat_lt t b
  have hc := pat_lt t c
  cases op <;> simp [Op.isAC] at h <;> simp only [evalOp, bitsOp]
  · rw [pat_norm t _ (Nat.and_lt_two_pow _ hb), pat_norm t _ (Nat.and_lt_two_pow _ hc), Nat.and_assoc]
  · rw [pat_norm t _ (Nat.or_lt_two_pow ha hb), pat_norm t _ (Nat.or_lt_two_pow hb hc), Nat.or_assoc]
  · rw [pat_norm t _ (Nat.xor_lt_two_pow ha hb), pat_norm t _ (Nat.xor_lt_two_pow hb hc), Nat.xor_assoc]

/-- value of a right-nested chain -/
def evalR (g : Int → Int → Int) : List Int → Int
  | [] => 0
  | [x] => x
  | x :: y :: ys => g x (evalR g (y :: ys))

theorem eval_rebuild (ρ : Env) (A : Arrays) (op : Op) (t : Ty) (xs : List Expr) :
    eval ρ A (rebuild op t xs) = evalR (evalOp op t) (xs.map (eval ρ A)) := by
  fun_induction rebuild op t xs with
  | case1 => rfl
  | case2 => rfl
  | case3 x y ys ih => simp only [eval, List.map_cons, evalR] at *; rw [ih]

theorem evalR_cons (g : Int → Int → Int) (x : Int) (xs : List Int) (h : xs ≠ []) :
    evalR g (x :: xs) = g x (evalR g xs) := by
  cases xs with
  | nil => exact absurd rfl h
  | cons y ys => rfl

theorem evalR_append (g : Int → Int → Int) (assoc : ∀ a b c, g (g a b) c = g a (g b c))
    (xs ys : List Int) (hx : xs ≠ []) (hy : ys ≠ []) : evalR g (xs ++ ys) = g (evalR g xs) (evalR g ys) := by
  induction xs with
  | nil => exact absurd rfl hx
  | cons x xs ih =>
    cases xs with
    | nil => simp only [List.cons_append, List.nil_append]; rw [evalR_cons g x ys hy]; rfl
    | cons y ys' =>
      have := ih (by simp)
      rw [List.cons_append, evalR_cons g x _ (by simp), this, evalR_cons g x _ (by simp), assoc]

theorem evalR_perm (g : Int → Int → Int) (assoc : ∀ a b c, g (g a b) c = g a (g b c))
    (comm : ∀ a b, g a b = g b a) {xs ys : List Int} (h : xs.Perm ys) : evalR g xs = evalR g ys := by
  induction h with
  | nil => rfl
  | cons x hp ih =>
    rename_i l1 l2
    cases l1 with
    | nil => have := hp.symm.eq_nil; subst this; rfl
    | cons a l1 =>
      have : l2 ≠ [] := by intro e; subst e; exact absurd hp.eq_nil (by simp)
      rw [evalR_cons g x _ (by simp), evalR_cons g x _ this, ih]
  | swap x y l =>
    cases l with
    | nil => exact comm y x
    | cons a l =>
      rw [evalR_cons g y _ (by simp), evalR_cons g x _ (by simp), evalR_cons g x _ (by simp),
          evalR_cons g y _ (by simp), ← assoc, comm y x, assoc]
  | trans _ _ ih1 ih2 => rw [ih1, ih2]

theorem flatten_ne_nil (op : Op) (t : Ty) (e : Expr) : flatten op t e ≠ [] := by
  fun_induction flatten op t e with
  | case1 op' t' a b _ iha _ => simp [iha]
  | case2 => simp
  | case3 => simp

theorem flatten_sound (ρ : Env) (A : Arrays) (op : Op) (t : Ty) (h : op.isAC = true) (e : Expr) :
    evalR (evalOp op t) ((flatten op t e).map (eval ρ A)) = eval ρ A e := by
  fun_induction flatten op t e with
  | case1 op' t' a b hc iha ihb =>
    obtain ⟨rfl, rfl⟩ := hc
    rw [List.map_append, evalR_append _ (fun a b c => evalOp_assoc op' t' a b c h) _ _
      (by simpa using flatten_ne_nil op' t' a) (by simpa using flatten_ne_nil op' t' b), iha, ihb]
    rfl
  | case2 => rfl
  | case3 => rfl

theorem insertE_perm (x : Expr) (l : List Expr) : (insertE x l).Perm (x :: l) := by
  fun_induction insertE x l with
  | case1 => exact List.Perm.refl _
  | case2 => exact List.Perm.refl _
  | case3 y ys _ ih => exact (List.Perm.cons y ih).trans (List.Perm.swap x y ys)

theorem sortE_perm (l : List Expr) : (sortE l).Perm l := by
  induction l with
  | nil => exact List.Perm.refl _
  | cons x xs ih => exact (insertE_perm x (sortE xs)).trans (List.Perm.cons x ih)

theorem normE_sound (ρ : Env) (A : Arrays) (e : Expr) : eval ρ A (normE e) = eval ρ A e := by
  induction e with
  | bin op t a b iha ihb =>
    simp only [normE]
    split
    · rename_i hac
      rw [eval_rebuild]
      have hp : (sortE (flatten op t (normE a) ++ flatten op t (normE b))).Perm
          (flatten op t (normE a) ++ flatten op t (normE b)) := sortE_perm _
      rw [evalR_perm _ (fun a b c => evalOp_assoc op t a b c hac) (fun a b => evalOp_comm op t a b (Or.inl hac))
        (hp.map (eval ρ A)), List.map_append,
        evalR_append _ (fun a b c => evalOp_assoc op t a b c hac) _ _
          (by simpa using flatten_ne_nil op t (normE a)) (by simpa using flatten_ne_nil op t (normE b)),
        flatten_sound ρ A op t hac, flatten_sound ρ A op t hac, iha, ihb]
      rfl
    · split
      · rename_i hc
        split
        · simp only [eval, iha, ihb]
        · simp only [eval, iha, ihb]; exact evalOp_comm op t _ _ (Or.inr hc)
      · simp only [eval, iha, ihb]
  | conv t e ih => simp only [normE, eval, ih]
  | neg t e ih => simp only [normE, eval, ih]
  | not t e ih => simp only [normE, eval, ih]
  | idx a e ih => simp only [normE, eval, ih]
  | var n => rfl
  | lit v => rfl
  | len a => rfl
  | unknown w => rfl

/-- two blocks with the same canonical return expression return the same value on every input -/
theorem canonRet_eq {b1 b2 : List Stmt} (h : canonRet b1 = canonRet b2) (hs : (canonRet b2).isSome)
    (A : Arrays) (ρ : Env) : runRet A ρ b1 = runRet A ρ b2 := by
  unfold canonRet at *
  cases h1 : inlineRet [] b1 with
  | none => rw [h1] at h; cases h2 : inlineRet [] b2 <;> simp [h2] at hs h
  | some e1 =>
    cases h2 : inlineRet [] b2 with
    | none => simp [h2] at hs
    | some e2 =>
      rw [h1, h2] at h
      simp only [Option.map_some, Option.some.injEq] at h
      have r1 := inlineRet_sound A ρ b1 [] e1 h1
      have r2 := inlineRet_sound A ρ b2 [] e2 h2
      rw [envOf_nil] at r1 r2
      rw [r1, r2, ← normE_sound ρ A e1, ← normE_sound ρ A e2, h]

/-- two blocks with the same canonical expression for `out` leave the same value in `out` -/
theorem canonVar_eq {b1 b2 : List Stmt} {o1 o2 : Nat} (h : canonVar o1 b1 = canonVar o2 b2)
    (hs : (canonVar o2 b2).isSome) (A : Arrays) (ρ : Env) : step A ρ b1 o1 = step A ρ b2 o2 := by
  unfold canonVar at *
  unfold step
  cases h1 : inlineVar o1 [] b1 with
  | none => rw [h1] at h; cases h2 : inlineVar o2 [] b2 <;> simp [h2] at hs h
  | some e1 =>
    cases h2 : inlineVar o2 [] b2 with
    | none => simp [h2] at hs
    | some e2 =>
      rw [h1, h2] at h
      simp only [Option.map_some, Option.some.injEq] at h
      have r1 := inlineVar_sound A ρ o1 b1 [] e1 h1
      have r2 := inlineVar_sound A ρ o2 b2 [] e2 h2
      rw [envOf_nil] at r1 r2
      rw [r1, r2, ← normE_sound ρ A e1, ← normE_sound ρ A e2, h]

theorem call_congr {f g : Fn} (h : canonFn f = canonFn g) (hs : (canonRet g.body).isSome) (A : Arrays)
    (args : List Int) : call A f args = call A g args := by
  unfold canonFn at h
  simp only [Prod.mk.injEq] at h
  obtain ⟨hp, _, hb⟩ := h
  unfold call
  rw [hp, canonRet_eq hb hs]

theorem normC_sound (ρ : Env) (A : Arrays) (c : Cond) : evalC ρ A (normC c) = evalC ρ A c := by
  induction c with
  | lt a b => simp only [normC, evalC, normE_sound]
  | le a b => simp only [normC, evalC, normE_sound]
  | eq a b => simp only [normC, evalC, normE_sound]
  | ne a b => simp only [normC, evalC, normE_sound]
  | and c d ihc ihd => simp only [normC, evalC, ihc, ihd]
  | or c d ihc ihd => simp only [normC, evalC, ihc, ihd]
  | oneOf e vs => simp only [normC, evalC, normE_sound]
  | isNil a => rfl
  | unknown w => rfl

theorem evalC_tie {c1 c2 : Cond} (h : normC c1 = normC c2) (A : Arrays) (σ : Env) : evalC σ A c1 = evalC σ A c2 := by
  rw [← normC_sound, h, normC_sound]

theorem normStmts_runEnv (A : Arrays) (b : List Stmt) : ∀ ρ, runEnv A ρ (normStmts b) = runEnv A ρ b := by
  induction b with
  | nil => intro ρ; rfl
  | cons s rest ih =>
    intro ρ
    have ih' : ∀ ρ, runEnv A ρ (List.map normS rest) = runEnv A ρ rest := ih
    cases s with
    | set n e => simp only [normStmts, List.map_cons, normS, runEnv, normE_sound, ih']
    | setIf c n e => simp only [normStmts, List.map_cons, normS, runEnv, normE_sound, normC_sound, ih']
    | ret e => rfl
    | retIf c e => simp only [normStmts, List.map_cons, normS, runEnv, normC_sound, ih']
    | unknown w => rfl

theorem normStmts_runRet (A : Arrays) (b : List Stmt) : ∀ ρ, runRet A ρ (normStmts b) = runRet A ρ b := by
  induction b with
  | nil => intro ρ; rfl
  | cons s rest ih =>
    intro ρ
    have ih' : ∀ ρ, runRet A ρ (List.map normS rest) = runRet A ρ rest := ih
    cases s with
    | set n e => simp only [normStmts, List.map_cons, normS, runRet, normE_sound, ih']
    | setIf c n e => simp only [normStmts, List.map_cons, normS, runRet, normE_sound, normC_sound, ih']
    | ret e => simp only [normStmts, List.map_cons, normS, runRet, normE_sound]
    | retIf c e => simp only [normStmts, List.map_cons, normS, runRet, normE_sound, normC_sound, ih']
    | unknown w => rfl

/-- blocks with equal statement-wise normal forms behave alike -/
theorem normStmts_eq {b1 b2 : List Stmt} (h : normStmts b1 = normStmts b2) (A : Arrays) (ρ : Env) :
    runEnv A ρ b1 = runEnv A ρ b2 ∧ runRet A ρ b1 = runRet A ρ b2 := by
  constructor
  · rw [← normStmts_runEnv A b1, ← normStmts_runEnv A b2, h]
  · rw [← normStmts_runRet A b1, ← normStmts_runRet A b2, h]

/-- the variables `xs` have the same canonical expression in both blocks -/
def sameVars (xs : List Nat) (b1 b2 : List Stmt) : Bool :=
  xs.all fun x => decide (canonVar x b1 = canonVar x b2) && (canonVar x b2).isSome

theorem sameVars_eq {xs : List Nat} {b1 b2 : List Stmt} (h : sameVars xs b1 b2 = true) (A : Arrays) (ρ : Env)
    (x : Nat) (hx : x ∈ xs) : runEnv A ρ b1 x = runEnv A ρ b2 x := by
  unfold sameVars at h
  rw [List.all_eq_true] at h
  have := h x hx
  simp only [Bool.and_eq_true, decide_eq_true_eq] at this
  exact canonVar_eq this.1 this.2 A ρ

theorem upd_self (ρ : Env) (n : Nat) : upd ρ n (ρ n) = ρ := by
  funext m; simp only [upd]; split <;> simp_all

theorem ltb_cast (k N : Nat) : ltb (k : Int) (N : Int) = decide (k < N) := by simp [ltb]

/-- the rule of `for init; cond; post { body }` as Go runs it: `I k` holds of the environment at the loop head before
    round `k`; the condition admits exactly the rounds below `N` -/
theorem whileLoop_inv (A : Arrays) (cond : Cond) (body post : List Stmt) (N : Nat) (I : Nat → Env → Prop)
    (hcond : ∀ k σ, I k σ → evalC σ A cond = decide (k < N))
    (hstep : ∀ k σ, k < N → I k σ → I (k + 1) (runEnv A (runEnv A σ body) post)) (e : Nat) :
    ∀ n k σ, k + n = N → I k σ → I N (whileLoop A cond body post (n + 1 + e) σ) := by
  intro n
  induction n with
  | zero =>
    intro k σ hk h
    have : k = N := by omega
    subst this
    rw [show 0 + 1 + e = e + 1 by omega, whileLoop, hcond k σ h, decide_eq_false (by omega)]
    exact h
  | succ n ih =>
    intro k σ hk h
    rw [show n + 1 + 1 + e = (n + 1 + e) + 1 by omega, whileLoop, hcond k σ h, decide_eq_true (by omega)]
    exact ih (k + 1) _ (by omega) (hstep k σ (by omega) h)

/-- a whole function `pre; for …; after` whose guard passes: the final block runs on an environment that satisfies
    the invariant after round `N` -/
theorem callWhile_inv (A : Arrays) (pre init : List Stmt) (cond : Cond) (post body after : List Stmt) (N : Nat) (ρ : Env)
    (I : Nat → Env → Prop)
    (hpre : runRet A ρ pre = none) (h0 : I 0 (runEnv A (runEnv A ρ pre) init))
    (hcond : ∀ k σ, I k σ → evalC σ A cond = decide (k < N))
    (hstep : ∀ k σ, k < N → I k σ → I (k + 1) (runEnv A (runEnv A σ body) post)) (e : Nat) :
    ∃ σ, I N σ ∧ callWhile A pre init cond post body after (N + 1 + e) ρ = retVal (runRet A σ after) := by
  refine ⟨_, whileLoop_inv A cond body post N I hcond hstep e N 0 _ (by omega) h0, ?_⟩
  unfold callWhile; rw [hpre]

/-- a block of plain assignments -/
def isPure : List Stmt → Bool
  | [] => true
  | .set _ _ :: rest => isPure rest
  | _ => false

theorem runRet_pure (A : Arrays) (b : List Stmt) (ρ : Env) (h : isPure b = true) : runRet A ρ b = none := by
  fun_induction isPure b generalizing ρ with
  | case1 => rfl
  | case2 n e rest ih => exact ih _ h
  | case3 => cases h

theorem runEnv_append (A : Arrays) (b1 b2 : List Stmt) (ρ : Env) (h : isPure b1 = true) :
    runEnv A ρ (b1 ++ b2) = runEnv A (runEnv A ρ b1) b2 := by
  fun_induction isPure b1 generalizing ρ with
  | case1 => rfl
  | case2 n e rest ih => exact ih _ h
  | case3 => cases h

def Stmt.sets (x : Nat) : Stmt → Bool
  | .set n _ | .setIf _ n _ => n == x
  | _ => false

theorem runEnv_frame (A : Arrays) (x : Nat) : ∀ (b : List Stmt) (ρ : Env), b.all (fun s => !s.sets x) = true →
    runEnv A ρ b x = ρ x := by
  intro b
  induction b with
  | nil => intro ρ _; rfl
  | cons s rest ih =>
    intro ρ hb
    simp only [List.all_cons, Bool.and_eq_true, Bool.not_eq_true'] at hb
    obtain ⟨hs, hr⟩ := hb
    cases s with
    | set n e =>
      simp only [Stmt.sets, beq_eq_false_iff_ne] at hs
      rw [runEnv, ih _ hr]; simp only [upd]; rw [if_neg (Ne.symm hs)]
    | setIf c n e =>
      simp only [Stmt.sets, beq_eq_false_iff_ne] at hs
      rw [runEnv, ih _ hr]
      cases evalC ρ A c
      · rfl
      · simp only [cond_true, upd]; rw [if_neg (Ne.symm hs)]
    | ret e => rfl
    | retIf c e =>
      rw [runEnv]
      cases evalC ρ A c
      · exact ih _ hr
      · rfl
    | unknown w => rfl

end GoSem
