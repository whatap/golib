/-
  Golib.Cal.DateFormatProof — `Parse ∘ format` on the model of DateFormat.go.

  Main statement (`parseFields_format`): parsing the text that `format pat f` produced yields, for
  every field letter present in the pattern, the formatted field, and for every absent letter
  the field of `now` (that is the code's behaviour; it is the truncation only when nothing is
  absent).
-/
import Golib.Cal.Rune
import Golib.Cal.CivilSucc
import Golib.Cal.FmtLemmas

namespace Cal

/-- every field fits its printed width -/
def FieldsOk (f : Fields) : Prop :=
  f.y < 10000 ∧ f.m < 100 ∧ f.d < 100 ∧ f.H < 100 ∧ f.M < 100 ∧ f.S < 100 ∧ f.s < 1000

/-- present letters from `f`, absent ones from `now` -/
def merge (pat : List Char) (f now : Fields) : Fields :=
  ⟨if 'y' ∈ pat then f.y else now.y, if 'm' ∈ pat then f.m else now.m,
   if 'd' ∈ pat then f.d else now.d, if 'H' ∈ pat then f.H else now.H,
   if 'M' ∈ pat then f.M else now.M, if 'S' ∈ pat then f.S else now.S,
   if 's' ∈ pat then f.s else now.s⟩

/-- what the loop leaves in `this.date` after a text produced by `format` -/
def setAll (f : Fields) : List Char → PState → PState
  | [], p => p
  | c :: pat, p => if (letterWidth c).isSome then setAll f pat (p.set c (f.get c)) else setAll f pat p

theorem setAll_eq (f : Fields) (pat : List Char) (p : PState) : setAll f pat p =
    ⟨if 'y' ∈ pat then some f.y else p.y, if 'm' ∈ pat then some f.m else p.m,
     if 'd' ∈ pat then some f.d else p.d, if 'H' ∈ pat then some f.H else p.H,
     if 'M' ∈ pat then some f.M else p.M, if 'S' ∈ pat then some f.S else p.S,
     if 's' ∈ pat then some f.s else p.s⟩ := by
  induction pat generalizing p with
  | nil => rfl
  | cons c pat ih =>
    rw [setAll, ih, ih]
    rcases rune_cases c with rfl | rfl | rfl | rfl | rfl | rfl | rfl | ⟨h, e⟩
    iterate 7 simp [letterWidth, PState.set, Fields.get]
    simp [h, e, Ne.symm]

theorem toInt_render (v size : Nat) (digits rest : List Char) (hl : digits.length = size)
    (hpos : 0 < size) (ha : atoiNat digits = some v) :
    toInt (digits ++ rest) size = some (v, rest) := by
  have hne : (digits ++ rest).isEmpty = false := by
    cases digits with
    | nil => simp at hl; omega
    | cons a as => rfl
  have ht : (digits ++ rest).take size = digits := by rw [← hl]; simp
  have hd : (digits ++ rest).drop size = rest := by rw [← hl]; simp
  rw [toInt, hne]
  simp only [Bool.false_eq_true, if_false]
  rw [if_neg (by simp; omega), ht, hd, ha]
  rfl

/-- a field of any width `w` printed by `LPadInt` (value below `10 ^ w`) is read back by `ToInt`, whatever
    follows -/
theorem toInt_pad0 (w n : Nat) (rest : List Char) (hw : 0 < w) (h : n < 10 ^ w) :
    toInt (pad0 w n ++ rest) w = some (n, rest) := by
  rw [pad0_eq w n hw h]
  exact toInt_render n w _ rest (renderW_length w n) hw (atoiNat_renderW w n hw h)

theorem toInt_field (f : Fields) (hf : FieldsOk f) (c : Char) (w : Nat) (h : letterWidth c = some w)
    (rest : List Char) : toInt (pad0 w (f.get c) ++ rest) w = some (f.get c, rest) := by
  obtain ⟨h1, h2, h3, h4, h5, h6, h7⟩ := hf
  rcases rune_cases c with rfl | rfl | rfl | rfl | rfl | rfl | rfl | ⟨hn, _⟩
  iterate 7 cases h; exact toInt_pad0 _ _ _ (by decide) ‹_›
  rw [hn] at h; cases h

theorem parseLoop_format (f : Fields) (hf : FieldsOk f) (sz : Nat) :
    ∀ (pat : List Char) (i : Nat) (rest : List Char) (p : PState), i + pat.length ≤ sz →
      parseLoop sz pat i (format pat f ++ rest) p = some (setAll f pat p) := by
  intro pat
  induction pat with
  | nil => intro i rest p _; simp [parseLoop, setAll]
  | cons c pat ih =>
    intro i rest p hi
    have hlt : ¬ i ≥ sz := by simp only [List.length_cons] at hi; omega
    rw [parseLoop, if_neg hlt]
    simp only [format, List.flatMap_cons, List.append_assoc]
    cases hw : letterWidth c with
    | some w =>
      simp only [fmtRune, hw]
      rw [toInt_field f hf c w hw]
      simp only []
      have := ih (i + 1) rest (p.set c (f.get c)) (by simp only [List.length_cons] at hi; omega)
      simp only [format] at this
      rw [this, setAll, hw]; rfl
    | none =>
      simp only [fmtRune, hw, List.cons_append, List.nil_append, List.drop_succ_cons, List.drop_zero]
      have := ih (i + 1) rest p (by simp only [List.length_cons] at hi; omega)
      simp only [format] at this
      rw [this, setAll, hw]; rfl

/-! `Parse` leaves its loop when the rune index reaches `len(dateStr)`, a length in bytes; a formatted text has at
    least as many bytes as the pattern has runes, so on it the loop runs to the end of the pattern. -/

theorem utf8Len_foldl (cs : List Char) : ∀ n, n + cs.length ≤ cs.foldl (fun n c => n + c.utf8Size) n := by
  induction cs with
  | nil => intro n; simp
  | cons c cs ih =>
    intro n
    have := ih (n + c.utf8Size)
    have hp := Char.utf8Size_pos c
    simp only [List.foldl_cons, List.length_cons]
    omega

theorem length_le_utf8Len (cs : List Char) : cs.length ≤ utf8Len cs := by
  have := utf8Len_foldl cs 0
  simpa [utf8Len] using this

theorem fmtRune_length_pos (f : Fields) (c : Char) : 1 ≤ (fmtRune f c).length := by
  unfold fmtRune
  split
  · have := @Nat.length_toDigits_pos 10 (f.get c)
    simp only [pad0, itoa, List.length_append, List.length_replicate]; omega
  · simp

theorem format_length (f : Fields) (pat : List Char) : pat.length ≤ (format pat f).length := by
  induction pat with
  | nil => simp [format]
  | cons c pat ih =>
    have := fmtRune_length_pos f c
    simp only [format, List.flatMap_cons, List.length_append, List.length_cons] at ih ⊢
    omega

theorem fill_setAll (f now : Fields) (pat : List Char) :
    (setAll f pat {}).fill now = merge pat f now := by
  simp only [setAll_eq, PState.fill, merge, Fields.mk.injEq]
  refine ⟨?_, ?_, ?_, ?_, ?_, ?_, ?_⟩ <;> split <;> rfl

/-- **Parse after format**: present letters give back the formatted fields, absent letters are
    taken from `now` -/
theorem parseFields_format (pat : List Char) (f now : Fields) (hf : FieldsOk f) :
    parseFields pat now (format pat f) = some (merge pat f now) := by
  have h := parseLoop_format f hf (utf8Len (format pat f)) pat 0 [] {}
    (by have := format_length f pat; have := length_le_utf8Len (format pat f); omega)
  rw [List.append_nil] at h
  rw [parseFields, h, Option.map_some, fill_setAll]

theorem merge_all (pat : List Char) (f now : Fields) (h : ∀ c ∈ letterList, c ∈ pat) :
    merge pat f now = f := by
  simp only [merge, h 'y' (by decide), h 'm' (by decide), h 'd' (by decide), h 'H' (by decide),
    h 'M' (by decide), h 'S' (by decide), h 's' (by decide), if_true]

theorem dateToMs_mk (y m d H M S s : Nat) (h1 : 1 ≤ m) (h2 : m ≤ 12) :
    dateToMs ⟨y, m, d, H, M, S, s⟩ =
      daysFromCivil y m d * MS_DAY + H * 3600000 + M * 60000 + S * 1000 + s := by
  simp only [dateToMs]
  rw [if_neg (by omega), if_neg (by omega), show y + (m - 1) / 12 = y by omega,
    show (m - 1) % 12 + 1 = m by omega]

theorem dateToMs_fieldsOf (t : Nat) : dateToMs (fieldsOf t) = t := by
  have hf := civil_fields (t / MS_DAY)
  have hd := days_civil (t / MS_DAY)
  rw [fieldsOf, dateToMs_mk _ _ _ _ _ _ _ hf.1 hf.2.1, hd]
  simp only [MS_DAY]; omega

/-- instants up to the year 9909 have fields that fit their printed widths -/
theorem fieldsOf_ok' (t : Nat) (h : t < 2900000 * MS_DAY) : FieldsOk (fieldsOf t) := by
  have hf := civil_fields (t / MS_DAY)
  have hy := civil_year_lt (t / MS_DAY) (by simp only [MS_DAY] at h ⊢; omega)
  simp only [FieldsOk, fieldsOf]
  refine ⟨hy, by omega, by omega, ?_, by omega, by omega, by omega⟩
  simp only [MS_DAY]; omega

theorem parse_format (pat : List Char) (now : Fields) (t : Nat) (h : t < 2900000 * MS_DAY) :
    parse pat now (format pat (fieldsOf t)) = some (dateToMs (merge pat (fieldsOf t) now)) := by
  rw [parse, parseFields_format pat _ now (fieldsOf_ok' t h)]; rfl

end Cal
