/-
  Golib.Cal.LoopIR — semantics of the transcribed rune loops of DateFormat.format / DateFormat.Parse
  (data types in Golib.Cal.PadIR, produced by xlate/c19) and the general lemmas that tie them to the
  CodeModel (`format`, `parseLoopZ`, `PStateZ.fill`).

  The semantics follows Go: the body statements run in order for every rune of the pattern; a `switch ch`
  runs the clause whose constant equals the rune, else the default clause; `break` leaves the loop, the
  error return of a field clause leaves the function.  `.other` (anything the translator does not know:
  a toggled flag, a `continue`, an extra test before the switch) has no meaning ⇒ `none`, so no
  statement about such a body can be proved.
-/
import Golib.Cal.PadIR
import Golib.Cal.DateFormatObj
import Golib.Cal.Rune

namespace Cal

/-- the clause of `switch ch` that runs for rune `c` -/
def runeCase {α : Type} (cases : List (Nat × α)) (dflt : α) (c : Char) : α :=
  match cases.find? (fun p => p.1 == c.toNat) with
  | some p => p.2
  | none => dflt

/-- a switch whose clause constants are all field letters runs its default clause on every other rune -/
theorem runeCase_default {α : Type} (cases : List (Nat × α)) (dflt : α) (c : Char)
    (hc : letterWidth c = none) (h : ∀ p ∈ cases, (letterWidth (Char.ofNat p.1)).isSome = true) :
    runeCase cases dflt c = dflt := by
  have : cases.find? (fun p => p.1 == c.toNat) = none :=
    List.find?_eq_none.mpr fun p hp e => by
      have := h p hp
      rw [eq_of_beq e, Char.ofNat_toNat, hc] at this
      cases this
  rw [runeCase, this]

/-- `switch n { case 0, …, 9: }` of `mk2`/`mk3` is the test `n ≤ 9` -/
theorem switch_digits (n : Nat) : [0, 1, 2, 3, 4, 5, 6, 7, 8, 9].contains n = decide (n ≤ 9) := by
  by_cases h : n ≤ 9
  · have : n = 0 ∨ n = 1 ∨ n = 2 ∨ n = 3 ∨ n = 4 ∨ n = 5 ∨ n = 6 ∨ n = 7 ∨ n = 8 ∨ n = 9 := by omega
    rcases this with rfl | rfl | rfl | rfl | rfl | rfl | rfl | rfl | rfl | rfl <;> rfl
  · simp only [List.contains_cons, List.contains_nil, h, decide_false, Bool.or_false, Bool.or_eq_false_iff,
      beq_eq_false_iff_ne]
    omega

/-- `int((t.UnixNano() / 10⁶) % 1000)` is the millisecond field: for an instant of `ms` milliseconds and
    `r < 10⁶` further nanoseconds -/
theorem nano_div_mod (ms r : Nat) (h : r < 1000000) : (ms * 1000000 + r) / 1000000 % 1000 = ms % 1000 := by omega

def TimeSel.eval : TimeSel → Fields → Option Nat
  | .year, f => some f.y
  | .month, f => some f.m
  | .day, f => some f.d
  | .hour, f => some f.H
  | .minute, f => some f.M
  | .second, f => some f.S
  | .nanoDivMod d m, f => if d = 1000000 ∧ m = 1000 then some f.s else none
  | .other, _ => none

def FmtAct.eval : FmtAct → Fields → Char → Option (List Char)
  | .writePad sel w, f, _ => (sel.eval f).map (pad0 w)
  | .writeRune, _, c => some [c]
  | .nop, _, _ => some []
  | .other, _, _ => none

/-- what the loop body appends to the buffer for one rune -/
def evalFmtBody : List FmtStmt → Fields → Char → Option (List Char)
  | [], _, _ => some []
  | .switchCh cases dflt :: r, f, c =>
    ((runeCase cases dflt c).eval f c).bind fun x => (evalFmtBody r f c).map (x ++ ·)
  | .other :: _, _, _ => none

/-- `for _, ch := range this.formatStr { body }` -/
def evalFormatLoop (body : List FmtStmt) : List Char → Fields → Option (List Char)
  | [], _ => some []
  | c :: r, f => (evalFmtBody body f c).bind fun x => (evalFormatLoop body r f).map (x ++ ·)

/-- if the body renders every rune as the model does, the loop is the model's `format` -/
theorem evalFormatLoop_eq (body : List FmtStmt)
    (h : ∀ f c, evalFmtBody body f c = some (fmtRune f c)) (pat : List Char) (f : Fields) :
    evalFormatLoop body pat f = some (format pat f) := by
  induction pat with
  | nil => rfl
  | cons c r ih => simp [evalFormatLoop, h, ih, format, List.flatMap_cons]

inductive StepRes where
  | cont (inp : List Char) (p : PStateZ)
  | brk (p : PStateZ)
  | err (p : PStateZ)
  | stuck

def ParseAct.eval : ParseAct → Char → List Char → PStateZ → StepRes
  | .toIntStore w, c, inp, p =>
    match toIntZ inp w with
    | some (v, rest) => .cont rest (p.set c v)
    | none => .err p
  | .readRune, _, inp, p => .cont (inp.drop 1) p
  | .nop, _, inp, p => .cont inp p
  | .other, _, _, _ => .stuck

/-- one pass of the loop body for rune `c` at index `i` -/
def evalParseBody : List ParseStmt → (sz i : Nat) → Char → List Char → PStateZ → StepRes
  | [], _, _, _, inp, p => .cont inp p
  | .breakIfIdxGeSz :: r, sz, i, c, inp, p => if i ≥ sz then .brk p else evalParseBody r sz i c inp p
  | .switchCh cases dflt :: r, sz, i, c, inp, p =>
    match (runeCase cases dflt c).eval c inp p with
    | .cont inp' p' => evalParseBody r sz i c inp' p'
    | x => x
  | .other :: _, _, _, _, _, _ => .stuck

/-- `for i, ch := range this.formatStr { body }`; the Bool is `false` when Parse returned an error -/
def evalParseLoop (body : List ParseStmt) (sz : Nat) : List Char → Nat → List Char → PStateZ → Option (PStateZ × Bool)
  | [], _, _, p => some (p, true)
  | c :: pat, i, inp, p =>
    match evalParseBody body sz i c inp p with
    | .cont inp' p' => evalParseLoop body sz pat (i + 1) inp' p'
    | .brk p' => some (p', true)
    | .err p' => some (p', false)
    | .stuck => none

/-- one step of the model's loop, in the vocabulary of `StepRes` -/
def modelStep (sz i : Nat) (c : Char) (inp : List Char) (p : PStateZ) : StepRes :=
  if i ≥ sz then .brk p else
  match letterWidth c with
  | some w =>
    match toIntZ inp w with
    | some (v, rest) => .cont rest (p.set c v)
    | none => .err p
  | none => .cont (inp.drop 1) p

theorem evalParseLoop_eq (body : List ParseStmt) (sz : Nat)
    (h : ∀ i c inp p, evalParseBody body sz i c inp p = modelStep sz i c inp p)
    (pat : List Char) (i : Nat) (inp : List Char) (p : PStateZ) :
    evalParseLoop body sz pat i inp p = some (parseLoopZ sz pat i inp p) := by
  fun_induction parseLoopZ sz pat i inp p <;> simp [evalParseLoop, modelStep, -List.drop_one, *]

/-! #### the seven fill statements of Parse: `if _, ok := this.date[K]; !ok { this.date[K] = now.X() }` -/

def evalFills : List (Nat × TimeSel) → PStateZ → Fields → Option PStateZ
  | [], p, _ => some p
  | (k, sel) :: r, p, now =>
    match sel.eval now with
    | some v =>
      let c := Char.ofNat k
      if letterWidth c = none then none
      else evalFills r (if (p.getc c).isSome then p else p.set c (v : Int)) now
    | none => none

/-- one fill statement: the key keeps its value if it has one and gets `v` otherwise -/
theorem fill_stmt (p : PStateZ) (c : Char) (v : Int) :
    (if (p.getc c).isSome then p else p.set c v) = p.set c ((p.getc c).getD v) := by
  rcases p with ⟨y, m, d, H, M, S, s⟩
  rcases rune_cases c with rfl | rfl | rfl | rfl | rfl | rfl | rfl | ⟨_, e⟩
  · cases y <;> rfl
  · cases m <;> rfl
  · cases d <;> rfl
  · cases H <;> rfl
  · cases M <;> rfl
  · cases S <;> rfl
  · cases s <;> rfl
  · simp only [PStateZ.getc, PStateZ.set, e, if_false]
    cases s <;> rfl

end Cal
