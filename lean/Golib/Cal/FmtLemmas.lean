/-
  Golib.Cal.FmtLemmas — the code's renderers produce the fixed-width digits on their ranges,
  and parsing those digits gives the number back.  Everything goes through `renderW w n`, the `w`
  low digits of `n` for any width: `pad0 w` writes them (`pad0_eq`), `atoiNat` reads them
  (`atoiNat_renderW`); `render2/3/4` are its instances and `mk2`/`mk3` are `pad0 2`/`pad0 3`.
-/
import Golib.Cal.Fmt

namespace Cal

theorem dig_toNat (n : Nat) : (dig n).toNat = 48 + n % 10 :=
  (by decide : ∀ k, k < 10 → (Char.ofNat (48 + k)).toNat = 48 + k) _ (Nat.mod_lt _ (by decide))

theorem digitChar_mod (n : Nat) : Nat.digitChar (n % 10) = dig n :=
  (by decide : ∀ k, k < 10 → Nat.digitChar k = Char.ofNat (48 + k)) _ (Nat.mod_lt _ (by decide))

theorem itoa_of_lt (n : Nat) (h : n < 10) : itoa n = [dig n] := by
  rw [itoa, Nat.toDigits_of_lt_base h, ← digitChar_mod, Nat.mod_eq_of_lt h]

theorem itoa_of_le (n : Nat) (h : 10 ≤ n) : itoa n = itoa (n / 10) ++ [dig n] := by
  rw [itoa, Nat.toDigits_of_base_le (by decide) h, digitChar_mod, itoa]

/-- the `w` low decimal digits of `n`, most significant first -/
def renderW : Nat → Nat → List Char
  | 0, _ => []
  | w + 1, n => renderW w (n / 10) ++ [dig n]

theorem render3_eq (n : Nat) : render3 n = renderW 3 n := by
  simp only [renderW, Nat.div_div_eq_div_mul]; rfl

theorem render4_eq (n : Nat) : render4 n = renderW 4 n := by
  simp only [renderW, Nat.div_div_eq_div_mul]; rfl

theorem renderW_length (w n : Nat) : (renderW w n).length = w := by
  induction w generalizing n with
  | zero => rfl
  | succ w ih => rw [renderW, List.length_append, ih]; rfl

theorem renderW_zero (w : Nat) : renderW w 0 = List.replicate w '0' := by
  induction w with
  | zero => rfl
  | succ w ih => rw [List.replicate_succ', ← ih]; rfl

theorem div10_lt {w n : Nat} (h : n < 10 ^ (w + 1)) : n / 10 < 10 ^ w :=
  Nat.div_lt_of_lt_mul (by rwa [Nat.pow_succ, Nat.mul_comm] at h)

/-- `%0wd` of a number below `10 ^ w` is its `w` digits: one digit is `itoa`; a longer number loses its
    last digit to the right and one unit of padding width; a shorter one is padded like 0 -/
theorem pad0_eq (w n : Nat) (hw : 0 < w) (h : n < 10 ^ w) : pad0 w n = renderW w n := by
  induction w generalizing n with
  | zero => cases hw
  | succ w ih =>
    show List.replicate (w + 1 - (itoa n).length) '0' ++ itoa n = renderW w (n / 10) ++ [dig n]
    by_cases h10 : n < 10
    · rw [itoa_of_lt n h10, Nat.div_eq_of_lt h10, renderW_zero]; rfl
    · have hw' : 0 < w := Nat.pos_of_ne_zero (by rintro rfl; exact h10 h)
      rw [itoa_of_le n (by omega), ← ih (n / 10) hw' (div10_lt h), List.length_append,
        List.length_singleton, Nat.add_sub_add_right, ← List.append_assoc]
      rfl

/-- a number of at least `w` digits is not padded -/
theorem pad0_of_le (w n : Nat) (hw : 1 < w) (h : 10 ^ (w - 1) ≤ n) : pad0 w n = itoa n := by
  have := mt (Nat.length_toDigits_le_iff (b := 10) (n := n) (by decide) (Nat.sub_pos_of_lt hw)).mp
    (Nat.not_lt.mpr h)
  show List.replicate (w - (itoa n).length) '0' ++ itoa n = itoa n
  rw [show w - (itoa n).length = 0 by rw [itoa]; omega]; rfl

/-- `mk2` is `%02d`, `mk3` is `%03d` -/
theorem mk2_pad0 (n : Nat) : mk2 n = pad0 2 n := by
  fun_cases mk2 n
  · rw [pad0, itoa_of_lt n (by omega)]; rfl
  · rw [pad0_of_le 2 n (by decide) (by omega)]

theorem mk3_pad0 (n : Nat) : mk3 n = pad0 3 n := by
  fun_cases mk3 n
  · rw [pad0, itoa_of_lt n (by omega)]; rfl
  · rw [pad0, itoa_of_le n (by omega), itoa_of_lt (n / 10) (by omega)]; rfl
  · rw [pad0_of_le 3 n (by decide) (by omega)]

theorem pad0_2_eq (n : Nat) (h : n < 100) : pad0 2 n = render2 n := pad0_eq 2 n (by decide) h

theorem pad0_3_eq (n : Nat) (h : n < 1000) : pad0 3 n = render3 n :=
  (pad0_eq 3 n (by decide) h).trans (render3_eq n).symm

theorem pad0_4_eq (n : Nat) (h : n < 10000) : pad0 4 n = render4 n :=
  (pad0_eq 4 n (by decide) h).trans (render4_eq n).symm

theorem isDig_dig (n : Nat) : isDig (dig n) = true := by
  simp only [isDig, dig_toNat, Bool.and_eq_true, decide_eq_true_eq]; omega

/-- reading the `w` digits of `n` gives `n`: each further digit multiplies what was read by ten -/
theorem atoiNat_renderW (w n : Nat) (hw : 0 < w) (h : n < 10 ^ w) : atoiNat (renderW w n) = some n := by
  have hf : ∀ w n, n < 10 ^ w → (renderW w n).foldl (fun acc c => acc.bind fun a =>
      if isDig c then some (a * 10 + (c.toNat - 48)) else none) (some 0) = some n := by
    intro w
    induction w with
    | zero => intro n h; rw [show n = 0 by omega]; rfl
    | succ w ih =>
      intro n h
      rw [renderW, List.foldl_append, ih (n / 10) (div10_lt h), List.foldl_cons, List.foldl_nil,
        Option.bind_some, if_pos (isDig_dig n), dig_toNat]
      congr 1; omega
  rw [atoiNat, if_neg, hf w n h]
  cases w with
  | zero => cases hw
  | succ w => simp [renderW]

theorem dig_ne_sign (n : Nat) : dig n ≠ '-' ∧ dig n ≠ '+' := by
  have := dig_toNat n
  constructor <;> intro e <;> rw [e] at this <;> revert this <;> simp <;> omega

theorem render2_length (n : Nat) : (render2 n).length = 2 := rfl
theorem render3_length (n : Nat) : (render3 n).length = 3 := rfl
theorem render4_length (n : Nat) : (render4 n).length = 4 := rfl

end Cal
