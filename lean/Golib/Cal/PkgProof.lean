/-
  Golib.Cal.PkgProof — what an instant- or string-taking exported function answers is a function of the call alone
  (`pureAns`, `step_pure`); frame and purity over histories are `C19.pkg_frame`, `C19.pkg_history_pure`.
-/
import Golib.Cal.Pkg

namespace Cal

/-- what an instant- or string-taking call answers, as a function of the call alone -/
def pureAns : Call → Option Ans
  | .dateTime t => some (.str (datetime t))
  | .timeStamp t => some (.str (timestamp t))
  | .weekDay t => some (.label (weekday t))
  | .ymdhms t => some (.str (ymdhms t))
  | .yyyymmdd t => some (.str (yyyymmdd t))
  | .hhmmss t => some (.str (some (hhmmss t)))
  | .hhmm t => some (.str (some (hhmm t)))
  | .dateUnit t => some (.int (some (getDateUnit t)))
  | .minUnit t => some (.int (some (getMinUnit t)))
  | .fiveMinUnit t => some (.int (some (getFiveMinUnit t)))
  | .ymdTime s => some (.int (getYmdTime s))
  | _ => none

theorem step_pure (clock : Int) (s : Pkg) (c : Call) (a : Ans) (h : pureAns c = some a) :
    (step clock s c).2 = a := by
  cases c <;> simp [pureAns] at h <;> (subst h; rfl)

end Cal
