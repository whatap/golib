/-
  Golib.Cal.Helper — CodeModel of the DateTimeHelper methods behind the exported functions of
  util/dateutil/DateUtil.go (helper for location "" = UTC):

    yyyymmdd, weekday, datetime, timestamp, logtime, ymdhms, hhmmss, hhmm,
    getDateUnit, getMinUnit, getFiveMinUnit, getYmdTime

  `t : Int` is Go's int64 millisecond instant; `/` and `%` of Go truncate toward zero
  (`Int.tdiv`, `Int.tmod`).  `none` = the Go code panics (index out of range: instant after
  2099-12-31, or a date string that does not name a day of the table).

  Defect D40: the Go `timestamp`/`logtime` padded the milliseconds with `mk2`; the model is
  parameterised by the pad (`timestampWith`) — `timestamp` is the code (`mk3`,
  DateTimeHelper.go:213, 381), `timestampWith mk2` is the code before fix-D40 (see `C19.finding_D40`).
-/
import Golib.Cal.Table
import Golib.Cal.Fmt

namespace Cal

def MILLIS_PER_SECOND : Nat := 1000
def MILLIS_PER_MINUTE : Nat := 60000
def MILLIS_PER_FIVE_MINUTE : Nat := 300000
def MILLIS_PER_HOUR : Nat := 3600000

/-- `Day.date` = fmt.Sprintf("%d%02d%02d", year+2000, mm+1, dd+1) -/
def Day.date (d : Day) : List Char := itoa d.yyyy ++ pad0 2 d.mm ++ pad0 2 d.dd
/-- `Day.wday` = wday[wdayIdx] -/
def Day.wday (d : Day) : String := wdayLabels.getD d.wd ""

/-- `this.dateTable` as the driver uses it (constant-time index) -/
def dateTableA : Array Day := dateTable.toArray

/-- `int((time - BASE_TIME) / MILLIS_PER_DAY)` -/
def dayIdx (t : Int) : Int := (t - BASE_TIME).tdiv MILLIS_PER_DAY
/-- `(int)((time - BASE_TIME) % MILLIS_PER_DAY)`, only used for `time ≥ BASE_TIME` -/
def dtimeOf (t : Int) : Nat := ((t - BASE_TIME).tmod MILLIS_PER_DAY).toNat

def clampIdx (i : Int) : Nat := if i < 0 then 0 else i.toNat

def yyyymmdd (t : Int) : Option (List Char) :=
  (dateTableA[clampIdx (dayIdx t)]?).map Day.date

def weekdayIdx (t : Int) : Option Nat :=
  (dateTableA[clampIdx (dayIdx t)]?).map Day.wd

def weekday (t : Int) : Option String :=
  (dateTableA[clampIdx (dayIdx t)]?).map Day.wday

structure HMS where
  hh : Nat
  mm : Nat
  ss : Nat
  sss : Nat
deriving DecidableEq, Repr

/-- the chain `hh := dtime / H; dtime %= H; mm := dtime / M; dtime %= M; ss := dtime / 1000; sss := dtime % 1000` -/
def hmsOf (dtime : Nat) : HMS :=
  let hh := dtime / MILLIS_PER_HOUR
  let d1 := dtime % MILLIS_PER_HOUR
  let mm := d1 / MILLIS_PER_MINUTE
  let d2 := d1 % MILLIS_PER_MINUTE
  ⟨hh, mm, d2 / MILLIS_PER_SECOND, d2 % 1000⟩

def datetime (t : Int) : Option (List Char) :=
  if t < BASE_TIME then some "20000101 00:00:00".toList else
  let h := hmsOf (dtimeOf t)
  (dateTableA[(dayIdx t).toNat]?).map fun d =>
    d.date ++ ' ' :: mk2 h.hh ++ ':' :: mk2 h.mm ++ ':' :: mk2 h.ss

def timestampWith (msPad : Nat → List Char) (t : Int) : Option (List Char) :=
  if t < BASE_TIME then some "20000101 00:00:00".toList else
  let h := hmsOf (dtimeOf t)
  (dateTableA[(dayIdx t).toNat]?).map fun d =>
    d.date ++ ' ' :: mk2 h.hh ++ ':' :: mk2 h.mm ++ ':' :: mk2 h.ss ++ '.' :: msPad h.sss

/-- `timestamp` with the three-digit millisecond pad (the repair of D40) -/
def timestamp (t : Int) : Option (List Char) := timestampWith mk3 t

def logtimeWith (msPad : Nat → List Char) (t : Int) : List Char :=
  if t < BASE_TIME then "00:00:00.000".toList else
  let h := hmsOf (dtimeOf t)
  mk2 h.hh ++ ':' :: mk2 h.mm ++ ':' :: mk2 h.ss ++ '.' :: msPad h.sss

def logtime (t : Int) : List Char := logtimeWith mk3 t

def ymdhms (t : Int) : Option (List Char) :=
  if t < BASE_TIME then some "20000101000000".toList else
  let h := hmsOf (dtimeOf t)
  (dateTableA[(dayIdx t).toNat]?).map fun d => d.date ++ mk2 h.hh ++ mk2 h.mm ++ mk2 h.ss

def hhmmss (t : Int) : List Char :=
  if t < BASE_TIME then "000000".toList else
  let h := hmsOf (dtimeOf t)
  pad0 2 h.hh ++ pad0 2 h.mm ++ pad0 2 h.ss

def hhmm (t : Int) : List Char :=
  if t < BASE_TIME then "0000".toList else
  let h := hmsOf (dtimeOf t)
  pad0 2 h.hh ++ pad0 2 h.mm

def getDateUnit (t : Int) : Int := (t - BASE_TIME).tdiv MILLIS_PER_DAY
def getMinUnit (t : Int) : Int := (t - BASE_TIME).tdiv MILLIS_PER_MINUTE
def getFiveMinUnit (t : Int) : Int := (t - BASE_TIME).tdiv MILLIS_PER_FIVE_MINUTE

/-- an index expression `x - 1` of Go: negative ⇒ panic -/
def idxOf (i : Int) : Option Nat := if i < 0 then none else some i.toNat

/-- `getYmdTime`: substrings [0:4] [4:6] [6:8], `strconv.Atoi` with the error dropped -/
def getYmdTimeOn (table3 : List (List (List Day))) (s : List Char) : Option Int :=
  if s.isEmpty then some 0 else
  if s.length < 8 then none else
  let year := atoi (s.take 4)
  let mm := atoi ((s.drop 4).take 2)
  let dd := atoi ((s.drop 6).take 2)
  if year ≥ 2100 then (lookup3 table3 99 11 30).map fun d => d.time + MILLIS_PER_DAY
  else if year < 2000 then some BASE_TIME
  else do
    let y ← idxOf (year - 2000)
    let m ← idxOf (mm - 1)
    let d ← idxOf (dd - 1)
    (lookup3 table3 y m d).map Day.time

def getYmdTime (s : List Char) : Option Int := getYmdTimeOn table3 s

end Cal
