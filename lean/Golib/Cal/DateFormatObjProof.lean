/-
  Golib.Cal.DateFormatObjProof — the DateFormat object (signed fields, persistent map):
  a Parse call on ANY prior map simulates the fresh-object loop of Golib.Cal.DateFormat and lays
  its results over the prior map; hence Parse ∘ format on a reused object, and the bridge from the
  integer result to the natural-number result of the fresh-object theorems.
-/
import Golib.Cal.DateFormatObj
import Golib.Cal.DateFormatProof
import Golib.Cal.CivilSucc

namespace Cal

/-- lay the (unsigned) results `q` of a loop over a prior map `st` -/
def overlay (st : PStateZ) (q : PState) : PStateZ :=
  ⟨(q.y.map Int.ofNat).orElse fun _ => st.y, (q.m.map Int.ofNat).orElse fun _ => st.m,
   (q.d.map Int.ofNat).orElse fun _ => st.d, (q.H.map Int.ofNat).orElse fun _ => st.H,
   (q.M.map Int.ofNat).orElse fun _ => st.M, (q.S.map Int.ofNat).orElse fun _ => st.S,
   (q.s.map Int.ofNat).orElse fun _ => st.s⟩

theorem overlay_empty (st : PStateZ) : overlay st {} = st := by cases st; rfl

theorem overlay_set (st : PStateZ) (p : PState) (c : Char) (v : Nat) :
    overlay st (p.set c v) = (overlay st p).set c (v : Int) := by
  rcases rune_cases c with rfl | rfl | rfl | rfl | rfl | rfl | rfl | ⟨_, e⟩
  iterate 7 rfl
  simp only [PState.set, PStateZ.set, e, if_false]
  rfl

theorem foldl_none (l : List Char) :
    l.foldl (fun acc c => acc.bind fun a => if isDig c then some (a * 10 + (c.toNat - 48)) else none) none = none := by
  induction l with
  | nil => rfl
  | cons a l ih => simpa using ih

theorem atoiNat_sign (c : Char) (r : List Char) (h : isDig c = false) : atoiNat (c :: r) = none := by
  simp only [atoiNat, List.isEmpty_cons, Bool.false_eq_true, if_false, List.foldl_cons, Option.bind_some, h]
  exact foldl_none r

/-- an unsigned digit string means the same to the signed `Atoi` -/
theorem atoiZ_of_atoiNat (cs : List Char) (v : Nat) (h : atoiNat cs = some v) : atoiZ cs = some (v : Int) := by
  unfold atoiZ
  split
  · rw [atoiNat_sign '-' _ (by decide)] at h; cases h
  · rw [atoiNat_sign '+' _ (by decide)] at h; cases h
  · rw [h]; rfl

theorem toIntZ_of_toInt (inp : List Char) (w v : Nat) (rest : List Char)
    (h : toInt inp w = some (v, rest)) : toIntZ inp w = some ((v : Int), rest) := by
  rw [toIntZ]
  revert h
  fun_cases toInt inp w <;> intro h
  · rename_i he; cases h; rw [if_pos he]; rfl
  · cases h
  · rename_i he hl
    rw [if_neg he, if_neg hl]
    cases ha : atoiNat (inp.take w) with
    | none => rw [ha] at h; cases h
    | some a =>
      rw [ha] at h; cases h
      rw [atoiZ_of_atoiNat _ _ ha]; rfl

/-- **simulation**: if the fresh-object loop succeeds from `p` with `q`, the object loop on any
    prior map `st` overlaid with `p` succeeds with `st` overlaid with `q` -/
theorem parseLoopZ_sim (sz : Nat) (st : PStateZ) (pat : List Char) (i : Nat) (inp : List Char) (p q : PState)
    (h : parseLoop sz pat i inp p = some q) : parseLoopZ sz pat i inp (overlay st p) = (overlay st q, true) := by
  fun_induction parseLoop sz pat i inp p with
  | case1 => cases h; rfl
  | case2 _ _ _ _ _ hi => cases h; rw [parseLoopZ, if_pos hi]
  | case3 c _ _ inp _ hi w hw v rest ht ih =>
    simp only [parseLoopZ, if_neg hi, hw, toIntZ_of_toInt inp w v rest ht, ← overlay_set]; exact ih h
  | case4 => cases h
  | case5 _ _ _ _ _ hi hw ih => simp only [parseLoopZ, if_neg hi, hw]; exact ih h

theorem fields_fill_overlay (q : PState) (now : Fields) :
    ((overlay {} q).fill now).fields = (q.fill now).toZ := by
  have e : ∀ (o : Option Nat) (n : Nat),
      (some (((o.map Int.ofNat).orElse fun _ => none).getD (n : Int))).getD 0 = ((o.getD n : Nat) : Int) := by
    intro o n; cases o <;> rfl
  simp only [overlay, PStateZ.fill, PStateZ.fields, PState.fill, Fields.toZ, e]

/-- a fresh object hands `time.Date`, on ANY text, the fields of the fresh-object model, as integers -/
theorem parseObj_fresh (pat : List Char) (now : Fields) (inp : List Char) (F : Fields)
    (h : parseFields pat now inp = some F) : (parseObj {} pat now inp).2 = some (dateToMsZ F.toZ) := by
  unfold parseFields at h
  cases hq : parseLoop (utf8Len inp) pat 0 inp {} with
  | none => rw [hq] at h; cases h
  | some q =>
    rw [hq, Option.map_some, Option.some.injEq] at h
    have hz := parseLoopZ_sim (utf8Len inp) {} pat 0 inp {} q hq
    rw [overlay_empty] at hz
    unfold parseObj
    simp only [hz, if_true]
    rw [fields_fill_overlay, h]

/-- the fields `time.Date` receives when the text was produced by `format pat f` and the object's
    map was `st`: present letters from the text, absent ones from the map, else from the clock -/
def mergeZ (pat : List Char) (f : Fields) (st : PStateZ) (now : Fields) : FieldsZ :=
  ⟨if 'y' ∈ pat then f.y else st.y.getD now.y, if 'm' ∈ pat then f.m else st.m.getD now.m,
   if 'd' ∈ pat then f.d else st.d.getD now.d, if 'H' ∈ pat then f.H else st.H.getD now.H,
   if 'M' ∈ pat then f.M else st.M.getD now.M, if 'S' ∈ pat then f.S else st.S.getD now.S,
   if 's' ∈ pat then f.s else st.s.getD now.s⟩

def PStateZ.Full (p : PStateZ) : Prop :=
  p.y.isSome ∧ p.m.isSome ∧ p.d.isSome ∧ p.H.isSome ∧ p.M.isSome ∧ p.S.isSome ∧ p.s.isSome

theorem getD_of_isSome {α : Type} (o : Option α) (a b : α) (h : o.isSome) : o.getD a = o.getD b := by
  cases o with
  | none => cases h
  | some x => rfl

theorem fill_full (p : PStateZ) (now : Fields) : (p.fill now).Full := by
  simp [PStateZ.fill, PStateZ.Full]

theorem parseObj_format (st : PStateZ) (pat : List Char) (f now : Fields) (hf : FieldsOk f) :
    (parseObj st pat now (format pat f)).2 = some (dateToMsZ (mergeZ pat f st now)) ∧
    (parseObj st pat now (format pat f)).1.Full := by
  have h := parseLoop_format f hf (utf8Len (format pat f)) pat 0 [] {}
    (by have := format_length f pat; have := length_le_utf8Len (format pat f); omega)
  rw [List.append_nil] at h
  have hz := parseLoopZ_sim (utf8Len (format pat f)) st pat 0 (format pat f) {} _ h
  rw [overlay_empty] at hz
  unfold parseObj
  rw [hz]
  simp only [if_true]
  refine ⟨?_, fill_full _ _⟩
  congr 2
  simp only [PStateZ.fields, PStateZ.fill, overlay, mergeZ, setAll_eq, Option.getD_some, FieldsZ.mk.injEq]
  refine ⟨?_, ?_, ?_, ?_, ?_, ?_, ?_⟩ <;> split <;> rfl

theorem mergeZ_fresh (pat : List Char) (f now : Fields) : mergeZ pat f {} now = (merge pat f now).toZ := by
  simp only [mergeZ, merge, Fields.toZ, FieldsZ.mk.injEq, Option.getD_none]
  refine ⟨?_, ?_, ?_, ?_, ?_, ?_, ?_⟩ <;> split <;> rfl

/-- fields of an actual date from 1971 on (no normalisation, no truncated subtraction) -/
def CalFields (f : Fields) : Prop := 1971 ≤ f.y ∧ 1 ≤ f.m ∧ f.m ≤ 12 ∧ 1 ≤ f.d

instance (f : Fields) : Decidable (CalFields f) := by unfold CalFields; infer_instance

/-- floor division on the integers and division on the naturals agree on the March-based count -/
theorem daysBeforeZ_cast (y' mp d : Nat) :
    (y' : Int) / 400 * 146097 + ((y' : Int) % 400 * 365 + (y' : Int) % 400 / 4 - (y' : Int) % 400 / 100) +
      (153 * (mp : Int) + 2) / 5 + d - 719469 = ((daysBefore y' + (153 * mp + 2) / 5 + d : Nat) : Int) - 719469 := by
  unfold daysBefore; omega

theorem daysFromCivilZ_cast (y m d : Nat) (hy : 1970 ≤ y) (hm1 : 1 ≤ m) (hd : 1 ≤ d) :
    daysFromCivilZ y m d = (daysFromCivil y m d : Nat) := by
  have h := dfc_unfold y m d hy hm1 hd
  unfold daysFromCivilZ
  simp only []
  rcases march_cases y m with ⟨hm, hY, hM⟩ | ⟨hm, hY, hM⟩ <;> rw [hY, hM] at h
  · rw [if_pos (show (m : Int) ≤ 2 by omega), if_neg (show ¬ (m : Int) > 2 by omega),
      show (y : Int) - 1 = ((y - 1 : Nat) : Int) by omega, show (m : Int) + 9 = ((m + 9 : Nat) : Int) by omega,
      daysBeforeZ_cast]
    omega
  · rw [if_neg (show ¬ (m : Int) ≤ 2 by omega), if_pos (show (m : Int) > 2 by omega),
      show (m : Int) - 3 = ((m - 3 : Nat) : Int) by omega, daysBeforeZ_cast]
    omega

/-- on the fields of a date from 1970 on `time.Date` normalises nothing and no subtraction is truncated -/
theorem dateToMsZ_cast (f : Fields) (hy : 1970 ≤ f.y) (h1 : 1 ≤ f.m) (h2 : f.m ≤ 12) (h3 : 1 ≤ f.d) :
    dateToMsZ f.toZ = (dateToMs f : Nat) := by
  cases f with
  | mk y m d H M S s =>
    simp only [] at hy h1 h2 h3
    rw [dateToMs_mk y m d H M S s h1 h2]
    simp only [dateToMsZ, Fields.toZ]
    rw [show (y : Int) + ((m : Int) - 1) / 12 = (y : Int) by omega,
      show ((m : Int) - 1) % 12 + 1 = (m : Int) by omega,
      daysFromCivilZ_cast y m d hy h1 h3]
    simp only [MS_DAY]
    omega

theorem fieldsOf_date (t : Nat) :
    1970 ≤ (fieldsOf t).y ∧ 1 ≤ (fieldsOf t).m ∧ (fieldsOf t).m ≤ 12 ∧ 1 ≤ (fieldsOf t).d :=
  ⟨(civil_inv (t / MS_DAY)).2.1, (civil_fields (t / MS_DAY)).1, (civil_fields (t / MS_DAY)).2.1,
    (civil_fields (t / MS_DAY)).2.2.1⟩

theorem mergeZ_all (pat : List Char) (f : Fields) (st : PStateZ) (now : Fields)
    (h : ∀ c ∈ letterList, c ∈ pat) : mergeZ pat f st now = f.toZ := by
  simp only [mergeZ, Fields.toZ, h 'y' (by decide), h 'm' (by decide), h 'd' (by decide), h 'H' (by decide),
    h 'M' (by decide), h 'S' (by decide), h 's' (by decide), if_true]

/-- all seven letters present: Parse ∘ format is the identity on instants **on any object,
    fresh or reused, whatever its map holds** -/
theorem parseObj_format_all (st : PStateZ) (pat : List Char) (now : Fields) (t : Nat)
    (h2 : t < 2900000 * MS_DAY) (hall : ∀ c ∈ letterList, c ∈ pat) :
    (parseObj st pat now (format pat (fieldsOf t))).2 = some (t : Int) := by
  obtain ⟨a1, a2, a3, a4⟩ := fieldsOf_date t
  rw [(parseObj_format st pat _ now (fieldsOf_ok' t h2)).1, mergeZ_all pat _ st now hall,
    dateToMsZ_cast _ a1 a2 a3 a4, dateToMs_fieldsOf]

end Cal
