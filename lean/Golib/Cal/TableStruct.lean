/-
  Golib.Cal.TableStruct — the algorithm of DateTimeHelper.open() is the calendar, for ANY number of
  years: the three nested loops (month lengths from `mdayLen`, leap rule `isYun` applied to the
  offset from 2000, weekday index stepping modulo 7 from Saturday, `mtime` stepping by one day)
  build exactly `table[y][m][d]` = the entry of the date (2000+y, m+1, d+1) of the proleptic
  Gregorian calendar, and hence, in iteration order, its days from 2000-01-01 on.
  No evaluation over days or years: induction over the loops, the calendar bijection of
  Golib.Cal.CivilInverse / Golib.Cal.CivilSucc, and `omega`.
  The last section is the century instance: `dateTable = map specDay (range 36525)` (`dateTable_eq`), with the
  `table[y][m][d]` lookup of every day (`table3_get`).
-/
import Golib.Cal.Table
import Golib.Cal.CivilSucc

namespace Cal

/-- the entry for absolute day number `z` (days since 1970-01-01) -/
def absDay (z : Nat) : Day :=
  ⟨(civil z).y, (civil z).m, (civil z).d, weekdayMon z, (z : Int) * MILLIS_PER_DAY⟩

/-- loop state when the next day to be written is day `z` -/
def stAbs (z : Nat) : St := ⟨weekdayMon z, (z : Int) * MILLIS_PER_DAY⟩

theorem next_mk (w : Nat) (t : Int) :
    (St.mk w t).next = ⟨if w = 6 then 0 else w + 1, t + MILLIS_PER_DAY⟩ := rfl

theorem stAbs_next (z : Nat) : (stAbs z).next = stAbs (z + 1) := by
  have : ((z : Int) * MILLIS_PER_DAY + MILLIS_PER_DAY) = ((z + 1 : Nat) : Int) * MILLIS_PER_DAY := by
    simp only [MILLIS_PER_DAY]; omega
  rw [stAbs, next_mk, wd_step, stAbs, this]

theorem specDay_abs (i : Nat) : specDay i = absDay (BASE_DAY + i) := by
  simp only [specDay, absDay, BASE_TIME, BASE_DAY, MILLIS_PER_DAY, Day.mk.injEq, true_and]
  omega

theorem init_abs : St.init = stAbs BASE_DAY ∧ daysFromCivil 2000 1 1 = BASE_DAY := by decide

theorem isYun_eq_isLeap (y : Nat) : isYun y = isLeap (y + 2000) := by
  have h4 : (y + 2000) % 4 = y % 4 := by omega
  have h100 : (y + 2000) % 100 = y % 100 := by omega
  have h400 : (y + 2000) % 400 = y % 400 := by omega
  simp only [isYun, isLeap, h4, h100, h400]

theorem monLen_eq (year mm : Nat) (h : mm < 12) :
    monLen year mm = daysInMonth (year + 2000) (mm + 1) := by
  have hy := isYun_eq_isLeap year
  have : mm = 0 ∨ mm = 1 ∨ mm = 2 ∨ mm = 3 ∨ mm = 4 ∨ mm = 5 ∨ mm = 6 ∨ mm = 7 ∨ mm = 8 ∨ mm = 9 ∨
      mm = 10 ∨ mm = 11 := by omega
  rcases this with e | e | e | e | e | e | e | e | e | e | e | e <;> subst e <;>
    simp [monLen, mdayLen, daysInMonth, hy] <;> (cases isLeap (year + 2000) <;> rfl)

theorem map_range'_get {α : Type} (F : Nat → α) (a n i : Nat) (h : i < n) :
    ((List.range' a n).map F)[i]? = some (F (a + i)) := by
  rw [List.getElem?_map, List.getElem?_range' h, Nat.one_mul]; rfl

/-- blocks of consecutive numbers, block `k` starting at `f k` and `g k` long, each ending where the
    next begins: laid end to end they are the numbers from the first start to the last end -/
theorem flatten_blocks {α : Type} (F : Nat → α) (f g : Nat → Nat) : ∀ (n a : Nat),
    (∀ k, a ≤ k → k < a + n → f (k + 1) = f k + g k) →
    f a ≤ f (a + n) ∧
      ((List.range' a n).map fun k => (List.range' (f k) (g k)).map F).flatten =
        (List.range' (f a) (f (a + n) - f a)).map F := by
  intro n
  induction n with
  | zero => intro a _; rw [Nat.add_zero, Nat.sub_self]; exact ⟨Nat.le_refl _, rfl⟩
  | succ n ih =>
    intro a h
    obtain ⟨h1, h2⟩ := ih (a + 1) (fun k hk hk' => h k (by omega) (by omega))
    have h0 := h a (Nat.le_refl _) (by omega)
    rw [show a + (n + 1) = a + 1 + n by omega]
    refine ⟨by omega, ?_⟩
    rw [List.range'_succ, List.map_cons, List.flatten_cons, h2, ← List.map_append, h0, List.range'_append_1]
    congr 2; omega

theorem dayLoop_abs (year mm : Nat) : ∀ (n dd z : Nat),
    (∀ j, j < n → civil (z + j) = ⟨year + 2000, mm + 1, dd + 1 + j⟩) →
    dayLoop year mm n dd (stAbs z) = ((List.range' z n).map absDay, stAbs (z + n)) := by
  intro n
  induction n with
  | zero => intro dd z _; simp [dayLoop]
  | succ n ih =>
    intro dd z h
    have h0 := h 0 (by omega)
    simp only [Nat.add_zero] at h0
    have ih' := ih (dd + 1) (z + 1) (fun j hj => by
      have := h (j + 1) (by omega)
      rw [show z + 1 + j = z + (j + 1) by omega, this]
      simp only [YMD.mk.injEq, true_and]; omega)
    simp only [dayLoop, stAbs_next, ih', List.range'_succ, List.map_cons]
    refine Prod.ext ?_ ?_
    · simp only [List.cons.injEq, and_true]
      simp only [absDay, h0, stAbs]
    · simp only; congr 1; omega

/-- what `table[Y-2000][m-1]` is to hold: the entries of the days of month `m` of year `Y` -/
def monthDays (Y m : Nat) : List Day :=
  (List.range' (daysFromCivil Y m 1) (daysInMonth Y m)).map absDay

/-- what `table[y]` is to hold -/
def yearDays (y : Nat) : List (List Day) :=
  (List.range' 0 12).map fun mm => monthDays (y + 2000) (mm + 1)

/-- one month: entered on its first day, the inner loop writes that month's days and leaves on
    the first day of the next month -/
theorem month_abs (year mm : Nat) (h : mm < 12) :
    dayLoop year mm (monLen year mm) 0 (stAbs (daysFromCivil (year + 2000) (mm + 1) 1)) =
      (monthDays (year + 2000) (mm + 1), stAbs (daysFromCivil (year + 2000) (mm + 1 + 1) 1)) := by
  have key := dayLoop_abs year mm (daysInMonth (year + 2000) (mm + 1)) 0
    (daysFromCivil (year + 2000) (mm + 1) 1) (fun j hj => by
      have hd := dfc_day (year + 2000) (mm + 1) 1 j (by omega) (by omega) (by omega)
      rw [← hd, civil_days (year + 2000) (mm + 1) (1 + j) (by omega) ⟨by omega, by omega, by omega, by omega⟩])
  rw [monLen_eq year mm h, key, dfc_month (year + 2000) (mm + 1) (by omega) (by omega) (by omega), monthDays]

theorem monthLoop_abs (year : Nat) : ∀ (n mm : Nat), mm + n ≤ 12 →
    monthLoop year n mm (stAbs (daysFromCivil (year + 2000) (mm + 1) 1)) =
      ((List.range' mm n).map fun k => monthDays (year + 2000) (k + 1),
        stAbs (daysFromCivil (year + 2000) (mm + n + 1) 1)) := by
  intro n
  induction n with
  | zero => intro mm _; rfl
  | succ n ih =>
    intro mm h
    rw [monthLoop, month_abs year mm (by omega), ih (mm + 1) (by omega), List.range'_succ, List.map_cons,
      show mm + 1 + n + 1 = mm + (n + 1) + 1 by omega]

theorem yearTab_abs (y : Nat) :
    yearTab y (stAbs (daysFromCivil (y + 2000) 1 1)) =
      (yearDays y, stAbs (daysFromCivil (y + 1 + 2000) 1 1)) := by
  have hm := monthLoop_abs y 12 0 (by omega)
  rw [show (0 : Nat) + 12 + 1 = 13 from rfl, dfc_year (y + 2000),
    show y + 2000 + 1 = y + 1 + 2000 by omega] at hm
  exact hm

theorem yearLoop_abs : ∀ (n y : Nat),
    yearLoop n y (stAbs (daysFromCivil (y + 2000) 1 1)) =
      ((List.range' y n).map yearDays, stAbs (daysFromCivil (y + n + 2000) 1 1)) := by
  intro n
  induction n with
  | zero => intro y; rfl
  | succ n ih =>
    intro y
    rw [yearLoop, yearTab_abs, ih (y + 1), List.range'_succ, List.map_cons,
      show y + 1 + n + 2000 = y + (n + 1) + 2000 by omega]

/-- **the table after `n` years**: `table[y][m]` holds the days of month `m+1` of year `2000+y` -/
theorem open_table (n : Nat) : (yearLoop n 0 St.init).1 = (List.range' 0 n).map yearDays := by
  have := yearLoop_abs n 0
  rw [show 0 + 2000 = 2000 from rfl, init_abs.2, ← init_abs.1] at this
  rw [this]

/-- a year's months laid end to end are the days from its 1 January up to the next -/
theorem yearDays_flatten (y : Nat) :
    daysFromCivil (y + 2000) 1 1 ≤ daysFromCivil (y + 1 + 2000) 1 1 ∧
    (yearDays y).flatten = (List.range' (daysFromCivil (y + 2000) 1 1)
      (daysFromCivil (y + 1 + 2000) 1 1 - daysFromCivil (y + 2000) 1 1)).map absDay := by
  have := flatten_blocks absDay (fun k => daysFromCivil (y + 2000) (k + 1) 1)
    (fun k => daysInMonth (y + 2000) (k + 1)) 12 0
    (fun k _ hk => dfc_month (y + 2000) (k + 1) (by omega) (by omega) (by omega))
  rw [show (0 : Nat) + 12 + 1 = 13 from rfl, dfc_year (y + 2000),
    show y + 2000 + 1 = y + 1 + 2000 by omega] at this
  exact this

/-- **the algorithm of open() is the calendar, for any number of years**: running the year loop
    for `n` years from 2000-01-01 yields exactly the `specDay`s of the days before
    (2000+n)-01-01, in order -/
theorem open_loop_is_calendar (n : Nat) :
    ∃ len, ((yearLoop n 0 St.init).1.map List.flatten).flatten = (List.range' 0 len).map specDay ∧
      BASE_DAY + len = daysFromCivil (2000 + n) 1 1 := by
  have hb := flatten_blocks absDay (fun y => daysFromCivil (y + 2000) 1 1)
    (fun y => daysFromCivil (y + 1 + 2000) 1 1 - daysFromCivil (y + 2000) 1 1) n 0
    (fun y _ _ => by have := (yearDays_flatten y).1; omega)
  rw [show 0 + 2000 = 2000 from rfl, init_abs.2, show 0 + n + 2000 = 2000 + n by omega] at hb
  refine ⟨daysFromCivil (2000 + n) 1 1 - BASE_DAY, ?_, by omega⟩
  have hy : List.flatten ∘ yearDays = _ := funext fun y => (yearDays_flatten y).2
  have hs : List.range' BASE_DAY (daysFromCivil (2000 + n) 1 1 - BASE_DAY) = _ :=
    (List.map_add_range' (a := BASE_DAY) 0 _ 1).symm
  rw [open_table, List.map_map, hy, hb.2, hs, List.map_map]
  exact List.map_congr_left (fun i _ => (specDay_abs i).symm)

/-- … and files each day under `[year - 2000][month - 1][day - 1]` -/
theorem open_lookup (n y m d : Nat) (hy : y < n) (hm : m < 12) (hd : d < daysInMonth (y + 2000) (m + 1)) :
    lookup3 (yearLoop n 0 St.init).1 y m d = some (absDay (daysFromCivil (y + 2000) (m + 1) (d + 1))) := by
  rw [lookup3, open_table, map_range'_get _ _ _ _ hy, Option.bind_some, Nat.zero_add, yearDays,
    map_range'_get _ _ _ _ hm, Option.bind_some, Nat.zero_add, monthDays, map_range'_get _ _ _ _ hd,
    Nat.add_comm d 1, dfc_day _ _ 1 d (by omega) (by omega) (by omega)]

/-- the same, by day number: day `i` from 2000-01-01 is found under its own date -/
theorem open_lookup_day (n i : Nat) (h : (civil (BASE_DAY + i)).y < 2000 + n) :
    lookup3 (yearLoop n 0 St.init).1 ((civil (BASE_DAY + i)).y - 2000) ((civil (BASE_DAY + i)).m - 1)
      ((civil (BASE_DAY + i)).d - 1) = some (specDay i) := by
  obtain ⟨⟨h1, h2, h3, h4⟩, _, _⟩ := civil_day_by_day (BASE_DAY + i)
  have h0 : civil BASE_DAY = ⟨2000, 1, 1⟩ := by decide
  have hy := civil_year_mono BASE_DAY i
  rw [h0] at hy
  have hy : 2000 ≤ (civil (BASE_DAY + i)).y := hy
  have e1 : (civil (BASE_DAY + i)).y - 2000 + 2000 = (civil (BASE_DAY + i)).y := by omega
  have e2 : (civil (BASE_DAY + i)).m - 1 + 1 = (civil (BASE_DAY + i)).m := by omega
  have e3 : (civil (BASE_DAY + i)).d - 1 + 1 = (civil (BASE_DAY + i)).d := by omega
  rw [open_lookup n _ _ _ (by omega) (by omega) (by rw [e1, e2]; omega), e1, e2, e3, days_civil, specDay_abs]

/-- **the table is the calendar**: `dateTable` is, entry by entry, the closed-form calendar
    of the 36 525 days from 2000-01-01 -/
theorem dateTable_eq : dateTable = (List.range' 0 NDAYS).map specDay := by
  obtain ⟨len, h, hl⟩ := open_loop_is_calendar 100
  have e : daysFromCivil (2000 + 100) 1 1 = 47482 := by decide
  have : len = NDAYS := by rw [e] at hl; simp only [BASE_DAY] at hl; simp only [NDAYS]; omega
  rw [dateTable, table3, h, this]

theorem dateTable_length : dateTable.length = NDAYS := by
  rw [dateTable_eq]; simp

theorem dateTable_get (i : Nat) (h : i < NDAYS) : dateTable[i]? = some (specDay i) := by
  rw [dateTable_eq, map_range'_get _ _ _ _ h, Nat.zero_add]

theorem dateTable_get_none (i : Nat) (h : NDAYS ≤ i) : dateTable[i]? = none := by
  rw [List.getElem?_eq_none]; rw [dateTable_length]; exact h

/-- the days of the table lie in the years 2000 … 2099: the year never decreases, and the table
    starts on 2000-01-01 and ends on 2099-12-31 -/
theorem specDay_year (i : Nat) (h : i < NDAYS) :
    2000 ≤ (specDay i).yyyy ∧ (specDay i).yyyy ≤ 2099 := by
  have h0 : civil BASE_DAY = ⟨2000, 1, 1⟩ := by decide
  have h1 : civil (BASE_DAY + 36524) = ⟨2099, 12, 31⟩ := by decide
  have a := civil_year_mono BASE_DAY i
  have b := civil_year_mono (BASE_DAY + i) (36524 - i)
  rw [show BASE_DAY + i + (36524 - i) = BASE_DAY + 36524 by simp only [NDAYS] at h; omega, h1] at b
  rw [h0] at a
  exact ⟨a, b⟩

/-- the three-dimensional `table[yyyy-2000][mm-1][dd-1]` holds the same day -/
theorem table3_get (i : Nat) (h : i < NDAYS) :
    lookup3 table3 ((specDay i).yyyy - 2000) ((specDay i).mm - 1) ((specDay i).dd - 1) =
      some (specDay i) :=
  open_lookup_day 100 i (by have := (specDay_year i h).2; simp only [specDay] at this; omega)

end Cal
