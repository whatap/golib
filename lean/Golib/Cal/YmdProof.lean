/-
  Golib.Cal.YmdProof — `getYmdTime` on the eight digits of a date of the table is that day's start; hence
  `getYmdTime` of `yyyymmdd t` is the start of the day of `t` (`getYmdTime_yyyymmdd`, behind `C19.ymd_inverse`).
-/
import Golib.Cal.HelperProof

namespace Cal

attribute [local irreducible] table3 dateTable dateTableA

/-- a string that begins with a digit carries no sign: `atoi` is `atoiNat` on it -/
theorem atoi_dig (k : Nat) (cs : List Char) (n : Nat) (h : atoiNat (dig k :: cs) = some n) :
    atoi (dig k :: cs) = n := by
  have := dig_ne_sign k
  unfold atoi
  split
  · rename_i e; exact absurd (List.cons.inj e).1 this.1
  · rename_i e; exact absurd (List.cons.inj e).1 this.2
  · rw [h]; rfl

theorem idxOf_sub (n k : Nat) (h : k ≤ n) : idxOf ((n : Int) - k) = some (n - k) := by
  rw [idxOf, if_neg (by omega)]; congr 1; omega

/-- on any table: the eight digits of (y, m, d) select entry `[y-2000][m-1][d-1]` -/
theorem getYmdTimeOn_specYmd (tbl : List (List (List Day))) (c : YMD) (day : Day)
    (hy : 2000 ≤ c.y ∧ c.y ≤ 2099) (hm : 1 ≤ c.m ∧ c.m ≤ 12) (hd : 1 ≤ c.d ∧ c.d ≤ 31)
    (hl : lookup3 tbl (c.y - 2000) (c.m - 1) (c.d - 1) = some day) :
    getYmdTimeOn tbl (specYmd c) = some day.time := by
  have ey : atoi (render4 c.y) = c.y := atoi_dig _ _ _
    ((congrArg atoiNat (render4_eq c.y)).trans (atoiNat_renderW 4 c.y (by decide) (by omega)))
  have em : atoi (render2 c.m) = c.m := atoi_dig _ _ _ (atoiNat_renderW 2 c.m (by decide) (by omega))
  have ed : atoi (render2 c.d) = c.d := atoi_dig _ _ _ (atoiNat_renderW 2 c.d (by decide) (by omega))
  have t4 : (specYmd c).take 4 = render4 c.y := by simp [specYmd, render4, render2]
  have t2 : ((specYmd c).drop 4).take 2 = render2 c.m := by simp [specYmd, render4, render2]
  have t3 : ((specYmd c).drop 6).take 2 = render2 c.d := by simp [specYmd, render4, render2]
  have len : (specYmd c).length = 8 := by simp [specYmd, render4, render2]
  have ne : (specYmd c).isEmpty = false := by simp [specYmd, render4]
  have i1 : idxOf ((c.y : Int) - 2000) = some (c.y - 2000) := by
    simpa using idxOf_sub c.y 2000 hy.1
  have i2 : idxOf ((c.m : Int) - 1) = some (c.m - 1) := by simpa using idxOf_sub c.m 1 hm.1
  have i3 : idxOf ((c.d : Int) - 1) = some (c.d - 1) := by simpa using idxOf_sub c.d 1 hd.1
  have g1 : ¬ ((c.y : Int) ≥ 2100) := by omega
  have g2 : ¬ ((c.y : Int) < 2000) := by omega
  unfold getYmdTimeOn
  rw [ne, t4, t2, t3, ey, em, ed]
  simp only [Bool.false_eq_true, if_false, len, Nat.lt_irrefl, g1, g2]
  simp only [i1, i2, i3, Option.bind_eq_bind, Option.bind_some, hl, Option.map_some]

/-- `getYmdTime` of the eight digits of a date of the table is that day's start -/
theorem getYmdTime_specYmd (i : Nat) (hi : i < NDAYS) :
    getYmdTime (specYmd (civil (BASE_DAY + i))) = some (BASE_TIME + (i : Int) * MILLIS_PER_DAY) := by
  have hy := specDay_year i hi
  have hf := civil_fields (BASE_DAY + i)
  have hl := table3_get i hi
  exact getYmdTimeOn_specYmd table3 (civil (BASE_DAY + i)) (specDay i) hy ⟨hf.1, hf.2.1⟩ hf.2.2 hl

/-- reading the date of an instant back gives the start of its day -/
theorem getYmdTime_yyyymmdd {t : Int} (h : InCentury t) :
    (yyyymmdd t).bind getYmdTime = some ((dayOf t : Int) * 86400000) := by
  obtain ⟨e3, e4⟩ := dayOf_sub h
  have := getYmdTime_specYmd _ e3
  rw [e4] at this
  rw [yyyymmdd_eq t h, Option.bind_some, this, ← (specDay_dayOf h).2.2]
  rfl

end Cal
