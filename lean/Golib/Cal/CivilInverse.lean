/-
  Golib.Cal.CivilInverse — `civil` inverts `daysFromCivil` on every date of the Gregorian calendar:
  `civil (daysFromCivil y m d) = (y, m, d)` whenever month is 1..12, day 1..daysInMonth, year ≥ 1970.
  Both closed forms count from 1 March, in eras of 400 years; the proof follows `civil` through
  century, year of the century, month and day — arithmetic on variables, no evaluation over days.
-/
import Golib.Cal.Civil

namespace Cal

/-- the March-based year `yoe` (0..399 within its 400-year era) ends with a 29th of February -/
def leapMarch (yoe : Nat) : Prop := yoe % 4 = 3 ∧ (yoe % 100 ≠ 99 ∨ yoe = 399)

/-- within a century: `365 * t + t / 4 + doy` = day of the century of day `doy` of its year `t`; taking off one day per
    1460 (the leap days passed, `k` days into the 1460-day cycle at the century's start) leaves
    a day number of a year of 365 days, in year `t` -/
theorem year_of_century (t doy k : Nat) (ht : t ≤ 99) (h2 : doy ≤ 365) (h3 : doy = 365 → t % 4 = 3)
    (hk : k ≤ 72) :
    365 * t ≤ 365 * t + t / 4 + doy - (k + (365 * t + t / 4 + doy)) / 1460 ∧
      365 * t + t / 4 + doy - (k + (365 * t + t / 4 + doy)) / 1460 < 365 * t + 365 := by
  omega

/-- day `e` of century `c` of the era: the centuries are 36524 days long, except that the last
    has one day more; a century starts 24·c days into the 1460-day cycle -/
theorem year_of_era (c e y doe : Nat) (hc : c ≤ 3) (he : e < 36524 ∨ (e = 36524 ∧ c = 3))
    (hy : 365 * y ≤ e - (24 * c + e) / 1460 ∧ e - (24 * c + e) / 1460 < 365 * y + 365)
    (hdoe : doe = 36524 * c + e) :
    doe < 146097 ∧ (doe + doe / 36524 - doe / 1460 - doe / 146096) / 365 = 100 * c + y := by
  have h14 : doe / 1460 = 25 * c + (24 * c + e) / 1460 := by omega
  have h36 : doe / 36524 = c + doe / 146096 := by
    rcases he with he | he <;> omega
  refine ⟨by omega, ?_⟩
  rw [h36, h14]
  omega

theorem yoe_recover (yoe doy : Nat) (h1 : yoe ≤ 399) (h2 : doy ≤ 365) (h3 : doy = 365 → leapMarch yoe) :
    let doe := yoe * 365 + yoe / 4 - yoe / 100 + doy
    doe < 146097 ∧ (doe + doe / 36524 - doe / 1460 - doe / 146096) / 365 = yoe := by
  intro doe
  simp only [leapMarch] at h3
  have hy := year_of_century (yoe % 100) doy (24 * (yoe / 100)) (by omega) h2 (by omega) (by omega)
  have := year_of_era (yoe / 100) (365 * (yoe % 100) + yoe % 100 / 4 + doy) (yoe % 100) doe (by omega)
    (by omega) hy (by simp only [doe]; omega)
  rw [show 100 * (yoe / 100) + yoe % 100 = yoe by omega] at this
  exact this

/-- the March-based month `mp` begins on day `(153 mp + 2) / 5` of the March-based year -/
theorem mp_recover (mp d : Nat) (hd1 : 1 ≤ d) (hd : d ≤ (153 * (mp + 1) + 2) / 5 - (153 * mp + 2) / 5) :
    (5 * ((153 * mp + 2) / 5 + d - 1) + 2) / 153 = mp := by
  omega

/-- March-based year and month (March = 0 … February = 11) of a date -/
def marchYear (y m : Nat) : Nat := if m ≤ 2 then y - 1 else y
def marchMonth (m : Nat) : Nat := if m > 2 then m - 3 else m + 9
/-- days from 0000-03-01 to 1 March of year `y'` -/
def daysBefore (y' : Nat) : Nat := y' / 400 * 146097 + (y' % 400 * 365 + y' % 400 / 4 - y' % 400 / 100)

theorem march_cases (y m : Nat) :
    (m ≤ 2 ∧ marchYear y m = y - 1 ∧ marchMonth m = m + 9) ∨
      (2 < m ∧ marchYear y m = y ∧ marchMonth m = m - 3) := by
  by_cases h : m ≤ 2
  · exact .inl ⟨h, if_pos h, if_neg (by omega)⟩
  · exact .inr ⟨by omega, if_neg h, if_pos (by omega)⟩

theorem daysFromCivil_eq (y m d : Nat) :
    daysFromCivil y m d = daysBefore (marchYear y m) + (153 * marchMonth m + 2) / 5 + d - 719469 := rfl

theorem daysBefore_ge (y' : Nat) (h : 1969 ≤ y') : 719162 + 365 * (y' - 1969) ≤ daysBefore y' := by
  unfold daysBefore; omega

theorem dfc_unfold (y m d : Nat) (hy : 1970 ≤ y) (hm1 : 1 ≤ m) (hd : 1 ≤ d) :
    daysFromCivil y m d + 719469 = daysBefore (marchYear y m) + (153 * marchMonth m + 2) / 5 + d := by
  have hc := march_cases y m
  have hb := daysBefore_ge (marchYear y m) (by omega)
  rw [daysFromCivil_eq]
  omega

/-- `civil` on a day number given by its March-based year and month and its day -/
theorem civil_core (y' mp d z : Nat) (hmp : mp ≤ 11) (hd1 : 1 ≤ d)
    (hd : d ≤ (153 * (mp + 1) + 2) / 5 - (153 * mp + 2) / 5)
    (hfeb : mp = 11 → d ≤ 28 ∨ (d = 29 ∧ leapMarch (y' % 400)))
    (hz : z + 719469 = daysBefore y' + (153 * mp + 2) / 5 + d) :
    civil z = ⟨if (if mp < 10 then mp + 3 else mp - 9) ≤ 2 then y' + 1 else y',
      if mp < 10 then mp + 3 else mp - 9, d⟩ := by
  obtain ⟨doy, e⟩ : ∃ doy, (153 * mp + 2) / 5 + d = doy + 1 := ⟨(153 * mp + 2) / 5 + d - 1, by omega⟩
  have h365 : doy = 365 → leapMarch (y' % 400) := by
    intro h
    rcases hfeb (by omega) with h28 | ⟨_, hl⟩
    · omega
    · exact hl
  have hr := yoe_recover (y' % 400) doy (by omega) (by omega) h365
  have hm := mp_recover mp d hd1 hd
  rw [show (153 * mp + 2) / 5 + d - 1 = doy by omega] at hm
  have hera := (Nat.div_mod_unique (a := z + 719468) (d := y' / 400) (by decide : 0 < 146097)).mpr
    ⟨by rw [daysBefore] at hz; omega, hr.1⟩
  have hy : y' % 400 + y' / 400 * 400 = y' := by omega
  have hdoy : y' % 400 * 365 + y' % 400 / 4 - y' % 400 / 100 + doy + y' % 400 / 100 - 365 * (y' % 400) -
      y' % 400 / 4 = doy := by omega
  unfold civil
  simp only []
  rw [hera.1, hera.2, hr.2, hdoy, hm, hy, show doy - (153 * mp + 2) / 5 + 1 = d by omega]

theorem isLeap_iff (y : Nat) : isLeap y = true ↔ (y % 4 = 0 ∧ y % 100 ≠ 0) ∨ y % 400 = 0 := by
  simp [isLeap]

theorem leapMarch_iff (y : Nat) (h : 1 ≤ y) : leapMarch ((y - 1) % 400) ↔ isLeap y = true := by
  rw [isLeap_iff, leapMarch]; omega

/-- a date of the Gregorian calendar -/
def ValidDate (y m d : Nat) : Prop := 1 ≤ m ∧ m ≤ 12 ∧ 1 ≤ d ∧ d ≤ daysInMonth y m

instance (y m d : Nat) : Decidable (ValidDate y m d) := by unfold ValidDate; infer_instance

theorem daysInMonth_feb (y : Nat) : daysInMonth y 2 = if isLeap y then 29 else 28 := rfl

/-- outside February the month lengths are the gaps of the March-based month starts -/
theorem daysInMonth_march (y m : Nat) (h1 : 1 ≤ m) (h2 : m ≤ 12) (hm : m ≠ 2) :
    daysInMonth y m = (153 * (marchMonth m + 1) + 2) / 5 - (153 * marchMonth m + 2) / 5 := by
  have : m = 1 ∨ m = 3 ∨ m = 4 ∨ m = 5 ∨ m = 6 ∨ m = 7 ∨ m = 8 ∨ m = 9 ∨ m = 10 ∨
      m = 11 ∨ m = 12 := by omega
  rcases this with h | h | h | h | h | h | h | h | h | h | h <;> subst h <;> rfl

/-- **day number of a date, then date of that day number, is the date** — for every date of the
    Gregorian calendar from 1970 on -/
theorem civil_days (y m d : Nat) (hy : 1970 ≤ y) (hv : ValidDate y m d) :
    civil (daysFromCivil y m d) = ⟨y, m, d⟩ := by
  obtain ⟨hm1, hm2, hd1, hd2⟩ := hv
  have hc := march_cases y m
  have hm : (if marchMonth m < 10 then marchMonth m + 3 else marchMonth m - 9) = m := by
    split <;> omega
  have hy' : (if m ≤ 2 then marchYear y m + 1 else marchYear y m) = y := by
    split <;> omega
  have hd : d ≤ (153 * (marchMonth m + 1) + 2) / 5 - (153 * marchMonth m + 2) / 5 ∧
      (marchMonth m = 11 → d ≤ 28 ∨ (d = 29 ∧ leapMarch (marchYear y m % 400))) := by
    by_cases h2 : m = 2
    · subst h2
      have hl := leapMarch_iff y (by omega)
      rw [show marchYear y 2 = y - 1 from rfl, show marchMonth 2 = 11 from rfl, hl]
      rw [daysInMonth_feb] at hd2
      split at hd2
      · rename_i h
        exact ⟨by omega, fun _ => (Nat.lt_or_ge d 29).elim (fun l => .inl (by omega))
          (fun g => .inr ⟨by omega, h⟩)⟩
      · exact ⟨by omega, fun _ => .inl hd2⟩
    · rw [daysInMonth_march y m hm1 hm2 h2] at hd2
      exact ⟨hd2, fun h => by omega⟩
  rw [civil_core (marchYear y m) (marchMonth m) d _ (by omega) hd1 hd.1 hd.2
    (dfc_unfold y m d hy hm1 hd1), hm, hy']

end Cal
