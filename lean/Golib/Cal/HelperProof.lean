/-
  Golib.Cal.HelperProof — the DateTimeHelper model agrees with the Spec calendar.  An instant from 2000-01-01 on
  selects a time of day (`dtimeOf_eq`, `hmsOf_eq`, `pad_hms`) and, up to 2099-12-31, an entry of the table
  (`entry_at`, `specDay_dayOf`); every string helper is a rendering of these two, and the unit functions count whole
  steps from the base instant (`unit_step`, any step length).
-/
import Golib.Cal.Helper
import Golib.Cal.TableStruct
import Golib.Cal.CivilSucc
import Golib.Cal.FmtLemmas

namespace Cal

attribute [local irreducible] table3 dateTable dateTableA

/-- first instant after the table: 2100-01-01T00:00:00Z -/
def END_TIME : Int := 4102444800000

/-- the property's range of instants: 2000-01-01T00:00:00.000Z … 2099-12-31T23:59:59.999Z -/
def InCentury (t : Int) : Prop := BASE_TIME ≤ t ∧ t < END_TIME

instance (t : Int) : Decidable (InCentury t) := by unfold InCentury; infer_instance

/-- Spec: days since 1970-01-01 and millisecond of the day of an instant -/
def dayOf (t : Int) : Nat := (t / 86400000).toNat
def msOfDay (t : Int) : Nat := (t % 86400000).toNat

/-- Spec: the unique decomposition of a millisecond of the day -/
def specHMS (r : Nat) : HMS := ⟨r / 3600000, r / 60000 % 60, r / 1000 % 60, r % 1000⟩

def specYmd (c : YMD) : List Char := render4 c.y ++ render2 c.m ++ render2 c.d

theorem hmsOf_eq (r : Nat) : hmsOf r = specHMS r := by
  simp only [hmsOf, specHMS, MILLIS_PER_HOUR, MILLIS_PER_MINUTE, MILLIS_PER_SECOND, HMS.mk.injEq,
    true_and]
  omega

theorem specHMS_range (r : Nat) (h : r < 86400000) :
    (specHMS r).hh < 24 ∧ (specHMS r).mm < 60 ∧ (specHMS r).ss < 60 ∧ (specHMS r).sss < 1000 ∧
    r = (specHMS r).hh * 3600000 + (specHMS r).mm * 60000 + (specHMS r).ss * 1000 + (specHMS r).sss := by
  simp only [specHMS]; omega

/-! What an instant from 2000-01-01 on selects: its time of day (the table is not consulted, so there is no upper
    bound) and, up to 2099-12-31, its entry of the table.  Each helper equation below is one `simp only` with these rules. -/

theorem dtimeOf_eq {t : Int} (h : BASE_TIME ≤ t) : dtimeOf t = msOfDay t := by
  simp only [BASE_TIME] at h
  simp only [dtimeOf, msOfDay, MILLIS_PER_DAY, BASE_TIME]
  rw [Int.tmod_eq_emod_of_nonneg (by omega)]; omega

/-- the four fields of a time of day fit their pads -/
theorem pad_hms (t : Int) :
    mk2 (specHMS (msOfDay t)).hh = render2 (specHMS (msOfDay t)).hh ∧
    mk2 (specHMS (msOfDay t)).mm = render2 (specHMS (msOfDay t)).mm ∧
    mk2 (specHMS (msOfDay t)).ss = render2 (specHMS (msOfDay t)).ss ∧
    mk3 (specHMS (msOfDay t)).sss = render3 (specHMS (msOfDay t)).sss := by
  have := specHMS_range (msOfDay t) (by unfold msOfDay; omega)
  exact ⟨mk2_pad0 _ ▸ pad0_2_eq _ (by omega), mk2_pad0 _ ▸ pad0_2_eq _ (by omega),
    mk2_pad0 _ ▸ pad0_2_eq _ (by omega), mk3_pad0 _ ▸ pad0_3_eq _ (by omega)⟩

/-- the table entry of an instant; beyond 2099-12-31 there is none (the Go code panics) -/
theorem entry_at {t : Int} (h : BASE_TIME ≤ t) :
    dateTableA[(dayIdx t).toNat]? = if t < END_TIME then some (specDay (dayOf t - BASE_DAY)) else none := by
  simp only [BASE_TIME] at h
  have e : (dayIdx t).toNat = dayOf t - BASE_DAY := by
    simp only [dayIdx, MILLIS_PER_DAY, BASE_TIME, dayOf, BASE_DAY]
    rw [Int.tdiv_eq_ediv_of_nonneg (by omega)]; omega
  rw [e, dateTableA, List.getElem?_toArray]
  split <;> rename_i h2 <;> simp only [END_TIME] at h2
  · exact dateTable_get _ (by simp only [dayOf, BASE_DAY, NDAYS]; omega)
  · exact dateTable_get_none _ (by simp only [dayOf, BASE_DAY, NDAYS]; omega)

theorem dayOf_sub {t : Int} (h : InCentury t) :
    dayOf t - BASE_DAY < NDAYS ∧ BASE_DAY + (dayOf t - BASE_DAY) = dayOf t := by
  obtain ⟨h1, h2⟩ := h
  simp only [BASE_TIME, END_TIME] at h1 h2
  simp only [dayOf, BASE_DAY, NDAYS]; omega

theorem entry_century {t : Int} (h : InCentury t) :
    dateTableA[(dayIdx t).toNat]? = some (specDay (dayOf t - BASE_DAY)) := by
  rw [entry_at h.1, if_pos h.2]

/-- the clamp of a negative index to 0 is what `toNat` does -/
theorem clampIdx_eq (i : Int) : clampIdx i = i.toNat := by
  rw [clampIdx]; split <;> omega

/-- the entry of an instant's day carries that day's date, weekday and start -/
theorem specDay_dayOf {t : Int} (h : InCentury t) :
    (specDay (dayOf t - BASE_DAY)).date = specYmd (civil (dayOf t)) ∧
    (specDay (dayOf t - BASE_DAY)).wd = weekdayMon (dayOf t) ∧
    (specDay (dayOf t - BASE_DAY)).time = (dayOf t : Int) * 86400000 := by
  obtain ⟨e3, e4⟩ := dayOf_sub h
  have hy := specDay_year _ e3
  have hf := civil_fields (dayOf t)
  simp only [specDay, e4] at hy
  refine ⟨?_, ?_, ?_⟩
  · simp only [Day.date, specDay, e4, specYmd]
    rw [← pad0_of_le 4 _ (by decide) (by omega), pad0_4_eq _ (by omega), pad0_2_eq _ (by omega),
      pad0_2_eq _ (by omega)]
  · simp only [specDay, e4]
  · simp only [specDay, BASE_TIME, MILLIS_PER_DAY, BASE_DAY] at e4 ⊢
    omega

section
variable (t : Int) (h : InCentury t)
include h

theorem yyyymmdd_eq : yyyymmdd t = some (specYmd (civil (dayOf t))) := by
  rw [yyyymmdd, clampIdx_eq, entry_century h, Option.map_some, (specDay_dayOf h).1]

theorem weekdayIdx_eq : weekdayIdx t = some (weekdayMon (dayOf t)) := by
  rw [weekdayIdx, clampIdx_eq, entry_century h, Option.map_some, (specDay_dayOf h).2.1]

theorem weekday_eq : weekday t = some (wdayLabels.getD (weekdayMon (dayOf t)) "") := by
  rw [weekday, clampIdx_eq, entry_century h, Option.map_some, Day.wday, (specDay_dayOf h).2.1]

theorem timestampWith_eq (pad : Nat → List Char) :
    timestampWith pad t = some (specYmd (civil (dayOf t)) ++ ' ' ::
    render2 (specHMS (msOfDay t)).hh ++ ':' :: render2 (specHMS (msOfDay t)).mm ++ ':' ::
    render2 (specHMS (msOfDay t)).ss ++ '.' :: pad (specHMS (msOfDay t)).sss) := by
  simp only [timestampWith, if_neg (Int.not_lt.mpr h.1), entry_century h, dtimeOf_eq h.1, hmsOf_eq, Option.map_some,
    (specDay_dayOf h).1, pad_hms]

end

/-! The time-of-day helpers do not consult the table: they are right for every instant from 2000-01-01 on. -/

section
variable (t : Int) (h : BASE_TIME ≤ t)
include h

theorem logtimeWith_eq (pad : Nat → List Char) : logtimeWith pad t =
    render2 (specHMS (msOfDay t)).hh ++ ':' :: render2 (specHMS (msOfDay t)).mm ++ ':' ::
    render2 (specHMS (msOfDay t)).ss ++ '.' :: pad (specHMS (msOfDay t)).sss := by
  simp only [logtimeWith, if_neg (Int.not_lt.mpr h), dtimeOf_eq h, hmsOf_eq, pad_hms]

theorem hhmmss_eq : hhmmss t = render2 (specHMS (msOfDay t)).hh ++ render2 (specHMS (msOfDay t)).mm ++
    render2 (specHMS (msOfDay t)).ss := by
  simp only [hhmmss, if_neg (Int.not_lt.mpr h), dtimeOf_eq h, hmsOf_eq, ← mk2_pad0, pad_hms]

theorem hhmm_eq : hhmm t = render2 (specHMS (msOfDay t)).hh ++ render2 (specHMS (msOfDay t)).mm := by
  simp only [hhmm, if_neg (Int.not_lt.mpr h), dtimeOf_eq h, hmsOf_eq, ← mk2_pad0, pad_hms]

end

theorem dateUnit_eq (t : Int) (h : BASE_TIME ≤ t) : getDateUnit t = (t - BASE_TIME) / 86400000 :=
  Int.tdiv_eq_ediv_of_nonneg (by omega)
theorem minUnit_eq (t : Int) (h : BASE_TIME ≤ t) : getMinUnit t = (t - BASE_TIME) / 60000 :=
  Int.tdiv_eq_ediv_of_nonneg (by omega)
theorem fiveMinUnit_eq (t : Int) (h : BASE_TIME ≤ t) : getFiveMinUnit t = (t - BASE_TIME) / 300000 :=
  Int.tdiv_eq_ediv_of_nonneg (by omega)

/-- one further: the quotient by `k` goes up exactly when a multiple of `k` is reached -/
theorem succ_ediv (k x : Int) (hk : 0 < k) : (x + 1) / k = x / k + if (x + 1) % k = 0 then 1 else 0 := by
  have e := Int.emod_add_mul_ediv x k
  have r0 := Int.emod_nonneg x (Int.ne_of_gt hk)
  by_cases h : x % k + 1 < k
  · have := (Int.ediv_emod_unique (a := x + 1) (r := x % k + 1) (q := x / k) hk).mpr ⟨by omega, by omega, h⟩
    rw [this.1, this.2, if_neg (by omega), Int.add_zero]
  · have := (Int.ediv_emod_unique (a := x + 1) (r := 0) (q := x / k + 1) hk).mpr
      ⟨by have := Int.emod_lt_of_pos x hk; rw [Int.mul_add, Int.mul_one]; omega, Int.le_refl 0, hk⟩
    rw [this.1, this.2, if_pos rfl]

/-- the unit functions count whole steps of some length `k` from the base instant; for any `k`: monotone, one more
    after `k`, and the count changes exactly at the multiples of `k` -/
theorem unit_step (k : Int) (hk : 0 < k) (t t' : Int) (h : BASE_TIME ≤ t) (htt : t ≤ t') :
    (t - BASE_TIME).tdiv k ≤ (t' - BASE_TIME).tdiv k ∧ (t + k - BASE_TIME).tdiv k = (t - BASE_TIME).tdiv k + 1 ∧
    (t + 1 - BASE_TIME).tdiv k = (t - BASE_TIME).tdiv k + if (t + 1 - BASE_TIME) % k = 0 then 1 else 0 := by
  have e : ∀ s, BASE_TIME ≤ s → (s - BASE_TIME).tdiv k = (s - BASE_TIME) / k :=
    fun s hs => Int.tdiv_eq_ediv_of_nonneg (by omega)
  rw [e t h, e t' (by omega), e (t + k) (by omega), e (t + 1) (by omega)]
  refine ⟨Int.ediv_le_ediv hk (by omega), ?_, ?_⟩
  · rw [show t + k - BASE_TIME = t - BASE_TIME + k by omega, Int.add_ediv_of_dvd_right (Int.dvd_refl k),
      Int.ediv_self (Int.ne_of_gt hk)]
  · rw [show t + 1 - BASE_TIME = t - BASE_TIME + 1 by omega]; exact succ_ediv k _ hk

end Cal
