/-
  Golib.Cal.DateFormat — CodeModel of util/dateutil/DateFormat.go (`format`, `Parse`, `ToInt`,
  `LPadInt`) at the rune level.

  * `fieldsOf t` stands for the seven `time.Time` accessors of the instant `t`
    (milliseconds since 1970-01-01 UTC, zone pinned to UTC): Year/Month/Day from the Spec
    calendar `civil`, Hour/Minute/Second/millisecond from the remainder.
  * `format pat f`: one pass over the pattern runes, `y m d H M S s` ↦ LPadInt(field, 4|2|2|2|2|2|3),
    any other rune is copied.
  * `parse pat now inp`: the loop of `Parse` (index `i` over the pattern runes, stops when
    `i ≥ len(dateStr)` in bytes; a field letter reads a fixed number of characters through
    `ToInt`; any other rune skips one rune of the input), then **every field that the pattern did
    not set is taken from `now`** (defect D41), then `time.Date(...)` ↦ milliseconds.
    `none` = `Parse` returned an error.
  * `ToInt`: nothing left ⇒ (0, nil); fewer than `size` left ⇒ error; `strconv.Atoi` error ⇒ error.
    (Signs are not modelled: a field text with a leading `+`/`-` is an error in the model.)
-/
import Golib.Cal.Civil
import Golib.Cal.Fmt

namespace Cal

structure Fields where
  y : Nat
  m : Nat
  d : Nat
  H : Nat
  M : Nat
  S : Nat
  s : Nat
deriving DecidableEq, Repr

def MS_DAY : Nat := 86400000

def fieldsOf (t : Nat) : Fields :=
  let c := civil (t / MS_DAY)
  let r := t % MS_DAY
  ⟨c.y, c.m, c.d, r / 3600000, r % 3600000 / 60000, r % 60000 / 1000, r % 1000⟩

/-- width of a field letter; `none` = literal rune -/
def letterWidth (c : Char) : Option Nat :=
  if c = 'y' then some 4
  else if c = 'm' ∨ c = 'd' ∨ c = 'H' ∨ c = 'M' ∨ c = 'S' then some 2
  else if c = 's' then some 3
  else none

def Fields.get (f : Fields) (c : Char) : Nat :=
  if c = 'y' then f.y else if c = 'm' then f.m else if c = 'd' then f.d else if c = 'H' then f.H
  else if c = 'M' then f.M else if c = 'S' then f.S else f.s

def fmtRune (f : Fields) (c : Char) : List Char :=
  match letterWidth c with
  | some w => pad0 w (f.get c)
  | none => [c]

def format (pat : List Char) (f : Fields) : List Char := pat.flatMap (fmtRune f)

/-- `this.date` : which letters have been set, and to what -/
structure PState where
  y : Option Nat := none
  m : Option Nat := none
  d : Option Nat := none
  H : Option Nat := none
  M : Option Nat := none
  S : Option Nat := none
  s : Option Nat := none
deriving DecidableEq, Repr

def PState.set (p : PState) (c : Char) (v : Nat) : PState :=
  if c = 'y' then { p with y := some v } else if c = 'm' then { p with m := some v }
  else if c = 'd' then { p with d := some v } else if c = 'H' then { p with H := some v }
  else if c = 'M' then { p with M := some v } else if c = 'S' then { p with S := some v }
  else { p with s := some v }

/-- `ToInt(r, size)`: result and remaining input; `none` = error -/
def toInt (inp : List Char) (size : Nat) : Option (Nat × List Char) :=
  if inp.isEmpty then some (0, [])
  else if inp.length < size then none
  else (atoiNat (inp.take size)).map fun v => (v, inp.drop size)

/-- the loop body over the remaining pattern; `i` = index of the current pattern rune,
    `sz` = byte length of the whole input -/
def parseLoop (sz : Nat) : List Char → Nat → List Char → PState → Option PState
  | [], _, _, p => some p
  | c :: pat, i, inp, p =>
    if i ≥ sz then some p else
    match letterWidth c with
    | some w =>
      match toInt inp w with
      | some (v, rest) => parseLoop sz pat (i + 1) rest (p.set c v)
      | none => none
    | none => parseLoop sz pat (i + 1) (inp.drop 1) p

def utf8Len (cs : List Char) : Nat := cs.foldl (fun n c => n + c.utf8Size) 0

/-- `time.Date(y, Month(m), d, H, M, S, ms·10⁶, UTC).UnixNano() / 10⁶` for y ≥ 1970:
    the month is normalised into 1..12 with carry into the year, everything else is linear -/
def dateToMs (f : Fields) : Nat :=
  let y := if f.m = 0 then f.y - 1 else f.y + (f.m - 1) / 12
  let m := if f.m = 0 then 12 else (f.m - 1) % 12 + 1
  daysFromCivil y m f.d * MS_DAY + f.H * 3600000 + f.M * 60000 + f.S * 1000 + f.s

/-- fields not set by the pattern are taken from `now` -/
def PState.fill (p : PState) (now : Fields) : Fields :=
  ⟨p.y.getD now.y, p.m.getD now.m, p.d.getD now.d, p.H.getD now.H, p.M.getD now.M,
   p.S.getD now.S, p.s.getD now.s⟩

/-- the seven arguments handed to `time.Date` -/
def parseFields (pat : List Char) (now : Fields) (inp : List Char) : Option Fields :=
  (parseLoop (utf8Len inp) pat 0 inp {}).map fun p => p.fill now

def parse (pat : List Char) (now : Fields) (inp : List Char) : Option Nat :=
  (parseFields pat now inp).map dateToMs

/-! Spec: the instant truncated to the fields present in the pattern — an absent field
    takes its least value (month 1, day 1, hour/minute/second/millisecond 0, year 1970). -/
def Fields.origin : Fields := ⟨1970, 1, 1, 0, 0, 0, 0⟩

def truncFields (pat : List Char) (f : Fields) : Fields :=
  ⟨if 'y' ∈ pat then f.y else 1970, if 'm' ∈ pat then f.m else 1, if 'd' ∈ pat then f.d else 1,
   if 'H' ∈ pat then f.H else 0, if 'M' ∈ pat then f.M else 0, if 'S' ∈ pat then f.S else 0,
   if 's' ∈ pat then f.s else 0⟩

def truncTo (pat : List Char) (t : Nat) : Nat := dateToMs (truncFields pat (fieldsOf t))

end Cal
