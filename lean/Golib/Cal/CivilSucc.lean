/-
  Golib.Cal.CivilSucc — the Spec calendar is the day-by-day calendar, for EVERY day number:
  `civil 0 = 1970-01-01`, `civil (z+1) = nextDay (civil z)`, and every `civil z` is a valid date
  with `daysFromCivil (civil z) = z`.  `daysFromCivil` grows by one from each valid date to the
  next (`dfc_nextDay`); since `civil` inverts it on valid dates (Golib.Cal.CivilInverse), an
  induction on the day number carries all of this along — no evaluation over days, and no second
  analysis of `civil`'s formula.
-/
import Golib.Cal.CivilInverse

namespace Cal

theorem dfc_day (y m d j : Nat) (hy : 1970 ≤ y) (hm1 : 1 ≤ m) (hd : 1 ≤ d) :
    daysFromCivil y m (d + j) = daysFromCivil y m d + j := by
  have a := dfc_unfold y m (d + j) hy hm1 (by omega)
  have b := dfc_unfold y m d hy hm1 hd
  omega

/-- a year of the era is 365 days long, 366 if it ends with a 29th of February -/
theorem era_year_step (r : Nat) (h : r < 399) :
    (r + 1) * 365 + (r + 1) / 4 - (r + 1) / 100 =
      r * 365 + r / 4 - r / 100 + if r % 4 = 3 ∧ r % 100 ≠ 99 then 366 else 365 := by
  split <;> omega

theorem daysBefore_succ (y : Nat) (hy : 1 ≤ y) :
    daysBefore y = daysBefore (y - 1) + if isLeap y then 366 else 365 := by
  have hq : ((y - 1) % 400 = 399 ∧ y / 400 = (y - 1) / 400 + 1 ∧ y % 400 = 0) ∨
      ((y - 1) % 400 < 399 ∧ y / 400 = (y - 1) / 400 ∧ y % 400 = (y - 1) % 400 + 1) := by omega
  have hl := leapMarch_iff y hy
  rw [leapMarch] at hl
  unfold daysBefore
  rcases hq with ⟨h1, h2, h3⟩ | ⟨h1, h2, h3⟩ <;> rw [h2, h3]
  · rw [if_pos (hl.mp (by omega))]; omega
  · rw [era_year_step _ h1]
    by_cases h : isLeap y = true
    · rw [if_pos h, if_pos (by have := hl.mpr h; omega)]; omega
    · rw [if_neg h, if_neg (by have := mt hl.mp h; omega)]; omega

theorem dfc_month (y m : Nat) (hy : 1970 ≤ y) (hm1 : 1 ≤ m) (hm2 : m ≤ 12) :
    daysFromCivil y (m + 1) 1 = daysFromCivil y m 1 + daysInMonth y m := by
  have a := dfc_unfold y (m + 1) 1 hy (by omega) (by omega)
  have b := dfc_unfold y m 1 hy hm1 (by omega)
  by_cases h2 : m = 2
  · -- February belongs to the March-based year before
    subst h2
    have s := daysBefore_succ y (by omega)
    rw [show marchYear y (2 + 1) = y from rfl, show marchMonth (2 + 1) = 0 from rfl] at a
    rw [show marchYear y 2 = y - 1 from rfl, show marchMonth 2 = 11 from rfl] at b
    rw [daysInMonth_feb]
    by_cases h : isLeap y = true
    · rw [if_pos h] at s ⊢; omega
    · rw [if_neg h] at s ⊢; omega
  · have c := march_cases y m
    have c' := march_cases y (m + 1)
    rw [show marchYear y (m + 1) = marchYear y m by omega,
      show marchMonth (m + 1) = marchMonth m + 1 by omega] at a
    rw [daysInMonth_march y m hm1 hm2 h2]
    omega

theorem dfc_year (y : Nat) : daysFromCivil y 13 1 = daysFromCivil (y + 1) 1 1 := rfl

theorem daysInMonth_pos (y m : Nat) : 28 ≤ daysInMonth y m ∧ daysInMonth y m ≤ 31 := by
  fun_cases daysInMonth y m <;> omega

-- `rfl` after `cases`, but not redundant: `civil_succ_of` rewrites with it; left to unfold `civil` by itself the kernel
-- runs into deep recursion there
theorem ymd_eta (c : YMD) : (⟨c.y, c.m, c.d⟩ : YMD) = c := by cases c; rfl

theorem nextDay_valid (c : YMD) (hv : ValidDate c.y c.m c.d) :
    ValidDate (nextDay c).y (nextDay c).m (nextDay c).d ∧ c.y ≤ (nextDay c).y := by
  obtain ⟨h1, h2, h3, h4⟩ := hv
  have := daysInMonth_pos c.y (c.m + 1)
  have := daysInMonth_pos (c.y + 1) 1
  fun_cases nextDay c <;> simp only [ValidDate] <;> omega

theorem dfc_nextDay (c : YMD) (hy : 1970 ≤ c.y) (hv : ValidDate c.y c.m c.d) :
    daysFromCivil (nextDay c).y (nextDay c).m (nextDay c).d = daysFromCivil c.y c.m c.d + 1 := by
  obtain ⟨h1, h2, h3, h4⟩ := hv
  have hlast : ¬ c.d < daysInMonth c.y c.m →
      daysFromCivil c.y c.m c.d + 1 = daysFromCivil c.y c.m 1 + daysInMonth c.y c.m := by
    intro h
    have : c.d = 1 + (daysInMonth c.y c.m - 1) := by omega
    rw [this, dfc_day c.y c.m 1 _ hy h1 (by omega)]
    omega
  fun_cases nextDay c
  · exact dfc_day c.y c.m c.d 1 hy h1 h3
  · rename_i hd _
    show daysFromCivil c.y (c.m + 1) 1 = _
    rw [dfc_month c.y c.m hy h1 h2, hlast hd]
  · rename_i hd _
    show daysFromCivil (c.y + 1) 1 1 = _
    rw [← dfc_year c.y, hlast hd, ← dfc_month c.y c.m hy h1 h2, show c.m = 12 by omega]

/-- from a day number whose date is valid and counts back to it, the next day number is the next
    date: that date is valid and counts to the next number, and `civil` inverts the count -/
theorem civil_succ_of (z : Nat) (hv : ValidDate (civil z).y (civil z).m (civil z).d)
    (hy : 1970 ≤ (civil z).y) (hz : daysFromCivil (civil z).y (civil z).m (civil z).d = z) :
    civil (z + 1) = nextDay (civil z) := by
  have hn := nextDay_valid (civil z) hv
  have hd := dfc_nextDay (civil z) hy hv
  have := civil_days (nextDay (civil z)).y (nextDay (civil z)).m (nextDay (civil z)).d (by omega) hn.1
  rw [hd, hz, ymd_eta] at this
  exact this

theorem civil_inv : ∀ z, ValidDate (civil z).y (civil z).m (civil z).d ∧ 1970 ≤ (civil z).y ∧
    daysFromCivil (civil z).y (civil z).m (civil z).d = z := by
  intro z
  induction z with
  | zero => decide
  | succ z ih =>
    obtain ⟨hv, hy, hz⟩ := ih
    have hn := nextDay_valid (civil z) hv
    have hd := dfc_nextDay (civil z) hy hv
    rw [civil_succ_of z hv hy hz]
    exact ⟨hn.1, by omega, by omega⟩

theorem civil_day_by_day (z : Nat) : ValidDate (civil z).y (civil z).m (civil z).d ∧
    1970 ≤ (civil z).y ∧ civil (z + 1) = nextDay (civil z) :=
  ⟨(civil_inv z).1, (civil_inv z).2.1, civil_succ_of z (civil_inv z).1 (civil_inv z).2.1 (civil_inv z).2.2⟩

theorem days_civil (z : Nat) : daysFromCivil (civil z).y (civil z).m (civil z).d = z :=
  (civil_inv z).2.2

theorem civil_fields (z : Nat) :
    1 ≤ (civil z).m ∧ (civil z).m ≤ 12 ∧ 1 ≤ (civil z).d ∧ (civil z).d ≤ 31 := by
  obtain ⟨h1, h2, h3, h4⟩ := (civil_inv z).1
  have := daysInMonth_pos (civil z).y (civil z).m
  exact ⟨h1, h2, h3, by omega⟩

theorem civil_year_mono (a : Nat) : ∀ k, (civil a).y ≤ (civil (a + k)).y := by
  intro k
  induction k with
  | zero => exact Nat.le_refl _
  | succ k ih =>
    obtain ⟨hv, _, hs⟩ := civil_day_by_day (a + k)
    have := (nextDay_valid _ hv).2
    rw [show a + (k + 1) = a + k + 1 by omega, hs]
    omega

/-- years stay four digits far beyond the century (day 2 900 000 is in year 9909) -/
theorem civil_year_lt (z : Nat) (h : z < 2900000) : (civil z).y < 10000 := by
  have h0 : civil 2900000 = ⟨9909, 12, 7⟩ := by decide
  have := civil_year_mono z (2900000 - z)
  rw [show z + (2900000 - z) = 2900000 by omega, h0] at this
  exact Nat.lt_of_le_of_lt this (by decide)

theorem wd_step (z : Nat) : (if weekdayMon z = 6 then 0 else weekdayMon z + 1) = weekdayMon (z + 1) := by
  unfold weekdayMon
  split <;> omega

end Cal
