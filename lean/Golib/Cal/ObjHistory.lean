/-
  Golib.Cal.ObjHistory — whole histories of Parse calls on one DateFormat object (`parseHistory` =
  fold of `parseObj` over the calls): the map after a history, the invariant "the map is full" that
  makes a call independent of the clock, and the variant of Parse that clears its map on entry
  (proposed repair `proposed/C19/fix-D41-reuse.diff`).  The statements over histories are in
  Golib.Props.C19.
-/
import Golib.Cal.DateFormatObjProof

namespace Cal

/-- the object's map after a history of calls -/
def stateAfter (pat : List Char) : PStateZ → List (Fields × List Char) → PStateZ
  | st, [] => st
  | st, (now, inp) :: rest => stateAfter pat (parseObj st pat now inp).1 rest

/-! ### a full map makes every later call independent of the clock — for arbitrary texts -/

theorem set_full (p : PStateZ) (c : Char) (v : Int) (h : p.Full) : (p.set c v).Full := by
  obtain ⟨h1, h2, h3, h4, h5, h6, h7⟩ := h
  rcases rune_cases c with rfl | rfl | rfl | rfl | rfl | rfl | rfl | ⟨_, e⟩
  iterate 7 refine ⟨?_, ?_, ?_, ?_, ?_, ?_, ?_⟩ <;> first | assumption | rfl
  simp only [PStateZ.set, e, if_false]
  exact ⟨h1, h2, h3, h4, h5, h6, rfl⟩

theorem parseLoopZ_full (sz : Nat) (pat : List Char) (i : Nat) (inp : List Char) (p : PStateZ)
    (h : p.Full) : (parseLoopZ sz pat i inp p).1.Full := by
  fun_induction parseLoopZ sz pat i inp p with
  | case3 c _ _ _ p _ _ _ v _ _ ih => exact ih (set_full p c v h)
  | case5 _ _ _ _ _ _ _ ih => exact ih h
  | _ => exact h

theorem fill_of_full (p : PStateZ) (now₁ now₂ : Fields) (h : p.Full) : p.fill now₁ = p.fill now₂ := by
  obtain ⟨h1, h2, h3, h4, h5, h6, h7⟩ := h
  unfold PStateZ.fill
  rw [getD_of_isSome p.y _ now₂.y h1, getD_of_isSome p.m _ now₂.m h2, getD_of_isSome p.d _ now₂.d h3,
    getD_of_isSome p.H _ now₂.H h4, getD_of_isSome p.M _ now₂.M h5, getD_of_isSome p.S _ now₂.S h6,
    getD_of_isSome p.s _ now₂.s h7]

/-- one call on a full map: result **and** new map do not depend on the clock, for any text -/
theorem parseObj_full_clock_free (st : PStateZ) (pat : List Char) (now₁ now₂ : Fields) (inp : List Char)
    (h : st.Full) : parseObj st pat now₁ inp = parseObj st pat now₂ inp := by
  have hf := parseLoopZ_full (utf8Len inp) pat 0 inp st h
  unfold parseObj
  simp only []
  rw [fill_of_full _ now₁ now₂ hf]

theorem parseObj_keeps_full (st : PStateZ) (pat : List Char) (now : Fields) (inp : List Char)
    (h : st.Full) : (parseObj st pat now inp).1.Full := by
  fun_cases parseObj st pat now inp
  · exact fill_full _ _
  · exact parseLoopZ_full (utf8Len inp) pat 0 inp st h

/-- `Parse` with `this.date = make(map[rune]int)` as its first statement -/
def parseObjReset (_st : PStateZ) (pat : List Char) (now : Fields) (inp : List Char) : PStateZ × Option Int :=
  parseObj {} pat now inp

def parseHistoryReset (pat : List Char) : PStateZ → List (Fields × List Char) → List (Option Int)
  | _, [] => []
  | st, (now, inp) :: rest =>
    let r := parseObjReset st pat now inp
    r.2 :: parseHistoryReset pat r.1 rest

end Cal
