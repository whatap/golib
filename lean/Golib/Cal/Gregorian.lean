/-
  Golib.Cal.Gregorian — the calendar defined the way a person would: by counting days.

  `gregorian z` starts at 1970-01-01 and applies, z times, the textbook successor `nextDay`
  (month lengths 31/28|29/31/30/…, February has 29 days exactly in years divisible by 4 but not
  by 100, or divisible by 400).  `weekdayIter z` starts at Thursday (index 3, Monday = 0) and steps
  modulo 7.  These are the *independent definition*; the closed forms `civil` and `weekdayMon`
  used by the rest of the development are proved equal to them for ALL days.  `daysFromCivil` has
  no counted counterpart: it is proved inverse to `civil` (`days_civil`, CivilSucc.lean).
-/
import Golib.Cal.CivilSucc

namespace Cal

def gregorian : Nat → YMD
  | 0 => ⟨1970, 1, 1⟩
  | z + 1 => nextDay (gregorian z)

def weekdayIter : Nat → Nat
  | 0 => 3
  | z + 1 => if weekdayIter z = 6 then 0 else weekdayIter z + 1

/-- the closed-form calendar is the counted calendar, for every day -/
theorem civil_eq_gregorian (z : Nat) : civil z = gregorian z := by
  induction z with
  | zero => decide
  | succ z ih => rw [(civil_day_by_day z).2.2, ih, gregorian]

theorem weekdayMon_eq_iter (z : Nat) : weekdayMon z = weekdayIter z := by
  induction z with
  | zero => rfl
  | succ z ih => rw [weekdayIter, ← ih, wd_step]

end Cal
