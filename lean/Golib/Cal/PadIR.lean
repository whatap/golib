/-
  Golib.Cal.PadIR — a small semantics for what `xlate/c19` transcribes from the source (tie A):

  * `PadStmt` — the statements of the pad functions `mk2`/`mk3` (`func(n int) string`):
    `switch n { case c₁,…: return "<lit>" + strconv.Itoa(n) }`, `if n < b { return … } else { return … }`,
    `return …`; every returned expression is a string literal followed by `strconv.Itoa(n)`.
    `evalPad prog n` runs the statements top to bottom (`none` = fell off the end / unknown shape).
  * `evalFmt fmt args` — `fmt.Sprintf` restricted to the verbs the package uses: `%d`, `%0<w>d`
    and literal characters, on non-negative arguments.
  * `Piece`, `Assign`/`Out` (`evalPieces`, `evalBody`) — the bodies of the string helpers;
    `FmtStmt`, `ParseStmt` — the clauses of `switch ch` in `DateFormat.format` and `Parse`.
-/
import Golib.Cal.Fmt

namespace Cal

/-- `"<lit>" + strconv.Itoa(n)`; the literal as code points -/
structure PadExpr where
  lit : List Nat
deriving DecidableEq, Repr

inductive PadStmt where
  | switchRet (cases : List Nat) (e : PadExpr)
  | ifLt (bound : Nat) (thenE : PadExpr) (elseE : Option PadExpr)
  | ret (e : PadExpr)
  | unknown
deriving DecidableEq, Repr

def PadExpr.eval (e : PadExpr) (n : Nat) : List Char := e.lit.map Char.ofNat ++ itoa n

def evalPad : List PadStmt → Nat → Option (List Char)
  | [], _ => none
  | .switchRet cs e :: rest, n => if cs.contains n then some (e.eval n) else evalPad rest n
  | .ifLt b t e :: rest, n =>
    if n < b then some (t.eval n) else
    match e with
    | some e => some (e.eval n)
    | none => evalPad rest n
  | .ret e :: _, n => some (e.eval n)
  | .unknown :: _, _ => none

def evalFmt : List Char → List Nat → Option (List Char)
  | [], _ => some []
  | '%' :: 'd' :: r, a :: as => (evalFmt r as).map (itoa a ++ ·)
  | '%' :: '0' :: w :: 'd' :: r, a :: as =>
    if isDig w then (evalFmt r as).map (pad0 (w.toNat - 48) a ++ ·) else none
  | '%' :: _, _ => none
  | c :: r, as => (evalFmt r as).map (c :: ·)

/-- one `buffer.WriteString(…)` of a string helper: the table entry's date string, a literal,
    or a pad function applied to the next of (hh, mm, ss, sss) -/
inductive Piece where
  | date
  | lit (cps : List Nat)
  | callMk2
  | callMk3
  | other
deriving DecidableEq, Repr

/-- run the pieces: `p2`/`p3` are the semantics of mk2/mk3, `args` the numbers in the order the
    helper computes them (hh, mm, ss[, sss]) -/
def evalPieces (p2 p3 : Nat → Option (List Char)) : List Piece → List Char → List Nat → Option (List Char)
  | [], _, _ => some []
  | .date :: r, d, as => (evalPieces p2 p3 r d as).map (d ++ ·)
  | .lit cps :: r, d, as => (evalPieces p2 p3 r d as).map (cps.map Char.ofNat ++ ·)
  | .callMk2 :: r, d, a :: as => (p2 a).bind fun x => (evalPieces p2 p3 r d as).map (x ++ ·)
  | .callMk3 :: r, d, a :: as => (p3 a).bind fun x => (evalPieces p2 p3 r d as).map (x ++ ·)
  | _, _, _ => none

/-! ### whole helper bodies: the `/ %` chain and what is written

  `Assign`: `dst := (int)(src / k)` or `dst = (int)(src % k)`, where `src` is a local variable or the
  elapsed time `time - this.BASE_TIME`.  `Out`: what the helper appends / returns, with the *names*
  of the variables it passes.  Variables live in an association list, so renaming them in the
  source changes nothing. -/

inductive Src where
  | elapsed
  | var (n : String)
deriving DecidableEq, Repr

structure Assign where
  dst : String
  isMod : Bool
  src : Src
  k : Nat
deriving DecidableEq, Repr

abbrev Env := List (String × Nat)

def Env.get (e : Env) (n : String) : Nat :=
  match e with
  | [] => 0
  | (k, v) :: r => if k = n then v else Env.get r n

def evalAssigns : List Assign → Nat → Env → Env
  | [], _, e => e
  | a :: r, el, e =>
    let x := match a.src with | .elapsed => el | .var n => e.get n
    evalAssigns r el ((a.dst, if a.isMod then x % a.k else x / a.k) :: e)

inductive Out where
  | date (idx : String)
  | lit (cps : List Nat)
  | mk2 (v : String)
  | mk3 (v : String)
  | sprintf (fmt : List Nat) (args : List String)
  | other
deriving DecidableEq, Repr

def evalOuts (p2 p3 : Nat → Option (List Char)) (dateOf : Nat → List Char) : List Out → Env → Option (List Char)
  | [], _ => some []
  | .date i :: r, e => (evalOuts p2 p3 dateOf r e).map (dateOf (e.get i) ++ ·)
  | .lit cps :: r, e => (evalOuts p2 p3 dateOf r e).map (cps.map Char.ofNat ++ ·)
  | .mk2 v :: r, e => (p2 (e.get v)).bind fun x => (evalOuts p2 p3 dateOf r e).map (x ++ ·)
  | .mk3 v :: r, e => (p3 (e.get v)).bind fun x => (evalOuts p2 p3 dateOf r e).map (x ++ ·)
  | .sprintf f args :: r, e =>
    (evalFmt (f.map Char.ofNat) (args.map e.get)).bind fun x => (evalOuts p2 p3 dateOf r e).map (x ++ ·)
  | .other :: _, _ => none

/-- a helper body for `time ≥ BASE_TIME`: run the chain on the elapsed milliseconds, then write -/
def evalBody (p2 p3 : Nat → Option (List Char)) (dateOf : Nat → List Char)
    (as : List Assign) (os : List Out) (elapsed : Nat) : Option (List Char) :=
  evalOuts p2 p3 dateOf os (evalAssigns as elapsed [])

/-! ### the rune loops of `DateFormat.format` and `DateFormat.Parse` (data only; semantics in Golib.Cal.LoopIR)

  Both functions are one `for … range this.formatStr` whose body is a `switch ch` over rune constants.
  `xlate/c19` transcribes the *whole* loop body, statement by statement; a statement it does not know
  (a flag that is toggled, a `continue`, an extra test) is `.other`, to which the semantics gives no meaning. -/

/-- the `time.Time` accessor a `format` case (or a fill statement of `Parse`) reads -/
inductive TimeSel where
  | year | month | day | hour | minute | second
  | nanoDivMod (d m : Nat)      -- int((t.UnixNano() / d) % m)
  | other
deriving DecidableEq, Repr

/-- what a clause of `switch ch` in `format` does -/
inductive FmtAct where
  | writePad (sel : TimeSel) (w : Nat)   -- buf.WriteString(LPadInt(<sel>, w))
  | writeRune                            -- buf.WriteRune(ch)
  | nop                                  -- (no default clause)
  | other
deriving DecidableEq, Repr

inductive FmtStmt where
  | switchCh (cases : List (Nat × FmtAct)) (dflt : FmtAct)
  | other
deriving DecidableEq, Repr

/-- what a clause of `switch ch` in `Parse` does -/
inductive ParseAct where
  | toIntStore (w : Nat)   -- if v, err := this.ToInt(r, w); err == nil { this.date[ch] = v } else { return 0, <error> }
  | readRune               -- r.ReadRune()
  | nop
  | other
deriving DecidableEq, Repr

inductive ParseStmt where
  | breakIfIdxGeSz         -- if i >= sz { break }   (i: the range index, sz := len(dateStr))
  | switchCh (cases : List (Nat × ParseAct)) (dflt : ParseAct)
  | other
deriving DecidableEq, Repr

end Cal
