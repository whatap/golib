/-
  Golib.Cal.Rune — a rune of a DateFormat pattern is one of the seven field letters or a literal.
  `format`, `Parse` and the field maps all branch on this; proofs about them split with `rune_cases`.
-/
import Golib.Cal.DateFormat

namespace Cal

def letterList : List Char := ['y', 'm', 'd', 'H', 'M', 'S', 's']

theorem rune_cases (c : Char) : c = 'y' ∨ c = 'm' ∨ c = 'd' ∨ c = 'H' ∨ c = 'M' ∨ c = 'S' ∨ c = 's' ∨
    (letterWidth c = none ∧ c ≠ 'y' ∧ c ≠ 'm' ∧ c ≠ 'd' ∧ c ≠ 'H' ∧ c ≠ 'M' ∧ c ≠ 'S' ∧ c ≠ 's') := by
  by_cases e : c = 'y' ∨ c = 'm' ∨ c = 'd' ∨ c = 'H' ∨ c = 'M' ∨ c = 'S' ∨ c = 's'
  · rcases e with e | e | e | e | e | e | e <;> simp [e]
  · simp only [not_or] at e
    simp [letterWidth, e]

theorem letterWidth_isSome (c : Char) : (letterWidth c).isSome = true ↔ c ∈ letterList := by
  rcases rune_cases c with rfl | rfl | rfl | rfl | rfl | rfl | rfl | ⟨h, e⟩ <;> first | decide | simp [h, e, letterList]

end Cal
