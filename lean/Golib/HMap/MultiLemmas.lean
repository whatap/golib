/-
  Golib.HMap.MultiLemmas — histories over several live containers refine slot-wise: every slot of the pool of
  CodeModel maps stays related to the same slot of the pool of Spec dictionaries, whatever the interleaving.
-/
import Golib.HMap.Multi
import Golib.HMap.LinkedStep
import Golib.HMap.PlainStep

set_option linter.unusedSectionVars false

namespace HMap
variable {K V : Type} [DecidableEq K] [DecidableEq V]

namespace LMap
variable {hash : K → Nat} {d : Desc K V}

/-- slot-wise relation between a pool of linked maps and a pool of dictionaries -/
def PoolRel (hash : K → Nat) (d : Desc K V) (dflt : LMap K V) (sdflt : S K V) (pool : Array (LMap K V)) (spool : Array (S K V)) : Prop :=
  pool.size = spool.size ∧ ∀ i, i < pool.size → Inv hash d (pool.getD i dflt) ∧ abs hash (pool.getD i dflt) = spool.getD i sdflt

/-- every history over the pool: outputs equal, every slot still refines its dictionary -/
theorem pool_refine_run (thr : Nat → Nat) (dflt : LMap K V) (sdflt : S K V) (ops : List (Nat × Op K V))
    {pool : Array (LMap K V)} {spool : Array (S K V)} (h : PoolRel hash d dflt sdflt pool spool)
    (hops : ∀ o ∈ ops, o.1 < pool.size) :
    PoolRel hash d dflt sdflt (poolRun (LMap.step hash thr d) dflt pool ops).1 (poolRun (S.step d) sdflt spool ops).1 ∧
    (poolRun (LMap.step hash thr d) dflt pool ops).2 = (poolRun (S.step d) sdflt spool ops).2 :=
  poolRun_sim (rel := fun m s => Inv hash d m ∧ abs hash m = s) (q := Eq) (qs := Eq)
    (fun _ _ op hr => have ⟨a, b⟩ := (rel_iff.mpr hr).step thr op; ⟨rel_iff.mp a, b⟩)
    rfl (fun h1 h2 => by rw [h1, h2]) dflt sdflt ops h hops

end LMap

namespace PMap
variable {hash : K → Nat} {d : PDesc K V}

def PoolRel (hash : K → Nat) (d : PDesc K V) (dflt : PMap K V) (sdflt : PS K V) (pool : Array (PMap K V)) (spool : Array (PS K V)) : Prop :=
  pool.size = spool.size ∧ ∀ i, i < pool.size → Rel hash d (pool.getD i dflt) (spool.getD i sdflt)

theorem pool_refine_run (thr : Nat → Nat) (dflt : PMap K V) (sdflt : PS K V) (ops : List (Nat × POp K V))
    {pool : Array (PMap K V)} {spool : Array (PS K V)} (h : PoolRel hash d dflt sdflt pool spool)
    (hops : ∀ o ∈ ops, o.1 < pool.size) :
    PoolRel hash d dflt sdflt (poolRun (PMap.step hash thr d) dflt pool ops).1 (poolRun (PS.step d) sdflt spool ops).1 ∧
    Outs.equiv (poolRun (PMap.step hash thr d) dflt pool ops).2 (poolRun (PS.step d) sdflt spool ops).2 :=
  poolRun_sim (rel := Rel hash d) (fun _ _ op hr => plain_refine_step thr hr op) Outs.equiv.nil Outs.equiv.cons
    dflt sdflt ops h hops

end PMap
end HMap
