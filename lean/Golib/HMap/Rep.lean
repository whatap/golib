/-
  Golib.HMap.Rep — the bucket table holds a finite map.

  `Table.Rep hash t l`: the table satisfies its invariant and looks up exactly what the association list `l`
  (distinct keys) looks up.  Only the finite map `AL.get l` matters, not the order of `l`, so `Rep.set` and
  `Rep.insert` are stated for any list with the expected lookups: the three relink modes of the linked maps and
  insertion at either end are instances.  The plain maps relate their table to the Spec's list in this way
  (`PMap.Rel`); the linked maps add that the order list is the key list of `l` (`LMap.Rel`).
-/
import Golib.HMap.TableLemmas
import Golib.HMap.SpecLemmas

set_option linter.unusedSectionVars false

namespace HMap
namespace Table
variable {K V : Type} [DecidableEq K] (hash : K → Nat)

structure Rep (t : Table K V) (l : List (K × V)) : Prop where
  inv : t.Inv hash
  get : ∀ k, t.get hash k = AL.get l k
  wf : (AL.keys l).Nodup

variable {hash} {t : Table K V} {l l' : List (K × V)}

theorem Rep.new {n : Nat} (h : 0 < n) : (Table.new n : Table K V).Rep hash [] :=
  ⟨Inv.new hash h, fun k => get_new hash n k, List.nodup_nil⟩

theorem Rep.clear (h : t.Rep hash l) : t.clear.Rep hash [] := Rep.new h.inv.pos

theorem Rep.congr (h : t.Rep hash l) (hn : (AL.keys l').Nodup) (hg : ∀ k, AL.get l' k = AL.get l k) :
    t.Rep hash l' :=
  ⟨h.inv, fun k => (h.get k).trans (hg k).symm, hn⟩

theorem Rep.set (h : t.Rep hash l) {k : K} (v : V) (hp : (AL.get l k).isSome) (hn : (AL.keys l').Nodup)
    (hg : ∀ x, AL.get l' x = if k = x then some v else AL.get l x) : (t.setExisting hash k v).Rep hash l' :=
  ⟨h.inv.setExisting hash k v,
    fun x => by rw [get_setExisting hash t h.inv.pos k x v (by rw [h.get]; exact hp), hg, h.get], hn⟩

theorem Rep.insert (h : t.Rep hash l) {k : K} (v : V) (ha : AL.get l k = none) (hn : (AL.keys l').Nodup)
    (hg : ∀ x, AL.get l' x = if k = x then some v else AL.get l x) : (t.insertNew hash k v).Rep hash l' :=
  ⟨h.inv.insertNew hash k v ((h.get k).trans ha),
    fun x => by rw [get_insertNew hash t h.inv.pos, hg, h.get], hn⟩

theorem Rep.del (h : t.Rep hash l) (k : K) : (t.del hash k).Rep hash (AL.erase l k) :=
  ⟨h.inv.del hash k, fun x => by rw [get_del hash t h.inv, AL.get_erase, h.get], AL.nodup_erase k h.wf⟩

theorem Rep.rehash (h : t.Rep hash l) : (t.rehash hash).Rep hash l :=
  ⟨h.inv.rehash hash, fun k => (get_rehash hash h.inv k).trans (h.get k), h.wf⟩

theorem Rep.mem_entries (h : t.Rep hash l) (e : K × V) : e ∈ t.entries ↔ e ∈ l := by
  obtain ⟨k, v⟩ := e
  rw [mem_entries_iff hash h.inv, h.get, AL.get_eq_some_iff h.wf]

end Table
end HMap
