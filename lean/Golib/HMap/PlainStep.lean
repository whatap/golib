/-
  Golib.HMap.PlainStep — `plain_refine_step` / `plain_refine_run` for every operation / history of the plain maps, the
  enumeration theorem, and the IntIntMap wire round trip.
-/
import Golib.HMap.PlainLemmas
import Golib.HMap.Wire

set_option linter.unusedSectionVars false
set_option linter.unusedSimpArgs false

namespace HMap

/-- equality of outputs, enumerations up to permutation (a plain hash map has no order) -/
def Out.equiv {K V : Type} : Out K V → Out K V → Prop
  | .keys a, .keys b => a.Perm b
  | .vals a, .vals b => a.Perm b
  | .ents a, .ents b => a.Perm b
  | x, y => x = y

theorem Out.equiv_of_eq {K V : Type} {x y : Out K V} (h : x = y) : Out.equiv x y := by
  subst h; cases x <;> first | rfl | exact List.Perm.refl _

/-- pointwise `Out.equiv` of two output sequences -/
inductive Outs.equiv {K V : Type} : List (Out K V) → List (Out K V) → Prop
  | nil : Outs.equiv [] []
  | cons {a b : Out K V} {as bs : List (Out K V)} : Out.equiv a b → Outs.equiv as bs → Outs.equiv (a :: as) (b :: bs)

namespace PMap
variable {K V : Type} [DecidableEq K] [DecidableEq V]
variable {hash : K → Nat} {thr : Nat → Nat} {d : PDesc K V}

theorem plain_refine_step (thr : Nat → Nat) {m : PMap K V} {s : PS K V} (h : Rel hash d m s) (op : POp K V) :
    Rel hash d (PMap.step hash thr d m op).1 (PS.step d s op).1 ∧
    Out.equiv (PMap.step hash thr d m op).2 (PS.step d s op).2 := by
  cases op with
  | put k v =>
    obtain ⟨a, b⟩ := put_rel (thr := thr) h k v
    simp only [step, PS.step]; exact ⟨a, Out.equiv_of_eq (by rw [b])⟩
  | add k v =>
    obtain ⟨a, b⟩ := add_rel (thr := thr) h k v
    simp only [step, PS.step]; exact ⟨a, Out.equiv_of_eq (by rw [b])⟩
  | addIfExist k v =>
    obtain ⟨a, b⟩ := addIfExist_rel h k v
    simp only [step, PS.step]; exact ⟨a, Out.equiv_of_eq (by rw [b])⟩
  | get k =>
    simp only [step, PS.step, get]; exact ⟨h, Out.equiv_of_eq (by rw [h.get])⟩
  | containsKey k =>
    simp only [step, PS.step, get]; exact ⟨h, Out.equiv_of_eq (by rw [h.get])⟩
  | containsValue v =>
    simp only [step, PS.step]; exact ⟨h, Out.equiv_of_eq (by rw [(entries_perm h).any_eq])⟩
  | remove k =>
    obtain ⟨a, b⟩ := remove_rel h k
    simp only [step, PS.step]; exact ⟨a, Out.equiv_of_eq (by rw [b])⟩
  | clear =>
    simp only [step, PS.step]; exact ⟨clear_rel h, Out.equiv_of_eq rfl⟩
  | size =>
    simp only [step, PS.step]; exact ⟨h, Out.equiv_of_eq (by rw [h.count])⟩
  | isEmpty =>
    simp only [step, PS.step]
    refine ⟨h, Out.equiv_of_eq ?_⟩
    have := h.count
    cases he : s.ents with
    | nil => rw [he] at this; simp at this; simp [this]
    | cons a t =>
      rw [he] at this; simp at this
      have : m.count ≠ 0 := by omega
      simp [this]
  | isFull =>
    simp only [step, PS.step]; exact ⟨h, Out.equiv_of_eq (by rw [h.count, h.max])⟩
  | setMax n =>
    simp only [step, PS.step]
    exact ⟨⟨h.tab, h.get, h.wf, h.count, rfl, h.ok⟩, Out.equiv_of_eq rfl⟩
  | putAll l =>
    simp only [step, PS.step]; exact ⟨foldl_put_rel (thr := thr) l h, Out.equiv_of_eq rfl⟩
  | sort lt =>
    simp only [step, PS.step]; exact ⟨sort_rel (thr := thr) h lt, Out.equiv_of_eq rfl⟩
  | keys =>
    simp only [step, PS.step]; exact ⟨h, (entries_perm h).map _⟩
  | values =>
    simp only [step, PS.step]; exact ⟨h, (entries_perm h).map _⟩
  | entries =>
    simp only [step, PS.step]; exact ⟨h, entries_perm h⟩

def run (hash : K → Nat) (thr : Nat → Nat) (d : PDesc K V) : PMap K V → List (POp K V) → PMap K V × List (Out K V)
  | m, [] => (m, [])
  | m, op :: ops =>
    let r := step hash thr d m op
    let rr := run hash thr d r.1 ops
    (rr.1, r.2 :: rr.2)

end PMap

namespace PS
variable {K V : Type} [DecidableEq K] [DecidableEq V]
def run (d : PDesc K V) : PS K V → List (POp K V) → PS K V × List (Out K V)
  | s, [] => (s, [])
  | s, op :: ops =>
    let r := step d s op
    let rr := run d r.1 ops
    (rr.1, r.2 :: rr.2)
end PS

namespace PMap
variable {K V : Type} [DecidableEq K] [DecidableEq V]
variable {hash : K → Nat} {d : PDesc K V}

theorem plain_refine_run (thr : Nat → Nat) (ops : List (POp K V)) {m : PMap K V} {s : PS K V} (h : Rel hash d m s) :
    Rel hash d (PMap.run hash thr d m ops).1 (PS.run d s ops).1 ∧
    Outs.equiv (PMap.run hash thr d m ops).2 (PS.run d s ops).2 := by
  induction ops generalizing m s with
  | nil => exact ⟨h, Outs.equiv.nil⟩
  | cons op ops ih =>
    obtain ⟨hr, ho⟩ := plain_refine_step thr h op
    obtain ⟨r2, o2⟩ := ih hr
    simp only [run, PS.run]
    exact ⟨r2, Outs.equiv.cons ho o2⟩

/-- the table enumerates exactly the graph of `get`, each key once -/
theorem enumerate_once {m : PMap K V} (h : m.tab.Inv hash) :
    (m.tab.entries.map Prod.fst).Nodup ∧ ∀ k v, (k, v) ∈ m.tab.entries ↔ m.tab.get hash k = some v :=
  ⟨Table.entries_keys_nodup hash h, fun _ _ => Table.mem_entries_iff hash h⟩

end PMap

open Prim

theorem run_decPair (e : Int × Int) (r : Bytes) (h : inRange 8 e.1 ∧ inRange 8 e.2) :
    P.run decPair (encPair e ++ r) = some (e, r) := by
  unfold decPair encPair
  rw [List.append_assoc, P.run_bind_some _ _ _ _ _ (run_decDecimal e.1 _ h.1)]
  rw [P.run_bind_some _ _ _ _ _ (run_decDecimal e.2 _ h.2)]
  rfl

theorem run_pairsFromBytes (es : List (Int × Int)) (r : Bytes)
    (hlen : inRange 8 (es.length : Int)) (h : ∀ e ∈ es, inRange 8 e.1 ∧ inRange 8 e.2) :
    P.run pairsFromBytes (pairsToBytes es ++ r) = some (es, r) := by
  unfold pairsFromBytes pairsToBytes
  rw [List.append_assoc, P.run_bind_some _ _ _ _ _ (run_decDecimal _ _ hlen)]
  have : ¬ ((es.length : Int) < 0) := by omega
  simp only [this, if_false, Int.toNat_natCast]
  exact run_decMany encPair decPair (fun e => inRange 8 e.1 ∧ inRange 8 e.2) run_decPair es r h

namespace PMap
variable {hash : Int → Nat} {d : PDesc Int Int}

/-- `ToObject(ToBytes(m))` into a fresh map is the same finite map as `m` -/
theorem intint_wire (thr : Nat → Nat) (cap : Nat) {m : PMap Int Int} (h : m.tab.Inv hash)
    (hlen : inRange 8 (m.tab.entries.length : Int))
    (hr : ∀ e ∈ m.tab.entries, inRange 8 e.1 ∧ inRange 8 e.2)
    (hok : ∀ e ∈ m.tab.entries, d.refuse e.1 = false) :
    let m' := toObject hash thr d (PMap.new thr cap) (toBytes m)
    (∀ k, m'.tab.get hash k = m.tab.get hash k) ∧ m'.count = m.tab.entries.length ∧ m'.tab.Inv hash := by
  intro m'
  have hdec : P.run pairsFromBytes (toBytes m) = some (m.tab.entries, []) := by
    have := run_pairsFromBytes m.tab.entries [] hlen hr
    simpa [toBytes] using this
  have hm' : m' = m.tab.entries.foldl (fun acc e => (acc.put hash thr d e.1 e.2).1) (PMap.new thr cap) := by
    show toObject hash thr d (PMap.new thr cap) (toBytes m) = _
    unfold toObject; rw [hdec]
  have hrel := foldl_put_rel (thr := thr) (d := d) m.tab.entries (Rel.new (hash := hash) (thr := thr) (d := d) cap)
  have hn := Table.entries_keys_nodup hash h
  rw [foldl_put_fresh _ [] 0 (by simpa [AL.keys] using hn) hok] at hrel
  simp only [List.nil_append] at hrel
  rw [← hm'] at hrel
  refine ⟨?_, hrel.count, hrel.tab⟩
  intro k
  rw [hrel.get]
  apply Option.ext
  intro v
  rw [AL.get_eq_some_iff hn, Table.mem_entries_iff hash h]

end PMap
end HMap
