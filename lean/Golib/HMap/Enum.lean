/-
  Golib.HMap.Enum — the enumerator *objects* of util/hmap and their HasMoreElements / Next protocol.

  Linked types (`IntKeyLinkedEnumer`, `EnumerImpl`, …): the object holds `entry`, a pointer into the
  order list; `HasMoreElements() = entry != header`, `Next*()` returns the key / value / entry of `entry`
  and advances to `entry.link_next`.  Model: `LEnum` = the keys from `entry` to the header.

  Plain types (`IntIntMapEnumer`, `IntKeyEnumer`, `IntSetEnumer`, `StringSetEnumer`): the object holds
  `(table, index, entry)`; both `HasMoreElements()` and `Next*()` first run
      for this.entry == nil && this.index > 0 { this.index--; this.entry = this.table[this.index] }
  Model: `PEnum` = (index, remaining chain) with `advance` = that loop.

  Theorems: draining an enumerator with enough fuel yields what it has left (`LEnum.drain_eq`, `PEnum.drain_eq`).  For a
  plain table opened afresh that is `entries` (`Table.drain_open`, fuel ≥ its length).  For a linked map the fuel is
  `count`: `LMap.drain_open` gives the order list *or* `count < order.length`; under the invariant (`count` is that
  length) the drain is exactly the order list, for keys, values and entries (`LMap.drain_order` in EntryLemmas).
-/
import Golib.HMap.Linked
import Golib.HMap.Plain

set_option linter.unusedSectionVars false

namespace HMap
variable {K V : Type} [DecidableEq K]

structure LEnum (K : Type) where
  rest : List K

namespace LEnum

def hasMore (e : LEnum K) : Bool := !e.rest.isEmpty

/-- `NextInt()/NextString()/NextElement()`: the key under the cursor, cursor moved to `link_next`;
    `none` when exhausted (the Go methods then panic or return the zero value) -/
def next (e : LEnum K) : Option (K × LEnum K) :=
  match e.rest with
  | [] => none
  | k :: t => some (k, ⟨t⟩)

/-- call `HasMoreElements` / `Next` until exhausted (fuel = an upper bound of the number of calls) -/
def drain : Nat → LEnum K → List K
  | 0, _ => []
  | fuel + 1, e =>
    if e.hasMore then
      match e.next with
      | some (k, e') => k :: drain fuel e'
      | none => []
    else []

/-- call `Next` exactly `n` times with no `HasMoreElements` in between -/
def takeN : Nat → LEnum K → List K
  | 0, _ => []
  | n + 1, e =>
    match e.next with
    | some (k, e') => k :: takeN n e'
    | none => []

theorem takeN_eq (n : Nat) (e : LEnum K) : takeN n e = e.rest.take n := by
  induction n generalizing e with
  | zero => simp [takeN]
  | succ n ih =>
    obtain ⟨r⟩ := e
    cases r with
    | nil => simp [takeN, next]
    | cons k t => simp [takeN, next, ih]

theorem drain_eq (e : LEnum K) (fuel : Nat) (h : e.rest.length ≤ fuel) : drain fuel e = e.rest := by
  induction fuel generalizing e with
  | zero =>
    have : e.rest = [] := List.length_eq_zero_iff.mp (by omega)
    simp [drain, this]
  | succ f ih =>
    obtain ⟨r⟩ := e
    cases r with
    | nil => simp [drain, hasMore]
    | cons k t =>
      simp only [drain, hasMore, next, List.isEmpty_cons, Bool.not_false, if_true]
      rw [ih ⟨t⟩ (by simp at h ⊢; omega)]

end LEnum

namespace LMap
variable [DecidableEq V] (hash : K → Nat)

/-- `Keys()` / `Values()` / `Entries()`: a new enumerator positioned at `header.link_next` -/
def openEnum (m : LMap K V) : LEnum K := ⟨m.order⟩

/-- what a value enumerator returns for the key under the cursor -/
def enumValues (m : LMap K V) (ks : List K) : List V := ks.filterMap (m.get hash)

def enumEntries (m : LMap K V) (ks : List K) : List (K × V) :=
  ks.filterMap (fun k => (m.get hash k).map (fun v => (k, v)))

theorem drain_open (m : LMap K V) : LEnum.drain m.count m.openEnum = m.order ∨ m.count < m.order.length := by
  by_cases h : m.order.length ≤ m.count
  · exact Or.inl (LEnum.drain_eq _ _ h)
  · exact Or.inr (by omega)

end LMap

structure PEnum (K V : Type) where
  index : Nat
  entry : Chain K V

namespace PEnum

/-- `for this.entry == nil && this.index > 0 { this.index--; this.entry = this.table[this.index] }`
    started with an empty `entry` -/
def seek (t : Table K V) : Nat → PEnum K V
  | 0 => ⟨0, []⟩
  | i + 1 => if (t.bucket i).isEmpty then seek t i else ⟨i, t.bucket i⟩

def advance (t : Table K V) (e : PEnum K V) : PEnum K V :=
  if e.entry.isEmpty then seek t e.index else e

def hasMore (t : Table K V) (e : PEnum K V) : Bool := !(advance t e).entry.isEmpty

def next (t : Table K V) (e : PEnum K V) : Option ((K × V) × PEnum K V) :=
  let e' := advance t e
  match e'.entry with
  | [] => none
  | c :: r => some (c, ⟨e'.index, r⟩)

def drain (t : Table K V) : Nat → PEnum K V → List (K × V)
  | 0, _ => []
  | fuel + 1, e =>
    if hasMore t e then
      match next t e with
      | some (c, e') => c :: drain t fuel e'
      | none => []
    else []

/-- everything the enumerator has still to yield -/
def remaining (t : Table K V) (e : PEnum K V) : List (K × V) :=
  e.entry ++ (List.range e.index).reverse.flatMap t.bucket

theorem remaining_succ (t : Table K V) (i : Nat) :
    (List.range (i + 1)).reverse.flatMap t.bucket = t.bucket i ++ (List.range i).reverse.flatMap t.bucket := by
  rw [List.range_succ, List.reverse_append]
  simp

theorem remaining_seek (t : Table K V) (i : Nat) : remaining t (seek t i) = remaining t ⟨i, []⟩ := by
  fun_induction seek t i with
  | case1 => rfl
  | case2 i h ih => rw [ih]; simp [remaining, remaining_succ, List.isEmpty_iff.mp h]
  | case3 i h => simp [remaining, remaining_succ]

theorem seek_entry_nil (t : Table K V) (i : Nat) (h : (seek t i).entry = []) : remaining t (seek t i) = [] := by
  fun_induction seek t i with
  | case1 => rfl
  | case2 i hb ih => exact ih h
  | case3 i hb => exact absurd (List.isEmpty_iff.mpr h) hb

theorem remaining_advance (t : Table K V) (e : PEnum K V) : remaining t (advance t e) = remaining t e := by
  fun_cases advance t e with
  | case1 h => rw [remaining_seek]; simp [remaining, List.isEmpty_iff.mp h]
  | case2 h => rfl

theorem advance_entry_nil (t : Table K V) (e : PEnum K V) (h : (advance t e).entry = []) : remaining t e = [] := by
  rw [← remaining_advance]
  unfold advance at h ⊢
  by_cases he : e.entry.isEmpty
  · simp only [he, if_true] at h ⊢; exact seek_entry_nil t _ h
  · simp only [he, Bool.false_eq_true, if_false] at h
    simp [h] at he

theorem drain_eq (t : Table K V) (fuel : Nat) (e : PEnum K V) (h : (remaining t e).length ≤ fuel) :
    drain t fuel e = remaining t e := by
  induction fuel generalizing e with
  | zero =>
    have : remaining t e = [] := List.length_eq_zero_iff.mp (by omega)
    simp [drain, this]
  | succ f ih =>
    unfold drain hasMore next
    cases hc : (advance t e).entry with
    | nil =>
      simp only [List.isEmpty_nil, Bool.not_true, Bool.false_eq_true, if_false]
      exact (advance_entry_nil t e hc).symm
    | cons c r =>
      simp only [List.isEmpty_cons, Bool.not_false, if_true]
      have hr : remaining t e = c :: remaining t ⟨(advance t e).index, r⟩ := by
        rw [← remaining_advance t e]
        simp [remaining, hc]
      rw [hr] at h ⊢
      simp only [hc]
      rw [ih _ (by simp at h ⊢; omega)]

/-! #### driving the enumerator without HasMoreElements (the `Size()`-driven loops of `IntSet.ToString`, `KeyArray`, …) -/

/-- call `Next` exactly `n` times with no `HasMoreElements` in between (stops early only if exhausted) -/
def takeN (t : Table K V) : Nat → PEnum K V → List (K × V)
  | 0, _ => []
  | n + 1, e =>
    match next t e with
    | some (c, e') => c :: takeN t n e'
    | none => []

/-- `Next` alone is correct: it runs the skip loop itself, so `n` bare calls yield the first `n` remaining elements -/
theorem takeN_eq (t : Table K V) (n : Nat) (e : PEnum K V) : takeN t n e = (remaining t e).take n := by
  induction n generalizing e with
  | zero => simp [takeN]
  | succ n ih =>
    unfold takeN next
    cases hc : (advance t e).entry with
    | nil => simp only [hc]; rw [advance_entry_nil t e hc]; simp
    | cons c r =>
      have hr : remaining t e = c :: remaining t ⟨(advance t e).index, r⟩ := by
        rw [← remaining_advance t e]
        simp [remaining, hc]
      simp only [hc]
      rw [hr, ih]; simp

theorem seek_seek (t : Table K V) (i : Nat) (h : (seek t i).entry.isEmpty = true) : seek t (seek t i).index = seek t i := by
  fun_induction seek t i with
  | case1 => rfl
  | case2 i hb ih => exact ih h
  | case3 i hb => exact absurd h hb

theorem advance_idem (t : Table K V) (e : PEnum K V) : advance t (advance t e) = advance t e := by
  fun_cases advance t e with
  | case1 h =>
    fun_cases advance t (seek t e.index) with
    | case1 h2 => exact seek_seek t _ h2
    | case2 h2 => rfl
  | case2 h => simp [advance, h]

end PEnum

namespace Table

/-- `Keys()/Values()/Entries()` of a plain map: `index = len(table)`, `entry = nil` -/
def openEnum (t : Table K V) : PEnum K V := ⟨t.cap, []⟩

theorem remaining_open (t : Table K V) : PEnum.remaining t t.openEnum = t.entries := by
  simp [PEnum.remaining, openEnum, entries]

/-- HasMoreElements / Next until exhausted yields exactly `entries` -/
theorem drain_open (t : Table K V) (fuel : Nat) (h : t.entries.length ≤ fuel) :
    PEnum.drain t fuel t.openEnum = t.entries := by
  rw [PEnum.drain_eq t fuel _ (by rw [remaining_open]; exact h), remaining_open]

end Table
end HMap
