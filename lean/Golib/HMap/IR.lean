/-
  Golib.HMap.IR — interpreted tie A: a statement-level reading of the Go methods of util/hmap.  First `put` / `add` /
  `_add` / `addNoOver` / `addIfExist` / `unipoint` / `remove` / `rehash`; from "read-only lookups" on, in the same
  manner, the lookups, `GetLRU`, `RemoveFirst/Last`, `clear`, `ContainsValue`, `Sort`, `ToBytes/ToObject`, the setters,
  the one-line accessors and the enumerator objects.

  `xlate/c09` transcribes the *statements* of each method, in order, into `List TSt` (top level) with
  `List FSt` for the body of `if e.key == key { … }` inside the chain loop (`Golib/Gen/C09IR.lean`,
  `C12IR.lean`).  This file gives every statement a meaning on the CodeModel state (`run`), builds the
  canonical program of a method from the type's descriptor (`canonPut`, `canonRemove`), and proves — for all
  states, keys, values, modes, hash functions and thresholds — that running the canonical program *is* the
  model step (`canonPut_linked_correct`, `canonPut_plain_correct`, `remove_linked_interp`, `remove_plain_interp`,
  `canonAddIfExist_correct`, `rehash_correct`).
  `Props/C09Gen.lean` / `C12Gen.lean` then prove, per type and method,
      ∀ inputs,  run (generated program) inputs = model step inputs
  so a mutated method (a statement dropped, reordered, another end evicted, `=` for `+=`, another return) breaks a
  universally quantified obligation, not a table lookup.

  Reading of the statements (the order list and the bucket chains are lists, see Linked.lean):
    index / hashKey           `index := hash % len(tab)` — no state change (the model recomputes the index)
    scan found                the chain loop; `found` runs when a cell with the key exists
    saveOld / assign / accumulate     `old := e.value` / `e.value = value` / `e.value += value`
    switchRelink cs           `switch m { case …: if header.link_X != e { unchain(e); chain(…) } }`
    ifMaxSwitchEvict cs       `if this.max > 0 { switch m { case …: for this.count >= this.max { remove(header.link_X.key) } } }`
    noOverGuard r             `if this.max > 0 && this.count >= this.max { return r }`
    growIfFull                `if this.count >= this.threshold { this.rehash(); tab = this.table; index = … }`
    newCell                   `e := &Entry{key, value, next: tab[index]}; tab[index] = e`
    switchLink cs             `switch m { case …: this.chain(header, header.link_next, e) / chain(header.link_prev, header, e) }`
    scanUnlink found          the `prev`-tracking loop of remove: the found cell is unlinked from its chain, then `found`
-/
import Golib.HMap.Linked
import Golib.HMap.Plain
import Golib.HMap.Types
import Golib.HMap.TableLemmas
import Golib.HMap.Wire
import Golib.HMap.Enum

set_option linter.unusedSectionVars false
set_option linter.unusedSimpArgs false

namespace HMap.IR

/-- what a `return` statement returns (the abstract result — previous value or absent — is determined by where it stands) -/
inductive Ret | old | absent | emptyStr | key | cellKey | boolT | boolF | value | cur | zero | removeResult | nothing | unknown
  deriving DecidableEq, Repr

/-- statements inside `if e.key == key { … }` -/
inductive FSt
  | saveOld | assign | accumulate
  | switchRelink (cs : List (List Mode × End))
  | relink (e : End)          -- `if header.link_X != e { unchain(e); chain(…) }` outside a switch (GetLRU)
  | countDec | clearValue | unchain
  | ret (r : Ret)
  | unknown
  deriving DecidableEq, Repr

/-- top-level statements -/
inductive TSt
  | guardEmpty (r : Ret)
  | hashKey | index
  | scan (found : List FSt)
  | scanUnlink (found : List FSt)
  | ifMaxSwitchEvict (cs : List (List Mode × End))
  | noOverGuard (r : Ret)
  | growIfFull
  | newCell
  | switchLink (cs : List (List Mode × End))
  | countInc
  | retIfEmpty (r : Ret)      -- `if this.count == 0 { return r }`
  | retRemoveEnd (e : End)    -- `return this.remove(this.header.link_X.key)`
  | clearBuckets              -- `for index := len(tab)-1; index >= 0; index-- { tab[index] = nil }`
  | headerReset               -- `header.link_next = header; header.link_prev = header`
  | countZero                 -- `this.count = 0`
  | ret (r : Ret)
  | unknown
  deriving DecidableEq, Repr

variable {K V : Type} [DecidableEq K] [DecidableEq V]

structure Cx (K V : Type) where
  m : LMap K V
  cur : Option V := none
  old : Option V := none
  ret : Option Ret := none

def caseOf (cs : List (List Mode × End)) (mode : Mode) : Option End :=
  (cs.find? (fun c => c.1.contains mode)).map (·.2)

section
variable (d : Desc K V) (hash : K → Nat) (thr : Nat → Nat) (mode : Mode) (k : K) (v : V)

def stepF (cx : Cx K V) : FSt → Cx K V
  | .saveOld => { cx with old := cx.cur }
  | .assign => { cx with m := { cx.m with tab := cx.m.tab.setExisting hash k v } }
  | .accumulate =>
    match cx.cur with
    | some c => { cx with m := { cx.m with tab := cx.m.tab.setExisting hash k (d.comb c v) } }
    | none => cx
  | .switchRelink cs =>
    match caseOf cs mode with
    | some .front => { cx with m := { cx.m with order := LMap.moveFirst cx.m.order k } }
    | some .back => { cx with m := { cx.m with order := LMap.moveLast cx.m.order k } }
    | _ => cx
  | .relink .front => { cx with m := { cx.m with order := LMap.moveFirst cx.m.order k } }
  | .relink .back => { cx with m := { cx.m with order := LMap.moveLast cx.m.order k } }
  | .relink .unknown => { cx with ret := some .unknown }
  | .countDec => { cx with m := { cx.m with count := cx.m.count - 1 } }
  | .clearValue => cx
  | .unchain => { cx with m := { cx.m with order := cx.m.order.erase k } }
  | .ret r => { cx with ret := some r }
  | .unknown => { cx with ret := some .unknown }

def runF : List FSt → Cx K V → Cx K V
  | [], cx => cx
  | s :: rest, cx => if cx.ret.isSome then cx else runF rest (stepF d hash mode k v cx s)

def stepT (cx : Cx K V) : TSt → Cx K V
  | .guardEmpty r => if d.refuse k then { cx with ret := some r } else cx
  | .hashKey => cx
  | .index => cx
  | .scan found =>
    match cx.m.tab.get hash k with
    | some c => runF d hash mode k v found { cx with cur := some c }
    | none => cx
  | .scanUnlink found =>
    match cx.m.tab.get hash k with
    | some c => runF d hash mode k v found { cx with cur := some c, m := { cx.m with tab := cx.m.tab.del hash k } }
    | none => cx
  | .ifMaxSwitchEvict cs =>
    if 0 < cx.m.max then
      match caseOf cs mode with
      | some .front => { cx with m := cx.m.evictFront hash (cx.m.count + 1) }
      | some .back => { cx with m := cx.m.evictBack hash (cx.m.count + 1) }
      | _ => cx
    else cx
  | .noOverGuard r => if cx.m.isFull then { cx with ret := some r } else cx
  | .growIfFull => { cx with m := cx.m.grow hash thr }
  | .newCell => { cx with m := { cx.m with tab := cx.m.tab.insertNew hash k v } }
  | .switchLink cs =>
    match caseOf cs mode with
    | some .front => { cx with m := { cx.m with order := k :: cx.m.order } }
    | some .back => { cx with m := { cx.m with order := cx.m.order ++ [k] } }
    | _ => cx
  | .countInc => { cx with m := { cx.m with count := cx.m.count + 1 } }
  | .retIfEmpty r => if cx.m.count = 0 then { cx with ret := some r } else cx
  | .retRemoveEnd e =>
    match (match e with | .front => cx.m.order.head? | .back => cx.m.order.getLast? | .unknown => none) with
    | some k' => { cx with m := (cx.m.remove hash k').1, ret := some .removeResult }
    | none => { cx with ret := some .removeResult }
  | .clearBuckets => { cx with m := { cx.m with tab := cx.m.tab.clear } }
  | .headerReset => { cx with m := { cx.m with order := [] } }
  | .countZero => { cx with m := { cx.m with count := 0 } }
  | .ret r => { cx with ret := some r }
  | .unknown => { cx with ret := some .unknown }

def runT : List TSt → Cx K V → Cx K V
  | [], cx => cx
  | s :: rest, cx => if cx.ret.isSome then cx else runT rest (stepT d hash thr mode k v cx s)

theorem runT_done (prog : List TSt) (cx : Cx K V) (h : cx.ret.isSome) : runT d hash thr mode k v prog cx = cx := by
  cases prog with
  | nil => rfl
  | cons s t => simp [runT, h]

/-- run a method body on a map -/
def run (prog : List TSt) (m : LMap K V) : LMap K V × Option Ret :=
  let cx := runT d hash thr mode k v prog { m := m }
  (cx.m, cx.ret)

end

inductive Upd | assign | accumulate | none
  deriving DecidableEq, Repr

/-- the shape of a put-like method: which statements it has and what it returns -/
structure PutShape where
  linked : Bool          -- has the order list (relink / evict / link statements)
  guard : Option Ret     -- `if key == "" { return r }`
  hashVar : Bool         -- `keyHash := this.hash(key)` as its own statement
  upd : Upd
  saveOld : Bool
  rFound : Ret
  noOver : Option Ret    -- addNoOver's `if full { return r }` instead of the eviction switch
  relink : Bool          -- the found branch has the relink switch
  rFresh : Ret
  deriving DecidableEq, Repr

def relinkCases : List (List Mode × End) := [([.forceFirst], .front), ([.forceLast], .back)]
def evictCases : List (List Mode × End) := [([.forceFirst, .first], .back), ([.forceLast, .last], .front)]
def linkCases : List (List Mode × End) := [([.forceFirst, .first], .front), ([.forceLast, .last], .back)]

def canonFound (p : PutShape) : List FSt :=
  (if p.saveOld then [FSt.saveOld] else []) ++
  (match p.upd with | .assign => [FSt.assign] | .accumulate => [FSt.accumulate] | .none => []) ++
  (if p.linked && p.relink then [FSt.switchRelink relinkCases] else []) ++
  [FSt.ret p.rFound]

def canonPut (p : PutShape) : List TSt :=
  (match p.guard with | some r => [TSt.guardEmpty r] | none => []) ++
  (if p.hashVar then [TSt.hashKey] else []) ++
  [TSt.index, TSt.scan (canonFound p)] ++
  (if p.linked then
    (match p.noOver with
     | some r => [TSt.noOverGuard r]
     | none => [TSt.ifMaxSwitchEvict evictCases])
   else []) ++
  [TSt.growIfFull, TSt.newCell] ++
  (if p.linked then [TSt.switchLink linkCases] else []) ++
  [TSt.countInc, TSt.ret p.rFresh]

/-- the value the model's `putWith` is called with for this shape -/
def PutShape.newv (p : PutShape) (d : Desc K V) (v : V) : Option V → V :=
  match p.upd with
  | .accumulate => S.addv d v
  | _ => fun _ => v

structure RemoveShape where
  linked : Bool
  guard : Option Ret
  saveOld : Bool
  clearValue : Bool
  rFound : Ret
  rAbsent : Ret
  deriving DecidableEq, Repr

def canonRemove (p : RemoveShape) : List TSt :=
  (match p.guard with | some r => [TSt.guardEmpty r] | none => []) ++
  [TSt.index,
   TSt.scanUnlink ([FSt.countDec] ++ (if p.saveOld then [FSt.saveOld] else []) ++
     (if p.clearValue then [FSt.clearValue] else []) ++ (if p.linked then [FSt.unchain] else []) ++ [FSt.ret p.rFound]),
   TSt.ret p.rAbsent]

def canonAddIfExist (rFound rAbsent : Ret) : List TSt :=
  [TSt.index, TSt.scan [FSt.accumulate, FSt.ret rFound], TSt.ret rAbsent]

/-! ### what the methods must do, in terms of the CodeModel -/

section
variable (d : Desc K V) (hash : K → Nat) (thr : Nat → Nat)

/-- what a put-like method of shape `p` must do, in terms of the CodeModel's `putWith` -/
def expectPut (p : PutShape) (m : LMap K V) (mode : Mode) (k : K) (v : V) : LMap K V × Option Ret :=
  let body := ((m.putWith hash thr mode k (p.newv d v)).1, some (if (m.tab.get hash k).isSome then p.rFound else p.rFresh))
  match p.guard with
  | some r => if d.refuse k then (m, some r) else body
  | none => body

def expectPutP (p : PutShape) (pm : PMap K V) (k : K) (v : V) : PMap K V × Option Ret :=
  let body := ((pm.putWith hash thr k (p.newv d v)).1, some (if (pm.tab.get hash k).isSome then p.rFound else p.rFresh))
  match p.guard with
  | some r => if d.refuse k then (pm, some r) else body
  | none => body

def expectRemove (p : RemoveShape) (m : LMap K V) (k : K) : LMap K V × Option Ret :=
  ((m.remove hash k).1, some (if (m.tab.get hash k).isSome then p.rFound else p.rAbsent))

def expectRemoveP (p : RemoveShape) (pm : PMap K V) (k : K) : PMap K V × Option Ret :=
  let body := ((pm.remove hash k).1, some (if (pm.tab.get hash k).isSome then p.rFound else p.rAbsent))
  match p.guard with
  | some r => if d.refuse k then (pm, some r) else body
  | none => body

/-! #### plain maps and sets: the same statements without the order list -/

def toP (m : LMap K V) : PMap K V := { tab := m.tab, count := m.count, threshold := m.threshold, max := m.max }
def ofP (p : PMap K V) : LMap K V := { tab := p.tab, order := [], count := p.count, threshold := p.threshold, max := p.max }

/-- run a plain type's method: the statements never touch the order list -/
def runP (prog : List TSt) (pm : PMap K V) (k : K) (v : V) : PMap K V × Option Ret :=
  let r := run d hash thr .last k v prog (ofP pm)
  (toP r.1, r.2)

end

/-! ### running a statement list, one statement at a time

    Unfolding `runT` on a whole list duplicates the context at every `if cx.ret.isSome`; the lemmas below step through a
    list with the `ret` field in view, and give the three mode switches as functions of the mode. -/

section
variable (d : Desc K V) (hash : K → Nat) (thr : Nat → Nat) (mode : Mode) (k : K) (v : V)

theorem runT_nil (cx : Cx K V) : runT d hash thr mode k v [] cx = cx := rfl

theorem runT_cons (s : TSt) (rest : List TSt) (cx : Cx K V) (h : cx.ret = none) :
    runT d hash thr mode k v (s :: rest) cx = runT d hash thr mode k v rest (stepT d hash thr mode k v cx s) := by
  simp only [runT, h, Option.isSome_none, Bool.false_eq_true, if_false]

theorem runF_nil (cx : Cx K V) : runF d hash mode k v [] cx = cx := rfl

theorem runF_cons (s : FSt) (rest : List FSt) (cx : Cx K V) (h : cx.ret = none) :
    runF d hash mode k v (s :: rest) cx = runF d hash mode k v rest (stepF d hash mode k v cx s) := by
  simp only [runF, h, Option.isSome_none, Bool.false_eq_true, if_false]

theorem stepF_relink (cx : Cx K V) :
    stepF d hash mode k v cx (.switchRelink relinkCases) = { cx with m := { cx.m with order := LMap.relink mode cx.m.order k } } := by
  cases mode <;> rfl

theorem stepT_evict (cx : Cx K V) :
    stepT d hash thr mode k v cx (.ifMaxSwitchEvict evictCases) = { cx with m := cx.m.evict hash mode } := by
  unfold LMap.evict
  by_cases hm : 0 < cx.m.max <;> simp only [stepT, hm, if_true, if_false] <;> cases mode <;> rfl

theorem stepT_link (cx : Cx K V) :
    stepT d hash thr mode k v cx (.switchLink linkCases) =
      { cx with m := { cx.m with order := if mode.atFront then k :: cx.m.order else cx.m.order ++ [k] } } := by
  cases mode <;> rfl

/-- a statement without effect (`keyHash := …`, `index := …`) can be dropped from the head of a method -/
theorem run_skip (s : TSt) (rest : List TSt) (m : LMap K V) (hs : ∀ cx : Cx K V, stepT d hash thr mode k v cx s = cx) :
    run d hash thr mode k v (s :: rest) m = run d hash thr mode k v rest m := by
  unfold run; rw [runT_cons _ _ _ _ _ _ _ _ _ rfl, hs]

theorem run_guardEmpty (r : Ret) (rest : List TSt) (m : LMap K V) :
    run d hash thr mode k v (TSt.guardEmpty r :: rest) m =
      if d.refuse k then (m, some r) else run d hash thr mode k v rest m := by
  unfold run
  rw [runT_cons _ _ _ _ _ _ _ _ _ rfl]
  cases hr : d.refuse k with
  | true => simp only [stepT, hr, if_true]; rw [runT_done _ _ _ _ _ _ _ _ rfl]
  | false => simp only [stepT, hr, Bool.false_eq_true, if_false]

theorem PutShape.newv_none (p : PutShape) : p.newv d v none = v := by
  unfold PutShape.newv; cases p.upd <;> rfl

/-- the found branch of every put-like method, for every shape: the cell receives the shape's value, is relinked where the
    shape has the relink switch, and the method returns `rFound` -/
theorem runF_canonFound (p : PutShape) (cx : Cx K V) (c : V) (hret : cx.ret = none) (hcur : cx.cur = some c)
    (hg : cx.m.tab.get hash k = some c) (hv : p.upd = .none → c = v) :
    runF d hash mode k v (canonFound p) cx =
      { cx with m := { cx.m with tab := cx.m.tab.setExisting hash k (p.newv d v (some c)),
                                 order := if p.linked && p.relink then LMap.relink mode cx.m.order k else cx.m.order },
                old := if p.saveOld then some c else cx.old, ret := some p.rFound } := by
  obtain ⟨linked, guard, hashVar, upd, saveOld, rFound, noOver, relink, rFresh⟩ := p
  obtain ⟨m, cur, old, ret⟩ := cx
  simp only at hret hcur hg; subst hret hcur
  cases upd with
  | none =>
    cases hv rfl
    cases saveOld <;> cases h : (linked && relink) <;>
      simp [canonFound, h, runF, ↓stepF_relink, stepF, PutShape.newv, Table.setExisting_same hash m.tab k v hg]
  | assign =>
    cases saveOld <;> cases h : (linked && relink) <;>
      simp [canonFound, h, runF, ↓stepF_relink, stepF, PutShape.newv]
  | accumulate =>
    cases saveOld <;> cases h : (linked && relink) <;>
      simp [canonFound, h, runF, ↓stepF_relink, stepF, PutShape.newv, S.addv]

end

/-! ### correctness of the canonical programs: they *are* the model steps -/

variable (d : Desc K V) (hash : K → Nat) (thr : Nat → Nat)

/-- the linked types: the statement list of put / add / _add is `putWith` (after the empty-key guard).  A shape without a
    value update in the found branch (the sets' `put(key, m)`) is `putWith` too when the stored value is the one put. -/
theorem canonPut_linked_correct (p : PutShape) (hl : p.linked = true) (hr : p.relink = true) (hn : p.noOver = none)
    (m : LMap K V) (mode : Mode) (k : K) (v : V) (hv : p.upd = .none → ∀ c, m.tab.get hash k = some c → c = v) :
    run d hash thr mode k v (canonPut p) m = expectPut d hash thr p m mode k v := by
  have core : run d hash thr mode k v [TSt.index, TSt.scan (canonFound p), TSt.ifMaxSwitchEvict evictCases, TSt.growIfFull,
        TSt.newCell, TSt.switchLink linkCases, TSt.countInc, TSt.ret p.rFresh] m =
      ((m.putWith hash thr mode k (p.newv d v)).1, some (if (m.tab.get hash k).isSome then p.rFound else p.rFresh)) := by
    unfold run LMap.putWith
    cases hg : m.tab.get hash k with
    | none =>
      simp only [runT_cons, runT_nil, ↓stepT_evict, ↓stepT_link, stepT, hg, PutShape.newv_none]
      rfl
    | some c =>
      simp only [runT_cons, runT_done, stepT, hg,
        runF_canonFound d hash mode k v p { m := m, cur := some c } c rfl rfl hg (fun h => hv h c hg),
        hl, hr, Bool.and_self, if_true, Option.isSome_some]
  have hk : ∀ rest, run d hash thr mode k v (TSt.hashKey :: rest) m = run d hash thr mode k v rest m :=
    fun rest => run_skip d hash thr mode k v _ rest m (fun _ => rfl)
  unfold expectPut
  obtain ⟨linked, guard, hashVar, upd, saveOld, rFound, noOver, relink, rFresh⟩ := p
  subst hl hr hn
  cases guard <;> cases hashVar <;>
    simp only [canonPut, List.cons_append, List.nil_append, run_guardEmpty, hk, core, if_true, Bool.false_eq_true, if_false]

/-- remove of the linked types: a transcribed statement list that is the canonical one of an unguarded linked shape is
    the model's `remove` -/
theorem remove_linked_interp {p : RemoveShape} {prog : List TSt} (h : prog = canonRemove p ∧ p.linked = true ∧ p.guard = none)
    (m : LMap K V) (mode : Mode) (k : K) (v : V) :
    run d hash thr mode k v prog m = expectRemove hash p m k := by
  obtain ⟨rfl, hl, hg0⟩ := h
  obtain ⟨linked, guard, saveOld, clearValue, rFound, rAbsent⟩ := p
  subst hl hg0
  unfold run canonRemove expectRemove LMap.remove
  cases hg : m.tab.get hash k with
  | none => simp only [runT_cons, runT_nil, stepT, hg, List.nil_append, List.cons_append]; rfl
  | some c =>
    cases saveOld <;> cases clearValue <;>
      simp only [runT_cons, runT_done, runF_cons, runF_nil, stepT, stepF, hg, List.nil_append, List.cons_append, if_true,
        Bool.false_eq_true, if_false, Option.isSome_some]

theorem ofP_grow (pm : PMap K V) : (ofP pm).grow hash thr = ofP (pm.grow hash thr) := by
  unfold LMap.grow PMap.grow LMap.rehash ofP
  split <;> rfl

/-- the plain types (IntIntMap.put/add, IntKeyMap.Put, IntSet.put, StringSet.unipoint): the statement list is `PMap.putWith` -/
theorem canonPut_plain_correct (p : PutShape) (hl : p.linked = false)
    (pm : PMap K V) (k : K) (v : V) (hv : p.upd = .none → ∀ c, pm.tab.get hash k = some c → c = v) :
    runP d hash thr (canonPut p) pm k v = expectPutP d hash thr p pm k v := by
  have core : run d hash thr .last k v [TSt.index, TSt.scan (canonFound p), TSt.growIfFull, TSt.newCell, TSt.countInc,
        TSt.ret p.rFresh] (ofP pm) =
      (ofP (pm.putWith hash thr k (p.newv d v)).1, some (if (pm.tab.get hash k).isSome then p.rFound else p.rFresh)) := by
    unfold run PMap.putWith
    cases hg : pm.tab.get hash k with
    | none =>
      have hg' : (ofP pm).tab.get hash k = none := hg
      simp only [runT_cons, runT_nil, stepT, hg', PutShape.newv_none, ofP_grow]
      rfl
    | some c =>
      have hg' : (ofP pm).tab.get hash k = some c := hg
      simp only [runT_cons, runT_done, stepT, hg',
        runF_canonFound d hash .last k v p { m := ofP pm, cur := some c } c rfl rfl hg' (fun h => hv h c hg),
        hl, Bool.false_and, Bool.false_eq_true, if_false, Option.isSome_some]
      rfl
  have hk : ∀ rest m, run d hash thr .last k v (TSt.hashKey :: rest) m = run d hash thr .last k v rest m :=
    fun rest m => run_skip d hash thr .last k v _ rest m (fun _ => rfl)
  unfold expectPutP runP
  obtain ⟨linked, guard, hashVar, upd, saveOld, rFound, noOver, relink, rFresh⟩ := p
  subst hl
  cases guard with
  | none =>
    cases hashVar <;>
      simp only [canonPut, List.cons_append, List.nil_append, hk, core, Bool.false_eq_true, if_false, if_true] <;> rfl
  | some r =>
    cases hashVar <;>
      simp only [canonPut, List.cons_append, List.nil_append, run_guardEmpty, hk, core, Bool.false_eq_true, if_false, if_true] <;>
      cases d.refuse k <;> rfl

/-- … and of the plain types (behind the empty-key guard where the shape has one): `PMap.remove` -/
theorem remove_plain_interp {p : RemoveShape} {prog : List TSt} (h : prog = canonRemove p ∧ p.linked = false)
    (pm : PMap K V) (k : K) (v : V) :
    runP d hash thr prog pm k v = expectRemoveP d hash p pm k := by
  obtain ⟨rfl, hl⟩ := h
  obtain ⟨linked, guard, saveOld, clearValue, rFound, rAbsent⟩ := p
  subst hl
  have core : run d hash thr .last k v (canonRemove ⟨false, none, saveOld, clearValue, rFound, rAbsent⟩) (ofP pm) =
      (ofP (pm.remove hash k).1, some (if (pm.tab.get hash k).isSome then rFound else rAbsent)) := by
    unfold run canonRemove PMap.remove
    cases hg : pm.tab.get hash k with
    | none =>
      have hg' : (ofP pm).tab.get hash k = none := hg
      simp only [runT_cons, runT_nil, stepT, hg', List.nil_append]; rfl
    | some c =>
      have hg' : (ofP pm).tab.get hash k = some c := hg
      cases saveOld <;> cases clearValue <;>
        simp only [runT_cons, runT_done, runF_cons, runF_nil, stepT, stepF, hg', List.nil_append, List.cons_append, if_true,
          Bool.false_eq_true, if_false, Option.isSome_some] <;> rfl
  unfold expectRemoveP runP
  cases guard with
  | none => rw [core]; rfl
  | some r =>
    rw [show canonRemove ⟨false, some r, saveOld, clearValue, rFound, rAbsent⟩ =
      TSt.guardEmpty r :: canonRemove ⟨false, none, saveOld, clearValue, rFound, rAbsent⟩ from rfl, run_guardEmpty, core]
    cases d.refuse k <;> rfl

theorem canonAddIfExist_correct (rFound rAbsent : Ret) (pd : PDesc K V) (pm : PMap K V) (k : K) (v : V) :
    (fun r => (toP r.1, r.2)) (run pd.toDesc hash thr .last k v (canonAddIfExist rFound rAbsent) (ofP pm)) =
      ((pm.addIfExist hash pd k v).1, some (if (pm.tab.get hash k).isSome then rFound else rAbsent)) := by
  unfold run canonAddIfExist PMap.addIfExist
  cases hg : pm.tab.get hash k with
  | none => simp [runT, stepT, ofP, toP, hg]
  | some c => simp [runT, stepT, runF, stepF, ofP, toP, hg]

/-! ### per type and method: the transcribed statements are the canonical program of the type's shape -/

theorem put_linked_interp {p : PutShape} {prog : List TSt}
    (h : prog = canonPut p ∧ p.linked = true ∧ p.relink = true ∧ p.noOver = none ∧ p.upd ≠ .none)
    (m : LMap K V) (mode : Mode) (k : K) (v : V) :
    run d hash thr mode k v prog m = expectPut d hash thr p m mode k v := by
  obtain ⟨rfl, hl, hr, hn, hu⟩ := h
  exact canonPut_linked_correct d hash thr p hl hr hn m mode k v (fun h => absurd h hu)

theorem put_set_interp {K : Type} [DecidableEq K] (d : Desc K Unit) (hash : K → Nat) (thr : Nat → Nat) {p : PutShape} {prog : List TSt}
    (h : prog = canonPut p ∧ p.linked = true ∧ p.relink = true ∧ p.noOver = none) (m : LMap K Unit) (mode : Mode) (k : K) :
    run d hash thr mode k () prog m = expectPut d hash thr p m mode k () := by
  obtain ⟨rfl, hl, hr, hn⟩ := h
  exact canonPut_linked_correct d hash thr p hl hr hn m mode k () (fun _ _ _ => rfl)

theorem put_plain_interp {p : PutShape} {prog : List TSt} (h : prog = canonPut p ∧ p.linked = false ∧ p.upd ≠ .none)
    (pm : PMap K V) (k : K) (v : V) :
    runP d hash thr prog pm k v = expectPutP d hash thr p pm k v := by
  obtain ⟨rfl, hl, hu⟩ := h
  exact canonPut_plain_correct d hash thr p hl pm k v (fun h => absurd h hu)

theorem put_plainSet_interp {K : Type} [DecidableEq K] (d : Desc K Unit) (hash : K → Nat) (thr : Nat → Nat) {p : PutShape} {prog : List TSt}
    (h : prog = canonPut p ∧ p.linked = false) (pm : PMap K Unit) (k : K) :
    runP d hash thr prog pm k () = expectPutP d hash thr p pm k () := by
  obtain ⟨rfl, hl⟩ := h
  exact canonPut_plain_correct d hash thr p hl pm k () (fun _ _ _ => rfl)


/-! ### rehash: the loop nest read as a function of its bounds -/

/-- facts of `rehash()`: `newCapacity := oldCapacity*mul + add`; `for i := oldCapacity; i > lo; i-- { walk oldMap[i-off] … }`;
    every cell is head-inserted into `newMap[hash % newCapacity]` (`byNew`), the new table is installed and the
    threshold recomputed -/
structure RehashFacts where
  mul : Nat
  add : Nat
  lo : Nat            -- loop condition `i > lo`
  off : Nat           -- bucket visited: `oldMap[i - off]`
  byNew : Bool        -- index computed modulo the NEW capacity
  headInsert : Bool   -- `e.next = newMap[index]; newMap[index] = e`
  installs : Bool     -- `this.table = newMap`
  threshold : Bool    -- `this.threshold = int(float32(newCapacity) * this.loadFactor)`
  deriving DecidableEq, Repr

def canonRehash : RehashFacts := ⟨2, 1, 0, 1, true, true, true, true⟩

/-- the buckets the loop visits, in order -/
def visited (f : RehashFacts) (cap : Nat) : List Nat :=
  ((List.range (cap + 1)).reverse.filter (fun i => decide (f.lo < i))).map (fun i => i - f.off)

def interpRehash (f : RehashFacts) (m : LMap K V) : LMap K V :=
  let n := f.mul * m.tab.cap + f.add
  let cells := (visited f m.tab.cap).flatMap m.tab.bucket
  let t := cells.foldl (fun acc e =>
      let i := hash e.1 % (if f.byNew then n else m.tab.cap)
      if f.headInsert then acc.setBucket i (e :: acc.bucket i) else acc.setBucket i [e]) (Table.new n)
  { m with tab := if f.installs then t else m.tab, threshold := if f.threshold then thr n else m.threshold }

theorem visited_canon (cap : Nat) : visited canonRehash cap = (List.range cap).reverse := by
  unfold visited canonRehash
  simp only
  induction cap with
  | zero => rfl
  | succ n ih =>
    rw [List.range_succ (n := n + 1), List.reverse_append]
    simp only [List.reverse_cons, List.reverse_nil, List.nil_append, List.singleton_append, List.filter_cons,
      Nat.zero_lt_succ, decide_true, if_true, List.map_cons, Nat.add_sub_cancel]
    rw [ih, List.range_succ, List.reverse_append]
    simp

theorem rehash_correct (m : LMap K V) : interpRehash hash thr canonRehash m = m.rehash hash thr := by
  unfold interpRehash LMap.rehash Table.rehash Table.entries
  rw [visited_canon]
  simp only [canonRehash, if_true, Table.cap_foldl_pushCell, Table.cap_new]
  have : ∀ (es : List (K × V)) (t0 : Table K V), t0.cap = 2 * m.tab.cap + 1 →
      es.foldl (fun acc e => acc.setBucket (hash e.1 % (2 * m.tab.cap + 1)) (e :: acc.bucket (hash e.1 % (2 * m.tab.cap + 1)))) t0 =
      es.foldl (Table.pushCell hash) t0 := by
    intro es
    induction es with
    | nil => intro _ _; rfl
    | cons e t ih =>
      intro t0 h0
      simp only [List.foldl_cons]
      have : Table.pushCell hash t0 e = t0.setBucket (hash e.1 % (2 * m.tab.cap + 1)) (e :: t0.bucket (hash e.1 % (2 * m.tab.cap + 1))) := by
        unfold Table.pushCell; rw [h0]
      rw [← this]
      exact ih _ (by simp [h0])
  rw [this _ _ (by simp)]

/-- the plain maps' `grow` installs exactly this table and threshold -/
theorem rehash_plain_correct (pm : PMap K V) :
    toP (interpRehash hash thr canonRehash (ofP pm)) =
      { pm with tab := pm.tab.rehash hash, threshold := thr (pm.tab.rehash hash).cap } := by
  rw [rehash_correct]; rfl

/-! ### read-only lookups, GetLRU, RemoveFirst / RemoveLast, clear -/

/-- `Get` / `ContainsKey` / `Contains`: `[index, scan [ret rF], ret rA]` (optionally behind the empty-key guard) leaves the
    map unchanged and answers by presence -/
def canonLookup (guard : Option Ret) (rF rA : Ret) : List TSt :=
  (match guard with | some r => [TSt.guardEmpty r] | none => []) ++ [TSt.index, TSt.scan [FSt.ret rF], TSt.ret rA]

theorem canonLookup_correct (guard : Option Ret) (rF rA : Ret) (m : LMap K V) (mode : Mode) (k : K) (v : V) :
    run d hash thr mode k v (canonLookup guard rF rA) m =
      (m, some (match guard with
                | some r => if d.refuse k then r else if (m.tab.get hash k).isSome then rF else rA
                | none => if (m.tab.get hash k).isSome then rF else rA)) := by
  have core : run d hash thr mode k v [TSt.index, TSt.scan [FSt.ret rF], TSt.ret rA] m =
      (m, some (if (m.tab.get hash k).isSome then rF else rA)) := by
    unfold run
    cases hg : m.tab.get hash k <;> simp [runT, stepT, runF, stepF, hg]
  cases guard with
  | none => simpa [canonLookup] using core
  | some r =>
    simp only [canonLookup, List.cons_append, List.nil_append]
    rw [run_guardEmpty, core]
    cases d.refuse k <;> simp

/-- … and for a plain type, through `runP` -/
theorem canonLookup_plain_correct (guard : Option Ret) (rF rA : Ret) (pm : PMap K V) (k : K) (v : V) :
    runP d hash thr (canonLookup guard rF rA) pm k v =
      (pm, some (match guard with
                 | some r => if d.refuse k then r else if (pm.tab.get hash k).isSome then rF else rA
                 | none => if (pm.tab.get hash k).isSome then rF else rA)) := by
  unfold runP; rw [canonLookup_correct]; rfl

/-- `GetLRU`: the found cell is relinked to the back, its value returned -/
def canonGetLRU : List TSt := [TSt.index, TSt.scan [FSt.saveOld, FSt.relink .back, FSt.ret .old], TSt.ret .absent]

/-- `RemoveFirst` / `RemoveLast`: `if count == 0 { return r }; return this.remove(header.link_X.key)` -/
def canonRemoveEnd (r : Ret) (e : End) : List TSt := [TSt.retIfEmpty r, TSt.retRemoveEnd e]

theorem canonRemoveEnd_correct (r : Ret) (m : LMap K V) (mode : Mode) (k : K) (v : V) :
    (run d hash thr mode k v (canonRemoveEnd r .front) m).1 = (LMap.step hash thr d m .removeFirst).1 ∧
    (run d hash thr mode k v (canonRemoveEnd r .back) m).1 = (LMap.step hash thr d m .removeLast).1 := by
  unfold run canonRemoveEnd
  constructor
  · by_cases hc : m.count = 0
    · simp [runT, stepT, hc, LMap.step]
    · cases ho : m.order.head? <;> simp [runT, stepT, hc, LMap.step, ho]
  · by_cases hc : m.count = 0
    · simp [runT, stepT, hc, LMap.step]
    · cases ho : m.order.getLast? <;> simp [runT, stepT, hc, LMap.step, ho]

/-- `clear()` of the linked types -/
def canonClear : List TSt := [TSt.clearBuckets, TSt.headerReset, TSt.countZero]

theorem canonClear_correct (m : LMap K V) (mode : Mode) (k : K) (v : V) :
    run d hash thr mode k v canonClear m = (m.clear, none) := by
  unfold run canonClear LMap.clear
  simp [runT, stepT]

/-- `clear()` of the plain types (IntIntMap returns at once when empty) -/
def canonClearP (early : Bool) : List TSt :=
  (if early then [TSt.retIfEmpty .nothing] else []) ++ [TSt.clearBuckets, TSt.countZero]

theorem canonClearP_correct (early : Bool) (pm : PMap K V) (k : K) (v : V) :
    toP (run d hash thr .last k v (canonClearP early) (ofP pm)).1 = (if early ∧ pm.count = 0 then pm else pm.clear) := by
  unfold run canonClearP PMap.clear
  cases early
  · simp [runT, stepT, toP, ofP]
  · by_cases hc : pm.count = 0
    · obtain ⟨tab, count, threshold, max⟩ := pm
      simp only at hc; subst hc
      simp [runT, stepT, toP, ofP]
    · simp [runT, stepT, toP, ofP, hc]

/-- a transcribed `clear()` of a plain type in either accepted form -/
theorem clearP_interp {prog : List TSt} (h : prog = canonClearP false ∨ prog = canonClearP true) (pm : PMap K V) (k : K) (v : V) :
    ∃ early, toP (run d hash thr .last k v prog (ofP pm)).1 = (if early = true ∧ pm.count = 0 then pm else pm.clear) :=
  h.elim (fun e => ⟨false, e ▸ canonClearP_correct d hash thr false pm k v⟩)
    (fun e => ⟨true, e ▸ canonClearP_correct d hash thr true pm k v⟩)

/-! ### ContainsValue and Sort: loop nests read as functions of their bounds -/

/-- `for i := <start>; i <cond> lo; i-- { for e := tab[i - off]; … if e.value == value { return true } } return false`
    (`fromLen`: start is `len(tab)`, else `len(tab) - 1`; `strict`: the condition is `i > lo`, else `i >= lo`) -/
structure CVFacts where
  fromLen : Bool
  strict : Bool
  lo : Nat
  off : Nat
  comparesValue : Bool
  deriving DecidableEq, Repr

def cvVisited (f : CVFacts) (cap : Nat) : List Nat :=
  let start := if f.fromLen then cap else cap - 1
  let is := (List.range (start + 1)).reverse.filter (fun i => if f.strict then decide (f.lo < i) else decide (f.lo ≤ i))
  -- with `len(tab) - 1` as start an empty table is never entered (the Go int would be -1)
  (if f.fromLen || 0 < cap then is else []).map (fun i => i - f.off)

def interpCV (f : CVFacts) (m : LMap K V) (v : V) : Bool :=
  f.comparesValue && ((cvVisited f m.tab.cap).flatMap m.tab.bucket).any (fun e => d.veq e.2 v)

def canonCVa : CVFacts := ⟨true, true, 0, 1, true⟩    -- i := len(tab); i > 0; tab[i-1]
def canonCVb : CVFacts := ⟨false, false, 0, 0, true⟩  -- i := len(tab)-1; i >= 0; tab[i]

theorem cvVisited_a (cap : Nat) : cvVisited canonCVa cap = (List.range cap).reverse := by
  have := visited_canon cap
  unfold visited canonRehash at this
  unfold cvVisited canonCVa
  simpa using this

theorem cvVisited_b (cap : Nat) : cvVisited canonCVb cap = (List.range cap).reverse := by
  unfold cvVisited canonCVb
  cases cap with
  | zero => simp
  | succ n => simp

theorem interpCV_correct (m : LMap K V) (v : V) :
    interpCV d canonCVa m v = (LMap.step hash thr d m (.containsValue v)).2.isTrue ∧
    interpCV d canonCVb m v = (LMap.step hash thr d m (.containsValue v)).2.isTrue := by
  unfold interpCV
  rw [cvVisited_a, cvVisited_b]
  simp [LMap.step, Table.entries, canonCVa, canonCVb, Out.isTrue]

/-- `Sort`: collect `count` entries with the entry enumerator, `sort.Sort` by key under the comparator, `clear()`, re-`put` each
    with the stated mode -/
structure SortFacts where
  collectsEntries : Bool   -- `list[i] = en.NextElement()` (or the order-list walk) for i < count
  sortsByKey : Bool        -- `sort.Sort(…{compare: c, data: list})` with `Less = compare(data[i].GetKey(), data[j].GetKey())`
  clears : Bool
  reput : Option Mode      -- `this.put(list[i].GetKey(), list[i].GetValue(), <mode>)`
  deriving DecidableEq, Repr

def canonSort : SortFacts := ⟨true, true, true, some .last⟩

def interpSort (f : SortFacts) (m : LMap K V) (lt : K → K → Bool) : LMap K V :=
  let es := if f.collectsEntries then m.entries hash else []
  let sorted := if f.sortsByKey then AL.sortEnts lt es else es
  let m0 := if f.clears then m.clear else m
  match f.reput with
  | some mode => sorted.foldl (fun acc e => (acc.put hash thr d mode e.1 e.2).1) m0
  | none => m0

theorem interpSort_correct (m : LMap K V) (lt : K → K → Bool) :
    interpSort d hash thr canonSort m lt = m.sort hash thr d lt := by
  unfold interpSort canonSort LMap.sort; rfl

/-- `IntIntMap.Sort` (a plain map: entries come from the table enumerator, `put` has no mode) -/
def interpSortP (pd : PDesc K V) (f : SortFacts) (pm : PMap K V) (lt : K → K → Bool) : PMap K V :=
  let es := if f.collectsEntries then pm.tab.entries else []
  let sorted := if f.sortsByKey then AL.sortEnts lt es else es
  let m0 := if f.clears then pm.clear else pm
  match f.reput with
  | some _ => sorted.foldl (fun acc e => (acc.put hash thr pd e.1 e.2).1) m0
  | none => m0

theorem interpCV_plain_correct (pd : PDesc K V) (pm : PMap K V) (v : V) :
    interpCV pd.toDesc canonCVa (ofP pm) v = (PMap.step hash thr pd pm (.containsValue v)).2.isTrue ∧
    interpCV pd.toDesc canonCVb (ofP pm) v = (PMap.step hash thr pd pm (.containsValue v)).2.isTrue := by
  unfold interpCV
  rw [cvVisited_a, cvVisited_b]
  simp [PMap.step, Table.entries, canonCVa, canonCVb, Out.isTrue, ofP]

/-- which guard a transcribed lookup starts with -/
def guardHead : List TSt → Option Ret
  | TSt.guardEmpty r :: _ => some r
  | _ => none

/-! ### ToBytes / ToObject: the sequence of stream calls -/

/-- a stream call: which codec, on what -/
inductive WCall | decCount | decKey | decVal | floatVal | unknown
  deriving DecidableEq, Repr

/-- `ToBytes`: the calls before the entry loop and the calls per entry;  `ToObject`: the reads before the loop, the reads per
    entry, and whether each decoded pair is `Put` -/
structure WireFacts where
  head : List WCall
  perEntry : List WCall
  puts : Bool
  deriving DecidableEq, Repr

def canonWire (float : Bool) : WireFacts := ⟨[.decCount], [.decKey, if float then .floatVal else .decVal], true⟩

open Prim in
def encCall (n : Nat) (e : Int × Int) : WCall → Bytes
  | .decCount => encDecimal n
  | .decKey => encDecimal e.1
  | .decVal => encDecimal e.2
  | .floatVal => beN 4 e.2.toNat
  | .unknown => []

def interpToBytes (f : WireFacts) (es : List (Int × Int)) : Bytes :=
  f.head.flatMap (encCall es.length (0, 0)) ++ Prim.encMany (fun e => f.perEntry.flatMap (encCall es.length e)) es

theorem interpToBytes_correct (float : Bool) (es : List (Int × Int)) :
    interpToBytes (canonWire float) es = if float then pairsToBytesF es else pairsToBytes es := by
  unfold interpToBytes canonWire pairsToBytesF pairsToBytes
  cases float
  · have : (fun e : Int × Int => List.flatMap (encCall es.length e) [WCall.decKey, WCall.decVal]) = encPair := by
      funext e; simp [encCall, encPair]
    simp only [List.flatMap_cons, List.flatMap_nil, List.append_nil, encCall, Bool.false_eq_true, if_false]
    rfl
  · have : (fun e : Int × Int => List.flatMap (encCall es.length e) [WCall.decKey, WCall.floatVal]) = encPairF := by
      funext e; simp [encCall, encPairF]
    simp only [List.flatMap_cons, List.flatMap_nil, List.append_nil, encCall, if_true]
    rfl

/-- the reader a `ToObject` with these facts is: recognised forms only (anything else reads nothing) -/
def interpReader (f : WireFacts) : P (List (Int × Int)) :=
  if f = canonWire false then pairsFromBytes
  else if f = canonWire true then pairsFromBytesF
  else .fail

theorem interpReader_correct (float : Bool) :
    interpReader (canonWire float) = if float then pairsFromBytesF else pairsFromBytes := by
  cases float <;> simp [interpReader, canonWire]

/-- `ToBytes` / `ToObject` of a linked map whose transcribed stream calls are the canonical ones: the wire model's codec -/
theorem wire_interp (float : Bool) {tb to : WireFacts} (h : tb = canonWire float ∧ to = canonWire float)
    (hash : Int → Nat) (m : LMap Int Int) :
    interpToBytes tb (m.entries hash) = LMap.toBytes hash float m ∧
    interpReader to = (if float then pairsFromBytesF else pairsFromBytes) ∧ to.puts = true := by
  obtain ⟨rfl, rfl⟩ := h
  exact ⟨by rw [interpToBytes_correct]; rfl, interpReader_correct float, rfl⟩

/-! ### the shapes of the seventeen types (by reading; tied to the descriptors by `shapes_match_descriptors`) -/

def mapPut (hashVar : Bool) (guard : Option Ret) (upd : Upd) (rFresh : Ret) : PutShape :=
  ⟨true, guard, hashVar, upd, true, .old, none, true, rFresh⟩
def setPut : PutShape := ⟨true, none, true, .none, false, .key, none, true, .absent⟩
def plainPut (hashVar : Bool) (upd : Upd) (rFresh : Ret) : PutShape :=
  ⟨false, none, hashVar, upd, true, .old, none, false, rFresh⟩

def putShape : String → PutShape
  | "LinkedMap" | "LongKeyLinkedMap" | "StringKeyLinkedMap" => mapPut true none .assign .emptyStr
  | "IntKeyLinkedMap" => mapPut true none .assign .absent
  | "IntIntLinkedMap" | "IntFloatLinkedMap" | "LongFloatLinkedMap" | "LongLongLinkedMap" => mapPut false none .assign .absent
  | "StringIntLinkedMap" | "StringLongLinkedMap" => mapPut true (some .absent) .assign .absent
  | "LinkedSet" | "IntLinkedSet" | "StringLinkedSet" => setPut
  | "IntIntMap" => plainPut false .assign .absent
  | "IntKeyMap" => plainPut true .assign .absent
  | "IntSet" => ⟨false, none, false, .none, false, .boolF, none, false, .boolT⟩
  | "StringSet" => ⟨false, some .emptyStr, true, .none, false, .cellKey, none, false, .key⟩
  | _ => ⟨false, none, false, .none, false, .unknown, none, false, .unknown⟩

def addShape : String → PutShape
  | "IntIntLinkedMap" | "IntFloatLinkedMap" | "LongFloatLinkedMap" | "LongLongLinkedMap" => mapPut false none .accumulate .absent
  | "StringIntLinkedMap" | "StringLongLinkedMap" => mapPut true (some .absent) .accumulate .absent
  | "IntIntMap" => plainPut false .accumulate .value
  | _ => ⟨false, none, false, .none, false, .unknown, none, false, .unknown⟩

def addNoOverShape : PutShape := ⟨true, none, false, .accumulate, true, .old, some .absent, true, .absent⟩

def removeShape : String → RemoveShape
  | "LinkedSet" | "IntLinkedSet" | "StringLinkedSet" => ⟨true, none, false, false, .key, .absent⟩
  | "IntIntMap" | "IntKeyMap" => ⟨false, none, true, true, .old, .absent⟩
  | "IntSet" => ⟨false, none, false, false, .key, .zero⟩
  | "StringSet" => ⟨false, some .boolF, false, false, .boolT, .boolF⟩
  | _ => ⟨true, none, true, true, .old, .absent⟩

/-- the shapes agree with the descriptors: empty-key guard ↔ `refuseEmpty`, `+=` ↔ `accumulate`, a fresh `Add`
    returning the value ↔ `addFreshNew`, order-list statements ↔ the type is linked -/
theorem shapes_match_descriptors :
    (linkedTypes.all fun t => (putShape t.name).linked && ((putShape t.name).guard.isSome == t.refuseEmpty) &&
        (t.addOp != .accumulate || (addShape t.name).upd == .accumulate)) = true ∧
    (plainTypes.all fun t => !(putShape t.name).linked && ((putShape t.name).guard.isSome == t.refuseEmpty) &&
        (t.addOp != .accumulate || ((addShape t.name).upd == .accumulate && ((addShape t.name).rFresh == .value) == t.addFreshNew))) = true := by
  decide +kernel

/-! ### configuration setters (`SetMax`, `SetNullValue`): every statement of the method, nothing else allowed -/

/-- `this.max = max` | `this.NONE = none` | `return this`; anything else (a resize, a loop, …) is `.unknown` -/
inductive CSt
  | assignMax | assignNone | retThis | unknown
  deriving DecidableEq, Repr

/-- the setter's statements on the model: only `.assignMax` touches the container, and only its bound -/
def runC (n : Nat) : List CSt → LMap K V → Option (LMap K V)
  | [], _ => none
  | .assignMax :: r, m => runC n r { m with max := n }
  | .assignNone :: r, m => runC n r m
  | .retThis :: _, m => some m
  | .unknown :: _, _ => none

def canonSetMax : List CSt := [.assignMax, .retThis]
def canonSetNull : List CSt := [.assignNone, .retThis]

/-- `SetMax(n)` as written is the model's `setMax n`: the bound changes, table / order list / count / threshold do not -/
theorem canonSetMax_correct (m : LMap K V) (n : Nat) :
    runC n canonSetMax m = some (LMap.step hash thr d m (.setMax n)).1 ∧
    ∀ m', runC n canonSetMax m = some m' → m'.tab = m.tab ∧ m'.order = m.order ∧ m'.count = m.count ∧ m'.threshold = m.threshold ∧ m'.max = n := by
  refine ⟨rfl, fun m' h => ?_⟩
  simp only [canonSetMax, runC, Option.some.injEq] at h
  subst h; exact ⟨rfl, rfl, rfl, rfl, rfl⟩

/-- `SetNullValue(x)` as written does not touch the container at all (NONE only selects how "absent" is shown) -/
theorem canonSetNull_correct (m : LMap K V) (n : Nat) : runC n canonSetNull m = some m := rfl

/-! ### one-line accessors (`Size`, `IsEmpty`, `IsFull`, `GetFirstKey` … `GetLastValue`): every statement of the method -/

/-- `return this.count` | `return this.count == 0` | `return this.max > 0 && this.max <= this.count` |
    `if this.count == 0 { return <absent sentinel> }` | `return this.header.link_X.key` | `return this.header.link_X.value` -/
inductive ASt
  | retCount | retCountZero | retIsFull
  | retAbsentIfEmpty
  | retEndKey (e : End) | retEndValue (e : End)
  | unknown
  deriving DecidableEq, Repr

/-- the accessor's statements on the model (the header cell of an empty order list shows "absent") -/
def runA : List ASt → LMap K V → Option (Out K V)
  | [], _ => none
  | .retCount :: _, m => some (.nat m.count)
  | .retCountZero :: _, m => some (.bool (m.count == 0))
  | .retIsFull :: _, m => some (.bool (decide (0 < m.max ∧ m.max ≤ m.count)))
  | .retAbsentIfEmpty :: r, m => if m.count = 0 then some .none else runA r m
  | .retEndKey .front :: _, m => some (.ofKey m.order.head?)
  | .retEndKey .back :: _, m => some (.ofKey m.order.getLast?)
  | .retEndValue .front :: _, m => some (.ofVal (m.order.head?.bind (m.get hash)))
  | .retEndValue .back :: _, m => some (.ofVal (m.order.getLast?.bind (m.get hash)))
  | .retEndKey .unknown :: _, _ => none
  | .retEndValue .unknown :: _, _ => none
  | .unknown :: _, _ => none

/-- the accepted forms of an end accessor: the bare return, or the return behind the empty-map guard -/
def canonEnd (guard : Bool) (a : ASt) : List ASt := (if guard then [ASt.retAbsentIfEmpty] else []) ++ [a]

theorem canonSize_correct (m : LMap K V) :
    runA hash [ASt.retCount] m = some (LMap.step hash thr d m .size).2 ∧
    runA hash [ASt.retCountZero] m = some (LMap.step hash thr d m .isEmpty).2 ∧
    runA hash [ASt.retIsFull] m = some (LMap.step hash thr d m .isFull).2 := ⟨rfl, rfl, rfl⟩

/-- first / last key / value, with or without the guard: the model's accessor.  The guard is redundant in every state
    in which `count` is the length of the order list (part of the invariant): an empty order list already shows "absent". -/
theorem canonEnd_correct (guard : Bool) (m : LMap K V) (hc : m.count = m.order.length) :
    runA hash (canonEnd guard (.retEndKey .front)) m = some (LMap.step hash thr d m .firstKey).2 ∧
    runA hash (canonEnd guard (.retEndKey .back)) m = some (LMap.step hash thr d m .lastKey).2 ∧
    runA hash (canonEnd guard (.retEndValue .front)) m = some (LMap.step hash thr d m .firstValue).2 ∧
    runA hash (canonEnd guard (.retEndValue .back)) m = some (LMap.step hash thr d m .lastValue).2 := by
  cases guard
  · exact ⟨rfl, rfl, rfl, rfl⟩
  · by_cases h0 : m.count = 0
    · have : m.order = [] := List.eq_nil_of_length_eq_zero (by rw [← hc]; exact h0)
      simp [canonEnd, runA, h0, LMap.step, this, Out.ofKey, Out.ofVal]
    · simp [canonEnd, runA, h0, LMap.step]

/-- `GetFirstKey` / `GetLastKey` as transcribed, each in either accepted form -/
theorem endKeys_correct {fk lk : List ASt}
    (h : (fk = canonEnd false (.retEndKey .front) ∨ fk = canonEnd true (.retEndKey .front)) ∧
      (lk = canonEnd false (.retEndKey .back) ∨ lk = canonEnd true (.retEndKey .back)))
    (m : LMap K V) (hc : m.count = m.order.length) :
    runA hash fk m = some (LMap.step hash thr d m .firstKey).2 ∧
    runA hash lk m = some (LMap.step hash thr d m .lastKey).2 :=
  have ce := fun g => canonEnd_correct d hash thr g m hc
  ⟨h.1.elim (· ▸ (ce false).1) (· ▸ (ce true).1), h.2.elim (· ▸ (ce false).2.1) (· ▸ (ce true).2.1)⟩

/-- … and `GetFirstValue` / `GetLastValue` with them -/
theorem ends_correct {fk lk fv lv : List ASt}
    (h : ((fk = canonEnd false (.retEndKey .front) ∨ fk = canonEnd true (.retEndKey .front)) ∧
        (lk = canonEnd false (.retEndKey .back) ∨ lk = canonEnd true (.retEndKey .back))) ∧
      (fv = canonEnd false (.retEndValue .front) ∨ fv = canonEnd true (.retEndValue .front)) ∧
      (lv = canonEnd false (.retEndValue .back) ∨ lv = canonEnd true (.retEndValue .back)))
    (m : LMap K V) (hc : m.count = m.order.length) :
    runA hash fk m = some (LMap.step hash thr d m .firstKey).2 ∧
    runA hash lk m = some (LMap.step hash thr d m .lastKey).2 ∧
    runA hash fv m = some (LMap.step hash thr d m .firstValue).2 ∧
    runA hash lv m = some (LMap.step hash thr d m .lastValue).2 :=
  have ce := fun g => canonEnd_correct d hash thr g m hc
  have hk := endKeys_correct d hash thr h.1 m hc
  ⟨hk.1, hk.2, h.2.1.elim (· ▸ (ce false).2.2.1) (· ▸ (ce true).2.2.1),
    h.2.2.elim (· ▸ (ce false).2.2.2) (· ▸ (ce true).2.2.2)⟩

/-- the plain maps' `Size` / `IsEmpty` / `IsFull` -/
theorem canonSizeP_correct (dp : PDesc K V) (pm : PMap K V) :
    runA hash [ASt.retCount] (ofP pm) = some (PMap.step hash thr dp pm .size).2 ∧
    runA hash [ASt.retCountZero] (ofP pm) = some (PMap.step hash thr dp pm .isEmpty).2 ∧
    runA hash [ASt.retIsFull] (ofP pm) = some (PMap.step hash thr dp pm .isFull).2 := ⟨rfl, rfl, rfl⟩

/-! ### enumerator objects: `HasMoreElements` / `Next*`, statement by statement -/

/-- plain: `for this.entry == nil && this.index > 0 { this.index--; this.entry = this.table[this.index] }` |
    `return this.entry != nil` | `if this.entry != nil { e := this.entry; this.entry = e.next; return <e's key / value / e> }`;
    linked: `return this.entry != nil && this.parent.header != this.entry` |
    `if this.HasMoreElements() { e := this.entry; this.entry = e.link_next; return <e's key / value / e> }` | `return this.NextElement()`;
    both: the trailing `panic(…)` / `return <zero>` of an exhausted enumerator -/
inductive ESt
  | skipLoop | retHasEntry | ifEntryTake
  | retNotHeader | ifHasMoreTake | retNextElement
  | exhausted | unknown
  deriving DecidableEq, Repr

/-- what a call shows -/
inductive ERes (α : Type)
  | hasMore (b : Bool) | elem (a : α) | exhausted
  deriving DecidableEq, Repr

/-- the plain enumerator's statements on the model `(index, rest of the current chain)` over a table -/
def runEP (t : Table K V) : List ESt → PEnum K V → Option (PEnum K V × ERes (K × V))
  | [], _ => none
  | .skipLoop :: r, e => runEP t r (PEnum.advance t e)
  | .retHasEntry :: _, e => some (e, .hasMore (!e.entry.isEmpty))
  | .ifEntryTake :: r, e =>
    match e.entry with
    | c :: rest => some (⟨e.index, rest⟩, .elem c)
    | [] => runEP t r e
  | .exhausted :: _, e => some (e, .exhausted)
  | _ :: _, _ => none

def canonHasMoreP : List ESt := [.skipLoop, .retHasEntry]
def canonNextP : List ESt := [.skipLoop, .ifEntryTake, .exhausted]

/-- the transcribed `HasMoreElements` is `PEnum.hasMore` (and leaves the enumerator advanced past empty buckets) -/
theorem canonHasMoreP_correct (t : Table K V) (e : PEnum K V) :
    runEP t canonHasMoreP e = some (PEnum.advance t e, .hasMore (PEnum.hasMore t e)) := rfl

/-- the transcribed `Next*` is `PEnum.next`: the element under the cursor after the skip loop, cursor moved down the chain;
    exhausted exactly when `PEnum.next` is undefined -/
theorem canonNextP_correct (t : Table K V) (e : PEnum K V) :
    runEP t canonNextP e =
      match PEnum.next t e with
      | some (c, e') => some (e', .elem c)
      | none => some (PEnum.advance t e, .exhausted) := by
  simp only [canonNextP, runEP, PEnum.next]
  cases (PEnum.advance t e).entry <;> rfl

/-- the linked enumerator's statements on the model (the keys from the cursor to the header) -/
def runEL : List ESt → LEnum K → Option (LEnum K × ERes K)
  | [], _ => none
  | .retNotHeader :: _, e => some (e, .hasMore (!e.rest.isEmpty))
  | .ifHasMoreTake :: r, e =>
    match e.rest with
    | k :: rest => some (⟨rest⟩, .elem k)
    | [] => runEL r e
  | .retNextElement :: _, e =>
    match e.rest with
    | k :: rest => some (⟨rest⟩, .elem k)
    | [] => some (e, .exhausted)
  | .exhausted :: _, e => some (e, .exhausted)
  | _ :: _, _ => none

def canonHasMoreL : List ESt := [.retNotHeader]
def canonNextL : List ESt := [.ifHasMoreTake, .exhausted]

theorem canonHasMoreL_correct (e : LEnum K) : runEL canonHasMoreL e = some (e, .hasMore e.hasMore) := rfl

theorem canonNextL_correct (l : List ESt) (hl : l = canonNextL ∨ l = [ESt.retNextElement]) (e : LEnum K) :
    runEL l e =
      match e.next with
      | some (k, e') => some (e', .elem k)
      | none => some (e, .exhausted) := by
  obtain ⟨r⟩ := e
  rcases hl with rfl | rfl <;> cases r <;> rfl

/-- the enumerator objects of one container type: every `HasMoreElements` and every `Next*` method at once -/
theorem enumL_correct {hasMore next : List (List ESt)}
    (h : hasMore ≠ [] ∧ next ≠ [] ∧ (∀ l ∈ hasMore, l = canonHasMoreL) ∧ ∀ l ∈ next, l = canonNextL ∨ l = [ESt.retNextElement])
    (e : LEnum K) :
    hasMore ≠ [] ∧ next ≠ [] ∧
    (∀ l ∈ hasMore, runEL l e = some (e, .hasMore e.hasMore)) ∧
    (∀ l ∈ next, runEL l e =
      match e.next with
      | some (k, e') => some (e', .elem k)
      | none => some (e, .exhausted)) :=
  ⟨h.1, h.2.1, fun l hl => h.2.2.1 l hl ▸ canonHasMoreL_correct e, fun l hl => canonNextL_correct l (h.2.2.2 l hl) e⟩

end HMap.IR
