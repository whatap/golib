/-
  Golib.HMap.PlainValue — C12: the plain maps treat a stored value as opaque.

  `Table.mapV f` / `PMap.mapV f` relabel every stored value by an arbitrary function `f : V → W` (injective or not; `V`
  and `W` are arbitrary types — no equality on values is assumed anywhere).  Every operation that does not take a
  value-comparison as a parameter (put, putAll, get, containsKey, remove, clear, size, growth) commutes with the
  relabelling: the map never inspects, compares or branches on a value (in Go: `interface{}` values of any dynamic
  type, comparable or not, are stored and handed back as they are).  Proof file only (not imported by the driver).
-/
import Golib.HMap.PlainLemmas

set_option linter.unusedSectionVars false

namespace HMap

variable {K V W : Type} [DecidableEq K]

def cellMap (f : V → W) (e : K × V) : K × W := (e.1, f e.2)

theorem chainGet_map (f : V → W) (c : Chain K V) (k : K) :
    chainGet (c.map (cellMap f)) k = (chainGet c k).map f := by
  fun_induction chainGet c k <;> simp [chainGet, cellMap, *]

theorem chainSet_map (f : V → W) (c : Chain K V) (k : K) (v : V) :
    chainSet (c.map (cellMap f)) k (f v) = (chainSet c k v).map (cellMap f) := by
  fun_induction chainSet c k v <;> simp [chainSet, cellMap, *]

theorem chainDel_map (f : V → W) (c : Chain K V) (k : K) :
    chainDel (c.map (cellMap f)) k = (chainDel c k).map (cellMap f) := by
  fun_induction chainDel c k <;> simp [chainDel, cellMap, *]

namespace Table

def mapV (f : V → W) (t : Table K V) : Table K W := ⟨t.arr.map (fun c => c.map (cellMap f))⟩

@[simp] theorem cap_mapV (f : V → W) (t : Table K V) : (t.mapV f).cap = t.cap := by simp [mapV, cap]

theorem bucket_mapV (f : V → W) (t : Table K V) (i : Nat) : (t.mapV f).bucket i = (t.bucket i).map (cellMap f) := by
  unfold mapV bucket
  by_cases h : i < t.arr.size
  · simp [Array.getD, h]
  · simp [Array.getD, h]

theorem setBucket_mapV (f : V → W) (t : Table K V) (i : Nat) (c : Chain K V) :
    (t.setBucket i c).mapV f = (t.mapV f).setBucket i (c.map (cellMap f)) := by
  simp [mapV, setBucket, Array.map_setIfInBounds]

theorem new_mapV (f : V → W) (n : Nat) : (Table.new n : Table K V).mapV f = Table.new n := by
  simp [mapV, new, Array.map_replicate]

variable (hash : K → Nat)

@[simp] theorem idx_mapV (f : V → W) (t : Table K V) (k : K) : (t.mapV f).idx hash k = t.idx hash k := by simp [idx]

theorem get_mapV (f : V → W) (t : Table K V) (k : K) : (t.mapV f).get hash k = (t.get hash k).map f := by
  simp [get, bucket_mapV, chainGet_map]

theorem setExisting_mapV (f : V → W) (t : Table K V) (k : K) (v : V) :
    (t.mapV f).setExisting hash k (f v) = (t.setExisting hash k v).mapV f := by
  simp [setExisting, setBucket_mapV, bucket_mapV, chainSet_map]

theorem insertNew_mapV (f : V → W) (t : Table K V) (k : K) (v : V) :
    (t.mapV f).insertNew hash k (f v) = (t.insertNew hash k v).mapV f := by
  simp [insertNew, setBucket_mapV, bucket_mapV, cellMap]

theorem del_mapV (f : V → W) (t : Table K V) (k : K) : (t.mapV f).del hash k = (t.del hash k).mapV f := by
  simp [del, setBucket_mapV, bucket_mapV, chainDel_map]

theorem clear_mapV (f : V → W) (t : Table K V) : (t.mapV f).clear = (t.clear).mapV f := by
  simp [clear, new_mapV]

theorem entries_mapV (f : V → W) (t : Table K V) : (t.mapV f).entries = t.entries.map (cellMap f) := by
  simp only [entries, cap_mapV, List.map_flatMap]
  congr 1
  funext i
  exact bucket_mapV f t i

theorem pushCell_mapV (f : V → W) (t : Table K V) (e : K × V) :
    (t.mapV f).pushCell hash (cellMap f e) = (t.pushCell hash e).mapV f := by
  simp [pushCell, setBucket_mapV, bucket_mapV, cellMap]

theorem foldl_pushCell_mapV (f : V → W) (l : List (K × V)) (t : Table K V) :
    (l.map (cellMap f)).foldl (pushCell hash) (t.mapV f) = (l.foldl (pushCell hash) t).mapV f := by
  induction l generalizing t with
  | nil => rfl
  | cons e l ih => simp only [List.map_cons, List.foldl_cons, pushCell_mapV, ih]

theorem rehash_mapV (f : V → W) (t : Table K V) : (t.mapV f).rehash hash = (t.rehash hash).mapV f := by
  unfold rehash
  rw [entries_mapV, cap_mapV, ← new_mapV f, foldl_pushCell_mapV]

end Table

namespace PMap

def mapV (f : V → W) (m : PMap K V) : PMap K W :=
  { tab := m.tab.mapV f, count := m.count, threshold := m.threshold, max := m.max }

variable (hash : K → Nat) (thr : Nat → Nat)

theorem grow_mapV (f : V → W) (m : PMap K V) : (m.mapV f).grow hash thr = (m.grow hash thr).mapV f := by
  unfold grow
  by_cases h : m.threshold ≤ m.count
  · simp [mapV, h, Table.rehash_mapV]
  · simp [mapV, h]

theorem get_mapV (f : V → W) (m : PMap K V) (k : K) : (m.mapV f).get hash k = (m.get hash k).map f := by
  simp [get, mapV, Table.get_mapV]

/-- `put` of a present or an absent key commutes with relabelling the values (the refused keys of both descriptors agree) -/
theorem put_mapV (f : V → W) (d : PDesc K V) (d' : PDesc K W) (hr : ∀ k, d'.refuse k = d.refuse k)
    (m : PMap K V) (k : K) (v : V) :
    (m.mapV f).put hash thr d' k (f v) = ((m.put hash thr d k v).1.mapV f, (m.put hash thr d k v).2.map f) := by
  unfold put
  rw [hr k]
  by_cases hk : d.refuse k = true
  · simp [hk]
  · simp only [hk, Bool.false_eq_true, if_false]
    unfold putWith
    have hg : (m.mapV f).tab.get hash k = (m.tab.get hash k).map f := Table.get_mapV hash f m.tab k
    rw [hg]
    cases hq : m.tab.get hash k with
    | some old =>
      simp only [Option.map_some]
      refine Prod.ext ?_ rfl
      simp [mapV, Table.setExisting_mapV]
    | none =>
      simp only [Option.map_none]
      refine Prod.ext ?_ rfl
      rw [grow_mapV]
      simp [mapV, Table.insertNew_mapV]

theorem remove_mapV (f : V → W) (m : PMap K V) (k : K) :
    (m.mapV f).remove hash k = ((m.remove hash k).1.mapV f, (m.remove hash k).2.map f) := by
  unfold remove
  have hg : (m.mapV f).tab.get hash k = (m.tab.get hash k).map f := Table.get_mapV hash f m.tab k
  rw [hg]
  cases hq : m.tab.get hash k with
  | some old =>
    simp only [Option.map_some]
    refine Prod.ext ?_ rfl
    simp [mapV, Table.del_mapV]
  | none => simp

theorem clear_mapV (f : V → W) (m : PMap K V) : (m.mapV f).clear = (m.clear).mapV f := by
  simp [clear, mapV, Table.clear_mapV]

theorem putAll_mapV (f : V → W) (d : PDesc K V) (d' : PDesc K W) (hr : ∀ k, d'.refuse k = d.refuse k)
    (l : List (K × V)) (m : PMap K V) :
    (l.map (cellMap f)).foldl (fun acc e => (acc.put hash thr d' e.1 e.2).1) (m.mapV f) =
      (l.foldl (fun acc e => (acc.put hash thr d e.1 e.2).1) m).mapV f := by
  induction l generalizing m with
  | nil => rfl
  | cons e l ih =>
    simp only [List.map_cons, List.foldl_cons, cellMap]
    rw [put_mapV hash thr f d d' hr m e.1 e.2]
    exact ih _

end PMap
end HMap
