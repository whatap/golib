/-
  Golib.HMap.TableLemmas — the bucket array is a finite map.

  `Table.Inv`: capacity ≥ 1, every cell sits in the bucket of its own key (`home`), keys are distinct
  inside a bucket (`nodup`).  Under `Inv` the table behaves as the function `get`, for an arbitrary
  hash function:  `get_setExisting`, `get_insertNew`, `get_del`, `get_clear`, `get_rehash`, and the
  enumeration `entries` lists exactly the graph of `get`, each key once.
-/
import Golib.Basic
import Golib.HMap.Table
import Golib.HMap.ChainLemmas

namespace HMap
namespace Table
set_option linter.unusedSectionVars false
variable {K V : Type} [DecidableEq K]

@[simp] theorem cap_setBucket (t : Table K V) (i : Nat) (c : Chain K V) : (t.setBucket i c).cap = t.cap := by
  simp [setBucket, cap]

theorem bucket_setBucket (t : Table K V) (i j : Nat) (c : Chain K V) :
    (t.setBucket i c).bucket j = if j = i ∧ i < t.cap then c else t.bucket j := by
  unfold setBucket bucket cap
  simp only [Golib.getD_setIfInBounds, eq_comm (a := i)]

theorem setBucket_self (t : Table K V) (i : Nat) : t.setBucket i (t.bucket i) = t := by
  obtain ⟨arr⟩ := t
  unfold setBucket bucket
  congr 1
  apply Array.ext_getElem?
  intro j
  rw [Array.getElem?_setIfInBounds]
  by_cases hij : i = j
  · subst hij
    by_cases hlt : i < arr.size
    · simp [hlt, Array.getD_eq_getD_getElem?]
    · simp [hlt]
  · simp [hij]

theorem bucket_ge (t : Table K V) {i : Nat} (h : t.cap ≤ i) : t.bucket i = [] := by
  unfold bucket cap at *
  simp [Array.getD_eq_getD_getElem?, Array.getElem?_eq_none h]

@[simp] theorem cap_new (n : Nat) : (new n : Table K V).cap = n := by simp [new, cap]

@[simp] theorem bucket_new (n i : Nat) : (new n : Table K V).bucket i = [] := by
  unfold new bucket
  simp only [Array.getD_eq_getD_getElem?]
  by_cases h : i < n
  · simp [h]
  · simp [h]

variable (hash : K → Nat)

structure Inv (t : Table K V) : Prop where
  pos : 0 < t.cap
  home : ∀ i, ∀ e ∈ t.bucket i, hash e.1 % t.cap = i
  nodup : ∀ i, ((t.bucket i).map Prod.fst).Nodup

theorem idx_lt (t : Table K V) (hp : 0 < t.cap) (k : K) : t.idx hash k < t.cap := Nat.mod_lt _ hp

theorem Inv.new {n : Nat} (h : 0 < n) : (Table.new n : Table K V).Inv hash :=
  ⟨by simpa using h, by simp, by simp⟩

@[simp] theorem get_new (n : Nat) (k : K) : (Table.new n : Table K V).get hash k = none := by
  simp [get]

@[simp] theorem cap_clear (t : Table K V) : t.clear.cap = t.cap := by simp [clear]

@[simp] theorem get_clear (t : Table K V) (k : K) : t.clear.get hash k = none := by simp [clear]

theorem Inv.clear {t : Table K V} (h : t.Inv hash) : t.clear.Inv hash := Inv.new hash h.pos

theorem get_setExisting (t : Table K V) (hp : 0 < t.cap) (k k' : K) (v : V) (h : (t.get hash k).isSome) :
    (t.setExisting hash k v).get hash k' = if k = k' then some v else t.get hash k' := by
  unfold setExisting get idx at *
  simp only [cap_setBucket, bucket_setBucket]
  have hlt : hash k % t.cap < t.cap := Nat.mod_lt _ hp
  by_cases hj : hash k' % t.cap = hash k % t.cap
  · simp only [hj, hlt, and_self, if_true]
    rw [chainGet_set _ _ _ _ h]
  · have : ¬ k = k' := fun e => hj (by rw [e])
    simp [hj, this]

theorem setExisting_same (t : Table K V) (k : K) (x : V) (h : t.get hash k = some x) : t.setExisting hash k x = t := by
  unfold setExisting
  simp only
  unfold get at h
  rw [chainSet_same _ _ _ h, setBucket_self]

theorem Inv.setExisting {t : Table K V} (h : t.Inv hash) (k : K) (v : V) : (t.setExisting hash k v).Inv hash := by
  refine ⟨by simpa [Table.setExisting] using h.pos, ?_, ?_⟩
  · intro i e he
    simp only [Table.setExisting, cap_setBucket, bucket_setBucket] at he ⊢
    split at he
    · rename_i hc
      obtain ⟨e', he', hfe⟩ := List.mem_map.mp (chainSet_keys _ k v ▸ List.mem_map_of_mem (f := Prod.fst) he)
      have := h.home _ e' he'
      rw [hfe] at this
      rw [this, hc.1]
    · exact h.home i e he
  · intro i
    simp only [Table.setExisting, bucket_setBucket]
    split
    · rw [chainSet_keys]; exact h.nodup _
    · exact h.nodup i

theorem get_insertNew (t : Table K V) (hp : 0 < t.cap) (k k' : K) (v : V) :
    (t.insertNew hash k v).get hash k' = if k = k' then some v else t.get hash k' := by
  unfold insertNew get idx
  simp only [cap_setBucket, bucket_setBucket]
  have hlt : hash k % t.cap < t.cap := Nat.mod_lt _ hp
  by_cases hj : hash k' % t.cap = hash k % t.cap
  · simp only [hj, hlt, and_self, if_true, chainGet_cons]
  · have : ¬ k = k' := fun e => hj (by rw [e])
    simp [hj, this]

theorem Inv.insertNew {t : Table K V} (h : t.Inv hash) (k : K) (v : V) (habs : t.get hash k = none) :
    (t.insertNew hash k v).Inv hash := by
  refine ⟨by simpa [Table.insertNew] using h.pos, ?_, ?_⟩
  · intro i e he
    simp only [Table.insertNew, cap_setBucket, bucket_setBucket] at he ⊢
    split at he
    · rename_i hc
      rcases List.mem_cons.mp he with he | he
      · subst he; simp [idx, hc.1]
      · have := h.home _ e he
        rw [this, hc.1]
    · exact h.home i e he
  · intro i
    simp only [Table.insertNew, bucket_setBucket]
    split
    · simp only [List.map_cons, List.nodup_cons]
      exact ⟨AL.get_none_iff.mp ((chainGet_eq_get _ _).symm.trans habs), h.nodup _⟩
    · exact h.nodup i

theorem get_del (t : Table K V) (h : t.Inv hash) (k k' : K) :
    (t.del hash k).get hash k' = if k = k' then none else t.get hash k' := by
  unfold del get idx
  simp only [cap_setBucket, bucket_setBucket]
  have hlt : hash k % t.cap < t.cap := Nat.mod_lt _ h.pos
  by_cases hj : hash k' % t.cap = hash k % t.cap
  · simp only [hj, hlt, and_self, if_true]
    rw [chainGet_del _ _ _ (h.nodup _)]
  · have : ¬ k = k' := fun e => hj (by rw [e])
    simp [hj, this]

theorem Inv.del {t : Table K V} (h : t.Inv hash) (k : K) : (t.del hash k).Inv hash := by
  refine ⟨by simpa [Table.del] using h.pos, ?_, ?_⟩
  · intro i e he
    simp only [Table.del, cap_setBucket, bucket_setBucket] at he ⊢
    split at he
    · rename_i hc
      have := h.home _ e ((chainDel_sublist _ k).subset he)
      rw [this, hc.1]
    · exact h.home i e he
  · intro i
    simp only [Table.del, bucket_setBucket]
    split
    · exact (h.nodup _).sublist ((chainDel_sublist _ k).map _)
    · exact h.nodup i

theorem mem_entries {t : Table K V} {e : K × V} : e ∈ t.entries ↔ ∃ i, i < t.cap ∧ e ∈ t.bucket i := by
  unfold entries
  simp only [List.mem_flatMap, List.mem_reverse, List.mem_range]

theorem mem_entries_iff {t : Table K V} (h : t.Inv hash) {k : K} {v : V} :
    (k, v) ∈ t.entries ↔ t.get hash k = some v := by
  rw [mem_entries]
  unfold get
  rw [chainGet_eq_get, AL.get_eq_some_iff (h.nodup (t.idx hash k))]
  constructor
  · rintro ⟨i, _, hi⟩
    have := h.home i _ hi
    simp only at this
    unfold idx; rw [this]; exact hi
  · intro hm
    exact ⟨_, idx_lt hash t h.pos k, hm⟩

theorem entries_keys_nodup {t : Table K V} (h : t.Inv hash) : (t.entries.map Prod.fst).Nodup := by
  unfold entries
  rw [List.map_flatMap]
  unfold List.Nodup
  rw [List.pairwise_flatMap]
  constructor
  · intro i _
    exact h.nodup i
  · rw [List.pairwise_reverse]
    have hr : (List.range t.cap).Pairwise (· ≠ ·) := List.nodup_range
    refine hr.imp ?_
    intro a b hab x hx y hy hxy
    obtain ⟨e1, he1, hf1⟩ := List.mem_map.mp hx
    obtain ⟨e2, he2, hf2⟩ := List.mem_map.mp hy
    have h1 := h.home _ e1 he1
    have h2 := h.home _ e2 he2
    rw [hf1] at h1; rw [hf2] at h2
    subst hxy
    exact hab (h2.symm.trans h1)

@[simp] theorem cap_pushCell (t : Table K V) (e : K × V) : (t.pushCell hash e).cap = t.cap := by
  simp [pushCell]

@[simp] theorem cap_foldl_pushCell (es : List (K × V)) (t : Table K V) :
    (es.foldl (pushCell hash) t).cap = t.cap := by
  induction es generalizing t with
  | nil => rfl
  | cons e es ih => simp [List.foldl_cons, ih]

theorem bucket_foldl_pushCell (es : List (K × V)) (t : Table K V) (hp : 0 < t.cap) (j : Nat) :
    (es.foldl (pushCell hash) t).bucket j =
      (es.filter (fun e => decide (hash e.1 % t.cap = j))).reverse ++ t.bucket j := by
  induction es generalizing t with
  | nil => simp
  | cons e es ih =>
    rw [List.foldl_cons, ih _ (by simpa using hp)]
    simp only [cap_pushCell, List.filter_cons]
    unfold pushCell
    simp only [bucket_setBucket]
    have hlt : hash e.1 % t.cap < t.cap := Nat.mod_lt _ hp
    by_cases hj : hash e.1 % t.cap = j
    · subst hj; simp [hlt]
    · have : ¬ j = hash e.1 % t.cap := fun h => hj h.symm
      simp [hj, this]

@[simp] theorem cap_rehash (t : Table K V) : (t.rehash hash).cap = 2 * t.cap + 1 := by
  simp [rehash]

theorem bucket_rehash (t : Table K V) (j : Nat) :
    (t.rehash hash).bucket j = (t.entries.filter (fun e => decide (hash e.1 % (2 * t.cap + 1) = j))).reverse := by
  unfold rehash
  rw [bucket_foldl_pushCell hash _ _ (by simp)]
  simp

theorem Inv.rehash {t : Table K V} (h : t.Inv hash) : (t.rehash hash).Inv hash := by
  refine ⟨by simp, ?_, ?_⟩
  · intro i e he
    rw [bucket_rehash] at he
    simp only [List.mem_reverse, List.mem_filter, decide_eq_true_eq] at he
    simpa using he.2
  · intro i
    rw [bucket_rehash]
    have hn := entries_keys_nodup hash h
    have hs : ((t.entries.filter (fun e => decide (hash e.1 % (2 * t.cap + 1) = i))).map Prod.fst).Sublist
        (t.entries.map Prod.fst) := (List.filter_sublist).map _
    have := List.Nodup.sublist hs hn
    rw [List.map_reverse]
    exact List.pairwise_reverse.mpr (this.imp (fun h => Ne.symm h))

theorem get_rehash {t : Table K V} (h : t.Inv hash) (k : K) : (t.rehash hash).get hash k = t.get hash k := by
  have hr := Inv.rehash hash h
  apply Option.ext
  intro v
  rw [← mem_entries_iff hash h]
  unfold get
  rw [chainGet_eq_get, AL.get_eq_some_iff (hr.nodup ((t.rehash hash).idx hash k)), bucket_rehash]
  simp [idx]

theorem mem_entries_rehash {t : Table K V} (h : t.Inv hash) (e : K × V) :
    e ∈ (t.rehash hash).entries ↔ e ∈ t.entries := by
  obtain ⟨k, v⟩ := e
  rw [mem_entries_iff hash (Inv.rehash hash h), mem_entries_iff hash h, get_rehash hash h]

end Table
end HMap
