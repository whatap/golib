/-
  Golib.HMap.PlainLemmas — C12: the plain bucket maps simulate the finite-map Spec.

  `Rel m s`: the table holds the finite map of `s.ents` (`Table.Rep`, through `Rel.rep` / `Rel.of_rep`), the count is
  the number of entries.  The order of `s.ents` is not related to the table (a plain hash map has no order);
  enumerations agree up to permutation (`entries_perm`).
-/
import Golib.HMap.Plain
import Golib.HMap.Rep

set_option linter.unusedSectionVars false
set_option linter.unusedSimpArgs false

namespace HMap

theorem nodup_of_keys_nodup {K V : Type} {l : List (K × V)} (h : (l.map Prod.fst).Nodup) : l.Nodup :=
  List.Pairwise.of_map Prod.fst (fun a b hab e => hab (by rw [e])) h

namespace PMap
variable {K V : Type} [DecidableEq K] [DecidableEq V]
variable (hash : K → Nat) (thr : Nat → Nat)

structure Rel (d : PDesc K V) (m : PMap K V) (s : PS K V) : Prop where
  tab : m.tab.Inv hash
  get : ∀ k, m.tab.get hash k = AL.get s.ents k
  wf : (AL.keys s.ents).Nodup
  count : m.count = s.ents.length
  max : m.max = s.max
  ok : ∀ k ∈ AL.keys s.ents, d.refuse k = false

variable {hash thr}
variable {d : PDesc K V}

theorem Rel.rep {m : PMap K V} {s : PS K V} (h : Rel hash d m s) : m.tab.Rep hash s.ents := ⟨h.tab, h.get, h.wf⟩

theorem Rel.of_rep {m : PMap K V} {s : PS K V} (h : m.tab.Rep hash s.ents) (hc : m.count = s.ents.length)
    (hm : m.max = s.max) (hok : ∀ k ∈ AL.keys s.ents, d.refuse k = false) : Rel hash d m s :=
  ⟨h.inv, h.get, h.wf, hc, hm, hok⟩

theorem Rel.new (cap : Nat) : Rel hash d (PMap.new thr cap : PMap K V) {} := by
  unfold PMap.new
  exact .of_rep (.new (by split <;> omega)) rfl rfl (fun _ hk => nomatch hk)

theorem entries_perm {m : PMap K V} {s : PS K V} (h : Rel hash d m s) : m.tab.entries.Perm s.ents :=
  (List.perm_ext_iff_of_nodup (nodup_of_keys_nodup (Table.entries_keys_nodup hash h.tab)) (nodup_of_keys_nodup h.wf)).mpr
    h.rep.mem_entries

theorem grow_rel {m : PMap K V} {s : PS K V} (h : Rel hash d m s) : Rel hash d (m.grow hash thr) s ∧
    (m.grow hash thr).count = m.count := by
  unfold grow
  split
  · exact ⟨.of_rep h.rep.rehash h.count h.max h.ok, rfl⟩
  · exact ⟨h, rfl⟩

/-- a present key receives a new value: `e.value = …` in the chain loop -/
theorem set_rel {m : PMap K V} {s : PS K V} (h : Rel hash d m s) (k : K) (v : V) (hp : (AL.get s.ents k).isSome) :
    Rel hash d { m with tab := m.tab.setExisting hash k v } { s with ents := AL.set s.ents k v } :=
  .of_rep (h.rep.set v hp (by rw [AL.keys_set]; exact h.wf) (AL.get_set_of_isSome v hp))
    (by rw [AL.length_set]; exact h.count) h.max (by rw [AL.keys_set]; exact h.ok)

theorem putWith_rel {m : PMap K V} {s : PS K V} (h : Rel hash d m s) (k : K) (f : Option V → V)
    (hok : d.refuse k = false) :
    Rel hash d (m.putWith hash thr k f).1 (s.putWith k f).1 ∧ (m.putWith hash thr k f).2 = (s.putWith k f).2 := by
  unfold putWith PS.putWith
  rw [h.get]
  cases hg : AL.get s.ents k with
  | some old => exact ⟨set_rel h k _ (by rw [hg]; rfl), rfl⟩
  | none =>
    obtain ⟨hr, hc⟩ := grow_rel (thr := thr) h
    have hk := AL.get_none_iff.mp hg
    exact ⟨.of_rep (hr.rep.insert _ hg (AL.nodup_keys_snoc h.wf hk) (AL.get_snoc _ hg)) (by simp [hc, h.count]) hr.max
      (fun x hx => by
        rw [AL.keys_append, List.mem_append] at hx
        exact hx.elim (h.ok x) fun e => by simp [AL.keys] at e; exact e ▸ hok), rfl⟩

theorem put_rel {m : PMap K V} {s : PS K V} (h : Rel hash d m s) (k : K) (v : V) :
    Rel hash d (m.put hash thr d k v).1 (PS.put d s k v).1 ∧ (m.put hash thr d k v).2 = (PS.put d s k v).2 := by
  unfold put PS.put
  cases hr : d.refuse k with
  | true => simp only [if_true]; exact ⟨h, trivial⟩
  | false => simp only [Bool.false_eq_true, if_false]; exact putWith_rel h k _ hr

theorem add_rel {m : PMap K V} {s : PS K V} (h : Rel hash d m s) (k : K) (v : V) :
    Rel hash d (m.add hash thr d k v).1 (PS.add d s k v).1 ∧ (m.add hash thr d k v).2 = (PS.add d s k v).2 := by
  unfold add PS.add
  cases hr : d.refuse k with
  | true => simp only [if_true]; exact ⟨h, trivial⟩
  | false =>
    simp only [Bool.false_eq_true, if_false]
    obtain ⟨a, b⟩ := putWith_rel (thr := thr) h k (S.addv d.toDesc v) hr
    exact ⟨a, by rw [b]⟩

theorem addIfExist_rel {m : PMap K V} {s : PS K V} (h : Rel hash d m s) (k : K) (v : V) :
    Rel hash d (m.addIfExist hash d k v).1 (PS.addIfExist d s k v).1 ∧
    (m.addIfExist hash d k v).2 = (PS.addIfExist d s k v).2 := by
  unfold addIfExist PS.addIfExist
  rw [h.get]
  cases hg : AL.get s.ents k with
  | none => exact ⟨h, rfl⟩
  | some old => exact ⟨set_rel h k _ (by rw [hg]; rfl), rfl⟩

theorem remove_rel {m : PMap K V} {s : PS K V} (h : Rel hash d m s) (k : K) :
    Rel hash d (m.remove hash k).1 { s with ents := AL.erase s.ents k } ∧ (m.remove hash k).2 = AL.get s.ents k := by
  unfold remove
  rw [h.get]
  cases hg : AL.get s.ents k with
  | none => rw [AL.erase_of_not_mem (AL.get_none_iff.mp hg)]; exact ⟨h, rfl⟩
  | some v =>
    have hl := AL.length_erase_of_mem h.wf (AL.get_isSome_iff.mp (by rw [hg]; rfl))
    exact ⟨.of_rep (h.rep.del k) (by simp only [h.count]; omega) h.max
      (fun x hx => h.ok x (((AL.erase_sublist s.ents k).map _).subset hx)), rfl⟩

theorem clear_rel {m : PMap K V} {s : PS K V} (h : Rel hash d m s) : Rel hash d m.clear { s with ents := [] } :=
  .of_rep h.rep.clear rfl h.max (fun _ hk => nomatch hk)

theorem foldl_put_rel (l : List (K × V)) {m : PMap K V} {s : PS K V} (h : Rel hash d m s) :
    Rel hash d (l.foldl (fun acc e => (acc.put hash thr d e.1 e.2).1) m)
      (l.foldl (fun acc e => (PS.put d acc e.1 e.2).1) s) := by
  induction l generalizing m s with
  | nil => exact h
  | cons e t ih =>
    simp only [List.foldl_cons]
    exact ih (put_rel (thr := thr) h e.1 e.2).1

theorem foldl_put_fresh (l acc : List (K × V)) (mx : Nat) (hn : (AL.keys (acc ++ l)).Nodup)
    (hok : ∀ e ∈ l, d.refuse e.1 = false) :
    l.foldl (fun s e => (PS.put d s e.1 e.2).1) { ents := acc, max := mx } = { ents := acc ++ l, max := mx } := by
  induction l generalizing acc with
  | nil => simp
  | cons e t ih =>
    obtain ⟨k, v⟩ := e
    simp only [List.foldl_cons]
    have hk : d.refuse k = false := hok (k, v) (by simp)
    have hnk : k ∉ AL.keys acc := AL.not_mem_keys_of_nodup_append hn
    have hput : (PS.put d { ents := acc, max := mx } k v).1 = { ents := acc ++ [(k, v)], max := mx } := by
      unfold PS.put PS.putWith
      simp only [hk, Bool.false_eq_true, if_false, AL.get_none_iff.mpr hnk]
    rw [hput, ih (acc ++ [(k, v)]) (by simpa using hn) (fun e he => hok e (by simp [he]))]
    simp

theorem sort_rel {m : PMap K V} {s : PS K V} (h : Rel hash d m s) (lt : K → K → Bool) :
    Rel hash d (m.sort hash thr d lt) s := by
  unfold sort
  have hperm : (AL.sortEnts lt m.tab.entries).Perm s.ents :=
    (List.mergeSort_perm _ _).trans (entries_perm h)
  have hn : (AL.keys (AL.sortEnts lt m.tab.entries)).Nodup := (hperm.map Prod.fst).symm.nodup h.wf
  have hok : ∀ e ∈ AL.sortEnts lt m.tab.entries, d.refuse e.1 = false := by
    intro e he
    exact h.ok e.1 (List.mem_map.mpr ⟨e, hperm.subset he, rfl⟩)
  have hr := foldl_put_rel (thr := thr) (AL.sortEnts lt m.tab.entries) (clear_rel h)
  rw [foldl_put_fresh _ [] s.max (by simpa using hn) hok] at hr
  simp only [List.nil_append] at hr
  -- the re-filled table holds the sorted list, which is the same finite map as `s.ents`
  exact .of_rep (hr.rep.congr h.wf fun k => Option.ext fun v => by
      rw [AL.get_eq_some_iff h.wf, AL.get_eq_some_iff hn]; exact hperm.symm.mem_iff)
    (by rw [hr.count]; exact hperm.length_eq) hr.max h.ok

end PMap
end HMap
