/-
  Golib.HMap.AbsLemmas — the abstraction "order list + lookup function ↦ association list".

  `absL g o` lists `(k, g k)` for the keys `k` of `o` (in that order) — what the linked enumerators
  produce when they follow `link_next` and read the cell of each key.
-/
import Golib.HMap.SpecLemmas

set_option linter.unusedSectionVars false
set_option linter.unusedSimpArgs false

namespace HMap
variable {K V : Type} [DecidableEq K]

def absL (g : K → Option V) (o : List K) : List (K × V) :=
  o.filterMap (fun k => (g k).map (fun v => (k, v)))

@[simp] theorem absL_nil (g : K → Option V) : absL g [] = [] := rfl

theorem absL_cons_some (g : K → Option V) (k : K) (o : List K) (v : V) (h : g k = some v) :
    absL g (k :: o) = (k, v) :: absL g o := by
  simp [absL, List.filterMap_cons, h]

theorem absL_cons_none (g : K → Option V) (k : K) (o : List K) (h : g k = none) :
    absL g (k :: o) = absL g o := by
  simp [absL, List.filterMap_cons, h]

theorem keys_absL {g : K → Option V} {o : List K} (h : ∀ k ∈ o, (g k).isSome) : AL.keys (absL g o) = o := by
  induction o with
  | nil => rfl
  | cons a t ih =>
    obtain ⟨v, hv⟩ := Option.isSome_iff_exists.mp (h a (by simp))
    rw [absL_cons_some g a t v hv]
    simp only [AL.keys, List.map_cons]
    have := ih (fun k hk => h k (by simp [hk]))
    simp only [AL.keys] at this
    rw [this]

theorem get_absL {g : K → Option V} {o : List K} (k : K) :
    AL.get (absL g o) k = if k ∈ o then g k else none := by
  induction o with
  | nil => simp
  | cons a t ih =>
    cases hv : g a with
    | none =>
      rw [absL_cons_none g a t hv, ih]
      by_cases hak : a = k
      · subst hak; simp [hv]
      · have : ¬ k = a := fun e => hak e.symm
        simp [this]
    | some v =>
      rw [absL_cons_some g a t v hv, AL.get_cons, ih]
      by_cases hak : a = k
      · subst hak; simp [hv]
      · have : ¬ k = a := fun e => hak e.symm
        simp [hak, this]

theorem absL_keys {g : K → Option V} {l : List (K × V)} (h : ∀ e ∈ l, g e.1 = some e.2) : absL g (AL.keys l) = l := by
  induction l with
  | nil => rfl
  | cons e t ih =>
    rw [show AL.keys (e :: t) = e.1 :: AL.keys t from rfl, absL_cons_some g e.1 _ e.2 (h e (by simp)),
      ih (fun x hx => h x (by simp [hx]))]

theorem map_snd_absL (g : K → Option V) (o : List K) : (absL g o).map Prod.snd = o.filterMap g := by
  induction o with
  | nil => rfl
  | cons a t ih =>
    cases hv : g a with
    | none => rw [absL_cons_none g a t hv, ih]; simp [List.filterMap_cons, hv]
    | some v => rw [absL_cons_some g a t v hv]; simp [List.filterMap_cons, hv, ih]

end HMap
