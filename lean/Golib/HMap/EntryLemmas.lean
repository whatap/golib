/-
  Golib.HMap.EntryLemmas — the extended API (`Golib.HMap.Entry`) refines the dictionary: `refine_xstep`, `refine_xrun`.
-/
import Golib.HMap.Entry
import Golib.HMap.LinkedStep

set_option linter.unusedSectionVars false
set_option linter.unusedSimpArgs false

namespace HMap
namespace LMap
variable {K V : Type} [DecidableEq K] [DecidableEq V]
variable {hash : K → Nat} {thr : Nat → Nat} {d : Desc K V}

/-- the closed form of the loop started at round `i` -/
def preText (i : Nat) : List (List Nat) → List Nat
  | [] => []
  | x :: r => (if 0 < i then textSep else []) ++ x ++ (r.map (textSep ++ ·)).flatten

theorem preText_succ (i : Nat) (xs : List (List Nat)) : preText (i + 1) xs = (xs.map (textSep ++ ·)).flatten := by
  cases xs with
  | nil => rfl
  | cons x r => simp [preText, List.append_assoc]

theorem textLoop_eq (ek : EntryKind K V) (nl : Bool) (g : K → Option V) (ks : List K) :
    ∀ (fuel i : Nat), ks.length ≤ fuel → (∀ k ∈ ks, (g k).isSome) →
      textLoop ek nl g fuel i ⟨ks⟩ = preText i ((absL g ks).map (ek.showLine nl)) := by
  induction ks with
  | nil =>
    intro fuel i _ _
    cases fuel <;> simp [textLoop, LEnum.hasMore, preText]
  | cons k t ih =>
    intro fuel i hf hs
    cases fuel with
    | zero => simp at hf
    | succ f =>
      obtain ⟨w, hw⟩ := Option.isSome_iff_exists.mp (hs k (by simp))
      have iht := ih f (i + 1) (by simp at hf; omega) (fun x hx => hs x (by simp [hx]))
      rw [absL_cons_some g k t w hw]
      rw [preText_succ] at iht
      simp only [textLoop, LEnum.hasMore, LEnum.next, List.isEmpty_cons, Bool.not_false, if_true, hw, iht,
        List.map_cons, preText]

theorem toText_eq {m : LMap K V} (h : Inv hash d m) (ek : EntryKind K V) (nl : Bool) :
    m.toText hash ek nl = renderText ((abs hash m).ents.map (ek.showLine nl)) := by
  unfold toText openEnum
  rw [textLoop_eq ek nl (m.get hash) m.order m.count 0 (by rw [h.count]; exact Nat.le_refl _) h.allSome]
  show _ = renderText ((absL (m.tab.get hash) m.order).map (ek.showLine nl))
  change [123] ++ preText 0 ((absL (m.tab.get hash) m.order).map (ek.showLine nl)) ++ [125] = _
  cases (absL (m.tab.get hash) m.order).map (ek.showLine nl) with
  | nil => rfl
  | cons x r => simp [preText, renderText, List.append_assoc]

theorem drain_order {m : LMap K V} (h : Inv hash d m) : LEnum.drain m.count m.openEnum = m.order :=
  LEnum.drain_eq _ _ (by show m.order.length ≤ m.count; rw [h.count]; exact Nat.le_refl _)

theorem head_dropWhile_ne (l : List K) (k : K) (hm : k ∈ l) : (l.dropWhile (· != k)).head? = some k := by
  induction l with
  | nil => simp at hm
  | cons a t ih =>
    by_cases hak : a = k
    · subst hak; simp [List.dropWhile]
    · have : (a != k) = true := by simp [hak]
      simp only [List.dropWhile, this]
      apply ih
      simp only [List.mem_cons] at hm
      rcases hm with h | h
      · exact absurd h.symm hak
      · exact h

def XRefines (hash : K → Nat) (d : Desc K V) (r : LMap K V × XOut K V) (r' : S K V × XOut K V) : Prop :=
  Inv hash d r.1 ∧ r.2 = r'.2 ∧ abs hash r.1 = r'.1

/-- every operation of the extended API keeps the representation relation and answers as the dictionary does -/
theorem Rel.xstep (thr : Nat → Nat) (ek : EntryKind K V) {m : LMap K V} {s : S K V} (h : Rel hash d m s) (op : XOp K V) :
    Rel hash d (LMap.xstep hash thr d ek m op).1 (S.xstep d ek s op).1 ∧
    (LMap.xstep hash thr d ek m op).2 = (S.xstep d ek s op).2 := by
  cases op with
  | base op => exact (h.step thr op).imp id (congrArg XOut.out)
  | entrySetValue k v =>
    simp only [LMap.xstep, S.xstep, LMap.entrySetValue, S.entrySetValue, h.rep.get]
    cases hg : AL.get s.ents k with
    | none => exact ⟨h, rfl⟩
    | some old => exact ⟨h.touch .last v (by rw [hg]; rfl), rfl⟩
  | unipoint k v => exact ⟨(h.put thr .last k v).1, rfl⟩
  | enumFrom k =>
    refine ⟨h, ?_⟩
    simp only [LMap.xstep, S.xstep]
    rw [LEnum.drain_eq _ _ (h.inv.count ▸ (List.dropWhile_sublist _).length_le), h.order]; rfl
  | valueIterator =>
    refine ⟨h, ?_⟩
    simp only [LMap.xstep, S.xstep, drain_order h.inv]
    exact congrArg XOut.out (h.step thr .values).2
  | toString nl => exact ⟨h, by simp only [LMap.xstep, S.xstep, toText_eq h.inv, h.abs_eq]⟩
  | toKeySet =>
    refine ⟨h, ?_⟩
    simp only [LMap.xstep, S.xstep, drain_order h.inv, List.foldl_flip_cons_eq_append', h.order, List.append_nil]; rfl
  | entryEquals k₁ k₂ =>
    simp only [LMap.xstep, S.xstep, h.get_eq]
    cases AL.get s.ents k₁ <;> cases AL.get s.ents k₂ <;> exact ⟨h, rfl⟩

theorem refine_xstep (thr : Nat → Nat) (ek : EntryKind K V) {m : LMap K V} (h : Inv hash d m) (op : XOp K V) :
    XRefines hash d (LMap.xstep hash thr d ek m op) (S.xstep d ek (abs hash m) op) := by
  obtain ⟨a, b⟩ := h.rel.xstep thr ek op
  exact ⟨a.inv, b, a.abs_eq⟩

theorem refine_xrun (thr : Nat → Nat) (ek : EntryKind K V) (ops : List (XOp K V)) {m : LMap K V} (h : Inv hash d m) :
    Inv hash d (LMap.xrun hash thr d ek m ops).1 ∧
    (LMap.xrun hash thr d ek m ops).2 = (S.xrun d ek (abs hash m) ops).2 ∧
    abs hash (LMap.xrun hash thr d ek m ops).1 = (S.xrun d ek (abs hash m) ops).1 := by
  induction ops generalizing m with
  | nil => exact ⟨h, rfl, rfl⟩
  | cons op ops ih =>
    obtain ⟨hi, ho, he⟩ := refine_xstep thr ek h op
    obtain ⟨i2, o2, e2⟩ := ih hi
    simp only [xrun, S.xrun]
    rw [← he]
    exact ⟨i2, by rw [ho, o2], e2⟩

end LMap
end HMap
