/-
  Golib.HMap.ChainLemmas — facts about one hash chain.
-/
import Golib.HMap.Chain
import Golib.HMap.SpecLemmas

namespace HMap
variable {K V : Type} [DecidableEq K]

@[simp] theorem chainGet_nil (k : K) : chainGet ([] : Chain K V) k = none := rfl

theorem chainGet_cons (a : K) (b : V) (t : Chain K V) (k : K) :
    chainGet ((a, b) :: t) k = if a = k then some b else chainGet t k := rfl

/-- the chain lookup is the association-list lookup of the Spec (`AL.get`), whose lemmas apply to it -/
theorem chainGet_eq_get (c : Chain K V) (k : K) : chainGet c k = AL.get c k := by
  fun_induction chainGet c k <;> simp [AL.get, *]

theorem chainGet_isSome_iff {c : Chain K V} {k : K} : (chainGet c k).isSome ↔ k ∈ c.map Prod.fst := by
  rw [chainGet_eq_get]; exact AL.get_isSome_iff

theorem chainSet_keys (c : Chain K V) (k : K) (v : V) : (chainSet c k v).map Prod.fst = c.map Prod.fst := by
  fun_induction chainSet c k v <;> simp [*]

theorem chainGet_set (c : Chain K V) (k k' : K) (v : V) (h : (chainGet c k).isSome) :
    chainGet (chainSet c k v) k' = if k = k' then some v else chainGet c k' := by
  fun_induction chainSet c k v with
  | case1 => simp at h
  | case2 b t k v => simp only [chainGet_cons]; split <;> rfl
  | case3 a b t k v hak ih =>
    rw [chainGet_cons, if_neg hak] at h
    rw [chainGet_cons, chainGet_cons, ih h]
    by_cases hak' : a = k'
    · subst hak'; simp [Ne.symm hak]
    · simp [hak']

theorem chainDel_sublist (c : Chain K V) (k : K) : (chainDel c k).Sublist c := by
  fun_induction chainDel c k with
  | case1 => exact .refl _
  | case2 => exact List.sublist_cons_self _ _
  | case3 _ _ _ _ _ ih => exact ih.cons_cons _

theorem chainGet_del (c : Chain K V) (k k' : K) (hn : (c.map Prod.fst).Nodup) :
    chainGet (chainDel c k) k' = if k = k' then none else chainGet c k' := by
  fun_induction chainDel c k with
  | case1 => simp
  | case2 b t k =>
    rw [chainGet_cons]
    split
    · subst k'; rw [chainGet_eq_get]; exact AL.get_none_iff.mpr (List.nodup_cons.mp hn).1
    · rfl
  | case3 a b t k hak ih =>
    rw [chainGet_cons, chainGet_cons, ih (List.nodup_cons.mp hn).2]
    by_cases hak' : a = k'
    · subst hak'; simp [Ne.symm hak]
    · simp [hak']

theorem chainSet_same (c : Chain K V) (k : K) (x : V) (h : chainGet c k = some x) : chainSet c k x = c := by
  fun_induction chainSet c k x with
  | case1 => rfl
  | case2 b t k x => simp only [chainGet_cons, if_true, Option.some.injEq] at h; rw [h]
  | case3 a b t k x hak ih => rw [chainGet_cons, if_neg hak] at h; rw [ih h]

end HMap
