/-
  Golib.HMap.WireLemmas — the serialized form of the linked maps reads back to the same dictionary, in order.
-/
import Golib.HMap.Wire
import Golib.HMap.PlainStep
import Golib.HMap.LinkedStep

set_option linter.unusedSectionVars false

namespace HMap
open Prim

theorem run_decPairF (e : Int × Int) (r : Bytes) (h : inRange 8 e.1 ∧ 0 ≤ e.2 ∧ e.2 < 4294967296) :
    P.run decPairF (encPairF e ++ r) = some (e, r) := by
  unfold decPairF encPairF
  rw [List.append_assoc, P.run_bind_some _ _ _ _ _ (run_decDecimal e.1 _ h.1)]
  have hb : e.2.toNat < 256 ^ 4 := by
    have : e.2.toNat < 4294967296 := by omega
    simpa using this
  rw [P.run_bind_some _ _ _ _ _ (run_rdU 4 e.2.toNat r hb)]
  have : ((e.2.toNat : Nat) : Int) = e.2 := Int.toNat_of_nonneg h.2.1
  simp [P.run, this]

theorem run_pairsFromBytesF (es : List (Int × Int)) (r : Bytes)
    (hlen : inRange 8 (es.length : Int)) (h : ∀ e ∈ es, inRange 8 e.1 ∧ 0 ≤ e.2 ∧ e.2 < 4294967296) :
    P.run pairsFromBytesF (pairsToBytesF es ++ r) = some (es, r) := by
  unfold pairsFromBytesF pairsToBytesF
  rw [List.append_assoc, P.run_bind_some _ _ _ _ _ (run_decDecimal _ _ hlen)]
  have : ¬ ((es.length : Int) < 0) := by omega
  simp only [this, if_false, Int.toNat_natCast]
  exact run_decMany encPairF decPairF (fun e => inRange 8 e.1 ∧ 0 ≤ e.2 ∧ e.2 < 4294967296) run_decPairF es r h

/-- what the wire format can carry: decimals for keys (and integer values), a 32-bit pattern for float values -/
def wireOK (float : Bool) (e : Int × Int) : Prop :=
  inRange 8 e.1 ∧ (if float then 0 ≤ e.2 ∧ e.2 < 4294967296 else inRange 8 e.2)

namespace LMap
variable {hash : Int → Nat} {d : Desc Int Int}

/-- `ToObject(ToBytes(m))` into a fresh, unbounded map of any capacity: the same entries **in the same order** -/
theorem linked_wire (float : Bool) (thr : Nat → Nat) (cap : Nat) {m : LMap Int Int} (h : Inv hash d m)
    (hlen : inRange 8 ((m.entries hash).length : Int)) (hr : ∀ e ∈ m.entries hash, wireOK float e) :
    Inv hash d (toObject hash thr float d (LMap.new thr cap) (toBytes hash float m)) ∧
    (abs hash (toObject hash thr float d (LMap.new thr cap) (toBytes hash float m))).ents = (abs hash m).ents := by
  have hdec : P.run (if float then pairsFromBytesF else pairsFromBytes) (toBytes hash float m) = some (m.entries hash, []) := by
    unfold toBytes
    cases float with
    | true =>
      have := run_pairsFromBytesF (m.entries hash) [] hlen (fun e he => by
        have := hr e he; unfold wireOK at this; simpa using this)
      simpa using this
    | false =>
      have := run_pairsFromBytes (m.entries hash) [] hlen (fun e he => by
        have := hr e he; unfold wireOK at this; simpa using this)
      simpa using this
  unfold toObject
  rw [hdec]
  simp only
  have hf := (Inv.new (hash := hash) (thr := thr) (d := d) cap).rel.foldl_put thr (m.entries hash)
  refine ⟨hf.inv, ?_⟩
  rw [hf.abs_eq, abs_new]
  have hk := S.foldl_put_keepLast d (m.entries hash) [] 0
    (by simpa [S.WF, abs] using abs_WF h)
    (by
      intro e hem
      have : e.1 ∈ AL.keys (abs hash m).ents := List.mem_map.mpr ⟨e, hem, rfl⟩
      rw [abs_keys h] at this
      exact h.ok _ this)
    (Or.inl rfl)
  have hk' : (m.entries hash).foldl (fun s e => (S.put d s .last e.1 e.2).1) ({} : S Int Int) =
      { ents := AL.keepLast 0 (m.entries hash), max := 0 } := by simpa using hk
  rw [hk']
  simp [AL.keepLast, abs]

end LMap
end HMap
