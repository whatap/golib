/-
  Golib.HMap.Multi — several live containers.

  A pool is an array of container values; an operation addressed to slot `i` replaces slot `i` by the
  result of the single-object step and leaves every other slot untouched (`poolStep_frame`).  Containers
  are values in the model, so "no shared storage between two maps" is the specification; operations that
  take another container (`PutAll(other)`, `ToObject(other.ToBytes())`) are single-object operations whose
  argument is the *enumeration* of the source (`.putAll l`, a sequence of puts).  Tie B keeps 1–3 live
  instances per history and compares every one of them with its slot after each mutating operation.
-/

namespace HMap

def poolStep {σ O R : Type} (step : σ → O → σ × R) (dflt : σ) (pool : Array σ) (i : Nat) (op : O) : Array σ × R :=
  let r := step (pool.getD i dflt) op
  (pool.setIfInBounds i r.1, r.2)

theorem poolStep_frame {σ O R : Type} (step : σ → O → σ × R) (dflt : σ) (pool : Array σ) (i k : Nat) (op : O)
    (h : k ≠ i) : (poolStep step dflt pool i op).1.getD k dflt = pool.getD k dflt := by
  unfold poolStep
  simp only [Array.getD_eq_getD_getElem?]
  rw [Array.getElem?_setIfInBounds_ne (Ne.symm h)]

theorem poolStep_target {σ O R : Type} (step : σ → O → σ × R) (dflt : σ) (pool : Array σ) (i : Nat) (op : O)
    (h : i < pool.size) :
    (poolStep step dflt pool i op).1.getD i dflt = (step (pool.getD i dflt) op).1 ∧
    (poolStep step dflt pool i op).2 = (step (pool.getD i dflt) op).2 := by
  unfold poolStep
  simp [Array.getD_eq_getD_getElem?, Array.getElem?_setIfInBounds_self_of_lt h]

theorem poolStep_size {σ O R : Type} (step : σ → O → σ × R) (dflt : σ) (pool : Array σ) (i : Nat) (op : O) :
    (poolStep step dflt pool i op).1.size = pool.size := by
  unfold poolStep; simp

/-- a history over the pool: every operation names its slot -/
def poolRun {σ O R : Type} (step : σ → O → σ × R) (dflt : σ) : Array σ → List (Nat × O) → Array σ × List R
  | pool, [] => (pool, [])
  | pool, (i, op) :: rest =>
    let r := poolStep step dflt pool i op
    let rr := poolRun step dflt r.1 rest
    (rr.1, r.2 :: rr.2)

/-! ### slot-wise simulation

    Two pools of equal size whose slots are related by `rel`, under single-object steps that keep `rel` and give
    outputs related by `q`: the addressed slot makes the single-object step, the others are untouched. -/

theorem poolStep_sim {σ τ O R R' : Type} {rel : σ → τ → Prop} {q : R → R' → Prop}
    {step : σ → O → σ × R} {step' : τ → O → τ × R'}
    (hstep : ∀ a b op, rel a b → rel (step a op).1 (step' b op).1 ∧ q (step a op).2 (step' b op).2)
    (dflt : σ) (tdflt : τ) {pool : Array σ} {tpool : Array τ}
    (h : pool.size = tpool.size ∧ ∀ i, i < pool.size → rel (pool.getD i dflt) (tpool.getD i tdflt))
    (i : Nat) (hi : i < pool.size) (op : O) :
    ((poolStep step dflt pool i op).1.size = (poolStep step' tdflt tpool i op).1.size ∧
      ∀ j, j < (poolStep step dflt pool i op).1.size →
        rel ((poolStep step dflt pool i op).1.getD j dflt) ((poolStep step' tdflt tpool i op).1.getD j tdflt)) ∧
    q (poolStep step dflt pool i op).2 (poolStep step' tdflt tpool i op).2 := by
  obtain ⟨hsz, hrel⟩ := h
  obtain ⟨t1, o1⟩ := poolStep_target step dflt pool i op hi
  obtain ⟨t2, o2⟩ := poolStep_target step' tdflt tpool i op (hsz ▸ hi)
  obtain ⟨rr, ro⟩ := hstep _ _ op (hrel i hi)
  refine ⟨⟨by rw [poolStep_size, poolStep_size, hsz], fun j hj => ?_⟩, by rw [o1, o2]; exact ro⟩
  rw [poolStep_size] at hj
  by_cases hji : j = i
  · subst hji; rw [t1, t2]; exact rr
  · rw [poolStep_frame _ _ _ _ _ _ hji, poolStep_frame _ _ _ _ _ _ hji]; exact hrel j hj

/-- … lifted to histories; `qs` relates the output sequences pointwise (`hnil`, `hcons`) -/
theorem poolRun_sim {σ τ O R R' : Type} {rel : σ → τ → Prop} {q : R → R' → Prop} {qs : List R → List R' → Prop}
    {step : σ → O → σ × R} {step' : τ → O → τ × R'}
    (hstep : ∀ a b op, rel a b → rel (step a op).1 (step' b op).1 ∧ q (step a op).2 (step' b op).2)
    (hnil : qs [] []) (hcons : ∀ {a b l l'}, q a b → qs l l' → qs (a :: l) (b :: l'))
    (dflt : σ) (tdflt : τ) (ops : List (Nat × O)) {pool : Array σ} {tpool : Array τ}
    (h : pool.size = tpool.size ∧ ∀ i, i < pool.size → rel (pool.getD i dflt) (tpool.getD i tdflt))
    (hops : ∀ o ∈ ops, o.1 < pool.size) :
    ((poolRun step dflt pool ops).1.size = (poolRun step' tdflt tpool ops).1.size ∧
      ∀ j, j < (poolRun step dflt pool ops).1.size →
        rel ((poolRun step dflt pool ops).1.getD j dflt) ((poolRun step' tdflt tpool ops).1.getD j tdflt)) ∧
    qs (poolRun step dflt pool ops).2 (poolRun step' tdflt tpool ops).2 := by
  induction ops generalizing pool tpool with
  | nil => exact ⟨h, hnil⟩
  | cons o rest ih =>
    obtain ⟨i, op⟩ := o
    obtain ⟨h1, o1⟩ := poolStep_sim hstep dflt tdflt h i (hops (i, op) (by simp)) op
    have := ih h1 (fun o ho => by rw [poolStep_size]; exact hops o (by simp [ho]))
    exact ⟨this.1, hcons o1 this.2⟩

end HMap
