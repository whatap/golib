/-
  Golib.HMap.LinkedRefine — put / add / addNoOver / isFull / clear / Sort of the linked CodeModel, and a fold of puts,
  keep the representation relation and return what the Spec dictionary returns.  (remove, relink, link, grow and the
  eviction loops: LinkedLemmas; all operations together: LinkedStep.)
-/
import Golib.HMap.LinkedLemmas

set_option linter.unusedSectionVars false

namespace HMap
namespace LMap
variable {K V : Type} [DecidableEq K] [DecidableEq V]
variable {hash : K → Nat} {thr : Nat → Nat} {d : Desc K V} {m : LMap K V} {s : S K V}

/-- the three facts proved for every operation -/
def Refines (hash : K → Nat) (d : Desc K V) (r : LMap K V × Out K V) (r' : S K V × Out K V) : Prop :=
  Inv hash d r.1 ∧ r.2 = r'.2 ∧ abs hash r.1 = r'.1

/-- `put` and `add` are this with `f` constant resp. `S.addv d v`, after the guard on refused keys -/
theorem Rel.putWith (thr : Nat → Nat) (h : Rel hash d m s) (mode : Mode) (k : K) (f : Option V → V)
    (hok : d.refuse k = false) :
    Rel hash d (m.putWith hash thr mode k f).1 (s.putWith mode k f).1 ∧
    (m.putWith hash thr mode k f).2 = (s.putWith mode k f).2 := by
  unfold LMap.putWith S.putWith
  rw [h.rep.get]
  cases hg : AL.get s.ents k with
  | some old => exact ⟨h.touch mode _ (by rw [hg]; rfl), rfl⟩
  | none =>
    have h2 := (h.evict mode).grow thr
    have hs : ((if mode.atFront then AL.evictBack s.ents s.max else AL.evictFront s.ents s.max).map Prod.fst).Sublist
        (AL.keys s.ents) := by
      split
      · exact (AL.evictBack_sublist _ _).map _
      · exact (AL.evictFront_sublist _ _).map _
    have := h2.link mode.atFront (f none) (AL.get_none_iff.mpr fun hk => AL.get_none_iff.mp hg (hs.subset hk)) hok
    refine ⟨?_, rfl⟩
    unfold LMap.insertNew AL.insertNew
    cases hf : mode.atFront <;> simpa only [hf, if_true, Bool.false_eq_true, if_false] using this

theorem Rel.put (thr : Nat → Nat) (h : Rel hash d m s) (mode : Mode) (k : K) (v : V) :
    Rel hash d (m.put hash thr d mode k v).1 (S.put d s mode k v).1 ∧
    (m.put hash thr d mode k v).2 = (S.put d s mode k v).2 := by
  unfold LMap.put S.put
  cases hr : d.refuse k
  · simpa only [Bool.false_eq_true, if_false] using h.putWith thr mode k (fun _ => v) hr
  · exact ⟨h, rfl⟩

theorem Rel.add (thr : Nat → Nat) (h : Rel hash d m s) (mode : Mode) (k : K) (v : V) :
    Rel hash d (m.add hash thr d mode k v).1 (S.add d s mode k v).1 ∧
    (m.add hash thr d mode k v).2 = (S.add d s mode k v).2 := by
  unfold LMap.add S.add
  cases hr : d.refuse k
  · simpa only [Bool.false_eq_true, if_false] using h.putWith thr mode k (S.addv d v) hr
  · exact ⟨h, rfl⟩

theorem Rel.isFull (h : Rel hash d m s) : m.isFull = s.isFull := by
  unfold LMap.isFull S.isFull; rw [h.max, h.count]

theorem Rel.addNoOver (thr : Nat → Nat) (h : Rel hash d m s) (k : K) (v : V) :
    Rel hash d (m.addNoOver hash thr d k v).1 (S.addNoOver d s k v).1 ∧
    (m.addNoOver hash thr d k v).2 = (S.addNoOver d s k v).2 := by
  unfold LMap.addNoOver S.addNoOver
  rw [h.rep.get, h.isFull]
  cases hr : d.refuse k
  case true => exact ⟨h, rfl⟩
  cases hg : AL.get s.ents k with
  | some old => exact ⟨h.touch .last _ (by rw [hg]; rfl), rfl⟩
  | none =>
    cases s.isFull
    · exact ⟨(h.grow thr).link false v hg hr, rfl⟩
    · exact ⟨h, rfl⟩

theorem Rel.foldl_put (thr : Nat → Nat) (l : List (K × V)) (h : Rel hash d m s) :
    Rel hash d (l.foldl (fun acc e => (acc.put hash thr d .last e.1 e.2).1) m)
      (l.foldl (fun acc e => (S.put d acc .last e.1 e.2).1) s) := by
  induction l generalizing m s with
  | nil => exact h
  | cons e t ih => exact ih (h.put thr .last e.1 e.2).1

theorem Rel.clear (h : Rel hash d m s) : Rel hash d m.clear { s with ents := [] } :=
  ⟨h.rep.clear, rfl, rfl, h.max, fun _ hk => nomatch hk⟩

theorem Rel.sort (thr : Nat → Nat) (h : Rel hash d m s) (lt : K → K → Bool) :
    Rel hash d (m.sort hash thr d lt) { s with ents := AL.keepLast s.max (AL.sortEnts lt s.ents) } := by
  -- Sort = clear + re-put of the sorted entries; on the Spec side this is `foldl_put_keepLast`
  have hp := S.keys_sortEnts lt s.ents
  have := h.clear.foldl_put thr (AL.sortEnts lt s.ents)
  rw [S.foldl_put_keepLast d (AL.sortEnts lt s.ents) [] s.max (hp.symm.nodup h.rep.wf)
    (fun e he => h.ok _ (hp.subset (List.mem_map_of_mem he))) (Or.inr (Nat.zero_le _))] at this
  unfold LMap.sort
  rwa [h.entries_eq]

theorem put_refines {m : LMap K V} (h : Inv hash d m) (mode : Mode) (k : K) (v : V) :
    Inv hash d (m.put hash thr d mode k v).1 ∧
    (m.put hash thr d mode k v).2 = (S.put d (abs hash m) mode k v).2 ∧
    abs hash (m.put hash thr d mode k v).1 = (S.put d (abs hash m) mode k v).1 :=
  have ⟨a, b⟩ := h.rel.put thr mode k v
  ⟨a.inv, b, a.abs_eq⟩

end LMap
end HMap
