/-
  Golib.HMap.LinkedStep — every operation of the public API keeps the representation relation and answers as the
  Spec dictionary does (`Rel.step`); `refine_step` is that at `s = abs m`, `refine_run` follows for every history.
-/
import Golib.HMap.LinkedRefine

set_option linter.unusedSectionVars false

namespace HMap
namespace LMap
variable {K V : Type} [DecidableEq K] [DecidableEq V]
variable {hash : K → Nat} {thr : Nat → Nat} {d : Desc K V}

section
variable {m : LMap K V} {s : S K V}

theorem Rel.get_eq (h : Rel hash d m s) : m.get hash = AL.get s.ents := funext h.rep.get

theorem Rel.step (thr : Nat → Nat) (h : Rel hash d m s) (op : Op K V) :
    Rel hash d (LMap.step hash thr d m op).1 (S.step d s op).1 ∧
    (LMap.step hash thr d m op).2 = (S.step d s op).2 := by
  have hof : ∀ {e : K × V}, e ∈ s.ents → AL.get s.ents e.1 = some e.2 := AL.get_of_mem h.rep.wf
  cases op with
  | put mode k v => exact (h.put thr mode k v).imp id (congrArg Out.ofVal)
  | add mode k v => exact (h.add thr mode k v).imp id (congrArg Out.ofVal)
  | addNoOver k v => exact (h.addNoOver thr k v).imp id (congrArg Out.ofVal)
  | remove k => exact (h.remove k).imp id (congrArg Out.ofVal)
  | get k => exact ⟨h, by simp only [LMap.step, S.step, h.get_eq]⟩
  | containsKey k => exact ⟨h, by simp only [LMap.step, S.step, h.get_eq]⟩
  | containsValue v =>
    exact ⟨h, congrArg Out.bool (Bool.eq_iff_iff.mpr (by simp only [List.any_eq_true, h.rep.mem_entries]))⟩
  | getLRU k =>
    simp only [LMap.step, S.step, h.get_eq]
    cases hg : AL.get s.ents k with
    | none => exact ⟨h, rfl⟩
    | some v =>
      -- relinking alone is `touch` in mode `forceLast` storing the value the cell already has
      have := h.touch .forceLast v (by rw [hg]; rfl)
      rw [Table.setExisting_same hash _ _ _ ((h.rep.get k).trans hg)] at this
      exact ⟨this, rfl⟩
  | firstKey => exact ⟨h, by simp only [LMap.step, S.step, h.order, AL.keys, List.head?_map]⟩
  | lastKey => exact ⟨h, by simp only [LMap.step, S.step, h.order, AL.keys, List.getLast?_map]⟩
  | firstValue =>
    refine ⟨h, ?_⟩
    simp only [LMap.step, S.step, h.order, h.get_eq, AL.keys, List.head?_map]
    cases hl : s.ents.head? with
    | none => rfl
    | some e => simp [hof (List.mem_of_head? hl)]
  | lastValue =>
    refine ⟨h, ?_⟩
    simp only [LMap.step, S.step, h.order, h.get_eq, AL.keys, List.getLast?_map]
    cases hl : s.ents.getLast? with
    | none => rfl
    | some e => simp [hof (List.mem_of_getLast? hl)]
  | removeFirst =>
    simp only [LMap.step, S.step, h.order, h.count]
    obtain ⟨l, mx⟩ := s
    cases l with
    | nil => exact ⟨h, rfl⟩
    | cons e t =>
      have := h.remove e.1
      rw [AL.erase_head h.rep.wf, hof (by simp)] at this
      simpa [AL.keys, Out.ofVal] using this.imp id (congrArg Out.ofVal)
  | removeLast =>
    simp only [LMap.step, S.step, h.order, h.count, AL.keys, List.getLast?_map]
    cases hl : s.ents.getLast? with
    | none => rw [if_pos (by rw [List.getLast?_eq_none_iff.mp hl]; rfl)]; exact ⟨h, rfl⟩
    | some e =>
      have hne : s.ents.length ≠ 0 := fun e0 => by simp [List.eq_nil_of_length_eq_zero e0] at hl
      have := h.remove e.1
      rw [AL.erase_last h.rep.wf hl, hof (List.mem_of_getLast? hl)] at this
      simpa [hne, Out.ofVal] using this.imp id (congrArg Out.ofVal)
  | clear => exact ⟨h.clear, rfl⟩
  | size => exact ⟨h, by simp only [LMap.step, S.step, h.count]⟩
  | isEmpty => exact ⟨h, by simp only [LMap.step, S.step, h.count]; cases s.ents <;> rfl⟩
  | isFull => exact ⟨h, by simp only [LMap.step, S.step, h.isFull]⟩
  | setMax n => exact ⟨⟨h.rep, h.order, h.count, rfl, h.ok⟩, rfl⟩
  | sort lt => exact ⟨h.sort thr lt, rfl⟩
  | keys => exact ⟨h, by simp only [LMap.step, S.step, h.order]; rfl⟩
  | values =>
    exact ⟨h, congrArg Out.vals ((map_snd_absL (m.tab.get hash) m.order).symm.trans (congrArg (List.map Prod.snd) h.entries_eq))⟩
  | entries => exact ⟨h, by simp only [LMap.step, S.step, h.entries_eq]⟩

end

theorem refine_step (thr : Nat → Nat) {m : LMap K V} (h : Inv hash d m) (op : Op K V) :
    Refines hash d (LMap.step hash thr d m op) (S.step d (abs hash m) op) := by
  obtain ⟨a, b⟩ := h.rel.step thr op
  exact ⟨a.inv, b, a.abs_eq⟩

theorem refine_run (thr : Nat → Nat) (ops : List (Op K V)) {m : LMap K V} (h : Inv hash d m) :
    Inv hash d (LMap.run hash thr d m ops).1 ∧
    (LMap.run hash thr d m ops).2 = (S.run d (abs hash m) ops).2 ∧
    abs hash (LMap.run hash thr d m ops).1 = (S.run d (abs hash m) ops).1 := by
  induction ops generalizing m with
  | nil => exact ⟨h, rfl, rfl⟩
  | cons op ops ih =>
    obtain ⟨hi, ho, he⟩ := refine_step thr h op
    obtain ⟨i2, o2, e2⟩ := ih hi
    simp only [run, S.run]
    rw [← he]
    exact ⟨i2, by rw [ho, o2], e2⟩

/-- … from a freshly constructed map of any capacity: the outputs of the empty dictionary -/
theorem refine_run_new (hash : K → Nat) (thr : Nat → Nat) (d : Desc K V) (cap : Nat) (ops : List (Op K V)) :
    (LMap.run hash thr d (LMap.new thr cap) ops).2 = (S.run d {} ops).2 := by
  have := (refine_run thr ops (Inv.new (hash := hash) (thr := thr) (d := d) cap)).2.1
  rwa [abs_new] at this

/-- under a bound, a history without SetMax never takes `count` above any `B` that is at least the bound and the
    present count (`B = max`: a map within its bound stays within it; `B = max(max, count)`: a surplus never grows) -/
theorem count_run_le (thr : Nat → Nat) (ops : List (Op K V)) {m : LMap K V} (h : Inv hash d m) (hm : 0 < m.max)
    {B : Nat} (hB : m.max ≤ B) (hle : m.count ≤ B) (hops : ∀ op ∈ ops, ∀ n, op ≠ .setMax n) :
    (LMap.run hash thr d m ops).1.count ≤ B ∧ (LMap.run hash thr d m ops).1.max = m.max := by
  induction ops generalizing m with
  | nil => exact ⟨hle, rfl⟩
  | cons op ops ih =>
    obtain ⟨hi, _, he⟩ := refine_step thr h op
    have hb := S.length_step_le d (abs_WF h) hm hB (by rw [abs_length h]; exact hle) op (hops op (by simp))
    rw [← he, abs_length hi] at hb
    change _ ∧ (LMap.step hash thr d m op).1.max = m.max at hb
    have := ih hi (by rw [hb.2]; exact hm) (by rw [hb.2]; exact hB) hb.1 (fun o ho => hops o (by simp [ho]))
    simp only [run]
    rw [hb.2] at this
    exact this

end LMap
end HMap
