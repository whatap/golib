/-
  Golib.HMap.LinkedLemmas — what it means for a linked map to represent a dictionary, and the building blocks of its
  operations (remove, relink, link, rehash, the eviction loops).

  `Rel m s`: the table holds the finite map of `s.ents` (`Table.Rep`), the order list is its key list, `count` its
  length.  `Inv m` says that `m` represents some dictionary and `abs m` is that dictionary (`rel_iff`), so a refinement
  statement `Inv m' ∧ abs m' = s'` is `Rel m' s'`; what keeps the invariant is what keeps the Spec's keys distinct
  (`S.nodup_touch`, `S.length_touch`, `AL.nodup_erase` …), carried along `order = keys`.
-/
import Golib.HMap.Linked
import Golib.HMap.Rep
import Golib.HMap.AbsLemmas

set_option linter.unusedSectionVars false
set_option linter.unusedSimpArgs false

namespace HMap
namespace LMap
variable {K V : Type} [DecidableEq K] [DecidableEq V]
variable (hash : K → Nat) (thr : Nat → Nat)

structure Inv (d : Desc K V) (m : LMap K V) : Prop where
  tab : m.tab.Inv hash
  nodup : m.order.Nodup
  mem : ∀ k, k ∈ m.order ↔ (m.tab.get hash k).isSome
  count : m.count = m.order.length
  ok : ∀ k ∈ m.order, d.refuse k = false

/-- abstraction: the association list the enumerators show, and the bound -/
def abs (m : LMap K V) : S K V := { ents := m.entries hash, max := m.max }

theorem entries_eq (m : LMap K V) : m.entries hash = absL (m.tab.get hash) m.order := rfl

variable {hash thr}
variable {d : Desc K V}

theorem Inv.allSome {m : LMap K V} (h : Inv hash d m) : ∀ k ∈ m.order, (m.tab.get hash k).isSome :=
  fun k hk => (h.mem k).mp hk

theorem abs_get {m : LMap K V} (h : Inv hash d m) (k : K) : AL.get (abs hash m).ents k = m.tab.get hash k := by
  simp only [abs, entries_eq, get_absL]
  by_cases hk : k ∈ m.order
  · simp [hk]
  · simp only [hk, if_false]
    have := (not_congr (h.mem k)).mp hk
    cases hg : m.tab.get hash k with
    | none => rfl
    | some v => simp [hg] at this

theorem abs_keys {m : LMap K V} (h : Inv hash d m) : AL.keys (abs hash m).ents = m.order := by
  simp only [abs, entries_eq]; exact keys_absL h.allSome

theorem abs_length {m : LMap K V} (h : Inv hash d m) : (abs hash m).ents.length = m.count := by
  rw [h.count, ← abs_keys h]; exact (List.length_map _).symm

theorem abs_WF {m : LMap K V} (h : Inv hash d m) : (abs hash m).WF := by
  unfold S.WF; rw [abs_keys h]; exact h.nodup

theorem mem_order_iff {m : LMap K V} (h : Inv hash d m) (k : K) : k ∈ m.order ↔ (AL.get (abs hash m).ents k).isSome := by
  rw [abs_get h]; exact h.mem k

theorem Inv.new (cap : Nat) : Inv hash d (LMap.new thr cap : LMap K V) := by
  unfold LMap.new
  refine ⟨?_, by simp, ?_, rfl, by simp⟩
  · apply Table.Inv.new; split <;> omega
  · intro k; simp

theorem abs_new (cap : Nat) : abs hash (LMap.new thr cap : LMap K V) = {} := by
  simp [abs, LMap.new, entries, S.mk.injEq]

theorem abs_mk {m : LMap K V} {e : List (K × V)} {n : Nat} (he : (abs hash m).ents = e) (hm : m.max = n) :
    abs hash m = { ents := e, max := n } := by
  have : abs hash m = { ents := (abs hash m).ents, max := m.max } := rfl
  rw [this, he, hm]

theorem moveFirst_eq {o : List K} (hn : o.Nodup) {k : K} (hk : k ∈ o) : moveFirst o k = k :: o.erase k := by
  unfold moveFirst
  split
  · rename_i hh
    cases o with
    | nil => simp at hk
    | cons a t =>
      simp only [List.head?_cons, Option.some.injEq] at hh
      subst hh; simp
  · rfl

theorem moveLast_eq {o : List K} (hn : o.Nodup) {k : K} : moveLast o k = o.erase k ++ [k] := by
  unfold moveLast
  split
  · rename_i hh
    obtain ⟨ys, rfl⟩ := List.getLast?_eq_some_iff.mp hh
    rw [List.erase_append_right _ (Golib.nodup_concat_iff.mp hn).2]; simp
  · rfl

variable {m : LMap K V} {s : S K V}

variable (hash) (d) in
/-- the linked map `m` represents the dictionary `s` -/
structure Rel (m : LMap K V) (s : S K V) : Prop where
  rep : m.tab.Rep hash s.ents
  order : m.order = AL.keys s.ents
  count : m.count = s.ents.length
  max : m.max = s.max
  ok : ∀ k ∈ AL.keys s.ents, d.refuse k = false

theorem Inv.rel (h : Inv hash d m) : Rel hash d m (abs hash m) :=
  ⟨⟨h.tab, fun k => (abs_get h k).symm, abs_WF h⟩, (abs_keys h).symm, (abs_length h).symm, rfl,
    by rw [abs_keys h]; exact h.ok⟩

theorem Rel.inv (h : Rel hash d m s) : Inv hash d m :=
  ⟨h.rep.inv, h.order ▸ h.rep.wf, fun k => by rw [h.order, h.rep.get, AL.get_isSome_iff],
    by rw [h.count, h.order]; exact (List.length_map _).symm, h.order ▸ h.ok⟩

theorem Rel.abs_eq (h : Rel hash d m s) : abs hash m = s := by
  have : (abs hash m).ents = s.ents := by
    show absL (m.tab.get hash) m.order = s.ents
    rw [h.order]
    exact absL_keys fun e he => (h.rep.get e.1).trans ((AL.get_eq_some_iff h.rep.wf).mpr he)
  exact abs_mk this h.max

theorem Rel.entries_eq (h : Rel hash d m s) : m.entries hash = s.ents := congrArg S.ents h.abs_eq

theorem rel_iff : Rel hash d m s ↔ Inv hash d m ∧ abs hash m = s :=
  ⟨fun h => ⟨h.inv, h.abs_eq⟩, fun ⟨h, e⟩ => e ▸ h.rel⟩

theorem Rel.remove (h : Rel hash d m s) (k : K) :
    Rel hash d (m.remove hash k).1 { s with ents := AL.erase s.ents k } ∧ (m.remove hash k).2 = AL.get s.ents k := by
  unfold LMap.remove
  rw [h.rep.get]
  cases hg : AL.get s.ents k with
  | none => rw [AL.erase_of_not_mem (AL.get_none_iff.mp hg)]; exact ⟨h, rfl⟩
  | some v =>
    have hk : k ∈ AL.keys s.ents := AL.get_isSome_iff.mp (by rw [hg]; rfl)
    have hl := AL.length_erase_of_mem h.rep.wf hk
    exact ⟨⟨h.rep.del k, by simp only [h.order, AL.keys_erase_eq h.rep.wf], by simp only [h.count]; omega, h.max,
      fun x hx => h.ok x (((AL.erase_sublist s.ents k).map _).subset hx)⟩, rfl⟩

theorem keys_touch (mode : Mode) {l : List (K × V)} (hn : (AL.keys l).Nodup) {k : K} (hk : k ∈ AL.keys l) (v : V) :
    AL.keys (AL.touch mode l k v) = relink mode (AL.keys l) k := by
  cases mode <;> simp only [AL.touch, relink]
  · exact AL.keys_set l k v
  · rw [moveLast_eq hn, AL.keys_append, AL.keys_erase_eq hn]; rfl
  · rw [moveFirst_eq hn hk, ← AL.keys_erase_eq hn]; rfl
  · exact AL.keys_set l k v

/-- a present key receives a new value and is relinked according to the mode -/
theorem Rel.touch (h : Rel hash d m s) (mode : Mode) {k : K} (v : V) (hp : (AL.get s.ents k).isSome) :
    Rel hash d { m with tab := m.tab.setExisting hash k v, order := relink mode m.order k }
      { s with ents := AL.touch mode s.ents k v } :=
  have hk := AL.get_isSome_iff.mp hp
  ⟨h.rep.set v hp (S.nodup_touch mode k v h.rep.wf) (AL.get_touch mode v hp),
    by simp only [h.order, keys_touch mode h.rep.wf hk], by simp only [h.count, S.length_touch mode k v h.rep.wf hk],
    h.max, fun x hx => h.ok x ((S.mem_keys_touch mode v hk x).mp hx)⟩

/-- an absent key is linked at the front or at the back -/
theorem Rel.link (h : Rel hash d m s) (front : Bool) {k : K} (v : V) (ha : AL.get s.ents k = none)
    (hok : d.refuse k = false) :
    Rel hash d { m with tab := m.tab.insertNew hash k v, order := if front then k :: m.order else m.order ++ [k],
                        count := m.count + 1 }
      { s with ents := if front then (k, v) :: s.ents else s.ents ++ [(k, v)] } := by
  have hk := AL.get_none_iff.mp ha
  cases front
  · exact ⟨h.rep.insert v ha (AL.nodup_keys_snoc h.rep.wf hk) (AL.get_snoc v ha),
      by simp [h.order, AL.keys], by simp [h.count], h.max,
      fun x hx => by
        rw [if_neg Bool.false_ne_true, AL.keys_append, List.mem_append] at hx
        exact hx.elim (h.ok x) fun e => by simp [AL.keys] at e; exact e ▸ hok⟩
  · exact ⟨h.rep.insert v ha (List.nodup_cons.mpr ⟨hk, h.rep.wf⟩) (fun _ => rfl),
      by simp [h.order, AL.keys], by simp [h.count], h.max,
      fun x hx => by
        rw [if_pos rfl] at hx
        exact (List.mem_cons.mp hx).elim (fun e => e ▸ hok) (h.ok x)⟩

theorem Rel.grow (thr : Nat → Nat) (h : Rel hash d m s) : Rel hash d (m.grow hash thr) s := by
  unfold LMap.grow LMap.rehash
  split
  · exact ⟨h.rep.rehash, h.order, h.count, h.max, h.ok⟩
  · exact h

theorem Rel.evictFront (h : Rel hash d m s) (hm : 0 < s.max) (fuel : Nat) (hf : s.ents.length < fuel) :
    Rel hash d (m.evictFront hash fuel) { s with ents := AL.evictFront s.ents s.max } := by
  induction fuel generalizing m s with
  | zero => omega
  | succ f ih =>
    unfold LMap.evictFront
    rw [h.max, h.count, h.order]
    by_cases hle : s.max ≤ s.ents.length
    · obtain ⟨l, mx⟩ := s
      cases l with
      | nil => exact absurd hle (Nat.not_le.mpr hm)
      | cons e t =>
        have hr := (h.remove e.1).1
        simp only [AL.erase_head h.rep.wf] at hr
        simpa only [if_pos hle, AL.keys, List.map_cons, List.head?_cons, AL.evictFront_cons hm e t hle] using ih hr hm (by simpa using hf)
    · rw [if_neg hle, (AL.evict_of_not_full (fun c => hle c.2)).1]; exact h

theorem Rel.evictBack (h : Rel hash d m s) (hm : 0 < s.max) (fuel : Nat) (hf : s.ents.length < fuel) :
    Rel hash d (m.evictBack hash fuel) { s with ents := AL.evictBack s.ents s.max } := by
  induction fuel generalizing m s with
  | zero => omega
  | succ f ih =>
    unfold LMap.evictBack
    rw [h.max, h.count, h.order]
    by_cases hle : s.max ≤ s.ents.length
    · cases hl : s.ents.getLast? with
      | none => rw [List.getLast?_eq_none_iff.mp hl] at hle; exact absurd hle (Nat.not_le.mpr hm)
      | some e =>
        have hr := (h.remove e.1).1
        simp only [AL.erase_last h.rep.wf hl] at hr
        have := ih hr hm (by simp only [List.length_dropLast]; omega)
        simpa only [if_pos hle, AL.keys, List.getLast?_map, hl, Option.map_some, AL.evictBack_dropLast hm hle] using this
    · rw [if_neg hle, (AL.evict_of_not_full (fun c => hle c.2)).2]; exact h

theorem Rel.evict (h : Rel hash d m s) (mode : Mode) :
    Rel hash d (m.evict hash mode)
      { s with ents := if mode.atFront then AL.evictBack s.ents s.max else AL.evictFront s.ents s.max } := by
  unfold LMap.evict
  rw [h.max, h.count]
  by_cases hm : 0 < s.max
  · -- the model's fuel `count + 1` is enough: every round of the loop removes one entry
    rw [if_pos hm]
    split
    · exact h.evictBack hm _ (Nat.lt_succ_self _)
    · exact h.evictFront hm _ (Nat.lt_succ_self _)
  · rw [if_neg hm, (AL.evict_of_not_full (fun c => hm c.1)).1, (AL.evict_of_not_full (fun c => hm c.1)).2, ite_self]; exact h

end LMap
end HMap
