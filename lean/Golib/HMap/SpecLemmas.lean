/-
  Golib.HMap.SpecLemmas — facts about association lists and about the Spec dictionary itself:
  keys stay distinct, lookup laws, the size bound, and re-inserting a key-distinct list keeps its
  last `max` entries.
-/
import Golib.Basic
import Golib.HMap.Spec

set_option linter.unusedSectionVars false

namespace HMap

namespace AL
variable {K V : Type} [DecidableEq K]

def keys (l : List (K × V)) : List K := l.map Prod.fst

omit [DecidableEq K] in
theorem keys_append (l₁ l₂ : List (K × V)) : keys (l₁ ++ l₂) = keys l₁ ++ keys l₂ := by
  simp [keys]

omit [DecidableEq K] in
theorem not_mem_keys_of_nodup_append {acc t : List (K × V)} {k : K} {v : V}
    (hn : (keys (acc ++ (k, v) :: t)).Nodup) : k ∉ keys acc := by
  intro hh
  rw [keys_append, List.nodup_append] at hn
  exact hn.2.2 k hh k (by simp [keys]) rfl

omit [DecidableEq K] in
theorem nodup_keys_snoc {l : List (K × V)} {k : K} {v : V} (hn : (keys l).Nodup) (hk : k ∉ keys l) :
    (keys (l ++ [(k, v)])).Nodup := by
  rw [keys_append]; exact Golib.nodup_concat_iff.mpr ⟨hn, hk⟩

@[simp] theorem get_nil (k : K) : get ([] : List (K × V)) k = none := rfl

theorem get_cons (a : K) (b : V) (t : List (K × V)) (k : K) :
    get ((a, b) :: t) k = if a = k then some b else get t k := rfl

theorem get_none_iff {l : List (K × V)} {k : K} : get l k = none ↔ k ∉ keys l := by
  fun_induction get l k with
  | case1 => simp [keys]
  | case2 => simp [keys]
  | case3 a b t k hak ih => simp only [ih, keys, List.map_cons, List.mem_cons, not_or, Ne.symm hak, not_false_eq_true, true_and]

theorem get_some_mem {l : List (K × V)} {k : K} {v : V} (h : get l k = some v) : (k, v) ∈ l := by
  fun_induction get l k with
  | case1 => simp at h
  | case2 => cases h; exact List.mem_cons_self
  | case3 _ _ _ _ _ ih => exact List.mem_cons_of_mem _ (ih h)

theorem get_isSome_iff {l : List (K × V)} {k : K} : (get l k).isSome ↔ k ∈ keys l := by
  have := get_none_iff (l := l) (k := k)
  cases h : get l k with
  | none => simp [h] at this ⊢; exact this
  | some v =>
    simp only [Option.isSome_some, true_iff]
    exact List.mem_map.mpr ⟨(k, v), get_some_mem h, rfl⟩

theorem get_eq_some_iff {l : List (K × V)} (hn : (keys l).Nodup) {k : K} {v : V} :
    get l k = some v ↔ (k, v) ∈ l := by
  refine ⟨get_some_mem, fun h => ?_⟩
  fun_induction get l k with
  | case1 => simp at h
  | case2 b t k =>
    rcases List.mem_cons.mp h with h | h
    · cases h; rfl
    · exact absurd (List.mem_map_of_mem (f := Prod.fst) h) (List.nodup_cons.mp hn).1
  | case3 a b t k hak ih =>
    exact ih (List.nodup_cons.mp hn).2 ((List.mem_cons.mp h).resolve_left fun e => hak (by cases e; rfl))

theorem get_append (l₁ l₂ : List (K × V)) (k : K) :
    get (l₁ ++ l₂) k = match get l₁ k with | some v => some v | none => get l₂ k := by
  fun_induction get l₁ k <;> simp [get_cons, *]

theorem keys_erase (l : List (K × V)) (k : K) : keys (erase l k) = (keys l).filter (fun a => !decide (a = k)) := by
  unfold erase keys
  induction l with
  | nil => rfl
  | cons e t ih =>
    simp only [List.filter_cons, List.map_cons]
    by_cases h : e.1 = k <;> simp [h, ih]

theorem erase_sublist (l : List (K × V)) (k : K) : (erase l k).Sublist l := List.filter_sublist

theorem nodup_erase {l : List (K × V)} (k : K) (h : (keys l).Nodup) : (keys (erase l k)).Nodup := by
  rw [keys_erase]; exact List.Nodup.sublist List.filter_sublist h

theorem not_mem_keys_erase (l : List (K × V)) (k : K) : k ∉ keys (erase l k) := by
  rw [keys_erase]; simp

theorem get_erase (l : List (K × V)) (k k' : K) : get (erase l k) k' = if k = k' then none else get l k' := by
  induction l with
  | nil => simp [erase]
  | cons e t ih =>
    obtain ⟨a, b⟩ := e
    unfold erase at ih ⊢
    simp only [List.filter_cons]
    by_cases hak : a = k
    · subst hak
      simp only [decide_true, Bool.not_true, Bool.false_eq_true, if_false, ih, get_cons]
      by_cases h : a = k' <;> simp [h]
    · simp only [hak, decide_false, Bool.not_false, if_true, get_cons, ih]
      by_cases h : a = k'
      · subst h
        have : ¬ k = a := fun e => hak e.symm
        simp [this]
      · simp [h]

theorem erase_of_not_mem {l : List (K × V)} {k : K} (h : k ∉ keys l) : erase l k = l := by
  unfold erase
  apply List.filter_eq_self.mpr
  intro e he
  simp only [Bool.not_eq_eq_eq_not, Bool.not_true, decide_eq_false_iff_not]
  intro hk
  exact h (List.mem_map.mpr ⟨e, he, hk⟩)

theorem length_erase_of_mem {l : List (K × V)} {k : K} (hn : (keys l).Nodup) (h : k ∈ keys l) :
    (erase l k).length + 1 = l.length := by
  induction l with
  | nil => simp [keys] at h
  | cons e t ih =>
    obtain ⟨a, b⟩ := e
    simp only [keys, List.map_cons, List.nodup_cons, List.mem_cons] at hn h
    unfold erase
    simp only [List.filter_cons]
    by_cases hak : a = k
    · subst hak
      have : erase t a = t := erase_of_not_mem hn.1
      unfold erase at this
      simp only [decide_true, Bool.not_true, Bool.false_eq_true, if_false, this, List.length_cons]
    · have hk : k ∈ keys t := by
        rcases h with h | h
        · exact absurd h.symm hak
        · exact h
      have := ih hn.2 hk
      unfold erase at this
      simp only [hak, decide_false, Bool.not_false, if_true, List.length_cons]
      omega

theorem keys_set (l : List (K × V)) (k : K) (v : V) : keys (set l k v) = keys l := by
  unfold set keys
  rw [List.map_map]
  apply List.map_congr_left
  intro e _
  simp only [Function.comp]
  split <;> rfl

@[simp] theorem length_set (l : List (K × V)) (k : K) (v : V) : (set l k v).length = l.length := by
  simp [set]

theorem get_set (l : List (K × V)) (k k' : K) (v : V) :
    get (set l k v) k' = if k = k' then (if (get l k).isSome then some v else none) else get l k' := by
  induction l with
  | nil => simp [set]
  | cons e t ih =>
    obtain ⟨a, b⟩ := e
    unfold set at ih ⊢
    simp only [List.map_cons]
    by_cases hak : a = k
    · subst hak
      simp only [if_true, get_cons]
      by_cases h : a = k' <;> simp [h, ih]
    · simp only [hak, if_false, get_cons, ih]
      by_cases h : a = k'
      · subst h
        have : ¬ k = a := fun e => hak e.symm
        simp [this]
      · simp only [h, if_false]

theorem evictFront_sublist (l : List (K × V)) (max : Nat) : (evictFront l max).Sublist l := by
  unfold evictFront; split
  · exact List.drop_sublist _ _
  · exact List.Sublist.refl _

theorem evictBack_sublist (l : List (K × V)) (max : Nat) : (evictBack l max).Sublist l := by
  unfold evictBack; split
  · exact List.take_sublist _ _
  · exact List.Sublist.refl _

theorem length_evictFront (l : List (K × V)) (max : Nat) :
    (evictFront l max).length = if 0 < max ∧ max ≤ l.length then max - 1 else l.length := by
  unfold evictFront; split
  · rw [List.length_drop]; omega
  · rfl

theorem length_evictBack (l : List (K × V)) (max : Nat) :
    (evictBack l max).length = if 0 < max ∧ max ≤ l.length then max - 1 else l.length := by
  unfold evictBack; split
  · rw [List.length_take]; omega
  · rfl

theorem get_of_mem {l : List (K × V)} (hn : (keys l).Nodup) {e : K × V} (he : e ∈ l) : get l e.1 = some e.2 :=
  (get_eq_some_iff hn).mpr he

theorem get_snoc {l : List (K × V)} {k : K} (v : V) (h : get l k = none) (x : K) :
    get (l ++ [(k, v)]) x = if k = x then some v else get l x := by
  rw [get_append]
  by_cases e : k = x
  · subst e; simp [h, get_cons]
  · cases get l x <;> simp [e, get_cons]

theorem get_set_of_isSome {l : List (K × V)} {k : K} (v : V) (h : (get l k).isSome) (x : K) :
    get (set l k v) x = if k = x then some v else get l x := by
  rw [get_set, h]; simp

/-- in every mode `touch` changes one lookup: the order of the list is not seen by `get` -/
theorem get_touch (m : Mode) {l : List (K × V)} {k : K} (v : V) (h : (get l k).isSome) (x : K) :
    get (touch m l k v) x = if k = x then some v else get l x := by
  have he : get (erase l k) k = none := by rw [get_erase]; simp
  cases m <;> simp only [touch]
  · exact get_set_of_isSome v h x
  · rw [get_snoc v he, get_erase]; split <;> rfl
  · rw [get_cons, get_erase]; split <;> rfl
  · exact get_set_of_isSome v h x

theorem keys_erase_eq {l : List (K × V)} (hn : (keys l).Nodup) (k : K) : keys (erase l k) = (keys l).erase k := by
  rw [keys_erase, hn.erase_eq_filter]; rfl

theorem erase_head {e : K × V} {t : List (K × V)} (hn : (keys (e :: t)).Nodup) : erase (e :: t) e.1 = t := by
  have := erase_of_not_mem (List.nodup_cons.mp hn).1
  unfold erase at this ⊢
  simp [this]

theorem erase_last {l : List (K × V)} (hn : (keys l).Nodup) {e : K × V} (h : l.getLast? = some e) :
    erase l e.1 = l.dropLast := by
  obtain ⟨ys, rfl⟩ := List.getLast?_eq_some_iff.mp h
  have hn' : (keys ys ++ [e.1]).Nodup := by simpa [keys] using hn
  have := erase_of_not_mem (Golib.nodup_concat_iff.mp hn').2
  unfold erase at this ⊢
  simp [List.filter_append, this]

/-- one round of `for count >= max { remove(first) }` on a full list -/
theorem evictFront_cons {max : Nat} (hm : 0 < max) (e : K × V) (t : List (K × V)) (h : max ≤ t.length + 1) :
    evictFront (e :: t) max = evictFront t max := by
  unfold evictFront
  simp only [List.length_cons, hm, h, and_self, if_true, true_and]
  split
  · rw [show t.length + 1 + 1 - max = (t.length + 1 - max) + 1 by omega, List.drop_succ_cons]
  · rw [show t.length + 1 + 1 - max = 1 by omega]; rfl

/-- one round of `for count >= max { remove(last) }` on a full list -/
theorem evictBack_dropLast {max : Nat} (hm : 0 < max) {l : List (K × V)} (h : max ≤ l.length) :
    evictBack l max = evictBack l.dropLast max := by
  unfold evictBack
  simp only [hm, h, and_self, if_true, true_and, List.length_dropLast]
  split
  · rw [List.dropLast_eq_take, List.take_take]; congr 1; omega
  · rw [List.dropLast_eq_take]; congr 1; omega

theorem evict_of_not_full {max : Nat} {l : List (K × V)} (h : ¬ (0 < max ∧ max ≤ l.length)) :
    evictFront l max = l ∧ evictBack l max = l := by
  unfold evictFront evictBack; simp only [h, if_false, and_self]

/-- inserting at the back under a bound: append, then keep the last `max` -/
theorem evictFront_snoc (l : List (K × V)) (max : Nat) (e : K × V) :
    evictFront l max ++ [e] = keepLast max (l ++ [e]) := by
  unfold evictFront keepLast
  by_cases h : 0 < max ∧ max ≤ l.length
  · rw [if_pos h, if_pos ⟨h.1, by simp; omega⟩, List.length_append, List.drop_append_of_le_length (by simp; omega)]; rfl
  · rw [if_neg h, if_neg (by simp; omega)]

theorem keepLast_append_absorb (max : Nat) (l t : List (K × V)) :
    keepLast max (keepLast max l ++ t) = keepLast max (l ++ t) := by
  by_cases h : 0 < max ∧ max < l.length
  · -- `l` is cut to its last `max` entries; so is what stands before `t` on the right
    have hl : (l.drop (l.length - max)).length = max := by
      rw [List.length_drop]; exact Nat.sub_sub_self (Nat.le_of_lt h.2)
    rw [show keepLast max l = l.drop (l.length - max) from if_pos h]
    cases t with
    | nil =>
      rw [List.append_nil, List.append_nil, keepLast, keepLast, if_pos h,
        if_neg (by rw [hl]; exact fun c => Nat.lt_irrefl _ c.2)]
    | cons e t =>
      rw [keepLast, keepLast, List.length_append, List.length_append, hl,
        if_pos ⟨h.1, Nat.lt_add_of_pos_right (Nat.succ_pos _)⟩, if_pos ⟨h.1, Nat.lt_add_right _ h.2⟩,
        Nat.add_sub_cancel_left, Nat.sub_add_comm (Nat.le_of_lt h.2), ← List.drop_drop,
        List.drop_append_of_le_length (Nat.sub_le _ _)]
  · rw [show keepLast max l = l from if_neg h]

theorem length_keepLast_le {max : Nat} (h : 0 < max) (l : List (K × V)) : (keepLast max l).length ≤ max := by
  unfold keepLast; split
  · rw [List.length_drop]; omega
  · omega

end AL

namespace S
variable {K V : Type} [DecidableEq K] [DecidableEq V]

/-- well-formed state: keys are distinct -/
def WF (s : S K V) : Prop := (AL.keys s.ents).Nodup

/-! #### `put` by case: a refused key, a present key (`touch`), an absent key (`insertNew`) -/

theorem putWith_present {s : S K V} {k : K} {old : V} (h : AL.get s.ents k = some old) (m : Mode) (f : Option V → V) :
    s.putWith m k f = ({ s with ents := AL.touch m s.ents k (f (some old)) }, some old) := by
  simp only [putWith, h]

theorem putWith_absent {s : S K V} {k : K} (h : AL.get s.ents k = none) (m : Mode) (f : Option V → V) :
    s.putWith m k f = ({ s with ents := AL.insertNew m s.ents s.max k (f none) }, none) := by
  simp only [putWith, h]

theorem put_refused {d : Desc K V} {k : K} (h : d.refuse k = true) (s : S K V) (m : Mode) (v : V) :
    put d s m k v = (s, none) := by
  simp only [put, h, if_true]

theorem put_accepted {d : Desc K V} {k : K} (h : d.refuse k = false) (s : S K V) (m : Mode) (v : V) :
    put d s m k v = s.putWith m k fun _ => v := by
  simp only [put, h, Bool.false_eq_true, if_false]

theorem putWith_max (s : S K V) (m : Mode) (k : K) (f : Option V → V) : (s.putWith m k f).1.max = s.max := by
  unfold putWith; split <;> rfl

theorem put_max (d : Desc K V) (s : S K V) (m : Mode) (k : K) (v : V) : (put d s m k v).1.max = s.max := by
  unfold put; split; rfl; exact putWith_max ..

theorem nodup_insertNew {l : List (K × V)} (m : Mode) (max : Nat) (k : K) (v : V)
    (hn : (AL.keys l).Nodup) (hk : k ∉ AL.keys l) : (AL.keys (AL.insertNew m l max k v)).Nodup := by
  unfold AL.insertNew
  split
  · have hs := (AL.evictBack_sublist l max).map Prod.fst
    exact List.nodup_cons.mpr ⟨fun h => hk (hs.subset h), hn.sublist hs⟩
  · have hs := (AL.evictFront_sublist l max).map Prod.fst
    exact AL.nodup_keys_snoc (hn.sublist hs) (fun h => hk (hs.subset h))

theorem nodup_touch {l : List (K × V)} (m : Mode) (k : K) (v : V) (hn : (AL.keys l).Nodup) :
    (AL.keys (AL.touch m l k v)).Nodup := by
  unfold AL.touch
  split
  · exact List.nodup_cons.mpr ⟨AL.not_mem_keys_erase l k, AL.nodup_erase k hn⟩
  · exact AL.nodup_keys_snoc (AL.nodup_erase k hn) (AL.not_mem_keys_erase l k)
  · rw [AL.keys_set]; exact hn

theorem WF_putWith {s : S K V} (h : s.WF) (m : Mode) (k : K) (f : Option V → V) : (s.putWith m k f).1.WF := by
  unfold putWith
  split
  · exact nodup_touch m k _ h
  · rename_i hg
    exact nodup_insertNew m s.max k _ h (AL.get_none_iff.mp hg)

theorem keys_sortEnts (lt : K → K → Bool) (l : List (K × V)) : (AL.keys (AL.sortEnts lt l)).Perm (AL.keys l) := by
  unfold AL.sortEnts AL.keys
  exact (List.mergeSort_perm _ _).map _

theorem keepLast_sublist (max : Nat) (l : List (K × V)) : (AL.keepLast max l).Sublist l := by
  unfold AL.keepLast; split
  · exact List.drop_sublist _ _
  · exact List.Sublist.refl _

theorem WF_step (d : Desc K V) {s : S K V} (h : s.WF) (op : Op K V) : (step d s op).1.WF := by
  cases op <;> simp only [step]
  case put m k v => unfold put; split; exact h; exact WF_putWith h _ _ _
  case add m k v => unfold add; split; exact h; exact WF_putWith h _ _ _
  case addNoOver k v =>
    unfold addNoOver
    split; exact h
    split
    · exact nodup_touch .last k _ h
    · rename_i hg
      split; exact h
      exact AL.nodup_keys_snoc h (AL.get_none_iff.mp hg)
  case getLRU k =>
    split
    · exact nodup_touch .forceLast k _ h
    · exact h
  case remove k => exact AL.nodup_erase k h
  case removeFirst =>
    split
    · exact h
    · rename_i hs
      unfold WF at h ⊢; rw [hs] at h
      simp only [AL.keys, List.map_cons, List.nodup_cons] at h
      exact h.2
  case removeLast =>
    split
    · exact h
    · unfold WF; simp only
      exact List.Nodup.sublist ((List.dropLast_sublist _).map _) h
  case clear => unfold WF; simp [AL.keys]
  case sort lt =>
    unfold WF; simp only
    have hp := keys_sortEnts lt s.ents
    have hs := (keepLast_sublist s.max (AL.sortEnts lt s.ents)).map Prod.fst
    exact List.Nodup.sublist hs (hp.symm.nodup h)
  all_goals exact h

theorem length_insertNew (m : Mode) (l : List (K × V)) (max : Nat) (k : K) (v : V) :
    (AL.insertNew m l max k v).length = if 0 < max ∧ max ≤ l.length then max else l.length + 1 := by
  unfold AL.insertNew
  split
  · simp only [List.length_cons, AL.length_evictBack]; split <;> omega
  · simp only [List.length_append, AL.length_evictFront, List.length_cons, List.length_nil]; split <;> omega

theorem length_touch {l : List (K × V)} (m : Mode) (k : K) (v : V) (hn : (AL.keys l).Nodup) (hk : k ∈ AL.keys l) :
    (AL.touch m l k v).length = l.length := by
  have := AL.length_erase_of_mem hn hk
  unfold AL.touch
  split
  · simp; omega
  · simp; omega
  · simp

theorem mem_keys_touch {l : List (K × V)} (m : Mode) {k : K} (v : V) (hk : k ∈ AL.keys l) (x : K) :
    x ∈ AL.keys (AL.touch m l k v) ↔ x ∈ AL.keys l := by
  have he : x ∈ AL.keys (AL.erase l k) ∨ x = k ↔ x ∈ AL.keys l := by
    rw [AL.keys_erase]
    simp only [List.mem_filter, Bool.not_eq_eq_eq_not, Bool.not_true, decide_eq_false_iff_not]
    constructor
    · rintro (⟨h1, _⟩ | rfl); exact h1; exact hk
    · intro hx; by_cases e : x = k; exact Or.inr e; exact Or.inl ⟨hx, e⟩
  cases m <;> simp only [AL.touch]
  · rw [AL.keys_set]
  · rw [AL.keys_append, List.mem_append]; exact (or_congr_right List.mem_singleton).trans he
  · exact List.mem_cons.trans (or_comm.trans he)
  · rw [AL.keys_set]

theorem length_putWith {s : S K V} (h : s.WF) (m : Mode) (k : K) (f : Option V → V) :
    (s.putWith m k f).1.ents.length =
      if (AL.get s.ents k).isSome then s.ents.length
      else if 0 < s.max ∧ s.max ≤ s.ents.length then s.max else s.ents.length + 1 := by
  unfold putWith
  split
  · rename_i hg
    simp only [hg, Option.isSome_some, if_true]
    exact length_touch m k _ h (AL.get_isSome_iff.mp (by simp [hg]))
  · rename_i hg
    simp only [hg, Option.isSome_none, Bool.false_eq_true, if_false]
    exact length_insertNew m _ _ _ _

/-- under a bound, no operation other than SetMax takes the size above any `B` that is at least the bound and the present
    size: a map within its bound stays within it (`B = max`), a surplus left by a `SetMax` below the size never grows -/
theorem length_step_le (d : Desc K V) {s : S K V} (h : s.WF) (hm : 0 < s.max) {B : Nat} (hB : s.max ≤ B)
    (hle : s.ents.length ≤ B) (op : Op K V) (hop : ∀ n, op ≠ .setMax n) :
    (step d s op).1.ents.length ≤ B ∧ (step d s op).1.max = s.max := by
  have hput : ∀ m k f, (s.putWith m k f).1.ents.length ≤ B ∧ (s.putWith m k f).1.max = s.max := by
    intro m k f
    refine ⟨?_, putWith_max ..⟩
    rw [length_putWith h]
    split
    · exact hle
    · split
      · exact hB
      · rename_i h1 h2
        have : ¬ (s.max ≤ s.ents.length) := fun hh => h2 ⟨hm, hh⟩
        omega
  cases op <;> simp only [step]
  case put m k v => unfold put; split; exact ⟨hle, rfl⟩; exact hput _ _ _
  case add m k v => unfold add; split; exact ⟨hle, rfl⟩; exact hput _ _ _
  case addNoOver k v =>
    unfold addNoOver
    split; exact ⟨hle, rfl⟩
    split
    · simp only [AL.length_set]; exact ⟨hle, trivial⟩
    · split
      · exact ⟨hle, rfl⟩
      · rename_i hf
        simp only [isFull, decide_eq_true_eq] at hf
        simp only [List.length_append, List.length_cons, List.length_nil]
        have : ¬ (s.max ≤ s.ents.length) := fun hh => hf ⟨hm, hh⟩
        exact ⟨by omega, trivial⟩
  case getLRU k =>
    split
    · rename_i v hg
      have := length_touch .forceLast k v h (AL.get_isSome_iff.mp (by rw [hg]; rfl))
      exact ⟨this ▸ hle, rfl⟩
    · exact ⟨hle, rfl⟩
  case remove k =>
    unfold remove
    exact ⟨Nat.le_trans (AL.erase_sublist s.ents k).length_le hle, rfl⟩
  case removeFirst =>
    split
    · exact ⟨hle, rfl⟩
    · rename_i hs
      rw [hs] at hle; simp only [List.length_cons] at hle
      exact ⟨by simp only; omega, rfl⟩
  case removeLast =>
    split
    · exact ⟨hle, rfl⟩
    · simp only [List.length_dropLast]; exact ⟨by omega, trivial⟩
  case clear => exact ⟨Nat.zero_le _, trivial⟩
  case setMax n => exact absurd rfl (hop n)
  case sort lt =>
    refine ⟨Nat.le_trans (keepLast_sublist _ _).length_le ?_, trivial⟩
    have : (AL.sortEnts lt s.ents).length = s.ents.length := (List.mergeSort_perm _ _).length_eq
    rw [this]; exact hle
  all_goals exact ⟨hle, trivial⟩

/-- no operation other than SetMax lets a map that is within its bound exceed it -/
theorem bounded_step (d : Desc K V) {s : S K V} (h : s.WF) (hm : 0 < s.max) (hle : s.ents.length ≤ s.max)
    (op : Op K V) (hop : ∀ n, op ≠ .setMax n) :
    (step d s op).1.ents.length ≤ s.max ∧ (step d s op).1.max = s.max :=
  length_step_le d h hm (Nat.le_refl _) hle op hop

/-! #### Spec side of sort: re-inserting a key-distinct list under the bound keeps the last `max` -/

theorem foldl_put_keepLast (d : Desc K V) (l acc : List (K × V)) (max : Nat)
    (hn : (AL.keys (acc ++ l)).Nodup) (hok : ∀ e ∈ l, d.refuse e.1 = false)
    (hb : max = 0 ∨ acc.length ≤ max) :
    l.foldl (fun s e => (S.put d s .last e.1 e.2).1) { ents := acc, max := max } =
      { ents := AL.keepLast max (acc ++ l), max := max } := by
  induction l generalizing acc with
  | nil =>
    rw [List.append_nil, show AL.keepLast max acc = acc from if_neg (by omega)]; rfl
  | cons e t ih =>
    have hput : (S.put d { ents := acc, max := max } .last e.1 e.2).1 =
        { ents := AL.keepLast max (acc ++ [e]), max := max } := by
      rw [← AL.evictFront_snoc, put_accepted (hok e (by simp)),
        putWith_absent (AL.get_none_iff.mpr (AL.not_mem_keys_of_nodup_append (v := e.2) hn))]
      rfl
    have hsub : (AL.keys (AL.keepLast max (acc ++ [e]) ++ t)).Sublist (AL.keys (acc ++ e :: t)) := by
      rw [show acc ++ e :: t = acc ++ [e] ++ t by simp]
      exact ((keepLast_sublist max _).append_right _).map _
    rw [List.foldl_cons, hput, ih _ (hn.sublist hsub) (fun x hx => hok x (by simp [hx]))
      (by by_cases h0 : max = 0; exact Or.inl h0; exact Or.inr (AL.length_keepLast_le (by omega) _)),
      AL.keepLast_append_absorb, List.append_assoc]; rfl

/-! #### a resident entry under later puts of other keys -/

/-- one `put` (mode last) of another key keeps a resident entry in place when there is room for one more younger
    entry: whatever is evicted is older -/
theorem put_last_resident (d : Desc K V) {pre young : List (K × V)} {i : K} {v : V} {max : Nat} (k : K) (w : V)
    (hki : k ≠ i) (hroom : max = 0 ∨ young.length + 1 < max) :
    ∃ pre' young', (S.put d { ents := pre ++ (i, v) :: young, max := max } .last k w).1 =
        { ents := pre' ++ (i, v) :: young', max := max } ∧ young'.length ≤ young.length + 1 := by
  unfold S.put
  split
  · exact ⟨pre, young, rfl, Nat.le_succ _⟩
  unfold S.putWith
  split
  · refine ⟨AL.set pre k w, AL.set young k w, ?_, by simp⟩
    have : ¬ i = k := fun e => hki e.symm
    simp [AL.touch, AL.set, this]
  · simp only [AL.insertNew, Mode.atFront, Bool.false_eq_true, if_false]
    by_cases hf : 0 < max ∧ max ≤ (pre ++ (i, v) :: young).length
    · -- full: the eviction drops a prefix of `pre`
      have hle : (pre ++ (i, v) :: young).length + 1 - max ≤ pre.length := by
        simp only [List.length_append, List.length_cons] at hf ⊢; omega
      refine ⟨pre.drop ((pre ++ (i, v) :: young).length + 1 - max), young ++ [(k, w)], ?_, by simp⟩
      rw [AL.evictFront, if_pos hf, List.drop_append_of_le_length hle]; simp
    · refine ⟨pre, young ++ [(k, w)], ?_, by simp⟩
      rw [(AL.evict_of_not_full hf).1]; simp

/-- a resident entry survives any puts (mode last) of other keys as long as the entries younger than it and the puts
    together stay below the bound: every eviction takes an older entry -/
theorem foldl_put_resident (d : Desc K V) (ps : List (K × V)) {pre young : List (K × V)} {i : K} {v : V} {max : Nat}
    (hn : (AL.keys (pre ++ (i, v) :: young)).Nodup) (hps : ∀ e ∈ ps, e.1 ≠ i)
    (hroom : max = 0 ∨ young.length + ps.length < max) :
    AL.get (ps.foldl (fun s e => (S.put d s .last e.1 e.2).1) { ents := pre ++ (i, v) :: young, max := max }).ents i =
      some v := by
  induction ps generalizing pre young with
  | nil => exact AL.get_of_mem (e := (i, v)) hn (by simp)
  | cons e r ih =>
    simp only [List.length_cons] at hroom
    obtain ⟨pre', young', he, hl⟩ := put_last_resident d (pre := pre) (young := young) (v := v) (max := max) e.1 e.2
      (hps e (by simp)) (by omega)
    have hwf : (S.put d { ents := pre ++ (i, v) :: young, max := max } .last e.1 e.2).1.WF :=
      WF_step d (s := { ents := pre ++ (i, v) :: young, max := max }) hn (.put .last e.1 e.2)
    rw [List.foldl_cons, he]
    rw [he] at hwf
    exact ih hwf (fun x hx => hps x (by simp [hx])) (by omega)

end S
end HMap
