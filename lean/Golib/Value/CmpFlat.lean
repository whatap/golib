/-
  Golib.Value.CmpFlat — order laws of the element comparisons and of `cmpFlat` / `eqFlat`
  (the seventeen value types without value children, and the type fallback of all twenty).
-/
import Golib.Value.Lex
import Golib.Value.Scope
import Golib.Value.Codes

namespace Value

/-- what a value of a given type looks like -/
def Shape : Ctor → Value → Prop
  | .null, b => b = .null
  | .bool, b => ∃ y, b = .bool y
  | .dec, b => ∃ y, b = .dec y
  | .int, b => ∃ y, b = .int y
  | .long, b => ∃ y, b = .long y
  | .f32, b => ∃ y, b = .f32 y
  | .f64, b => ∃ y, b = .f64 y
  | .dsum, b => ∃ s c mn mx, b = .dsum s c mn mx
  | .lsum, b => ∃ s c mn mx, b = .lsum s c mn mx
  | .text, b => ∃ y, b = .text y
  | .hash, b => ∃ y, b = .hash y
  | .blob, b => ∃ y, b = .blob y
  | .ip4, b => ∃ y, b = .ip4 y
  | .ai, b => ∃ y, b = .ai y
  | .af, b => ∃ y, b = .af y
  | .at, b => ∃ y, b = .at y
  | .al, b => ∃ y, b = .al y
  | .list, b => ∃ y, b = .list y
  | .map, b => ∃ y, b = .map y
  | .imap, b => ∃ y, b = .imap y

theorem shape_of_tag {a b : Value} (h : tag a = tag b) : Shape (ctorOf a) b := by
  have e : ctorOf a = ctorOf b := code_injective _ _ (by rw [← tag_eq_code, ← tag_eq_code, h])
  rw [e]
  cases b <;> first | rfl | exact ⟨_, rfl⟩ | exact ⟨_, _, _, _, rfl⟩

/-- two values with the same type code are built by the same constructor -/
theorem tag_eq_cases {motive : (a b : Value) → tag a = tag b → Prop} (a b : Value) (h : tag a = tag b)
    (null : motive .null .null rfl)
    (bool : ∀ x y, motive (.bool x) (.bool y) rfl)
    (dec : ∀ x y, motive (.dec x) (.dec y) rfl)
    (int : ∀ x y, motive (.int x) (.int y) rfl)
    (long : ∀ x y, motive (.long x) (.long y) rfl)
    (f32 : ∀ x y, motive (.f32 x) (.f32 y) rfl)
    (f64 : ∀ x y, motive (.f64 x) (.f64 y) rfl)
    (dsum : ∀ s c mn mx s' c' mn' mx', motive (.dsum s c mn mx) (.dsum s' c' mn' mx') rfl)
    (lsum : ∀ s c mn mx s' c' mn' mx', motive (.lsum s c mn mx) (.lsum s' c' mn' mx') rfl)
    (text : ∀ x y, motive (.text x) (.text y) rfl)
    (hash : ∀ x y, motive (.hash x) (.hash y) rfl)
    (blob : ∀ x y, motive (.blob x) (.blob y) rfl)
    (ip4 : ∀ x y, motive (.ip4 x) (.ip4 y) rfl)
    (ai : ∀ x y, motive (.ai x) (.ai y) rfl)
    (af : ∀ x y, motive (.af x) (.af y) rfl)
    («at» : ∀ x y, motive (.at x) (.at y) rfl)
    (al : ∀ x y, motive (.al x) (.al y) rfl)
    (list : ∀ x y, motive (.list x) (.list y) rfl)
    (map : ∀ x y, motive (.map x) (.map y) rfl)
    (imap : ∀ x y, motive (.imap x) (.imap y) rfl) : motive a b h := by
  have hs := shape_of_tag h
  cases a <;> first | (cases hs; assumption) | (obtain ⟨_, rfl⟩ := hs; apply_assumption) |
    (obtain ⟨_, _, _, _, rfl⟩ := hs; apply_assumption)

theorem tag_eq_cases₃ {motive : (a b c : Value) → tag a = tag b → tag b = tag c → Prop} (a b c : Value)
    (h : tag a = tag b) (h' : tag b = tag c)
    (null : motive .null .null .null rfl rfl)
    (bool : ∀ x y z, motive (.bool x) (.bool y) (.bool z) rfl rfl)
    (dec : ∀ x y z, motive (.dec x) (.dec y) (.dec z) rfl rfl)
    (int : ∀ x y z, motive (.int x) (.int y) (.int z) rfl rfl)
    (long : ∀ x y z, motive (.long x) (.long y) (.long z) rfl rfl)
    (f32 : ∀ x y z, motive (.f32 x) (.f32 y) (.f32 z) rfl rfl)
    (f64 : ∀ x y z, motive (.f64 x) (.f64 y) (.f64 z) rfl rfl)
    (dsum : ∀ s c mn mx s' c' mn' mx' s'' c'' mn'' mx'', motive (.dsum s c mn mx) (.dsum s' c' mn' mx') (.dsum s'' c'' mn'' mx'') rfl rfl)
    (lsum : ∀ s c mn mx s' c' mn' mx' s'' c'' mn'' mx'', motive (.lsum s c mn mx) (.lsum s' c' mn' mx') (.lsum s'' c'' mn'' mx'') rfl rfl)
    (text : ∀ x y z, motive (.text x) (.text y) (.text z) rfl rfl)
    (hash : ∀ x y z, motive (.hash x) (.hash y) (.hash z) rfl rfl)
    (blob : ∀ x y z, motive (.blob x) (.blob y) (.blob z) rfl rfl)
    (ip4 : ∀ x y z, motive (.ip4 x) (.ip4 y) (.ip4 z) rfl rfl)
    (ai : ∀ x y z, motive (.ai x) (.ai y) (.ai z) rfl rfl)
    (af : ∀ x y z, motive (.af x) (.af y) (.af z) rfl rfl)
    («at» : ∀ x y z, motive (.at x) (.at y) (.at z) rfl rfl)
    (al : ∀ x y z, motive (.al x) (.al y) (.al z) rfl rfl)
    (list : ∀ x y z, motive (.list x) (.list y) (.list z) rfl rfl)
    (map : ∀ x y z, motive (.map x) (.map y) (.map z) rfl rfl)
    (imap : ∀ x y z, motive (.imap x) (.imap y) (.imap z) rfl rfl) : motive a b c h h' := by
  have hs := shape_of_tag (h.trans h')
  induction a, b, h using tag_eq_cases <;> first | (cases hs; assumption) | (obtain ⟨_, rfl⟩ := hs; apply_assumption) |
    (obtain ⟨_, _, _, _, rfl⟩ := hs; apply_assumption)

/-- an asymmetric `<` is enough for the two directions of `cmpOf` to have opposite signs -/
theorem AS_cmpOf (lt : α → α → Bool) (hl : ∀ x y, lt x y = true → lt y x = false) (x y : α) :
    AS (cmpOf lt x y) (cmpOf lt y x) := by
  unfold cmpOf AS
  cases h1 : lt x y <;> cases h2 : lt y x <;> simp
  have := hl x y h1; rw [h2] at this; cases this

/-- where `lt` is `<` on integer keys, `cmpOf lt` compares the keys -/
theorem cmpOf_keys (lt : α → α → Bool) (k : α → Int) (x y : α) (h1 : lt x y = decide (k x < k y))
    (h2 : lt y x = decide (k y < k x)) : AS (cmpOf lt x y) (k y - k x) := by
  unfold cmpOf AS
  rw [h1, h2]
  simp only [decide_eq_true_eq]
  split <;> (try split) <;> omega

/-- floats that are not NaN compare by their key -/
theorem fLt_key (sign inf a b : Nat) (ha : fNaN sign inf a = false) (hb : fNaN sign inf b = false) :
    fLt sign inf a b = decide (fKey sign a < fKey sign b) := by
  unfold fLt; simp [ha, hb]
theorem fEq_key (sign inf a b : Nat) (ha : fNaN sign inf a = false) (hb : fNaN sign inf b = false) :
    fEq sign inf a b = decide (fKey sign a = fKey sign b) := by
  unfold fEq; simp [ha, hb]

/-- `<` on float bit patterns is asymmetric, NaNs included -/
theorem fLt_asymm (sign inf x y : Nat) (h : fLt sign inf x y = true) : fLt sign inf y x = false := by
  unfold fLt at *
  cases fNaN sign inf x <;> cases fNaN sign inf y <;> simp_all
  omega

/-! ### the array loops

`P` is where the key describes `lt`: everywhere for the integer arrays, off the NaNs for floats. -/

section Keys
variable {lt : α → α → Bool} {k : α → Int} {P : α → Prop}
  (hk : ∀ x y, P x → P y → lt x y = decide (k x < k y))
include hk

theorem cmpSeq_AS (xs ys : List α) (hx : ∀ x ∈ xs, P x) (hy : ∀ y ∈ ys, P y) :
    AS (cmpSeq lt xs ys) (cmpSeq lt ys xs) :=
  lexBy_AS _ _ xs ys fun x mx y my =>
    (cmpOf_keys lt k x y (hk x y (hx x mx) (hy y my)) (hk y x (hy y my) (hx x mx))).of_diff
      (cmpOf_keys lt k y x (hk y x (hy y my) (hx x mx)) (hk x y (hx x mx) (hy y my))) (by omega)

theorem cmpSeq_Tr (xs ys zs : List α) (hx : ∀ x ∈ xs, P x) (hy : ∀ y ∈ ys, P y) (hz : ∀ z ∈ zs, P z) :
    Tr (cmpSeq lt xs ys) (cmpSeq lt ys zs) (cmpSeq lt xs zs) :=
  lexBy_Tr _ _ _ xs ys zs fun x mx y my z mz =>
    have px := hx x mx; have py := hy y my; have pz := hz z mz
    Tr.of_diff (cmpOf_keys lt k x y (hk x y px py) (hk y x py px))
      (cmpOf_keys lt k y z (hk y z py pz) (hk z y pz py))
      (cmpOf_keys lt k x z (hk x z px pz) (hk z x pz px)) (by omega)

/-- an injective key: the loop returns 0 on equal arrays only -/
theorem cmpSeq_zero (hP : ∀ x, P x) (hinj : ∀ x y, k x = k y → x = y) (xs ys : List α) :
    cmpSeq lt xs ys = 0 ↔ xs = ys :=
  lexBy_eq_zero_iff_eq _ (fun x y => by
    have := cmpOf_keys lt k x y (hk x y (hP x) (hP y)) (hk y x (hP y) (hP x))
    constructor
    · intro h; exact hinj x y (by have := this.2.mp h; omega)
    · intro h; exact this.2.mpr (by rw [h]; omega)) xs ys

end Keys

theorem ltNat_keys : ∀ x y : Nat, True → True → ltNat x y = decide ((x : Int) < y) := fun x y _ _ => by simp [ltNat]
theorem ltInt_keys : ∀ x y : Int, True → True → ltInt x y = decide (x < y) := fun _ _ _ _ => rfl
theorem lt32_keys : ∀ x y, nan32 x = false → nan32 y = false → lt32 x y = decide (fKey S32 x < fKey S32 y) :=
  fLt_key S32 I32

theorem cmpSeq_ltNat_zero (xs ys : List Nat) : cmpSeq ltNat xs ys = 0 ↔ xs = ys :=
  cmpSeq_zero ltNat_keys (fun _ => trivial) (fun _ _ => Int.ofNat_inj.mp) xs ys
theorem cmpSeq_ltInt_zero (xs ys : List Int) : cmpSeq ltInt xs ys = 0 ↔ xs = ys :=
  cmpSeq_zero (k := id) ltInt_keys (fun _ => trivial) (fun _ _ h => h) xs ys

theorem all_not_nan {xs : List Nat} (h : xs.all (fun b => !nan32 b) = true) : ∀ x ∈ xs, nan32 x = false := by
  intro x hx
  have := List.all_eq_true.mp h x hx
  simpa using this

theorem AS_cmpStr (x y : Bytes) : AS (cmpStr x y) (cmpStr y x) :=
  AS_sgn_sgn.mpr (cmpSeq_AS ltNat_keys x y (fun _ _ => trivial) (fun _ _ => trivial))
theorem Tr_cmpStr (x y z : Bytes) : Tr (cmpStr x y) (cmpStr y z) (cmpStr x z) :=
  Tr_sgn.mpr (cmpSeq_Tr ltNat_keys x y z (fun _ _ => trivial) (fun _ _ => trivial) (fun _ _ => trivial))
theorem cmpStr_zero (x y : Bytes) : cmpStr x y = 0 ↔ x = y := by
  unfold cmpStr; rw [sgn_zero_iff]; exact cmpSeq_ltNat_zero x y

theorem AS_cmpStrs (xs ys : List Bytes) : AS (cmpStrs xs ys) (cmpStrs ys xs) :=
  lexBy_AS _ _ xs ys (fun x _ y _ => AS_cmpStr x y)
theorem Tr_cmpStrs (xs ys zs : List Bytes) : Tr (cmpStrs xs ys) (cmpStrs ys zs) (cmpStrs xs zs) :=
  lexBy_Tr _ _ _ xs ys zs (fun x _ y _ z _ => Tr_cmpStr x y z)
theorem cmpStrs_zero (xs ys : List Bytes) : cmpStrs xs ys = 0 ↔ xs = ys :=
  lexBy_eq_zero_iff_eq _ cmpStr_zero xs ys

/-- `this == that → 0; this < that → 1; else -1` on integers compares them, descending -/
theorem cmpDesc_keys (x y : Int) : AS (cmpDesc (decide (x = y)) (decide (x < y))) (x - y) := by
  unfold AS cmpDesc
  simp only [decide_eq_true_eq]
  split <;> (try split) <;> omega

theorem cmpDesc_f_keys (sign inf x y : Nat) (hx : fNaN sign inf x = false) (hy : fNaN sign inf y = false) :
    AS (cmpDesc (fEq sign inf x y) (fLt sign inf x y)) (fKey sign x - fKey sign y) := by
  rw [fEq_key _ _ _ _ hx hy, fLt_key _ _ _ _ hx hy]; exact cmpDesc_keys _ _

/-- a descending comparison derived from an ascending one (TextValue) has the opposite sign -/
theorem cmpDesc_of (p : Int) : AS (cmpDesc (p == 0) (decide (p < 0))) p := by
  have := cmpDesc_keys p 0
  rwa [Int.sub_zero] at this

theorem cmpDesc_zero (e l : Bool) : cmpDesc e l = 0 ↔ e = true := by
  unfold cmpDesc; cases e <;> cases l <;> simp

/-- Long/DoubleSummary after the D07 repair: by sum, then by count (both descending) -/
theorem cmpSum_eq (s s' c c' : Int) :
    (if s = s' ∧ c = c' then (0 : Int) else if s < s' then 1 else if s = s' ∧ c < c' then 1 else -1) =
    if cmpDesc (decide (s = s')) (decide (s < s')) ≠ 0 then cmpDesc (decide (s = s')) (decide (s < s'))
    else cmpDesc (decide (c = c')) (decide (c < c')) := by
  unfold cmpDesc
  by_cases h1 : s = s'
  · simp [h1]
  · by_cases h2 : s < s' <;> simp [h1, h2]

theorem dsum_cmp_key (s s' : Nat) (c c' : Int) (hs : nan64 s = false) (hs' : nan64 s' = false) :
    (if (eq64 s s' && decide (c = c')) = true then (0 : Int)
      else if lt64 s s' = true then 1 else if (eq64 s s' && decide (c < c')) = true then 1 else -1)
    = if fKey S64 s = fKey S64 s' ∧ c = c' then (0 : Int) else if fKey S64 s < fKey S64 s' then 1
      else if fKey S64 s = fKey S64 s' ∧ c < c' then 1 else -1 := by
  unfold eq64 lt64
  rw [fEq_key _ _ _ _ hs hs', fLt_key _ _ _ _ hs hs']
  simp only [Bool.and_eq_true, decide_eq_true_eq]

theorem AS_cmpSum (s s' c c' : Int) :
    AS (if s = s' ∧ c = c' then (0 : Int) else if s < s' then 1 else if s = s' ∧ c < c' then 1 else -1)
       (if s' = s ∧ c' = c then (0 : Int) else if s' < s then 1 else if s' = s ∧ c' < c then 1 else -1) := by
  rw [cmpSum_eq, cmpSum_eq]
  exact ((cmpDesc_keys s s').of_diff (cmpDesc_keys s' s) (by omega)).step
    ((cmpDesc_keys c c').of_diff (cmpDesc_keys c' c) (by omega))

theorem Tr_cmpSum (s s' s'' c c' c'' : Int) :
    Tr (if s = s' ∧ c = c' then (0 : Int) else if s < s' then 1 else if s = s' ∧ c < c' then 1 else -1)
       (if s' = s'' ∧ c' = c'' then (0 : Int) else if s' < s'' then 1 else if s' = s'' ∧ c' < c'' then 1 else -1)
       (if s = s'' ∧ c = c'' then (0 : Int) else if s < s'' then 1 else if s = s'' ∧ c < c'' then 1 else -1) := by
  rw [cmpSum_eq, cmpSum_eq, cmpSum_eq]
  exact (Tr.of_diff (cmpDesc_keys s s') (cmpDesc_keys s' s'') (cmpDesc_keys s s'') (by omega)).step
    (Tr.of_diff (cmpDesc_keys c c') (cmpDesc_keys c' c'') (cmpDesc_keys c c'') (by omega))

/-- `false < true` -/
theorem cmpBool_keys (x y : Bool) :
    AS (if x = y then (0 : Int) else if x = true then 1 else -1) ((y.toNat : Int) - x.toNat) := by
  cases x <;> cases y <;> simp [AS]

theorem AS_zero : AS 0 0 := ⟨by omega, by omega⟩
theorem Tr_zero : Tr 0 0 0 := ⟨by omega, by omega, by omega, by omega⟩

theorem cmpFlat_tag_ne (a b : Value) (h : tag a ≠ tag b) : cmpFlat a b = (tag a : Int) - (tag b : Int) := by
  unfold cmpFlat; simp [h]

theorem eqFlat_tag_ne (a b : Value) (h : tag a ≠ tag b) : eqFlat a b = false := by
  unfold eqFlat; simp [h]

mutual
def noSNaN : Value → Bool
  | .f32 b => !nan32 b
  | .f64 b => !nan64 b
  | .dsum s _ _ _ => !nan64 s
  | .list xs => noSNaNs xs
  | .map kvs => noSNaNKVs kvs
  | .imap kvs => noSNaNIKVs kvs
  | _ => true
def noSNaNs : List Value → Bool
  | [] => true
  | x :: xs => noSNaN x && noSNaNs xs
def noSNaNKVs : List (Bytes × Value) → Bool
  | [] => true
  | (_, v) :: kvs => noSNaN v && noSNaNKVs kvs
def noSNaNIKVs : List (Int × Value) → Bool
  | [] => true
  | (_, v) :: kvs => noSNaN v && noSNaNIKVs kvs
end

/-- the two directions of a flat comparison have opposite signs as soon as no float *scalar* is a
    NaN; a NaN inside a float array is skipped in both directions -/
theorem cmpFlat_AS (a b : Value) (ha : noSNaN a = true) (hb : noSNaN b = true) :
    AS (cmpFlat a b) (cmpFlat b a) := by
  refine AS.by_key (tag a) (tag b) (cmpFlat_tag_ne a b) (cmpFlat_tag_ne b a) fun h => ?_
  induction a, b, h using tag_eq_cases with
  | null | list | map | imap => exact AS_zero
  | bool x y => exact (cmpBool_keys x y).of_diff (cmpBool_keys y x) (by omega)
  | dec x y | int x y | long x y | hash x y => exact (cmpDesc_keys x y).of_diff (cmpDesc_keys y x) (by omega)
  | f32 x y | f64 x y =>
    simp only [noSNaN, Bool.not_eq_true'] at ha hb
    exact (cmpDesc_f_keys _ _ x y ha hb).of_diff (cmpDesc_f_keys _ _ y x hb ha) (by omega)
  | dsum s c _ _ s' c' _ _ =>
    simp only [noSNaN, Bool.not_eq_true'] at ha hb
    simp only [cmpFlat, tag, ne_eq, not_true_eq_false, ↓reduceIte]
    rw [dsum_cmp_key _ _ _ _ ha hb, dsum_cmp_key _ _ _ _ hb ha]
    exact AS_cmpSum _ _ _ _
  | lsum s c _ _ s' c' _ _ => exact AS_cmpSum s s' c c'
  | text x y => exact (cmpDesc_of _).conj (cmpDesc_of _) (AS_cmpStr x y)
  | blob x y | ip4 x y => exact cmpSeq_AS ltNat_keys x y (fun _ _ => trivial) (fun _ _ => trivial)
  | ai x y | al x y => exact cmpSeq_AS ltInt_keys x y (fun _ _ => trivial) (fun _ _ => trivial)
  | af x y =>
    -- float arrays are antisymmetric whatever they hold: `<` is asymmetric on NaNs too
    exact lexBy_AS _ _ x y fun a _ b _ => AS_cmpOf lt32 (fLt_asymm S32 I32) a b
  | «at» x y => exact AS_cmpStrs x y

theorem cmpFlat_Tr (a b c : Value) (ha : NoNaN a) (hb : NoNaN b) (hc : NoNaN c) :
    Tr (cmpFlat a b) (cmpFlat b c) (cmpFlat a c) := by
  refine Tr.by_key (tag a) (tag b) (tag c) (cmpFlat_tag_ne a b) (cmpFlat_tag_ne b c) (cmpFlat_tag_ne a c)
    fun h1 h2 => ?_
  induction a, b, c, h1, h2 using tag_eq_cases₃ with
  | null | list | map | imap => exact Tr_zero
  | bool x y z => exact Tr.of_diff (cmpBool_keys x y) (cmpBool_keys y z) (cmpBool_keys x z) (by omega)
  | dec x y z | int x y z | long x y z | hash x y z =>
    exact Tr.of_diff (cmpDesc_keys x y) (cmpDesc_keys y z) (cmpDesc_keys x z) (by omega)
  | f32 x y z | f64 x y z =>
    simp only [NoNaN, noNaN, Bool.not_eq_true'] at ha hb hc
    exact Tr.of_diff (cmpDesc_f_keys _ _ x y ha hb) (cmpDesc_f_keys _ _ y z hb hc)
      (cmpDesc_f_keys _ _ x z ha hc) (by omega)
  | dsum =>
    simp only [NoNaN, noNaN, Bool.not_eq_true'] at ha hb hc
    simp only [cmpFlat, tag, ne_eq, not_true_eq_false, ↓reduceIte]
    rw [dsum_cmp_key _ _ _ _ ha hb, dsum_cmp_key _ _ _ _ hb hc, dsum_cmp_key _ _ _ _ ha hc]
    exact Tr_cmpSum _ _ _ _ _ _
  | lsum s c _ _ s' c' _ _ s'' c'' => exact Tr_cmpSum s s' s'' c c' c''
  | text x y z =>
    -- descending: each result compares as the ascending `cmpStr` of the swapped pair
    exact (Tr_cmpStr z y x).swap.of_sgn ((cmpDesc_of _).sgn_eq (AS_cmpStr x y))
      ((cmpDesc_of _).sgn_eq (AS_cmpStr y z)) ((cmpDesc_of _).sgn_eq (AS_cmpStr x z))
  | blob x y z | ip4 x y z =>
    exact cmpSeq_Tr ltNat_keys x y z (fun _ _ => trivial) (fun _ _ => trivial) (fun _ _ => trivial)
  | ai x y z | al x y z =>
    exact cmpSeq_Tr ltInt_keys x y z (fun _ _ => trivial) (fun _ _ => trivial) (fun _ _ => trivial)
  | af x y z => exact cmpSeq_Tr lt32_keys x y z (all_not_nan ha) (all_not_nan hb) (all_not_nan hc)
  | «at» x y z => exact Tr_cmpStrs x y z

/-! ### `CompareTo = 0 ⇔ Equals`, for every type without value children (NaNs included) -/

theorem ite3_zero (e l m : Prop) [Decidable e] [Decidable l] [Decidable m] :
    (if e then (0 : Int) else if l then 1 else if m then 1 else -1) = 0 ↔ e := by
  split <;> (try split) <;> (try split) <;> simp [*]

theorem cmpFlat_zero_iff_eq (a b : Value) : cmpFlat a b = 0 ↔ eqFlat a b = true := by
  by_cases h : tag a = tag b
  · induction a, b, h using tag_eq_cases with
    | null | list | map | imap => exact ⟨fun _ => rfl, fun _ => rfl⟩
    | bool x y => cases x <;> cases y <;> decide
    | dec x y | int x y | long x y | hash x y | f32 x y | f64 x y => exact cmpDesc_zero _ _
    | dsum | lsum =>
      simp only [cmpFlat, eqFlat, tag, ne_eq, not_true_eq_false, ↓reduceIte]
      rw [ite3_zero]; simp
    | text x y =>
      refine (cmpDesc_zero _ _).trans ?_
      show (cmpStr x y == 0) = true ↔ (x == y) = true
      rw [beq_iff_eq, cmpStr_zero, beq_iff_eq]
    | blob | ip4 | ai | al | af | «at» => exact beq_iff_eq.symm
  · rw [cmpFlat_tag_ne a b h, eqFlat_tag_ne a b h]
    exact ⟨fun e => absurd (by omega) h, fun e => by cases e⟩

end Value
