/-
  Golib.Value.EqExact — what `Equals` means on the scalar types (exactness).
-/
import Golib.Value.Canon

namespace Value

/-- "the payloads are equal" as the property means it: the same number (NaN equals nothing,
    −0 = +0), the same bytes; for a summary the same sum and count (all its `Equals` looks at) -/
def payloadEq : Value → Value → Prop
  | .null, .null => True
  | .bool x, .bool y => x = y
  | .dec x, .dec y => x = y
  | .int x, .int y => x = y
  | .long x, .long y => x = y
  | .hash x, .hash y => x = y
  | .text x, .text y => x = y
  | .f32 x, .f32 y => nan32 x = false ∧ nan32 y = false ∧ fKey S32 x = fKey S32 y
  | .f64 x, .f64 y => nan64 x = false ∧ nan64 y = false ∧ fKey S64 x = fKey S64 y
  | .dsum s c _ _, .dsum s' c' _ _ => nan64 s = false ∧ nan64 s' = false ∧ fKey S64 s = fKey S64 s' ∧ c = c'
  | .lsum s c _ _, .lsum s' c' _ _ => s = s' ∧ c = c'
  | _, _ => False

def scalar : Value → Bool
  | .null => true | .bool _ => true | .dec _ => true | .int _ => true | .long _ => true
  | .hash _ => true | .text _ => true | .f32 _ => true | .f64 _ => true | .dsum .. => true | .lsum .. => true
  | _ => false

/-- the payloads of values of different types are never equal -/
theorem payloadEq_tag (a b : Value) : payloadEq a b → tag a = tag b := by
  fun_cases payloadEq a b <;> intro h <;> first | rfl | exact h.elim

/-- for every scalar type: `Equals` holds exactly when the payloads are equal -/
theorem eqV_iff_payloadEq (a b : Value) (ha : scalar a = true) : eqV a b = true ↔ payloadEq a b := by
  have hf : isFlat a = true := by cases a <;> first | rfl | cases ha
  rw [eqV_flat a b hf]
  by_cases ht : tag a = tag b
  · induction a, b, ht using tag_eq_cases with
    | null => exact ⟨fun _ => trivial, fun _ => rfl⟩
    | bool x y | dec x y | int x y | long x y | hash x y | text x y => exact beq_iff_eq
    | f32 x y | f64 x y => exact fEq_iff _ _ x y
    | dsum s c _ _ s' c' =>
      show (eq64 s s' && c == c') = true ↔ _
      rw [Bool.and_eq_true, beq_iff_eq]
      exact (and_congr_left' (fEq_iff _ _ s s')).trans (by simp only [payloadEq, nan64, and_assoc])
    | lsum s c _ _ s' c' =>
      show (s == s' && c == c') = true ↔ _
      rw [Bool.and_eq_true, beq_iff_eq, beq_iff_eq]; rfl
    | _ => cases ha
  · rw [eqFlat_tag_ne a b ht]
    exact ⟨fun h => (by cases h), fun h => absurd (payloadEq_tag a b h) ht⟩

end Value
