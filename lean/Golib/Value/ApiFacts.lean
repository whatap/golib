/-
  Golib.Value.ApiFacts — what the histories of Golib.Value.Api preserve, and the map-only entry points.

  * whatever history of the exported mutators built a MapValue / IntMapValue / ListValue, its keys are
    pairwise distinct and (if every stored payload was something a Go value can hold) its members are
    well-formed (`EntOK`, `entOK_final`, `listOK_next`): every reachable object meets the `WFV`
    hypothesis of the round trip;
  * look-ups see the last Put (`lookup_put_same`, `lookup_put_other`);
  * `ReadMapValue` succeeds with a map exactly when `ReadValue` decodes a map, with the same entries
    and the same rest (`decMapValue_iff`).
-/
import Golib.Value.Api
import Golib.Value.Facts
import Golib.Value.DecWF

namespace Value
open Prim

section maps
variable {K : Type} [DecidableEq K]

theorem wfV_text (t : Bytes) (h : okBytes t = true) : WFV (.text t) := by
  unfold WFV; rw [wfV]; exact h

theorem wfV_dec (n : Int) (h : okI64 n = true) : WFV (.dec n) := by
  unfold WFV; rw [wfV]; exact h

theorem entOK_next (okKey : K → Bool) (s : List (K × Value)) (op : MOp K)
    (h : EntOK okKey s) (ho : MOp.OK okKey op) : EntOK okKey (MOp.next s op) := by
  cases op with
  | put k v => exact entOK_put okKey s k v h ho.1 ho.2
  | putString k t => exact entOK_put okKey s k _ h ho.1 (wfV_text t ho.2)
  | putLong k n => exact entOK_put okKey s k _ h ho.1 (wfV_dec n ho.2)
  | newList k => exact entOK_put okKey s k _ h ho (by decide)
  | putAll o =>
    exact List.foldlRecOn o _ h fun s' h' p hp => entOK_put okKey s' p.1 p.2 h' (ho p hp).1 (ho p hp).2
  | clear => exact entOK_nil okKey
  | _ => exact h

theorem entOK_final (okKey : K → Bool) (ops : List (MOp K)) (s : List (K × Value)) (h : EntOK okKey s)
    (ho : ∀ op ∈ ops, MOp.OK okKey op) : EntOK okKey (MOp.final s ops) :=
  List.foldlRecOn ops _ h fun s' h' op hop => entOK_next okKey s' op h' (ho op hop)

/-- the outputs of a history: each call's output on the state the calls before it left -/
def MOp.outputs (s : List (K × Value)) : List (MOp K) → List (Option Value)
  | [] => []
  | op :: ops => MOp.out s op :: MOp.outputs (MOp.next s op) ops

theorem MOp.run_eq : ∀ (ops : List (MOp K)) (s : List (K × Value)) (outs : List (Option Value)),
    MOp.run s ops outs = (MOp.final s ops, outs.reverse ++ MOp.outputs s ops) := by
  intro ops s outs
  fun_induction MOp.run s ops outs with
  | case1 s outs => simp [MOp.final, MOp.outputs]
  | case2 s op ops outs ih => rw [ih]; simp [MOp.final, MOp.outputs]

/-- a look-up right after a Put under the same key sees the value put -/
theorem lookup_put_same (s : List (K × Value)) (k : K) (v : Value) : lookupKV k (putKV s k v) = some v := by
  rw [lookupKV_eq_AL_get, get_putKV, if_pos rfl]

/-- … and every other key is left as it was (the frame condition of Put) -/
theorem lookup_put_other (s : List (K × Value)) (k k' : K) (v : Value) (hne : k' ≠ k) :
    lookupKV k' (putKV s k v) = lookupKV k' s := by
  rw [lookupKV_eq_AL_get, get_putKV, if_neg (Ne.symm hne), lookupKV_eq_AL_get]

end maps

theorem listOK_next (s : List Value) (op : LOp) (h : ∀ x ∈ s, WFV x) (ho : LOp.OK op) :
    ∀ x ∈ LOp.next s op, WFV x := by
  cases op with
  | add v =>
    intro x hx
    rcases List.mem_append.mp hx with h' | h'
    · exact h x h'
    · have : x = v := by simpa using h'
      subst this; exact ho
  | addString t =>
    intro x hx
    rcases List.mem_append.mp hx with h' | h'
    · exact h x h'
    · have : x = .text t := by simpa using h'
      subst this; exact wfV_text t ho
  | addLong n =>
    intro x hx
    rcases List.mem_append.mp hx with h' | h'
    · exact h x h'
    · have : x = .dec n := by simpa using h'
      subst this; exact wfV_dec n ho
  | set i v =>
    intro x hx
    rcases List.mem_or_eq_of_mem_set hx with h' | h'
    · exact h x h'
    · subst h'; exact ho
  | clear => intro x hx; simp [LOp.next] at hx
  | _ => exact h

def LOp.outputs (s : List Value) : List LOp → List (Option Value)
  | [] => []
  | op :: ops => LOp.out s op :: LOp.outputs (LOp.next s op) ops

theorem LOp.run_eq : ∀ (ops : List LOp) (s : List Value) (outs : List (Option Value)),
    LOp.run s ops outs = (LOp.final s ops, outs.reverse ++ LOp.outputs s ops) := by
  intro ops s outs
  fun_induction LOp.run s ops outs with
  | case1 s outs => simp [LOp.final, LOp.outputs]
  | case2 s op ops outs ih => rw [ih]; simp [LOp.final, LOp.outputs]

theorem encMapValue_eq (kvs : List (Bytes × Value)) : encMapValue kvs = encV (.map kvs) := by
  rw [encV]; rfl

/-- `ReadMapValue` returns a map exactly when `ReadValue` decodes a map: same entries, same rest -/
theorem decMapValue_iff (bs : Bytes) (kvs : List (Bytes × Value)) (r : Bytes) :
    decMapValue bs = some (some kvs, r) ↔ decode bs = some (.map kvs, r) := by
  cases bs with
  | nil => simp [decMapValue, decode, decV_nil]
  | cons t r0 =>
    by_cases ht : t = 80
    · subst ht
      simp only [decode, decMapValue, if_true, List.length_cons, decV_cons, bodyP, P.run_bind, P.run_map,
        (run_decP_all _).2.2.1]
      cases P.run decDecimal r0 with
      | none => simp
      | some p =>
        obtain ⟨n, r'⟩ := p
        simp only
        cases decKVs (r0.length + 1) n.toNat [] r' with
        | none => simp
        | some q => obtain ⟨a, b⟩ := q; simp
    · constructor
      · intro h
        simp [decMapValue, ht] at h
      · intro h
        exact absurd (decV_tag _ t r0 _ r h) (fun e => ht e.symm)

end Value
