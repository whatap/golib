/-
  Golib.Value.Roundtrip — the tagged value codec round-trips every well-formed value at any depth.

    decV_encV      WFV v → szV v ≤ fuel → decV fuel (encV v ++ r) = some (v, r)
    decVs_encVs / decKVs_encKVs / decIKVs_encIKVs   the three container loops, usable on their own

  The proof is a mutual structural induction over the nested inductive `Value` (values, lists of
  values, string-keyed entries, int-keyed entries); after the tag byte the decoder is the program
  `bodyP` (`decV_cons`), whose scalar arms reduce to the C01 lemmas of Golib.Prim.
-/
import Golib.Value.WF
import Golib.Value.Prog
import Golib.Value.Put

namespace Value
open Prim

/-! fuel measure: one unit per value and per container cell -/

mutual
def szV : Value → Nat
  | .list xs => 1 + szVs xs
  | .map kvs => 1 + szKVs kvs
  | .imap kvs => 1 + szIKVs kvs
  | _ => 1
def szVs : List Value → Nat
  | [] => 1
  | x :: xs => szV x + szVs xs
def szKVs : List (Bytes × Value) → Nat
  | [] => 1
  | (_, v) :: kvs => szV v + szKVs kvs
def szIKVs : List (Int × Value) → Nat
  | [] => 1
  | (_, v) :: kvs => szV v + szIKVs kvs
end

theorem szV_pos (v : Value) : 0 < szV v := by
  cases v <;> simp [szV] <;> omega
theorem szVs_pos (xs : List Value) : 0 < szVs xs := by
  cases xs with
  | nil => simp [szVs]
  | cons x t => simp only [szVs]; have := szV_pos x; omega
theorem szKVs_pos (xs : List (Bytes × Value)) : 0 < szKVs xs := by
  cases xs with
  | nil => simp [szKVs]
  | cons x t => obtain ⟨k, v⟩ := x; simp only [szKVs]; have := szV_pos v; omega
theorem szIKVs_pos (xs : List (Int × Value)) : 0 < szIKVs xs := by
  cases xs with
  | nil => simp [szIKVs]
  | cons x t => obtain ⟨k, v⟩ := x; simp only [szIKVs]; have := szV_pos v; omega

theorem nodup_step {K : Type} (acc : List (K × Value)) (k : K) (v : Value) (t : List (K × Value))
    (h : ((acc ++ (k, v) :: t).map (·.1)).Nodup) :
    k ∉ acc.map (·.1) ∧ (((acc ++ [(k, v)]) ++ t).map (·.1)).Nodup := by
  constructor
  · intro hk
    rw [List.map_append, List.map_cons] at h
    have := (List.nodup_append.mp h).2.2 k hk k (by simp)
    exact this rfl
  · simpa [List.append_assoc] using h

theorem wfBytes_iff (bs : Bytes) : okBytes bs = true ↔ WFB bs ∧ bs.length < 2147483648 := by
  unfold okBytes WFB
  simp [List.all_eq_true]

theorem okBytes_len {bs : Bytes} (h : okBytes bs = true) : bs.length < 2147483648 := ((wfBytes_iff bs).mp h).2

/-! the range predicates of `wfV` are the ranges of the primitive codecs: the round trip reads these
    from left to right, `ens_bodyP` from right to left -/
theorem okI32_iff {v : Int} : okI32 v = true ↔ inRange 4 v := by rw [inRange_4]; simp [okI32]
theorem okI64_iff {v : Int} : okI64 v = true ↔ inRange 8 v := by rw [inRange_8]; simp [okI64]
theorem okU32_iff {v : Nat} : okU32 v = true ↔ v < 256 ^ 4 := by simp [okU32]
theorem okU64_iff {v : Nat} : okU64 v = true ↔ v < 256 ^ 8 := by simp [okU64]

theorem szV_succ (v : Value) {f : Nat} (h : szV v ≤ f) : ∃ f', f = f' + 1 :=
  ⟨f - 1, by have := szV_pos v; omega⟩

theorem encV_eq_cons (v : Value) : encV v = tag v :: (encV v).tail := by cases v <;> rfl

mutual
theorem decV_encV (v : Value) (f : Nat) (r : Bytes) (h : WFV v) (hf : szV v ≤ f) :
    decV f (encV v ++ r) = some (v, r) := by
  obtain ⟨f, rfl⟩ := szV_succ v hf
  rw [encV_eq_cons v, List.cons_append, decV_cons]
  cases v with
  | null => rfl
  | bool b => exact P.run_map_some _ (run_rdBool b r)
  | dec x => exact P.run_map_some _ (run_decDecimal x r (okI64_iff.mp h))
  | int x => exact P.run_map_some _ (run_rdI 4 x r (okI32_iff.mp h))
  | long x => exact P.run_map_some _ (run_rdI 8 x r (okI64_iff.mp h))
  | f32 x => exact P.run_map_some _ (run_rdU 4 x r (okU32_iff.mp h))
  | f64 x => exact P.run_map_some _ (run_rdU 8 x r (okU64_iff.mp h))
  | dsum s c mn mx =>
    simp only [WFV, wfV, Bool.and_eq_true, okU64_iff, okI32_iff] at h
    obtain ⟨⟨⟨h1, h2⟩, h3⟩, h4⟩ := h
    simp only [tag, encV, List.tail_cons, List.append_assoc, bodyP]
    rw [P.run_bind_some _ _ _ _ _ (run_rdU 8 s _ h1), P.run_bind_some _ _ _ _ _ (run_rdI 4 c _ h2),
      P.run_bind_some _ _ _ _ _ (run_rdU 8 mn _ h3)]
    exact P.run_map_some _ (run_rdU 8 mx r h4)
  | lsum s c mn mx =>
    simp only [WFV, wfV, Bool.and_eq_true, okI64_iff, okI32_iff] at h
    obtain ⟨⟨⟨h1, h2⟩, h3⟩, h4⟩ := h
    simp only [tag, encV, List.tail_cons, List.append_assoc, bodyP]
    rw [P.run_bind_some _ _ _ _ _ (run_rdI 8 s _ h1), P.run_bind_some _ _ _ _ _ (run_rdI 4 c _ h2),
      P.run_bind_some _ _ _ _ _ (run_rdI 8 mn _ h3)]
    exact P.run_map_some _ (run_rdI 8 mx r h4)
  | text bs => exact P.run_map_some _ (run_decBlob bs r (okBytes_len h))
  | hash x => exact P.run_map_some _ (run_rdI 4 x r (okI32_iff.mp h))
  | blob bs => exact P.run_map_some _ (run_decBlob bs r (okBytes_len h))
  | ip4 bs =>
    simp only [WFV, wfV, Bool.and_eq_true, decide_eq_true_eq] at h
    exact P.run_map_some _ (h.2 ▸ run_rdBytes bs r)
  | list xs =>
    simp only [WFV, wfV, okCount, Bool.and_eq_true, decide_eq_true_eq] at h
    simp only [tag, encV, List.tail_cons, List.append_assoc, bodyP]
    rw [P.run_bind_some _ _ _ _ _ (run_decDecimal (xs.length : Int) _ ((inRange_8 _).mpr (by omega))),
      if_neg (by omega), Int.toNat_natCast]
    exact P.run_map_some _ (((run_decP_all f).2.1 _ _).trans
      (decVs_encVs xs f r h.2 (by simp only [szV] at hf; omega)))
  | ai xs =>
    simp only [WFV, wfV, okArrLen, okI32, Bool.and_eq_true, decide_eq_true_eq, List.all_eq_true] at h
    exact P.run_map_some _ (run_decArr (encI 4) (rdI 4) (inRange 4) (fun x r h => run_rdI 4 x r h) xs r h.1
      (fun x hx => (inRange_4 x).mpr (h.2 x hx)))
  | af xs =>
    simp only [WFV, wfV, okArrLen, okU32, Bool.and_eq_true, decide_eq_true_eq, List.all_eq_true] at h
    exact P.run_map_some _ (run_decArr (beN 4) (rdU 4) (fun n => n < 4294967296) (fun x r h => run_rdU 4 x r (by omega))
      xs r h.1 (fun x hx => h.2 x hx))
  | «at» xs =>
    simp only [WFV, wfV, okArrLen, Bool.and_eq_true, decide_eq_true_eq, List.all_eq_true] at h
    exact P.run_map_some _ (run_decArr encBlob decBlob (fun bs => bs.length < 2147483648) (fun x r h => run_decBlob x r h)
      xs r h.1 (fun x hx => okBytes_len (h.2 x hx)))
  | al xs =>
    simp only [WFV, wfV, okArrLen, okI64, Bool.and_eq_true, decide_eq_true_eq, List.all_eq_true] at h
    exact P.run_map_some _ (run_decArr (encI 8) (rdI 8) (inRange 8) (fun x r h => run_rdI 8 x r h) xs r h.1
      (fun x hx => (inRange_8 x).mpr (h.2 x hx)))
  | map kvs =>
    simp only [WFV, wfV, okCount, Bool.and_eq_true, decide_eq_true_eq] at h
    simp only [tag, encV, List.tail_cons, List.append_assoc, bodyP]
    rw [P.run_bind_some _ _ _ _ _ (run_decDecimal (kvs.length : Int) _ ((inRange_8 _).mpr (by omega))), Int.toNat_natCast]
    exact P.run_map_some _ (((run_decP_all f).2.2.1 _ _ _).trans
      (decKVs_encKVs kvs [] f r h.1.2 (by simpa using h.2) (by simp only [szV] at hf; omega)))
  | imap kvs =>
    simp only [WFV, wfV, okCount, Bool.and_eq_true, decide_eq_true_eq] at h
    simp only [tag, encV, List.tail_cons, List.append_assoc, bodyP]
    rw [P.run_bind_some _ _ _ _ _ (run_decDecimal (kvs.length : Int) _ ((inRange_8 _).mpr (by omega))), Int.toNat_natCast]
    exact P.run_map_some _ (((run_decP_all f).2.2.2 _ _ _).trans
      (decIKVs_encIKVs kvs [] f r h.1.2 (by simpa using h.2) (by simp only [szV] at hf; omega)))
/-- `ListValue.Read`'s loop -/
theorem decVs_encVs (xs : List Value) (f : Nat) (r : Bytes) (h : WFVs xs) (hf : szVs xs ≤ f) :
    decVs f xs.length (encVs xs ++ r) = some (xs, r) := by
  cases xs with
  | nil => cases f <;> simp [encVs, decVs]
  | cons x t =>
    have p1 := szVs_pos t
    have p2 := szV_pos x
    cases f with
    | zero => simp only [szVs] at hf; omega
    | succ f =>
      simp only [WFVs, wfVs, Bool.and_eq_true] at h
      have h1 := decV_encV x f (encVs t ++ r) h.1 (by simp only [szVs] at hf; omega)
      have h2 := decVs_encVs t f r h.2 (by simp only [szVs] at hf; omega)
      simp only [encVs, List.length_cons, decVs, List.append_assoc, h1, h2]; rfl
/-- `MapValue.Read`'s loop, from any accumulated table whose keys are disjoint from the new ones -/
theorem decKVs_encKVs (kvs : List (Bytes × Value)) (acc : List (Bytes × Value)) (f : Nat) (r : Bytes)
    (h : WFKVs kvs) (hn : ((acc ++ kvs).map (·.1)).Nodup) (hf : szKVs kvs ≤ f) :
    decKVs f kvs.length acc (encKVs kvs ++ r) = some (acc ++ kvs, r) := by
  cases kvs with
  | nil => cases f <;> simp [encKVs, decKVs]
  | cons kv t =>
    obtain ⟨k, v⟩ := kv
    have p1 := szKVs_pos t
    have p2 := szV_pos v
    cases f with
    | zero => simp only [szKVs] at hf; omega
    | succ f =>
      simp only [WFKVs, wfKVs, Bool.and_eq_true] at h
      obtain ⟨⟨hk, hv⟩, ht⟩ := h
      obtain ⟨hnew, hn'⟩ := nodup_step acc k v t hn
      have h1 := decV_encV v f (encKVs t ++ r) hv (by simp only [szKVs] at hf; omega)
      have h2 := decKVs_encKVs t (acc ++ [(k, v)]) f r ht hn' (by simp only [szKVs] at hf; omega)
      simp only [encKVs, List.length_cons, decKVs, List.append_assoc]
      rw [run_decBlob k _ (okBytes_len hk)]
      simp only [h1, putKV_new acc k v hnew, h2, List.append_assoc, List.singleton_append]
/-- `IntMapValue.Read`'s loop -/
theorem decIKVs_encIKVs (kvs : List (Int × Value)) (acc : List (Int × Value)) (f : Nat) (r : Bytes)
    (h : WFIKVs kvs) (hn : ((acc ++ kvs).map (·.1)).Nodup) (hf : szIKVs kvs ≤ f) :
    decIKVs f kvs.length acc (encIKVs kvs ++ r) = some (acc ++ kvs, r) := by
  cases kvs with
  | nil => cases f <;> simp [encIKVs, decIKVs]
  | cons kv t =>
    obtain ⟨k, v⟩ := kv
    have p1 := szIKVs_pos t
    have p2 := szV_pos v
    cases f with
    | zero => simp only [szIKVs] at hf; omega
    | succ f =>
      simp only [WFIKVs, wfIKVs, okI32, Bool.and_eq_true, decide_eq_true_eq] at h
      obtain ⟨⟨hk, hv⟩, ht⟩ := h
      obtain ⟨hnew, hn'⟩ := nodup_step acc k v t hn
      have h1 := decV_encV v f (encIKVs t ++ r) hv (by simp only [szIKVs] at hf; omega)
      have h2 := decIKVs_encIKVs t (acc ++ [(k, v)]) f r ht hn' (by simp only [szIKVs] at hf; omega)
      simp only [encIKVs, List.length_cons, decIKVs, List.append_assoc]
      rw [run_rdI 4 k _ ((inRange_4 k).mpr hk)]
      simp only [h1, putKV_new acc k v hnew, h2, List.append_assoc, List.singleton_append]
end

end Value
