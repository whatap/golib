/-
  Golib.Value.Cmp — CodeModel of `Equals` / `CompareTo` of lang/value and of util/compare.

  `eqV a b` follows `a.Equals(b)`, `cmpV a b` follows `a.CompareTo(b)` (the result is the Go `int`).
  Both are total functions: after the proposed repair of D04 (comma-ok type assertion in the map
  lookups) no call of `Equals` / `CompareTo` on two non-nil values can panic.

  The model describes the code *with the proposed repairs* (proposed/C20/fix-D04…D07.diff):
    D04  a key missing in the other map: `Equals` false, `CompareTo` 1 (instead of a panic)
    D05  type fallback `int(tag a) - int(tag b)` (instead of the wrapped byte difference)
    D06  nil and empty payloads are the same (the model has no nil: both are `[]`)
    D07  summaries: order by sum, then by count (instead of -1 in both directions)
  and keeps the quirks recorded as known findings:
    D08  maps are compared along the receiver's key order; a missing key gives 1 in both directions
    D09  IEEE comparison: NaN ≠ NaN for the float scalars; inside float arrays a NaN element is
         neither `<` nor `>` and is therefore skipped as if equal

  Scalars of the decimal family and text order *descending* (`this < that → 1`), booleans, blobs
  and arrays ascending — that is what the code does; the laws do not depend on the direction.
-/
import Golib.Value.Model

namespace Value

/-! ### IEEE-754 comparison on bit patterns -/

/-- ordered key of a non-NaN bit pattern (`sign` is the sign bit: 2^31 or 2^63; patterns below it are
    the non-negative floats, the others are negated magnitudes) -/
def fKey (sign : Nat) (b : Nat) : Int :=
  if b < sign then (b : Int) else -((b - sign : Nat) : Int)

/-- NaN: magnitude above the infinity pattern -/
def fNaN (sign inf : Nat) (b : Nat) : Bool := decide (inf < b % sign)

def fEq (sign inf : Nat) (a b : Nat) : Bool :=
  !fNaN sign inf a && !fNaN sign inf b && decide (fKey sign a = fKey sign b)
def fLt (sign inf : Nat) (a b : Nat) : Bool :=
  !fNaN sign inf a && !fNaN sign inf b && decide (fKey sign a < fKey sign b)

def S32 : Nat := 2147483648
def I32 : Nat := 2139095040            -- 0x7F800000
def S64 : Nat := 9223372036854775808
def I64 : Nat := 9218868437227405312   -- 0x7FF0000000000000

def nan32 (b : Nat) : Bool := fNaN S32 I32 b
def nan64 (b : Nat) : Bool := fNaN S64 I64 b
def eq32 := fEq S32 I32
def lt32 := fLt S32 I32
def eq64 := fEq S64 I64
def lt64 := fLt S64 I64

/-! ### util/compare -/

/-- sign of a comparison result, as an integer in {-1, 0, 1} -/
def sgn (x : Int) : Int := if x < 0 then -1 else if x = 0 then 0 else 1

/-- the common shape of `this == that → 0; this < that → 1; else -1` (descending) -/
def cmpDesc (eq lt : Bool) : Int := if eq then 0 else if lt then 1 else -1

/-- the loop shared by `compare.CompareToBytes/Ints/Longs/Floats/Strings` (after the D06 repair:
    no nil special case): the first index where the element comparison is non-zero decides,
    otherwise the length difference `l_sz - r_sz` -/
def lexBy (c : α → β → Int) : List α → List β → Int
  | [], ys => -(ys.length : Int)
  | x :: xs, [] => ((x :: xs).length : Int)
  | x :: xs, y :: ys => if c x y ≠ 0 then c x y else lexBy c xs ys

/-- `if l[i] > r[i] { return 1 }; if l[i] < r[i] { return -1 }` -/
def cmpOf (lt : α → α → Bool) (x y : α) : Int := if lt y x then 1 else if lt x y then -1 else 0

def cmpSeq (lt : α → α → Bool) (xs ys : List α) : Int := lexBy (cmpOf lt) xs ys

def ltNat (a b : Nat) : Bool := decide (a < b)
def ltInt (a b : Int) : Bool := decide (a < b)

/-- `strings.Compare` / the order of Go's string `<`: bytewise lexicographic, -1 / 0 / 1 -/
def cmpStr (x y : Bytes) : Int := sgn (cmpSeq ltNat x y)

/-- `compare.CompareToStrings` -/
def cmpStrs (xs ys : List Bytes) : Int := lexBy cmpStr xs ys

/-! ### values without value children -/

/-- `CompareTo` of the seventeen types without value children, and the type fallback of all -/
def cmpFlat (a b : Value) : Int :=
  if tag a ≠ tag b then (tag a : Int) - (tag b : Int) else
  match a, b with
  | .bool x, .bool y => if x = y then 0 else if x then 1 else -1
  | .dec x, .dec y => cmpDesc (x = y) (x < y)
  | .int x, .int y => cmpDesc (x = y) (x < y)
  | .long x, .long y => cmpDesc (x = y) (x < y)
  | .hash x, .hash y => cmpDesc (x = y) (x < y)
  | .f32 x, .f32 y => cmpDesc (eq32 x y) (lt32 x y)
  | .f64 x, .f64 y => cmpDesc (eq64 x y) (lt64 x y)
  | .dsum s c _ _, .dsum s' c' _ _ =>
      if eq64 s s' && decide (c = c') then 0
      else if lt64 s s' then 1
      else if eq64 s s' && decide (c < c') then 1 else -1
  | .lsum s c _ _, .lsum s' c' _ _ =>
      if s = s' ∧ c = c' then 0
      else if s < s' then 1
      else if s = s' ∧ c < c' then 1 else -1
  | .text x, .text y => cmpDesc (cmpStr x y == 0) (cmpStr x y < 0)
  | .blob x, .blob y => cmpSeq ltNat x y
  | .ip4 x, .ip4 y => cmpSeq ltNat x y
  | .ai x, .ai y => cmpSeq ltInt x y
  | .al x, .al y => cmpSeq ltInt x y
  | .af x, .af y => cmpSeq lt32 x y
  | .at x, .at y => cmpStrs x y
  | _, _ => 0

/-- `Equals` of the types without value children -/
def eqFlat (a b : Value) : Bool :=
  if tag a ≠ tag b then false else
  match a, b with
  | .bool x, .bool y => x == y
  | .dec x, .dec y => x == y
  | .int x, .int y => x == y
  | .long x, .long y => x == y
  | .hash x, .hash y => x == y
  | .f32 x, .f32 y => eq32 x y
  | .f64 x, .f64 y => eq64 x y
  | .dsum s c _ _, .dsum s' c' _ _ => eq64 s s' && c == c'
  | .lsum s c _ _, .lsum s' c' _ _ => s == s' && c == c'
  | .text x, .text y => x == y
  | .blob x, .blob y => cmpSeq ltNat x y == 0
  | .ip4 x, .ip4 y => cmpSeq ltNat x y == 0
  | .ai x, .ai y => cmpSeq ltInt x y == 0
  | .al x, .al y => cmpSeq ltInt x y == 0
  | .af x, .af y => cmpSeq lt32 x y == 0
  | .at x, .at y => cmpStrs x y == 0
  | _, _ => true

/-- `table.Get(key)` on the association list -/
def lookupKV {K : Type} [DecidableEq K] (k : K) : List (K × Value) → Option Value
  | [] => none
  | (k', v) :: kvs => if k' = k then some v else lookupKV k kvs

/-! ### the recursive comparison -/

mutual
/-- `a.CompareTo(b)` -/
def cmpV : Value → Value → Int
  | .list xs, b =>
    match b with
    | .list ys => if xs.length ≠ ys.length then (xs.length : Int) - ys.length else cmpVs xs ys
    | o => 70 - (tag o : Int)
  | .map kvs, b =>
    match b with
    | .map kvs' => if kvs.length ≠ kvs'.length then (kvs.length : Int) - kvs'.length else cmpKVs kvs kvs'
    | o => 80 - (tag o : Int)
  | .imap kvs, b =>
    match b with
    | .imap kvs' => if kvs.length ≠ kvs'.length then (kvs.length : Int) - kvs'.length else cmpIKVs kvs kvs'
    | o => 81 - (tag o : Int)
  | .null, b => cmpFlat .null b
  | .bool x, b => cmpFlat (.bool x) b
  | .dec x, b => cmpFlat (.dec x) b
  | .int x, b => cmpFlat (.int x) b
  | .long x, b => cmpFlat (.long x) b
  | .f32 x, b => cmpFlat (.f32 x) b
  | .f64 x, b => cmpFlat (.f64 x) b
  | .dsum s c mn mx, b => cmpFlat (.dsum s c mn mx) b
  | .lsum s c mn mx, b => cmpFlat (.lsum s c mn mx) b
  | .text x, b => cmpFlat (.text x) b
  | .hash x, b => cmpFlat (.hash x) b
  | .blob x, b => cmpFlat (.blob x) b
  | .ip4 x, b => cmpFlat (.ip4 x) b
  | .ai x, b => cmpFlat (.ai x) b
  | .af x, b => cmpFlat (.af x) b
  | .at x, b => cmpFlat (.at x) b
  | .al x, b => cmpFlat (.al x) b
/-- element-wise, first non-zero (the lists have equal length when this is called) -/
def cmpVs : List Value → List Value → Int
  | [], _ => 0
  | _ :: _, [] => 0
  | x :: xs, y :: ys => let c := cmpV x y; if c ≠ 0 then c else cmpVs xs ys
/-- along the receiver's entries: the other map's value for the key; missing ⇒ 1 -/
def cmpKVs : List (Bytes × Value) → List (Bytes × Value) → Int
  | [], _ => 0
  | (k, v) :: kvs, other =>
    match lookupKV k other with
    | none => 1
    | some v' => let c := cmpV v v'; if c ≠ 0 then c else cmpKVs kvs other
def cmpIKVs : List (Int × Value) → List (Int × Value) → Int
  | [], _ => 0
  | (k, v) :: kvs, other =>
    match lookupKV k other with
    | none => 1
    | some v' => let c := cmpV v v'; if c ≠ 0 then c else cmpIKVs kvs other
end

mutual
/-- `a.Equals(b)` -/
def eqV : Value → Value → Bool
  | .list xs, b =>
    match b with
    | .list ys => xs.length == ys.length && eqVs xs ys
    | _ => false
  | .map kvs, b =>
    match b with
    | .map kvs' => kvs.length == kvs'.length && eqKVs kvs kvs'
    | _ => false
  | .imap kvs, b =>
    match b with
    | .imap kvs' => kvs.length == kvs'.length && eqIKVs kvs kvs'
    | _ => false
  | .null, b => eqFlat .null b
  | .bool x, b => eqFlat (.bool x) b
  | .dec x, b => eqFlat (.dec x) b
  | .int x, b => eqFlat (.int x) b
  | .long x, b => eqFlat (.long x) b
  | .f32 x, b => eqFlat (.f32 x) b
  | .f64 x, b => eqFlat (.f64 x) b
  | .dsum s c mn mx, b => eqFlat (.dsum s c mn mx) b
  | .lsum s c mn mx, b => eqFlat (.lsum s c mn mx) b
  | .text x, b => eqFlat (.text x) b
  | .hash x, b => eqFlat (.hash x) b
  | .blob x, b => eqFlat (.blob x) b
  | .ip4 x, b => eqFlat (.ip4 x) b
  | .ai x, b => eqFlat (.ai x) b
  | .af x, b => eqFlat (.af x) b
  | .at x, b => eqFlat (.at x) b
  | .al x, b => eqFlat (.al x) b
def eqVs : List Value → List Value → Bool
  | [], _ => true
  | _ :: _, [] => true
  | x :: xs, y :: ys => eqV x y && eqVs xs ys
def eqKVs : List (Bytes × Value) → List (Bytes × Value) → Bool
  | [], _ => true
  | (k, v) :: kvs, other =>
    match lookupKV k other with
    | none => false
    | some v' => eqV v v' && eqKVs kvs other
def eqIKVs : List (Int × Value) → List (Int × Value) → Bool
  | [], _ => true
  | (k, v) :: kvs, other =>
    match lookupKV k other with
    | none => false
    | some v' => eqV v v' && eqIKVs kvs other
end

end Value
