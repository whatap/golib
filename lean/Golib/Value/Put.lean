/-
  Golib.Value.Put — `putKV` is the `Put` of the dictionary of Golib.HMap.Spec: a present key has its
  value set in place, an absent one is appended.  What `putKV` does to keys, length and look-ups is
  read off the association-list lemmas of Golib.HMap.SpecLemmas.
-/
import Golib.Value.Cmp
import Golib.Value.WF
import Golib.HMap.SpecLemmas

namespace Value
open HMap

variable {K : Type} [DecidableEq K]

theorem putKV_eq (l : List (K × Value)) (k : K) (v : Value) :
    putKV l k v = if k ∈ AL.keys l then AL.set l k v else l ++ [(k, v)] := by
  have : l.any (fun p => p.1 == k) = decide (k ∈ AL.keys l) := by
    rw [Bool.eq_iff_iff, List.any_eq_true, decide_eq_true_eq, AL.keys, List.mem_map]
    exact ⟨fun ⟨p, hp, e⟩ => ⟨p, hp, by simpa using e⟩, fun ⟨p, hp, e⟩ => ⟨p, hp, by simpa using e⟩⟩
  unfold putKV AL.set
  rw [this]; simp only [decide_eq_true_eq]

/-- the model's lookup is the dictionary's -/
theorem lookupKV_eq_AL_get (k : K) (l : List (K × Value)) : lookupKV k l = AL.get l k := by
  induction l with
  | nil => rfl
  | cons p t ih => obtain ⟨a, b⟩ := p; simp only [lookupKV, AL.get, ih]

/-- a look-up after a `Put` sees the value put under that key, and every other key as it was -/
theorem get_putKV (l : List (K × Value)) (k : K) (v : Value) (x : K) :
    AL.get (putKV l k v) x = if k = x then some v else AL.get l x := by
  rw [putKV_eq]
  split
  · rename_i h; exact AL.get_set_of_isSome v (AL.get_isSome_iff.mpr h) x
  · rename_i h; exact AL.get_snoc v (AL.get_none_iff.mpr h) x

theorem putKV_keys (l : List (K × Value)) (k : K) (v : Value) :
    AL.keys (putKV l k v) = if k ∈ AL.keys l then AL.keys l else AL.keys l ++ [k] := by
  rw [putKV_eq]
  split
  · exact AL.keys_set l k v
  · exact List.map_append

theorem putKV_nodup (l : List (K × Value)) (k : K) (v : Value) (h : (AL.keys l).Nodup) :
    (AL.keys (putKV l k v)).Nodup := by
  rw [putKV_keys]
  split
  · exact h
  · rename_i hk; exact Golib.nodup_concat_iff.mpr ⟨h, hk⟩

theorem putKV_length (l : List (K × Value)) (k : K) (v : Value) : (putKV l k v).length ≤ l.length + 1 := by
  rw [putKV_eq]
  split <;> simp

theorem putKV_mem (l : List (K × Value)) (k : K) (v : Value) : ∀ p ∈ putKV l k v, p ∈ l ∨ p = (k, v) := by
  intro p hp
  rw [putKV_eq] at hp
  split at hp
  · obtain ⟨q, hq, rfl⟩ := List.mem_map.mp hp
    split
    · rename_i e; exact .inr (by rw [← e])
    · exact .inl hq
  · simpa using hp

theorem putKV_new (l : List (K × Value)) (k : K) (v : Value) (h : k ∉ AL.keys l) : putKV l k v = l ++ [(k, v)] := by
  rw [putKV_eq, if_neg h]

/-- the invariant of a map object: keys pairwise distinct, every key and value representable -/
def EntOK (okKey : K → Bool) (s : List (K × Value)) : Prop :=
  (s.map (·.1)).Nodup ∧ ∀ p ∈ s, okKey p.1 = true ∧ WFV p.2

omit [DecidableEq K] in
theorem entOK_nil (okKey : K → Bool) : EntOK okKey ([] : List (K × Value)) :=
  ⟨by simp, by simp⟩

theorem entOK_put (okKey : K → Bool) (s : List (K × Value)) (k : K) (v : Value)
    (h : EntOK okKey s) (hk : okKey k = true) (hv : WFV v) : EntOK okKey (putKV s k v) :=
  ⟨putKV_nodup s k v h.1, fun p hp => by
    rcases putKV_mem s k v p hp with h' | h'
    · exact h.2 p h'
    · subst h'; exact ⟨hk, hv⟩⟩

end Value
