/-
  Golib.Value.EqLaws — the laws of `Equals`, each under what it needs: reflexive on well-formed values
  without NaN, symmetric on all well-formed values (NaNs included), transitive as soon as the float
  arrays of the middle value hold no NaN (no well-formedness needed); and `CompareTo = 0 ⇔ Equals` for
  every pair of values whatsoever.
-/
import Golib.Value.CmpRec

namespace Value

/-! ### association lists related entry by entry -/

theorem relKV_refl {K : Type} [DecidableEq K] (R : Value → Value → Prop) (a : List (K × Value))
    (hn : (a.map (·.1)).Nodup) (h : ∀ p ∈ a, R p.2 p.2) : relKV R a a := by
  intro p hp
  exact ⟨p.2, lookupKV_of_mem_nodup p.1 a p.2 hp hn, h p hp⟩

/-- the partner `q` of an entry of `a` is an entry of `b` -/
theorem relKV_trans_mem {K : Type} [DecidableEq K] {R S T : Value → Value → Prop} (a b c : List (K × Value))
    (hab : relKV R a b) (hbc : relKV S b c)
    (h : ∀ p ∈ a, ∀ q ∈ b, ∀ u, R p.2 q.2 → S q.2 u → T p.2 u) : relKV T a c := by
  intro p hp
  obtain ⟨w, hw, hr⟩ := hab p hp
  have hm := lookupKV_some_mem _ _ _ hw
  obtain ⟨u, hu, hs⟩ := hbc (p.1, w) hm
  exact ⟨u, hu, h p hp _ hm u hr hs⟩

theorem relKV_trans {K : Type} [DecidableEq K] (R S T : Value → Value → Prop) (a b c : List (K × Value))
    (hab : relKV R a b) (hbc : relKV S b c) (h : ∀ p ∈ a, ∀ w u, R p.2 w → S w u → T p.2 u) : relKV T a c :=
  relKV_trans_mem a b c hab hbc fun p hp q _ u => h p hp q.2 u

/-- pigeonhole: a list without repetitions inside a list that is not longer covers it -/
theorem subset_of_nodup_length {α : Type} [DecidableEq α] (l₁ l₂ : List α) (hn : l₁.Nodup)
    (hs : ∀ x ∈ l₁, x ∈ l₂) (hl : l₂.length ≤ l₁.length) : ∀ y ∈ l₂, y ∈ l₁ := by
  induction l₁ generalizing l₂ with
  | nil =>
    intro y hy
    have : l₂ = [] := List.eq_nil_of_length_eq_zero (by simpa using hl)
    rw [this] at hy; cases hy
  | cons x t ih =>
    simp only [List.nodup_cons] at hn
    intro y hy
    by_cases e : y = x
    · rw [e]; simp
    · have hx : x ∈ l₂ := hs x (by simp)
      have := ih (l₂.erase x) hn.2
        (fun z hz => by
          have hz2 : z ∈ l₂ := hs z (by simp [hz])
          have hne : z ≠ x := fun e' => hn.1 (e' ▸ hz)
          exact (List.mem_erase_of_ne hne).mpr hz2)
        (by rw [List.length_erase_of_mem hx]; simp at hl; omega)
        y ((List.mem_erase_of_ne e).mpr hy)
      exact List.mem_cons_of_mem _ this

theorem relKV_symm {K : Type} [DecidableEq K] (R S : Value → Value → Prop) (a b : List (K × Value))
    (hl : a.length = b.length) (hna : (a.map (·.1)).Nodup) (hnb : (b.map (·.1)).Nodup)
    (hab : relKV R a b) (h : ∀ p ∈ a, ∀ w, lookupKV p.1 b = some w → R p.2 w → S w p.2) : relKV S b a := by
  have hsub : ∀ k ∈ a.map (·.1), k ∈ b.map (·.1) := by
    intro k hk
    obtain ⟨p, hp, rfl⟩ := List.mem_map.mp hk
    obtain ⟨w, hw, _⟩ := hab p hp
    exact List.mem_map.mpr ⟨(p.1, w), lookupKV_some_mem _ _ _ hw, rfl⟩
  have hback := subset_of_nodup_length (a.map (·.1)) (b.map (·.1)) hna hsub (by simp [hl])
  intro q hq
  obtain ⟨p, hp, hpk⟩ := List.mem_map.mp (hback q.1 (List.mem_map.mpr ⟨q, hq, rfl⟩))
  obtain ⟨w, hw, hr⟩ := hab p hp
  have hq' : lookupKV p.1 b = some q.2 := by
    apply lookupKV_of_mem_nodup _ _ _ _ hnb
    rw [hpk]; exact hq
  have hw0 := hw
  rw [hq'] at hw; cases hw
  refine ⟨p.2, ?_, h p hp _ hw0 hr⟩
  rw [← hpk]
  exact lookupKV_of_mem_nodup _ _ _ hp hna

/-! ### `Paired` is reflexive, symmetric and transitive as far as the relation on the children is

For lists this is said position by position; for the two map types it is the statement about `relKV`
(the keys of a well-formed map are pairwise distinct, which is what reflexivity and symmetry need). -/

theorem Paired.refl {R : Value → Value → Prop} {a : Value} (hw : WFV a) (h : ∀ k ∈ kids a, R k k) :
    Paired R a a := by
  cases a <;> try (intro i hi; exact absurd hi (Nat.not_lt_zero _))
  case list xs => exact (paired_list R xs xs).mpr fun i h1 => ⟨h1, h _ (List.getElem_mem h1)⟩
  case map kvs | imap kvs =>
    simp only [WFV, wfV, Bool.and_eq_true, decide_eq_true_eq] at hw
    exact (paired_assoc R kvs kvs).mpr (relKV_refl R kvs hw.2 fun p hp => h p.2 (List.mem_map_of_mem hp))

theorem Paired.symm {R S : Value → Value → Prop} {a b : Value} (hwa : WFV a) (hwb : WFV b) (ht : tag a = tag b)
    (hl : (kids a).length = (kids b).length) (hab : Paired R a b)
    (h : ∀ v ∈ kids a, ∀ w ∈ kids b, R v w → S w v) : Paired S b a := by
  induction a, b, ht using tag_eq_cases with
  | list xs ys =>
    rw [paired_list] at *
    intro i h2
    have h1 : i < xs.length := hl ▸ h2
    exact ⟨h1, h _ (List.getElem_mem h1) _ (List.getElem_mem h2) (hab i h1).2⟩
  | map a b | imap a b =>
    simp only [kids, List.length_map] at hl
    simp only [WFV, wfV, Bool.and_eq_true, decide_eq_true_eq] at hwa hwb
    exact (paired_assoc S b a).mpr (relKV_symm R S a b hl hwa.2 hwb.2 ((paired_assoc R a b).mp hab)
      fun p hp w hw r => h p.2 (List.mem_map_of_mem hp) w
        (List.mem_map_of_mem (f := Prod.snd) (lookupKV_some_mem _ _ _ hw)) r)
  | _ => intro i hi; exact absurd hi (Nat.not_lt_zero _)

theorem Paired.trans {R S T : Value → Value → Prop} {a b c : Value} (t1 : tag a = tag b) (t2 : tag b = tag c)
    (hab : Paired R a b) (hbc : Paired S b c)
    (h : ∀ v ∈ kids a, ∀ w ∈ kids b, ∀ u, R v w → S w u → T v u) : Paired T a c := by
  induction a, b, c, t1, t2 using tag_eq_cases₃ with
  | list xs ys zs =>
    rw [paired_list] at *
    intro i h1
    obtain ⟨h2, r⟩ := hab i h1
    obtain ⟨h3, s⟩ := hbc i h2
    exact ⟨h3, h _ (List.getElem_mem h1) _ (List.getElem_mem h2) _ r s⟩
  | map a b c | imap a b c =>
    exact (paired_assoc T a c).mpr (relKV_trans_mem a b c ((paired_assoc R a b).mp hab)
      ((paired_assoc S b c).mp hbc) fun p hp q hq u =>
        h _ (List.mem_map_of_mem hp) _ (List.mem_map_of_mem hq) u)
  | _ => intro i hi; exact absurd hi (Nat.not_lt_zero _)

/-- the two loops agree visit by visit: the first non-zero `CompareTo` is none exactly when every `Equals` holds -/
theorem firstNZ_all (xs : List Value) (os : List (Option Value))
    (ih : ∀ x ∈ xs, ∀ w, cmpV x w = 0 ↔ eqV x w = true) :
    firstNZ (List.zipWith visitC xs os) = 0 ↔ (List.zipWith visitE xs os).all id = true := by
  induction xs generalizing os with
  | nil => simp [firstNZ]
  | cons x xs ihx =>
    cases os with
    | nil => simp [firstNZ]
    | cons o os =>
      have hx : visitC x o = 0 ↔ visitE x o = true := by
        cases o with
        | none => simp [visitC, visitE]
        | some w => exact ih x (by simp) w
      simp only [List.zipWith_cons_cons, firstNZ, List.all_cons, Bool.and_eq_true, id]
      by_cases h0 : visitC x o = 0
      · rw [if_neg (not_not_intro h0), ihx os fun y hy => ih y (by simp [hy])]
        exact ⟨fun h => ⟨hx.mp h0, h⟩, fun h => h.2⟩
      · rw [if_pos h0]; exact ⟨fun h => absurd h h0, fun h => absurd (hx.mpr h.1) h0⟩

/-- "size first, then the loop" is 0 exactly when the sizes agree and the loop says so -/
theorem by_size_zero_iff (n m : Nat) (x : Int) (e : Bool) (h : n = m → (x = 0 ↔ e = true)) :
    (if n ≠ m then (n : Int) - m else x) = 0 ↔ (n == m && e) = true := by
  by_cases hl : n = m
  · rw [if_neg (not_not_intro hl), beq_iff_eq.mpr hl, Bool.true_and]; exact h hl
  · rw [if_pos hl, beq_false_of_ne hl, Bool.false_and]
    exact ⟨fun h => by omega, fun h => by cases h⟩

theorem cmpV_zero_iff_eqV (a : Value) : ∀ b, cmpV a b = 0 ↔ eqV a b = true := by
  induction a using kids_ind with
  | hFlat a hf => intro b; rw [cmpV_flat a b hf, eqV_flat a b hf]; exact cmpFlat_zero_iff_eq a b
  | hCont a hf ih =>
    intro b
    by_cases ht : tag a = tag b
    · rw [cmpV_step a b ht hf, eqV_step a b ht hf]
      exact by_size_zero_iff _ _ _ _ fun _ => firstNZ_all _ _ ih
    · rw [cmpV_tag_ne _ _ ht, eqV_tag_ne _ _ ht]
      exact ⟨fun h => absurd (by omega) ht, fun h => by cases h⟩

theorem eqFlat_refl (a : Value) (hn : NoNaN a) : eqFlat a a = true := by
  rw [← cmpFlat_zero_iff_eq]
  have := cmpFlat_AS a a (noSNaN_of_noNaN a hn) (noSNaN_of_noNaN a hn)
  unfold AS at this; omega

theorem fEq_iff (sign inf x y : Nat) :
    fEq sign inf x y = true ↔ fNaN sign inf x = false ∧ fNaN sign inf y = false ∧ fKey sign x = fKey sign y := by
  unfold fEq
  cases fNaN sign inf x <;> cases fNaN sign inf y <;> simp

theorem fEq_symm (sign inf a b : Nat) (h : fEq sign inf a b = true) : fEq sign inf b a = true := by
  rw [fEq_iff] at *; exact ⟨h.2.1, h.1, h.2.2.symm⟩

theorem fEq_trans (sign inf x y z : Nat) (h1 : fEq sign inf x y = true) (h2 : fEq sign inf y z = true) :
    fEq sign inf x z = true := by
  rw [fEq_iff] at *
  exact ⟨h1.1, h2.2.1, h1.2.2.trans h2.2.2⟩

theorem cmpOf_zero_symm (lt : α → α → Bool) (x y : α) : cmpOf lt x y = 0 ↔ cmpOf lt y x = 0 := by
  unfold cmpOf
  cases lt x y <;> cases lt y x <;> simp

theorem lexBy_zero_symm (c : α → β → Int) (c' : β → α → Int) (h : ∀ x y, c x y = 0 ↔ c' y x = 0)
    (xs : List α) (ys : List β) : lexBy c xs ys = 0 ↔ lexBy c' ys xs = 0 := by
  rw [lexBy_eq_zero_idx, lexBy_eq_zero_idx]
  constructor
  · intro ⟨hl, hp⟩; exact ⟨hl.symm, fun i h1 h2 => (h _ _).mp (hp i h2 h1)⟩
  · intro ⟨hl, hp⟩; exact ⟨hl.symm, fun i h1 h2 => (h _ _).mpr (hp i h2 h1)⟩

theorem cmpSeq_zero_symm (lt : α → α → Bool) (xs ys : List α) : cmpSeq lt xs ys = 0 ↔ cmpSeq lt ys xs = 0 :=
  lexBy_zero_symm _ _ (cmpOf_zero_symm lt) xs ys

/-- symmetry of `Equals` on the flat types holds for every pair, NaNs included -/
theorem eqFlat_symm (a b : Value) (h : eqFlat a b = true) : eqFlat b a = true := by
  by_cases ht : tag a = tag b
  · induction a, b, ht using tag_eq_cases with
    | null | list | map | imap => rfl
    | bool x y | dec x y | int x y | long x y | hash x y | text x y => exact BEq.comm.trans h
    | f32 x y | f64 x y => exact fEq_symm _ _ x y h
    | dsum s c _ _ s' c' =>
      have h : (eq64 s s' && c == c') = true := h
      show (eq64 s' s && c' == c) = true
      rw [Bool.and_eq_true] at h ⊢
      exact ⟨fEq_symm _ _ s s' h.1, BEq.comm.trans h.2⟩
    | lsum s c _ _ s' c' =>
      have h : (s == s' && c == c') = true := h
      show (s' == s && c' == c) = true
      rw [Bool.and_eq_true] at h ⊢
      exact ⟨BEq.comm.trans h.1, BEq.comm.trans h.2⟩
    | blob x y | ip4 x y | ai x y | al x y | af x y =>
      exact beq_iff_eq.mpr ((cmpSeq_zero_symm _ x y).mp (beq_iff_eq.mp h))
    | «at» x y =>
      exact beq_iff_eq.mpr ((lexBy_zero_symm cmpStr cmpStr
        (fun x y => by rw [cmpStr_zero, cmpStr_zero]; exact eq_comm) x y).mp (beq_iff_eq.mp h))
  · rw [eqFlat_tag_ne a b ht] at h; cases h

/-! ### transitivity needs a NaN hypothesis only where the code does

A NaN element is skipped by the array comparison, so the float arrays of the *middle* value must be
NaN-free; everywhere else IEEE equality is transitive even with NaN, because a NaN equals nothing. -/

mutual
def noArrNaN : Value → Bool
  | .af xs => xs.all (fun b => !nan32 b)
  | .list xs => noArrNaNs xs
  | .map kvs => noArrNaNKVs kvs
  | .imap kvs => noArrNaNIKVs kvs
  | _ => true
def noArrNaNs : List Value → Bool
  | [] => true
  | x :: xs => noArrNaN x && noArrNaNs xs
def noArrNaNKVs : List (Bytes × Value) → Bool
  | [] => true
  | (_, v) :: kvs => noArrNaN v && noArrNaNKVs kvs
def noArrNaNIKVs : List (Int × Value) → Bool
  | [] => true
  | (_, v) :: kvs => noArrNaN v && noArrNaNIKVs kvs
end

theorem noArrNaN_kids (a : Value) (hf : isFlat a = false) :
    noArrNaN a = true ↔ ∀ k ∈ kids a, noArrNaN k = true := by
  cases a <;> try (cases hf; done)
  case list xs => exact all_rec (f := noArrNaNs) rfl (fun _ _ => rfl) xs
  case map kvs =>
    exact (all_rec (f := noArrNaNKVs) (p := fun q => noArrNaN q.2) rfl (fun ⟨_, _⟩ _ => rfl) kvs).trans
      (List.forall_mem_map (f := Prod.snd) (P := fun k => noArrNaN k = true)).symm
  case imap kvs =>
    exact (all_rec (f := noArrNaNIKVs) (p := fun q => noArrNaN q.2) rfl (fun ⟨_, _⟩ _ => rfl) kvs).trans
      (List.forall_mem_map (f := Prod.snd) (P := fun k => noArrNaN k = true)).symm

theorem noArrNaN_of_noNaN (a : Value) : noNaN a = true → noArrNaN a = true := by
  induction a using kids_ind with
  | hFlat a hf => intro h; cases a <;> first | exact h | rfl | cases hf
  | hCont a hf ih => exact fun h => (noArrNaN_kids a hf).mpr fun k hk => ih k hk ((noNaN_kids a hf).mp h k hk)

/-- with `y` not NaN, "neither `<` nor `>`" on both sides of it means equal keys or a NaN outside -/
theorem cmpOf_lt32_zero_trans (x y z : Nat) (hy : nan32 y = false) (h1 : cmpOf lt32 x y = 0) (h2 : cmpOf lt32 y z = 0) :
    cmpOf lt32 x z = 0 := by
  unfold cmpOf lt32 fLt at *
  unfold nan32 at hy
  cases hx : fNaN S32 I32 x <;> cases hz : fNaN S32 I32 z <;> simp_all
  · generalize fKey S32 x = kx at *; generalize fKey S32 y = ky at *; generalize fKey S32 z = kz at *
    repeat' split at h1
    all_goals repeat' split at h2
    all_goals (try omega)
    all_goals (split <;> (try split) <;> omega)

theorem cmpSeq_lt32_zero_trans (xs ys zs : List Nat) (hy : ∀ y ∈ ys, nan32 y = false)
    (h1 : cmpSeq lt32 xs ys = 0) (h2 : cmpSeq lt32 ys zs = 0) : cmpSeq lt32 xs zs = 0 := by
  unfold cmpSeq at *
  rw [lexBy_eq_zero_idx] at *
  refine ⟨h1.1.trans h2.1, fun i hx hz => ?_⟩
  have hyi : i < ys.length := by omega
  exact cmpOf_lt32_zero_trans _ _ _ (hy _ (List.getElem_mem hyi)) (h1.2 i hx hyi) (h2.2 i hyi hz)

theorem eqFlat_trans_mid (a b c : Value) (hb : noArrNaN b = true)
    (h1 : eqFlat a b = true) (h2 : eqFlat b c = true) : eqFlat a c = true := by
  by_cases ht : tag a = tag b
  · by_cases ht2 : tag b = tag c
    · induction a, b, c, ht, ht2 using tag_eq_cases₃ with
      | null | list | map | imap => rfl
      | bool x y z | dec x y z | int x y z | long x y z | hash x y z | text x y z =>
        exact beq_iff_eq.mpr ((beq_iff_eq.mp h1).trans (beq_iff_eq.mp h2))
      | f32 x y z | f64 x y z => exact fEq_trans _ _ x y z h1 h2
      | dsum s c _ _ s' c' _ _ s'' c'' =>
        have h1 : (eq64 s s' && c == c') = true := h1
        have h2 : (eq64 s' s'' && c' == c'') = true := h2
        show (eq64 s s'' && c == c'') = true
        simp only [Bool.and_eq_true, beq_iff_eq] at h1 h2 ⊢
        exact ⟨fEq_trans _ _ _ _ _ h1.1 h2.1, h1.2.trans h2.2⟩
      | lsum s c _ _ s' c' _ _ s'' c'' =>
        have h1 : (s == s' && c == c') = true := h1
        have h2 : (s' == s'' && c' == c'') = true := h2
        show (s == s'' && c == c'') = true
        simp only [Bool.and_eq_true, beq_iff_eq] at h1 h2 ⊢
        exact ⟨h1.1.trans h2.1, h1.2.trans h2.2⟩
      | blob x y z | ip4 x y z =>
        exact beq_iff_eq.mpr ((cmpSeq_ltNat_zero x z).mpr
          (((cmpSeq_ltNat_zero x y).mp (beq_iff_eq.mp h1)).trans ((cmpSeq_ltNat_zero y z).mp (beq_iff_eq.mp h2))))
      | ai x y z | al x y z =>
        exact beq_iff_eq.mpr ((cmpSeq_ltInt_zero x z).mpr
          (((cmpSeq_ltInt_zero x y).mp (beq_iff_eq.mp h1)).trans ((cmpSeq_ltInt_zero y z).mp (beq_iff_eq.mp h2))))
      | «at» x y z =>
        exact beq_iff_eq.mpr ((cmpStrs_zero x z).mpr
          (((cmpStrs_zero x y).mp (beq_iff_eq.mp h1)).trans ((cmpStrs_zero y z).mp (beq_iff_eq.mp h2))))
      | af x y z =>
        exact beq_iff_eq.mpr (cmpSeq_lt32_zero_trans x y z (all_not_nan hb) (beq_iff_eq.mp h1) (beq_iff_eq.mp h2))
    · rw [eqFlat_tag_ne b c ht2] at h2; cases h2
  · rw [eqFlat_tag_ne a b ht] at h1; cases h1

theorem eqV_refl (a : Value) : WFV a → NoNaN a → eqV a a = true := by
  induction a using kids_ind with
  | hFlat a hf => intro _ hn; rw [eqV_flat a a hf]; exact eqFlat_refl a hn
  | hCont a hf ih =>
    intro hw hn
    exact (eqV_cont_iff a a hf).mpr ⟨rfl, rfl, Paired.refl hw fun k hk =>
      ih k hk (WFV_kids a hw k hk) ((noNaN_kids a hf).mp hn k hk)⟩

theorem eqV_symm (a : Value) : ∀ b, WFV a → WFV b → eqV a b = true → eqV b a = true := by
  induction a using kids_ind with
  | hFlat a hf =>
    intro b _ _ h
    by_cases ht : tag a = tag b
    · rw [eqV_flat a b hf] at h
      rw [eqV_flat b a (isFlat_of_tag ht ▸ hf)]; exact eqFlat_symm a b h
    · rw [eqV_tag_ne a b ht] at h; cases h
  | hCont a hf ih =>
    intro b hwa hwb h
    obtain ⟨ht, hl, hp⟩ := (eqV_cont_iff a b hf).mp h
    exact (eqV_cont_iff b a (isFlat_of_tag ht ▸ hf)).mpr ⟨ht.symm, hl.symm, Paired.symm hwa hwb ht hl hp
      fun v hv w hw r => ih v hv w (WFV_kids a hwa v hv) (WFV_kids b hwb w hw) r⟩

/-- transitivity of `Equals` for the whole value type, the only hypothesis being that the float arrays
    of the middle value hold no NaN -/
theorem eqV_trans_mid (a : Value) : ∀ b c, noArrNaN b = true →
    eqV a b = true → eqV b c = true → eqV a c = true := by
  induction a using kids_ind with
  | hFlat a hf =>
    intro b c hb h1 h2
    by_cases ht : tag a = tag b
    · have hfb := isFlat_of_tag ht ▸ hf
      rw [eqV_flat a b hf] at h1
      rw [eqV_flat b c hfb] at h2
      rw [eqV_flat a c hf]
      exact eqFlat_trans_mid a b c hb h1 h2
    · rw [eqV_tag_ne a b ht] at h1; cases h1
  | hCont a hf ih =>
    intro b c hb h1 h2
    obtain ⟨t1, l1, p1⟩ := (eqV_cont_iff a b hf).mp h1
    have hfb := isFlat_of_tag t1 ▸ hf
    obtain ⟨t2, l2, p2⟩ := (eqV_cont_iff b c hfb).mp h2
    exact (eqV_cont_iff a c hf).mpr ⟨t1.trans t2, l1.trans l2, Paired.trans t1 t2 p1 p2
      fun v hv w hw u => ih v hv w u ((noArrNaN_kids b hfb).mp hb w hw)⟩

end Value
