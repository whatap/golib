/-
  Golib.Value.Codes — the type-code table of lang/value/Value.go as data, and its finite facts.

  `Ctor` names the twenty implemented value types; `Ctor.code` is `GetValueType()`, `Ctor.ofCode`
  is the `switch` of `CreateValue` (an unknown code panics there: `none` here).  The string tables
  at the end are the hand-written counterpart of what `xlate/c02` regenerates from the source on
  every run (Golib/Gen/C02.lean); Golib/Props/C02Gen.lean demands that they are equal.
-/
import Golib.Value.Prog

namespace Value

inductive Ctor where
  | null | bool | dec | int | long | f32 | f64 | dsum | lsum | text | hash | blob | ip4
  | list | ai | af | «at» | al | map | imap
deriving DecidableEq, Repr

namespace Ctor

def all : List Ctor :=
  [null, bool, dec, int, long, f32, f64, dsum, lsum, text, hash, blob, ip4, list, ai, af, «at», al, map, imap]

/-- `GetValueType()` -/
def code : Ctor → Nat
  | null => 0 | bool => 10 | dec => 20 | int => 21 | long => 22 | f32 => 30 | f64 => 40
  | dsum => 45 | lsum => 46 | text => 50 | hash => 51 | blob => 60 | ip4 => 61
  | list => 70 | ai => 71 | af => 72 | «at» => 73 | al => 74 | map => 80 | imap => 81

/-- the `switch` of `CreateValue` -/
def ofCode : Nat → Option Ctor
  | 0 => some null | 10 => some bool | 20 => some dec | 21 => some int | 22 => some long
  | 30 => some f32 | 40 => some f64 | 45 => some dsum | 46 => some lsum
  | 50 => some text | 51 => some hash | 60 => some blob | 61 => some ip4
  | 70 => some list | 71 => some ai | 72 => some af | 73 => some «at» | 74 => some al
  | 80 => some map | 81 => some imap
  | _ => none

end Ctor

def ctorOf : Value → Ctor
  | .null => .null | .bool _ => .bool | .dec _ => .dec | .int _ => .int | .long _ => .long
  | .f32 _ => .f32 | .f64 _ => .f64 | .dsum .. => .dsum | .lsum .. => .lsum
  | .text _ => .text | .hash _ => .hash | .blob _ => .blob | .ip4 _ => .ip4
  | .list _ => .list | .ai _ => .ai | .af _ => .af | .at _ => .at | .al _ => .al
  | .map _ => .map | .imap _ => .imap

theorem tag_eq_code (v : Value) : tag v = (ctorOf v).code := by cases v <;> rfl

theorem ofCode_code (c : Ctor) : Ctor.ofCode c.code = some c := by cases c <;> rfl

theorem code_injective (a b : Ctor) (h : a.code = b.code) : a = b := by
  have := ofCode_code a
  rw [h, ofCode_code b] at this
  exact (Option.some.inj this).symm

theorem code_of_ofCode (n : Nat) (c : Ctor) (h : Ctor.ofCode n = some c) : c.code = n := by
  unfold Ctor.ofCode at h
  split at h <;> first | (cases h; rfl) | (cases h)

theorem codes_nodup : (Ctor.all.map Ctor.code).Nodup := by decide

theorem all_complete (c : Ctor) : c ∈ Ctor.all := by cases c <;> decide

/-- every arm of the dispatch ends in the constructor of its tag -/
theorem bodyP_tag {vs : Nat → P (List Value)} {ks : Nat → P (List (Bytes × Value))}
    {is : Nat → P (List (Int × Value))} (t : Nat) (r : Bytes) (v : Value) (r' : Bytes)
    (h : P.run (bodyP vs ks is t) r = some (v, r')) : tag v = t := by
  unfold bodyP at h
  split at h
  case h_1 => cases h; rfl  -- tag 0 (the arms are numbered in the order of `bodyP`)
  case h_8 | h_9 =>  -- 45, 46: the two summaries
    obtain ⟨_, _, h⟩ := P.bind_ret h; obtain ⟨_, _, h⟩ := P.bind_ret h; obtain ⟨_, _, h⟩ := P.bind_ret h
    obtain ⟨_, rfl⟩ := P.map_ret h; rfl
  case h_14 =>  -- 70: list
    obtain ⟨_, _, h⟩ := P.bind_ret h
    split at h
    · cases h
    · obtain ⟨_, rfl⟩ := P.map_ret h; rfl
  case h_19 | h_20 =>  -- 80, 81: the two maps
    obtain ⟨_, _, h⟩ := P.bind_ret h; obtain ⟨_, rfl⟩ := P.map_ret h; rfl
  case h_21 => cases h  -- unknown tag
  all_goals obtain ⟨_, rfl⟩ := P.map_ret h; rfl

/-- whatever the input, a value that `decV` returns carries the tag byte it was read under -/
theorem decV_tag (f : Nat) (t : Nat) (bs : Bytes) (v : Value) (r : Bytes)
    (h : decV f (t :: bs) = some (v, r)) : tag v = t := by
  cases f with
  | zero => cases h
  | succ f => exact bodyP_tag t bs v r (decV_cons f t bs ▸ h)

/-! ### the tables as the source spells them (tie A) -/

/-- the `const` block of Value.go, sorted by name (FLOAT_SUMMARY is declared but has no type) -/
def constTable : List (String × Nat) :=
  [("ARRAY_FLOAT", 72), ("ARRAY_INT", 71), ("ARRAY_LONG", 74),
   ("ARRAY_TEXT", 73), ("FLOAT_SUMMARY", 47), ("INT_VALUE_MAP", 81),
   ("VALUE_BLOB", 60), ("VALUE_BOOLEAN", 10), ("VALUE_DECIMAL", 20),
   ("VALUE_DECIMAL_INT", 21), ("VALUE_DECIMAL_LONG", 22), ("VALUE_DOUBLE", 40),
   ("VALUE_DOUBLE_SUMMARY", 45), ("VALUE_FLOAT", 30), ("VALUE_IP4ADDR", 61),
   ("VALUE_LIST", 70), ("VALUE_LONG_SUMMARY", 46), ("VALUE_MAP", 80),
   ("VALUE_NULL", 0), ("VALUE_TEXT", 50), ("VALUE_TEXT_HASH", 51)]

/-- `CreateValue`: case label → type of the value the arm returns, sorted by label -/
def factoryTable : List (String × String) :=
  [("ARRAY_FLOAT", "FloatArray"), ("ARRAY_INT", "IntArray"), ("ARRAY_LONG", "LongArray"),
   ("ARRAY_TEXT", "TextArray"), ("INT_VALUE_MAP", "IntMapValue"), ("VALUE_BLOB", "BlobValue"),
   ("VALUE_BOOLEAN", "BoolValue"), ("VALUE_DECIMAL", "DecimalValue"), ("VALUE_DECIMAL_INT", "IntValue"),
   ("VALUE_DECIMAL_LONG", "LongValue"), ("VALUE_DOUBLE", "DoubleValue"), ("VALUE_DOUBLE_SUMMARY", "DoubleSummary"),
   ("VALUE_FLOAT", "FloatValue"), ("VALUE_IP4ADDR", "IP4Value"), ("VALUE_LIST", "ListValue"),
   ("VALUE_LONG_SUMMARY", "LongSummary"), ("VALUE_MAP", "MapValue"), ("VALUE_NULL", "NullValue"),
   ("VALUE_TEXT", "TextValue"), ("VALUE_TEXT_HASH", "TextHashValue")]

/-- per type: the constant `GetValueType` returns, the stream calls of `Write`, the stream (and
    table) calls of `Read`, in source order; sorted by type name -/
def typeTable : List (String × String × List String × List String) :=
  [("BlobValue", "VALUE_BLOB", ["WriteBlob"], ["ReadBlob"]),
   ("BoolValue", "VALUE_BOOLEAN", ["WriteBool"], ["ReadBool"]),
   ("DecimalValue", "VALUE_DECIMAL", ["WriteDecimal"], ["ReadDecimal"]),
   ("DoubleSummary", "VALUE_DOUBLE_SUMMARY", ["WriteDouble", "WriteInt", "WriteDouble", "WriteDouble"],
      ["ReadDouble", "ReadInt", "ReadDouble", "ReadDouble"]),
   ("DoubleValue", "VALUE_DOUBLE", ["WriteDouble"], ["ReadDouble"]),
   ("FloatArray", "ARRAY_FLOAT", ["WriteFloatArray"], ["ReadFloatArray"]),
   ("FloatValue", "VALUE_FLOAT", ["WriteFloat"], ["ReadFloat"]),
   ("IP4Value", "VALUE_IP4ADDR", ["WriteBytes"], ["ReadBytes"]),
   ("IntArray", "ARRAY_INT", ["WriteIntArray"], ["ReadIntArray"]),
   ("IntMapValue", "INT_VALUE_MAP", ["WriteDecimal", "WriteInt", "WriteValue"], ["ReadDecimal", "ReadInt", "ReadValue", "Put"]),
   ("IntValue", "VALUE_DECIMAL_INT", ["WriteInt"], ["ReadInt"]),
   ("ListValue", "VALUE_LIST", ["WriteDecimal", "WriteDecimal", "WriteValue"], ["ReadDecimal", "ReadValue"]),
   ("LongArray", "ARRAY_LONG", ["WriteLongArray"], ["ReadLongArray"]),
   ("LongSummary", "VALUE_LONG_SUMMARY", ["WriteLong", "WriteInt", "WriteLong", "WriteLong"],
      ["ReadLong", "ReadInt", "ReadLong", "ReadLong"]),
   ("LongValue", "VALUE_DECIMAL_LONG", ["WriteLong"], ["ReadLong"]),
   ("MapValue", "VALUE_MAP", ["WriteDecimal", "WriteText", "WriteValue"], ["ReadDecimal", "ReadText", "ReadValue", "Put"]),
   ("NullValue", "VALUE_NULL", [], []),
   ("TextArray", "ARRAY_TEXT", ["WriteTextArray"], ["ReadTextArray"]),
   ("TextHashValue", "VALUE_TEXT_HASH", ["WriteInt"], ["ReadInt"]),
   ("TextValue", "VALUE_TEXT", ["WriteText"], ["ReadText"])]

/-- package-level `var`s of the two packages the codec lives in: the shared null value, nothing else -/
def codecPkgVars : List (String × List String) := [("lang/value", ["NULL_VALUE"]), ("io", [])]

/-- the only function of those packages whose body mentions a package-level var, and it only reads it -/
def codecStateRefs : List (String × String × String × String) :=
  [("lang/value", "NewNullValue", "r", "NULL_VALUE")]

/-- `WriteValue` / `ReadValue`: the calls in source order -/
def writeValueCalls : List String := ["WriteByte", "GetValueType", "Write"]
def readValueCalls : List String := ["ReadByte", "CreateValue", "Read"]

/-- the model's name for each implemented type -/
def Ctor.typeName : Ctor → String
  | .null => "NullValue" | .bool => "BoolValue" | .dec => "DecimalValue" | .int => "IntValue"
  | .long => "LongValue" | .f32 => "FloatValue" | .f64 => "DoubleValue" | .dsum => "DoubleSummary"
  | .lsum => "LongSummary" | .text => "TextValue" | .hash => "TextHashValue" | .blob => "BlobValue"
  | .ip4 => "IP4Value" | .list => "ListValue" | .ai => "IntArray" | .af => "FloatArray"
  | .at => "TextArray" | .al => "LongArray" | .map => "MapValue" | .imap => "IntMapValue"

/-- code of a type according to the source tables: its `GetValueType` constant, looked up in the const block -/
def codeBySource (ty : String) : Option Nat :=
  match typeTable.find? (fun e => e.1 == ty) with
  | some (_, c, _, _) => (constTable.find? (fun e => e.1 == c)).map (·.2)
  | none => none

/-- type created for a code according to the source tables -/
def typeBySource (n : Nat) : Option String :=
  match constTable.find? (fun e => e.2 == n) with
  | some (c, _) => (factoryTable.find? (fun e => e.1 == c)).map (·.2)
  | none => none

/-- the model's code table is the one the source tables spell out, in both directions -/
theorem code_matches_source : ∀ c ∈ Ctor.all, codeBySource c.typeName = some c.code := by decide
theorem factory_matches_source : ∀ c ∈ Ctor.all, typeBySource c.code = some c.typeName := by decide

end Value
