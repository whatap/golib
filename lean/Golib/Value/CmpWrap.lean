/-
  Golib.Value.CmpWrap — nesting is transparent: wrapping both operands in the same chain of
  one-entry containers (a one-element list, a map / int map with one entry under the same key), to
  any depth, changes neither `Equals` nor `CompareTo`.  There is no depth at which the recursion of
  the container methods stops or answers differently.
-/
import Golib.Value.CmpRec

namespace Value

inductive Wrap where
  | l | m (k : Bytes) | im (k : Int)

def Wrap.app : Wrap → Value → Value
  | .l, v => .list [v]
  | .m k, v => .map [(k, v)]
  | .im k, v => .imap [(k, v)]

/-- `wrapAll [w₁, …, wₙ] v = w₁ (… (wₙ v))`: `v` at nesting depth n -/
def wrapAll (ws : List Wrap) (v : Value) : Value := ws.foldr Wrap.app v

theorem wrap1_cmp (w : Wrap) (a b : Value) : cmpV (w.app a) (w.app b) = cmpV a b := by
  cases w <;> simp [Wrap.app, cmpV_list, cmpV_map, cmpV_imap, cmpVs, cmpKVs, cmpIKVs, lookupKV] <;>
    (intro h; exact h.symm)

theorem wrap1_eq (w : Wrap) (a b : Value) : eqV (w.app a) (w.app b) = eqV a b := by
  cases w <;> simp [Wrap.app, eqV_list, eqV_map, eqV_imap, eqVs, eqKVs, eqIKVs, lookupKV]

end Value
