/-
  Golib.Value.Fuel — the fuel of `Value.decV` only bounds the recursion.

  A successful decode stays what it is under any fuel that is at least the fuel it was run with, or
  at least the number of bytes it consumed (`fuel_enough_all`).  The first half is monotonicity
  (`decV_fuel_mono`), which brings a result at the fuel of a shorter input to that of a longer one
  (`decode_stable1`, used by Golib.Layout.Prefix; hence `decode_prefix_fails`).  The second half says
  that with the fuel `Value.decode` takes from the input length (`|input| + 1`) a failure is never
  due to the fuel (`decode_complete`) and the result is the same for every larger fuel
  (`decV_fuel_irrelevant`); in Go terms: the recursion depth and the number of loop iterations that
  do useful work are bounded by the input length.  The statements speak of `decV` alone; those
  proved for C04 keep its namespace.
-/
import Golib.Value.Prog
namespace FailClosed
open Prim Value

/-- a positive fuel, and its predecessor still covers what remains once a byte has been consumed -/
theorem fuel_pred {f g a b : Nat} (hg : f + 1 ≤ g ∨ a + 1 ≤ g + b) (hab : b ≤ a) :
    ∃ g', g = g' + 1 ∧ (f ≤ g' ∨ a ≤ g' + b) := by
  cases g with
  | zero => omega
  | succ g' => exact ⟨g', rfl, hg.imp Nat.le_of_succ_le_succ (fun h => by omega)⟩

theorem fuel_enough_all (f : Nat) :
    (∀ bs v r, decV f bs = some (v, r) →
        ∀ g, f ≤ g ∨ bs.length ≤ g + r.length → decV g bs = some (v, r)) ∧
    (∀ c bs xs r, decVs f c bs = some (xs, r) →
        ∀ g, f ≤ g ∨ bs.length + 1 ≤ g + r.length → decVs g c bs = some (xs, r)) ∧
    (∀ c acc bs xs r, decKVs f c acc bs = some (xs, r) →
        ∀ g, f ≤ g ∨ bs.length ≤ g + r.length → decKVs g c acc bs = some (xs, r)) ∧
    (∀ c acc bs xs r, decIKVs f c acc bs = some (xs, r) →
        ∀ g, f ≤ g ∨ bs.length ≤ g + r.length → decIKVs g c acc bs = some (xs, r)) := by
  induction f with
  | zero =>
    refine ⟨fun bs v r h => ?_, fun c bs xs r h g _ => ?_, fun c acc bs xs r h g _ => ?_,
      fun c acc bs xs r h g _ => ?_⟩
    · cases bs <;> cases h
    · cases c with
      | zero => cases g <;> exact h
      | succ c => cases h
    · cases c with
      | zero => cases g <;> exact h
      | succ c => cases h
    · cases c with
      | zero => cases g <;> exact h
      | succ c => cases h
  | succ f ih =>
    obtain ⟨ihV, ihVs, ihK, ihI⟩ := ih
    refine ⟨?_, ?_, ?_, ?_⟩
    · intro bs v r h g hg
      have hc := decV_consumes _ _ _ _ h
      cases bs with
      | nil => cases h
      | cons t r0 =>
        rw [List.length_cons] at hg hc
        obtain ⟨g', rfl, hg'⟩ := fuel_pred hg (Nat.le_of_succ_le_succ hc)
        unfold decV at h ⊢
        split at h
        case h_14 =>  -- tag 70, list (arms numbered as in `decV`'s `match`)
          split at h
          · cases h
          · rename_i n r1 hd
            have hd1 := consumes_read 1 _ _ _ _ hd
            split at h
            · cases h
            · rename_i hn
              rw [if_neg hn]
              obtain ⟨⟨xs, r2⟩, hv, hx⟩ := Option.map_eq_some_iff.mp h
              cases hx
              rw [ihVs _ _ _ _ hv g' (hg'.imp_right fun h => by omega)]; rfl
        case h_19 =>  -- tag 80, map
          split at h
          · cases h
          · rename_i n r1 hd
            have hd1 := consumes_read 1 _ _ _ _ hd
            obtain ⟨⟨xs, r2⟩, hv, hx⟩ := Option.map_eq_some_iff.mp h
            cases hx
            rw [ihK _ _ _ _ _ hv g' (hg'.imp_right fun h => by omega)]; rfl
        case h_20 =>  -- tag 81, int map
          split at h
          · cases h
          · rename_i n r1 hd
            have hd1 := consumes_read 1 _ _ _ _ hd
            obtain ⟨⟨xs, r2⟩, hv, hx⟩ := Option.map_eq_some_iff.mp h
            cases hx
            rw [ihI _ _ _ _ _ hv g' (hg'.imp_right fun h => by omega)]; rfl
        all_goals exact h  -- every other arm does not look at the fuel
    · intro c bs xs r h g hg
      cases c with
      | zero => cases g <;> exact h
      | succ c =>
        unfold decVs at h
        split at h
        · cases h
        · rename_i v r1 hv
          obtain ⟨⟨ys, r2⟩, hw, hx⟩ := Option.map_eq_some_iff.mp h
          cases hx
          have h1 := decV_consumes _ _ _ _ hv
          have h2 := P.run_length_le _ _ _ _ (((run_decP_all f).2.1 _ _).trans hw)
          obtain ⟨g', rfl, hg'⟩ := fuel_pred hg (by omega)
          unfold decVs
          rw [ihV _ _ _ hv g' (hg'.imp_right fun h => by omega)]
          simp only
          rw [ihVs _ _ _ _ hw g' (hg'.imp_right fun h => by omega)]; rfl
    · intro c acc bs xs r h g hg
      cases c with
      | zero => cases g <;> exact h
      | succ c =>
        unfold decKVs at h
        split at h
        · cases h
        · rename_i k r1 hk
          split at h
          · cases h
          · rename_i v r2 hv
            have h0 := consumes_read 1 _ _ _ _ hk
            have h1 := decV_consumes _ _ _ _ hv
            have h2 := P.run_length_le _ _ _ _ (((run_decP_all f).2.2.1 _ _ _).trans h)
            obtain ⟨g', rfl, hg'⟩ := fuel_pred (a := r1.length) (b := r.length) (hg.imp_right fun h => by omega) (by omega)
            unfold decKVs
            rw [hk]; simp only
            rw [ihV _ _ _ hv g' (hg'.imp_right fun h => by omega)]
            exact ihK _ _ _ _ _ h g' (hg'.imp_right fun h => by omega)
    · intro c acc bs xs r h g hg
      cases c with
      | zero => cases g <;> exact h
      | succ c =>
        unfold decIKVs at h
        split at h
        · cases h
        · rename_i k r1 hk
          split at h
          · cases h
          · rename_i v r2 hv
            have h0 := consumes_read 4 _ _ _ _ hk
            have h1 := decV_consumes _ _ _ _ hv
            have h2 := P.run_length_le _ _ _ _ (((run_decP_all f).2.2.2 _ _ _).trans h)
            obtain ⟨g', rfl, hg'⟩ := fuel_pred (a := r1.length) (b := r.length) (hg.imp_right fun h => by omega) (by omega)
            unfold decIKVs
            rw [hk]; simp only
            rw [ihV _ _ _ hv g' (hg'.imp_right fun h => by omega)]
            exact ihI _ _ _ _ _ h g' (hg'.imp_right fun h => by omega)
theorem decV_fuel_mono (f g : Nat) (hfg : f ≤ g) (bs : Bytes) (x : Value × Bytes)
    (h : decV f bs = some x) : decV g bs = some x :=
  (fuel_enough_all f).1 bs x.1 x.2 h g (Or.inl hfg)

end FailClosed

namespace Value

/-- `decV f` is a program of `P` run (`run_decP`), so it ignores what is appended -/
theorem decV_stable1 (f : Nat) : Stable1 (decV f) :=
  (funext (run_decP f) : P.run (decP f) = decV f) ▸ P.run_stable (decP f)

/-- so does `decode`: the result is at the fuel of the shorter input, fuel monotonicity brings it
    to that of the longer one -/
theorem decode_stable1 : Stable1 decode := fun q s v r h =>
  FailClosed.decV_fuel_mono _ _ (by rw [List.length_append]; omega) _ _ (decV_stable1 _ q s v r h)

end Value

namespace FailClosed
open Prim Value

/-- **prefix failure for `Value.decode`** (fuel taken from the input length): a strict prefix of
    a completely decoded value encoding does not decode -/
theorem decode_prefix_fails (q s : Bytes) (v : Value) (hs : s ≠ [])
    (h : Value.decode (q ++ s) = some (v, [])) : Value.decode q = none :=
  Value.decode_stable1.prefix_fails hs h

/-- **the fuel is never the reason for a failure**: if the value decoder succeeds with *any*
    amount of fuel, it succeeds, with the same result, with the fuel `Value.decode` takes from the
    length of the input — so `Value.decode bs = none` means the Go decoder panics on `bs`, not
    that the model ran out of steps -/
theorem decode_complete (f : Nat) (bs : Bytes) (x : Value × Bytes) (h : decV f bs = some x) :
    Value.decode bs = some x :=
  (fuel_enough_all f).1 bs x.1 x.2 h (bs.length + 1) (Or.inr (by omega))

/-- the result of the value decoder does not depend on the fuel once the fuel exceeds the input -/
theorem decV_fuel_irrelevant (f g : Nat) (bs : Bytes) (hf : bs.length < f) (hg : bs.length < g) :
    decV f bs = decV g bs :=
  Option.ext fun x =>
    ⟨fun h => (fuel_enough_all f).1 bs x.1 x.2 h g (Or.inr (by omega)),
     fun h => (fuel_enough_all g).1 bs x.1 x.2 h f (Or.inr (by omega))⟩

end FailClosed
