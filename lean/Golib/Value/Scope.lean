/-
  Golib.Value.Scope — `noNaN` and `aligned`, side conditions under which comparison laws of C20 hold
  on the code as it is (each has a known finding with a witness when it is dropped):

    noNaN v        no float that a comparison looks at is a NaN (float / double scalars, the sum
                   of a double summary, float-array elements), recursively
    aligned a b    wherever `CompareTo` would walk two maps of equal size, their key *sequences*
                   are the same (same keys, same insertion order), recursively along the walk
-/
import Golib.Value.Cmp

namespace Value

mutual
def noNaN : Value → Bool
  | .f32 b => !nan32 b
  | .f64 b => !nan64 b
  | .dsum s _ _ _ => !nan64 s
  | .af xs => xs.all (fun b => !nan32 b)
  | .list xs => noNaNs xs
  | .map kvs => noNaNKVs kvs
  | .imap kvs => noNaNIKVs kvs
  | _ => true
def noNaNs : List Value → Bool
  | [] => true
  | x :: xs => noNaN x && noNaNs xs
def noNaNKVs : List (Bytes × Value) → Bool
  | [] => true
  | (_, v) :: kvs => noNaN v && noNaNKVs kvs
def noNaNIKVs : List (Int × Value) → Bool
  | [] => true
  | (_, v) :: kvs => noNaN v && noNaNIKVs kvs
end

mutual
def aligned : Value → Value → Bool
  | .list xs, b =>
    match b with
    | .list ys => xs.length != ys.length || alignedVs xs ys
    | _ => true
  | .map kvs, b =>
    match b with
    | .map kvs' => kvs.length != kvs'.length || (kvs.map (·.1) == kvs'.map (·.1) && alignedKVs kvs kvs')
    | _ => true
  | .imap kvs, b =>
    match b with
    | .imap kvs' => kvs.length != kvs'.length || (kvs.map (·.1) == kvs'.map (·.1) && alignedIKVs kvs kvs')
    | _ => true
  | _, _ => true
/-- position by position -/
def alignedVs : List Value → List Value → Bool
  | [], _ => true
  | _ :: _, [] => true
  | x :: xs, y :: ys => aligned x y && alignedVs xs ys
def alignedKVs : List (Bytes × Value) → List (Bytes × Value) → Bool
  | [], _ => true
  | _ :: _, [] => true
  | (_, v) :: kvs, (_, w) :: kws => aligned v w && alignedKVs kvs kws
def alignedIKVs : List (Int × Value) → List (Int × Value) → Bool
  | [], _ => true
  | _ :: _, [] => true
  | (_, v) :: kvs, (_, w) :: kws => aligned v w && alignedIKVs kvs kws
end

def NoNaN (v : Value) : Prop := noNaN v = true
def Aligned (a b : Value) : Prop := aligned a b = true

end Value
