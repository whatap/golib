/-
  Golib.Value.CmpIRCLaws — the container / helper IR of CmpIRC.lean:
    * a loop whose body is one visit (`visitC` / `visitE`) computes the model's loops;
    * a container method with the standard fields computes the model (`runContCmp_of_OK`, `runContEq_of_OK`);
    * congruence: the interpretation calls `rec` only on the receiver's children;
    * a helper is the loop its table entry names.
-/
import Golib.Value.CmpIRC
import Golib.Value.CmpRec

namespace Value
namespace IR

/-- the loop body of the three `CompareTo` methods is one visit -/
theorem cstep_std (v : Value) (o : Option Value) :
    runCSteps cmpV v o [.missingRet 1, .recNonzero] = if visitC v o ≠ 0 then some (some (visitC v o)) else some none := by
  cases o <;> rfl

theorem estep_std (v : Value) (o : Option Value) :
    runESteps eqV v o [.missingRetE false, .recUnequal false] = if visitE v o = false then some (some false) else some none := by
  cases o <;> rfl

section Visit
variable {step : Value → Option Value → Option (Option Int)}
  (hstep : ∀ v o, step v o = if visitC v o ≠ 0 then some (some (visitC v o)) else some none)
  {estep : Value → Option Value → Option (Option Bool)}
  (hestep : ∀ v o, estep v o = if visitE v o = false then some (some false) else some none)

include hstep in
theorem runIdx_cmp_std (xs ys : List Value) (h : xs.length = ys.length) :
    runIdx step 0 xs ys = some (cmpVs xs ys) := by
  induction xs generalizing ys with
  | nil => simp [runIdx, cmpVs]
  | cons x xs ih =>
    cases ys with
    | nil => simp at h
    | cons y ys =>
      have h' : xs.length = ys.length := by simpa using h
      simp only [runIdx, cmpVs, hstep, visitC]
      by_cases hc : cmpV x y = 0
      · simp only [hc, ne_eq, not_true_eq_false, if_false]; exact ih ys h'
      · simp [hc]

include hestep in
theorem runIdx_eq_std (xs ys : List Value) (h : xs.length = ys.length) :
    runIdx estep true xs ys = some (eqVs xs ys) := by
  induction xs generalizing ys with
  | nil => simp [runIdx, eqVs]
  | cons x xs ih =>
    cases ys with
    | nil => simp at h
    | cons y ys =>
      have h' : xs.length = ys.length := by simpa using h
      simp only [runIdx, eqVs, hestep, visitE]
      by_cases hc : eqV x y = false
      · simp [hc]
      · rw [Bool.not_eq_false] at hc
        simp only [hc, Bool.true_eq_false, if_false, Bool.true_and]; exact ih ys h'

include hstep in
/-- the walk along the receiver's keys, for either map type (`cmpKVs_eq`, `cmpIKVs_eq`) -/
theorem runKeys_cmp_std {K : Type} [DecidableEq K] (kvs other : List (K × Value)) :
    runKeys step 0 true kvs other = some (firstNZ (kvs.map (fun p => visitC p.2 (lookupKV p.1 other)))) := by
  induction kvs with
  | nil => simp [runKeys, firstNZ]
  | cons p kvs ih =>
    obtain ⟨k, v⟩ := p
    simp only [runKeys, hstep, List.map_cons, firstNZ, Bool.not_true, Bool.and_false, Bool.false_eq_true, if_false]
    by_cases hc : visitC v (lookupKV k other) = 0
    · simp only [hc, ne_eq, not_true_eq_false, if_false]; exact ih
    · simp [hc]

include hestep in
theorem runKeys_eq_std {K : Type} [DecidableEq K] (kvs other : List (K × Value)) :
    runKeys estep true true kvs other = some ((kvs.map (fun p => visitE p.2 (lookupKV p.1 other))).all id) := by
  induction kvs with
  | nil => simp [runKeys]
  | cons p kvs ih =>
    obtain ⟨k, v⟩ := p
    simp only [runKeys, hestep, List.map_cons, List.all_cons, id, Bool.not_true, Bool.and_false, Bool.false_eq_true, if_false]
    by_cases hc : visitE v (lookupKV k other) = false
    · simp [hc]
    · rw [Bool.not_eq_false] at hc
      simp only [hc, Bool.true_eq_false, if_false, Bool.true_and]; exact ih

end Visit

/-! ### a container method with the standard fields computes the model

Type fallback by int subtraction, the size test, the index loop for a list and the key loop with the
comma-ok assertion on the other's entry for a map, in the loop `if v2 == nil { return 1 / false }` and the
recursive call, `0` / `true` at the end: such a method, with the model for the calls on the children,
returns what the model returns. -/

def contCmpOK (c : Ctor) (cc : ContCmp) : Bool :=
  cc.fallback == "intSub" && cc.sizeCheck && cc.iter == (if c == .list then "index" else "keys") &&
  (c == .list || cc.thatCommaOk) && cc.body == [.missingRet 1, .recNonzero] && cc.endRet == 0

def contEqOK (c : Ctor) (ce : ContEq) : Bool :=
  ce.guard && ce.sizeCheck && ce.iter == (if c == .list then "index" else "keys") &&
  (c == .list || ce.thatCommaOk) && ce.body == [.missingRetE false, .recUnequal false] && ce.endRet

theorem ctorOf_cont (a : Value) (hf : isFlat a = false) : ctorOf a ∈ [Ctor.list, .map, .imap] := by
  cases a <;> first | (cases hf; done) | simp [ctorOf]

theorem runContCmp_of_OK (cc : ContCmp) (a b : Value) (hf : isFlat a = false) (h : contCmpOK (ctorOf a) cc = true) :
    runContCmp cc cmpV a b = some (cmpV a b) := by
  obtain ⟨n, fb, sc, it, ok, body, e⟩ := cc
  simp only [contCmpOK, Bool.and_eq_true, beq_iff_eq, Bool.or_eq_true] at h
  obtain ⟨⟨⟨⟨⟨hfb, hsc⟩, hit⟩, hok⟩, hbody⟩, he⟩ := h
  subst hfb hsc hbody he
  unfold runContCmp
  by_cases ht : tag a = tag b
  · rw [if_neg (not_not_intro ht)]
    induction a, b, ht using tag_eq_cases with
    | list xs ys =>
      rw [cmpV_list]
      by_cases hl : xs.length = ys.length
      · simp [hit, ctorOf, hl, runIdx_cmp_std cstep_std xs ys hl]
      · simp [hit, ctorOf, hl]
    | map xs ys =>
      rw [cmpV_map, cmpKVs_eq]
      by_cases hl : xs.length = ys.length
      · cases hok.resolve_left (fun e => by cases e)
        simpa [hit, ctorOf, hl] using runKeys_cmp_std cstep_std xs ys
      · simp [hit, ctorOf, hl]
    | imap xs ys =>
      rw [cmpV_imap, cmpIKVs_eq]
      by_cases hl : xs.length = ys.length
      · cases hok.resolve_left (fun e => by cases e)
        simpa [hit, ctorOf, hl] using runKeys_cmp_std cstep_std xs ys
      · simp [hit, ctorOf, hl]
    | _ => cases hf
  · rw [if_pos ht, cmpV_tag_ne a b ht]; simp

theorem runContEq_of_OK (ce : ContEq) (a b : Value) (hf : isFlat a = false) (h : contEqOK (ctorOf a) ce = true) :
    runContEq ce eqV a b = some (eqV a b) := by
  obtain ⟨g, sc, it, ok, body, e⟩ := ce
  simp only [contEqOK, Bool.and_eq_true, beq_iff_eq, Bool.or_eq_true] at h
  obtain ⟨⟨⟨⟨⟨hg, hsc⟩, hit⟩, hok⟩, hbody⟩, he⟩ := h
  subst hg hsc hbody he
  unfold runContEq
  by_cases ht : tag a = tag b
  · rw [if_neg (not_not_intro ht)]
    induction a, b, ht using tag_eq_cases with
    | list xs ys =>
      rw [eqV_list]
      by_cases hl : xs.length = ys.length
      · simp [hit, ctorOf, hl, runIdx_eq_std estep_std xs ys hl]
      · simp [hit, ctorOf, hl]
    | map xs ys =>
      rw [eqV_map, eqKVs_eq]
      by_cases hl : xs.length = ys.length
      · cases hok.resolve_left (fun e => by cases e)
        simpa [hit, ctorOf, hl] using runKeys_eq_std estep_std xs ys
      · simp [hit, ctorOf, hl]
    | imap xs ys =>
      rw [eqV_imap, eqIKVs_eq]
      by_cases hl : xs.length = ys.length
      · cases hok.resolve_left (fun e => by cases e)
        simpa [hit, ctorOf, hl] using runKeys_eq_std estep_std xs ys
      · simp [hit, ctorOf, hl]
    | _ => cases hf
  · rw [if_pos ht, eqV_tag_ne a b ht]; simp

theorem runCSteps_congr (f g : Value → Value → Int) (v1 : Value) (v2 : Option Value) (body : List CStep)
    (h : ∀ w, f v1 w = g v1 w) : runCSteps f v1 v2 body = runCSteps g v1 v2 body := by
  induction body with
  | nil => rfl
  | cons s rest ih =>
    cases s with
    | missingRet k => simp [runCSteps, ih]
    | recNonzero => cases v2 with
      | none => simp [runCSteps]
      | some w => simp [runCSteps, h w, ih]
    | unknownK _ => simp [runCSteps]

theorem runESteps_congr (f g : Value → Value → Bool) (v1 : Value) (v2 : Option Value) (body : List EStep)
    (h : ∀ w, f v1 w = g v1 w) : runESteps f v1 v2 body = runESteps g v1 v2 body := by
  induction body with
  | nil => rfl
  | cons s rest ih =>
    cases s with
    | missingRetE k => simp [runESteps, ih]
    | recUnequal b => cases v2 with
      | none => simp [runESteps]
      | some w => simp [runESteps, h w, ih]
    | unknownQ _ => simp [runESteps]

theorem runIdx_congr (s t : Value → Option Value → Option (Option α)) (e : α) (xs ys : List Value)
    (h : ∀ x ∈ xs, ∀ o, s x o = t x o) : runIdx s e xs ys = runIdx t e xs ys := by
  induction xs generalizing ys with
  | nil => simp [runIdx]
  | cons x xs ih =>
    cases ys with
    | nil => simp [runIdx]
    | cons y ys =>
      simp only [runIdx]
      rw [h x (by simp), ih ys (fun x' hx' => h x' (by simp [hx']))]

theorem runKeys_congr {K : Type} [DecidableEq K] (s t : Value → Option Value → Option (Option α)) (e : α) (c : Bool)
    (kvs other : List (K × Value)) (h : ∀ p ∈ kvs, ∀ o, s p.2 o = t p.2 o) :
    runKeys s e c kvs other = runKeys t e c kvs other := by
  induction kvs with
  | nil => simp [runKeys]
  | cons p kvs ih =>
    obtain ⟨k, v⟩ := p
    simp only [runKeys]
    rw [h (k, v) (by simp), ih (fun p' hp' => h p' (by simp [hp']))]

theorem runContCmp_congr (cc : ContCmp) (f g : Value → Value → Int) (a b : Value)
    (h : ∀ x ∈ kids a, ∀ w, f x w = g x w) : runContCmp cc f a b = runContCmp cc g a b := by
  unfold runContCmp
  split
  · rfl
  · split
    · next xs ys _ =>
      rw [runIdx_congr _ (fun v1 v2 => runCSteps g v1 v2 cc.body) _ xs ys
        fun x hx o => runCSteps_congr f g x o cc.body (h x hx)]
    · rw [runKeys_congr _ (fun v1 v2 => runCSteps g v1 v2 cc.body) _ _ _ _
        fun p hp o => runCSteps_congr f g p.2 o cc.body (h p.2 (List.mem_map_of_mem hp))]
    · rw [runKeys_congr _ (fun v1 v2 => runCSteps g v1 v2 cc.body) _ _ _ _
        fun p hp o => runCSteps_congr f g p.2 o cc.body (h p.2 (List.mem_map_of_mem hp))]
    · rfl

theorem runContEq_congr (ce : ContEq) (f g : Value → Value → Bool) (a b : Value)
    (h : ∀ x ∈ kids a, ∀ w, f x w = g x w) : runContEq ce f a b = runContEq ce g a b := by
  unfold runContEq
  split
  · rfl
  · split
    · next xs ys _ =>
      rw [runIdx_congr _ (fun v1 v2 => runESteps g v1 v2 ce.body) _ xs ys
        fun x hx o => runESteps_congr f g x o ce.body (h x hx)]
    · rw [runKeys_congr _ (fun v1 v2 => runESteps g v1 v2 ce.body) _ _ _ _
        fun p hp o => runESteps_congr f g p.2 o ce.body (h p.2 (List.mem_map_of_mem hp))]
    · rw [runKeys_congr _ (fun v1 v2 => runESteps g v1 v2 ce.body) _ _ _ _
        fun p hp o => runESteps_congr f g p.2 o ce.body (h p.2 (List.mem_map_of_mem hp))]
    · rfl

/-! ### the slice helpers: a table entry says which loop a helper is -/

deriving instance DecidableEq for HelperBody

theorem runHelperCmp_loop {α : Type} (tbl : List (String × HelperBody)) (h : String) (body : List HStep)
    (hl : lookup tbl h = some (.loop "both" body "lenDiff")) (lt : α → α → Bool) (c : α → α → Int) (xs ys : List α) :
    runHelperCmp tbl h lt c xs ys = runHLoop lt c body xs ys := by
  unfold runHelperCmp; rw [hl]; simp

theorem runHelperEq_eqZero {α : Type} (tbl : List (String × HelperBody)) (h callee : String)
    (hl : lookup tbl h = some (.eqZero callee)) (lt : α → α → Bool) (c : α → α → Int) (xs ys : List α) :
    runHelperEq tbl h lt c xs ys = (runHelperCmp tbl callee lt c xs ys).map (· == 0) := by
  unfold runHelperEq; rw [hl]

theorem payloadEq?_eqZero (tbl : List (String × HelperBody)) (h callee : String)
    (hl : lookup tbl h = some (.eqZero callee)) (a b : Value) :
    payloadEq? tbl h a b = (payloadCmp tbl callee a b).map (· == 0) := by
  unfold payloadEq? payloadCmp
  split <;> first | exact runHelperEq_eqZero tbl h callee hl _ _ _ _ | rfl

theorem runHLoop_ltgt (lt : α → α → Bool) (c : α → α → Int) (xs ys : List α) :
    runHLoop lt c [.ifGt 1, .ifLt (-1)] xs ys = some (cmpSeq lt xs ys) := by
  unfold cmpSeq
  induction xs generalizing ys with
  | nil => simp [runHLoop, lexBy]
  | cons x xs ih =>
    cases ys with
    | nil => simp [runHLoop, lexBy]
    | cons y ys =>
      cases h1 : lt y x <;> cases h2 : lt x y <;> simp [runHLoop, runHSteps, lexBy, cmpOf, h1, h2, ih]

theorem runHLoop_cmp3 (lt : α → α → Bool) (c : α → α → Int) (xs ys : List α) :
    runHLoop lt c [.cmp3Nonzero] xs ys = some (lexBy c xs ys) := by
  fun_induction lexBy c xs ys with
  | case1 | case2 => rfl
  | case3 _ _ _ _ h => simp [runHLoop, runHSteps, h]
  | case4 _ _ _ _ h ih => simp [runHLoop, runHSteps, h, ih]

end IR
end Value
