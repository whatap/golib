/-
  Golib.Value.Prog — `decV` is `P.run` of a program of the decoder syntax `P`.

  `decV f = P.run (decP f)` (`run_decP_all`), so what holds of every program of `P` (locality,
  prefix failure, a rest no longer than the input) holds of the value decoder at every fuel.  The
  dispatch on the tag byte, `bodyP`, takes the readers of the three containers' contents as
  parameters: it knows neither fuel nor recursion, seventeen of its twenty arms are a primitive
  reader under a constructor, and a fact about the decoder is one line per arm of it (`P.Ens` for
  what the result satisfies, `ConsumesAtLeast` for how many bytes it occupies).  `decV_cons` is the
  decoder's equation after the tag byte; outside this file only the fuel argument (`fuel_enough_all`,
  Value/Fuel.lean) and `decMapValue_iff` (Value/ApiFacts.lean, at the one tag 80) take the `match` of
  `decV` apart again.  `decV` stays the function of Golib.Value.Model that the drivers run
  (`Value.decode`); `decP` is a second presentation proved equal to it, not its definition.
-/
import Golib.Value.Model

namespace Value
open Prim

/-- what `ReadValue` does after the tag byte `t` (`CreateValue(t)`, then that type's `Read`);
    `vs`, `ks`, `is` read the contents of a list, a map, an int map of the given count -/
def bodyP (vs : Nat → P (List Value)) (ks : Nat → P (List (Bytes × Value)))
    (is : Nat → P (List (Int × Value))) : Nat → P Value
  | 0 => .pure .null
  | 10 => rdBool.map .bool
  | 20 => decDecimal.map .dec
  | 21 => (rdI 4).map .int
  | 22 => (rdI 8).map .long
  | 30 => (rdU 4).map .f32
  | 40 => (rdU 8).map .f64
  | 45 => (rdU 8).bind fun s => (rdI 4).bind fun c => (rdU 8).bind fun mn => (rdU 8).map (.dsum s c mn)
  | 46 => (rdI 8).bind fun s => (rdI 4).bind fun c => (rdI 8).bind fun mn => (rdI 8).map (.lsum s c mn)
  | 50 => decBlob.map .text
  | 51 => (rdI 4).map .hash
  | 60 => decBlob.map .blob
  | 61 => (rdBytes 4).map .ip4
  | 70 => decDecimal.bind fun n => if n < 0 then .fail else (vs n.toNat).map .list
  | 71 => (decArr (rdI 4)).map .ai
  | 72 => (decArr (rdU 4)).map .af
  | 73 => (decArr decBlob).map .at
  | 74 => (decArr (rdI 8)).map .al
  | 80 => decDecimal.bind fun n => (ks n.toNat).map .map
  | 81 => decDecimal.bind fun n => (is n.toNat).map .imap
  | _ => .fail

/-! `decV`, `decVs`, `decKVs`, `decIKVs` as programs, with the fuel of the model -/
mutual
def decP : Nat → P Value
  | 0 => .fail
  | f+1 => .read 1 fun t => bodyP (decPs f) (decKP f · []) (decIKP f · []) (t.headD 0)
def decPs : Nat → Nat → P (List Value)
  | _, 0 => .pure []
  | 0, _+1 => .fail
  | f+1, c+1 => (decP f).bind fun x => (decPs f c).map (x :: ·)
def decKP : Nat → Nat → List (Bytes × Value) → P (List (Bytes × Value))
  | _, 0, acc => .pure acc
  | 0, _+1, _ => .fail
  | f+1, c+1, acc => decBlob.bind fun k => (decP f).bind fun v => decKP f c (putKV acc k v)
def decIKP : Nat → Nat → List (Int × Value) → P (List (Int × Value))
  | _, 0, acc => .pure acc
  | 0, _+1, _ => .fail
  | f+1, c+1, acc => (rdI 4).bind fun k => (decP f).bind fun v => decIKP f c (putKV acc k v)
end

theorem run_decP_all (f : Nat) :
    (∀ bs, P.run (decP f) bs = decV f bs) ∧
    (∀ c bs, P.run (decPs f c) bs = decVs f c bs) ∧
    (∀ c acc bs, P.run (decKP f c acc) bs = decKVs f c acc bs) ∧
    (∀ c acc bs, P.run (decIKP f c acc) bs = decIKVs f c acc bs) := by
  induction f with
  | zero =>
    refine ⟨fun bs => ?_, fun c bs => ?_, fun c acc bs => ?_, fun c acc bs => ?_⟩
    · cases bs <;> rfl
    all_goals cases c <;> rfl
  | succ f ih =>
    obtain ⟨ihV, ihVs, ihK, ihI⟩ := ih
    refine ⟨fun bs => ?_, fun c bs => ?_, fun c acc bs => ?_, fun c acc bs => ?_⟩
    · cases bs with
      | nil => rfl
      | cons t r =>
        unfold decP decV bodyP
        rw [P.run_read1, List.headD_cons]
        -- the `match`es of `decV` and of `P.run_bind` are different constants: each reader's
        -- result is taken apart, after which both sides compute.  `split` numbers the arms in the
        -- order of `bodyP` (h_1 = tag 0 … h_20 = tag 81, h_21 = any other byte); a new value type
        -- shifts the numbers behind it
        split
        case h_1 => rfl  -- 0, null: nothing to read
        case h_8 =>  -- 45, DoubleSummary: four reads
          simp only [P.run_bind, P.run_map]
          rcases (rdU 8).run r with _ | ⟨s, r⟩
          · rfl
          simp only; rcases (rdI 4).run r with _ | ⟨c, r⟩
          · rfl
          simp only; rcases (rdU 8).run r with _ | ⟨mn, r⟩ <;> rfl
        case h_9 =>  -- 46, LongSummary: four reads
          simp only [P.run_bind, P.run_map]
          rcases (rdI 8).run r with _ | ⟨s, r⟩
          · rfl
          simp only; rcases (rdI 4).run r with _ | ⟨c, r⟩
          · rfl
          simp only; rcases (rdI 8).run r with _ | ⟨mn, r⟩ <;> rfl
        case h_14 =>  -- 70, list: count, sign test, then `decPs`
          rw [P.run_bind]; rcases decDecimal.run r with _ | ⟨n, r⟩
          · rfl
          simp only; split
          · rfl
          · rw [P.run_map, ihVs]
        case h_19 =>  -- 80, map: count, then `decKP`
          rw [P.run_bind]; rcases decDecimal.run r with _ | ⟨n, r⟩
          · rfl
          simp only; rw [P.run_map, ihK]
        case h_20 =>  -- 81, int map: count, then `decIKP`
          rw [P.run_bind]; rcases decDecimal.run r with _ | ⟨n, r⟩
          · rfl
          simp only; rw [P.run_map, ihI]
        case h_21 => simp only []; rfl  -- unknown tag: both fail
        all_goals exact P.run_map _ _ _  -- the other fourteen: one reader under a constructor
    · cases c with
      | zero => rfl
      | succ c =>
        unfold decPs decVs
        rw [P.run_bind, ihV]; rcases decV f bs with _ | ⟨x, r⟩
        · rfl
        simp only; rw [P.run_map, ihVs]
    · cases c with
      | zero => rfl
      | succ c =>
        unfold decKP decKVs
        rw [P.run_bind]; rcases decBlob.run bs with _ | ⟨k, r⟩
        · rfl
        simp only; rw [P.run_bind, ihV]; rcases decV f r with _ | ⟨v, r⟩
        · rfl
        exact ihK _ _ _
    · cases c with
      | zero => rfl
      | succ c =>
        unfold decIKP decIKVs
        rw [P.run_bind]; rcases (rdI 4).run bs with _ | ⟨k, r⟩
        · rfl
        simp only; rw [P.run_bind, ihV]; rcases decV f r with _ | ⟨v, r⟩
        · rfl
        exact ihI _ _ _

theorem run_decP (f : Nat) (bs : Bytes) : P.run (decP f) bs = decV f bs := (run_decP_all f).1 bs

/-- the decoder after the tag byte -/
theorem decV_cons (f t : Nat) (r : Bytes) :
    decV (f + 1) (t :: r) = P.run (bodyP (decPs f) (decKP f · []) (decIKP f · []) t) r := by
  rw [← run_decP, decP, P.run_read1, List.headD_cons]

/-! every value occupies at least its tag byte, a list of `c` values at least `c` bytes -/

theorem consumes_decP (f : Nat) : ConsumesAtLeast (decP f) 1 := by
  cases f with
  | zero => exact fun _ _ _ h => nomatch h
  | succ f => exact consumes_read 1 _

theorem consumes_decPs (f c : Nat) : ConsumesAtLeast (decPs f c) c := by
  induction c generalizing f with
  | zero => rw [decPs]; exact .pure _
  | succ c ih =>
    cases f with
    | zero => exact fun _ _ _ h => nomatch h
    | succ f =>
      rw [decPs, Nat.add_comm]
      exact (consumes_decP f).bind fun x => (ih f).bind fun _ => .pure _

theorem decV_consumes (f : Nat) (bs : Bytes) (v : Value) (r : Bytes) (h : decV f bs = some (v, r)) :
    r.length < bs.length := consumes_decP f bs v r (run_decP f bs ▸ h)

end Value
