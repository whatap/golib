/-
  Golib.Value.Stream — from one call to histories.

  * a stream: `decodeMany k` reads k values one after the other, `decodeAll` reads until the input
    is exhausted; that they give back the values of a concatenation of encodings is
    `C02.stream_roundtrip` / `C02.stream_roundtrip_all`;
  * a process: a history of encode / decode calls (some of them failing) over the model has no
    state to carry — every output is a function of that call's own input (`run_outputs`), so a
    decode anywhere in a history returns the value an encode anywhere in it produced, whatever
    happened in between (`C02.roundtrip_anywhere_in_a_history`).
-/
import Golib.Value.DecWF

namespace Value
open Prim

/-- read `k` values one after the other (`ReadValue` called `k` times on one input) -/
def decodeMany : Nat → Bytes → Option (List Value × Bytes)
  | 0, bs => some ([], bs)
  | k+1, bs => match decode bs with
    | none => none
    | some (v, r) => (decodeMany k r).map (fun (vs, r') => (v :: vs, r'))

theorem wfVs_cons (x : Value) (xs : List Value) : WFVs (x :: xs) ↔ WFV x ∧ WFVs xs := by
  simp [WFVs, WFV, wfVs]

/-- read values until the input is exhausted (fuel: one unit per value; the input length suffices) -/
def decodeAll : Nat → Bytes → Option (List Value)
  | _, [] => some []
  | 0, _ :: _ => none
  | f+1, b :: bs => match decode (b :: bs) with
    | none => none
    | some (v, r) => (decodeAll f r).map (fun vs => v :: vs)

theorem encV_ne_nil (v : Value) : encV v ≠ [] := by
  cases v <;> simp [encV]

/-- what a process does with the codec -/
inductive Call where
  | encode (v : Value)
  | decode (bs : Bytes)

inductive Result where
  | bytes (bs : Bytes)
  | value (v : Value) (rest : Bytes)
  | failed
deriving Inhabited

/-- one call; the state of the codec is `Unit`: there is nothing to carry from call to call -/
def stepCall (_ : Unit) : Call → Unit × Result
  | .encode v => ((), .bytes (encV v))
  | .decode bs => ((), match Value.decode bs with
    | some (v, r) => .value v r
    | none => .failed)

def runCalls : Unit → List Call → List Result
  | _, [] => []
  | s, c :: cs => (stepCall s c).2 :: runCalls (stepCall s c).1 cs

/-- every output of a history is the output of that call alone: earlier calls — successful or
    failed — change nothing (frame condition: the whole state is unchanged by every call) -/
theorem run_outputs (cs : List Call) : runCalls () cs = cs.map (fun c => (stepCall () c).2) := by
  induction cs with
  | nil => rfl
  | cons c t ih => simp only [runCalls, List.map_cons]; rw [ih]

end Value
