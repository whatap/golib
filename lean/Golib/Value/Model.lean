/-
  Golib.Value.Model — CodeModel of lang/value: the tagged value model and its wire codec.

  `encV` follows `WriteValue` (type tag, then the type's `Write`); `decV` follows `ReadValue`
  (`CreateValue` switch on the tag, then the type's `Read`).  Floats are carried as IEEE-754 bit
  patterns.  String-keyed and int-keyed maps are association lists in insertion order; decoding
  *puts* the pairs one after the other (an existing key keeps its position and takes the new
  value), which is what the backing StringKeyLinkedMap / IntKeyLinkedMap do (C09).

  Definitions only (shared by C02, C03, C04, C05, C08, C20); the theorems are in Golib/Value/*.lean
  and Golib/Props/C02.lean.
-/
import Golib.Prim.Codec

inductive Value where
  | null
  | bool (b : Bool)
  | dec (v : Int)                                   -- DecimalValue   (tag 20, decimal)
  | int (v : Int)                                   -- IntValue       (tag 21, 4 bytes)
  | long (v : Int)                                  -- LongValue      (tag 22, 8 bytes)
  | f32 (bits : Nat)                                -- FloatValue     (tag 30)
  | f64 (bits : Nat)                                -- DoubleValue    (tag 40)
  | dsum (sum : Nat) (count : Int) (min max : Nat)  -- DoubleSummary  (tag 45; doubles as bit patterns)
  | lsum (sum : Int) (count : Int) (min max : Int)  -- LongSummary    (tag 46)
  | text (bs : Bytes)                               -- TextValue      (tag 50)
  | hash (v : Int)                                  -- TextHashValue  (tag 51, 4 bytes)
  | blob (bs : Bytes)                               -- BlobValue      (tag 60)
  | ip4 (bs : Bytes)                                -- IP4Value       (tag 61, raw bytes; the reader takes 4)
  | list (xs : List Value)                          -- ListValue      (tag 70)
  | ai (xs : List Int)                              -- IntArray       (tag 71)
  | af (xs : List Nat)                              -- FloatArray     (tag 72)
  | at (xs : List Bytes)                            -- TextArray      (tag 73)
  | al (xs : List Int)                              -- LongArray      (tag 74)
  | map (kvs : List (Bytes × Value))                -- MapValue       (tag 80)
  | imap (kvs : List (Int × Value))                 -- IntMapValue    (tag 81)
deriving Repr

namespace Value
open Prim

def tag : Value → Nat
  | .null => 0 | .bool _ => 10 | .dec _ => 20 | .int _ => 21 | .long _ => 22
  | .f32 _ => 30 | .f64 _ => 40 | .dsum .. => 45 | .lsum .. => 46
  | .text _ => 50 | .hash _ => 51 | .blob _ => 60 | .ip4 _ => 61
  | .list _ => 70 | .ai _ => 71 | .af _ => 72 | .at _ => 73 | .al _ => 74
  | .map _ => 80 | .imap _ => 81

mutual
/-- `WriteValue`: the tag byte, then the body -/
def encV : Value → Bytes
  | .null => [0]
  | .bool b => 10 :: encBool b
  | .dec v => 20 :: encDecimal v
  | .int v => 21 :: encI 4 v
  | .long v => 22 :: encI 8 v
  | .f32 b => 30 :: beN 4 b
  | .f64 b => 40 :: beN 8 b
  | .dsum s c mn mx => 45 :: (beN 8 s ++ encI 4 c ++ beN 8 mn ++ beN 8 mx)
  | .lsum s c mn mx => 46 :: (encI 8 s ++ encI 4 c ++ encI 8 mn ++ encI 8 mx)
  | .text bs => 50 :: encBlob bs
  | .hash v => 51 :: encI 4 v
  | .blob bs => 60 :: encBlob bs
  | .ip4 bs => 61 :: bs
  | .list xs => 70 :: (encDecimal xs.length ++ encVs xs)
  | .ai xs => 71 :: encArr (encI 4) xs
  | .af xs => 72 :: encArr (beN 4) xs
  | .at xs => 73 :: encArr encBlob xs
  | .al xs => 74 :: encArr (encI 8) xs
  | .map kvs => 80 :: (encDecimal kvs.length ++ encKVs kvs)
  | .imap kvs => 81 :: (encDecimal kvs.length ++ encIKVs kvs)
def encVs : List Value → Bytes
  | [] => []
  | x :: xs => encV x ++ encVs xs
def encKVs : List (Bytes × Value) → Bytes
  | [] => []
  | (k, v) :: kvs => encBlob k ++ encV v ++ encKVs kvs
def encIKVs : List (Int × Value) → Bytes
  | [] => []
  | (k, v) :: kvs => encI 4 k ++ encV v ++ encIKVs kvs
end

/-- `table.Put(key, value)` of the linked maps, on the association-list abstraction:
    an existing key keeps its place and takes the new value, a new key goes to the end -/
def putKV {K : Type} [DecidableEq K] (kvs : List (K × Value)) (k : K) (v : Value) : List (K × Value) :=
  if kvs.any (fun p => p.1 == k) then kvs.map (fun p => if p.1 = k then (p.1, v) else p)
  else kvs ++ [(k, v)]

/-
  The decoder works directly on bytes with fuel (every value consumes at least its tag byte, so
  fuel = input length + 1 always suffices).
-/
mutual
def decV : Nat → Bytes → Option (Value × Bytes)
  | 0, _ => none
  | _, [] => none
  | f+1, t :: r =>
    match t with
    | 0 => some (.null, r)
    | 10 => (P.run rdBool r).map (fun (b, r) => (.bool b, r))
    | 20 => (P.run decDecimal r).map (fun (v, r) => (.dec v, r))
    | 21 => (P.run (rdI 4) r).map (fun (v, r) => (.int v, r))
    | 22 => (P.run (rdI 8) r).map (fun (v, r) => (.long v, r))
    | 30 => (P.run (rdU 4) r).map (fun (v, r) => (.f32 v, r))
    | 40 => (P.run (rdU 8) r).map (fun (v, r) => (.f64 v, r))
    | 45 =>
      match P.run (rdU 8) r with
      | none => none
      | some (s, r) => match P.run (rdI 4) r with
        | none => none
        | some (c, r) => match P.run (rdU 8) r with
          | none => none
          | some (mn, r) => (P.run (rdU 8) r).map (fun (mx, r) => (.dsum s c mn mx, r))
    | 46 =>
      match P.run (rdI 8) r with
      | none => none
      | some (s, r) => match P.run (rdI 4) r with
        | none => none
        | some (c, r) => match P.run (rdI 8) r with
          | none => none
          | some (mn, r) => (P.run (rdI 8) r).map (fun (mx, r) => (.lsum s c mn mx, r))
    | 50 => (P.run decBlob r).map (fun (v, r) => (.text v, r))
    | 51 => (P.run (rdI 4) r).map (fun (v, r) => (.hash v, r))
    | 60 => (P.run decBlob r).map (fun (v, r) => (.blob v, r))
    | 61 => (P.run (rdBytes 4) r).map (fun (v, r) => (.ip4 v, r))
    | 70 =>
      match P.run decDecimal r with
      | none => none
      | some (n, r) =>
        if n < 0 then none               -- make([]interface{}, negative) panics
        else (decVs f n.toNat r).map (fun (xs, r) => (.list xs, r))
    | 71 => (P.run (decArr (rdI 4)) r).map (fun (v, r) => (.ai v, r))
    | 72 => (P.run (decArr (rdU 4)) r).map (fun (v, r) => (.af v, r))
    | 73 => (P.run (decArr decBlob) r).map (fun (v, r) => (.at v, r))
    | 74 => (P.run (decArr (rdI 8)) r).map (fun (v, r) => (.al v, r))
    | 80 =>
      match P.run decDecimal r with
      | none => none
      | some (n, r) => (decKVs f n.toNat [] r).map (fun (kvs, r) => (.map kvs, r))   -- n ≤ 0: loop body never runs
    | 81 =>
      match P.run decDecimal r with
      | none => none
      | some (n, r) => (decIKVs f n.toNat [] r).map (fun (kvs, r) => (.imap kvs, r))
    | _ => none                          -- CreateValue panics: "unknown value"
def decVs : Nat → Nat → Bytes → Option (List Value × Bytes)
  | _, 0, r => some ([], r)
  | 0, _+1, _ => none
  | f+1, c+1, r =>
    match decV f r with
    | none => none
    | some (x, r') => (decVs f c r').map (fun (xs, r'') => (x :: xs, r''))
def decKVs : Nat → Nat → List (Bytes × Value) → Bytes → Option (List (Bytes × Value) × Bytes)
  | _, 0, acc, r => some (acc, r)
  | 0, _+1, _, _ => none
  | f+1, c+1, acc, r =>
    match P.run decBlob r with
    | none => none
    | some (k, r') =>
      match decV f r' with
      | none => none
      | some (v, r'') => decKVs f c (putKV acc k v) r''
def decIKVs : Nat → Nat → List (Int × Value) → Bytes → Option (List (Int × Value) × Bytes)
  | _, 0, acc, r => some (acc, r)
  | 0, _+1, _, _ => none
  | f+1, c+1, acc, r =>
    match P.run (rdI 4) r with
    | none => none
    | some (k, r') =>
      match decV f r' with
      | none => none
      | some (v, r'') => decIKVs f c (putKV acc k v) r''
end

/-- decode one tagged value from `bs` (fuel chosen from the input length) -/
def decode (bs : Bytes) : Option (Value × Bytes) := decV (bs.length + 1) bs

end Value
