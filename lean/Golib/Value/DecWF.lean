/-
  Golib.Value.DecWF — whatever the decoder accepts (on byte input) is a well-formed value.

  The proof follows the decoder as a program (Golib.Value.Prog): each primitive reader vouches for
  the range of what it returns (`Prim.ens_*`), the dispatch `bodyP` returns well-formed values if
  the readers of the containers' contents do (`ens_bodyP`, one line per tag), and the loops keep
  what `Put` keeps (`ens_entry`).
-/
import Golib.Value.Facts
import Golib.Value.Prog

namespace Value
open Prim

theorem okBytes_of {v : Bytes} (h : WFB v ∧ v.length < 2147483648) : okBytes v = true :=
  (wfBytes_iff v).mpr h

/-- a map value is well-formed when its count fits the int64 count field and its table is one a
    map object can hold (`EntOK`); likewise an int map and a list -/
theorem wfV_map_iff (kvs : List (Bytes × Value)) :
    WFV (.map kvs) ↔ kvs.length ≤ 9223372036854775807 ∧ EntOK okBytes kvs := by
  simp only [WFV, wfV, okCount, Bool.and_eq_true, decide_eq_true_eq, wfKVs_iff, EntOK]
  exact ⟨fun ⟨⟨a, b⟩, c⟩ => ⟨a, c, b⟩, fun ⟨a, c, b⟩ => ⟨⟨a, b⟩, c⟩⟩

theorem wfV_imap_iff (kvs : List (Int × Value)) :
    WFV (.imap kvs) ↔ kvs.length ≤ 9223372036854775807 ∧ EntOK okI32 kvs := by
  simp only [WFV, wfV, okCount, Bool.and_eq_true, decide_eq_true_eq, wfIKVs_iff, EntOK]
  exact ⟨fun ⟨⟨a, b⟩, c⟩ => ⟨a, c, b⟩, fun ⟨a, c, b⟩ => ⟨⟨a, b⟩, c⟩⟩

theorem wfV_list_iff (xs : List Value) :
    WFV (.list xs) ↔ xs.length ≤ 9223372036854775807 ∧ ∀ x ∈ xs, WFV x := by
  simp only [WFV, wfV, okCount, Bool.and_eq_true, decide_eq_true_eq, wfVs_iff]

/-- the dispatch returns well-formed values if the three content readers do: a list of the
    announced length, tables with distinct keys and no more entries than announced -/
theorem ens_bodyP {vs : Nat → P (List Value)} {ks : Nat → P (List (Bytes × Value))}
    {is : Nat → P (List (Int × Value))}
    (hvs : ∀ n, (vs n).Ens fun xs => WFVs xs ∧ xs.length = n)
    (hks : ∀ n, (ks n).Ens fun kvs => EntOK okBytes kvs ∧ kvs.length ≤ n)
    (his : ∀ n, (is n).Ens fun kvs => EntOK okI32 kvs ∧ kvs.length ≤ n)
    (t : Nat) : (bodyP vs ks is t).Ens WFV := by
  -- a count that came out of an int64 decimal
  have count : ∀ {n : Int} {m : Nat}, inRange 8 n → m ≤ n.toNat → m ≤ 9223372036854775807 := fun {n m} h hm => by
    have := (inRange_8 n).mp h; omega
  have arr : ∀ {α : Type} {ok : α → Bool} {Q : α → Prop} {xs : List α}, (∀ x, Q x → ok x = true) →
      (∀ x ∈ xs, Q x) ∧ xs.length ≤ 32767 → (okArrLen xs.length && xs.all ok) = true := fun hq h => by
    simp only [okArrLen, Bool.and_eq_true, decide_eq_true_eq]; exact ⟨h.2, List.all_eq_true.mpr fun x hx => hq x (h.1 x hx)⟩
  unfold bodyP
  -- one bullet per arm, in the order of `bodyP`: tags 0, 10, 20, 21, 22, 30, 40, 45, 46, 50, 51, 60, 61,
  -- 70, 71, 72, 73, 74, 80, 81, any other byte
  split
  · exact .pure rfl
  · exact P.Ens.map (Q := fun _ => True) (fun _ _ _ _ _ => trivial) fun _ _ => rfl
  · exact ens_decDecimal.map fun _ => okI64_iff.mpr
  · exact (ens_rdI 4).map fun _ => okI32_iff.mpr
  · exact (ens_rdI 8).map fun _ => okI64_iff.mpr
  · exact (ens_rdU 4).map fun _ => okU32_iff.mpr
  · exact (ens_rdU 8).map fun _ => okU64_iff.mpr
  · exact (ens_rdU 8).bind fun s hs => (ens_rdI 4).bind fun c hc => (ens_rdU 8).bind fun mn hmn =>
      (ens_rdU 8).map fun mx hmx => by simp [WFV, wfV, okU64_iff.mpr hs, okI32_iff.mpr hc, okU64_iff.mpr hmn, okU64_iff.mpr hmx]
  · exact (ens_rdI 8).bind fun s hs => (ens_rdI 4).bind fun c hc => (ens_rdI 8).bind fun mn hmn =>
      (ens_rdI 8).map fun mx hmx => by simp [WFV, wfV, okI64_iff.mpr hs, okI32_iff.mpr hc, okI64_iff.mpr hmn, okI64_iff.mpr hmx]
  · exact ens_decBlob.map fun _ => okBytes_of
  · exact (ens_rdI 4).map fun _ => okI32_iff.mpr
  · exact ens_decBlob.map fun _ => okBytes_of
  · exact (ens_rdBytes 4).map fun v h => by
      simp only [WFV, wfV, Bool.and_eq_true, decide_eq_true_eq]
      exact ⟨List.all_eq_true.mpr (fun x hx => by simpa using h.1 x hx), h.2⟩
  · refine ens_decDecimal.bind fun n hn => ?_
    split
    · exact .fail
    · exact (hvs _).map fun xs h => (wfV_list_iff xs).mpr ⟨count hn (Nat.le_of_eq h.2), (wfVs_iff xs).mp h.1⟩
  · exact (ens_decArr (ens_rdI 4)).map fun _ => arr fun _ => okI32_iff.mpr
  · exact (ens_decArr (ens_rdU 4)).map fun _ => arr fun _ => okU32_iff.mpr
  · exact (ens_decArr ens_decBlob).map fun _ => arr fun _ => okBytes_of
  · exact (ens_decArr (ens_rdI 8)).map fun _ => arr fun _ => okI64_iff.mpr
  · exact ens_decDecimal.bind fun n hn => (hks _).map fun kvs h => (wfV_map_iff kvs).mpr ⟨count hn h.2, h.1⟩
  · exact ens_decDecimal.bind fun n hn => (his _).map fun kvs h => (wfV_imap_iff kvs).mpr ⟨count hn h.2, h.1⟩
  · exact .fail

/-- one turn of an entry loop (key, value, `Put`, then the rest of the loop) keeps what `Put` keeps,
    and the table has grown by one entry at most -/
theorem ens_entry {K : Type} [DecidableEq K] {rdK : P K} {pv : P Value} {okKey : K → Bool}
    (hk : rdK.Ens (okKey · = true)) (hv : pv.Ens WFV) {rest : List (K × Value) → P (List (K × Value))}
    {m : Nat} {acc : List (K × Value)} (ha : EntOK okKey acc ∧ acc.length ≤ m) {R : List (K × Value) → Prop}
    (hr : ∀ acc', EntOK okKey acc' ∧ acc'.length ≤ m + 1 → (rest acc').Ens R) :
    (rdK.bind fun k => pv.bind fun v => rest (putKV acc k v)).Ens R :=
  hk.bind fun k hk => hv.bind fun v hv => hr _
    ⟨entOK_put okKey acc k v ha.1 hk hv, Nat.le_trans (putKV_length acc k v) (Nat.succ_le_succ ha.2)⟩

theorem ens_decP_all (f : Nat) :
    (decP f).Ens WFV ∧
    (∀ c, (decPs f c).Ens fun xs => WFVs xs ∧ xs.length = c) ∧
    (∀ c m acc, EntOK okBytes acc ∧ acc.length ≤ m →
      (decKP f c acc).Ens fun kvs => EntOK okBytes kvs ∧ kvs.length ≤ m + c) ∧
    (∀ c m acc, EntOK okI32 acc ∧ acc.length ≤ m →
      (decIKP f c acc).Ens fun kvs => EntOK okI32 kvs ∧ kvs.length ≤ m + c) := by
  induction f with
  | zero =>
    refine ⟨.fail, fun c => ?_, fun c m acc ha => ?_, fun c m acc ha => ?_⟩
    · cases c with
      | zero => exact .pure ⟨rfl, rfl⟩
      | succ c => exact .fail
    · cases c with
      | zero => exact .pure ha
      | succ c => exact .fail
    · cases c with
      | zero => exact .pure ha
      | succ c => exact .fail
  | succ f ih =>
    obtain ⟨ihV, ihVs, ihK, ihI⟩ := ih
    refine ⟨?_, fun c => ?_, fun c m acc ha => ?_, fun c m acc ha => ?_⟩
    · unfold decP
      exact .read fun t => ens_bodyP ihVs
        (fun n => (ihK n 0 [] ⟨entOK_nil _, Nat.le_refl _⟩).mono fun kvs h => ⟨h.1, Nat.zero_add n ▸ h.2⟩)
        (fun n => (ihI n 0 [] ⟨entOK_nil _, Nat.le_refl _⟩).mono fun kvs h => ⟨h.1, Nat.zero_add n ▸ h.2⟩) _
    · cases c with
      | zero => exact .pure ⟨rfl, rfl⟩
      | succ c =>
        unfold decPs
        exact ihV.bind fun x hx => (ihVs c).map fun xs h =>
          ⟨by simp only [WFVs, wfVs, Bool.and_eq_true]; exact ⟨hx, h.1⟩, by simp [h.2]⟩
    · cases c with
      | zero => exact .pure ha
      | succ c =>
        unfold decKP
        exact ens_entry (ens_decBlob.mono fun _ => okBytes_of) ihV ha fun acc' ha' => by
          rw [Nat.add_comm c 1, ← Nat.add_assoc]; exact ihK c _ acc' ha'
    · cases c with
      | zero => exact .pure ha
      | succ c =>
        unfold decIKP
        exact ens_entry ((ens_rdI 4).mono fun _ => okI32_iff.mpr) ihV ha fun acc' ha' => by
          rw [Nat.add_comm c 1, ← Nat.add_assoc]; exact ihI c _ acc' ha'

/-- every value the decoder returns on byte input is well-formed (ranges, array lengths, distinct
    keys …), and what it leaves is bytes -/
theorem decV_WFV (f : Nat) (bs : Bytes) (v : Value) (r : Bytes) (h : decV f bs = some (v, r)) (hb : WFB bs) :
    WFV v ∧ WFB r := by
  rw [← run_decP] at h
  exact ⟨(ens_decP_all f).1 bs v r h hb, run_rest_WFB _ _ _ _ h hb⟩

end Value
