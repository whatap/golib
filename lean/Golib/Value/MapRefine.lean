/-
  Golib.Value.MapRefine — the association lists of the value model are what the real tables hold.

  `MapValue.Read` / `IntMapValue.Read` create a fresh `StringKeyLinkedMap` / `IntKeyLinkedMap` and
  `Put` the decoded pairs one after the other; `Write`, `Equals`, `CompareTo` enumerate `Keys()`
  and `Get` each.  C09 proves that the bucket-table CodeModel `HMap.LMap` (any hash function, any
  growth policy, any capacity) refines the insertion-ordered dictionary `HMap.S`.  Here that
  dictionary, driven by the history `Read` performs, is shown to be exactly the `putKV` fold of
  `Value.decKVs` / `decIKVs` — so the "maps are association lists" abstraction of C02 / C20 is a
  theorem about the table model, not an assumption.
-/
import Golib.Props.C09
import Golib.Value.DecWF
import Golib.Value.Cmp

namespace Value
open HMap

/-- `HMap.S.step` asks for decidable equality of the stored values (for `ContainsValue`); values are
    compared classically here — nothing below computes with it -/
@[instance_reducible] noncomputable def decEqValue : DecidableEq Value := fun a b => Classical.propDecidable (a = b)
attribute [local instance] decEqValue

variable {K : Type} [DecidableEq K]

/-- the history `Read` performs on its table: `Put(key, value)` (mode PUT_LAST) per decoded pair -/
def readOps (pairs : List (K × Value)) : List (Op K Value) := pairs.map (fun p => Op.put Mode.last p.1 p.2)

/-- the table contents the model predicts for that history -/
def foldPut (acc : List (K × Value)) (pairs : List (K × Value)) : List (K × Value) :=
  pairs.foldl (fun a p => putKV a p.1 p.2) acc

theorem S_put_eq_putKV (d : Desc K Value) (s : S K Value) (k : K) (v : Value)
    (hr : d.refuse k = false) (hm : s.max = 0) :
    (S.put d s Mode.last k v).1 = { ents := putKV s.ents k v, max := 0 } := by
  obtain ⟨l, mx⟩ := s; subst hm
  rw [S.put_accepted hr, putKV_eq]
  cases hg : AL.get l k with
  | some old => rw [S.putWith_present hg, if_pos (AL.get_isSome_iff.mp (by rw [hg]; rfl))]; rfl
  | none =>
    rw [S.putWith_absent hg, if_neg (AL.get_none_iff.mp hg)]
    simp [AL.insertNew, Mode.atFront, AL.evictFront]

theorem S_run_readOps (d : Desc K Value) (hr : ∀ k, d.refuse k = false) (pairs : List (K × Value)) :
    ∀ acc : List (K × Value), (S.run d { ents := acc, max := 0 } (readOps pairs)).1 = { ents := foldPut acc pairs, max := 0 } := by
  induction pairs with
  | nil => intro acc; rfl
  | cons p t ih =>
    intro acc
    simp only [readOps, List.map_cons, S.run, S.step, foldPut, List.foldl_cons]
    rw [S_put_eq_putKV d _ p.1 p.2 (hr p.1) rfl]
    exact ih _

/-- **the table after `Read`'s history holds the model's association list**: for every hash
    function, growth policy and initial capacity, the bucket-table model driven by the puts
    abstracts to the `putKV` fold; `Keys()`+`Get` (the `entries` enumeration that `Write`, `Equals`
    and `CompareTo` walk) yields exactly that list, `Size()` its length, and `Get` looks up in it -/
theorem table_after_puts (hash : K → Nat) (thr : Nat → Nat) (d : Desc K Value) (hr : ∀ k, d.refuse k = false)
    (cap : Nat) (pairs : List (K × Value)) :
    let m := (LMap.run hash thr d (LMap.new thr cap) (readOps pairs)).1
    LMap.abs hash m = { ents := foldPut [] pairs, max := 0 } ∧
    (LMap.step hash thr d m Op.entries).2 = Out.ents (foldPut [] pairs) ∧
    (LMap.step hash thr d m Op.size).2 = Out.nat (foldPut [] pairs).length ∧
    (∀ k, (LMap.step hash thr d m (Op.get k)).2 = Out.ofVal (AL.get (foldPut [] pairs) k)) := by
  intro m
  have hinv := (C09.inv_init hash thr d cap).1
  have hrun := C09.refine_run_from hash thr d (LMap.new thr cap) (readOps pairs) hinv
  have habs : LMap.abs hash m = { ents := foldPut [] pairs, max := 0 } := by
    rw [hrun.2, (C09.inv_init hash thr d cap).2]
    exact S_run_readOps d hr pairs []
  have hinv' : LMap.Inv hash d m := (LMap.refine_run thr (readOps pairs) hinv).1
  refine ⟨habs, ?_, ?_, ?_⟩
  · rw [(C09.refine_step hash thr d m Op.entries hinv').1, habs]; rfl
  · rw [(C09.refine_step hash thr d m Op.size hinv').1, habs]; rfl
  · intro k; rw [(C09.refine_step hash thr d m (Op.get k) hinv').1, habs]; rfl

/-! ### the decoders' accumulators are such folds -/

/-- a loop that reads a key, reads a value, `Put`s and goes on (the shape of `decKP` and `decIKP`)
    returns a `putKV` fold over the table it started from -/
theorem entries_is_fold {rdK : P K} {pv : Nat → P Value} {loop : Nat → Nat → List (K × Value) → P (List (K × Value))}
    (h0 : ∀ f acc, loop f 0 acc = .pure acc) (hz : ∀ c acc, loop 0 (c + 1) acc = .fail)
    (hs : ∀ f c acc, loop (f + 1) (c + 1) acc = rdK.bind fun k => (pv f).bind fun v => loop f c (putKV acc k v))
    (f n : Nat) (acc : List (K × Value)) (bs : Bytes) (res : List (K × Value)) (r : Bytes)
    (h : P.run (loop f n acc) bs = some (res, r)) :
    ∃ pairs : List (K × Value), pairs.length = n ∧ res = foldPut acc pairs := by
  induction n generalizing f acc bs with
  | zero => rw [h0] at h; cases h; exact ⟨[], rfl, rfl⟩
  | succ n ih =>
    cases f with
    | zero => rw [hz] at h; cases h
    | succ f =>
      rw [hs] at h
      obtain ⟨k, _, h⟩ := P.bind_ret h
      obtain ⟨v, _, h⟩ := P.bind_ret h
      obtain ⟨pairs, hl, he⟩ := ih f _ _ h
      exact ⟨(k, v) :: pairs, by simp [hl], he⟩

theorem decKVs_is_fold (f n : Nat) (acc : List (Bytes × Value)) (bs : Bytes) (res : List (Bytes × Value)) (r : Bytes)
    (h : decKVs f n acc bs = some (res, r)) : ∃ pairs : List (Bytes × Value), pairs.length = n ∧ res = foldPut acc pairs :=
  entries_is_fold (fun _ _ => by rw [decKP]) (fun _ _ => by rw [decKP]) (fun _ _ _ => by rw [decKP]) f n acc bs res r
    ((run_decP_all f).2.2.1 n acc bs ▸ h)

theorem decIKVs_is_fold (f n : Nat) (acc : List (Int × Value)) (bs : Bytes) (res : List (Int × Value)) (r : Bytes)
    (h : decIKVs f n acc bs = some (res, r)) : ∃ pairs : List (Int × Value), pairs.length = n ∧ res = foldPut acc pairs :=
  entries_is_fold (fun _ _ => by rw [decIKP]) (fun _ _ => by rw [decIKP]) (fun _ _ _ => by rw [decIKP]) f n acc bs res r
    ((run_decP_all f).2.2.2 n acc bs ▸ h)

end Value
