/-
  Golib.Value.Facts — consequences of the round trip: the fuel chosen by `decode` suffices, the
  encoding is injective and prefix-free on well-formed values (`Reads.inj` of Golib.Basic at `decode`),
  a decoded value carries the tag byte it was read under.
-/
import Golib.Value.Roundtrip
import Golib.Value.Codes

namespace Value
open Prim

theorem encDecimal_length_pos (v : Int) : 1 ≤ (encDecimal v).length := by
  rw [encDecimal_length]; omega

mutual
theorem szV_le_length (v : Value) : szV v ≤ (encV v).length := by
  cases v with
  | list xs =>
    have := szVs_le_length xs
    have := encDecimal_length_pos (xs.length : Int)
    simp only [szV, encV, List.length_cons, List.length_append]; omega
  | map kvs =>
    have := szKVs_le_length kvs
    have := encDecimal_length_pos (kvs.length : Int)
    simp only [szV, encV, List.length_cons, List.length_append]; omega
  | imap kvs =>
    have := szIKVs_le_length kvs
    have := encDecimal_length_pos (kvs.length : Int)
    simp only [szV, encV, List.length_cons, List.length_append]; omega
  | _ => simp [szV, encV]
theorem szVs_le_length (xs : List Value) : szVs xs ≤ (encVs xs).length + 1 := by
  cases xs with
  | nil => simp [szVs, encVs]
  | cons x t =>
    have := szV_le_length x
    have := szVs_le_length t
    simp only [szVs, encVs, List.length_append]; omega
theorem szKVs_le_length (kvs : List (Bytes × Value)) : szKVs kvs ≤ (encKVs kvs).length + 1 := by
  cases kvs with
  | nil => simp [szKVs, encKVs]
  | cons kv t =>
    obtain ⟨k, v⟩ := kv
    have := szV_le_length v
    have := szKVs_le_length t
    simp only [szKVs, encKVs, List.length_append]; omega
theorem szIKVs_le_length (kvs : List (Int × Value)) : szIKVs kvs ≤ (encIKVs kvs).length + 1 := by
  cases kvs with
  | nil => simp [szIKVs, encIKVs]
  | cons kv t =>
    obtain ⟨k, v⟩ := kv
    have := szV_le_length v
    have := szIKVs_le_length t
    simp only [szIKVs, encIKVs, List.length_append]; omega
end

/-- the corollary to cite: `decode` (fuel = input length + 1) reads back any well-formed value and
    leaves what follows it untouched -/
theorem decode_encV (v : Value) (r : Bytes) (h : WFV v) : decode (encV v ++ r) = some (v, r) := by
  unfold decode
  apply decV_encV v _ r h
  have := szV_le_length v
  simp only [List.length_append]; omega

/-- two well-formed values with the same bytes are the same value -/
theorem encV_inj (a b : Value) (ha : WFV a) (hb : WFV b) (h : encV a = encV b) : a = b :=
  (Reads.inj (d := decode) (decode_encV a · ha) (decode_encV b · hb) (r := []) (s := []) (by rw [h])).1

/-- prefix-free: in a stream, the boundary of a value is determined by its own bytes -/
theorem encV_prefix_free (a b : Value) (r s : Bytes) (ha : WFV a) (hb : WFV b)
    (h : encV a ++ r = encV b ++ s) : a = b ∧ r = s :=
  Reads.inj (d := decode) (decode_encV a · ha) (decode_encV b · hb) h

/-- a Boolean recursion `f (x :: t) = (p x && f t)` is `all p` -/
theorem all_rec {α : Type} {f : List α → Bool} {p : α → Bool} (h0 : f [] = true)
    (hc : ∀ x t, f (x :: t) = (p x && f t)) (l : List α) : f l = true ↔ ∀ x ∈ l, p x = true := by
  induction l with
  | nil => simp [h0]
  | cons x t ih => simp [hc, ih]

theorem wfVs_iff (xs : List Value) : wfVs xs = true ↔ ∀ x ∈ xs, wfV x = true :=
  all_rec rfl (fun _ _ => rfl) xs

theorem wfKVs_iff (l : List (Bytes × Value)) : wfKVs l = true ↔ ∀ p ∈ l, okBytes p.1 = true ∧ wfV p.2 = true := by
  rw [all_rec (p := fun q => okBytes q.1 && wfV q.2) rfl (fun ⟨_, _⟩ _ => rfl) l]; simp only [Bool.and_eq_true]

theorem wfIKVs_iff (l : List (Int × Value)) : wfIKVs l = true ↔ ∀ p ∈ l, okI32 p.1 = true ∧ wfV p.2 = true := by
  rw [all_rec (p := fun q => okI32 q.1 && wfV q.2) rfl (fun ⟨_, _⟩ _ => rfl) l]; simp only [Bool.and_eq_true]

theorem wfKVs_mem (kvs : List (Bytes × Value)) (h : wfKVs kvs = true) : ∀ p ∈ kvs, wfV p.2 = true :=
  fun p hp => ((wfKVs_iff kvs).mp h p hp).2
theorem wfIKVs_mem (kvs : List (Int × Value)) (h : wfIKVs kvs = true) : ∀ p ∈ kvs, wfV p.2 = true :=
  fun p hp => ((wfIKVs_iff kvs).mp h p hp).2

theorem decV_nil (f : Nat) : decV f [] = none := by
  cases f <;> rfl

theorem decode_tag (bs : Bytes) (v : Value) (r : Bytes) (h : decode bs = some (v, r)) :
    ∃ rest, bs = tag v :: rest := by
  unfold decode at h
  cases bs with
  | nil => rw [decV_nil] at h; cases h
  | cons t rest => exact ⟨rest, by rw [decV_tag _ t rest v r h]⟩

end Value
