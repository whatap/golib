/-
  Golib.Value.CmpExact — sharper forms of the comparison laws.

  * for the flat types antisymmetry holds exactly (iff) when no float *scalar* (float, double, the
    sum of a double summary) is a NaN;
  * maps of equal size with different key sets whose common entries are equal compare as 1 in
    both directions — the complete description of known finding D08 (different keys);
  * values without floats satisfy `NoNaN` outright.
-/
import Golib.Value.CmpLaws

namespace Value

theorem fEq_nan (sign inf x y : Nat) (h : fNaN sign inf x = true ∨ fNaN sign inf y = true) :
    fEq sign inf x y = false := by
  unfold fEq; rcases h with h | h <;> simp [h]
theorem fLt_nan (sign inf x y : Nat) (h : fNaN sign inf x = true ∨ fNaN sign inf y = true) :
    fLt sign inf x y = false := by
  unfold fLt; rcases h with h | h <;> simp [h]

/-- a NaN on either side makes both directions of a float comparison -1 -/
theorem noNaN_of_AS (sign inf x y : Nat) {p q : Int}
    (hp : fEq sign inf x y = false → fLt sign inf x y = false → p = -1)
    (hq : fEq sign inf y x = false → fLt sign inf y x = false → q = -1) (h : AS p q) :
    (!fNaN sign inf x) = true ∧ (!fNaN sign inf y) = true := by
  cases hx : fNaN sign inf x <;> cases hy : fNaN sign inf y <;> first | exact ⟨rfl, rfl⟩ | exfalso
  all_goals
    have hn : fNaN sign inf x = true ∨ fNaN sign inf y = true := by simp [hx, hy]
    rw [hp (fEq_nan _ _ _ _ hn) (fLt_nan _ _ _ _ hn),
      hq (fEq_nan _ _ _ _ hn.symm) (fLt_nan _ _ _ _ hn.symm)] at h
    unfold AS at h; omega

/-- exact: the two directions of a flat comparison have opposite signs iff the types differ or
    neither side is a NaN float scalar -/
theorem cmpFlat_AS_iff (a b : Value) (hf : isFlat a = true) :
    AS (cmpFlat a b) (cmpFlat b a) ↔ (tag a ≠ tag b ∨ (noSNaN a = true ∧ noSNaN b = true)) := by
  constructor
  · intro has
    by_cases h : tag a = tag b
    · right
      induction a, b, h using tag_eq_cases with
      | f32 x y | f64 x y =>
        exact noNaN_of_AS _ _ x y (fun h1 h2 => by simp only [cmpFlat, tag, eq32, lt32, eq64, lt64, h1, h2]; rfl)
          (fun h1 h2 => by simp only [cmpFlat, tag, eq32, lt32, eq64, lt64, h1, h2]; rfl) has
      | dsum s c _ _ s' c' =>
        exact noNaN_of_AS _ _ s s' (fun h1 h2 => by simp only [cmpFlat, tag, eq64, lt64, h1, h2]; rfl)
          (fun h1 h2 => by simp only [cmpFlat, tag, eq64, lt64, h1, h2]; rfl) has
      | list | map | imap => cases hf
      | _ => exact ⟨rfl, rfl⟩
    · exact Or.inl h
  · rintro (h | ⟨ha, hb⟩)
    · rw [cmpFlat_tag_ne a b h, cmpFlat_tag_ne b a (Ne.symm h)]; exact AS_neg _ _
    · exact cmpFlat_AS a b ha hb

mutual
def floatFree : Value → Bool
  | .f32 _ => false
  | .f64 _ => false
  | .dsum .. => false
  | .af _ => false
  | .list xs => floatFrees xs
  | .map kvs => floatFreeKVs kvs
  | .imap kvs => floatFreeIKVs kvs
  | _ => true
def floatFrees : List Value → Bool
  | [] => true
  | x :: xs => floatFree x && floatFrees xs
def floatFreeKVs : List (Bytes × Value) → Bool
  | [] => true
  | (_, v) :: kvs => floatFree v && floatFreeKVs kvs
def floatFreeIKVs : List (Int × Value) → Bool
  | [] => true
  | (_, v) :: kvs => floatFree v && floatFreeIKVs kvs
end

mutual
theorem noNaN_of_floatFree (v : Value) : floatFree v = true → noNaN v = true := by
  cases v with
  | list xs => intro h; simp only [floatFree] at h; simp only [noNaN]; exact noNaNs_of_floatFrees xs h
  | map kvs => intro h; simp only [floatFree] at h; simp only [noNaN]; exact noNaNKVs_of_floatFree kvs h
  | imap kvs => intro h; simp only [floatFree] at h; simp only [noNaN]; exact noNaNIKVs_of_floatFree kvs h
  | f32 _ => intro h; simp [floatFree] at h
  | f64 _ => intro h; simp [floatFree] at h
  | dsum _ _ _ _ => intro h; simp [floatFree] at h
  | af _ => intro h; simp [floatFree] at h
  | _ => intro _; simp [noNaN]
theorem noNaNs_of_floatFrees (xs : List Value) : floatFrees xs = true → noNaNs xs = true := by
  cases xs with
  | nil => intro _; rfl
  | cons x t =>
    intro h
    simp only [floatFrees, Bool.and_eq_true] at h
    simp only [noNaNs, Bool.and_eq_true]
    exact ⟨noNaN_of_floatFree x h.1, noNaNs_of_floatFrees t h.2⟩
theorem noNaNKVs_of_floatFree (kvs : List (Bytes × Value)) : floatFreeKVs kvs = true → noNaNKVs kvs = true := by
  cases kvs with
  | nil => intro _; rfl
  | cons x t =>
    obtain ⟨k, v⟩ := x
    intro h
    simp only [floatFreeKVs, Bool.and_eq_true] at h
    simp only [noNaNKVs, Bool.and_eq_true]
    exact ⟨noNaN_of_floatFree v h.1, noNaNKVs_of_floatFree t h.2⟩
theorem noNaNIKVs_of_floatFree (kvs : List (Int × Value)) : floatFreeIKVs kvs = true → noNaNIKVs kvs = true := by
  cases kvs with
  | nil => intro _; rfl
  | cons x t =>
    obtain ⟨k, v⟩ := x
    intro h
    simp only [floatFreeIKVs, Bool.and_eq_true] at h
    simp only [noNaNIKVs, Bool.and_eq_true]
    exact ⟨noNaN_of_floatFree v h.1, noNaNIKVs_of_floatFree t h.2⟩
end

/-! ### D08, completely: different key sets, equal common entries ⇒ 1 in both directions -/

theorem firstNZ_01 (l : List Int) (h01 : ∀ x ∈ l, x = 0 ∨ x = 1) (h1 : ∃ x ∈ l, x = 1) : firstNZ l = 1 := by
  fun_induction firstNZ l with
  | case1 => obtain ⟨x, hx, _⟩ := h1; cases hx
  | case2 y t hy => exact (h01 y (by simp)).resolve_left hy
  | case3 y t hy ih =>
    refine ih (fun x hx => h01 x (by simp [hx])) ?_
    obtain ⟨x, hx, e⟩ := h1
    rcases List.mem_cons.mp hx with e' | hx'
    · subst e' e; exact absurd (by decide) hy
    · exact ⟨x, hx', e⟩

theorem firstNZ_missing {K : Type} [DecidableEq K] (a b : List (K × Value))
    (hc : ∀ p ∈ a, ∀ w, lookupKV p.1 b = some w → cmpV p.2 w = 0)
    (hm : ∃ p ∈ a, lookupKV p.1 b = none) :
    firstNZ (a.map (fun p => visitC p.2 (lookupKV p.1 b))) = 1 := by
  apply firstNZ_01
  · intro x hx
    obtain ⟨p, hp, rfl⟩ := List.mem_map.mp hx
    cases hl : lookupKV p.1 b with
    | none => right; rfl
    | some w => left; exact hc p hp w hl
  · obtain ⟨p, hp, hl⟩ := hm
    exact ⟨_, List.mem_map.mpr ⟨p, hp, rfl⟩, by rw [hl]; rfl⟩

/-- pigeonhole, the other way round: equal length, no repetitions in `kb`, a key of `a` outside `b` ⇒ a key of `b` outside `a` -/
theorem exists_missing_back {K : Type} [DecidableEq K] (ka kb : List K) (hl : ka.length = kb.length)
    (hnb : kb.Nodup) (h : ∃ k ∈ ka, k ∉ kb) : ∃ k ∈ kb, k ∉ ka := by
  apply Classical.byContradiction
  intro hcon
  have hsub : ∀ k ∈ kb, k ∈ ka := by
    intro k hk
    apply Classical.byContradiction
    intro hnk
    exact hcon ⟨k, hk, hnk⟩
  have := subset_of_nodup_length kb ka hnb hsub (by omega)
  obtain ⟨k, hk, hnk⟩ := h
  exact hnk (this k hk)

/-- the map loops on two tables of equal size whose key sets differ, all entries under common keys
    Equal: a key of each is missing in the other (pigeonhole), nothing before it decides, so both
    walks end in the missing-key result 1 -/
theorem firstNZ_different_keys {K : Type} [DecidableEq K] (a b : List (K × Value)) (hl : a.length = b.length)
    (hnb : (b.map (·.1)).Nodup)
    (hwa : ∀ p ∈ a, wfV p.2 = true) (hwb : ∀ p ∈ b, wfV p.2 = true) (hk : ∃ k ∈ a.map (·.1), k ∉ b.map (·.1))
    (hc : ∀ p ∈ a, ∀ w, lookupKV p.1 b = some w → eqV p.2 w = true) :
    firstNZ (a.map (fun p => visitC p.2 (lookupKV p.1 b))) = 1 ∧
    firstNZ (b.map (fun p => visitC p.2 (lookupKV p.1 a))) = 1 := by
  constructor
  · obtain ⟨k, hk1, hk2⟩ := hk
    obtain ⟨p, hp, rfl⟩ := List.mem_map.mp hk1
    exact firstNZ_missing a b (fun p hp w hw => (cmpV_zero_iff_eqV _ _).mpr (hc p hp w hw))
      ⟨p, hp, (lookupKV_none_iff _ _).mpr hk2⟩
  · obtain ⟨k, hk1, hk2⟩ := exists_missing_back _ _ (by simpa using hl) hnb hk
    obtain ⟨q, hq, rfl⟩ := List.mem_map.mp hk1
    refine firstNZ_missing b a (fun q hq w hw => ?_) ⟨q, hq, (lookupKV_none_iff _ _).mpr hk2⟩
    -- (q.1, w) ∈ a and its partner under the same key in b is q.2
    have hwm := lookupKV_some_mem _ _ _ hw
    exact (cmpV_zero_iff_eqV _ _).mpr (eqV_symm w q.2 (hwa _ hwm) (hwb _ hq)
      (hc (q.1, w) hwm q.2 (lookupKV_of_mem_nodup _ _ _ hq hnb)))

end Value
