/-
  Golib.Value.CmpRec — how `cmpV` / `eqV` unfold: the type fallback, the flat types, and one step of
  the walk through a container, the same for list, map and int map (`kids`, `partners`, `cmpV_step`,
  `eqV_step`).  The laws are proved by `kids_ind`: the flat types, and a container given the property
  for its children; what the hypotheses of the laws say about the children is in the `…_kids` lemmas
  and `aligned_step`.
-/
import Golib.Value.CmpFlat
import Golib.Value.Facts

namespace Value

theorem lookupKV_eq_lookup {K : Type} [DecidableEq K] (k : K) (l : List (K × Value)) :
    lookupKV k l = l.lookup k := by
  fun_induction lookupKV k l with
  | case1 => rfl
  | case2 v t => simp [List.lookup]
  | case3 k' v t hk ih => simp only [List.lookup_cons, ih, beq_false_of_ne (Ne.symm hk)]

theorem lookupKV_some_mem {K : Type} [DecidableEq K] (k : K) (l : List (K × Value)) (v : Value)
    (h : lookupKV k l = some v) : (k, v) ∈ l := Golib.mem_of_lookup (lookupKV_eq_lookup k l ▸ h)

theorem lookupKV_of_mem_nodup {K : Type} [DecidableEq K] (k : K) (l : List (K × Value)) (v : Value)
    (hm : (k, v) ∈ l) (hn : (l.map (·.1)).Nodup) : lookupKV k l = some v :=
  (lookupKV_eq_lookup k l).trans (Golib.lookup_of_mem_nodup hn hm)

theorem lookupKV_none_iff {K : Type} [DecidableEq K] (k : K) (l : List (K × Value)) :
    lookupKV k l = none ↔ k ∉ l.map (·.1) := by
  rw [lookupKV_eq_lookup, List.lookup_eq_none_iff]
  simp only [List.mem_map, not_exists, not_and, bne_iff_ne, ne_eq]
  exact ⟨fun h p hp e => h p hp (e ▸ rfl), fun h p hp e => h p hp e.symm⟩

/-- positional lookup: with the same key sequence without repetition, looking up the keys of `a` in `b`
    finds the values of `b` in order -/
theorem lookupKV_aligned {K : Type} [DecidableEq K] (a b : List (K × Value))
    (hk : a.map (·.1) = b.map (·.1)) (hn : (b.map (·.1)).Nodup) :
    a.map (fun p => lookupKV p.1 b) = (b.map (·.2)).map some := by
  have hl : a.length = b.length := by simpa using congrArg List.length hk
  refine List.ext_getElem (by simp [hl]) fun i h1 h2 => ?_
  simp only [List.length_map] at h1 h2
  have e : a[i].1 = b[i].1 := by
    have := List.getElem_of_eq hk (by simpa using h1)
    simpa only [List.getElem_map] using this
  simp only [List.getElem_map, e]
  exact lookupKV_of_mem_nodup _ _ _ (List.getElem_mem h2) hn

/-- the result of a loop that returns the first non-zero element comparison, else 0 -/
def firstNZ : List Int → Int
  | [] => 0
  | x :: xs => if x ≠ 0 then x else firstNZ xs

/-- the map loops of `Equals`: every entry of the receiver has an equal partner under its key -/
def relKV {K : Type} [DecidableEq K] (R : Value → Value → Prop) (a b : List (K × Value)) : Prop :=
  ∀ p ∈ a, ∃ w, lookupKV p.1 b = some w ∧ R p.2 w

/-! ### induction over values: flat types, and containers given the property for every child -/

def isFlat : Value → Bool
  | .list _ => false
  | .map _ => false
  | .imap _ => false
  | _ => true

section Ind
set_option linter.unusedSectionVars false
variable (P : Value → Prop)
  (hFlat : ∀ a, isFlat a = true → P a)
  (hList : ∀ xs, (∀ x ∈ xs, P x) → P (.list xs))
  (hMap : ∀ kvs : List (Bytes × Value), (∀ p ∈ kvs, P p.2) → P (.map kvs))
  (hIMap : ∀ kvs : List (Int × Value), (∀ p ∈ kvs, P p.2) → P (.imap kvs))
include hFlat hList hMap hIMap

mutual
theorem value_ind (a : Value) : P a := by
  cases a with
  | list xs => exact hList xs (value_ind_list xs)
  | map kvs => exact hMap kvs (value_ind_map kvs)
  | imap kvs => exact hIMap kvs (value_ind_imap kvs)
  | _ => exact hFlat _ rfl
theorem value_ind_list (xs : List Value) : ∀ x ∈ xs, P x := by
  cases xs with
  | nil => intro x h; cases h
  | cons y t =>
    intro x h
    rcases List.mem_cons.mp h with e | h'
    · rw [e]; exact value_ind y
    · exact value_ind_list t x h'
theorem value_ind_map (kvs : List (Bytes × Value)) : ∀ p ∈ kvs, P p.2 := by
  cases kvs with
  | nil => intro x h; cases h
  | cons y t =>
    obtain ⟨k, v⟩ := y
    intro x h
    rcases List.mem_cons.mp h with e | h'
    · rw [e]; exact value_ind v
    · exact value_ind_map t x h'
theorem value_ind_imap (kvs : List (Int × Value)) : ∀ p ∈ kvs, P p.2 := by
  cases kvs with
  | nil => intro x h; cases h
  | cons y t =>
    obtain ⟨k, v⟩ := y
    intro x h
    rcases List.mem_cons.mp h with e | h'
    · rw [e]; exact value_ind v
    · exact value_ind_imap t x h'
end
end Ind

theorem cmpV_flat (a b : Value) (h : isFlat a = true) : cmpV a b = cmpFlat a b := by
  cases a <;> first | (simp [isFlat] at h; done) | simp only [cmpV]

theorem eqV_flat (a b : Value) (h : isFlat a = true) : eqV a b = eqFlat a b := by
  cases a <;> first | (simp [isFlat] at h; done) | simp only [eqV]

theorem cmpV_tag_ne (a b : Value) (h : tag a ≠ tag b) : cmpV a b = (tag a : Int) - (tag b : Int) := by
  cases a with
  | list xs => cases b <;> first | exact absurd rfl h | simp [cmpV, tag]
  | map xs => cases b <;> first | exact absurd rfl h | simp [cmpV, tag]
  | imap xs => cases b <;> first | exact absurd rfl h | simp [cmpV, tag]
  | _ => rw [cmpV_flat _ _ rfl]; exact cmpFlat_tag_ne _ _ h

theorem eqV_tag_ne (a b : Value) (h : tag a ≠ tag b) : eqV a b = false := by
  cases a with
  | list xs => cases b <;> first | exact absurd rfl h | simp [eqV]
  | map xs => cases b <;> first | exact absurd rfl h | simp [eqV]
  | imap xs => cases b <;> first | exact absurd rfl h | simp [eqV]
  | _ => rw [eqV_flat _ _ rfl]; exact eqFlat_tag_ne _ _ h

theorem tag_list (b : Value) (h : tag b = 70) : ∃ ys, b = .list ys :=
  shape_of_tag (a := .list []) h.symm

theorem isFlat_of_tag {a b : Value} (h : tag a = tag b) : isFlat a = isFlat b := by
  induction a, b, h using tag_eq_cases <;> rfl

theorem cmpV_list (xs ys : List Value) :
    cmpV (.list xs) (.list ys) = if xs.length ≠ ys.length then (xs.length : Int) - ys.length else cmpVs xs ys := by
  simp [cmpV]
theorem cmpV_map (a b : List (Bytes × Value)) :
    cmpV (.map a) (.map b) = if a.length ≠ b.length then (a.length : Int) - b.length else cmpKVs a b := by
  simp [cmpV]
theorem cmpV_imap (a b : List (Int × Value)) :
    cmpV (.imap a) (.imap b) = if a.length ≠ b.length then (a.length : Int) - b.length else cmpIKVs a b := by
  simp [cmpV]
theorem eqV_list (xs ys : List Value) : eqV (.list xs) (.list ys) = (xs.length == ys.length && eqVs xs ys) := by
  simp [eqV]
theorem eqV_map (a b : List (Bytes × Value)) : eqV (.map a) (.map b) = (a.length == b.length && eqKVs a b) := by
  simp [eqV]
theorem eqV_imap (a b : List (Int × Value)) : eqV (.imap a) (.imap b) = (a.length == b.length && eqIKVs a b) := by
  simp [eqV]

theorem aligned_list (xs ys : List Value) :
    aligned (.list xs) (.list ys) = (xs.length != ys.length || alignedVs xs ys) := by simp [aligned]
theorem aligned_map (a b : List (Bytes × Value)) :
    aligned (.map a) (.map b) = (a.length != b.length || (a.map (·.1) == b.map (·.1) && alignedKVs a b)) := by
  simp [aligned]
theorem aligned_imap (a b : List (Int × Value)) :
    aligned (.imap a) (.imap b) = (a.length != b.length || (a.map (·.1) == b.map (·.1) && alignedIKVs a b)) := by
  simp [aligned]

/-! ### one step of the walk through a container

`CompareTo` and `Equals` of the three container types are one loop: the children of the receiver, in order,
each against its partner in the other value — the child at the same position of a list, the entry under the
same key of a map (`none` when the other map lacks the key). -/

def kids : Value → List Value
  | .list xs => xs
  | .map kvs => kvs.map (·.2)
  | .imap kvs => kvs.map (·.2)
  | _ => []

/-- whom the children of `a` meet in `b` -/
def partners : Value → Value → List (Option Value)
  | .list _, .list ys => ys.map some
  | .map a, .map b => a.map (fun p => lookupKV p.1 b)
  | .imap a, .imap b => a.map (fun p => lookupKV p.1 b)
  | _, _ => []

/-- `if v2 == nil { return 1 }; c := v1.CompareTo(v2)` -/
def visitC (v : Value) : Option Value → Int
  | none => 1
  | some w => cmpV v w

def visitE (v : Value) : Option Value → Bool
  | none => false
  | some w => eqV v w

theorem kids_ind (P : Value → Prop) (hFlat : ∀ a, isFlat a = true → P a)
    (hCont : ∀ a, isFlat a = false → (∀ k ∈ kids a, P k) → P a) (a : Value) : P a :=
  value_ind P hFlat (fun xs ih => hCont (.list xs) rfl ih)
    (fun kvs ih => hCont (.map kvs) rfl (List.forall_mem_map.mpr ih))
    (fun kvs ih => hCont (.imap kvs) rfl (List.forall_mem_map.mpr ih)) a

theorem kids_flat (a : Value) (hf : isFlat a = true) : kids a = [] := by
  cases a <;> first | rfl | cases hf

theorem kids_rec (P : Value → Prop) (h : ∀ a, (∀ k ∈ kids a, P k) → P a) (a : Value) : P a :=
  kids_ind P (fun a hf => h a (by rw [kids_flat a hf]; intro k hk; cases hk)) (fun a _ ih => h a ih) a

/-- equations that call the unknown function on the children of the first argument only have at most one
    solution -/
theorem fix_unique {β : Type} (F : (Value → Value → β) → Value → Value → Option β)
    (hc : ∀ f g a b, (∀ x ∈ kids a, ∀ w, f x w = g x w) → F f a b = F g a b)
    (f g : Value → Value → β) (hf : ∀ a b, F f a b = some (f a b)) (hg : ∀ a b, F g a b = some (g a b)) :
    ∀ a b, f a b = g a b := fun a =>
  kids_rec (fun a => ∀ b, f a b = g a b) (fun a ih b =>
    Option.some.inj ((hf a b).symm.trans ((hc f g a b ih).trans (hg a b)))) a

theorem cmpVs_eq_firstNZ (xs ys : List Value) :
    cmpVs xs ys = firstNZ (List.zipWith visitC xs (ys.map some)) := by
  induction xs generalizing ys with
  | nil => simp [cmpVs, firstNZ]
  | cons x xs ih =>
    cases ys with
    | nil => simp [cmpVs, firstNZ]
    | cons y ys => simp only [cmpVs, List.map_cons, List.zipWith_cons_cons, firstNZ, visitC, ih]

theorem eqVs_eq_all (xs ys : List Value) :
    eqVs xs ys = (List.zipWith visitE xs (ys.map some)).all id := by
  induction xs generalizing ys with
  | nil => simp [eqVs]
  | cons x xs ih =>
    cases ys with
    | nil => simp [eqVs]
    | cons y ys => simp only [eqVs, List.map_cons, List.zipWith_cons_cons, List.all_cons, visitE, ih, id]

/-- a loop along the receiver's entries that returns the first non-zero visit -/
theorem firstNZ_assoc {K : Type} [DecidableEq K] {f : List (K × Value) → List (K × Value) → Int}
    (h0 : ∀ b, f [] b = 0)
    (hc : ∀ k v t b, f ((k, v) :: t) b = if visitC v (lookupKV k b) ≠ 0 then visitC v (lookupKV k b) else f t b)
    (a b : List (K × Value)) : f a b = firstNZ (a.map (fun p => visitC p.2 (lookupKV p.1 b))) := by
  induction a with
  | nil => simp [h0, firstNZ]
  | cons p t ih => obtain ⟨k, v⟩ := p; simp only [hc, List.map_cons, firstNZ, ih]

theorem all_assoc {K : Type} [DecidableEq K] {f : List (K × Value) → List (K × Value) → Bool}
    (h0 : ∀ b, f [] b = true) (hc : ∀ k v t b, f ((k, v) :: t) b = (visitE v (lookupKV k b) && f t b))
    (a b : List (K × Value)) : f a b = (a.map (fun p => visitE p.2 (lookupKV p.1 b))).all id := by
  induction a with
  | nil => simp [h0]
  | cons p t ih => obtain ⟨k, v⟩ := p; simp [hc, ih]

theorem cmpKVs_eq (a b : List (Bytes × Value)) :
    cmpKVs a b = firstNZ (a.map (fun p => visitC p.2 (lookupKV p.1 b))) :=
  firstNZ_assoc (fun _ => by simp [cmpKVs])
    (fun k v t b => by simp only [cmpKVs]; cases lookupKV k b with | none => simp [visitC] | some w => rfl) a b

theorem cmpIKVs_eq (a b : List (Int × Value)) :
    cmpIKVs a b = firstNZ (a.map (fun p => visitC p.2 (lookupKV p.1 b))) :=
  firstNZ_assoc (fun _ => by simp [cmpIKVs])
    (fun k v t b => by simp only [cmpIKVs]; cases lookupKV k b with | none => simp [visitC] | some w => rfl) a b

theorem eqKVs_eq (a b : List (Bytes × Value)) :
    eqKVs a b = (a.map (fun p => visitE p.2 (lookupKV p.1 b))).all id :=
  all_assoc (fun _ => by simp [eqKVs]) (fun k v t b => by simp only [eqKVs]; cases lookupKV k b <;> rfl) a b

theorem eqIKVs_eq (a b : List (Int × Value)) :
    eqIKVs a b = (a.map (fun p => visitE p.2 (lookupKV p.1 b))).all id :=
  all_assoc (fun _ => by simp [eqIKVs]) (fun k v t b => by simp only [eqIKVs]; cases lookupKV k b <;> rfl) a b

/-- one step of `CompareTo` on a container against a value of the same type -/
theorem cmpV_step (a b : Value) (ht : tag a = tag b) (hf : isFlat a = false) :
    cmpV a b = if (kids a).length ≠ (kids b).length then ((kids a).length : Int) - (kids b).length
      else firstNZ (List.zipWith visitC (kids a) (partners a b)) := by
  induction a, b, ht using tag_eq_cases with
  | list xs ys => rw [cmpV_list, cmpVs_eq_firstNZ]; rfl
  | map a b => rw [cmpV_map, cmpKVs_eq]; simp only [kids, partners, List.length_map, List.zipWith_map, List.zipWith_self]
  | imap a b => rw [cmpV_imap, cmpIKVs_eq]; simp only [kids, partners, List.length_map, List.zipWith_map, List.zipWith_self]
  | _ => cases hf

theorem eqV_step (a b : Value) (ht : tag a = tag b) (hf : isFlat a = false) :
    eqV a b = ((kids a).length == (kids b).length &&
      (List.zipWith visitE (kids a) (partners a b)).all id) := by
  induction a, b, ht using tag_eq_cases with
  | list xs ys => rw [eqV_list, eqVs_eq_all]; rfl
  | map a b => rw [eqV_map, eqKVs_eq]; simp only [kids, partners, List.length_map, List.zipWith_map, List.zipWith_self]
  | imap a b => rw [eqV_imap, eqIKVs_eq]; simp only [kids, partners, List.length_map, List.zipWith_map, List.zipWith_self]
  | _ => cases hf

/-! ### the hypotheses of the laws, passed to the children -/

theorem WFV_kids (a : Value) (h : WFV a) : ∀ k ∈ kids a, WFV k := by
  cases a <;> try (intro k hk; cases hk; done)
  case list xs =>
    simp only [WFV, wfV, Bool.and_eq_true] at h
    exact (wfVs_iff xs).mp h.2
  case map kvs =>
    simp only [WFV, wfV, Bool.and_eq_true] at h
    exact List.forall_mem_map.mpr (wfKVs_mem kvs h.1.2)
  case imap kvs =>
    simp only [WFV, wfV, Bool.and_eq_true] at h
    exact List.forall_mem_map.mpr (wfIKVs_mem kvs h.1.2)

theorem noNaN_kids (a : Value) (hf : isFlat a = false) : noNaN a = true ↔ ∀ k ∈ kids a, noNaN k = true := by
  cases a <;> try (cases hf; done)
  case list xs => exact all_rec (f := noNaNs) rfl (fun _ _ => rfl) xs
  case map kvs =>
    exact (all_rec (f := noNaNKVs) (p := fun q => noNaN q.2) rfl (fun ⟨_, _⟩ _ => rfl) kvs).trans
      (List.forall_mem_map (f := Prod.snd) (P := fun k => noNaN k = true)).symm
  case imap kvs =>
    exact (all_rec (f := noNaNIKVs) (p := fun q => noNaN q.2) rfl (fun ⟨_, _⟩ _ => rfl) kvs).trans
      (List.forall_mem_map (f := Prod.snd) (P := fun k => noNaN k = true)).symm

theorem noSNaN_kids (a : Value) (hf : isFlat a = false) : noSNaN a = true ↔ ∀ k ∈ kids a, noSNaN k = true := by
  cases a <;> try (cases hf; done)
  case list xs => exact all_rec (f := noSNaNs) rfl (fun _ _ => rfl) xs
  case map kvs =>
    exact (all_rec (f := noSNaNKVs) (p := fun q => noSNaN q.2) rfl (fun ⟨_, _⟩ _ => rfl) kvs).trans
      (List.forall_mem_map (f := Prod.snd) (P := fun k => noSNaN k = true)).symm
  case imap kvs =>
    exact (all_rec (f := noSNaNIKVs) (p := fun q => noSNaN q.2) rfl (fun ⟨_, _⟩ _ => rfl) kvs).trans
      (List.forall_mem_map (f := Prod.snd) (P := fun k => noSNaN k = true)).symm

/-- a value without NaN has in particular no NaN scalar -/
theorem noSNaN_of_noNaN (a : Value) : noNaN a = true → noSNaN a = true := by
  induction a using kids_ind with
  | hFlat a hf => intro h; cases a <;> first | exact h | rfl | cases hf
  | hCont a hf ih => exact fun h => (noSNaN_kids a hf).mpr fun k hk => ih k hk ((noNaN_kids a hf).mp h k hk)

/-- a Boolean recursion along two lists, `f (x :: t) (y :: u) = (p x y && f t u)` and `true` when either
    is exhausted, holds exactly when `p` holds position by position -/
theorem all₂_rec {α β : Type} {f : List α → List β → Bool} {p : α → β → Bool} (h0 : ∀ ys, f [] ys = true)
    (h1 : ∀ x t, f (x :: t) [] = true) (hc : ∀ x t y u, f (x :: t) (y :: u) = (p x y && f t u))
    (xs : List α) (ys : List β) :
    f xs ys = true ↔ ∀ i (h1 : i < xs.length) (h2 : i < ys.length), p xs[i] ys[i] = true := by
  induction xs generalizing ys with
  | nil => simp [h0]
  | cons x t ih =>
    cases ys with
    | nil => simp [h1]
    | cons y u =>
      rw [hc, Bool.and_eq_true, ih u]
      constructor
      · intro ⟨hx, ht⟩ i h1 h2
        cases i with
        | zero => exact hx
        | succ i => exact ht i (Nat.lt_of_succ_lt_succ h1) (Nat.lt_of_succ_lt_succ h2)
      · intro h
        exact ⟨h 0 (Nat.zero_lt_succ _) (Nat.zero_lt_succ _), fun i h1 h2 =>
          h (i + 1) (Nat.succ_lt_succ h1) (Nat.succ_lt_succ h2)⟩

theorem alignedVs_iff (xs ys : List Value) : alignedVs xs ys = true ↔
    ∀ i (h1 : i < xs.length) (h2 : i < ys.length), aligned xs[i] ys[i] = true :=
  all₂_rec (fun _ => by rw [alignedVs]) (fun _ _ => by rw [alignedVs]) (fun _ _ _ _ => by rw [alignedVs]) xs ys

/-- along an aligned walk of two well-formed containers of one type and size, the partner of the i-th
    child is the i-th child in both directions, and the children are aligned again -/
theorem aligned_step (a b : Value) (hwa : WFV a) (hwb : WFV b) (hal : Aligned a b) (ht : tag a = tag b)
    (hl : (kids a).length = (kids b).length) :
    partners a b = (kids b).map some ∧ partners b a = (kids a).map some ∧
    ∀ i (h1 : i < (kids a).length) (h2 : i < (kids b).length), Aligned (kids a)[i] (kids b)[i] := by
  induction a, b, ht using tag_eq_cases with
  | list xs ys =>
    simp only [Aligned, aligned_list, Bool.or_eq_true, bne_iff_ne, ne_eq] at hal
    exact ⟨rfl, rfl, (alignedVs_iff xs ys).mp (hal.resolve_left (not_not_intro hl))⟩
  | map a b =>
    simp only [kids, List.length_map] at hl
    simp only [WFV, wfV, Bool.and_eq_true, decide_eq_true_eq] at hwa hwb
    simp only [Aligned, aligned_map, Bool.or_eq_true, bne_iff_ne, ne_eq, Bool.and_eq_true, beq_iff_eq] at hal
    obtain ⟨hk, hal'⟩ := hal.resolve_left (not_not_intro hl)
    refine ⟨lookupKV_aligned a b hk hwb.2, lookupKV_aligned b a hk.symm hwa.2, fun i h1 h2 => ?_⟩
    simp only [kids, List.length_map] at h1 h2
    simp only [kids, List.getElem_map]
    exact (all₂_rec (f := alignedKVs) (p := fun x y => aligned x.2 y.2) (fun _ => by rw [alignedKVs])
      (fun _ _ => by rw [alignedKVs]) (fun ⟨_, _⟩ _ ⟨_, _⟩ _ => by rw [alignedKVs]) a b).mp hal' i h1 h2
  | imap a b =>
    simp only [kids, List.length_map] at hl
    simp only [WFV, wfV, Bool.and_eq_true, decide_eq_true_eq] at hwa hwb
    simp only [Aligned, aligned_imap, Bool.or_eq_true, bne_iff_ne, ne_eq, Bool.and_eq_true, beq_iff_eq] at hal
    obtain ⟨hk, hal'⟩ := hal.resolve_left (not_not_intro hl)
    refine ⟨lookupKV_aligned a b hk hwb.2, lookupKV_aligned b a hk.symm hwa.2, fun i h1 h2 => ?_⟩
    simp only [kids, List.length_map] at h1 h2
    simp only [kids, List.getElem_map]
    exact (all₂_rec (f := alignedIKVs) (p := fun x y => aligned x.2 y.2) (fun _ => by rw [alignedIKVs])
      (fun _ _ => by rw [alignedIKVs]) (fun ⟨_, _⟩ _ ⟨_, _⟩ _ => by rw [alignedIKVs]) a b).mp hal' i h1 h2
  | _ => exact ⟨rfl, rfl, fun i h1 => absurd h1 (Nat.not_lt_zero _)⟩

theorem firstNZ_pos (xs ys : List Value) (h : xs.length = ys.length) :
    firstNZ (List.zipWith visitC xs (ys.map some)) = lexBy cmpV xs ys := by
  fun_induction lexBy cmpV xs ys with
  | case1 ys => cases ys with | nil => rfl | cons _ _ => cases h
  | case2 x xs => cases h
  | case3 x xs y ys hc => simp [firstNZ, visitC, hc]
  | case4 x xs y ys hc ih => simp [firstNZ, visitC, hc, ih (by simpa using h)]

/-- `CompareTo` on aligned containers, in both directions: by size, then the children position by position -/
theorem cmpV_aligned (a b : Value) (hwa : WFV a) (hwb : WFV b) (hal : Aligned a b) (ht : tag a = tag b)
    (hf : isFlat a = false) :
    cmpV a b = (if (kids a).length ≠ (kids b).length then ((kids a).length : Int) - (kids b).length
      else lexBy cmpV (kids a) (kids b)) ∧
    cmpV b a = (if (kids b).length ≠ (kids a).length then ((kids b).length : Int) - (kids a).length
      else lexBy cmpV (kids b) (kids a)) := by
  rw [cmpV_step a b ht hf, cmpV_step b a ht.symm (isFlat_of_tag ht ▸ hf)]
  by_cases hl : (kids a).length = (kids b).length
  · obtain ⟨p1, p2, _⟩ := aligned_step a b hwa hwb hal ht hl
    rw [if_neg (not_not_intro hl), if_neg (not_not_intro hl), if_neg (not_not_intro hl.symm),
      if_neg (not_not_intro hl.symm), p1, p2, firstNZ_pos _ _ hl, firstNZ_pos _ _ hl.symm]
    exact ⟨rfl, rfl⟩
  · rw [if_pos hl, if_pos hl, if_pos (Ne.symm hl), if_pos (Ne.symm hl)]; exact ⟨rfl, rfl⟩

/-! ### `Equals` on a container -/

/-- every child of `a` has a partner in `b` and is `R`-related to it -/
def Paired (R : Value → Value → Prop) (a b : Value) : Prop :=
  ∀ i (h : i < (kids a).length), ∃ w, (partners a b)[i]? = some (some w) ∧ R (kids a)[i] w

theorem paired_list (R : Value → Value → Prop) (xs ys : List Value) :
    Paired R (.list xs) (.list ys) ↔ ∀ i (h1 : i < xs.length), ∃ h2 : i < ys.length, R xs[i] ys[i] := by
  unfold Paired
  simp only [kids, partners, List.getElem?_map]
  refine forall_congr' fun i => forall_congr' fun h1 => ?_
  by_cases h2 : i < ys.length <;> simp [h2]

/-- for the two map types `Paired` is `relKV` of the entries -/
theorem paired_assoc {K : Type} [DecidableEq K] (R : Value → Value → Prop) (a b : List (K × Value)) :
    (∀ i (h : i < (a.map (·.2)).length), ∃ w, (a.map fun p => lookupKV p.1 b)[i]? = some (some w) ∧
      R (a.map (·.2))[i] w) ↔ relKV R a b := by
  unfold relKV
  rw [List.forall_mem_iff_forall_getElem]
  simp only [List.length_map, List.getElem_map, List.getElem?_map]
  exact forall_congr' fun i => forall_congr' fun h => by rw [List.getElem?_eq_getElem h]; simp

theorem all_zipWith_iff (vs : List Value) (os : List (Option Value)) (hl : vs.length = os.length) :
    (List.zipWith visitE vs os).all id = true ↔
      ∀ i (h : i < vs.length), ∃ w, os[i]? = some (some w) ∧ eqV vs[i] w = true := by
  have hv : ∀ v o, visitE v o = true ↔ ∃ w, o = some w ∧ eqV v w = true := fun v o => by
    cases o <;> simp [visitE]
  rw [List.all_eq_true, List.forall_mem_iff_forall_getElem]
  simp only [List.length_zipWith, ← hl, Nat.min_self, List.getElem_zipWith, id, hv]
  exact forall_congr' fun i => forall_congr' fun h => by rw [List.getElem?_eq_getElem (hl ▸ h)]; simp

theorem partners_length (a b : Value) (ht : tag a = tag b) (hl : (kids a).length = (kids b).length) :
    (kids a).length = (partners a b).length := by
  induction a, b, ht using tag_eq_cases <;> simp_all [kids, partners]

/-- `Equals` on a container holds exactly when the other value has the same type and size and every child
    Equals its partner (at the same position of a list, under the same key of a map) -/
theorem eqV_cont_iff (a b : Value) (hf : isFlat a = false) :
    eqV a b = true ↔ tag a = tag b ∧ (kids a).length = (kids b).length ∧
      Paired (fun v w => eqV v w = true) a b := by
  by_cases ht : tag a = tag b
  · rw [eqV_step a b ht hf, Bool.and_eq_true, beq_iff_eq]
    exact ⟨fun ⟨hl, h⟩ => ⟨ht, hl, (all_zipWith_iff _ _ (partners_length a b ht hl)).mp h⟩,
      fun ⟨_, hl, h⟩ => ⟨hl, (all_zipWith_iff _ _ (partners_length a b ht hl)).mpr h⟩⟩
  · rw [eqV_tag_ne a b ht]; exact ⟨fun h => (by cases h), fun h => absurd h.1 ht⟩

theorem eqV_list_iff (xs : List Value) (b : Value) : eqV (.list xs) b = true ↔
    ∃ ys, b = .list ys ∧ xs.length = ys.length ∧
      ∀ i (h1 : i < xs.length) (h2 : i < ys.length), eqV xs[i] ys[i] = true := by
  rw [eqV_cont_iff _ _ rfl]
  constructor
  · intro ⟨ht, hl, hp⟩
    obtain ⟨ys, rfl⟩ := tag_list b ht.symm
    exact ⟨ys, rfl, hl, fun i h1 _ => ((paired_list _ xs ys).mp hp i h1).2⟩
  · rintro ⟨ys, rfl, hl, h⟩
    exact ⟨rfl, hl, (paired_list _ xs ys).mpr fun i h1 => ⟨hl ▸ h1, h i h1 (hl ▸ h1)⟩⟩

end Value
