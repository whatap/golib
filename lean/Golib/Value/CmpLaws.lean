/-
  Golib.Value.CmpLaws — `CompareTo` reverses its sign when the operands are swapped and is
  transitive, on well-formed values without NaN whose maps are key-aligned along the walk.
-/
import Golib.Value.EqLaws

namespace Value

/-- antisymmetry under the weaker hypothesis: only float *scalars* must not be NaN -/
theorem cmpV_AS_s (a : Value) : ∀ b, WFV a → WFV b → noSNaN a = true → noSNaN b = true → Aligned a b →
    AS (cmpV a b) (cmpV b a) := by
  induction a using kids_ind with
  | hFlat a hf =>
    intro b _ _ ha hb _
    refine AS.by_key (tag a) (tag b) (cmpV_tag_ne a b) (cmpV_tag_ne b a) fun ht => ?_
    rw [cmpV_flat a b hf, cmpV_flat b a (isFlat_of_tag ht ▸ hf)]
    exact cmpFlat_AS a b ha hb
  | hCont a hf ih =>
    intro b hwa hwb ha hb hal
    refine AS.by_key _ _ (cmpV_tag_ne a b) (cmpV_tag_ne b a) fun ht => ?_
    obtain ⟨e1, e2⟩ := cmpV_aligned a b hwa hwb hal ht hf
    rw [e1, e2]
    refine AS.by_size _ _ fun e => lexBy_AS_idx _ _ _ _ fun i h1 h2 => ?_
    have m1 := List.getElem_mem h1; have m2 := List.getElem_mem h2
    exact ih _ m1 _ (WFV_kids a hwa _ m1) (WFV_kids b hwb _ m2) ((noSNaN_kids a hf).mp ha _ m1)
      ((noSNaN_kids b (isFlat_of_tag ht ▸ hf)).mp hb _ m2) ((aligned_step a b hwa hwb hal ht e).2.2 i h1 h2)

theorem cmpV_AS (a b : Value) (hwa : WFV a) (hwb : WFV b) (ha : NoNaN a) (hb : NoNaN b) (hal : Aligned a b) :
    AS (cmpV a b) (cmpV b a) :=
  cmpV_AS_s a b hwa hwb (noSNaN_of_noNaN a ha) (noSNaN_of_noNaN b hb) hal

theorem cmpV_Tr (a : Value) : ∀ b c, WFV a → WFV b → WFV c → NoNaN a → NoNaN b → NoNaN c →
    Aligned a b → Aligned b c → Aligned a c → Tr (cmpV a b) (cmpV b c) (cmpV a c) := by
  induction a using kids_ind with
  | hFlat a hf =>
    intro b c _ _ _ ha hb hc _ _ _
    refine Tr.by_key (tag a) (tag b) (tag c) (cmpV_tag_ne a b) (cmpV_tag_ne b c) (cmpV_tag_ne a c) fun h1 _ => ?_
    rw [cmpV_flat a b hf, cmpV_flat b c (isFlat_of_tag h1 ▸ hf), cmpV_flat a c hf]
    exact cmpFlat_Tr a b c ha hb hc
  | hCont a hf ih =>
    intro b c hwa hwb hwc ha hb hc hab hbc hac
    refine Tr.by_key _ _ _ (cmpV_tag_ne a b) (cmpV_tag_ne b c) (cmpV_tag_ne a c) fun t1 t2 => ?_
    have hfb := isFlat_of_tag t1 ▸ hf
    rw [(cmpV_aligned a b hwa hwb hab t1 hf).1, (cmpV_aligned b c hwb hwc hbc t2 hfb).1,
      (cmpV_aligned a c hwa hwc hac (t1.trans t2) hf).1]
    refine Tr.by_size _ _ _ fun e1 e2 => lexBy_Tr_idx _ _ _ _ _ _ fun i h1 h2 h3 => ?_
    have m1 := List.getElem_mem h1; have m2 := List.getElem_mem h2; have m3 := List.getElem_mem h3
    exact ih _ m1 _ _ (WFV_kids a hwa _ m1) (WFV_kids b hwb _ m2) (WFV_kids c hwc _ m3)
      ((noNaN_kids a hf).mp ha _ m1) ((noNaN_kids b hfb).mp hb _ m2)
      ((noNaN_kids c (isFlat_of_tag t2 ▸ hfb)).mp hc _ m3)
      ((aligned_step a b hwa hwb hab t1 e1).2.2 i h1 h2) ((aligned_step b c hwb hwc hbc t2 e2).2.2 i h2 h3)
      ((aligned_step a c hwa hwc hac (t1.trans t2) (e1.trans e2)).2.2 i h1 h3)

/-! ### values without maps are aligned with everything -/

mutual
def mapFree : Value → Bool
  | .list xs => mapFrees xs
  | .map _ => false
  | .imap _ => false
  | _ => true
def mapFrees : List Value → Bool
  | [] => true
  | x :: xs => mapFree x && mapFrees xs
end

theorem mapFrees_iff (xs : List Value) : mapFrees xs = true ↔ ∀ x ∈ xs, mapFree x = true := by
  induction xs with
  | nil => simp [mapFrees]
  | cons x t ih => simp [mapFrees, ih]

theorem aligned_of_mapFree (a : Value) : ∀ b, mapFree a = true → aligned a b = true := by
  apply value_ind (fun a => ∀ b, mapFree a = true → aligned a b = true)
  · intro a hf b _
    cases a <;> first | (simp [isFlat] at hf; done) | simp [aligned]
  · intro xs ih b hm
    simp only [mapFree] at hm
    cases b <;> try (simp [aligned]; done)
    rename_i ys
    rw [aligned_list]
    simp only [Bool.or_eq_true]
    right
    refine (alignedVs_iff xs _).mpr fun i h1 h2 => ?_
    exact ih _ (List.getElem_mem h1) _ ((mapFrees_iff xs).mp hm _ (List.getElem_mem h1))
  · intro a _ b hm; simp [mapFree] at hm
  · intro a _ b hm; simp [mapFree] at hm

end Value
