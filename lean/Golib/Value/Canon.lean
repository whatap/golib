/-
  Golib.Value.Canon — what `Equals` decides, in terms of the value itself and of its encoding.

    rigid v      every type whose `Equals` is structural: null, bool, the integer types, text, text
                 hash, blob, IPv4, int / long / text arrays, lists of those            eqV a b ⇔ a = b ⇔ same bytes
    canon v      for values without maps: −0 ↦ +0 in floats, min / max of summaries dropped
                 (`Equals` of a summary looks at sum and count only)                     eqV a b ⇔ canon a = canon b
-/
import Golib.Value.CmpLaws

namespace Value

mutual
def rigid : Value → Bool
  | .null => true | .bool _ => true | .dec _ => true | .int _ => true | .long _ => true
  | .text _ => true | .hash _ => true | .blob _ => true | .ip4 _ => true
  | .ai _ => true | .at _ => true | .al _ => true
  | .list xs => rigids xs
  | _ => false
def rigids : List Value → Bool
  | [] => true
  | x :: xs => rigid x && rigids xs
end

theorem rigids_iff (xs : List Value) : rigids xs = true ↔ ∀ x ∈ xs, rigid x = true := by
  induction xs with
  | nil => simp [rigids]
  | cons x t ih => simp [rigids, ih]

theorem eqFlat_iff_eq_of_rigid (a b : Value) (hf : isFlat a = true) (hr : rigid a = true) :
    eqFlat a b = true ↔ a = b := by
  by_cases ht : tag a = tag b
  · induction a, b, ht using tag_eq_cases with
    | null => exact ⟨fun _ => rfl, fun _ => rfl⟩
    | bool x y | dec x y | int x y | long x y | hash x y | text x y =>
      exact beq_iff_eq.trans ⟨congrArg _, fun h => by injection h⟩
    | blob x y | ip4 x y =>
      exact beq_iff_eq.trans ((cmpSeq_ltNat_zero x y).trans ⟨congrArg _, fun h => by injection h⟩)
    | ai x y | al x y =>
      exact beq_iff_eq.trans ((cmpSeq_ltInt_zero x y).trans ⟨congrArg _, fun h => by injection h⟩)
    | «at» x y => exact beq_iff_eq.trans ((cmpStrs_zero x y).trans ⟨congrArg _, fun h => by injection h⟩)
    | list | map | imap => cases hf
    | _ => cases hr
  · exact ⟨fun h => (by rw [eqFlat_tag_ne a b ht] at h; cases h), fun h => absurd (by rw [h]) ht⟩

theorem eqV_iff_eq_of_rigid (a : Value) : ∀ b, rigid a = true → (eqV a b = true ↔ a = b) := by
  apply value_ind (fun a => ∀ b, rigid a = true → (eqV a b = true ↔ a = b))
  · intro a hf b hr; rw [eqV_flat a b hf]; exact eqFlat_iff_eq_of_rigid a b hf hr
  · intro xs ih b hr
    simp only [rigid] at hr
    rw [eqV_list_iff]
    constructor
    · intro ⟨ys, e, hl, he⟩
      rw [e]; congr 1
      exact List.ext_getElem hl fun i h1 h2 =>
        (ih _ (List.getElem_mem h1) _ ((rigids_iff xs).mp hr _ (List.getElem_mem h1))).mp (he i h1 h2)
    · intro h
      exact ⟨xs, h.symm, rfl, fun i h1 _ =>
        (ih _ (List.getElem_mem h1) _ ((rigids_iff xs).mp hr _ (List.getElem_mem h1))).mpr rfl⟩
  · intro a _ b hr; simp [rigid] at hr
  · intro a _ b hr; simp [rigid] at hr

/-- −0 ↦ +0 -/
def normF (sign : Nat) (b : Nat) : Nat := if b = sign then 0 else b

mutual
def canon : Value → Value
  | .f32 b => .f32 (normF S32 b)
  | .f64 b => .f64 (normF S64 b)
  | .dsum s c _ _ => .dsum (normF S64 s) c 0 0
  | .lsum s c _ _ => .lsum s c 0 0
  | .af xs => .af (xs.map (normF S32))
  | .list xs => .list (canons xs)
  | .null => .null
  | .bool b => .bool b
  | .dec v => .dec v
  | .int v => .int v
  | .long v => .long v
  | .text v => .text v
  | .hash v => .hash v
  | .blob v => .blob v
  | .ip4 v => .ip4 v
  | .ai v => .ai v
  | .at v => .at v
  | .al v => .al v
  | .map kvs => .map kvs
  | .imap kvs => .imap kvs
def canons : List Value → List Value
  | [] => []
  | x :: xs => canon x :: canons xs
end

theorem canons_eq_map (xs : List Value) : canons xs = xs.map canon := by
  induction xs with
  | nil => rfl
  | cons x t ih => rw [canons, ih]; rfl

theorem fKey_eq_iff (sign x y : Nat) (hx : x < 2 * sign) (hy : y < 2 * sign) :
    fKey sign x = fKey sign y ↔ normF sign x = normF sign y := by
  unfold fKey normF
  split <;> split <;> split <;> split <;> omega

theorem fEq_iff_norm (sign inf x y : Nat) (hx : x < 2 * sign) (hy : y < 2 * sign)
    (nx : fNaN sign inf x = false) (ny : fNaN sign inf y = false) :
    fEq sign inf x y = true ↔ normF sign x = normF sign y := by
  rw [fEq_key _ _ _ _ nx ny, decide_eq_true_eq]; exact fKey_eq_iff sign x y hx hy

theorem cmpOf_lt32_zero_iff (x y : Nat) (hx : x < 4294967296) (hy : y < 4294967296)
    (nx : nan32 x = false) (ny : nan32 y = false) : cmpOf lt32 x y = 0 ↔ normF S32 x = normF S32 y := by
  unfold cmpOf lt32
  rw [fLt_key _ _ _ _ nx ny, fLt_key _ _ _ _ ny nx, ← fKey_eq_iff S32 x y (by unfold S32; omega) (by unfold S32; omega)]
  simp only [decide_eq_true_eq]
  split <;> (try split) <;> omega

/-- two lists have the same image under `f` exactly when they have the same length and `f` agrees
    position by position -/
theorem map_eq_map_idx {α β : Type} (f : α → β) (xs ys : List α) : xs.map f = ys.map f ↔
    xs.length = ys.length ∧ ∀ i (h1 : i < xs.length) (h2 : i < ys.length), f xs[i] = f ys[i] := by
  rw [List.ext_getElem_iff]; simp only [List.length_map, List.getElem_map]

theorem cmpSeq_lt32_zero_iff (xs ys : List Nat) (hx : ∀ x ∈ xs, x < 4294967296) (hy : ∀ y ∈ ys, y < 4294967296)
    (nx : ∀ x ∈ xs, nan32 x = false) (ny : ∀ y ∈ ys, nan32 y = false) :
    cmpSeq lt32 xs ys = 0 ↔ xs.map (normF S32) = ys.map (normF S32) := by
  unfold cmpSeq
  rw [lexBy_eq_zero_idx, map_eq_map_idx]
  exact and_congr_right fun _ => forall_congr' fun i => forall_congr' fun h1 => forall_congr' fun h2 =>
    cmpOf_lt32_zero_iff _ _ (hx _ (List.getElem_mem h1)) (hy _ (List.getElem_mem h2))
      (nx _ (List.getElem_mem h1)) (ny _ (List.getElem_mem h2))

theorem tag_canon (v : Value) : tag (canon v) = tag v := by cases v <;> simp [canon, tag]

theorem all_lt_of {xs : List Nat} (h : xs.all okU32 = true) : ∀ x ∈ xs, x < 4294967296 := by
  intro x hx
  have := List.all_eq_true.mp h x hx
  simpa [okU32_iff] using this

theorem eqFlat_iff_canon (a b : Value) (hf : isFlat a = true) (hwa : WFV a) (hwb : WFV b)
    (hna : NoNaN a) (hnb : NoNaN b) : eqFlat a b = true ↔ canon a = canon b := by
  by_cases ht : tag a = tag b
  · induction a, b, ht using tag_eq_cases <;> simp only [eqFlat, canon, tag, ne_eq, not_true_eq_false, ↓reduceIte]
    case f32 =>
      simp only [WFV, wfV, okU32_iff] at hwa hwb
      simp only [NoNaN, noNaN, Bool.not_eq_true'] at hna hnb
      unfold eq32
      rw [fEq_iff_norm S32 I32 _ _ (by unfold S32; omega) (by unfold S32; omega) hna hnb]
      simp
    case f64 =>
      simp only [WFV, wfV, okU64_iff] at hwa hwb
      simp only [NoNaN, noNaN, Bool.not_eq_true'] at hna hnb
      unfold eq64
      rw [fEq_iff_norm S64 I64 _ _ (by unfold S64; omega) (by unfold S64; omega) hna hnb]
      simp
    case dsum =>
      simp only [WFV, wfV, okU64_iff, Bool.and_eq_true] at hwa hwb
      simp only [NoNaN, noNaN, Bool.not_eq_true'] at hna hnb
      unfold eq64
      simp only [Bool.and_eq_true, beq_iff_eq]
      rw [fEq_iff_norm S64 I64 _ _ (by unfold S64; omega) (by unfold S64; omega) hna hnb]
      simp
    case af =>
      simp only [WFV, wfV, Bool.and_eq_true] at hwa hwb
      simp only [NoNaN, noNaN] at hna hnb
      rw [beq_iff_eq, cmpSeq_lt32_zero_iff _ _ (all_lt_of hwa.2) (all_lt_of hwb.2) (all_not_nan hna) (all_not_nan hnb)]
      simp
    case blob => rw [beq_iff_eq, cmpSeq_ltNat_zero]; simp
    case ip4 => rw [beq_iff_eq, cmpSeq_ltNat_zero]; simp
    case ai => rw [beq_iff_eq, cmpSeq_ltInt_zero]; simp
    case al => rw [beq_iff_eq, cmpSeq_ltInt_zero]; simp
    case «at» => rw [beq_iff_eq, cmpStrs_zero]; simp
    case list | map | imap => cases hf
    all_goals simp
  · constructor
    · intro h; rw [eqFlat_tag_ne a b ht] at h; cases h
    · intro h
      have := congrArg tag h
      rw [tag_canon, tag_canon] at this
      exact absurd this ht

/-- on well-formed NaN-free values without maps, `Equals` is equality of canonical forms
    (−0 = +0; summaries by sum and count) -/
theorem eqV_iff_canon (a : Value) : ∀ b, WFV a → WFV b → NoNaN a → NoNaN b → mapFree a = true →
    (eqV a b = true ↔ canon a = canon b) := by
  apply value_ind (fun a => ∀ b, WFV a → WFV b → NoNaN a → NoNaN b → mapFree a = true →
    (eqV a b = true ↔ canon a = canon b))
  · intro a hf b hwa hwb hna hnb _
    rw [eqV_flat a b hf]; exact eqFlat_iff_canon a b hf hwa hwb hna hnb
  · intro xs ih b hwa hwb hna hnb hm
    by_cases ht : tag (.list xs) = tag b
    · obtain ⟨ys, rfl⟩ := tag_list b ht.symm
      simp only [mapFree] at hm
      simp only [canon, canons_eq_map, list.injEq]
      have key : ∀ i (h1 : i < xs.length) (h2 : i < ys.length),
          eqV xs[i] ys[i] = true ↔ canon xs[i] = canon ys[i] := fun i h1 h2 =>
        have m1 := List.getElem_mem h1; have m2 := List.getElem_mem h2
        ih _ m1 _ (WFV_kids _ hwa _ m1) (WFV_kids _ hwb _ m2) ((noNaN_kids (.list xs) rfl).mp hna _ m1)
          ((noNaN_kids (.list ys) rfl).mp hnb _ m2) ((mapFrees_iff xs).mp hm _ m1)
      rw [map_eq_map_idx]
      refine (eqV_list_iff xs _).trans ⟨fun ⟨_, e, hl, he⟩ => ?_, fun ⟨hl, he⟩ =>
        ⟨ys, rfl, hl, fun i h1 h2 => (key i h1 h2).mpr (he i h1 h2)⟩⟩
      cases e
      exact ⟨hl, fun i h1 h2 => (key i h1 h2).mp (he i h1 h2)⟩
    · constructor
      · intro h; rw [eqV_tag_ne _ _ ht] at h; cases h
      · intro h
        have := congrArg tag h
        rw [tag_canon, tag_canon] at this
        exact absurd this ht
  · intro a _ b _ _ _ _ hm; simp [mapFree] at hm
  · intro a _ b _ _ _ _ hm; simp [mapFree] at hm

theorem normF_le (sign b : Nat) : normF sign b ≤ b := by unfold normF; split <;> omega

theorem canon_WFV (a : Value) : WFV a → WFV (canon a) := by
  apply value_ind (fun a => WFV a → WFV (canon a))
  · intro a hf hw
    cases a <;> (try (simp [isFlat] at hf; done)) <;> simp only [canon] <;> (try exact hw)
    case f32 b =>
      simp only [WFV, wfV, okU32_iff] at hw ⊢
      have := normF_le S32 b; omega
    case f64 b =>
      simp only [WFV, wfV, okU64_iff] at hw ⊢
      have := normF_le S64 b; omega
    case dsum s c mn mx =>
      simp only [WFV, wfV, okU64_iff, Bool.and_eq_true] at hw ⊢
      have := normF_le S64 s
      refine ⟨⟨⟨by omega, hw.1.1.2⟩, by omega⟩, by omega⟩
    case lsum s c mn mx =>
      simp only [WFV, wfV, okI64, okI32, Bool.and_eq_true, decide_eq_true_eq] at hw ⊢
      refine ⟨⟨⟨hw.1.1.1, hw.1.1.2⟩, by omega⟩, by omega⟩
    case af xs =>
      simp only [WFV, wfV, Bool.and_eq_true, List.length_map] at hw ⊢
      refine ⟨hw.1, ?_⟩
      rw [List.all_eq_true] at *
      intro x hx
      obtain ⟨y, hy, rfl⟩ := List.mem_map.mp hx
      have h1 := hw.2 y hy
      simp only [okU32_iff] at h1 ⊢
      have := normF_le S32 y; omega
  · intro xs ih hw
    simp only [WFV, wfV, Bool.and_eq_true] at hw
    simp only [canon, canons_eq_map, WFV, wfV, Bool.and_eq_true, List.length_map]
    refine ⟨hw.1, (wfVs_iff _).mpr (fun x hx => ?_)⟩
    obtain ⟨y, hy, rfl⟩ := List.mem_map.mp hx
    exact ih y hy ((wfVs_iff xs).mp hw.2 y hy)
  · intro a _ hw; simp only [canon]; exact hw
  · intro a _ hw; simp only [canon]; exact hw

end Value
