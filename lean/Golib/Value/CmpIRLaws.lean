/-
  Golib.Value.CmpIRLaws — the flat IR of CmpIR.lean: which body the `CompareTo` / `Equals` of each
  flat type has, by kind of type, and that a method with that body computes `cmpFlat` / `eqFlat`.

  The kinds follow `cmpFlat`: the scalars return 0 on `==`, then 1 on `<`, else -1 (`cmpDesc`; the
  boolean tests `this.Val` instead of `<`); the two summaries go by sum, then by count; the array types
  hand over to a slice helper of util/compare; `NullValue` has no body, only the type fallback.
-/
import Golib.Value.CmpIR
import Golib.Value.CmpRec

namespace Value
namespace IR

deriving instance DecidableEq for Cond
deriving instance DecidableEq for Stmt
deriving instance DecidableEq for EqBody

/-- `if this.F == that.F { return 0 }; if this.F < that.F { return 1 } else { return -1 }` -/
theorem runBody_desc (a b : Value) (f : String) (e l : Bool) (h : fieldRel a b f = some (e, l)) :
    runBody a b [.ifRet (.eq f) 0, .ifElse (.lt f) 1 (-1)] = some (cmpDesc e l) := by
  simp only [runBody, evalCond, h, Option.map]; cases e <;> cases l <;> rfl

/-- the body of the two summaries: by sum, then by count -/
theorem runBody_sum (a b : Value) (e l e' l' : Bool) (hs : fieldRel a b "Sum" = some (e, l))
    (hc : fieldRel a b "Count" = some (e', l')) :
    runBody a b [.ifRet (.and (.eq "Sum") (.eq "Count")) 0, .ifRet (.lt "Sum") 1,
      .ifRet (.and (.eq "Sum") (.lt "Count")) 1, .ret (-1)] =
    some (if (e && e') = true then 0 else if l = true then 1 else if (e && l') = true then 1 else -1) := by
  simp only [runBody, evalCond, hs, hc, Option.map]; cases e <;> cases l <;> cases e' <;> cases l' <;> rfl

/-- the body of `CompareTo` of each flat type (`none`: a container) -/
def cmpScheme : Ctor → Option (List Stmt)
  | .null => some []
  | .bool => some [.ifRet (.eq "Val") 0, .ifElse (.isTrue "Val") 1 (-1)]
  | .dec | .int | .long | .hash | .f32 | .f64 | .text => some [.ifRet (.eq "Val") 0, .ifElse (.lt "Val") 1 (-1)]
  | .dsum | .lsum => some [.ifRet (.and (.eq "Sum") (.eq "Count")) 0, .ifRet (.lt "Sum") 1,
      .ifRet (.and (.eq "Sum") (.lt "Count")) 1, .ret (-1)]
  | .blob | .ip4 => some [.retHelper "CompareToBytes" "Val"]
  | .ai => some [.retHelper "CompareToInts" "Val"]
  | .al => some [.retHelper "CompareToLongs" "Val"]
  | .af => some [.retHelper "CompareToFloats" "Val"]
  | .at => some [.retHelper "CompareToStrings" "Val"]
  | .list | .map | .imap => none

/-- the body of `Equals` of each flat type -/
def eqScheme : Ctor → Option EqBody
  | .null => some .sameType
  | .bool | .dec | .int | .long | .hash | .f32 | .f64 | .text => some (.cond (.eq "Val"))
  | .dsum | .lsum => some (.cond (.and (.eq "Sum") (.eq "Count")))
  | .blob | .ip4 => some (.helper "EqualBytes" "Val")
  | .ai => some (.helper "EqualInts" "Val")
  | .al => some (.helper "EqualLongs" "Val")
  | .af => some (.helper "EqualFloats" "Val")
  | .at => some (.helper "EqualStrings" "Val")
  | .list | .map | .imap => none

/-- type guard (all but `NullValue`), int fallback, and the body of the type's kind -/
def flatCmpOK (c : Ctor) (fc : FlatCmp) : Bool :=
  fc.guard == (c != .null) && fc.fallback == "intSub" && cmpScheme c == some fc.body

theorem cmpScheme_flat (a : Value) (hf : isFlat a = true) : (cmpScheme (ctorOf a)).isNone = false := by
  cases a <;> first | rfl | cases hf

theorem eqScheme_flat (a : Value) (hf : isFlat a = true) : (eqScheme (ctorOf a)).isNone = false := by
  cases a <;> first | rfl | cases hf

/-- a `CompareTo` with the guard, the fallback and the body of its kind computes `cmpFlat`,
    against a value of any type -/
theorem runCmp_of_OK (fc : FlatCmp) (a b : Value) (h : flatCmpOK (ctorOf a) fc = true) :
    runCmp fc a b = some (cmpFlat a b) := by
  obtain ⟨g, body, n, fb⟩ := fc
  simp only [flatCmpOK, Bool.and_eq_true, beq_iff_eq] at h
  obtain ⟨⟨hg, hfb⟩, hs⟩ := h
  unfold runCmp
  by_cases ht : tag a = tag b
  · rw [hg, beq_iff_eq.mpr ht, Bool.and_true]
    induction a, b, ht using tag_eq_cases with
    | null => simp [ctorOf, hfb]; rfl
    | list | map | imap => cases hs
    | bool x y => cases Option.some.inj hs; cases x <;> cases y <;> rfl
    | dec x y | int x y | long x y | hash x y | f32 x y | f64 x y | text x y =>
      cases Option.some.inj hs; exact runBody_desc _ _ "Val" _ _ rfl
    | dsum s c mn mx s' c' mn' mx' =>
      cases Option.some.inj hs
      exact runBody_sum (.dsum s c mn mx) (.dsum s' c' mn' mx') _ _ _ _ rfl rfl
    | lsum s c mn mx s' c' mn' mx' =>
      cases Option.some.inj hs
      refine (runBody_sum (.lsum s c mn mx) (.lsum s' c' mn' mx') _ _ _ _ rfl rfl).trans ?_
      simp only [cmpFlat, tag, Bool.and_eq_true, decide_eq_true_eq, ne_eq, not_true_eq_false, ↓reduceIte]
    | _ => cases Option.some.inj hs; rfl
  · rw [beq_false_of_ne ht, Bool.and_false, cmpFlat_tag_ne a b ht]
    simp [hfb]

/-- an `Equals` with the body of its kind computes `eqFlat` -/
theorem runEq_of_scheme (e : EqBody) (a b : Value) (h : eqScheme (ctorOf a) = some e) :
    runEq e a b = some (eqFlat a b) := by
  by_cases ht : tag a = tag b
  · induction a, b, ht using tag_eq_cases with
    | list | map | imap => cases h
    | text x y =>
      -- the IR reads `==` on strings as `strings.Compare … == 0`
      cases Option.some.inj h
      exact congrArg some (Bool.eq_iff_iff.mpr ((beq_iff_eq.trans (cmpStr_zero x y)).trans beq_iff_eq.symm))
    | _ => cases Option.some.inj h; rfl
  · rw [eqFlat_tag_ne a b ht]
    have hb : (tag a == tag b) = false := beq_false_of_ne ht
    cases e with
    | unknownE w => cases a <;> cases h
    | _ => simp [runEq, hb]

end IR
end Value
