/-
  Golib.Value.CmpIR — a small IR for the bodies of `Equals` / `CompareTo` of the flat value types
  as `xlate/c20` transcribes them from the Go source, with its semantics.

  A flat `CompareTo` is  `if o != nil && sameType { body }` followed by the type fallback; `body`
  is a sequence of `if cond { return k }`, `if cond { return k1 } else { return k2 }`, `return k`,
  `return compare.H(this.F, that.F)`.  Conditions compare one field of `this` with the same field
  of `that` (`==`, `<`), test a boolean field, or conjoin.  The semantics reads a field of a model
  `Value` (float fields by IEEE comparison on the bit patterns, strings bytewise) and interprets
  the helper names by the model of util/compare.
-/
import Golib.Value.Codes
import Golib.Value.Cmp

namespace Value
namespace IR

inductive Cond where
  | eq (f : String) | lt (f : String) | isTrue (f : String) | and (a b : Cond) | unknownC (why : String)
deriving Repr

inductive Stmt where
  | ifRet (c : Cond) (k : Int) | ifElse (c : Cond) (k1 k2 : Int) | ret (k : Int)
  | retHelper (h f : String) | unknownS (why : String)
deriving Repr

structure FlatCmp where
  guard : Bool          -- the body is guarded by `o != nil && o.GetValueType() == this.GetValueType()`
  body : List Stmt
  nilRet : Int          -- result for a nil argument (outside the model)
  fallback : String     -- "intSub": int(a) - int(b);  "byteSub": int(a - b) on bytes (D05)
deriving Repr

inductive EqBody where
  | cond (c : Cond) | helper (h f : String) | sameType | unknownE (why : String)
deriving Repr

/-- `this.F == that.F` and `this.F < that.F` for two values of one type -/
def fieldRel (a b : Value) (f : String) : Option (Bool × Bool) :=
  match a, b, f with
  | .bool x, .bool y, "Val" => some (x == y, false)
  | .dec x, .dec y, "Val" => some (decide (x = y), decide (x < y))
  | .int x, .int y, "Val" => some (decide (x = y), decide (x < y))
  | .long x, .long y, "Val" => some (decide (x = y), decide (x < y))
  | .hash x, .hash y, "Val" => some (decide (x = y), decide (x < y))
  | .f32 x, .f32 y, "Val" => some (eq32 x y, lt32 x y)
  | .f64 x, .f64 y, "Val" => some (eq64 x y, lt64 x y)
  | .text x, .text y, "Val" => some (cmpStr x y == 0, decide (cmpStr x y < 0))
  | .dsum s _ _ _, .dsum s' _ _ _, "Sum" => some (eq64 s s', lt64 s s')
  | .dsum _ c _ _, .dsum _ c' _ _, "Count" => some (decide (c = c'), decide (c < c'))
  | .lsum s _ _ _, .lsum s' _ _ _, "Sum" => some (decide (s = s'), decide (s < s'))
  | .lsum _ c _ _, .lsum _ c' _ _, "Count" => some (decide (c = c'), decide (c < c'))
  | _, _, _ => none

def fieldTrue (a : Value) (f : String) : Option Bool :=
  match a, f with
  | .bool x, "Val" => some x
  | _, _ => none

/-- the slice helpers of util/compare, by name -/
def helperCmp (h f : String) (a b : Value) : Option Int :=
  match h, f, a, b with
  | "CompareToBytes", "Val", .blob x, .blob y => some (cmpSeq ltNat x y)
  | "CompareToBytes", "Val", .ip4 x, .ip4 y => some (cmpSeq ltNat x y)
  | "CompareToInts", "Val", .ai x, .ai y => some (cmpSeq ltInt x y)
  | "CompareToLongs", "Val", .al x, .al y => some (cmpSeq ltInt x y)
  | "CompareToFloats", "Val", .af x, .af y => some (cmpSeq lt32 x y)
  | "CompareToStrings", "Val", .at x, .at y => some (cmpStrs x y)
  | _, _, _, _ => none

def helperEq (h f : String) (a b : Value) : Option Bool :=
  match h with
  | "EqualBytes" => (helperCmp "CompareToBytes" f a b).map (· == 0)
  | "EqualInts" => (helperCmp "CompareToInts" f a b).map (· == 0)
  | "EqualLongs" => (helperCmp "CompareToLongs" f a b).map (· == 0)
  | "EqualFloats" => (helperCmp "CompareToFloats" f a b).map (· == 0)
  | "EqualStrings" => (helperCmp "CompareToStrings" f a b).map (· == 0)
  | _ => none

def evalCond (a b : Value) : Cond → Option Bool
  | .eq f => (fieldRel a b f).map (·.1)
  | .lt f => (fieldRel a b f).map (·.2)
  | .isTrue f => fieldTrue a f
  | .and c d => match evalCond a b c, evalCond a b d with
    | some x, some y => some (x && y)
    | _, _ => none
  | .unknownC _ => none

def runBody (a b : Value) : List Stmt → Option Int
  | [] => none
  | .ifRet c k :: rest => match evalCond a b c with
    | some true => some k
    | some false => runBody a b rest
    | none => none
  | .ifElse c k1 k2 :: _ => (evalCond a b c).map (fun t => if t then k1 else k2)
  | .ret k :: _ => some k
  | .retHelper h f :: _ => helperCmp h f a b
  | .unknownS _ :: _ => none

/-- the whole `CompareTo` of a flat type on two (non-nil) values -/
def runCmp (fc : FlatCmp) (a b : Value) : Option Int :=
  if fc.guard && tag a == tag b then runBody a b fc.body
  else if fc.fallback == "intSub" then some ((tag a : Int) - (tag b : Int))
  else none

/-- the whole `Equals` of a flat type -/
def runEq (e : EqBody) (a b : Value) : Option Bool :=
  match e with
  | .sameType => some (tag a == tag b)
  | .cond c => if tag a == tag b then evalCond a b c else some false
  | .helper h f => if tag a == tag b then helperEq h f a b else some false
  | .unknownE _ => none

def lookup {α : Type} (tbl : List (String × α)) (name : String) : Option α :=
  (tbl.find? (fun e => e.1 == name)).map (·.2)

/-! ### golden skeletons of the container methods and the slice helpers (CmpIRC.lean interprets both) -/

/-- the three container types: what each method does, in source order -/
def containerSkeletons : List (String × List String) :=
  [("IntMapValue.CompareTo", ["nil→0", "type≠→intSub", "size≠→diff", "loop", "assert:plain:this", "assert:commaok:that", "missing→1", "recurse:CompareTo", "nonzero→c", "end→0"]),
   ("IntMapValue.Equals", ["nil-or-type≠→false", "size≠→false", "loop", "assert:plain:this", "assert:commaok:that", "missing→false", "unequal→false", "recurse:Equals", "end→true"]),
   ("ListValue.CompareTo", ["nil→0", "type≠→intSub", "size≠→diff", "loop", "assert:plain:this", "assert:plain:that", "missing→1", "recurse:CompareTo", "nonzero→c", "end→0"]),
   ("ListValue.Equals", ["nil-or-type≠→false", "size≠→false", "loop", "assert:plain:this", "assert:plain:that", "missing→false", "unequal→false", "recurse:Equals", "end→true"]),
   ("MapValue.CompareTo", ["nil→0", "type≠→intSub", "size≠→diff", "loop", "assert:plain:this", "assert:commaok:that", "missing→1", "recurse:CompareTo", "nonzero→c", "end→0"]),
   ("MapValue.Equals", ["nil-or-type≠→false", "size≠→false", "loop", "assert:plain:this", "assert:commaok:that", "missing→false", "unequal→false", "recurse:Equals", "end→true"])]

/-- util/compare: the loop of every slice helper (`lexBy (cmpOf lt)`: first `>` gives 1, first `<`
    gives -1, then the length difference; no nil special case, no other shortcut) -/
def helperSkeletons : List (String × List String) :=
  [("CompareToBytes", ["loop", "gt→1", "lt→-1", "end→len-diff"]),
   ("CompareToDoubles", ["loop", "gt→1", "lt→-1", "end→len-diff"]),
   ("CompareToFloats", ["loop", "gt→1", "lt→-1", "end→len-diff"]),
   ("CompareToInts", ["loop", "gt→1", "lt→-1", "end→len-diff"]),
   ("CompareToLongs", ["loop", "gt→1", "lt→-1", "end→len-diff"]),
   ("CompareToShorts", ["loop", "gt→1", "lt→-1", "end→len-diff"]),
   ("CompareToStrings", ["loop", "strings.Compare", "nonzero→rt", "end→len-diff"]),
   ("EqualBytes", ["call:CompareToBytes", "end→==0"]),
   ("EqualDoubles", ["call:CompareToDoubles", "end→==0"]),
   ("EqualFloats", ["call:CompareToFloats", "end→==0"]),
   ("EqualInts", ["call:CompareToInts", "end→==0"]),
   ("EqualLongs", ["call:CompareToLongs", "end→==0"]),
   ("EqualShorts", ["call:CompareToShorts", "end→==0"]),
   ("EqualStrings", ["call:CompareToStrings", "end→==0"])]

end IR
end Value
