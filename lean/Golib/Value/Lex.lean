/-
  Golib.Value.Lex — order laws of the comparison loop `lexBy` (first non-zero element comparison,
  then the length difference), stated on signs so that they compose through nesting.

    AS p q      p and q are the two directions of one comparison (signs reversed)
    Tr p q r    p = c a b, q = c b c', r = c a c' behave transitively (≤, <, and = parts)

  Both speak of signs only.  An element comparison whose sign is that of a difference of integer
  keys satisfies both (`AS.of_diff`, `Tr.of_diff`); "first non-zero decides" preserves both
  (`AS.step`, `Tr.step`), which is the whole content of the laws of `lexBy`.
-/
import Golib.Value.Cmp

namespace Value

/-- `p = cmp a b` and `q = cmp b a` have opposite signs -/
def AS (p q : Int) : Prop := (p < 0 ↔ 0 < q) ∧ (p = 0 ↔ q = 0)

/-- `p = cmp a b`, `q = cmp b c`, `r = cmp a c` are transitive on signs -/
def Tr (p q r : Int) : Prop :=
  (p ≤ 0 → q ≤ 0 → r ≤ 0) ∧ (p < 0 → q ≤ 0 → r < 0) ∧ (p ≤ 0 → q < 0 → r < 0) ∧ (p = 0 → q = 0 → r = 0)

theorem AS.pos {p q : Int} (h : AS p q) : 0 < p ↔ q < 0 := by
  obtain ⟨h1, h2⟩ := h; omega

theorem AS.symm {p q : Int} (h : AS p q) : AS q p := by
  obtain ⟨h1, h2⟩ := h; constructor <;> omega

theorem AS_sgn {p q : Int} : AS p q ↔ sgn p = - sgn q := by
  unfold AS sgn
  split <;> split <;> (try split) <;> (try split) <;> omega

theorem AS_neg (x y : Int) : AS (x - y) (y - x) := by unfold AS; omega

theorem sgn_neg_iff (x : Int) : sgn x < 0 ↔ x < 0 := by unfold sgn; split <;> (try split) <;> omega
theorem sgn_zero_iff (x : Int) : sgn x = 0 ↔ x = 0 := by unfold sgn; split <;> (try split) <;> omega
theorem sgn_pos_iff (x : Int) : 0 < sgn x ↔ 0 < x := by unfold sgn; split <;> (try split) <;> omega
theorem sgn_le_iff (x : Int) : sgn x ≤ 0 ↔ x ≤ 0 := by unfold sgn; split <;> (try split) <;> omega

theorem AS_sgn_sgn {p q : Int} : AS (sgn p) (sgn q) ↔ AS p q := by
  simp only [AS, sgn_neg_iff, sgn_pos_iff, sgn_zero_iff]

theorem Tr_sgn {p q r : Int} : Tr (sgn p) (sgn q) (sgn r) ↔ Tr p q r := by
  simp only [Tr, sgn_neg_iff, sgn_zero_iff, sgn_le_iff]

/-- `Tr` looks at signs only -/
theorem Tr.of_sgn {p q r p' q' r' : Int} (h : Tr p q r) (hp : sgn p' = sgn p) (hq : sgn q' = sgn q)
    (hr : sgn r' = sgn r) : Tr p' q' r' := by
  rw [← Tr_sgn, hp, hq, hr, Tr_sgn]; exact h

theorem AS_negate {p q : Int} (h : AS p q) : AS (-p) (-q) := by
  unfold AS at *; omega

/-! ### comparisons by an integer key

`AS p d` with `d = k y - k x` says that `p` has the sign of `k x - k y`: `p` compares the keys of
`x` and `y`.  Such comparisons satisfy both laws because the differences add up. -/

theorem AS.of_diff {p q d d' : Int} (hp : AS p d) (hq : AS q d') (hd : d + d' = 0) : AS p q := by
  unfold AS at *; omega

theorem Tr.of_diff {p q r d₁ d₂ d₃ : Int} (hp : AS p d₁) (hq : AS q d₂) (hr : AS r d₃)
    (hd : d₃ = d₁ + d₂) : Tr p q r := by
  unfold AS at *
  refine ⟨?_, ?_, ?_, ?_⟩ <;> omega

/-- reversing both sides of a reversal -/
theorem AS.conj {P Q p q : Int} (hP : AS P p) (hQ : AS Q q) (h : AS p q) : AS P Q := by
  unfold AS at *; omega

theorem Tr.swap {p q r : Int} (h : Tr p q r) : Tr q p r :=
  ⟨fun a b => h.1 b a, fun a b => h.2.2.1 b a, fun a b => h.2.1 b a, fun a b => h.2.2.2 b a⟩

/-- `P` compares as `p'` does when `p` is the reverse of both -/
theorem AS.sgn_eq {P p p' : Int} (h1 : AS P p) (h2 : AS p p') : sgn P = sgn p' := by
  rw [AS_sgn.mp h1, AS_sgn.mp h2, Int.neg_neg]

/-! ### a comparison that orders by a numeric key first (type code, length) and gives the
    difference of the keys when they differ obeys the laws if it does among equal keys -/

theorem AS.by_key (x y : Nat) {p q : Int} (hp : x ≠ y → p = (x : Int) - y) (hq : y ≠ x → q = (y : Int) - x)
    (h : x = y → AS p q) : AS p q := by
  by_cases e : x = y
  · exact h e
  · rw [hp e, hq (Ne.symm e)]; exact AS_neg _ _

theorem Tr.by_key (x y z : Nat) {p q r : Int} (hp : x ≠ y → p = (x : Int) - y)
    (hq : y ≠ z → q = (y : Int) - z) (hr : x ≠ z → r = (x : Int) - z) (h : x = y → y = z → Tr p q r) :
    Tr p q r := by
  by_cases e1 : x = y
  · by_cases e2 : y = z
    · exact h e1 e2
    · rw [hq e2, hr (e1 ▸ e2)]; unfold Tr; omega
  · by_cases e2 : y = z
    · rw [hp e1, hr (e2 ▸ e1)]; unfold Tr; omega
    · rw [hp e1, hq e2]; unfold Tr
      by_cases e3 : x = z
      · omega
      · rw [hr e3]; omega

/-- the containers compare by size first -/
theorem AS.by_size (x y : Nat) {p q : Int} (h : x = y → AS p q) :
    AS (if x ≠ y then (x : Int) - y else p) (if y ≠ x then (y : Int) - x else q) :=
  AS.by_key x y (fun e => if_pos e) (fun e => if_pos e) fun e => by
    rw [if_neg (not_not_intro e), if_neg (not_not_intro e.symm)]; exact h e

theorem Tr.by_size (x y z : Nat) {p q r : Int} (h : x = y → y = z → Tr p q r) :
    Tr (if x ≠ y then (x : Int) - y else p) (if y ≠ z then (y : Int) - z else q)
      (if x ≠ z then (x : Int) - z else r) :=
  Tr.by_key x y z (fun e => if_pos e) (fun e => if_pos e) (fun e => if_pos e) fun e1 e2 => by
    rw [if_neg (not_not_intro e1), if_neg (not_not_intro e2), if_neg (not_not_intro (e1.trans e2))]; exact h e1 e2

theorem AS.step {p q p' q' : Int} (h : AS p q) (h' : AS p' q') :
    AS (if p ≠ 0 then p else p') (if q ≠ 0 then q else q') := by
  by_cases hp : p = 0
  · have hq := h.2.mp hp
    simp only [hp, hq, ne_eq, not_true_eq_false, ite_false]; exact h'
  · have hq : q ≠ 0 := fun e => hp (h.2.mpr e)
    simp only [hp, hq, ne_eq, not_false_eq_true, ite_true]; exact h

/-- if the first two heads are both zero so is the third and the tails decide; otherwise the
    heads decide whatever the tails are -/
theorem Tr.step {p q r p' q' r' : Int} (h : Tr p q r) (h' : Tr p' q' r') :
    Tr (if p ≠ 0 then p else p') (if q ≠ 0 then q else q') (if r ≠ 0 then r else r') := by
  by_cases hp : p = 0 <;> by_cases hq : q = 0
  · have hr := h.2.2.2 hp hq
    simp only [hp, hq, hr, ne_eq, not_true_eq_false, ite_false]
    exact h'
  all_goals
    clear h'
    simp only [hp, hq, ne_eq, not_true_eq_false, not_false_eq_true, ite_false, ite_true]
    unfold Tr at *
    split <;> omega

theorem lexBy_nil_left (c : α → β → Int) (ys : List β) : lexBy c [] ys = -(ys.length : Int) := by
  cases ys <;> rfl

theorem lexBy_nil_right (c : α → β → Int) (xs : List α) : lexBy c xs [] = (xs.length : Int) := by
  cases xs <;> simp [lexBy]

/-- position-wise: only elements at the same index are ever compared -/
theorem lexBy_AS_idx (c : α → β → Int) (c' : β → α → Int) (xs : List α) (ys : List β)
    (h : ∀ i (h1 : i < xs.length) (h2 : i < ys.length), AS (c xs[i] ys[i]) (c' ys[i] xs[i])) :
    AS (lexBy c xs ys) (lexBy c' ys xs) := by
  induction xs generalizing ys with
  | nil => rw [lexBy_nil_left, lexBy_nil_right]; unfold AS; omega
  | cons x xs ih =>
    cases ys with
    | nil => rw [lexBy_nil_left, lexBy_nil_right]; unfold AS; simp only [List.length_cons]; omega
    | cons y ys =>
      exact (h 0 (Nat.zero_lt_succ _) (Nat.zero_lt_succ _)).step
        (ih ys fun i h1 h2 => h (i + 1) (Nat.succ_lt_succ h1) (Nat.succ_lt_succ h2))

theorem lexBy_AS (c : α → β → Int) (c' : β → α → Int) (xs : List α) (ys : List β)
    (h : ∀ x ∈ xs, ∀ y ∈ ys, AS (c x y) (c' y x)) : AS (lexBy c xs ys) (lexBy c' ys xs) :=
  lexBy_AS_idx c c' xs ys (fun _ h1 h2 => h _ (List.getElem_mem h1) _ (List.getElem_mem h2))

theorem lexBy_Tr_idx (c₁ : α → β → Int) (c₂ : β → γ → Int) (c₃ : α → γ → Int)
    (xs : List α) (ys : List β) (zs : List γ)
    (h : ∀ i (h1 : i < xs.length) (h2 : i < ys.length) (h3 : i < zs.length),
      Tr (c₁ xs[i] ys[i]) (c₂ ys[i] zs[i]) (c₃ xs[i] zs[i])) :
    Tr (lexBy c₁ xs ys) (lexBy c₂ ys zs) (lexBy c₃ xs zs) := by
  induction xs generalizing ys zs with
  | nil =>
    -- an empty list is below everything
    cases ys <;> cases zs <;>
      simp only [lexBy_nil_left, lexBy_nil_right, List.length_cons, List.length_nil, Tr] <;> omega
  | cons x xs ih =>
    cases ys with
    | nil => rw [lexBy_nil_right, lexBy_nil_left]; unfold Tr; simp only [List.length_cons]; omega
    | cons y ys =>
      cases zs with
      | nil => rw [lexBy_nil_right, lexBy_nil_right]; unfold Tr; simp only [List.length_cons]; omega
      | cons z zs =>
        exact (h 0 (Nat.zero_lt_succ _) (Nat.zero_lt_succ _) (Nat.zero_lt_succ _)).step
          (ih ys zs fun i h1 h2 h3 =>
            h (i + 1) (Nat.succ_lt_succ h1) (Nat.succ_lt_succ h2) (Nat.succ_lt_succ h3))

theorem lexBy_Tr (c₁ : α → β → Int) (c₂ : β → γ → Int) (c₃ : α → γ → Int)
    (xs : List α) (ys : List β) (zs : List γ)
    (h : ∀ x ∈ xs, ∀ y ∈ ys, ∀ z ∈ zs, Tr (c₁ x y) (c₂ y z) (c₃ x z)) :
    Tr (lexBy c₁ xs ys) (lexBy c₂ ys zs) (lexBy c₃ xs zs) :=
  lexBy_Tr_idx c₁ c₂ c₃ xs ys zs (fun _ h1 h2 h3 =>
    h _ (List.getElem_mem h1) _ (List.getElem_mem h2) _ (List.getElem_mem h3))

/-- the loop says "equal" exactly when the lists have the same length and no position decides -/
theorem lexBy_eq_zero_idx (c : α → β → Int) (xs : List α) (ys : List β) :
    lexBy c xs ys = 0 ↔ xs.length = ys.length ∧
      ∀ i (h1 : i < xs.length) (h2 : i < ys.length), c xs[i] ys[i] = 0 := by
  fun_induction lexBy c xs ys with
  | case1 ys => cases ys <;> simp <;> omega
  | case2 x xs => simp; omega
  | case3 x xs y ys hxy =>
    exact ⟨fun e => absurd e hxy, fun hp => absurd (hp.2 0 (Nat.zero_lt_succ _) (Nat.zero_lt_succ _)) hxy⟩
  | case4 x xs y ys hxy ih =>
    rw [ih]; simp only [List.length_cons, Nat.add_right_cancel_iff]
    refine and_congr_right fun _ => ⟨fun hp i h1 h2 => ?_, fun hp i h1 h2 =>
      hp (i + 1) (Nat.succ_lt_succ h1) (Nat.succ_lt_succ h2)⟩
    cases i with
    | zero => exact Decidable.not_not.mp hxy
    | succ i => exact hp i (Nat.lt_of_succ_lt_succ h1) (Nat.lt_of_succ_lt_succ h2)

/-- an element comparison that is zero on equal elements only makes the loop so -/
theorem lexBy_eq_zero_iff_eq (c : α → α → Int) (hc : ∀ x y, c x y = 0 ↔ x = y) (xs ys : List α) :
    lexBy c xs ys = 0 ↔ xs = ys := by
  rw [lexBy_eq_zero_idx]
  constructor
  · intro ⟨hl, hp⟩; exact List.ext_getElem hl fun i h1 h2 => (hc _ _).mp (hp i h1 h2)
  · intro h; subst h; exact ⟨rfl, fun i _ _ => (hc _ _).mpr rfl⟩

end Value
