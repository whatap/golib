/-
  Golib.Step.Reuse — decoding into an object that already holds something, and histories of it.

  A Go `Read` assigns fields of an EXISTING object.  `L.readInto o` is that: the fields the reader
  assigns (the environment `L.read` builds) laid over the object `o`; every other field of `o`
  stays.  For a well-formed encoding the result is known exactly (`readInto_roundtrip`):

      result nm = value written      if the reader assigns nm for this record (`assigned`)
      result nm = o nm               otherwise — an absent optional section, a field of another
                                     version, any name the layout does not mention (frame)

  and a whole history — records decoded one after another into the same object from one stream — is
  the left fold of that (`L.afterAll`; the theorems about it are C08's `readinto_history`, `history_*`).

  `ProfilePack.Read` does NOT decode its transaction record into the one the pack already holds: it
  builds a fresh `TxRecord` (`this.Transaction = service.NewTxRecord().Read(din)`).
  `profilePackReadInto` models that and `profilepack_transaction_fresh` states it: no field of the
  previous transaction survives, whatever the new record carries.
-/
import Golib.Step.Stream
import Golib.Step.TxRecord

namespace Step
open Prim

/-- the fields assigned by a reader, laid over an existing object -/
def Env.over (e : Env) (o : Rec) : Rec := fun nm =>
  match e.lookup nm with
  | some v => v
  | none => o nm

theorem Env.over_of_not_mem (e : Env) (o : Rec) (nm : String) (h : nm ∉ e.map (·.1)) : e.over o nm = o nm := by
  simp only [Env.over, lookup_none_of_not_mem e nm h]

theorem Env.over_of_mem (e : Env) (o o' : Rec) (nm : String) (h : nm ∈ e.map (·.1)) :
    e.over o nm = e.over o' nm := by
  obtain ⟨p, hp, rfl⟩ := List.mem_map.1 h
  obtain ⟨v, hv⟩ := Option.isSome_iff_exists.1 (List.lookup_isSome_iff.2 ⟨p, hp, beq_self_eq_true _⟩)
  simp only [Env.over, hv]

/-- `obj.Read(in)` on an existing object -/
def L.readInto (l : L) (o : Rec) : D Rec := fun bs =>
  match l.read [] bs with
  | none => none
  | some (e, r) => some (e.over o, r)

/-- the names the reader assigns when it reads the encoding of `x` -/
def L.assigned (l : L) (x : Rec) : List String := (l.expect x []).map (·.1)

/-- decoding the encoding of `x` into the object `o`: exactly the assigned fields over `o`, exactly the
    record's bytes consumed -/
theorem L.readInto_roundtrip (V : ValueRT) (l : L) (o x : Rec) (h : l.WF V x []) :
    (l.readInto o).Reads (l.write x) ((l.expect x []).over o) := fun r => by
  simp only [L.readInto, L.roundtrip V l x [] r h]

/-- a name the layout does not mention is never assigned (whatever the record) -/
theorem L.expect_lookup_other (l : L) (x : Rec) (e : Env) (nm : String) (h : nm ∉ l.names) :
    (l.expect x e).lookup nm = e.lookup nm := by
  -- along `L.expect` (cases in the order of its equations; `fields` comes twice, with and without entries)
  fun_induction L.expect l x e <;> simp only [L.names, List.mem_cons, List.mem_append, not_or] at h
  case case1 => rfl
  case case2 ih => rw [ih h.2, lookup_cons_ne h.1]
  case case3 ih => exact ih h
  case case4 ih1 ih2 ihr =>
    rw [ihr h.2]
    split
    · exact ih1 h.1.1
    · split
      · exact ih2 h.1.2
      · rfl
  case case5 ihb ihr => rw [ihr h.2]; split; exact ihb h.1; rfl
  case case6 ih => rw [ih h.2, lookup_cons_ne h.1]
  case case7 body attr rest x e ihb ihr =>
    rw [ihr h.2]
    cases attr with
    | none => exact ihb h.1.1
    | some a =>
      simp only [attrEnv]
      cases (x a).toMap with
      | none => exact ihb h.1.1
      | some kvs => rw [mapEnv, lookup_cons_ne (by simpa using h.1.2)]; exact ihb h.1.1
  case case8 ih => rw [ih h.2, lookup_cons_ne h.1]
  case case9 ih => exact ih h.2
  case case10 ihb ihr => rw [ihr h.2]; split; exact ihb h.1; rfl
  case case11 ih => exact ih h

def writeSeq (l : L) : List Rec → Bytes
  | [] => []
  | x :: xs => l.write x ++ writeSeq l xs

/-- `n` times `obj.Read(in)` on the same object and the same input -/
def L.readIntoSeq (l : L) : Nat → Rec → D Rec
  | 0, o => D.pure o
  | n+1, o => D.bind (l.readInto o) (fun o' => l.readIntoSeq n o')

/-- the object after the history: the left fold of "assigned fields over the object" -/
def L.afterAll (l : L) (o : Rec) (xs : List Rec) : Rec := xs.foldl (fun o x => (l.expect x []).over o) o

/-- a freshly constructed object of a layout: every field its zero value -/
def zeroOf (l : L) : Rec := fun nm =>
  match l.fieldShapes.lookup nm with
  | some s => s.zero
  | none => .i 0

/-- a whole history: the records decoded one after another into the same object from one stream leave the
    left fold of "assigned fields over the object" -/
theorem L.readIntoSeq_roundtrip (V : ValueRT) (l : L) (xs : List Rec) (o : Rec) (h : ∀ x ∈ xs, l.WF V x []) :
    (l.readIntoSeq xs.length o).Reads (writeSeq l xs) (l.afterAll o xs) := by
  induction xs generalizing o with
  | nil => exact .pure o
  | cons x xs ih =>
    exact (L.readInto_roundtrip V l o x (h x (by simp))).bind (ih _ fun y hy => h y (by simp [hy]))

/-- `ProfilePack.Read` on an existing pack: `Steps` is assigned; the transaction is
    `service.NewTxRecord().Read(din)` — a new record, not the one the pack held -/
def profilePackReadInto (o : Rec) : D Rec := fun bs =>
  match profilePackBody.read [] bs with
  | none => none
  | some (e, r) => some ((fun nm => if nm ∈ txRecord.names then e.over (zeroOf txRecord) nm else e.over o nm), r)

theorem profilePackReadInto_roundtrip (V : ValueRT) (o x : Rec) (r : Bytes) (h : profilePackBody.WF V x []) :
    profilePackReadInto o (profilePackBody.write x ++ r) =
      some ((fun nm => if nm ∈ txRecord.names then (profilePackBody.expect x []).over (zeroOf txRecord) nm
                       else (profilePackBody.expect x []).over o nm), r) := by
  simp only [profilePackReadInto, L.roundtrip V profilePackBody x [] r h]

/-- no field of the transaction the pack held before survives a `Read`, whatever the new record
    carries: the result on the transaction's fields does not depend on the previous object -/
theorem profilepack_transaction_fresh (V : ValueRT) (o o' x : Rec) (r : Bytes) (h : profilePackBody.WF V x [])
    (p p' : Rec) (hp : profilePackReadInto o (profilePackBody.write x ++ r) = some (p, r))
    (hp' : profilePackReadInto o' (profilePackBody.write x ++ r) = some (p', r)) :
    ∀ nm ∈ txRecord.names, p nm = p' nm := by
  rw [profilePackReadInto_roundtrip V o x r h] at hp
  rw [profilePackReadInto_roundtrip V o' x r h] at hp'
  simp only [Option.some.injEq, Prod.mk.injEq, and_true] at hp hp'
  intro nm hnm
  rw [← hp, ← hp']
  simp only [hnm, if_true]

end Step
