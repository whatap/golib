/-
  Golib.Step.Prefix — truncated step streams.

  A reader that meets tagged values only INSIDE a blob (all layouts of this property: the nine
  registered step types and the services have none; TxRecord, MessageStepX and the ProfilePack body
  keep theirs in a length-prefixed blob, which is taken whole before its content is looked at) is a
  program of the decoder monad `P`, so `P.prefix_fails` applies:
  a reader that consumes `q ++ a` completely refuses `q` (`L.read_prefix_fails`), so a strict prefix of
  one step never decodes.  Lifted to streams: reading a strict prefix of
  `ToBytesStep steps` until the input is used up either fails or returns a strict prefix of the steps
  (exactly the steps that fit completely) — never a wrong or fabricated step.
-/
import Golib.Step.Stream

namespace Step
open Prim

def L.pReadable : L → Bool
  | .nil => true
  | .fld _ _ rest => rest.pReadable
  | .lit _ _ rest => rest.pReadable
  | .sw _ c1 c2 rest => c1.pReadable && c2.pReadable && rest.pReadable
  | .opt _ _ _ body _ rest => body.pReadable && rest.pReadable
  | .dflt _ _ _ _ rest => rest.pReadable
  | .wrap _ _ rest => rest.pReadable     -- the body is read from the (complete) blob: any layout
  | .fields _ _ => false
  | .bit _ _ body rest => body.pReadable && rest.pReadable
  | .ver _ _ rest => rest.pReadable

def readFlatP : List (String × Kind) → Env → P Env
  | [], e => .pure e
  | (nm, k) :: fs, e => P.bind k.decP (fun v => readFlatP fs ((nm, v) :: e))

/-- the reader as a program of `P` (meaningful for value-free layouts) -/
def L.readP : L → Env → P Env
  | .nil, e => .pure e
  | .fld nm k rest, e => P.bind k.decP (fun v => rest.readP ((nm, v) :: e))
  | .lit k _ rest, e => P.bind k.decP (fun _ => rest.readP e)
  | .sw nm c1 c2 rest, e =>
    P.bind (if (e.get nm).toInt = 1 then c1.readP e else if (e.get nm).toInt = 2 then c2.readP e else .pure e)
      (fun e' => rest.readP e')
  | .opt flag anyPos _ body alts rest, e =>
    P.bind (rdU 1) (fun b =>
      P.bind (if b == flag || (anyPos && decide (0 < b)) then body.readP e
              else match alts.lookup b with
                | some fs => readFlatP fs e
                | none => .pure e)
        (fun e' => rest.readP e'))
  | .dflt nm k cond d rest, e => P.bind k.decP (fun v => rest.readP ((nm, dfl v (e.get cond) d) :: e))
  | .wrap body attr rest, e =>
    P.bind decBlob (fun bs =>
      match body.read e bs with
      | none => .fail
      | some (e', r') =>
        match readAttr attr e' r' with
        | none => .fail
        | some e'' => rest.readP e'')
  | .fields _ _, _ => .fail
  | .bit nm mask body rest, e =>
    P.bind (if bitSet (e.get nm) mask then body.readP e else .pure e) (fun e' => rest.readP e')
  | .ver min _ rest, e => P.bind (rdU 1) (fun b => if b < min then .fail else rest.readP e)

theorem ofP_readFlatP (fs : List (String × Kind)) (e : Env) : D.ofP (readFlatP fs e) = readFlat fs e := by
  induction fs generalizing e with
  | nil => rfl
  | cons p fs ih => simp only [readFlatP, readFlat, D.ofP_bind, ih]; rfl

/-- the `P` program denotes the reader.  Stated as an equality of decoders, so that the induction hypotheses
    rewrite under the binders of a `bind`; `D.ofP` commutes with `bind` and `if` -/
theorem L.ofP_readP (l : L) (hv : l.pReadable = true) (e : Env) : D.ofP (l.readP e) = l.read e := by
  induction l generalizing e with
  | nil => rfl
  | fld nm k rest ih => simp only [L.readP, L.read, D.ofP_bind, ih hv]; rfl
  | lit k v rest ih => simp only [L.readP, L.read, D.ofP_bind, ih hv]; rfl
  | sw nm c1 c2 rest ih1 ih2 ihr =>
    simp only [L.pReadable, Bool.and_eq_true] at hv
    simp only [L.readP, L.read, D.ofP_bind, apply_ite D.ofP, ih1 hv.1.1, ih2 hv.1.2, ihr hv.2]; rfl
  | opt flag anyPos cond body alts rest ihb ihr =>
    simp only [L.pReadable, Bool.and_eq_true] at hv
    simp only [L.readP, L.read, D.ofP_bind, apply_ite D.ofP, ihb hv.1, ihr hv.2]
    congr; funext b; congr
    cases alts.lookup b with
    | none => rfl
    | some fs => exact ofP_readFlatP fs e
  | dflt nm k cond d rest ih => simp only [L.readP, L.read, D.ofP_bind, ih hv]; rfl
  | wrap body attr rest _ ihr =>
    simp only [L.readP, L.read, D.ofP_bind]
    congr; funext blob
    cases body.read e blob with
    | none => rfl
    | some ar =>
      obtain ⟨e', r'⟩ := ar
      cases h : readAttr attr e' r' with
      | none => simp only [h]; rfl
      | some e'' => simp only [h]; exact ihr hv _
  | fields nm rest ih => cases hv
  | bit nm mask body rest ihb ihr =>
    simp only [L.pReadable, Bool.and_eq_true] at hv
    simp only [L.readP, L.read, D.ofP_bind, apply_ite D.ofP, ihb hv.1, ihr hv.2]; rfl
  | ver min v rest ih => simp only [L.readP, L.read, D.ofP_bind, apply_ite D.ofP, ih hv]; rfl

/-- `ReadStep` / `service.ToObject` as a program of `P` -/
def readOneP (tbl : List (Nat × String × L)) : P (Nat × Env) :=
  P.bind (rdU 1) (fun t =>
    match lookupLayout tbl t with
    | none => .fail
    | some l => P.bind (l.readP []) (fun e => .pure (t, e)))

def tablePReadable (tbl : List (Nat × String × L)) : Bool := tbl.all (fun p => p.2.2.pReadable)

theorem lookupLayout_pReadable (tbl : List (Nat × String × L)) (h : tablePReadable tbl = true) (t : Nat) (l : L)
    (hl : lookupLayout tbl t = some l) : l.pReadable = true := by
  obtain ⟨n, hn⟩ := lookupLayout_some tbl t l hl
  exact List.all_eq_true.1 h _ (Golib.mem_of_lookup hn)

theorem readOneP_run (tbl : List (Nat × String × L)) (h : tablePReadable tbl = true) (bs : Bytes) :
    P.run (readOneP tbl) bs = readOne tbl bs := by
  refine congrFun (?_ : D.ofP (readOneP tbl) = readOne tbl) bs
  simp only [readOneP, readOne, D.ofP_bind]
  congr; funext t
  cases hl : lookupLayout tbl t with
  | none => rfl
  | some l => simp only [D.ofP_bind, L.ofP_readP l (lookupLayout_pReadable tbl h t l hl)]; rfl

/-- a reader that consumes `q ++ a` completely refuses the strict prefix `q`, wherever the bytes come from -/
theorem L.read_prefix_fails (l : L) (hp : l.pReadable = true) (e v : Env) (q a : Bytes) (ha : a ≠ [])
    (h : l.read e (q ++ a) = some (v, [])) : l.read e q = none := by
  rw [← L.ofP_readP l hp] at h ⊢
  exact P.prefix_fails (l.readP e) q a v ha h

theorem readOne_prefix_fails (tbl : List (Nat × String × L)) (hv : tablePReadable tbl = true) (v : Nat × Env)
    (q a : Bytes) (ha : a ≠ []) (h : readOne tbl (q ++ a) = some (v, [])) : readOne tbl q = none := by
  rw [← readOneP_run tbl hv] at h ⊢
  exact P.prefix_fails (readOneP tbl) q a v ha h

/-- a strict prefix of one tagged step (service record) never decodes -/
theorem tagged_prefix_fails (V : ValueRT) (tbl : List (Nat × String × L)) (hv : tablePReadable tbl = true)
    (s : Item) (h : s.ok V tbl) (q a : Bytes) (ha : a ≠ []) (hq : q ++ a = s.bytes) :
    readOne tbl q = none :=
  readOne_prefix_fails tbl hv _ q a ha (by simpa [hq] using tagged_roundtrip V tbl s h [])

theorem readAllF_prefix (V : ValueRT) (tbl : List (Nat × String × L)) (hv : tablePReadable tbl = true)
    (ss : List Item) : ∀ (q s : Bytes) (f : Nat) (acc : List (Nat × Env)), s ≠ [] → q ++ s = toBytesStep ss →
    q.length ≤ f → (∀ t ∈ ss, t.ok V tbl) →
    readAllF tbl f acc q = none ∨
    ∃ k, k < ss.length ∧ readAllF tbl f acc q = some (acc.reverse ++ (ss.take k).map Item.expected) := by
  induction ss with
  | nil =>
    intro q s f acc hs hq _ _
    simp only [toBytesStep, List.append_eq_nil_iff] at hq
    exact absurd hq.2 hs
  | cons s1 ss ih =>
    intro q s f acc hs hq hf hok
    cases q with
    | nil =>
      right
      refine ⟨0, by simp, ?_⟩
      cases f <;> simp [readAllF]
    | cons b q0 =>
      cases f with
      | zero => simp at hf
      | succ f =>
        simp only [toBytesStep] at hq
        -- q holds the whole first step (and c' more)
        have caseB : ∀ c', b :: q0 = s1.bytes ++ c' → c' ++ s = toBytesStep ss →
            readAllF tbl (f + 1) acc (b :: q0) = none ∨
            ∃ k, k < (s1 :: ss).length ∧
              readAllF tbl (f + 1) acc (b :: q0) = some (acc.reverse ++ ((s1 :: ss).take k).map Item.expected) := by
          intro c' h1 h2
          have hr := tagged_roundtrip V tbl s1 (hok s1 (by simp)) c'
          rw [← h1] at hr
          have step : readAllF tbl (f + 1) acc (b :: q0) = readAllF tbl f (s1.expected :: acc) c' := by
            simp only [readAllF, hr]
          rw [step]
          have hlen : c'.length ≤ f := by
            have := s1.bytes_length_pos
            have e : (b :: q0).length = s1.bytes.length + c'.length := by rw [h1]; simp
            simp only [List.length_cons] at e hf
            omega
          rcases ih c' s f (s1.expected :: acc) hs h2 hlen (fun t ht => hok t (by simp [ht])) with hn | ⟨k, hk, he⟩
          · left; exact hn
          · right
            refine ⟨k + 1, by simp only [List.length_cons]; omega, ?_⟩
            rw [he]; simp
        rcases List.append_eq_append_iff.mp hq with ⟨a', h1, h2⟩ | ⟨c', h1, h2⟩
        · by_cases ha : a' = []
          · subst ha
            exact caseB [] (by simpa using h1.symm) (by simpa using h2)
          · left
            have := tagged_prefix_fails V tbl hv s1 (hok s1 (by simp)) (b :: q0) a' ha h1.symm
            simp only [readAllF, this]
        · exact caseB c' h1 h2.symm

/-- a strict prefix of the encoding of one (untagged) record never decodes -/
theorem layout_prefix_fails (V : ValueRT) (l : L) (hp : l.pReadable = true) (x : Rec) (h : l.WF V x [])
    (q a : Bytes) (ha : a ≠ []) (hq : q ++ a = l.write x) : l.read [] q = none :=
  L.read_prefix_fails l hp [] _ q a ha (by simpa [hq] using L.roundtrip V l x [] [] h)

/-- reading a strict prefix of a step stream until the input is used up fails, or returns a strict
    prefix of the steps -/
theorem stream_prefix (V : ValueRT) (tbl : List (Nat × String × L)) (hv : tablePReadable tbl = true)
    (ss : List Item) (h : ∀ t ∈ ss, t.ok V tbl) (q s : Bytes) (hs : s ≠ []) (hq : q ++ s = toBytesStep ss) :
    readAll tbl q = none ∨ ∃ k, k < ss.length ∧ readAll tbl q = some ((ss.take k).map Item.expected) := by
  unfold readAll
  rcases readAllF_prefix V tbl hv ss q s q.length [] hs hq (Nat.le_refl _) h with hn | ⟨k, hk, he⟩
  · left; exact hn
  · right; exact ⟨k, hk, by simpa using he⟩

end Step
