/-
  Golib.Step.Interp — an interpretation of the regenerated skeletons (tie A).

  `parseW` reads the token list of a Go `Write` method as a layout, `parseR` the token list of a Go
  `Read` method; both work on the tokens alone (calls, declared field types, conversions,
  constants, control structure) and know nothing of the hand-written model.  A layout has a
  semantics (`L.write`, `L.read`), so the regenerated code is thereby *given a meaning in Lean*.

  A writer does not show what only the reader knows (which other presence bytes it accepts, the
  older sections, the version test, the defaulting of a field) and vice versa (constants,
  presence conditions); `L.wview` / `L.rview` are the two projections of a full layout.  The bridge:

      wview_write : l.wview.write x = l.write x        rview_read : l.rview.read e bs = l.read e bs

  for a layout with `l.viewOK = true` (the version constants are bytes; a section the reader only tests for
  `> 0` has a positive flag and no older variants); so when the two regenerated skeletons parse to the two views of one layout `T`
  (`Golib.Props.C08Gen`, by `decide`), the reader the reader-skeleton denotes round-trips what the
  writer the writer-skeleton denotes writes — for all field values (`interp_roundtrip`).
-/
import Golib.Step.Tok
import Golib.Step.Alt

namespace Step
open Prim

def kindW : String → String → Option Kind
  | "WriteByte", "byte" => some .u8
  | "WriteBool", "bool" => some .bool
  | "WriteInt", "int32" => some .i32
  | "WriteLong", "int64" => some .i64
  | "WriteDecimal", "int32" => some .dec32      -- WriteDecimal(int64(x)), x int32
  | "WriteDecimal", "int64" => some .dec64
  | "WriteBlob", "[]byte" => some .blob
  | "WriteText", "string" => some .text
  | "WriteIntArray", "[]int32" => some .intArr
  | _, _ => none

/-- reader call, declared type of the target field, conversion applied to the result -/
def kindR : String → String → String → Option Kind
  | "ReadByte", "byte", "" => some .u8
  | "ReadBool", "bool", "" => some .bool
  | "ReadInt", "int32", "" => some .i32
  | "ReadLong", "int64", "" => some .i64
  | "ReadDecimal", "int32", "int32" => some .dec32
  | "ReadDecimal", "int64", "" => some .dec64
  | "ReadBlob", "[]byte", "" => some .blob
  | "ReadText", "string", "" => some .text
  | "ReadIntArray", "[]int32", "" => some .intArr
  | _, _, _ => none

def litKindW : String → Option Kind
  | "WriteByte" => some .u8
  | "WriteDecimal" => some .dec64
  | _ => none

def litKindR : String → Option Kind
  | "ReadByte" => some .u8
  | "ReadDecimal" => some .dec64
  | _ => none

/-! ### the hand-modelled loops, as token patterns -/

/-- `TxRecord.Write`, custom fields, after `if F == nil` -/
def fieldsWPat (nm : String) : List Tok :=
  let key := nm ++ ".Keys().NextString()"
  let val := nm ++ ".Get(" ++ key ++ ")"
  [.wl "WriteByte" 0, .el, .wx "WriteByte" (nm ++ ".Size()"), .lp (nm ++ ".Keys().HasMoreElements()"),
   .iff (val ++ " != nil"), .iff (val ++ ".(value.Value)#1"), .wx "WriteText" key,
   .wx "WriteValue" (val ++ ".(value.Value)#0"), .en, .el, .wx "WriteText" key,
   .wx "WriteValue" "value.NewTextValue(\"\")", .en, .en, .en]

/-- `TxRecord.Read`, custom fields, after `n := ReadByte(); if n > 0` -/
def fieldsRPat (nm n k v : String) : List Tok :=
  [.asg nm "*value.MapValue" "value.NewMapValue()", .lp ("0 < " ++ n), .rl "ReadText" k "", .rl "ReadValue" v "",
   .call (nm ++ ".Put(" ++ k ++ ", " ++ v ++ ")"), .en, .en]

def stripPrefix (p : List Tok) (ts : List Tok) : Option (List Tok) :=
  if ts.take p.length = p then some (ts.drop p.length) else none

/-- a sequence of plain fields, if the layout is one -/
def L.flat? : L → Option (List (String × Kind))
  | .nil => some []
  | .fld nm k rest => (rest.flat?).map (fun fs => (nm, k) :: fs)
  | _ => none

def parseWF : Nat → List Tok → Option (L × List Tok)
  | 0, _ => none
  | _+1, [] => some (.nil, [])
  | f+1, t :: ts =>
    match t with
    | .el | .en | .cs _ | .sc | .ifnn _ => some (.nil, t :: ts)
    | .w m nm ty =>
      match kindW m ty with
      | some k => (parseWF f ts).map (fun (r, u) => (.fld nm k r, u))
      | none => none
    | .wl m v =>
      match litKindW m with
      | some k => (parseWF f ts).map (fun (r, u) => (.lit k v r, u))
      | none => none
    | .sw nm =>
      match ts with
      | .cs 1 :: ts1 =>
        match parseWF f ts1 with
        | some (c1, .cs 2 :: ts2) =>
          match parseWF f ts2 with
          | some (c2, .en :: ts3) => (parseWF f ts3).map (fun (r, u) => (.sw nm c1 c2 r, u))
          | _ => none
        | _ => none
      | _ => none
    | .ifnz cond =>
      match ts with
      | .wl "WriteByte" flag :: ts1 =>
        match parseWF f ts1 with
        | some (body, .el :: .wl "WriteByte" 0 :: .en :: ts2) =>
          (parseWF f ts2).map (fun (r, u) => (.opt flag.toNat false cond body [] r, u))
        | _ => none
      | _ => none
    | .ifbit fld k =>
      match parseWF f ts with
      | some (body, .en :: ts2) => (parseWF f ts2).map (fun (r, u) => (.bit fld k body r, u))
      | _ => none
    | .ifnil nm =>
      match stripPrefix (fieldsWPat nm) ts with
      | some ts2 => (parseWF f ts2).map (fun (r, u) => (.fields nm r, u))
      | none => none
    | .so =>
      match parseWF f ts with
      | some (body, .sc :: .wsub :: ts2) => (parseWF f ts2).map (fun (r, u) => (.wrap body none r, u))
      | some (body, .ifnn nm :: .w "WriteMapValue" nm' "*value.MapValue" :: .en :: .sc :: .wsub :: ts2) =>
        if nm = nm' then (parseWF f ts2).map (fun (r, u) => (.wrap body (some nm) r, u)) else none
      | _ => none
    | _ => none

/-- the layout a writer skeleton denotes -/
def parseW (ts : List Tok) : Option L :=
  match parseWF (ts.length + 1) ts with
  | some (l, []) => some l
  | _ => none

mutual
def parseRF : Nat → List Tok → Option (L × List Tok)
  | 0, _ => none
  | _+1, [] => some (.nil, [])
  | f+1, t :: ts =>
    match t with
    | .el | .en | .cs _ | .sc | .ifavail => some (.nil, t :: ts)
    | .r m nm ty conv =>
      match kindR m ty conv with
      | some k =>
        match ts with
        | .ifz nm1 :: .ifnz cond :: .asgn nm2 _ d :: .en :: .en :: ts2 =>
          if nm1 = nm ∧ nm2 = nm then (parseRF f ts2).map (fun (r, u) => (.dflt nm k cond d r, u)) else none
        | _ => (parseRF f ts).map (fun (r, u) => (.fld nm k r, u))
      | none => none
    | .rd m =>
      match litKindR m with
      | some k => (parseRF f ts).map (fun (r, u) => (.lit k 0 r, u))
      | none => none
    | .sw nm =>
      match ts with
      | .cs 1 :: ts1 =>
        match parseRF f ts1 with
        | some (c1, .cs 2 :: ts2) =>
          match parseRF f ts2 with
          | some (c2, .en :: ts3) => (parseRF f ts3).map (fun (r, u) => (.sw nm c1 c2 r, u))
          | _ => none
        | _ => none
      | _ => none
    | .ifrdpos =>
      match parseRF f ts with
      | some (body, .en :: ts2) => (parseRF f ts2).map (fun (r, u) => (.opt 1 true "" body [] r, u))
      | _ => none
    | .swrd =>
      match parseCases f ts [] with
      | some (cases, ts2) =>
        match cases with
        | (flag, body) :: older =>
          match (older.reverse.mapM (fun (p : Nat × L) => (p.2.flat?).map (fun fs => (p.1, fs)))) with
          | some alts => (parseRF f ts2).map (fun (r, u) => (.opt flag false "" body alts r, u))
          | none => none
        | [] => none
      | none => none
    | .ifbit fld k =>
      match parseRF f ts with
      | some (body, .en :: ts2) => (parseRF f ts2).map (fun (r, u) => (.bit fld k body r, u))
      | _ => none
    | .rsub "ReadBlob" =>
      match ts with
      | .so :: ts1 =>
        match parseRF f ts1 with
        | some (body, .sc :: ts2) => (parseRF f ts2).map (fun (r, u) => (.wrap body none r, u))
        | _ => none
      | _ => none
    | .rl "ReadByte" a "" =>
      match ts with
      | .iflt a1 k :: .pn :: .en :: ts2 =>        -- version test
        if a1 = a then (parseRF f ts2).map (fun (r, u) => (.ver k 0 r, u)) else none
      | .ifpos a1 :: .asg nm ty e :: .lp c :: .rl "ReadText" k "" :: .rl "ReadValue" v "" :: rest =>   -- custom fields
        if a1 = a then
          match stripPrefix (fieldsRPat nm a k v) (.asg nm ty e :: .lp c :: .rl "ReadText" k "" :: .rl "ReadValue" v "" :: rest) with
          | some ts2 => (parseRF f ts2).map (fun (r, u) => (.fields nm r, u))
          | none => none
        else none
      | .rl "ReadBlob" b "" :: .ifz a1 :: .fr b1 :: .so :: ts1 =>   -- versioned blob (MessageStepX)
        if a1 = a ∧ b1 = b then
          match parseRF f ts1 with
          | some (body, .sc :: .en :: ts2) => (parseRF f ts2).map (fun (r, u) => (.lit .u8 0 (.wrap body none r), u))
          | some (body, .ifavail :: .rl "ReadValue" v "" :: .iftype v1 "*value.MapValue" ::
                .asgcast nm "*value.MapValue" v2 "*value.MapValue" :: .en :: .en :: .sc :: .en :: ts2) =>
            -- if bytes are left: read a value; if it is a map, it becomes the attribute map
            if v1 = v ∧ v2 = v then
              (parseRF f ts2).map (fun (r, u) => (.lit .u8 0 (.wrap body (some nm) r), u))
            else none
          | _ => none
        else none
      | _ => none
    | _ => none
/-- the cases of `switch ReadByte()`, most recent first -/
def parseCases : Nat → List Tok → List (Nat × L) → Option (List (Nat × L) × List Tok)
  | 0, _, _ => none
  | f+1, .cs n :: ts, acc =>
    match parseRF f ts with
    | some (l, ts1) => parseCases f ts1 ((n, l) :: acc)
    | none => none
  | _+1, .en :: ts, acc => some (acc, ts)
  | _+1, _, _ => none
end

/-- the layout a reader skeleton denotes -/
def parseR (ts : List Tok) : Option L :=
  match parseRF (ts.length + 1) ts with
  | some (l, []) => some l
  | _ => none

/-- what the writer shows of a layout -/
def L.wview : L → L
  | .nil => .nil
  | .fld nm k rest => .fld nm k rest.wview
  | .lit k v rest => .lit k v rest.wview
  | .sw nm c1 c2 rest => .sw nm c1.wview c2.wview rest.wview
  | .opt flag _ cond body _ rest => .opt flag false cond body.wview [] rest.wview
  | .dflt nm k _ _ rest => .fld nm k rest.wview
  | .wrap body attr rest => .wrap body.wview attr rest.wview
  | .fields nm rest => .fields nm rest.wview
  | .bit nm mask body rest => .bit nm mask body.wview rest.wview
  | .ver _ v rest => .lit .u8 v rest.wview

/-- what the reader shows of a layout -/
def L.rview : L → L
  | .nil => .nil
  | .fld nm k rest => .fld nm k rest.rview
  | .lit k _ rest => .lit k 0 rest.rview
  | .sw nm c1 c2 rest => .sw nm c1.rview c2.rview rest.rview
  | .opt flag anyPos _ body alts rest =>
    if anyPos then .opt 1 true "" body.rview [] rest.rview else .opt flag false "" body.rview alts rest.rview
  | .dflt nm k cond d rest => .dflt nm k cond d rest.rview
  | .wrap body attr rest => .wrap body.rview attr rest.rview
  | .fields nm rest => .fields nm rest.rview
  | .bit nm mask body rest => .bit nm mask body.rview rest.rview
  | .ver min _ rest => .ver min 0 rest.rview

/-- side conditions under which the projections keep the meaning: version constants are bytes,
    a presence section the reader only tests for `> 0` has a positive flag and no older variants -/
def L.viewOK : L → Bool
  | .nil => true
  | .fld _ _ rest => rest.viewOK
  | .lit _ _ rest => rest.viewOK
  | .sw _ c1 c2 rest => c1.viewOK && c2.viewOK && rest.viewOK
  | .opt flag anyPos _ body alts rest =>
    (if anyPos then decide (0 < flag) && alts.isEmpty else true) && body.viewOK && rest.viewOK
  | .dflt _ _ _ _ rest => rest.viewOK
  | .wrap body _ rest => body.viewOK && rest.viewOK
  | .fields _ rest => rest.viewOK
  | .bit _ _ body rest => body.viewOK && rest.viewOK
  | .ver _ v rest => decide (v < 256) && rest.viewOK

theorem L.wview_write (l : L) (h : l.viewOK = true) (x : Rec) : l.wview.write x = l.write x := by
  induction l with
  | nil => rfl
  | fld nm k rest ih => simp only [L.wview, L.write, ih h]
  | lit k v rest ih => simp only [L.wview, L.write, ih h]
  | sw nm c1 c2 rest ih1 ih2 ihr =>
    simp only [L.viewOK, Bool.and_eq_true] at h
    simp only [L.wview, L.write, ih1 h.1.1, ih2 h.1.2, ihr h.2]
  | opt flag anyPos cond body alts rest ihb ihr =>
    simp only [L.viewOK, Bool.and_eq_true] at h
    simp only [L.wview, L.write, ihb h.1.2, ihr h.2]
  | dflt nm k cond d rest ih => simp only [L.wview, L.write, ih h]
  | wrap body attr rest ihb ihr =>
    simp only [L.viewOK, Bool.and_eq_true] at h
    simp only [L.wview, L.write, ihb h.1, ihr h.2]
  | fields nm rest ih => simp only [L.wview, L.write, ih h]
  | bit nm mask body rest ihb ihr =>
    simp only [L.viewOK, Bool.and_eq_true] at h
    simp only [L.wview, L.write, ihb h.1, ihr h.2]
  | ver min v rest ih =>
    simp only [L.viewOK, Bool.and_eq_true, decide_eq_true_eq] at h
    simp only [L.wview, L.write, ih h.2, Kind.enc, Val.toInt, Int.toNat_natCast, Nat.mod_eq_of_lt h.1]
    rfl

theorem L.rview_read (l : L) (h : l.viewOK = true) (e : Env) (bs : Bytes) : l.rview.read e bs = l.read e bs := by
  -- as an equality of decoders, so that the induction hypotheses rewrite under the binders of a `bind`
  suffices key : l.rview.read e = l.read e from congrFun key bs
  induction l generalizing e with
  | nil => rfl
  | fld nm k rest ih => simp only [L.rview, L.read, ih h]
  | lit k v rest ih => simp only [L.rview, L.read, ih h]
  | sw nm c1 c2 rest ih1 ih2 ihr =>
    simp only [L.viewOK, Bool.and_eq_true] at h
    simp only [L.rview, L.read, ih1 h.1.1, ih2 h.1.2, ihr h.2]
  | opt flag anyPos cond body alts rest ihb ihr =>
    simp only [L.viewOK, Bool.and_eq_true] at h
    obtain ⟨⟨ha, hb⟩, hr⟩ := h
    cases anyPos with
    | false => simp only [L.rview, Bool.false_eq_true, if_false, L.read, ihb hb, ihr hr]
    | true =>
      simp only [if_true, Bool.and_eq_true, decide_eq_true_eq, List.isEmpty_iff] at ha
      obtain ⟨hf, rfl⟩ := ha
      simp only [L.rview, if_true, L.read, ihb hb, ihr hr]
      congr; funext b
      -- the reader tests `> 0`: which positive flag the writer uses does not matter
      have : (b == 1 || (true && decide (0 < b))) = (b == flag || (true && decide (0 < b))) := by
        by_cases hb0 : 0 < b
        · simp [hb0]
        · have : b = 0 := by omega
          subst this
          have : (0 == flag) = false := by simp only [beq_eq_false_iff_ne, ne_eq]; omega
          simp [this]
      rw [this]
  | dflt nm k cond d rest ih => simp only [L.rview, L.read, ih h]
  | wrap body attr rest ihb ihr =>
    simp only [L.viewOK, Bool.and_eq_true] at h
    simp only [L.rview, L.read, ihb h.1, ihr h.2]
  | fields nm rest ih => simp only [L.rview, L.read, ih h]
  | bit nm mask body rest ihb ihr =>
    simp only [L.viewOK, Bool.and_eq_true] at h
    simp only [L.rview, L.read, ihb h.1, ihr h.2]
  | ver min v rest ih =>
    simp only [L.viewOK, Bool.and_eq_true] at h
    simp only [L.rview, L.read, ih h.2]

/-- **interpreted obligation ⇒ round trip.**  If the regenerated writer skeleton `tw` denotes the
    writer view and the regenerated reader skeleton `tr` the reader view of a layout `T`, then the
    reader `tr` denotes reads back what the writer `tw` denotes writes, for every record in range
    and whatever follows. -/
theorem interp_roundtrip (V : ValueRT) (tw tr : List Tok) (T : L) (hok : T.viewOK = true)
    (hw : parseW tw = some T.wview) (hr : parseR tr = some T.rview) :
    ∃ lw lr, parseW tw = some lw ∧ parseR tr = some lr ∧
      ∀ (x : Rec) (r : Bytes), T.WF V x [] →
        (lw.write x = T.write x) ∧ lr.read [] (lw.write x ++ r) = some (T.expect x [], r) := by
  refine ⟨T.wview, T.rview, hw, hr, fun x r h => ⟨L.wview_write T hok x, ?_⟩⟩
  rw [L.wview_write T hok, L.rview_read T hok]
  exact L.roundtrip V T x [] r h

end Step
