/-
  Golib.Step.Carried — what `TxRecord.Read` assigns, for today's encoding and for every older one.

  The body is a run of plain fields, two optional runs, two more plain fields and then the custom-field
  map, the login, the defaulted error level and a last run.  Everything before the map is one run
  (`opt_seq_expectAlt`), so a lookup there is a membership test (`flatExpect_lookup`); the tail is
  three lemmas.  Together they say which names are bound, and to what, for any record of this shape;
  that the names of the different parts are pairwise distinct is the only fact about the actual
  field lists that is used.
-/
import Golib.Step.Legacy

namespace Step

/-! lookups after the tail `fields F; fld lg; dflt el (on c); seq T` of a body, in terms of the
    environment `e` before it -/
section tail
variable (F lg el c : String) (k k' : Kind) (d : Int) (T : List (String × Kind)) (ch : Choice) (x : Rec) (e : Env)

theorem tail_lookup (nm : String) (hF : nm ≠ F) (hel : nm ≠ el) :
    ((L.fields F (.fld lg k (.dflt el k' c d (seq T .nil)))).expectAlt ch x e).lookup nm =
      if nm ∈ T.map (·.1) ∨ nm = lg then some (x nm) else e.lookup nm := by
  rw [L.expectAlt]
  generalize (x F).toMapN = fm
  by_cases hl : nm = lg
  · subst hl
    rcases fm with _ | _ | ⟨kv, kvs⟩ <;>
      simp only [L.expectAlt, seq_expectAlt, flatExpect_lookup, lookup_cons_ne hel, List.lookup_cons_self, or_true,
        if_true, ite_self]
  · rcases fm with _ | _ | ⟨kv, kvs⟩ <;>
      simp only [L.expectAlt, seq_expectAlt, flatExpect_lookup, lookup_cons_ne hel, lookup_cons_ne hl,
        lookup_cons_ne hF, hl, or_false]

theorem tail_lookup_fields (hT : F ∉ T.map (·.1)) (h1 : F ≠ el) (h2 : F ≠ lg) :
    ((L.fields F (.fld lg k (.dflt el k' c d (seq T .nil)))).expectAlt ch x e).lookup F =
      match (x F).toMapN with
      | some (kv :: kvs) => some (.m (some (kv :: kvs)))
      | _ => e.lookup F := by
  rw [L.expectAlt]
  generalize (x F).toMapN = fm
  rcases fm with _ | _ | ⟨kv, kvs⟩ <;>
    simp only [L.expectAlt, seq_expectAlt, flatExpect_lookup, hT, if_false, lookup_cons_ne h1, lookup_cons_ne h2,
      List.lookup_cons_self]

theorem tail_lookup_dflt (hT : el ∉ T.map (·.1)) (h1 : c ≠ F) (h2 : c ≠ lg) :
    ((L.fields F (.fld lg k (.dflt el k' c d (seq T .nil)))).expectAlt ch x e).lookup el =
      some (dfl (x el) (e.get c) d) := by
  rw [L.expectAlt]
  generalize (x F).toMapN = fm
  rcases fm with _ | _ | ⟨kv, kvs⟩ <;>
    simp only [L.expectAlt, seq_expectAlt, flatExpect_lookup, hT, if_false, List.lookup_cons_self, Env.get,
      lookup_cons_ne h1, lookup_cons_ne h2]

end tail

theorem mem_map_ite {α β : Type} (f : α → β) (c : Prop) [Decidable c] (l : List α) (b : β) :
    b ∈ (if c then l else []).map f ↔ c ∧ b ∈ l.map f := by
  split <;> simp [*]

/-- the carried projection of any body of TxRecord's shape whose caller section assigns the run `C`:
    `A`, `B`, the login and `T` make up the plain names, `M` is the multi-trace run, and `C` holds
    caller names only -/
theorem carriedK_of_shape (A M C B T : List (String × Kind)) (k k' : Kind) (ch : Choice) (x : Rec)
    (keeps : List String) (hk : keeps = C.map (·.1))
    (hP : txPlain = A.map (·.1) ++ B.map (·.1) ++ "Login" :: T.map (·.1))
    (hErr : "Error" ∈ A.map (·.1))
    (hM : M.map (·.1) = ["Mtid", "Mdepth", "Mcaller"])
    (hC : ∀ nm ∈ C.map (·.1), nm ∈ callerAll) :
    TxCarriedK keeps x
      ((L.fields "Fields" (.fld "Login" k (.dflt "ErrorLevel" k' "Error" 20 (seq T .nil)))).expectAlt ch x
        (flatExpect (A ++ (if (x "Mtid").toInt ≠ 0 then M else []) ++
          (if (x "McallerPcode").toInt ≠ 0 then C else []) ++ B) x [])) := by
  subst hk
  have fP : ∀ nm ∈ txPlain, nm ≠ "Fields" ∧ nm ≠ "ErrorLevel" := by decide
  have fM : ∀ nm ∈ ["Mtid", "Mdepth", "Mcaller"],
      nm ≠ "Fields" ∧ nm ≠ "ErrorLevel" ∧ nm ∉ txPlain ∧ nm ∉ callerAll := by decide
  have fC : ∀ nm ∈ callerAll, nm ≠ "Fields" ∧ nm ≠ "ErrorLevel" ∧ nm ∉ txPlain := by decide
  have split : ∀ nm, nm ∈ txPlain ↔ (nm ∈ A.map (·.1) ∨ nm ∈ B.map (·.1)) ∨ nm = "Login" ∨ nm ∈ T.map (·.1) := by
    intro nm; rw [hP]; simp only [List.mem_append, List.mem_cons]
  generalize he : flatExpect _ x [] = e
  have he : ∀ nm, e.lookup nm = if ((nm ∈ A.map (·.1) ∨ nm ∈ B.map (·.1)) ∨
      ((x "Mtid").toInt ≠ 0 ∧ nm ∈ ["Mtid", "Mdepth", "Mcaller"])) ∨
      ((x "McallerPcode").toInt ≠ 0 ∧ nm ∈ C.map (·.1)) then some (x nm) else none := by
    intro nm
    rw [← he, flatExpect_lookup]
    simp only [List.map_append, List.mem_append, mem_map_ite, hM, List.lookup_nil,
      or_right_comm (c := nm ∈ B.map (·.1))]
  generalize hf : L.expectAlt _ ch x e = f
  have hn : ∀ nm, nm ≠ "Fields" → nm ≠ "ErrorLevel" → f.lookup nm =
      if (nm ∈ txPlain ∨ ((x "Mtid").toInt ≠ 0 ∧ nm ∈ ["Mtid", "Mdepth", "Mcaller"])) ∨
        ((x "McallerPcode").toInt ≠ 0 ∧ nm ∈ C.map (·.1)) then some (x nm) else none := by
    intro nm h1 h2
    rw [← hf, tail_lookup _ _ _ _ _ _ _ _ _ _ _ nm h1 h2, he]
    by_cases hT : nm ∈ T.map (·.1) <;> by_cases hl : nm = "Login" <;>
      simp only [split, hT, hl, true_or, or_true, if_true, or_false, if_false]
  have hF : f.lookup "Fields" = match (x "Fields").toMapN with
      | some (kv :: kvs) => some (.m (some (kv :: kvs)))
      | _ => none := by
    have h3 : "Fields" ∉ txPlain := fun h => (fP _ h).1 rfl
    simp only [split, not_or] at h3
    rw [← hf, tail_lookup_fields _ _ _ _ _ _ _ _ _ _ _ h3.2.2 (by decide) (by decide), he]
    simp only [h3, show "Fields" ∉ ["Mtid", "Mdepth", "Mcaller"] from fun h => (fM _ h).1 rfl,
      mt (hC "Fields") fun h => (fC _ h).1 rfl, and_false, or_false, if_false]
  have hE : f.lookup "ErrorLevel" = some (dfl (x "ErrorLevel") (x "Error") 20) := by
    have h3 : "ErrorLevel" ∉ txPlain := fun h => (fP _ h).2 rfl
    simp only [split, not_or] at h3
    rw [← hf, tail_lookup_dflt _ _ _ _ _ _ _ _ _ _ _ h3.2.2 (by decide) (by decide), Env.get, he, if_pos (Or.inl (Or.inl (Or.inl hErr)))]
  refine ⟨fun nm hn' => ?_, ?_, fun nm hn' => ?_, hF, hE⟩
  · rw [hn nm (fP nm hn').1 (fP nm hn').2, if_pos (Or.inl (Or.inl hn'))]
  · have hMt : ∀ nm ∈ ["Mtid", "Mdepth", "Mcaller"], f.lookup nm =
        if (x "Mtid").toInt ≠ 0 then some (x nm) else none := by
      intro nm hn'
      obtain ⟨h1, h2, h3, h4⟩ := fM nm hn'
      rw [hn nm h1 h2]
      simp only [h3, hn', mt (hC nm) h4, and_true, and_false, or_false, false_or]
    have a := hMt "Mtid" (by decide)
    have b := hMt "Mdepth" (by decide)
    have c := hMt "Mcaller" (by decide)
    split
    · rename_i h; simp only [a, b, c, if_pos h, and_self]
    · rename_i h; simp only [a, b, c, if_neg h, and_self]
  · obtain ⟨h1, h2, h3⟩ := fC nm hn'
    have h4 : nm ∉ ["Mtid", "Mdepth", "Mcaller"] := fun h => (fM nm h).2.2.2 hn'
    rw [hn nm h1 h2]
    simp only [h3, h4, and_false, false_or]
    split <;> rfl

/-- whatever version byte and presence bytes the writer chose, the reader assigns what a current record
    carries, with the caller identity cut down to the run its flag selects -/
theorem txRecord_expectAlt_carried (ch : Choice) (x : Rec) :
    TxCarriedK ((sect 6 false callerAlts (ch "McallerPcode")).pick callerAll (fun fs => fs.map (·.1)) []) x
      (txRecord.expectAlt ch x []) := by
  show TxCarriedK _ x (txBody.expectAlt ch x [])
  simp only [txBody, seq_expectAlt, opt_seq_expectAlt, ← flatExpect_append, sect_pick_anyPos]
  refine carriedK_of_shape _ _ _ _ _ _ _ ch x _ ?_ rfl ?_ rfl ?_
  · symm; exact Sect.apply_pick (List.map Prod.fst) _ _ _ _
  · decide
  · intro nm
    cases hs : sect 6 false callerAlts (ch "McallerPcode") with
    | alt f fs =>
      have h : ∀ p ∈ callerAlts, ∀ q ∈ p.2, q.1 ∈ callerAll := by decide
      intro hn
      obtain ⟨q, hq, rfl⟩ := List.mem_map.1 hn
      exact h _ (Golib.mem_of_lookup (sect_inv hs).2.2.2) q hq
    | unknown f => exact fun h => nomatch h
    | _ => exact id

theorem callerKeeps_eq (f : Nat) :
    callerKeeps f = (sect 6 false callerAlts (some f)).pick callerAll (fun fs => fs.map (·.1)) [] := by
  -- `pick` goes through the tests of `sect_caller`, which are those of `callerKeeps`
  rw [sect_caller]
  simp only [apply_ite (fun s : Sect => s.pick callerAll (fun fs => fs.map (·.1)) [])]
  rfl

theorem TxCarriedK.all {x : Rec} {e : Env} (h : TxCarriedK callerAll x e) : TxCarried x e := by
  obtain ⟨h1, h2, h3, h4, h5⟩ := h
  refine ⟨h1, h2, ?_, h4, h5⟩
  have h : ∀ nm ∈ callerAll, e.lookup nm = if (x "McallerPcode").toInt ≠ 0 then some (x nm) else none := by
    intro nm hn
    have := h3 nm hn
    simp only [hn, and_true] at this
    split <;> rename_i hp
    · exact (if_pos hp).mp this
    · exact (if_neg hp).mp this
  simp only [callerAll, List.forall_mem_cons] at h
  obtain ⟨a, b, c, d, e', f, -⟩ := h
  split
  · rename_i hp; simp only [a, b, c, d, e', f, if_pos hp, and_self]
  · rename_i hp; simp only [a, b, c, d, e', f, if_neg hp, and_self]

theorem txRecord_carried (x : Rec) : TxCarried x (txRecord.expect x []) :=
  L.expectAlt_none txRecord x [] ▸ (txRecord_expectAlt_carried (fun _ => none) x).all

end Step
