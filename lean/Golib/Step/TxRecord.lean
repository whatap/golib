/-
  Golib.Step.TxRecord — the always-present fields of the transaction record, in which its
  well-formedness is spelled out (Legacy.lean), and the `carried` projection (what a reader restores
  into a fresh record; proved in Carried.lean).
-/
import Golib.Step.Plain

namespace Step
open Prim

/-- the fields every TxRecord carries, with their primitives (wire order; `txRecord_WFAlt` slices it
    by position) -/
def txAlways : List (String × Kind) :=
  [("Txid", .i64), ("EndTime", .dec64), ("Service", .dec32), ("Elapsed", .dec32), ("Error", .dec64),
   ("CpuTime", .dec32), ("Malloc", .dec64), ("SqlCount", .dec32), ("SqlTime", .dec32),
   ("SqlFetchCount", .dec32), ("SqlFetchTime", .dec32), ("HttpcCount", .dec32), ("HttpcTime", .dec32),
   ("Active", .bool), ("StepsDataPos", .dec64), ("Cipher", .dec32), ("IpAddr", .i32), ("WClientId", .dec64),
   ("UserAgent", .dec32), ("Referer", .dec32), ("Status", .dec32), ("HttpMethod", .u8), ("Domain", .dec32),
   ("Login", .dec32), ("ErrorLevel", .u8), ("Oid", .dec32), ("Okind", .dec32), ("Onode", .dec32),
   ("Uuid", .text), ("DbcTime", .dec32), ("Apdex", .u8), ("McallerStepId", .dec64), ("OriginUrl", .text),
   ("StepSplitCount", .dec64)]

/-- the always-present fields that come back unchanged (all of `txAlways` except ErrorLevel) -/
def txPlain : List String :=
  ["Txid", "EndTime", "Service", "Elapsed", "Error", "CpuTime", "Malloc", "SqlCount", "SqlTime",
   "SqlFetchCount", "SqlFetchTime", "HttpcCount", "HttpcTime", "Active", "StepsDataPos", "Cipher", "IpAddr",
   "WClientId", "UserAgent", "Referer", "Status", "HttpMethod", "Domain", "Login", "Oid", "Okind", "Onode",
   "Uuid", "DbcTime", "Apdex", "McallerStepId", "OriginUrl", "StepSplitCount"]

/-- the `carried` projection of a TxRecord: exactly which fields `Read` assigns (`lookup = some`), with
    what value, and which it leaves alone (`lookup = none`) -/
def TxCarried (x : Rec) (e : Env) : Prop :=
  (∀ nm ∈ txPlain, e.lookup nm = some (x nm)) ∧
  (if (x "Mtid").toInt ≠ 0
    then e.lookup "Mtid" = some (x "Mtid") ∧ e.lookup "Mdepth" = some (x "Mdepth") ∧ e.lookup "Mcaller" = some (x "Mcaller")
    else e.lookup "Mtid" = none ∧ e.lookup "Mdepth" = none ∧ e.lookup "Mcaller" = none) ∧
  (if (x "McallerPcode").toInt ≠ 0
    then e.lookup "McallerPcode" = some (x "McallerPcode") ∧ e.lookup "McallerOkind" = some (x "McallerOkind") ∧
         e.lookup "McallerOid" = some (x "McallerOid") ∧ e.lookup "McallerSpec" = some (x "McallerSpec") ∧
         e.lookup "McallerUrl" = some (x "McallerUrl") ∧ e.lookup "MthisSpec" = some (x "MthisSpec")
    else e.lookup "McallerPcode" = none ∧ e.lookup "McallerOkind" = none ∧ e.lookup "McallerOid" = none ∧
         e.lookup "McallerSpec" = none ∧ e.lookup "McallerUrl" = none ∧ e.lookup "MthisSpec" = none) ∧
  (e.lookup "Fields" = match (x "Fields").toMapN with
                       | some (kv :: kvs) => some (.m (some (kv :: kvs)))
                       | _ => none) ∧
  e.lookup "ErrorLevel" =
    some (if (x "ErrorLevel").toInt = 0 ∧ (x "Error").toInt ≠ 0 then .i 20 else x "ErrorLevel")

end Step
