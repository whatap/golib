/-
  Golib.Step.Alt — encodings the readers accept but today's writers do not emit.

  `TxRecord.Read` still understands what older agents wrote:
    * the multi-trace section is present for ANY presence byte > 0 (the writer emits 1);
    * the caller-identity section may carry the flags 1, 3, 4, 5 (fewer fields each) besides 6,
      and an unknown flag means "no section";
    * any version byte ≥ 10 (the writer emits 10); below 10 the reader panics.

  `L.writeAlt ch` is the writer of such an encoding: `ch` chooses, per presence section (by the name
  of its condition field) and for the version byte (key `$ver`), the byte to emit.  `L.reads_alt`,
  by induction on the layout: the reader takes back exactly such an encoding and assigns `expectAlt`.
  With no choice made `writeAlt`, `expectAlt` and `WFAlt` are `write`, `expect` and `WF`.
  The file also holds the vocabulary of flat runs of fields (`flat*`, `seq_*`); `reads_alt` is the
  single induction.  At the end the generic round trip of today's encoding, its instance at no choice: for
  every layout, record, rest and starting environment,

      WF  →  read l e (write l x ++ rest) = some (expect l x e, rest)

  (`L.roundtrip`; `L.read_reads` in the vocabulary of `D.Reads`).
-/
import Golib.Step.Layouts

namespace Step
open Prim

abbrev Choice := String → Option Nat

def flatWrite : List (String × Kind) → Rec → Bytes
  | [], _ => []
  | (nm, k) :: fs, x => k.enc (x nm) ++ flatWrite fs x

def flatExpect : List (String × Kind) → Rec → Env → Env
  | [], _, e => e
  | (nm, _) :: fs, x, e => flatExpect fs x ((nm, x nm) :: e)

def flatWF : List (String × Kind) → Rec → Prop
  | [], _ => True
  | (nm, k) :: fs, x => k.wf (x nm) ∧ flatWF fs x

theorem readFlat_rt (fs : List (String × Kind)) (x : Rec) (e : Env) (h : flatWF fs x) :
    (readFlat fs e).Reads (flatWrite fs x) (flatExpect fs x e) := by
  induction fs generalizing e with
  | nil => exact .pure e
  | cons p fs ih => exact (Kind.rt p.2 _ h.1).bind (ih _ h.2)

theorem flatWF_iff (fs : List (String × Kind)) (x : Rec) : flatWF fs x ↔ ∀ p ∈ fs, p.2.wf (x p.1) := by
  induction fs with
  | nil => simp only [flatWF, List.not_mem_nil, false_imp_iff, implies_true]
  | cons p fs ih => obtain ⟨nm, k⟩ := p; simp only [flatWF, ih, List.forall_mem_cons]

theorem flatExpect_append (fs gs : List (String × Kind)) (x : Rec) (e : Env) :
    flatExpect (fs ++ gs) x e = flatExpect gs x (flatExpect fs x e) := by
  induction fs generalizing e with
  | nil => rfl
  | cons p fs ih => exact ih _

theorem flatExpect_lookup (fs : List (String × Kind)) (x : Rec) (e : Env) (nm : String) :
    (flatExpect fs x e).lookup nm = if nm ∈ fs.map (·.1) then some (x nm) else e.lookup nm := by
  induction fs generalizing e with
  | nil => rfl
  | cons p fs ih =>
    rw [flatExpect, ih, List.lookup_cons]
    by_cases h : nm = p.1
    · subst h; simp only [beq_self_eq_true, List.map_cons, List.mem_cons, true_or, if_true, ite_self]
    · simp only [List.map_cons, List.mem_cons, h, false_or, beq_eq_false_iff_ne.mpr h]

theorem lookup_cons_ne {nm k : String} (h : nm ≠ k) (v : Val) (e : Env) :
    List.lookup nm ((k, v) :: e) = e.lookup nm := by
  rw [List.lookup_cons, beq_eq_false_iff_ne.mpr h]

theorem lookup_none_of_not_mem {α β : Type} [BEq α] [LawfulBEq α] (tbl : List (α × β)) (k : α)
    (h : k ∉ tbl.map (·.1)) : tbl.lookup k = none :=
  List.lookup_eq_none_iff.2 fun p hp => bne_iff_ne.2 fun e => h (List.mem_map.2 ⟨p, hp, e.symm⟩)

/-- which shape a presence section takes under a choice -/
inductive Sect where
  | cur              -- the writer's own flag and section
  | anyFlag (f : Nat) -- another positive presence byte, same section (reader tests `> 0`)
  | alt (f : Nat) (fs : List (String × Kind))  -- an older flag with its shorter section
  | unknown (f : Nat) -- a flag the reader has no case for: no section

/-- what the reader ends up with, by the shape of the section: the full section (own flag or any
    positive flag), an older shorter section, or nothing -/
def Sect.pick {α : Type} : Sect → α → (List (String × Kind) → α) → α → α
  | .cur, a, _, _ => a
  | .anyFlag _, a, _, _ => a
  | .alt _ fs, _, b, _ => b fs
  | .unknown _, _, _, u => u

theorem Sect.apply_pick {α β : Type} (g : α → β) (sc : Sect) (a : α) (b : List (String × Kind) → α) (u : α) :
    g (sc.pick a b u) = sc.pick (g a) (fun fs => g (b fs)) (g u) := by
  cases sc <;> rfl

def sect (flag : Nat) (anyPos : Bool) (alts : List (Nat × List (String × Kind))) : Option Nat → Sect
  | none => .cur
  | some f =>
    if f = flag then .cur
    else if anyPos then .anyFlag f
    else match alts.lookup f with
      | some fs => .alt f fs
      | none => .unknown f

def L.writeAlt : L → Choice → Rec → Bytes
  | .nil, _, _ => []
  | .fld nm k rest, ch, x => k.enc (x nm) ++ rest.writeAlt ch x
  | .lit k v rest, ch, x => k.enc (.i v) ++ rest.writeAlt ch x
  | .sw nm c1 c2 rest, ch, x =>
    (if (x nm).toInt = 1 then c1.writeAlt ch x else if (x nm).toInt = 2 then c2.writeAlt ch x else [])
      ++ rest.writeAlt ch x
  | .opt flag anyPos cond body alts rest, ch, x =>
    (if (x cond).toInt ≠ 0 then
      (match sect flag anyPos alts (ch cond) with
       | .cur => flag :: body.writeAlt ch x
       | .anyFlag f => f :: body.writeAlt ch x
       | .alt f fs => f :: flatWrite fs x
       | .unknown f => [f])
     else [0]) ++ rest.writeAlt ch x
  | .dflt nm k _ _ rest, ch, x => k.enc (x nm) ++ rest.writeAlt ch x
  | .wrap body attr rest, ch, x => encBlob (body.writeAlt ch x ++ attrBytes attr x) ++ rest.writeAlt ch x
  | .fields nm rest, ch, x => encFields (x nm).toMapN ++ rest.writeAlt ch x
  | .bit nm mask body rest, ch, x => (if bitSet (x nm) mask then body.writeAlt ch x else []) ++ rest.writeAlt ch x
  | .ver _ v rest, ch, x => (match ch "$ver" with | some w => w | none => v) :: rest.writeAlt ch x

def L.expectAlt : L → Choice → Rec → Env → Env
  | .nil, _, _, e => e
  | .fld nm _ rest, ch, x, e => rest.expectAlt ch x ((nm, x nm) :: e)
  | .lit _ _ rest, ch, x, e => rest.expectAlt ch x e
  | .sw nm c1 c2 rest, ch, x, e =>
    rest.expectAlt ch x
      (if (x nm).toInt = 1 then c1.expectAlt ch x e else if (x nm).toInt = 2 then c2.expectAlt ch x e else e)
  | .opt flag anyPos cond body alts rest, ch, x, e =>
    rest.expectAlt ch x
      (if (x cond).toInt ≠ 0 then
        (sect flag anyPos alts (ch cond)).pick (body.expectAlt ch x e) (fun fs => flatExpect fs x e) e
       else e)
  | .dflt nm _ cond d rest, ch, x, e => rest.expectAlt ch x ((nm, dfl (x nm) (e.get cond) d) :: e)
  | .wrap body attr rest, ch, x, e => rest.expectAlt ch x (attrEnv attr x (body.expectAlt ch x e))
  | .fields nm rest, ch, x, e =>
    match (x nm).toMapN with
    | some (kv :: kvs) => rest.expectAlt ch x ((nm, .m (some (kv :: kvs))) :: e)
    | _ => rest.expectAlt ch x e
  | .bit nm mask body rest, ch, x, e =>
    rest.expectAlt ch x (if bitSet (x nm) mask then body.expectAlt ch x e else e)
  | .ver _ _ rest, ch, x, e => rest.expectAlt ch x e

theorem seq_write (fs : List (String × Kind)) (rest : L) (x : Rec) :
    (seq fs rest).write x = flatWrite fs x ++ rest.write x := by
  induction fs with
  | nil => rfl
  | cons p fs ih => rw [seq, L.write, ih, flatWrite, List.append_assoc]

theorem seq_expect (fs : List (String × Kind)) (rest : L) (x : Rec) (e : Env) :
    (seq fs rest).expect x e = rest.expect x (flatExpect fs x e) := by
  induction fs generalizing e with
  | nil => rfl
  | cons p fs ih => exact ih _

theorem seq_expectAlt (fs : List (String × Kind)) (rest : L) (ch : Choice) (x : Rec) (e : Env) :
    (seq fs rest).expectAlt ch x e = rest.expectAlt ch x (flatExpect fs x e) := by
  induction fs generalizing e with
  | nil => rfl
  | cons p fs ih => exact ih _

/-- an optional run of plain fields: the reader assigns the fields of whichever section the presence
    byte selects (the full run, an older shorter one, or none) -/
theorem opt_seq_expectAlt (flag : Nat) (anyPos : Bool) (cond : String) (fs : List (String × Kind))
    (alts : List (Nat × List (String × Kind))) (rest : L) (ch : Choice) (x : Rec) (e : Env) :
    (L.opt flag anyPos cond (seq fs .nil) alts rest).expectAlt ch x e = rest.expectAlt ch x
      (flatExpect (if (x cond).toInt ≠ 0 then (sect flag anyPos alts (ch cond)).pick fs id [] else []) x e) := by
  rw [L.expectAlt, seq_expectAlt]
  split
  · cases sect flag anyPos alts (ch cond) <;> rfl
  · rfl

def L.WFAlt (V : ValueRT) : L → Choice → Rec → Env → Prop
  | .nil, _, _, _ => True
  | .fld nm k rest, ch, x, e => k.wf (x nm) ∧ rest.WFAlt V ch x ((nm, x nm) :: e)
  | .lit k v rest, ch, x, e => k.wf (.i v) ∧ rest.WFAlt V ch x e
  | .sw nm c1 c2 rest, ch, x, e =>
    e.get nm = x nm ∧
    (if (x nm).toInt = 1 then c1.WFAlt V ch x e else if (x nm).toInt = 2 then c2.WFAlt V ch x e else True) ∧
    rest.WFAlt V ch x
      (if (x nm).toInt = 1 then c1.expectAlt ch x e else if (x nm).toInt = 2 then c2.expectAlt ch x e else e)
  | .opt flag anyPos cond body alts rest, ch, x, e =>
    0 < flag ∧ flag < 256 ∧ alts.lookup 0 = none ∧
    (if (x cond).toInt ≠ 0 then
      (match sect flag anyPos alts (ch cond) with
       | .cur => body.WFAlt V ch x e
       | .anyFlag f => 0 < f ∧ f < 256 ∧ body.WFAlt V ch x e
       | .alt f fs => f < 256 ∧ flatWF fs x
       | .unknown f => 0 < f ∧ f < 256)
     else True) ∧
    rest.WFAlt V ch x
      (if (x cond).toInt ≠ 0 then
        (sect flag anyPos alts (ch cond)).pick (body.expectAlt ch x e) (fun fs => flatExpect fs x e) e
       else e)
  | .dflt nm k cond d rest, ch, x, e => k.wf (x nm) ∧ rest.WFAlt V ch x ((nm, dfl (x nm) (e.get cond) d) :: e)
  | .wrap body attr rest, ch, x, e =>
    (body.writeAlt ch x ++ attrBytes attr x).length < 2147483648 ∧ body.WFAlt V ch x e ∧ attrWF V attr x ∧
    rest.WFAlt V ch x (attrEnv attr x (body.expectAlt ch x e))
  | .fields nm rest, ch, x, e =>
    fieldsWF V (x nm).toMapN ∧
    (match (x nm).toMapN with
     | some (kv :: kvs) => rest.WFAlt V ch x ((nm, .m (some (kv :: kvs))) :: e)
     | _ => rest.WFAlt V ch x e)
  | .bit nm mask body rest, ch, x, e =>
    e.get nm = x nm ∧ (if bitSet (x nm) mask then body.WFAlt V ch x e else True) ∧
    rest.WFAlt V ch x (if bitSet (x nm) mask then body.expectAlt ch x e else e)
  | .ver min v rest, ch, x, e =>
    (match ch "$ver" with | some w => min ≤ w ∧ w < 256 | none => min ≤ v ∧ v < 256) ∧ rest.WFAlt V ch x e

/-- a presence byte the reader only tests for `> 0` selects the full section whatever it is -/
theorem sect_pick_anyPos {α : Type} (flag : Nat) (alts : List (Nat × List (String × Kind))) (c : Option Nat)
    (a : α) (b : List (String × Kind) → α) (u : α) : (sect flag true alts c).pick a b u = a := by
  cases c with
  | none => rfl
  | some f =>
    simp only [sect]
    split
    · rfl
    · rfl

/-- what the shape of a section says about the choice it came from -/
theorem sect_inv {flag : Nat} {anyPos : Bool} {alts : List (Nat × List (String × Kind))} {c : Option Nat} {s : Sect}
    (h : sect flag anyPos alts c = s) :
    match s with
    | .cur => True
    | .anyFlag f => c = some f ∧ anyPos = true
    | .alt f fs => c = some f ∧ f ≠ flag ∧ anyPos = false ∧ alts.lookup f = some fs
    | .unknown f => c = some f ∧ f ≠ flag ∧ anyPos = false ∧ alts.lookup f = none := by
  -- along `sect`: each branch's tests are its hypotheses
  fun_cases sect flag anyPos alts c <;> simp only [sect, if_true, if_false, *] at h <;> subst h
  · trivial
  · trivial
  · exact ⟨rfl, ‹_›⟩
  · exact ⟨rfl, ‹_›, Bool.eq_false_iff.2 ‹_›, ‹_›⟩
  · exact ⟨rfl, ‹_›, Bool.eq_false_iff.2 ‹_›, ‹_›⟩

theorem seq_WFAlt (V : ValueRT) (fs : List (String × Kind)) (rest : L) (ch : Choice) (x : Rec) (e : Env) :
    (seq fs rest).WFAlt V ch x e ↔ flatWF fs x ∧ rest.WFAlt V ch x (flatExpect fs x e) := by
  induction fs generalizing e with
  | nil => simp only [seq, flatWF, flatExpect, true_and]
  | cons p fs ih => obtain ⟨nm, k⟩ := p; simp only [seq, L.WFAlt, flatWF, flatExpect, ih, and_assoc]

/-- an optional run of plain fields is well-formed under any choice of a presence byte in 1..255, provided
    the older sections carry only fields of today's -/
theorem opt_seq_WFAlt (V : ValueRT) (flag : Nat) (anyPos : Bool) (cond : String) (fs : List (String × Kind))
    (alts : List (Nat × List (String × Kind))) (rest : L) (ch : Choice) (x : Rec) (e : Env)
    (hflag : 0 < flag ∧ flag < 256) (ha : alts.lookup 0 = none) (hsub : ∀ p ∈ alts, ∀ q ∈ p.2, q ∈ fs)
    (hc : ∀ f, ch cond = some f → 0 < f ∧ f < 256) (hb : (x cond).toInt ≠ 0 → flatWF fs x)
    (hr : ∀ e', rest.WFAlt V ch x e') : (L.opt flag anyPos cond (seq fs .nil) alts rest).WFAlt V ch x e := by
  refine ⟨hflag.1, hflag.2, ha, ?_, hr _⟩
  split
  · rename_i h
    have hfs := (seq_WFAlt V fs .nil ch x e).2 ⟨hb h, trivial⟩
    cases hs : sect flag anyPos alts (ch cond) with
    | cur => exact hfs
    | anyFlag f => exact ⟨(hc f (sect_inv hs).1).1, (hc f (sect_inv hs).1).2, hfs⟩
    | alt f gs =>
      obtain ⟨hf, -, -, hl⟩ := sect_inv hs
      exact ⟨(hc f hf).2, (flatWF_iff gs x).2 fun q hq =>
        (flatWF_iff fs x).1 (hb h) q (hsub _ (Golib.mem_of_lookup hl) q hq)⟩
    | unknown f => exact hc f (sect_inv hs).1
  · trivial

/-- the reader of a layout takes back exactly an encoding written under any choice of legacy flags
    and assigns exactly `expectAlt` -/
theorem L.reads_alt (V : ValueRT) (l : L) (ch : Choice) (x : Rec) (e : Env) (h : l.WFAlt V ch x e) :
    (l.read e).Reads (l.writeAlt ch x) (l.expectAlt ch x e) := by
  induction l generalizing e with
  | nil => exact .pure e
  | fld nm k rest ih => exact (Kind.rt k _ h.1).bind (ih _ h.2)
  | lit k v rest ih => exact (Kind.rt k _ h.1).bind (ih _ h.2)
  | dflt nm k cond d rest ih => exact (Kind.rt k _ h.1).bind (ih _ h.2)
  | sw nm c1 c2 rest ih1 ih2 ihr =>
    obtain ⟨hg, hc, hr⟩ := h
    simp only [L.read, L.writeAlt, L.expectAlt, hg]
    refine D.Reads.bind ?_ (ihr _ hr)
    split
    · rw [if_pos ‹_›] at hc; exact ih1 _ hc
    · rw [if_neg ‹_›] at hc
      split
      · rw [if_pos ‹_›] at hc; exact ih2 _ hc
      · exact .pure e
  | bit nm mask body rest ihb ihr =>
    obtain ⟨hg, hb, hr⟩ := h
    simp only [L.read, L.writeAlt, L.expectAlt, hg]
    refine D.Reads.bind ?_ (ihr _ hr)
    split
    · rw [if_pos ‹_›] at hb; exact ihb _ hb
    · exact .pure e
  | ver min v rest ih =>
    obtain ⟨h1, h3⟩ := h
    simp only [L.read, L.writeAlt, L.expectAlt]
    cases hc : ch "$ver" <;> simp only [hc] at h1 ⊢ <;>
      (refine (rdU1_reads _ h1.2).bind ?_; rw [if_neg (Nat.not_lt.2 h1.1)]; exact ih _ h3)
  | wrap body attr rest ihb ihr =>
    obtain ⟨hl, hb, ha, hr⟩ := h
    simp only [L.read, L.writeAlt, L.expectAlt]
    refine D.Reads.bind (fun r => run_decBlob _ r hl) ?_
    simp only [ihb _ hb _, readAttr_rt V attr x _ ha]
    exact ihr _ hr
  | fields nm rest ih =>
    obtain ⟨hf, hr⟩ := h
    simp only [L.read, L.writeAlt, L.expectAlt]
    generalize (x nm).toMapN = m at hf hr ⊢
    rcases m with _ | _ | ⟨kv, kvs⟩
    · exact (rdU1_reads 0 (by omega)).bind (ih _ hr)
    · exact (rdU1_reads 0 (by omega)).bind (ih _ hr)
    · obtain ⟨k0, k1, k3⟩ := encFields_cons_rt V kv kvs hf
      have k2 : 0 < (kv :: kvs).length := Nat.succ_pos _
      rw [k0]
      refine (rdU1_reads _ k1).bind (w' := Value.encKVs (kv :: kvs) ++ rest.writeAlt ch x) ?_
      rw [if_pos k2]
      exact k3.bind (ih _ hr)
  | opt flag anyPos cond body alts rest ihb ihr =>
    obtain ⟨hf0, hf, ha, hb, hr⟩ := h
    simp only [L.read, L.writeAlt, L.expectAlt]
    by_cases c : (x cond).toInt ≠ 0
    · -- the presence byte the section starts with, then what the reader's test of that byte selects
      simp only [if_pos c] at hb hr ⊢
      cases hs : sect flag anyPos alts (ch cond) with
      | cur =>
        simp only [hs, Sect.pick] at hb hr ⊢
        refine (rdU1_reads flag hf).bind (w' := body.writeAlt ch x ++ rest.writeAlt ch x) ?_
        simp only [beq_self_eq_true, Bool.true_or, if_true]
        exact (ihb _ hb).bind (ihr _ hr)
      | anyFlag f =>
        simp only [hs, Sect.pick] at hb hr ⊢
        refine (rdU1_reads f hb.2.1).bind (w' := body.writeAlt ch x ++ rest.writeAlt ch x) ?_
        simp only [(sect_inv hs).2, hb.1, Bool.true_and, decide_true, Bool.or_true, if_true]
        exact (ihb _ hb.2.2).bind (ihr _ hr)
      | alt f fs =>
        simp only [hs, Sect.pick] at hb hr ⊢
        obtain ⟨-, hne, hap, hl⟩ := sect_inv hs
        refine (rdU1_reads f hb.1).bind (w' := flatWrite fs x ++ rest.writeAlt ch x) ?_
        simp only [hap, beq_eq_false_iff_ne.2 hne, Bool.false_and, Bool.or_false, Bool.false_eq_true, if_false, hl]
        exact (readFlat_rt fs x e hb.2).bind (ihr _ hr)
      | unknown f =>
        simp only [hs, Sect.pick] at hb hr ⊢
        obtain ⟨-, hne, hap, hl⟩ := sect_inv hs
        refine (rdU1_reads f hb.2).bind (w' := rest.writeAlt ch x) ?_
        simp only [hap, beq_eq_false_iff_ne.2 hne, Bool.false_and, Bool.or_false, Bool.false_eq_true, if_false, hl]
        exact (D.Reads.pure e).bind (ihr _ hr)
    · simp only [if_neg c] at hb hr ⊢
      refine (rdU1_reads 0 (by omega)).bind (w' := rest.writeAlt ch x) ?_
      have hne : (0 == flag) = false := beq_eq_false_iff_ne.2 (by omega)
      simp only [hne, Nat.lt_irrefl, decide_false, Bool.and_false, Bool.or_false, ha, Bool.false_eq_true, if_false]
      exact (D.Reads.pure e).bind (ihr _ hr)

/-- a version byte below the minimum is refused (in Go: panic "not supported version") -/
theorem ver_refuses (min v : Nat) (rest : L) (e : Env) (w : Nat) (bs : Bytes) (hw : w < min) (h256 : w < 256) :
    (L.ver min v rest).read e (w :: bs) = none := by
  simp only [L.read]
  rw [D.bind_some (rdU1_cons w bs h256)]
  simp [hw, D.fail]

theorem L.writeAlt_none (l : L) (x : Rec) : l.writeAlt (fun _ => none) x = l.write x := by
  fun_induction L.write l x <;> simp only [L.writeAlt, sect, *]

theorem L.expectAlt_none (l : L) (x : Rec) (e : Env) : l.expectAlt (fun _ => none) x e = l.expect x e := by
  fun_induction L.expect l x e <;> simp only [L.expectAlt, sect, Sect.pick, *]

theorem L.WFAlt_none (V : ValueRT) (l : L) (x : Rec) (e : Env) :
    l.WFAlt V (fun _ => none) x e = l.WF V x e := by
  fun_induction L.WF V l x e <;>
    simp only [L.WFAlt, L.expectAlt_none, L.writeAlt_none, sect, Sect.pick, and_assoc, *] <;> rfl

theorem L.read_reads (V : ValueRT) (l : L) (x : Rec) (e : Env) (h : l.WF V x e) :
    (l.read e).Reads (l.write x) (l.expect x e) := by
  have := L.reads_alt V l (fun _ => none) x e (by rwa [L.WFAlt_none])
  rwa [L.writeAlt_none, L.expectAlt_none] at this

theorem L.roundtrip (V : ValueRT) (l : L) (x : Rec) (e : Env) (r : Bytes) (h : l.WF V x e) :
    l.read e (l.write x ++ r) = some (l.expect x e, r) := L.read_reads V l x e h r

end Step
