/-
  Golib.Step.Legacy — the transaction record as older agents wrote it.

  `legacyChoice w g f`: version byte `w`, multi-trace presence byte `g`, caller-identity flag `f`.
  Well-formedness of any older encoding spelled out (`txRecord_WFAlt`), which caller fields a flag
  carries (`callerKeeps`), and the shape of what the reader assigns (`TxCarriedK`), proved in
  Carried.lean.
-/
import Golib.Step.Alt
import Golib.Step.TxRecord

namespace Step
open Prim

def legacyChoice (w g f : Nat) : Choice := fun k =>
  if k = "$ver" then some w else if k = "Mtid" then some g else if k = "McallerPcode" then some f else none

theorem legacyChoice_ver (w g f : Nat) : legacyChoice w g f "$ver" = some w := by simp [legacyChoice]
theorem legacyChoice_mtid (w g f : Nat) : legacyChoice w g f "Mtid" = some g := by
  simp (decide := true) [legacyChoice]
theorem legacyChoice_caller (w g f : Nat) : legacyChoice w g f "McallerPcode" = some f := by
  simp (decide := true) [legacyChoice]

-- `alt1`, `alt3`, `alt4`, `alt5` = the entries of `callerAlts`
def alt1 : List (String × Kind) := [("McallerPcode", .dec64)]
def alt3 : List (String × Kind) := [("McallerPcode", .dec64), ("McallerSpec", .dec32), ("McallerUrl", .dec32)]
def alt4 : List (String × Kind) :=
  [("McallerPcode", .dec64), ("McallerSpec", .dec32), ("McallerUrl", .dec32), ("MthisSpec", .dec32)]
def alt5 : List (String × Kind) :=
  [("McallerPcode", .dec64), ("McallerOid", .dec32), ("McallerSpec", .dec32), ("McallerUrl", .dec32),
   ("MthisSpec", .dec32)]

/-- how `TxRecord.Read` classifies the caller flag: 6 = today's section, 1/3/4/5 = older shorter
    sections, anything else = no section -/
theorem sect_caller (f : Nat) : sect 6 false callerAlts (some f) =
    if f = 6 then .cur else if f = 1 then .alt 1 alt1 else if f = 3 then .alt 3 alt3
    else if f = 4 then .alt 4 alt4 else if f = 5 then .alt 5 alt5 else .unknown f := by
  by_cases h6 : f = 6
  · subst h6; rfl
  by_cases h1 : f = 1
  · subst h1; rfl
  by_cases h3 : f = 3
  · subst h3; rfl
  by_cases h4 : f = 4
  · subst h4; rfl
  by_cases h5 : f = 5
  · subst h5; rfl
  have hl : callerAlts.lookup f = none := lookup_none_of_not_mem callerAlts f (by
    show f ∉ [1, 3, 4, 5]
    simp only [List.mem_cons, List.mem_nil_iff, or_false, not_or]; exact ⟨h1, h3, h4, h5⟩)
  simp only [sect, h6, h1, h3, h4, h5, if_false, Bool.false_eq_true, hl]

/-- an encoding of a TxRecord under any choice of version byte (10..255) and presence bytes (1..255) is
    well-formed when the fields it carries are in the ranges of their Go types: the body is three runs
    of plain fields around two optional runs, and the older caller sections carry only fields of today's -/
theorem txRecord_WFAlt (V : ValueRT) (ch : Choice) (x : Rec)
    (hw : ∀ w, ch "$ver" = some w → 10 ≤ w ∧ w < 256) (hg : ∀ g, ch "Mtid" = some g → 0 < g ∧ g < 256)
    (hf : ∀ f, ch "McallerPcode" = some f → 0 < f ∧ f < 256)
    (hc : ∀ p ∈ txAlways, p.2.wf (x p.1))
    (hm : (x "Mtid").toInt ≠ 0 →
        Kind.wf .dec64 (x "Mtid") ∧ Kind.wf .dec32 (x "Mdepth") ∧ Kind.wf .dec64 (x "Mcaller"))
    (hp : (x "McallerPcode").toInt ≠ 0 →
        Kind.wf .dec64 (x "McallerPcode") ∧ Kind.wf .dec32 (x "McallerOkind") ∧
        Kind.wf .dec32 (x "McallerOid") ∧ Kind.wf .dec32 (x "McallerSpec") ∧
        Kind.wf .dec32 (x "McallerUrl") ∧ Kind.wf .dec32 (x "MthisSpec"))
    (hfl : fieldsWF V (x "Fields").toMapN)
    (hl : (txBody.writeAlt ch x).length < 2147483648) : txRecord.WFAlt V ch x [] := by
  -- `txAlways` is the body's three plain runs in wire order, with the login and the error level before the last
  have run : ∀ n m, flatWF ((txAlways.drop n).take m) x := fun n m =>
    (flatWF_iff _ x).2 fun p hp => hc p (List.mem_of_mem_drop (List.mem_of_mem_take hp))
  refine ⟨?_, (List.append_nil _).symm ▸ hl, ?_, trivial, trivial⟩
  · cases hv : ch "$ver" with
    | none => exact ⟨by decide, by decide⟩
    | some w => exact hw w hv
  · refine (seq_WFAlt ..).2 ⟨run 0 21, opt_seq_WFAlt _ _ _ _ _ _ _ _ _ _ ⟨by decide, by decide⟩ rfl nofun hg
      (fun h => by simpa only [flatWF, and_true] using hm h) fun _ =>
      opt_seq_WFAlt _ _ _ _ _ _ _ _ _ _ ⟨by decide, by decide⟩ rfl (by decide) hf
        (fun h => by simpa only [flatWF, and_true] using hp h) fun _ =>
      (seq_WFAlt ..).2 ⟨run 21 2, hfl, ?_⟩⟩
    split <;> exact ⟨(run 23 2).1, (run 23 2).2.1, (seq_WFAlt ..).2 ⟨run 25 9, trivial⟩⟩

def callerAll : List String :=
  ["McallerPcode", "McallerOkind", "McallerOid", "McallerSpec", "McallerUrl", "MthisSpec"]

/-- what `TxRecord.Read` assigns from an encoding whose caller section carries exactly `keeps` -/
def TxCarriedK (keeps : List String) (x : Rec) (e : Env) : Prop :=
  (∀ nm ∈ txPlain, e.lookup nm = some (x nm)) ∧
  (if (x "Mtid").toInt ≠ 0
    then e.lookup "Mtid" = some (x "Mtid") ∧ e.lookup "Mdepth" = some (x "Mdepth") ∧ e.lookup "Mcaller" = some (x "Mcaller")
    else e.lookup "Mtid" = none ∧ e.lookup "Mdepth" = none ∧ e.lookup "Mcaller" = none) ∧
  (∀ nm ∈ callerAll,
     if (x "McallerPcode").toInt ≠ 0 ∧ nm ∈ keeps then e.lookup nm = some (x nm) else e.lookup nm = none) ∧
  (e.lookup "Fields" = match (x "Fields").toMapN with
                       | some (kv :: kvs) => some (.m (some (kv :: kvs)))
                       | _ => none) ∧
  e.lookup "ErrorLevel" =
    some (if (x "ErrorLevel").toInt = 0 ∧ (x "Error").toInt ≠ 0 then .i 20 else x "ErrorLevel")

/-- the caller-identity fields an encoding with caller flag `f` carries -/
def callerKeeps (f : Nat) : List String :=
  if f = 6 then callerAll else if f = 1 then alt1.map (·.1) else if f = 3 then alt3.map (·.1)
  else if f = 4 then alt4.map (·.1) else if f = 5 then alt5.map (·.1) else []

end Step
