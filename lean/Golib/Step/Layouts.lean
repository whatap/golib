/-
  Golib.Step.Layouts — the wire layouts of lang/step/*.go, lang/service/*.go and the bodies of the
  three profile-carrying packs, transcribed call by call from the Go `Write`/`Read` pairs, plus the
  two registries (`step.CreateStep`, `service.CreateService`).

  Field names are the Go struct field names.  The translator xlate/c08 regenerates the same data
  from the source (Golib.Gen.C08) and Golib.Props.C08Gen compares.
-/
import Golib.Step.IR

namespace Step

/-- a run of plain fields -/
def seq : List (String × Kind) → L → L
  | [], rest => rest
  | (nm, k) :: fs, rest => .fld nm k (seq fs rest)

/-! ### lang/step -/

/-- `AbstractStep.Write/Read`: three decimals (Drop and Opt are process-local, not on the wire) -/
def absStep (rest : L) : L :=
  seq [("Parent", .dec32), ("Index", .dec32), ("StartTime", .dec32)] rest

def methodStepX : L :=
  absStep (.lit .u8 0 (seq [("Hash", .dec32), ("Elapsed", .dec32), ("StartCpu", .dec32),
    ("StartMem", .dec32), ("Stack", .intArr)] .nil))

def sqlStepX : L :=
  absStep (.lit .u8 0 (seq [("Hash", .dec32), ("Elapsed", .dec32), ("Error", .dec64), ("Xtype", .u8),
    ("Dbc", .dec32), ("P1", .blob), ("P2", .blob), ("Pcrc", .u8), ("StartCpu", .dec32),
    ("StartMem", .dec64), ("Stack", .intArr)] .nil))

def resultSetStep : L :=
  absStep (seq [("Dbc", .dec32), ("SqlHash", .dec32), ("Elapsed", .dec32), ("Fetch", .dec32)] .nil)

def socketStep : L :=
  absStep (seq [("IpAddr", .blob), ("Port", .dec32), ("Elapsed", .dec32), ("Error", .dec64)] .nil)

/-- version 1: a placeholder decimal 0; version 2: step id, driver, origin url, param;
    any other version: nothing (both sides' `switch` have no default arm).
    `Version` is a field here: `Read` assigns it (D29, fixed in /repo:
    `this.Version = ver`). -/
def httpcStepX : L :=
  absStep (seq [("Version", .u8), ("Url", .dec32), ("Elapsed", .dec32), ("Error", .dec64),
    ("Host", .dec32), ("Port", .dec32), ("Status", .dec32), ("StartCpu", .dec32), ("StartMem", .dec64),
    ("Stack", .intArr)]
    (.sw "Version"
      (.lit .dec64 0 .nil)
      (seq [("StepId", .dec64), ("Driver", .text), ("OriginUrl", .text), ("Param", .text)] .nil)
      .nil))

def activeStackStep : L :=
  absStep (seq [("Seq", .i64), ("HasCallstack", .bool)] .nil)

def messageStep : L :=
  absStep (seq [("Hash", .dec32), ("Time", .dec32), ("Value", .dec32), ("Desc", .text)] .nil)

/-- `SecureMsgStep.Opt` (the one on the wire) shadows `AbstractStep.Opt` -/
def secureMsgStep : L :=
  absStep (seq [("Hash", .dec32), ("Opt", .u8), ("Crc", .u8), ("Value", .blob)] .nil)

def dbcStep : L :=
  absStep (seq [("Hash", .dec32), ("Elapsed", .dec32), ("Error", .dec32)] .nil)

/-- version byte 0, then a blob holding title, desc, ctr and — only if `Attr != nil` — the tagged map -/
def messageStepX : L :=
  absStep (.lit .u8 0 (.wrap (seq [("Title", .text), ("Desc", .text), ("Ctr", .i32)] .nil) (some "Attr") .nil))

/-- `SqlStep_3` (not in the registry; its `GetStepType` answers STEP_SQL_X) -/
def sqlStep3 : L :=
  absStep (seq [("Hash", .dec32), ("Elapsed", .dec32), ("Error", .dec64), ("Xtype", .u8),
    ("Updated", .dec32), ("Crud", .u8), ("Dbc", .dec32), ("Opt", .u8)]
    (.bit "Opt" 1 (seq [("P1", .blob), ("P2", .blob), ("Pcrc", .u8)] .nil)
    (.bit "Opt" 2 (seq [("StartCpu", .dec32), ("Cpu", .dec32), ("StartMem", .dec32), ("Mem", .dec32)] .nil)
    (.bit "Opt" 4 (seq [("Stack", .intArr)] .nil) .nil))))

/-- `step.CreateStep`: type code → (Go type, layout), in the order of the switch -/
def stepTable : List (Nat × String × L) :=
  [ (17, "MethodStepX", methodStepX),
    (18, "SqlStepX", sqlStepX),
    (3, "ResultSetStep", resultSetStep),
    (5, "SocketStep", socketStep),
    (19, "HttpcStepX", httpcStepX),
    (6, "ActiveStackStep", activeStackStep),
    (7, "MessageStep", messageStep),
    (15, "SecureMsgStep", secureMsgStep),
    (8, "DBCStep", dbcStep) ]

/-- step types that exist with `Write/Read/GetStepType` but are absent from `CreateStep` -/
def unregisteredSteps : List (Nat × String × L) :=
  [ (22, "MessageStepX", messageStepX), (18, "SqlStep_3", sqlStep3) ]

/-! ### lang/service -/

def absService (rest : L) : L :=
  seq [("Seq", .i64), ("EndTime", .dec64), ("Service", .dec32), ("Elapsed", .dec32), ("Error", .dec64),
    ("CpuTime", .dec32), ("SqlCount", .dec32), ("SqlTime", .dec32), ("SqlFetchCount", .dec32),
    ("SqlFetchTime", .dec32), ("Malloc", .dec64), ("HttpcCount", .dec32), ("HttpcTime", .dec32),
    ("Active", .bool), ("Steps_data_pos", .dec64)] rest

/-- `WasService` (and `WasService2`, which delegates); `Mtid/Mdepth/Mcaller` are WasService's own
    fields (they shadow the ones of AbstractService, which never travel) -/
def wasService : L :=
  absService (.fld "IpAddr" .i32 (.lit .dec64 0 (seq [("WClientId", .dec64), ("UserAgent", .dec32),
    ("Referer", .dec32), ("Status", .dec32), ("Mtid", .dec64), ("Mdepth", .dec32), ("Mcaller", .dec64)] .nil)))

def appService : L := absService .nil

/-- `service.CreateService` -/
def serviceTable : List (Nat × String × L) :=
  [ (1, "WasService", wasService), (2, "AppService", appService), (3, "WasService2", wasService) ]

/-- the caller-identity section as older writers emitted it (reader side only) -/
def callerAlts : List (Nat × List (String × Kind)) :=
  [ (1, [("McallerPcode", .dec64)]),
    (3, [("McallerPcode", .dec64), ("McallerSpec", .dec32), ("McallerUrl", .dec32)]),
    (4, [("McallerPcode", .dec64), ("McallerSpec", .dec32), ("McallerUrl", .dec32), ("MthisSpec", .dec32)]),
    (5, [("McallerPcode", .dec64), ("McallerOid", .dec32), ("McallerSpec", .dec32), ("McallerUrl", .dec32),
         ("MthisSpec", .dec32)]) ]

/-- the blob body of `TxRecord.Write/Read` -/
def txBody : L :=
  seq [("Txid", .i64), ("EndTime", .dec64), ("Service", .dec32), ("Elapsed", .dec32), ("Error", .dec64),
    ("CpuTime", .dec32), ("Malloc", .dec64), ("SqlCount", .dec32), ("SqlTime", .dec32),
    ("SqlFetchCount", .dec32), ("SqlFetchTime", .dec32), ("HttpcCount", .dec32), ("HttpcTime", .dec32),
    ("Active", .bool), ("StepsDataPos", .dec64), ("Cipher", .dec32), ("IpAddr", .i32), ("WClientId", .dec64),
    ("UserAgent", .dec32), ("Referer", .dec32), ("Status", .dec32)]
  (.opt 1 true "Mtid" (seq [("Mtid", .dec64), ("Mdepth", .dec32), ("Mcaller", .dec64)] .nil) []
  (.opt 6 false "McallerPcode"
      (seq [("McallerPcode", .dec64), ("McallerOkind", .dec32), ("McallerOid", .dec32), ("McallerSpec", .dec32),
        ("McallerUrl", .dec32), ("MthisSpec", .dec32)] .nil) callerAlts
  (seq [("HttpMethod", .u8), ("Domain", .dec32)]
  (.fields "Fields"
  (.fld "Login" .dec32
  (.dflt "ErrorLevel" .u8 "Error" 20
  (seq [("Oid", .dec32), ("Okind", .dec32), ("Onode", .dec32), ("Uuid", .text), ("DbcTime", .dec32),
    ("Apdex", .u8), ("McallerStepId", .dec64), ("OriginUrl", .text), ("StepSplitCount", .dec64)] .nil)))))))

/-- `TxRecord.Write`: version byte 10, then the body as a blob; `TxRecord.Read` panics on a version below 10 -/
def txRecord : L := .ver 10 10 (.wrap txBody none .nil)

/-! ### bodies of the profile-carrying packs (after the AbstractPack header, which belongs to C03) -/

/-- `ProfilePack`: the transaction record, then the step stream as a blob
    (D23, fixed in /repo: `Read` reads a TxRecord) -/
def profilePackBody : L := .ver 10 10 (.wrap txBody none (.fld "Steps" .blob .nil))

def profileStepSplitPackBody : L :=
  .lit .u8 0 (seq [("Txid", .i64), ("Inx", .dec64), ("Steps", .blob)] .nil)

def errorSnapPack1Body : L :=
  seq [("Seq", .i64), ("Profile", .blob), ("Stack", .blob), ("AppendType", .u8), ("AppendHash", .dec32)] .nil

/-- every single (untagged) layout by the name the driver and harness use -/
def singles : List (String × L) :=
  [ ("TxRecord", txRecord), ("MessageStepX", messageStepX), ("SqlStep_3", sqlStep3),
    ("ProfilePack", profilePackBody), ("ProfileStepSplitPack", profileStepSplitPackBody),
    ("ErrorSnapPack1", errorSnapPack1Body) ]

/-! ### names and shapes of the fields of a layout (for printing a decoded record and for the zero record `zeroOf`) -/

inductive Shape where | int | bytes | ints | map
deriving DecidableEq, Repr

def Kind.shape : Kind → Shape
  | .blob => .bytes | .text => .bytes | .intArr => .ints | _ => .int

def L.fieldShapes : L → List (String × Shape)
  | .nil => []
  | .fld nm k rest => (nm, k.shape) :: rest.fieldShapes
  | .lit _ _ rest => rest.fieldShapes
  | .sw _ c1 c2 rest => c1.fieldShapes ++ c2.fieldShapes ++ rest.fieldShapes
  | .opt _ _ _ body _ rest => body.fieldShapes ++ rest.fieldShapes
  | .dflt nm k _ _ rest => (nm, k.shape) :: rest.fieldShapes
  | .wrap body attr rest =>
    body.fieldShapes ++ (match attr with | some nm => [(nm, Shape.map)] | none => []) ++ rest.fieldShapes
  | .fields nm rest => (nm, .map) :: rest.fieldShapes
  | .bit _ _ body rest => body.fieldShapes ++ rest.fieldShapes
  | .ver _ _ rest => rest.fieldShapes

def Shape.zero : Shape → Val
  | .int => .i 0 | .bytes => .b [] | .ints => .is [] | .map => .m none

/-- a freshly constructed Go object with the fields of `e` assigned -/
def Env.val (e : Env) (nm : String) (s : Shape) : Val :=
  match e.lookup nm with
  | some v => v
  | none => s.zero

/-! ### tagged families and streams -/

def lookupLayout (tbl : List (Nat × String × L)) (code : Nat) : Option L :=
  match tbl.lookup code with
  | some (_, l) => some l
  | none => none

/-- a value of some step (service) type: its type code, its layout, its fields -/
structure Item where
  code : Nat
  lay : L
  x : Rec

/-- `WriteStep` / `service.ToBytes`: the type byte, then the body -/
def Item.bytes (s : Item) : Bytes := s.code :: s.lay.write s.x

/-- `ToBytesStep`: the steps back to back -/
def toBytesStep : List Item → Bytes
  | [] => []
  | s :: ss => s.bytes ++ toBytesStep ss

/-- `ReadStep` / `service.ToObject`: type byte, constructor from the registry (an unknown code
    yields nil and the following `Read` call panics), then the body into the fresh object -/
def readOne (tbl : List (Nat × String × L)) : D (Nat × Env) :=
  D.bind (D.ofP (Prim.rdU 1)) (fun t =>
    match lookupLayout tbl t with
    | none => D.fail
    | some l => D.bind (l.read []) (fun e => D.pure (t, e)))

def readNAcc (tbl : List (Nat × String × L)) : Nat → List (Nat × Env) → D (List (Nat × Env))
  | 0, acc => D.pure acc.reverse
  | n+1, acc => D.bind (readOne tbl) (fun s => readNAcc tbl n (s :: acc))

/-- `n` calls of `ReadStep` -/
def readN (tbl : List (Nat × String × L)) (n : Nat) : D (List (Nat × Env)) := readNAcc tbl n []

/-- `ReadStep` until the input is used up (what a consumer of `ProfilePack.Steps` does) -/
def readAllF (tbl : List (Nat × String × L)) : Nat → List (Nat × Env) → Bytes → Option (List (Nat × Env))
  | _, acc, [] => some acc.reverse
  | 0, _, _ :: _ => none
  | f+1, acc, b :: bs =>
    match readOne tbl (b :: bs) with
    | none => none
    | some (s, r) => readAllF tbl f (s :: acc) r

def readAll (tbl : List (Nat × String × L)) (bs : Bytes) : Option (List (Nat × Env)) :=
  readAllF tbl bs.length [] bs

end Step
