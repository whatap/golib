/-
  Golib.Step.Setters — the builders of the containers, called any number of times on one object.

  The Go code fills a pack through `SetProfile(steps)` / `SetStack(ints)` and sets control bits through
  `MessageStepX.SetCtr` / `SqlStep_3.SetTrue`.  What a *second* call does — replace or accumulate — is
  part of the behaviour: `SetProfile` REPLACES the step bytes (a pack re-filled, or filled after a
  `Read`, carries exactly the last profile), the bit setters ACCUMULATE (or).  `Setter` names the
  semantics; `parseSetter` reads it off the regenerated skeleton of the Go method (tie A,
  Golib.Props.C08Gen), `Setter.apply` is its meaning on a record, `applyOps` a whole history of
  setter calls, direct field assignments and `Read`s on one object.
-/
import Golib.Step.Tok
import Golib.Step.Reuse

namespace Step
open Prim

def Rec.set (o : Rec) (f : String) (v : Val) : Rec := fun nm => if nm = f then v else o nm

inductive Setter where
  | replaceProfile (f : String)   -- this.f = step.ToBytesStep(steps)
  | replaceIntArr (f : String)    -- this.f = bytes of WriteIntArray(ints)
  | orInt32 (f : String)          -- this.f = this.f | int32(key)
  | orByte (f : String)           -- this.f |= flag
deriving DecidableEq, Repr

/-- the semantics a setter skeleton denotes -/
def parseSetter : List Tok → Option Setter
  | [.asg f "[]byte" "step.ToBytesStep(local1)"] => some (.replaceProfile f)
  | [.so, .wx "WriteIntArray" "local1", .asg f "[]byte" "$.ToByteArray()", .sc] => some (.replaceIntArr f)
  | [.asg f "int32" e] => if e = f ++ " | int32(local1)" then some (.orInt32 f) else none
  | [.asgop f "byte" "|=" "local1"] => some (.orByte f)
  | _ => none

inductive SArg where
  | steps (ss : List Item)
  | ints (xs : List Int)
  | int (k : Int)

/-- bitwise or of two int32 values (on their two's-complement patterns) -/
def or32 (a b : Int) : Int := ofU 4 (toU 4 a ||| toU 4 b)

def Setter.apply : Setter → SArg → Rec → Rec
  | .replaceProfile f, .steps ss, o => o.set f (.b (toBytesStep ss))
  | .replaceIntArr f, .ints xs, o => o.set f (.b (encArr (encI 4) xs))
  | .orInt32 f, .int k, o => o.set f (.i (or32 (o f).toInt k))
  | .orByte f, .int k, o => o.set f (.i (((o f).toInt.toNat ||| k.toNat) % 256 : Nat))
  | _, _, o => o

def Setter.field : Setter → String
  | .replaceProfile f => f | .replaceIntArr f => f | .orInt32 f => f | .orByte f => f

/-- the setters of the types of this property (what `parseSetter` must find in the source) -/
def setterTable : List (String × Setter) :=
  [ ("ProfilePack.SetProfile", .replaceProfile "Steps"),
    ("ProfileStepSplitPack.SetProfile", .replaceProfile "Steps"),
    ("ErrorSnapPack1.SetProfile", .replaceProfile "Profile"),
    ("ErrorSnapPack1.SetStack", .replaceIntArr "Stack"),
    ("MessageStepX.SetCtr", .orInt32 "Ctr"),
    ("SqlStep_3.SetTrue", .orByte "Opt") ]

/-- one operation of a history on one object -/
inductive Op where
  | set (s : Setter) (a : SArg)         -- a builder call
  | assign (f : String) (v : Val)       -- obj.F = v
  | read (bs : Bytes)                   -- obj.Read(in)

/-- the object after an operation (`none`: the `Read` failed); `rd` is the type's `Read` on an existing object -/
def Op.apply (rd : Rec → D Rec) : Op → Rec → Option Rec
  | .set s a, o => some (s.apply a o)
  | .assign f v, o => some (o.set f v)
  | .read bs, o => (rd o bs).map (·.1)

def applyOps (rd : Rec → D Rec) : List Op → Rec → Option Rec
  | [], o => some o
  | op :: ops, o =>
    match op.apply rd o with
    | none => none
    | some o' => applyOps rd ops o'

theorem Rec.set_same (o : Rec) (f : String) (v : Val) : (o.set f v) f = v := by simp [Rec.set]
theorem Rec.set_other (o : Rec) (f nm : String) (v : Val) (h : nm ≠ f) : (o.set f v) nm = o nm := by
  simp [Rec.set, h]

end Step
