/-
  Golib.Step.IR — a small layout language for the wire bodies of lang/step, lang/service and
  the profile-carrying packs.

  A layout `L` is the ordered list of `Write*`/`Read*` calls of a Go `Write`/`Read` pair,
  including the shapes these files actually use:

    fld    this.F  written/read with one DataOutputX/DataInputX primitive
    lit    a constant written, read and dropped        (out.WriteByte(0) / in.ReadByte())
    sw     switch on a byte field written earlier      (HttpcStepX: switch this.Version {1:…; 2:…})
    opt    presence byte + section                     (TxRecord: Mtid != 0 → 1,…  / caller pcode → 6,…);
           the reader takes any byte > 0 for the flag (`anyPos`) or knows older flags with shorter
           sections (`alts`)
    dflt   a field the reader post-processes           (TxRecord.ErrorLevel: 0 → WARNING if Error != 0)
    wrap   sub-stream inside a blob                    (TxRecord, MessageStepX), optionally ending in
           an optional tagged map                      (MessageStepX.Attr)
    fields count byte + (text key, tagged value)*      (TxRecord.Fields)
    bit    section guarded by a flag bit of a byte     (SqlStep_3.Opt)
    ver    version byte: a constant written, the reader refuses less than a minimum (TxRecord: 10)

  `L.write` follows the writer, `L.read` the reader (threading the fields read so far, because
  `sw`, `bit` and `dflt` look at them), `L.expect` is what the reader is *supposed* to return,
  `L.WF` collects the ranges of the Go field types and the scoping side conditions.

  Decoders here are plain functions on bytes (`D`): `L.read` calls the tagged value decoder
  `Value.decode`, which takes its fuel from the length of the input it is given, and reads the content of
  a blob from the blob alone.  Every `P` program embeds by `P.run` (`D.ofP`, which commutes with `bind`);
  the reader of a layout that meets tagged values only inside blobs is such a program (`L.ofP_readP`,
  Step/Prefix).  What a reader owes a writer is `Reads p w a` of
  Golib.Basic, written `p.Reads w a` here: `p` takes back exactly `w`, whatever follows, and yields `a`;
  round-trip facts are stated with it and composed along `D.bind` by `D.Reads.bind`.
-/
import Golib.Value.Model

namespace Step
open Prim

abbrev D (α : Type) := Bytes → Option (α × Bytes)

namespace D
@[inline] def pure (a : α) : D α := fun bs => some (a, bs)
@[inline] def fail : D α := fun _ => none
@[inline] def bind (p : D α) (f : α → D β) : D β := fun bs =>
  match p bs with
  | none => none
  | some (a, r) => f a r
@[inline] def ofP (p : P α) : D α := fun bs => P.run p bs

theorem bind_some {p : D α} {f : α → D β} {bs r : Bytes} {a : α} (h : p bs = some (a, r)) :
    bind p f bs = f a r := by
  simp only [bind, h]

theorem ofP_bind (p : P α) (f : α → P β) : ofP (P.bind p f) = bind (ofP p) (fun a => ofP (f a)) := by
  funext bs
  simp only [ofP, bind, P.run_bind]
  cases P.run p bs <;> rfl

/-- `Reads` of Golib.Basic under the name that `p.Reads w a` finds for `p : D α` (for `D.ofP p` it is
    `P.Reads p w a`, by definition) -/
abbrev Reads (p : D α) (w : Bytes) (a : α) : Prop := _root_.Reads p w a

theorem Reads.pure (a : α) : (D.pure a).Reads [] a := fun _ => rfl

theorem Reads.bind {p : D α} {f : α → D β} {w w' : Bytes} {a : α} {b : β}
    (hp : p.Reads w a) (hf : (f a).Reads w' b) : (D.bind p f).Reads (w ++ w') b := fun r => by
  rw [List.append_assoc, D.bind_some (hp _), hf]

theorem Reads.map {p : D α} {w : Bytes} {a : α} (hp : p.Reads w a) (g : α → β) :
    (D.bind p fun a => D.pure (g a)).Reads w (g a) := fun r => by
  rw [D.bind_some (hp r)]; rfl
end D

inductive Val where
  | i (v : Int)                                   -- integers, bytes, booleans (0/1)
  | b (bs : Bytes)                                -- []byte and string (UTF-8 bytes)
  | is (xs : List Int)                            -- []int32
  | m (kvs : Option (List (Bytes × Value)))       -- *value.MapValue (none = nil)
  | mn (kvs : Option (List (Bytes × Option Value))) -- a MapValue some of whose entries hold a nil value

instance : Inhabited Val := ⟨.i 0⟩

def Val.toInt : Val → Int | .i v => v | _ => 0
def Val.toBytes : Val → Bytes | .b bs => bs | _ => []
def Val.toInts : Val → List Int | .is xs => xs | _ => []
def Val.toMap : Val → Option (List (Bytes × Value)) | .m kvs => kvs | _ => none

/-- `TxRecord.Write` emits an entry whose value is nil as the key with an empty TextValue -/
def normKVs : List (Bytes × Option Value) → List (Bytes × Value)
  | [] => []
  | (k, some v) :: t => (k, v) :: normKVs t
  | (k, none) :: t => (k, .text []) :: normKVs t

/-- the custom-field map as `TxRecord.Write` sees it (nil values already replaced) -/
def Val.toMapN : Val → Option (List (Bytes × Value))
  | .m kvs => kvs
  | .mn (some kvs) => some (normKVs kvs)
  | _ => none

/-- the primitive used for a field -/
inductive Kind where
  | u8       -- WriteByte / ReadByte
  | bool     -- WriteBool / ReadBool
  | i32      -- WriteInt / ReadInt
  | i64      -- WriteLong / ReadLong
  | dec32    -- WriteDecimal(int64(x)) / int32(ReadDecimal())
  | dec64    -- WriteDecimal(x) / ReadDecimal()   (int64 and int fields)
  | blob     -- WriteBlob / ReadBlob
  | text     -- WriteText / ReadText
  | intArr   -- WriteIntArray / ReadIntArray
deriving DecidableEq, Repr

def Kind.enc : Kind → Val → Bytes
  | .u8, v => [v.toInt.toNat % 256]
  | .bool, v => encBool (v.toInt != 0)
  | .i32, v => encI 4 v.toInt
  | .i64, v => encI 8 v.toInt
  | .dec32, v => encDecimal v.toInt
  | .dec64, v => encDecimal v.toInt
  | .blob, v => encBlob v.toBytes
  | .text, v => encBlob v.toBytes
  | .intArr, v => encArr (encI 4) v.toInts

def Kind.decP : Kind → P Val
  | .u8 => P.bind (rdU 1) (fun n => .pure (.i n))
  | .bool => P.bind rdBool (fun b => .pure (.i (if b then 1 else 0)))
  | .i32 => P.bind (rdI 4) (fun v => .pure (.i v))
  | .i64 => P.bind (rdI 8) (fun v => .pure (.i v))
  | .dec32 => P.bind decDecimal (fun v => .pure (.i (ofU 4 (toU 4 v))))   -- int32(…) conversion
  | .dec64 => P.bind decDecimal (fun v => .pure (.i v))
  | .blob => P.bind decBlob (fun bs => .pure (.b bs))
  | .text => P.bind decBlob (fun bs => .pure (.b bs))
  | .intArr => P.bind (decArr (rdI 4)) (fun xs => .pure (.is xs))

def Kind.dec (k : Kind) : D Val := D.ofP k.decP

/-- the range of the Go type behind a field of this kind -/
def Kind.wf : Kind → Val → Prop
  | .u8, .i v => 0 ≤ v ∧ v < 256
  | .bool, .i v => v = 0 ∨ v = 1
  | .i32, .i v => inRange 4 v
  | .i64, .i v => inRange 8 v
  | .dec32, .i v => inRange 4 v
  | .dec64, .i v => inRange 8 v
  | .blob, .b bs => bs.length < 2147483648
  | .text, .b bs => bs.length < 2147483648
  | .intArr, .is xs => xs.length ≤ 32767 ∧ ∀ a ∈ xs, inRange 4 a
  | _, _ => False

theorem Kind.rt (k : Kind) (v : Val) (h : k.wf v) : k.dec.Reads (k.enc v) v := by
  intro r
  unfold Kind.dec D.ofP
  cases k <;> cases v <;> simp only [Kind.wf] at h <;> simp only [Kind.enc, Kind.decP, Val.toInt, Val.toBytes, Val.toInts]
  case u8.i v =>
    have e : v.toNat % 256 = v.toNat := Nat.mod_eq_of_lt (by omega)
    have hb : [v.toNat % 256] = beN 1 v.toNat := by simp [beN, e]
    rw [hb, P.run_bind_some _ _ _ _ _ (run_rdU 1 v.toNat r (by omega))]
    simp only [P.run_pure]
    congr 3; omega
  case bool.i v =>
    rw [P.run_bind_some _ _ _ _ _ (run_rdBool _ r)]
    rcases h with rfl | rfl <;> simp
  case i32.i v => exact P.run_map_some _ (run_rdI 4 v r h)
  case i64.i v => exact P.run_map_some _ (run_rdI 8 v r h)
  case dec32.i v =>
    exact (P.run_map_some _ (run_decDecimal v r (inRange_mono (by decide) h))).trans (by rw [ofU_toU 4 v h])
  case dec64.i v => exact P.run_map_some _ (run_decDecimal v r h)
  case blob.b bs => exact P.run_map_some _ (run_decBlob bs r h)
  case text.b bs => exact P.run_map_some _ (run_decBlob bs r h)
  case intArr.is xs =>
    exact P.run_map_some _ (run_decArr (encI 4) (rdI 4) (inRange 4) (fun x r hx => run_rdI 4 x r hx) xs r h.1 h.2)

/-! ### what is assumed about the tagged value codec (Golib.Value, property C02)

  `Golib.Step.ValueInst` instantiates this structure with the theorems of Golib.Value.Facts. -/

structure ValueRT where
  wf : Value → Prop
  wfKVs : List (Bytes × Value) → Prop
  rt : ∀ v r, wf v → Value.decode (Value.encV v ++ r) = some (v, r)
  rtKVs : ∀ (kvs : List (Bytes × Value)) (r : Bytes), wfKVs kvs → (kvs.map (·.1)).Nodup →
    Value.decKVs ((Value.encKVs kvs ++ r).length + 1) kvs.length [] (Value.encKVs kvs ++ r) = some (kvs, r)

/-- the value of a Go struct: field name ↦ value -/
abbrev Rec := String → Val

/-- what a reader has assigned so far, most recent first -/
abbrev Env := List (String × Val)

def Env.get (e : Env) (nm : String) : Val :=
  match e.lookup nm with
  | some v => v
  | none => .i 0

inductive L where
  | nil
  | fld (name : String) (k : Kind) (rest : L)
  | lit (k : Kind) (v : Int) (rest : L)
  | sw (name : String) (c1 c2 : L) (rest : L)
  | opt (flag : Nat) (anyPos : Bool) (cond : String) (body : L)
        (alts : List (Nat × List (String × Kind))) (rest : L)
  | dflt (name : String) (k : Kind) (cond : String) (d : Int) (rest : L)
  | wrap (body : L) (attr : Option String) (rest : L)
  | fields (name : String) (rest : L)
  | bit (name : String) (mask : Nat) (body : L) (rest : L)
  | ver (min : Nat) (v : Nat) (rest : L)          -- version byte: written `v`, the reader refuses less than `min`
deriving DecidableEq, Repr

/-- bytes of the optional trailing map of a `wrap` -/
def mapBytes : Option (List (Bytes × Value)) → Bytes
  | some kvs => Value.encV (.map kvs)
  | none => []

def attrBytes : Option String → Rec → Bytes
  | none, _ => []
  | some nm, x => mapBytes (x nm).toMap

/-- `TxRecord.Fields`: nil → 0; otherwise the size as a byte, then key text + tagged value each -/
def encFields : Option (List (Bytes × Value)) → Bytes
  | none => [0]
  | some kvs => (kvs.length % 256) :: Value.encKVs kvs

def bitSet (v : Val) (mask : Nat) : Bool := (v.toInt.toNat &&& mask) != 0

def L.write : L → Rec → Bytes
  | .nil, _ => []
  | .fld nm k rest, x => k.enc (x nm) ++ rest.write x
  | .lit k v rest, x => k.enc (.i v) ++ rest.write x
  | .sw nm c1 c2 rest, x =>
    (if (x nm).toInt = 1 then c1.write x else if (x nm).toInt = 2 then c2.write x else []) ++ rest.write x
  | .opt flag _ cond body _ rest, x =>
    (if (x cond).toInt ≠ 0 then flag :: body.write x else [0]) ++ rest.write x
  | .dflt nm k _ _ rest, x => k.enc (x nm) ++ rest.write x
  | .wrap body attr rest, x => encBlob (body.write x ++ attrBytes attr x) ++ rest.write x
  | .fields nm rest, x => encFields (x nm).toMapN ++ rest.write x
  | .bit nm mask body rest, x => (if bitSet (x nm) mask then body.write x else []) ++ rest.write x
  | .ver _ v rest, x => v :: rest.write x

def readFlat : List (String × Kind) → Env → D Env
  | [], e => D.pure e
  | (nm, k) :: fs, e => D.bind k.dec (fun v => readFlat fs ((nm, v) :: e))

/-- the reader side of the optional trailing map (D29, fixed in /repo: look at the
    value only if bytes are left) -/
def readAttr : Option String → Env → Bytes → Option Env
  | none, e, _ => some e
  | some nm, e, r =>
    if r.isEmpty then some e
    else match Value.decode r with
      | none => none
      | some (.map kvs, _) => some ((nm, .m (some kvs)) :: e)
      | some (_, _) => some e

/-- the key/value loop of `TxRecord.Read` (same loop as `MapValue.Read`) -/
def readKVs (n : Nat) : D (List (Bytes × Value)) := fun bs => Value.decKVs (bs.length + 1) n [] bs

def dfl (v : Val) (c : Val) (d : Int) : Val := if v.toInt = 0 ∧ c.toInt ≠ 0 then .i d else v

def L.read : L → Env → D Env
  | .nil, e => D.pure e
  | .fld nm k rest, e => D.bind k.dec (fun v => rest.read ((nm, v) :: e))
  | .lit k _ rest, e => D.bind k.dec (fun _ => rest.read e)
  | .sw nm c1 c2 rest, e =>
    D.bind (if (e.get nm).toInt = 1 then c1.read e else if (e.get nm).toInt = 2 then c2.read e else D.pure e)
      (fun e' => rest.read e')
  | .opt flag anyPos _ body alts rest, e =>
    D.bind (D.ofP (rdU 1)) (fun b =>
      D.bind (if b == flag || (anyPos && decide (0 < b)) then body.read e
              else match alts.lookup b with
                | some fs => readFlat fs e
                | none => D.pure e)
        (fun e' => rest.read e'))
  | .dflt nm k cond d rest, e => D.bind k.dec (fun v => rest.read ((nm, dfl v (e.get cond) d) :: e))
  | .wrap body attr rest, e =>
    D.bind (D.ofP decBlob) (fun bs =>
      match body.read e bs with
      | none => D.fail
      | some (e', r') =>
        match readAttr attr e' r' with
        | none => D.fail
        | some e'' => rest.read e'')
  | .fields nm rest, e =>
    D.bind (D.ofP (rdU 1)) (fun n =>
      if 0 < n then D.bind (readKVs n) (fun kvs => rest.read ((nm, .m (some kvs)) :: e))
      else rest.read e)
  | .bit nm mask body rest, e =>
    D.bind (if bitSet (e.get nm) mask then body.read e else D.pure e) (fun e' => rest.read e')
  | .ver min _ rest, e =>
    D.bind (D.ofP (rdU 1)) (fun b => if b < min then D.fail else rest.read e)   -- panic("not supported version …")

def mapEnv (nm : String) : Option (List (Bytes × Value)) → Env → Env
  | some kvs, e => (nm, .m (some kvs)) :: e
  | none, e => e

def attrEnv : Option String → Rec → Env → Env
  | none, _, e => e
  | some nm, x, e => mapEnv nm (x nm).toMap e

/-- what the reader is supposed to have assigned after reading the bytes of `x` -/
def L.expect : L → Rec → Env → Env
  | .nil, _, e => e
  | .fld nm _ rest, x, e => rest.expect x ((nm, x nm) :: e)
  | .lit _ _ rest, x, e => rest.expect x e
  | .sw nm c1 c2 rest, x, e =>
    rest.expect x (if (x nm).toInt = 1 then c1.expect x e else if (x nm).toInt = 2 then c2.expect x e else e)
  | .opt _ _ cond body _ rest, x, e =>
    rest.expect x (if (x cond).toInt ≠ 0 then body.expect x e else e)
  | .dflt nm _ cond d rest, x, e => rest.expect x ((nm, dfl (x nm) (e.get cond) d) :: e)
  | .wrap body attr rest, x, e => rest.expect x (attrEnv attr x (body.expect x e))
  | .fields nm rest, x, e =>
    match (x nm).toMapN with
    | some (kv :: kvs) => rest.expect x ((nm, .m (some (kv :: kvs))) :: e)
    | _ => rest.expect x e
  | .bit nm mask body rest, x, e => rest.expect x (if bitSet (x nm) mask then body.expect x e else e)
  | .ver _ _ rest, x, e => rest.expect x e

def mapWF (V : ValueRT) : Option (List (Bytes × Value)) → Prop
  | some kvs => V.wf (.map kvs)
  | none => True

def attrWF (V : ValueRT) : Option String → Rec → Prop
  | none, _ => True
  | some nm, x => mapWF V (x nm).toMap

def fieldsWF (V : ValueRT) : Option (List (Bytes × Value)) → Prop
  | none => True
  | some kvs => kvs.length ≤ 255 ∧ V.wfKVs kvs ∧ (kvs.map (·.1)).Nodup

/-- ranges of the field types + scoping side conditions (a switch looks at a field that has
    been read and holds the written value) -/
def L.WF (V : ValueRT) : L → Rec → Env → Prop
  | .nil, _, _ => True
  | .fld nm k rest, x, e => k.wf (x nm) ∧ rest.WF V x ((nm, x nm) :: e)
  | .lit k v rest, x, e => k.wf (.i v) ∧ rest.WF V x e
  | .sw nm c1 c2 rest, x, e =>
    e.get nm = x nm ∧
    (if (x nm).toInt = 1 then c1.WF V x e else if (x nm).toInt = 2 then c2.WF V x e else True) ∧
    rest.WF V x (if (x nm).toInt = 1 then c1.expect x e else if (x nm).toInt = 2 then c2.expect x e else e)
  | .opt flag _ cond body alts rest, x, e =>
    0 < flag ∧ flag < 256 ∧ alts.lookup 0 = none ∧
    (if (x cond).toInt ≠ 0 then body.WF V x e else True) ∧
    rest.WF V x (if (x cond).toInt ≠ 0 then body.expect x e else e)
  | .dflt nm k cond d rest, x, e => k.wf (x nm) ∧ rest.WF V x ((nm, dfl (x nm) (e.get cond) d) :: e)
  | .wrap body attr rest, x, e =>
    (body.write x ++ attrBytes attr x).length < 2147483648 ∧ body.WF V x e ∧ attrWF V attr x ∧
    rest.WF V x (attrEnv attr x (body.expect x e))
  | .fields nm rest, x, e =>
    fieldsWF V (x nm).toMapN ∧
    (match (x nm).toMapN with
     | some (kv :: kvs) => rest.WF V x ((nm, .m (some (kv :: kvs))) :: e)
     | _ => rest.WF V x e)
  | .bit nm mask body rest, x, e =>
    e.get nm = x nm ∧ (if bitSet (x nm) mask then body.WF V x e else True) ∧
    rest.WF V x (if bitSet (x nm) mask then body.expect x e else e)
  | .ver min v rest, x, e => min ≤ v ∧ v < 256 ∧ rest.WF V x e

theorem rdU1_cons (b : Nat) (r : Bytes) (h : b < 256) : D.ofP (rdU 1) (b :: r) = some (b, r) := by
  have := run_rdU 1 b r (by omega)
  simpa [beN, D.ofP, Nat.mod_eq_of_lt h] using this

theorem rdU1_reads (b : Nat) (h : b < 256) : (D.ofP (rdU 1)).Reads [b] b := fun r => rdU1_cons b r h

theorem readAttr_rt (V : ValueRT) (attr : Option String) (x : Rec) (e : Env) (h : attrWF V attr x) :
    readAttr attr e (attrBytes attr x) = some (attrEnv attr x e) := by
  cases attr with
  | none => rfl
  | some nm =>
    simp only [attrWF, attrBytes, attrEnv] at h ⊢
    generalize (x nm).toMap = m at h ⊢
    cases m with
    | none => rfl
    | some kvs =>
      have hne : (Value.encV (.map kvs)).isEmpty = false := by simp [Value.encV]
      have := V.rt (.map kvs) [] h
      simp only [List.append_nil] at this
      simp only [readAttr, mapBytes, mapEnv, hne, this]
      rfl

/-- a non-empty custom-field table is its size as a byte, then entries that the key/value loop takes back -/
theorem encFields_cons_rt (V : ValueRT) (kv : Bytes × Value) (kvs : List (Bytes × Value))
    (h : fieldsWF V (some (kv :: kvs))) :
    encFields (some (kv :: kvs)) = [(kv :: kvs).length] ++ Value.encKVs (kv :: kvs) ∧
    (kv :: kvs).length < 256 ∧
    (readKVs (kv :: kvs).length).Reads (Value.encKVs (kv :: kvs)) (kv :: kvs) := by
  obtain ⟨hl, hw, hn⟩ := h
  refine ⟨?_, by omega, fun r => V.rtKVs (kv :: kvs) r hw hn⟩
  simp only [encFields, Nat.mod_eq_of_lt (by omega : (kv :: kvs).length < 256), List.singleton_append]

end Step
