/-
  Golib.Step.Stream — tagged records (`WriteStep` / `ReadStep`, `service.ToBytes` / `ToObject`) and
  streams of them: `ToBytesStep` of any list of registered, well-formed steps is read back step by
  step, in order, by `n` calls of `ReadStep` or by reading until the input is used up.  Induction on
  the list, using the round trip of one tagged record with an arbitrary rest.
-/
import Golib.Step.Alt

namespace Step
open Prim

/-- a step/service value that its registry knows, with fields in the ranges of their Go types -/
def Item.ok (V : ValueRT) (tbl : List (Nat × String × L)) (s : Item) : Prop :=
  s.code < 256 ∧ lookupLayout tbl s.code = some s.lay ∧ s.lay.WF V s.x []

/-- what reading the item back yields: its type code and the fields assigned in the fresh object -/
def Item.expected (s : Item) : Nat × Env := (s.code, s.lay.expect s.x [])

/-- `ReadStep` on a type byte: the registry decides -/
theorem readOne_cons (tbl : List (Nat × String × L)) (c : Nat) (bs : Bytes) (hc : c < 256) :
    readOne tbl (c :: bs) = match lookupLayout tbl c with
      | none => none
      | some l => D.bind (l.read []) (fun e => D.pure (c, e)) bs := by
  unfold readOne
  rw [D.bind_some (rdU1_cons c bs hc)]
  cases lookupLayout tbl c <;> rfl

theorem lookupLayout_none (tbl : List (Nat × String × L)) (c : Nat) (h : c ∉ tbl.map (·.1)) :
    lookupLayout tbl c = none := by
  simp only [lookupLayout, lookup_none_of_not_mem tbl c h]

theorem lookupLayout_some (tbl : List (Nat × String × L)) (c : Nat) (l : L) (h : lookupLayout tbl c = some l) :
    ∃ n, tbl.lookup c = some (n, l) := by
  fun_cases lookupLayout tbl c <;> simp_all [lookupLayout]

theorem tagged_roundtrip (V : ValueRT) (tbl : List (Nat × String × L)) (s : Item) (h : s.ok V tbl) :
    (readOne tbl).Reads s.bytes s.expected := by
  obtain ⟨hc, hl, hw⟩ := h
  refine (rdU1_reads s.code hc).bind (w' := s.lay.write s.x) ?_
  simp only [hl]
  exact (L.read_reads V _ _ _ hw).map _

theorem readNAcc_roundtrip (V : ValueRT) (tbl : List (Nat × String × L)) (ss : List Item)
    (acc : List (Nat × Env)) (h : ∀ s ∈ ss, s.ok V tbl) :
    (readNAcc tbl ss.length acc).Reads (toBytesStep ss) (acc.reverse ++ ss.map Item.expected) := by
  induction ss generalizing acc with
  | nil => simpa [readNAcc, toBytesStep] using D.Reads.pure acc.reverse
  | cons s ss ih =>
    have := (tagged_roundtrip V tbl s (h s (by simp))).bind (f := fun s => readNAcc tbl ss.length (s :: acc))
      (ih (s.expected :: acc) fun t ht => h t (by simp [ht]))
    simpa [readNAcc, toBytesStep] using this

/-- `n` calls of `ReadStep` on `ToBytesStep steps` followed by anything -/
theorem stream_roundtrip_n (V : ValueRT) (tbl : List (Nat × String × L)) (ss : List Item)
    (h : ∀ s ∈ ss, s.ok V tbl) : (readN tbl ss.length).Reads (toBytesStep ss) (ss.map Item.expected) := by
  simpa [readN] using readNAcc_roundtrip V tbl ss [] h

theorem Item.bytes_length_pos (s : Item) : 0 < s.bytes.length := by simp [Item.bytes]

theorem toBytesStep_length (ss : List Item) : ss.length ≤ (toBytesStep ss).length := by
  induction ss with
  | nil => simp [toBytesStep]
  | cons s ss ih =>
    have := s.bytes_length_pos
    simp only [toBytesStep, List.length_cons, List.length_append]; omega

theorem readAllF_roundtrip (V : ValueRT) (tbl : List (Nat × String × L)) (ss : List Item)
    (acc : List (Nat × Env)) (f : Nat) (hf : ss.length ≤ f) (h : ∀ s ∈ ss, s.ok V tbl) :
    readAllF tbl f acc (toBytesStep ss) = some (acc.reverse ++ ss.map Item.expected) := by
  induction ss generalizing acc f with
  | nil => cases f <;> simp [readAllF, toBytesStep]
  | cons s ss ih =>
    cases f with
    | zero => simp at hf
    | succ f =>
      have hb : toBytesStep (s :: ss) = s.code :: (s.lay.write s.x ++ toBytesStep ss) := by
        simp [toBytesStep, Item.bytes]
      have hr := tagged_roundtrip V tbl s (h s (by simp)) (toBytesStep ss)
      simp only [Item.bytes, List.cons_append] at hr
      rw [hb]
      simp only [readAllF, hr]
      rw [ih (s.expected :: acc) f (by simpa using hf) (fun t ht => h t (by simp [ht]))]
      simp

/-- reading `ToBytesStep steps` until the input is used up returns exactly the steps, in order -/
theorem stream_roundtrip (V : ValueRT) (tbl : List (Nat × String × L)) (ss : List Item)
    (h : ∀ s ∈ ss, s.ok V tbl) : readAll tbl (toBytesStep ss) = some (ss.map Item.expected) := by
  unfold readAll
  rw [readAllF_roundtrip V tbl ss [] _ (toBytesStep_length ss) h]; simp

/-- only `fld` and `lit` items -/
def L.plain : L → Bool
  | .nil => true
  | .fld _ _ rest => rest.plain
  | .lit _ _ rest => rest.plain
  | _ => false

def L.names : L → List String
  | .nil => []
  | .fld nm _ rest => nm :: rest.names
  | .lit _ _ rest => rest.names
  | .sw _ c1 c2 rest => c1.names ++ c2.names ++ rest.names
  | .opt _ _ _ body _ rest => body.names ++ rest.names
  | .dflt nm _ _ _ rest => nm :: rest.names
  | .wrap body attr rest => body.names ++ attr.toList ++ rest.names
  | .fields nm rest => nm :: rest.names
  | .bit _ _ body rest => body.names ++ rest.names
  | .ver _ _ rest => rest.names

end Step
