/-
  Golib.Step.Plain — layouts made of plain fields and constants only (most step types, the
  services, two of the pack bodies): well-formedness is "every field is in the range of its Go
  type", and every field comes back.
-/
import Golib.Step.Stream

namespace Step
open Prim

/-- the (name, primitive) pairs of the plain fields of a layout -/
def L.fieldKinds : L → List (String × Kind)
  | .nil => []
  | .fld nm k rest => (nm, k) :: rest.fieldKinds
  | .lit _ _ rest => rest.fieldKinds
  | _ => []

/-- the constants a layout writes fit their primitive (checked by `decide` per layout) -/
def L.litsOK : L → Bool
  | .nil => true
  | .fld _ _ rest => rest.litsOK
  | .lit k v rest =>
    (match k with
     | .u8 => decide (0 ≤ v ∧ v < 256)
     | .bool => decide (v = 0 ∨ v = 1)
     | .i32 | .dec32 => decide (inRange 4 v)
     | .i64 | .dec64 => decide (inRange 8 v)
     | _ => false) && rest.litsOK
  | _ => true

/-- every field holds a value of its Go type -/
def L.inRanges (l : L) (x : Rec) : Prop := ∀ p ∈ l.fieldKinds, p.2.wf (x p.1)

theorem L.plain_WF (V : ValueRT) (l : L) (x : Rec) (e : Env) (hp : l.plain = true)
    (hl : l.litsOK = true) (hf : l.inRanges x) : l.WF V x e := by
  induction l generalizing e with
  | nil => trivial
  | fld nm k rest ih =>
    refine ⟨hf (nm, k) (by simp [L.fieldKinds]), ih _ hp hl (fun p hp' => hf p (by simp [L.fieldKinds, hp']))⟩
  | lit k v rest ih =>
    simp only [L.litsOK, Bool.and_eq_true] at hl
    refine ⟨?_, ih _ hp hl.2 (fun p hp' => hf p (by simpa [L.fieldKinds] using hp'))⟩
    have h1 := hl.1
    cases k <;> simp only [Kind.wf] <;> simp_all
  | _ => simp [L.plain] at hp

/-- what the reader of a plain layout assigns is the run of its fields -/
theorem L.plain_expect (l : L) (x : Rec) (e : Env) (hp : l.plain = true) :
    l.expect x e = flatExpect l.fieldKinds x e := by
  induction l generalizing e with
  | nil => rfl
  | fld nm k rest ih => exact ih _ hp
  | lit k v rest ih => exact ih _ hp
  | _ => cases hp

theorem L.plain_names (l : L) (hp : l.plain = true) : l.names = l.fieldKinds.map (·.1) := by
  induction l with
  | nil => rfl
  | fld nm k rest ih => rw [L.names, L.fieldKinds, List.map_cons, ih hp]
  | lit k v rest ih => exact ih hp
  | _ => cases hp

/-- every field named in a plain layout IS assigned, with the value written (`lookup = some`, not merely
    "reads as": a field that was not assigned would read as the zero value) -/
theorem L.plain_expect_lookup (l : L) (x : Rec) (e : Env) (nm : String) (hp : l.plain = true)
    (hn : nm ∈ l.names) : (l.expect x e).lookup nm = some (x nm) := by
  rw [L.plain_expect l x e hp, flatExpect_lookup, if_pos (L.plain_names l hp ▸ hn)]

theorem Env.get_of_lookup (e : Env) (nm : String) (v : Val) (h : e.lookup nm = some v) : e.get nm = v := by
  simp only [Env.get, h]

-- `hd` is not needed: a name bound twice is bound to the same value both times
/-- every field named in a plain layout with distinct names comes back with the value written -/
theorem L.plain_expect_get (l : L) (x : Rec) (e : Env) (nm : String) (hp : l.plain = true)
    (hd : l.names.Nodup) (hn : nm ∈ l.names) : (l.expect x e).get nm = x nm :=
  Env.get_of_lookup _ _ _ (L.plain_expect_lookup l x e nm hp hn)

end Step
