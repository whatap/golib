/-
  Golib.Tcp.Theorems — the invariants lifted to every reachable state, and their consequences
  in terms of what the connections carried.
-/
import Golib.Tcp.NoLoss
import Golib.Tcp.QInv

namespace Tcp

variable (cfg : Cfg) (bytesOf : Nat → Bytes)

theorem run_inv {I : St → Prop} (P : Act → Prop)
    (hstep : ∀ s a s', P a → I s → step cfg bytesOf s a = some s' → I s') :
    ∀ (acts : List Act) (s0 s : St), (∀ a ∈ acts, P a) → I s0 → run cfg bytesOf acts s0 = some s → I s := by
  intro acts s0 s
  fun_induction run cfg bytesOf acts s0 with
  | case1 s0 => intro _ h0 h; cases h; exact h0
  | case2 a as s0 s1 hs ih =>
    intro hP h0 h
    exact ih (fun b hb => hP b (by simp [hb])) (hstep s0 a s1 (hP a (by simp)) h0 hs) h
  | case3 a as s0 hs => intro _ _ h; cases h

/-- what holds in every state the client can reach, provided `sendDirect` takes the send lock -/
structure Inv (s : St) : Prop where
  mutex : MutexInv cfg s
  bytes : BytesInv bytesOf s
  order : OrderInv s
  fresh : FreshInv s
  q : QInv cfg s

theorem inv_init : Inv cfg bytesOf init :=
  ⟨mutexInv_init cfg, bytesInv_init bytesOf, orderInv_init, freshInv_init, qInv_init cfg⟩

theorem inv_step (hl : cfg.sendLocked = true) (s : St) (a : Act) (s' : St) (hi : Inv cfg bytesOf s)
    (h : step cfg bytesOf s a = some s') : Inv cfg bytesOf s' :=
  ⟨mutexInv_step cfg bytesOf hl s s' a hi.mutex h,
   bytesInv_step cfg bytesOf s s' a hi.mutex hi.bytes h,
   orderInv_step cfg bytesOf s s' a hi.mutex hi.order h,
   freshInv_step cfg bytesOf s s' a hi.order hi.fresh h,
   qInv_step cfg bytesOf s s' a hi.mutex hi.fresh hi.q h⟩

theorem inv_run (hl : cfg.sendLocked = true) (acts : List Act) (s s' : St) (hi : Inv cfg bytesOf s)
    (h : run cfg bytesOf acts s = some s') : Inv cfg bytesOf s' :=
  run_inv cfg bytesOf (fun _ => True) (fun s a s' _ hi h => inv_step cfg bytesOf hl s a s' hi h)
    acts s s' (fun _ _ => trivial) hi h

theorem inv_reach (hl : cfg.sendLocked = true) {s : St} (hr : Reach cfg bytesOf s) : Inv cfg bytesOf s := by
  obtain ⟨acts, h⟩ := hr
  exact inv_run cfg bytesOf hl acts init s (inv_init cfg bytesOf) h

theorem sent_prefix_of_bytesInv {s : St} (hb : BytesInv bytesOf s) (c : Nat) :
    s.sent c <+: concatF bytesOf (s.log.get c) := by
  have := hb.eq c
  rw [List.append_assoc] at this
  exact ⟨_, this⟩

theorem delivered_prefix_sent (s : St) (c : Nat) : s.delivered c <+: s.sent c := by
  fun_cases St.delivered s c
  · exact List.take_prefix _ _
  · exact List.prefix_refl _

/-- a strictly increasing list whose members all occur in another strictly increasing list is a sublist of it -/
theorem sublist_of_sorted : ∀ (l2 l1 : List Nat), l1.Pairwise (· < ·) → l2.Pairwise (· < ·) →
    (∀ x ∈ l1, x ∈ l2) → l1.Sublist l2 := by
  intro l2
  induction l2 with
  | nil =>
    intro l1 _ _ hs
    cases l1 with
    | nil => exact List.Sublist.slnil
    | cons a r => exact absurd (hs a (by simp)) (by simp)
  | cons b r ih =>
    intro l1 h1 h2 hs
    cases l1 with
    | nil => exact List.nil_sublist _
    | cons a l1' =>
      rw [List.pairwise_cons] at h1 h2
      by_cases e : a = b
      · subst e
        refine List.Sublist.cons_cons a (ih l1' h1.2 h2.2 ?_)
        intro x hx
        have hax := h1.1 x hx
        rcases List.mem_cons.mp (hs x (by simp [hx])) with h3 | h3
        · omega
        · exact h3
      · refine List.Sublist.cons b (ih (a :: l1') (List.pairwise_cons.mpr h1) h2.2 ?_)
        have har : a ∈ r := by
          rcases List.mem_cons.mp (hs a (by simp)) with h3 | h3
          · exact absurd h3 e
          · exact h3
        have hba := h2.1 a har
        intro x hx
        rcases List.mem_cons.mp hx with h4 | h4
        · subst h4; exact har
        · have := h1.1 x h4
          rcases List.mem_cons.mp (hs x (by simp [h4])) with h3 | h3
          · omega
          · exact h3

/-- no thread is inside the racy background dial (kept by every step under `bgLocked`: `noDial_step`) -/
def NoDial (s : St) : Prop := ∀ t, s.pc t ≠ .bgDial

theorem noDial_step (hb : cfg.bgLocked = true) (s : St) (a : Act) (s' : St) (hi : NoDial s)
    (h : step cfg bytesOf s a = some s') : NoDial s' := by
  intro t' hd
  have hs := step_sound h
  clear h
  cases hs with
  | @book _ t p s₁ hk =>
    rcases pc_of_setPc hd with e | e
    · have := hk.pc.2.2 e; rw [hb] at this; cases this
    · exact hi t' (by simpa only [St.pc, hk.sameW.1] using e)
  | still he => exact hi t' (by simpa only [St.pc, he.sameW.1] using hd)
  | bgDialOk _ | reconfDialOk _ => exact hi t' ((pc_of_setPc hd).resolve_left (by simp))
  | writeBegin | writeChunk | autoFlushErr | flushOk | flushErr =>
    exact hi t' ((pc_of_setPc hd).resolve_left (by first | simp | (split <;> simp)))
  | connectOk | bgConnectOk | autoFlush | peerClose => exact hi t' hd

/-- the conclusion of the no-loss theorems: every accepted send is queued, in progress on
    process(), or whole on a connection the peer did not cut -/
def NothingLost (s : St) : Prop :=
  ∀ sid, (sid, true) ∈ s.results →
    sid ∈ s.queue ∨ inProgress (s.pc 0) sid ∨ ∃ w, Whole bytesOf s w sid ∧ s.delivered w = s.sent w

theorem nothingLost_of_healthy {s : St} (hi : HealthyInv bytesOf s) : NothingLost bytesOf s := by
  intro sid h
  rcases hi.accepted sid h with h1 | h1 | ⟨w, h1⟩
  · exact Or.inl h1
  · exact Or.inr (Or.inl h1)
  · exact Or.inr (Or.inr ⟨w, h1, by simp [St.delivered, hi.noCut w]⟩)

/-- schedules without fault actions -/
def Healthy (acts : List Act) : Prop := ∀ a ∈ acts, a.isFault = false

instance (acts : List Act) : Decidable (Healthy acts) := by unfold Healthy; infer_instance

theorem no_loss_locked (hl : cfg.sendLocked = true) (hbg : cfg.bgLocked = true) (hac : cfg.acLocked = true)
    (hpl : cfg.procLocked = true) (hrr : cfg.recoverReports = true) (acts : List Act) (s : St)
    (hh : Healthy acts) (h : run cfg bytesOf acts init = some s) : NothingLost bytesOf s := by
  have := run_inv cfg bytesOf
    (I := fun s => (Inv cfg bytesOf s ∧ HealthyInv bytesOf s) ∧ NoDial s) (fun a => a.isFault = false)
    (fun s a s' hf hi h => by
      refine ⟨⟨inv_step cfg bytesOf hl s a s' hi.1.1 h, ?_⟩, noDial_step cfg bytesOf hbg s a s' hi.2 h⟩
      by_cases e : a = .bgDialOk
      · subst e; exact absurd (of_ite_some h).1 (hi.2 0)
      · have hsw : a.isSwallow = false := by
          cases a with
          | swallow t =>
            cases step_sound h with
            | still he => cases he
            | book hk => cases hk with | quiet hq => cases hq with | swallow _ _ hf' _ _ => rw [hrr] at hf'; cases hf'
          | _ => rfl
        refine healthyInv_step cfg bytesOf s s' a ?_ hi.1.1.mutex hi.1.1.bytes hi.1.2 h
        cases hr : a.isReconf with
        | true => exact Or.inr ⟨hf, rfl, hac, hpl⟩
        | false => exact Or.inl (by simp [Act.benign, hf, e, hr, hsw]))
    acts init s hh ⟨⟨inv_init cfg bytesOf, healthyInv_init bytesOf⟩, fun t => by simp [init, St.pc, AMap.get]⟩ h
  exact nothingLost_of_healthy bytesOf this.1.2

end Tcp
