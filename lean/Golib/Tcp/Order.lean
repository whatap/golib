/-
  Golib.Tcp.Order — order and at-most-once.

  Sends are numbered in the order the client accepts them (`nsid` at Lock time in direct mode,
  at Put time in queue mode), so "acceptance order" is the numeric order of send ids.
  `flatLogs s` lists the sends whose frames were handed to the buffered writers, connection by
  connection in the order the connections were made.  The invariant says this list is strictly
  increasing (no duplicate, no reordering) and contains only accepted sends.
-/
import Golib.Tcp.Inv

namespace Tcp

variable (cfg : Cfg) (bytesOf : Nat → Bytes)

def flatLogs (s : St) : List Nat := (List.range s.next).flatMap (fun w => s.log.get w)

theorem pairwise_snoc {α : Type} {R : α → α → Prop} {l : List α} {n : α} (hs : l.Pairwise R) (hl : ∀ x ∈ l, R x n) :
    (l ++ [n]).Pairwise R := by
  rw [List.pairwise_append]
  refine ⟨hs, by simp, ?_⟩
  intro a ha b hb; simp at hb; subst hb; exact hl a ha

structure OrderInv (s : St) : Prop where
  freshLog : ∀ w, s.next ≤ w → s.log.get w = []
  wrNew : ∀ w, s.wr = some w → w + 1 = s.next
  connWr : s.conn ≠ none → s.wr ≠ none
  logLt : ∀ x ∈ flatLogs s, x < s.nsid
  logSorted : (flatLogs s).Pairwise (· < ·)
  made : ∀ t sid, s.pc t = .made sid →
          sid < s.nsid ∧ sid ∈ s.handed ∧ (∀ x ∈ flatLogs s, x < sid) ∧ (∀ y ∈ s.queue, sid < y)
  queueSorted : s.queue.Pairwise (· < ·)
  queueLt : ∀ y ∈ s.queue, y < s.nsid ∧ y ∈ s.handed ∧ ∀ x ∈ flatLogs s, x < y
  handedSorted : s.handed.Pairwise (· < ·)
  handedLt : ∀ x ∈ s.handed, x < s.nsid
  logHanded : ∀ x ∈ flatLogs s, x ∈ s.handed

theorem orderInv_init : OrderInv init := by
  constructor <;> simp [init, flatLogs, St.pc, AMap.get]
  all_goals rfl

/-- steps that neither accept a send nor start a write nor make a connection: no thread newly
    holds a frame it has not written (`hpc`), the connection may be dropped -/
theorem OrderInv.keep {s s' : St} (hi : OrderInv s)
    (hpc : ∀ t' sid, s'.pc t' = .made sid → s.pc t' = .made sid)
    (hnext : s'.next = s.next) (hnsid : s'.nsid = s.nsid) (hlog : s'.log = s.log)
    (hq : s'.queue = s.queue) (hh : s'.handed = s.handed) (hwr : s'.wr = s.wr)
    (hconn : s'.conn = s.conn ∨ s'.conn = none) : OrderInv s' := by
  have hfl : flatLogs s' = flatLogs s := by simp [flatLogs, hnext, hlog]
  constructor
  · rw [hnext, hlog]; exact hi.freshLog
  · rw [hnext, hwr]; exact hi.wrNew
  · rw [hwr]; rcases hconn with h | h
    · rw [h]; exact hi.connWr
    · intro hc; exact absurd h hc
  · rw [hfl, hnsid]; exact hi.logLt
  · rw [hfl]; exact hi.logSorted
  · intro t' sid h
    rw [hfl, hnsid, hq, hh]; exact hi.made t' sid (hpc t' sid h)
  · rw [hq]; exact hi.queueSorted
  · rw [hq, hnsid, hh, hfl]; exact hi.queueLt
  · rw [hh]; exact hi.handedSorted
  · rw [hh, hnsid]; exact hi.handedLt
  · rw [hfl, hh]; exact hi.logHanded

/-- a new connection (and writer) becomes current; optionally thread `t` moves to `p` -/
theorem OrderInv.connect {s s' : St} (hi : OrderInv s)
    (hpc : ∀ t' sid, s'.pc t' = .made sid → s.pc t' = .made sid)
    (hnext : s'.next = s.next + 1) (hnsid : s'.nsid = s.nsid) (hlog : s'.log = s.log)
    (hq : s'.queue = s.queue) (hh : s'.handed = s.handed) (hwr : s'.wr = some s.next) : OrderInv s' := by
  have hfl : flatLogs s' = flatLogs s := by
    simp only [flatLogs, hnext, hlog, List.range_succ, List.flatMap_append]
    simp [hi.freshLog s.next (Nat.le_refl _)]
  constructor
  · intro w hw; rw [hlog]; exact hi.freshLog w (by omega)
  · intro w hw; rw [hwr] at hw; cases hw; exact hnext.symm
  · intro _; rw [hwr]; simp
  · rw [hfl, hnsid]; exact hi.logLt
  · rw [hfl]; exact hi.logSorted
  · intro t' sid h
    rw [hfl, hnsid, hq, hh]; exact hi.made t' sid (hpc t' sid h)
  · rw [hq]; exact hi.queueSorted
  · rw [hq, hnsid, hh, hfl]; exact hi.queueLt
  · rw [hh]; exact hi.handedSorted
  · rw [hh, hnsid]; exact hi.handedLt
  · rw [hfl, hh]; exact hi.logHanded

/-- The client numbers a send `s.nsid`.  `ha` is what `handed` gains (`[s.nsid]` if the send is accepted), `qa` what
    the queue gains (`[s.nsid]` if it is queued, which is an acceptance); a thread newly at `made` holds this send,
    accepted and not queued, and then the queue is empty (direct mode). -/
theorem OrderInv.accept {s s' : St} (hi : OrderInv s) (ha qa : List Nat)
    (hnext : s'.next = s.next) (hwr : s'.wr = s.wr) (hconn : s'.conn = s.conn) (hlog : s'.log = s.log)
    (hnsid : s'.nsid = s.nsid + 1) (hh : s'.handed = s.handed ++ ha) (hq : s'.queue = s.queue ++ qa)
    (hha : ha = [] ∨ ha = [s.nsid]) (hqa : qa = [] ∨ (qa = [s.nsid] ∧ ha = [s.nsid]))
    (hpc : ∀ t' sid, s'.pc t' = .made sid → s.pc t' = .made sid ∨ (sid = s.nsid ∧ ha = [s.nsid] ∧ s'.queue = [])) :
    OrderInv s' := by
  have hfl : flatLogs s' = flatLogs s := by simp [flatLogs, hnext, hlog]
  have hmem : ∀ {x} {l : List Nat}, (l = [] ∨ l = [s.nsid]) → x ∈ l → x = s.nsid := by
    intro x l hl hx; rcases hl with rfl | rfl
    · cases hx
    · exact List.mem_singleton.mp hx
  have hqa' : qa = [] ∨ qa = [s.nsid] := hqa.imp id And.left
  constructor
  · rw [hnext, hlog]; exact hi.freshLog
  · rw [hnext, hwr]; exact hi.wrNew
  · rw [hwr, hconn]; exact hi.connWr
  · rw [hfl, hnsid]; exact fun x hx => Nat.lt_succ_of_lt (hi.logLt x hx)
  · rw [hfl]; exact hi.logSorted
  · intro t' sid h
    rw [hfl, hnsid, hh, hq]
    rcases hpc t' sid h with h0 | ⟨rfl, rfl, hq0⟩
    · obtain ⟨h1, h2, h3, h4⟩ := hi.made t' sid h0
      refine ⟨Nat.lt_succ_of_lt h1, List.mem_append_left _ h2, h3, fun y hy => ?_⟩
      rcases List.mem_append.mp hy with h5 | h5
      · exact h4 y h5
      · rw [hmem hqa' h5]; exact h1
    · refine ⟨Nat.lt_succ_self _, by simp, hi.logLt, fun y hy => ?_⟩
      rw [← hq, hq0] at hy; cases hy
  · rw [hq]
    rcases hqa' with rfl | rfl
    · rw [List.append_nil]; exact hi.queueSorted
    · exact pairwise_snoc hi.queueSorted (fun a ha => (hi.queueLt a ha).1)
  · intro y hy
    rw [hfl, hnsid, hh]
    rw [hq] at hy
    rcases List.mem_append.mp hy with h5 | h5
    · obtain ⟨h1, h2, h3⟩ := hi.queueLt y h5
      exact ⟨Nat.lt_succ_of_lt h1, List.mem_append_left _ h2, h3⟩
    · rcases hqa with rfl | ⟨rfl, rfl⟩
      · cases h5
      · rw [List.mem_singleton.mp h5]; exact ⟨Nat.lt_succ_self _, by simp, hi.logLt⟩
  · rw [hh]
    rcases hha with rfl | rfl
    · rw [List.append_nil]; exact hi.handedSorted
    · exact pairwise_snoc hi.handedSorted hi.handedLt
  · intro x hx
    rw [hnsid]; rw [hh] at hx
    rcases List.mem_append.mp hx with h1 | h1
    · exact Nat.lt_succ_of_lt (hi.handedLt x h1)
    · rw [hmem hha h1]; exact Nat.lt_succ_self _
  · rw [hfl, hh]; exact fun x hx => List.mem_append_left _ (hi.logHanded x hx)

theorem OrderInv.setPc {s : St} (hi : OrderInv s) (t : Nat) {p : Pc} (hp : ∀ sid, p ≠ .made sid) :
    OrderInv (s.setPc t p) :=
  hi.keep (fun _ _ h => (pc_of_setPc h).resolve_left (hp _)) rfl rfl rfl rfl rfl rfl (Or.inl rfl)

theorem OrderInv.procRel {s : St} (hi : OrderInv s) (b : Bool) (t : Nat) : OrderInv (s.procRel b t) :=
  ⟨hi.freshLog, hi.wrNew, hi.connWr, hi.logLt, hi.logSorted, hi.made, hi.queueSorted, hi.queueLt, hi.handedSorted,
    hi.handedLt, hi.logHanded⟩

theorem orderInv_step (s s' : St) (a : Act) (hm : MutexInv cfg s)
    (hi : OrderInv s) (h : step cfg bytesOf s a = some s') : OrderInv s' := by
  -- nothing `OrderInv` reads changes (the connection may be dropped); a thread moves to a point other than `made`
  have away : ∀ {s₁ : St} (t : Nat) {p : Pc}, s₁.pcs = s.pcs → s₁.next = s.next → s₁.nsid = s.nsid → s₁.log = s.log →
      s₁.queue = s.queue → s₁.handed = s.handed → s₁.wr = s.wr → (s₁.conn = s.conn ∨ s₁.conn = none) →
      (∀ sid, p ≠ .made sid) → OrderInv (s₁.setPc t p) := by
    intro s₁ t p h0 h1 h2 h3 h4 h5 h6 h7 hp
    exact (hi.keep (fun _ _ h => by simpa only [St.pc, h0] using h) h1 h2 h3 h4 h5 h6 h7).setPc t hp
  have hs := step_sound h
  clear h
  cases hs with
  | @book _ t p s₁ hb =>
    cases hb with
    | quiet hq => exact hi.setPc t (fun _ => by cases hq <;> simp)
    | close _ => exact away t rfl rfl rfl rfl rfl rfl rfl (.inr rfl) (fun _ => by split <;> simp)
    | flushAfterFail _ => exact away 0 rfl rfl rfl rfl rfl rfl rfl (.inl rfl) (fun _ => by simp)
    | unlock _ _ => exact away t rfl rfl rfl rfl rfl rfl rfl (.inl rfl) (fun _ => by simp)
    | reconfClose _ _ _ => exact away t rfl rfl rfl rfl rfl rfl rfl (.inr rfl) (fun _ => by simp)
    | reconfDialFail _ => exact away t rfl rfl rfl rfl rfl rfl rfl (.inl rfl) (fun _ => by simp)
    | @lockSend t sid ht0 hq hp hsid hlk =>
      subst hsid
      have hqe : s.queue = [] := hm.noq hq
      refine hi.accept [s.nsid] [] rfl rfl rfl rfl rfl rfl (List.append_nil _).symm (.inr rfl) (.inl rfl)
        (fun t' sid' h' => ?_)
      rcases pc_of_setPc h' with e | e
      · cases e; exact .inr ⟨rfl, rfl, hqe⟩
      · exact .inl e
    | @dequeue sid q hp hq _ _ =>
      have hfl : flatLogs ({ s with queue := q, lock := if cfg.procLocked = true then some 0 else s.lock, xclosed := false }.setPc 0 (.made sid)) = flatLogs s := rfl
      have hsorted := hi.queueSorted
      rw [hq, List.pairwise_cons] at hsorted
      have hcs0 : ∀ t' sid', t' ≠ 0 → s.pc t' = .made sid' → False := by
        intro t' sid' hne h'
        have huq : cfg.useQueue = true := by
          cases hu : cfg.useQueue with
          | true => rfl
          | false => have := hm.noq hu; simp [hq] at this
        exact hne ((hm.cs t' (by simp [h', inCS])).1 huq).1
      constructor
      · exact hi.freshLog
      · exact hi.wrNew
      · exact hi.connWr
      · exact hi.logLt
      · exact hi.logSorted
      · intro t' sid' h'
        rw [pc_setPc] at h'
        by_cases e : 0 = t'
        · rw [if_pos e] at h'; cases h'
          obtain ⟨h1, h2, h3⟩ := hi.queueLt sid (by rw [hq]; simp)
          exact ⟨h1, h2, by rw [hfl]; exact h3, hsorted.1⟩
        · rw [if_neg e] at h'; exact (hcs0 t' sid' (fun h0 => e h0.symm) h').elim
      · exact hsorted.2
      · intro y hy
        have hy' : y ∈ q := hy
        exact hi.queueLt y (by rw [hq]; exact List.mem_cons_of_mem _ hy')
      · exact hi.handedSorted
      · exact hi.handedLt
      · exact hi.logHanded
  | still he =>
    cases he with
    | @enqueue t sid _ _ _ hsid _ =>
      subst hsid
      exact hi.accept [s.nsid] [s.nsid] rfl rfl rfl rfl rfl rfl rfl (.inr rfl) (.inr ⟨rfl, rfl⟩) (fun _ _ h' => .inl h')
    | @enqueueFail t sid _ _ _ _ _ =>
      exact hi.accept [] [] rfl rfl rfl rfl rfl (List.append_nil _).symm (List.append_nil _).symm (.inl rfl) (.inl rfl)
        (fun _ _ h' => .inl h')
    | extClose _ _ => exact hi.keep (fun _ _ h => h) rfl rfl rfl rfl rfl rfl (Or.inr rfl)
    | _ => exact hi.keep (fun _ _ h => h) rfl rfl rfl rfl rfl rfl (Or.inl rfl)
  | connectOk _ _ | bgConnectOk _ _ _ _ => exact hi.connect (fun _ _ h => h) rfl rfl rfl rfl rfl rfl
  | bgDialOk _ | reconfDialOk _ => exact hi.connect (fun _ _ h => (pc_of_setPc h).resolve_left (by simp)) rfl rfl rfl rfl rfl rfl
  | @writeBegin t sid w hp hw _ he =>
    have hwn : w + 1 = s.next := hi.wrNew w hw
    obtain ⟨hsid, hsh, hlogsid, hqsid⟩ := hi.made t sid hp
    have hcs : inCS (s.pc t) = true := by simp [hp, inCS]
    have hfl0 : ∀ s1 : St, s1.next = s.next → s1.log = s.log.set w (s.log.get w ++ [sid]) →
        flatLogs s1 = flatLogs s ++ [sid] := by
      intro s1 h1 h2
      simp only [flatLogs, h1, h2, ← hwn, List.range_succ, List.flatMap_append, List.flatMap_cons, List.flatMap_nil,
        AMap.get_set_self, List.append_nil, List.append_assoc]
      congr 1
      refine congrArg List.flatten (List.map_congr_left fun x hx => ?_)
      have : x < w := List.mem_range.mp hx
      rw [AMap.get_set_ne]; omega
    have hfl := hfl0 _ (rfl : ({ s with log := s.log.set w (s.log.get w ++ [sid]), pend := s.pend.set w (bytesOf sid), deadline := s.deadline.set w (if cfg.rearm = true then s.now + s.timeout else s.deadline.get w) }.setPc t (.writing sid w (bytesOf sid))).next = s.next) rfl
    constructor
    · intro w' hw'
      show (s.log.set w (s.log.get w ++ [sid])).get w' = []
      rw [AMap.get_set_ne _ _ _ _ (by show w ≠ w'; have : s.next ≤ w' := hw'; omega)]
      exact hi.freshLog w' hw'
    · exact hi.wrNew
    · exact hi.connWr
    · rw [hfl]; intro x hx; rcases List.mem_append.mp hx with h1 | h1
      · exact hi.logLt x h1
      · simp at h1; subst h1; exact hsid
    · rw [hfl]; exact pairwise_snoc hi.logSorted hlogsid
    · intro t' sid' h'
      rw [pc_setPc] at h'
      by_cases e : t = t'
      · rw [if_pos e] at h'; cases h'
      · rw [if_neg e] at h'
        have h'' : s.pc t' = .made sid' := h'
        have : t' = t := mutex_unique cfg hm t' t (by simp [h'', inCS]) hcs
        exact absurd this.symm e
    · exact hi.queueSorted
    · intro y hy
      obtain ⟨h1, h2, h3⟩ := hi.queueLt y hy
      refine ⟨h1, h2, ?_⟩
      rw [hfl]; intro x hx; rcases List.mem_append.mp hx with h4 | h4
      · exact h3 x h4
      · simp at h4; subst h4; exact hqsid y hy
    · exact hi.handedSorted
    · exact hi.handedLt
    · rw [hfl]; intro x hx; rcases List.mem_append.mp hx with h1 | h1
      · exact hi.logHanded x h1
      · simp at h1; subst h1; exact hsh
  | @writeChunk t _ _ _ _ _ _ _ => exact away t rfl rfl rfl rfl rfl rfl rfl (.inl rfl) (fun _ => by simp)
  -- the flushes: peeled update by update (reading a field through the whole tower of updates is slow)
  | @autoFlushErr t _ _ _ _ _ _ _ =>
    refine OrderInv.setPc ?_ t (fun _ => by simp)
    exact hi.keep (fun _ _ h => h) rfl rfl rfl rfl rfl rfl (Or.inl rfl)
  | @flushOk t _ _ _ _ _ _ _ =>
    refine OrderInv.procRel (OrderInv.setPc ?_ t (fun _ => by split <;> simp)) _ _
    exact hi.keep (fun _ _ h => h) rfl rfl rfl rfl rfl rfl (Or.inl rfl)
  | @flushErr t _ _ _ _ _ _ _ _ _ =>
    refine OrderInv.procRel (OrderInv.setPc ?_ t (fun _ => by split <;> simp)) _ _
    exact hi.keep (fun _ _ h => h) rfl rfl rfl rfl rfl rfl (by by_cases h0 : t = 0 <;> simp [h0])
  | autoFlush | peerClose => exact hi.keep (fun _ _ h => h) rfl rfl rfl rfl rfl rfl (Or.inl rfl)

end Tcp
