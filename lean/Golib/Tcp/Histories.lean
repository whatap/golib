/-
  Golib.Tcp.Histories — fault histories: write errors at arbitrary byte offsets, reconnects, cuts.

  The whole-frames / order / at-most-once theorems quantify over every schedule of atomic actions.
  Here they are restated for histories of whole calls whose faults sit at explicit byte offsets
  (`HEv`, `runHist`), together with what makes a fault final: once a buffered writer carries its
  sticky error nothing on its connection changes again (`step_dead`), and a send's frame is handed
  to at most one connection (`one_connection`).
-/
import Golib.Tcp.Recover
import Golib.Tcp.Exec

namespace Tcp

variable (cfg : Cfg) (bytesOf : Nat → Bytes)

theorem push_sent_self (s : St) (w k : Nat) : (s.push w k).sent w = s.sent w ++ (s.buf.get w).take k := by
  simp [St.push, St.sent]

theorem push_sent_ne (s : St) (w k w' : Nat) (h : w ≠ w') : (s.push w k).sent w' = s.sent w' := by
  simp [St.push, St.sent, AMap.get_set, h]

theorem push_sentRev_ne (s : St) (w k w' : Nat) (h : w ≠ w') : (s.push w k).sentRev.get w' = s.sentRev.get w' := by
  simp [St.push, AMap.get_set, h]

theorem step_dead {s s' : St} {a : Act} (h : step cfg bytesOf s a = some s') (w : Nat) (hd : s.err.get w = true) :
    s'.err.get w = true ∧ s'.sentRev.get w = s.sentRev.get w ∧ s'.log.get w = s.log.get w := by
  -- a writer in error is never written to or flushed again: the guards ask for `err = false`
  have ne : ∀ {w0 : Nat}, s.err.get w0 = false → w0 ≠ w := fun he e => by rw [e, hd] at he; cases he
  have hs := step_sound h
  clear h
  cases hs with
  | @book _ t p s₁ hb =>
    show s₁.err.get w = true ∧ s₁.sentRev.get w = s.sentRev.get w ∧ s₁.log.get w = s.log.get w
    rw [hb.sameW.2.err, hb.sameW.2.sentRev, hb.sameW.2.log]; exact ⟨hd, rfl, rfl⟩
  | still he => rw [he.sameW.2.err, he.sameW.2.sentRev, he.sameW.2.log]; exact ⟨hd, rfl, rfl⟩
  | connectOk | bgConnectOk | bgDialOk | reconfDialOk | writeChunk | peerClose => exact ⟨hd, rfl, rfl⟩
  | @writeBegin t sid w0 _ _ _ he => exact ⟨hd, rfl, AMap.get_set_ne _ _ _ _ (ne he)⟩
  | @autoFlush t k sid w0 _ _ _ _ he => exact ⟨hd, push_sentRev_ne s w0 k w (ne he), rfl⟩
  | @autoFlushErr t k sid w0 _ _ _ he =>
    exact ⟨(AMap.get_set_ne _ _ _ _ (ne he)).trans hd, push_sentRev_ne s w0 k w (ne he), rfl⟩
  | @flushOk t sid _ w0 _ _ he _ => exact ⟨hd, push_sentRev_ne s w0 _ w (ne he), rfl⟩
  | @flushErr t k sid _ w0 _ _ _ hk _ =>
    refine ⟨setErr_get (s.push w0 k) w0 w hd, ?_, rfl⟩
    by_cases e : w0 = w
    · -- a failed Flush on a writer already in error pushes nothing
      subst e
      rw [hk hd]
      show (s.sentRev.set w0 _).get w0 = _
      rw [AMap.get_set_self]; rfl
    · exact push_sentRev_ne s w0 k w e

theorem run_dead (acts : List Act) (s s' : St) (h : run cfg bytesOf acts s = some s') (w : Nat)
    (hd : s.err.get w = true) : s'.err.get w = true ∧ s'.sent w = s.sent w ∧ s'.log.get w = s.log.get w :=
  run_inv cfg bytesOf (I := fun s1 => s1.err.get w = true ∧ s1.sent w = s.sent w ∧ s1.log.get w = s.log.get w)
    (fun _ => True)
    (fun s1 a s2 _ hi h => by
      obtain ⟨h1, h2, h3⟩ := step_dead cfg bytesOf h w hi.1
      exact ⟨h1, (congrArg List.reverse h2).trans hi.2.1, h3.trans hi.2.2⟩)
    acts s s' (fun _ _ => trivial) ⟨hd, rfl, rfl⟩ h

theorem reach_run {s s' : St} (hr : Reach cfg bytesOf s) (acts : List Act) (h : run cfg bytesOf acts s = some s') :
    Reach cfg bytesOf s' := by
  obtain ⟨pre, hp⟩ := hr
  exact ⟨pre ++ acts, by rw [run_append, hp]; exact h⟩

theorem one_connection {s : St} (ho : OrderInv s) (c c' sid : Nat) (h1 : sid ∈ s.log.get c) (h2 : sid ∈ s.log.get c') :
    c = c' := by
  have hlt : ∀ d, sid ∈ s.log.get d → d < s.next := fun d hd =>
    Nat.lt_of_not_le fun hle => by rw [ho.freshLog d hle] at hd; cases hd
  -- the logs of two connections, the older first, are apart: `flatLogs` is strictly increasing
  have key : ∀ a b, a < b → sid ∈ s.log.get a → sid ∈ s.log.get b → False := by
    intro a b hab ha hb
    have := List.pairwise_iff_getElem.mp (List.pairwise_flatMap.mp ho.logSorted).2 a b
      (by simpa using Nat.lt_trans hab (hlt b hb)) (by simpa using hlt b hb) hab
    simp only [List.getElem_range] at this
    exact Nat.lt_irrefl _ (this sid ha sid hb)
  rcases Nat.lt_trichotomy c c' with h | h | h
  · exact (key c c' h h1 h2).elim
  · exact h
  · exact (key c' c h h2 h1).elim

theorem flatMap_sublist {α β : Type} (l : List α) (f g : α → List β) (h : ∀ a, (f a).Sublist (g a)) :
    (l.flatMap f).Sublist (l.flatMap g) := by
  induction l with
  | nil => exact List.Sublist.refl _
  | cons a r ih => simp only [List.flatMap_cons]; exact List.Sublist.append (h a) ih

/-- the frames that arrived whole, all connections together, connection after connection -/
def wholeFrames (s : St) (k : Nat → Nat) : List Nat :=
  (List.range s.next).flatMap (fun c => (s.log.get c).take (k c))

/-- **Delivered at most once, in order, whole.**  There is a count `k c` per connection such that
    what the peer of `c` received is exactly the first `k c` frames handed to `c`, followed by
    nothing or by a strict prefix of the next one; the whole frames of all connections together
    are strictly increasing in acceptance order (so none occurs twice, on the same or on two
    connections) and form a subsequence of the accepted sends. -/
theorem delivered_once {s : St} (hc : Inv cfg bytesOf s) :
    ∃ k : Nat → Nat,
      (∀ c, ∃ tail, s.delivered c = concatF bytesOf ((s.log.get c).take (k c)) ++ tail ∧
          (tail = [] ∨ ∃ sid, (s.log.get c)[k c]? = some sid ∧ tail <+: bytesOf sid ∧ tail ≠ bytesOf sid)) ∧
      (wholeFrames s k).Pairwise (· < ·) ∧ (wholeFrames s k).Sublist s.handed := by
  have hw : ∀ c, WholeThenTail bytesOf (s.log.get c) (s.delivered c) := fun c =>
    prefix_frames bytesOf _ _ ((delivered_prefix_sent s c).trans (sent_prefix_of_bytesInv bytesOf hc.bytes c))
  refine ⟨fun c => Classical.choose (hw c), fun c => Classical.choose_spec (hw c), ?_, ?_⟩
  · exact List.Pairwise.sublist (flatMap_sublist _ _ _ (fun c => List.take_sublist _ _)) hc.order.logSorted
  · exact List.Sublist.trans (flatMap_sublist _ _ _ (fun c => List.take_sublist _ _))
      (sublist_of_sorted _ _ hc.order.logSorted hc.order.handedSorted hc.order.logHanded)

theorem connectFail_ok {s : St} {t sid : Nat} (hp : s.pc t = .made sid) (hc : s.conn = none) :
    step cfg bytesOf s (.connectFail t) = some (s.setPc t (.failed sid)) :=
  (Step.book (.quiet (.connectFail hp hc))).complete

/-- actions of a `send()` whose `wr.Write` fails after `k` more bytes reached the kernel -/
def writeFaultTail (t len k : Nat) : List Act :=
  [.writeBegin t, .writeChunk t len, .autoFlushErr t k, .close t, .unlock t]

/-- actions of a `send()` that succeeds followed by a `Flush()` that fails after `k` bytes -/
def flushFaultTail (t len k : Nat) : List Act :=
  [.writeBegin t, .writeChunk t len, .writeEnd t, .flushErr t k, .unlock t]

/-- one call of the direct-mode client, or one move of the peer; faults carry their byte offset -/
inductive HEv where
  | ok (t : Nat)                 -- sendDirect returns nil (dials first if there is no connection)
  | dialFault (t : Nat)          -- no connection and the dial fails
  | writeFault (t k : Nat)       -- wr.Write fails after k more bytes went out (or meets the sticky error)
  | flushFault (t k : Nat)       -- Flush fails after k bytes went out
  | cut (c n : Nat)              -- the peer closes connection c having received n bytes
  | close (t : Nat)              -- the application calls Close()
  | idle (d : Nat)               -- time passes
  deriving Repr

/-- the schedule of atomic actions of one history event (the dial is implied by the state) -/
def hexpand (s : St) : HEv → List Act
  | .ok t => okSend t s.nsid (bytesOf s.nsid).length (s.conn = none)
  | .dialFault t => [.lockSend t s.nsid, .connectFail t, .close t, .unlock t]
  | .writeFault t k =>
    if s.conn ≠ none ∧ writerErr s then stickySend t s.nsid
    else [.lockSend t s.nsid] ++ (if s.conn = none then [Act.connectOk t] else []) ++
         writeFaultTail t (bytesOf s.nsid).length k
  | .flushFault t k =>
    [.lockSend t s.nsid] ++ (if s.conn = none then [Act.connectOk t] else []) ++
      flushFaultTail t (bytesOf s.nsid).length k
  | .cut c n => [.peerClose c n]
  | .close t => [.extClose t]
  | .idle d => [.tick d]

/-- a history is run event by event; `none` as soon as the model refuses an event -/
def runHist : List HEv → St → Option St
  | [], s => some s
  | e :: es, s => (run cfg bytesOf (hexpand bytesOf s e) s).bind (runHist es)

theorem runHist_reach (es : List HEv) (s s' : St) (hr : Reach cfg bytesOf s)
    (h : runHist cfg bytesOf es s = some s') : Reach cfg bytesOf s' := by
  induction es generalizing s with
  | nil => simp only [runHist] at h; cases h; exact hr
  | cons e es ih =>
    simp only [runHist] at h
    cases h1 : run cfg bytesOf (hexpand bytesOf s e) s with
    | none => rw [h1] at h; cases h
    | some s1 => rw [h1] at h; exact ih s1 (reach_run cfg bytesOf hr _ h1) h

/-- **Fault histories.**  Any history of sends, dial faults, write and flush faults at arbitrary
    byte offsets, peer cuts at arbitrary byte counts, application Close() calls and idle periods:
    every connection's received bytes are whole frames, then at most one truncated frame; over all
    connections no frame arrives twice, frames arrive in acceptance order and were all accepted. -/
theorem fault_histories (hl : cfg.sendLocked = true) (es : List HEv) (s : St)
    (h : runHist cfg bytesOf es init = some s) :
    ∃ k : Nat → Nat,
      (∀ c, ∃ tail, s.delivered c = concatF bytesOf ((s.log.get c).take (k c)) ++ tail ∧
          (tail = [] ∨ ∃ sid, (s.log.get c)[k c]? = some sid ∧ tail <+: bytesOf sid ∧ tail ≠ bytesOf sid)) ∧
      (wholeFrames s k).Pairwise (· < ·) ∧ (wholeFrames s k).Sublist s.handed :=
  delivered_once cfg bytesOf (inv_reach cfg bytesOf hl (runHist_reach cfg bytesOf es init s ⟨[], rfl⟩ h))

end Tcp
