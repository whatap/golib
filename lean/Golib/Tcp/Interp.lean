/-
  Golib.Tcp.Interp — tie A, interpreted.

  xlate/c06 transcribes the *statements* of sendDirect, process(), send(), Connect(), Close() and
  ApplyConfig (Golib/Gen/C06.lean: values of `Prog`).  Here that data gets a semantics: `interpSender`
  and `interpProc` execute a transcribed program against an environment (does the dial succeed,
  is the writer in error, does the write / the flush succeed) and produce the sequence of model
  actions (`Tcp.Act`) the code performs.  The model's own per-call programs are `directActs` and
  `procActs` (the action lists `expand` replays for the harness and the recovery theorems run).
  Golib/Props/C06Gen.lean proves, for the programs transcribed from the source on this run and
  for every environment, thread, send id and frame length, that the two coincide — and derives
  the lock flags of the model configuration from the same programs.
-/
import Golib.Tcp.Exec

namespace Tcp

/-- statements of the transcribed functions (flat: the error branches of the three `if err != nil`
    forms are recorded as flags) -/
inductive Stmt where
  | lock | unlock | deferUnlock
  | makeData
  /-- `if err := this.send(…); err != nil { [Close();] [return err] }` -/
  | trySend (closeOnErr retOnErr : Bool)
  /-- `if _, err := this.Flush(); err != nil { [Close();] [return …] }` -/
  | tryFlush (closeOnErr retOnErr : Bool)
  /-- `[if] err := this.Connect(); err != nil { … continue/return }` or the bare call -/
  | tryConnect (leaveOnErr : Bool)
  | close
  | getItem                       -- `if tmp := this.Queue.GetTimeout(…); tmp != nil {`  … rest of the list is the body
  | ifChanged                     -- ApplyConfig: `if this.License != license || … {`
  | endIf
  | setCapacity
  | retNil
  deriving DecidableEq, Repr

/-- statements of send() -/
inductive SendStmt where
  | ifNilConnect                  -- `if this.conn == nil { if err := this.Connect(); err != nil { return … } }`
  | armDeadline                   -- `this.conn.SetWriteDeadline(now + Timeout)` (error: return)
  | bufWrite                      -- `this.wr.Write(…)` (error: return)
  | recoverSetsErr                -- the deferred recover() assigns the named result `err`
  deriving DecidableEq, Repr

abbrev Prog := List Stmt

/-- what the environment does during one call -/
structure Env where
  needDial : Bool     -- conn == nil when send() starts
  dialOk : Bool
  sticky : Bool       -- the current writer carries a sticky error
  writeOk : Bool      -- the copy into the buffered writer succeeds
  flushOk : Bool
  deriving DecidableEq, Repr

/-- everything succeeds (dialling first if `dial`) -/
def Env.good (dial : Bool) : Env := ⟨dial, true, false, true, true⟩
/-- connected, and the writer carries a sticky error -/
def Env.stuck : Env := ⟨false, true, true, true, true⟩

/-- actions of `send()` under `env`, and whether it returned an error; `none` if the body cannot do
    what the situation requires (no dial although conn == nil) -/
def sendActs (body : List SendStmt) (env : Env) (t len : Nat) : Option (List Act × Bool) :=
  if ¬ body.contains .bufWrite then none else
  if env.needDial ∧ ¬ body.contains .ifNilConnect then none else
  if env.needDial ∧ ¬ env.dialOk then some ([.connectFail t], true) else
  let dial : List Act := if env.needDial then [.connectOk t] else []
  if env.sticky ∧ ¬ env.needDial then some (dial ++ [.writeSticky t], true) else
  if env.writeOk then some (dial ++ [.writeBegin t, .writeChunk t len, .writeEnd t], false)
  else some (dial ++ [.writeBegin t, .writeChunk t len, .autoFlushErr t (len - 1)], true)

/-- interpreter state for a sender's call -/
structure ISt where
  acts : List Act := []
  locked : Bool := false
  deferred : Bool := false
  made : Bool := false
  sendFailed : Bool := false
  done : Bool := false
  ok : Bool := true           -- false: the program did something the model has no action for

def ISt.emit (i : ISt) (as : List Act) : ISt := { i with acts := i.acts ++ as }

/-- one statement of sendDirect, thread `t` (a sender), send `sid`, frame length `len` -/
def stepSender (body : List SendStmt) (env : Env) (t sid len : Nat) (i : ISt) : Stmt → ISt
  | .lock => { i with locked := true }
  | .deferUnlock => { i with deferred := true }
  | .unlock => if i.made then { (i.emit [.unlock t]) with locked := false, made := false } else { i with locked := false }
  | .makeData => if i.locked then { (i.emit [.lockSend t sid]) with made := true } else { i with ok := false }
  | .trySend c r =>
    match sendActs body env t len with
    | none => { i with ok := false }
    | some (as, false) => i.emit as
    | some (as, true) =>
      let i1 := (i.emit as).emit (if c then [.close t] else [])
      { i1 with sendFailed := true, done := r }
  | .tryFlush c r =>
    if i.sendFailed then { i with ok := false }     -- a sender that flushes after a failed send: no such model action
    else if env.flushOk then i.emit [.flushOk t]
    else
      let i1 := (i.emit [.flushErr t (len - 1)]).emit (if c then [.close t] else [])
      { i1 with done := r }
  | .close => i.emit [.close t]
  | .retNil => { i with done := true }
  | _ => { i with ok := false }

def runSender (body : List SendStmt) (env : Env) (t sid len : Nat) : Prog → ISt → ISt
  | [], i => i
  | st :: rest, i => if i.done then i else runSender body env t sid len rest (stepSender body env t sid len i st)

/-- the actions sendDirect performs: its statements, then the deferred Unlock -/
def interpSender (body : List SendStmt) (prog : Prog) (env : Env) (t sid len : Nat) : Option (List Act) :=
  let i := runSender body env t sid len prog {}
  if ¬ i.ok then none else
  some (i.acts ++ (if i.deferred ∧ i.made then [.unlock t] else []))

/-- the model's program of one direct send (what `expand` replays) -/
def directActs (env : Env) (t sid len : Nat) : List Act :=
  [.lockSend t sid] ++
  (if env.needDial ∧ ¬ env.dialOk then [.connectFail t, .close t]
   else (if env.needDial then [Act.connectOk t] else []) ++
     (if env.sticky ∧ ¬ env.needDial then [.writeSticky t, .close t]
      else if ¬ env.writeOk then [.writeBegin t, .writeChunk t len, .autoFlushErr t (len - 1), .close t]
      else [.writeBegin t, .writeChunk t len, .writeEnd t] ++
        (if env.flushOk then [.flushOk t] else [.flushErr t (len - 1)]))) ++
  [.unlock t]

/-- one statement of process()'s item body (thread 0); `makeData` stands for GetTimeout+makeData = `dequeue` -/
def stepProc (body : List SendStmt) (env : Env) (len : Nat) (i : ISt) : Stmt → ISt
  | .lock => { i with locked := true }
  | .unlock => { i with locked := false }
  | .makeData => { (i.emit [.dequeue]) with made := true }
  | .trySend c r =>
    match sendActs body env 0 len with
    | none => { i with ok := false }
    | some (as, false) => i.emit as
    | some (as, true) =>
      -- the model's process() always closes after a failed send and goes on to Flush
      if c ∧ ¬ r then { ((i.emit as).emit [.close 0]) with sendFailed := true } else { i with ok := false }
  | .tryFlush c r =>
    if i.sendFailed then i.emit [.flushAfterFail]
    else if env.flushOk then i.emit [.flushOk 0]
    else if c ∧ ¬ r then i.emit [.flushErr 0 (len - 1)]     -- the model's failed Flush of process() includes the Close
    else { i with ok := false }
  | _ => { i with ok := false }

def runProc (body : List SendStmt) (env : Env) (len : Nat) : Prog → ISt → ISt
  | [], i => i
  | st :: rest, i => runProc body env len rest (stepProc body env len i st)

def interpProc (body : List SendStmt) (prog : Prog) (env : Env) (len : Nat) : Option (List Act) :=
  let i := runProc body env len prog {}
  if ¬ i.ok then none else some i.acts

/-- the model's program of process() for one queue item -/
def procActs (env : Env) (len : Nat) : List Act :=
  [.dequeue] ++
  (if env.needDial ∧ ¬ env.dialOk then [.connectFail 0, .close 0, .flushAfterFail]
   else (if env.needDial then [Act.connectOk 0] else []) ++
     (if env.sticky ∧ ¬ env.needDial then [.writeSticky 0, .close 0, .flushAfterFail]
      else if ¬ env.writeOk then [.writeBegin 0, .writeChunk 0 len, .autoFlushErr 0 (len - 1), .close 0, .flushAfterFail]
      else [.writeBegin 0, .writeChunk 0 len, .writeEnd 0] ++
        (if env.flushOk then [.flushOk 0] else [.flushErr 0 (len - 1)])))

/-- `lock` is the first statement and `unlock` the last / `deferUnlock` the second -/
def Prog.bracketed (p : Prog) : Bool :=
  p.head? == some .lock && (p.getLast? == some .unlock || (p.drop 1).head? == some .deferUnlock)

/-- every `tryConnect` / `close` of the program lies between `lock` and `unlock` -/
def Prog.connectsLocked (p : Prog) : Bool :=
  (p.foldl (fun (acc : Bool × Bool) st =>
    match st with
    | .lock => (acc.1, true)
    | .unlock => (acc.1, false)
    | .tryConnect _ => (acc.1 && acc.2, acc.2)
    | .close => (acc.1 && acc.2, acc.2)
    | _ => acc) (true, false)).1 && (p.any (fun st => match st with | .tryConnect _ => true | _ => false))

structure Progs where
  sendDirect : Prog
  send : List SendStmt
  procTop : Prog            -- process(): loop top, up to GetTimeout
  procItem : Prog           -- process(): body of `if tmp != nil`
  applyConfig : Prog
  deriving DecidableEq, Repr

/-- the configuration of the model the transcribed programs correspond to -/
def Progs.cfg (p : Progs) (useQueue : Bool) : Cfg :=
  { useQueue := useQueue
    sendLocked := p.sendDirect.bracketed
    bgLocked := p.procTop.connectsLocked
    procLocked := p.procItem.bracketed
    acLocked := p.applyConfig.connectsLocked
    rearm := p.send.contains .armDeadline &&
      (p.send.dropWhile (· != .armDeadline)).contains .bufWrite
    recoverReports := p.send.contains .recoverSetsErr }

/-- the programs the model was written against (after fix-D42, fix-D70 and fix-D71) -/
def assumedProgs : Progs :=
  { sendDirect := [.lock, .deferUnlock, .makeData, .trySend true true, .tryFlush false true, .retNil]
    send := [.recoverSetsErr, .ifNilConnect, .armDeadline, .bufWrite]
    procTop := [.lock, .tryConnect true, .unlock, .getItem]
    procItem := [.lock, .makeData, .trySend true false, .tryFlush true false, .unlock]
    applyConfig := [.lock, .ifChanged, .close, .tryConnect false, .endIf, .unlock, .setCapacity] }

/-- the transcription of the model's own programs is interpreted to the model's action lists -/
theorem assumed_sender (env : Env) (t sid len : Nat) :
    interpSender assumedProgs.send assumedProgs.sendDirect env t sid len = some (directActs env t sid len) := by
  obtain ⟨a, b, c, d, e⟩ := env
  cases a <;> cases b <;> cases c <;> cases d <;> cases e <;> rfl

theorem assumed_proc (env : Env) (len : Nat) :
    interpProc assumedProgs.send assumedProgs.procItem env len = some (procActs env len) := by
  obtain ⟨a, b, c, d, e⟩ := env
  cases a <;> cases b <;> cases c <;> cases d <;> cases e <;> rfl

/-- the license expression of makeData's header -/
inductive LicExpr where
  | override                      -- `o.License` (the per-send option)
  | client                        -- `this.License`
  | ifOverrideNonEmpty (t e : LicExpr)   -- `if o.License != "" { t } else { e }`
  | ifOverrideEmpty (t e : LicExpr)      -- `if o.License == "" { t } else { e }`
  | unknown
  deriving DecidableEq, Repr

def LicExpr.eval : LicExpr → (ov dflt : Bytes) → Bytes
  | .override, ov, _ => ov
  | .client, _, d => d
  | .ifOverrideNonEmpty t e, ov, d => if ov ≠ [] then t.eval ov d else e.eval ov d
  | .ifOverrideEmpty t e, ov, d => if ov = [] then t.eval ov d else e.eval ov d
  | .unknown, _, _ => [0xde, 0xad]

/-- statements of SendFlush -/
inductive EntryStmt where
  | ifUseQueue | ifOther | elseBranch | endIf
  | queuePut (retByResult : Bool)       -- `ret := Queue.Put(…)`; nil / "Enqueue Failed" by its result
  | sendDirect                          -- `return this.sendDirect(…)`
  deriving DecidableEq, Repr

inductive Entry where
  | enq | direct
  deriving DecidableEq, Repr

def firstEntry (l : List EntryStmt) : Option Entry :=
  l.findSome? (fun st => match st with
    | .queuePut true => some .enq
    | .sendDirect => some .direct
    | _ => none)

/-- which path a call takes: the first `queuePut` / `sendDirect` reached, given `UseQueue`
    (the `flush` flag is an input on purpose: the result must not depend on it) -/
def interpEntry (p : List EntryStmt) (useQueue _flush : Bool) : Option Entry :=
  match p with
  | .ifUseQueue :: rest =>
    firstEntry (if useQueue then rest.takeWhile (· != .elseBranch) else (rest.dropWhile (· != .elseBranch)).drop 1)
  | .ifOther :: _ => none          -- the path depends on something else than UseQueue
  | l => firstEntry l

/-- statements of Connect() and Close() -/
inductive ConnStmt where
  | retIfConnSet                  -- `if this.conn != nil { return nil }`
  | dial                          -- `net.DialTimeout` in the loop over servers (failure: next server)
  | assignConn | assignWrNew      -- `this.conn = client` / `this.wr = bufio.NewWriterSize(client, …)`
  | connClose                     -- `this.conn.Close()`
  | assignConnNil                 -- `this.conn = nil`
  | retIfConnNil                  -- Close(): `if this.conn == nil { return nil }`
  | unknown                       -- conn / wr changed in a way the model does not have (under another
                                  -- condition, `wr` assigned something else than a new writer, …)
  deriving DecidableEq, Repr

/-- effect of a transcribed Connect / Close body on (conn, wr, connections made so far) -/
def interpConn : List ConnStmt → (dialOk : Bool) → (Option Nat × Option Nat × Nat) → (Option Nat × Option Nat × Nat)
  | [], _, st => st
  | .retIfConnSet :: rest, ok, (c, w, n) => if c.isSome then (c, w, n) else interpConn rest ok (c, w, n)
  | .retIfConnNil :: rest, ok, (c, w, n) => if c.isNone then (c, w, n) else interpConn rest ok (c, w, n)
  | .dial :: rest, ok, st => if ok then interpConn rest ok st else st
  | .assignConn :: rest, ok, (_, w, n) => interpConn rest ok (some n, w, n)
  | .assignWrNew :: rest, ok, (c, _, n) => interpConn rest ok (c, some n, n + 1)
  | .connClose :: rest, ok, st => interpConn rest ok st
  | .assignConnNil :: rest, ok, (_, w, n) => interpConn rest ok (none, w, n)
  | .unknown :: _, _, (_, _, n) => (some (n + 1000000), none, 0)      -- agrees with no model transition

/-- what the model does for Connect (the guard `conn = none` of its connect actions, `connectNew`) -/
def modelConnect (dialOk : Bool) (st : Option Nat × Option Nat × Nat) : Option Nat × Option Nat × Nat :=
  if st.1.isSome then st else if dialOk then (some st.2.2, some st.2.2, st.2.2 + 1) else st

/-- what the model does for Close (`close`, `extClose`, `reconfClose`: conn := none, wr kept) -/
def modelClose (st : Option Nat × Option Nat × Nat) : Option Nat × Option Nat × Nat := (none, st.2.1, st.2.2)

theorem connectNew_is_modelConnect (s : St) (h : s.conn = none) :
    (s.connectNew.conn, s.connectNew.wr, s.connectNew.next) = modelConnect true (s.conn, s.wr, s.next) := by
  simp [modelConnect, St.connectNew, h]

structure Bodies where
  license : LicExpr
  headerSrc : Nat
  headerVer : Nat
  sendFlush : List EntryStmt
  sendIsSendFlushFalse : Bool      -- `Send(p, opts…)` is `return this.SendFlush(p, false, opts…)`
  connect : List ConnStmt
  close : List ConnStmt
  deriving DecidableEq, Repr

def assumedBodies : Bodies :=
  { license := .ifOverrideNonEmpty .override .client
    headerSrc := 10
    headerVer := 0
    sendFlush := [.ifUseQueue, .queuePut true, .elseBranch, .sendDirect, .endIf]
    sendIsSendFlushFalse := true
    connect := [.retIfConnSet, .dial, .assignConn, .assignWrNew]
    close := [.retIfConnNil, .connClose, .assignConnNil] }

/-- the environment a call outcome stands for, in state `s` -/
def envOf (s : St) : Outcome → Env
  | .ok => { needDial := s.conn = none, dialOk := true, sticky := false, writeOk := true, flushOk := true }
  | .connect => { needDial := true, dialOk := false, sticky := false, writeOk := true, flushOk := true }
  | .write => { needDial := s.conn = none, dialOk := true, sticky := writerErr s, writeOk := false, flushOk := true }
  | .flush => { needDial := s.conn = none, dialOk := true, sticky := false, writeOk := true, flushOk := false }

theorem expand_direct (cfg : Cfg) (lenOf : Nat → Nat) (s : St) (t : Nat) (o : Outcome) :
    expand cfg lenOf s (.direct t o) = directActs (envOf s o) t s.nsid (lenOf s.nsid) := by
  cases o <;> by_cases hc : s.conn = none <;> cases he : writerErr s <;>
    simp [expand, directActs, envOf, sendPrefix, hc, he]

end Tcp
