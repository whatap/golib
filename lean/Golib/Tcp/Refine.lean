/-
  Golib.Tcp.Refine — the interpreted programs are admitted by the action machine.

  `directActs env …` (the model's program of one direct send, equal to the interpretation of the
  transcribed sendDirect — Golib.Tcp.Interp / Props/C06Gen) is a schedule of the machine whenever
  the environment it was computed for matches the state: for the successful send and for the send
  that meets a sticky error this is proved here for every reachable state (these are the two
  programs the recovery theorem runs); the others are replayed by the driver on every harness run.
-/
import Golib.Tcp.Interp
import Golib.Tcp.Recover

namespace Tcp

variable (cfg : Cfg) (bytesOf : Nat → Bytes)

theorem okSend_eq (t sid len : Nat) (dial : Bool) :
    okSend t sid len dial =
      directActs (Env.good dial) t sid len := by
  cases dial <;> rfl

theorem stickySend_eq (t sid len : Nat) :
    stickySend t sid =
      directActs Env.stuck t sid len := rfl

theorem directActs_ok_admitted (hl : cfg.sendLocked = true) (hra : cfg.rearm = true) (hq : cfg.useQueue = false)
    (hne : ∀ sid, bytesOf sid ≠ []) (s : St) (hr : Reach cfg bytesOf s) (t : Nat) (ht : t ≠ 0) (hidle : s.pc t = .idle)
    (hlock : s.lock = none) (hclean : s.conn = none ∨ ∃ w, s.wr = some w ∧ s.err.get w = false) :
    ∃ dial s', run cfg bytesOf (directActs (Env.good dial) t s.nsid (bytesOf s.nsid).length) s = some s' ∧
      (s.nsid, true) ∈ s'.results := by
  obtain ⟨s', h1, h2, _⟩ :=
    send_ok_of_clean cfg bytesOf hl hra hq hne s (inv_reach cfg bytesOf hl hr) t ht hidle hlock hclean
  exact ⟨_, s', by rw [← okSend_eq]; exact h1, h2 ▸ List.mem_cons_self⟩

/-- the send that meets the sticky error is a schedule of the machine; it closes the connection -/
theorem directActs_sticky_admitted (hq : cfg.useQueue = false) (s : St) (t w : Nat) (ht : t ≠ 0)
    (hidle : s.pc t = .idle) (hlock : s.lock = none) (hc : s.conn ≠ none) (hw : s.wr = some w)
    (he : s.err.get w = true) (len : Nat) :
    ∃ s', run cfg bytesOf (directActs Env.stuck t s.nsid len) s = some s' ∧ s'.conn = none ∧ s'.lock = none := by
  obtain ⟨s', h1, h2, h3, _, _⟩ := sticky_send cfg bytesOf hq s t w ht hidle hlock hc hw he
  exact ⟨s', by rw [← stickySend_eq t s.nsid len]; exact h1, h2, h3⟩

end Tcp
