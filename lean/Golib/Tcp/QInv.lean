/-
  Golib.Tcp.QInv — queue mode: an idle process() has a clean writer.

  `QInv`: send ids are non-zero (the queue's "nothing" is 0) and, in queue mode, the current
  writer of an open connection carries a sticky error only while process() is on its way to
  Close() — so whenever process() is idle, an open connection has a clean writer.
-/
import Golib.Tcp.Fresh

namespace Tcp

variable (cfg : Cfg) (bytesOf : Nat → Bytes)

structure QInv (s : St) : Prop where
  nsidPos : 1 ≤ s.nsid
  nz : ∀ y ∈ s.queue, y ≠ 0
  clean : cfg.useQueue = true → ∀ w, s.conn ≠ none → s.wr = some w → s.err.get w = true →
    ∃ sid, s.pc 0 = .failed sid

theorem qInv_init : QInv cfg init := by
  refine ⟨Nat.le_refl _, ?_, ?_⟩
  · intro y hy; cases hy
  · intro _ w hc; exact absurd rfl hc

/-- conn / wr / err unchanged (or the connection dropped); a `failed` process() stays `failed` -/
theorem QInv.keep {s s' : St} (hi : QInv cfg s) (hn : s.nsid ≤ s'.nsid) (hq : ∀ y ∈ s'.queue, y ∈ s.queue)
    (hconn : s'.conn = s.conn ∨ s'.conn = none) (hwr : s'.wr = s.wr) (herr : s'.err = s.err)
    (hpc : ∀ sid, s.pc 0 = .failed sid → s'.pc 0 = .failed sid) : QInv cfg s' := by
  refine ⟨Nat.le_trans hi.nsidPos hn, fun y hy => hi.nz y (hq y hy), ?_⟩
  intro hu w hc hw he
  rcases hconn with h | h
  · rw [h] at hc; rw [hwr] at hw; rw [herr] at he
    obtain ⟨sid, hs⟩ := hi.clean hu w hc hw he
    exact ⟨sid, hpc sid hs⟩
  · exact absurd h hc

/-- a new connection: its writer is fresh, hence clean -/
theorem QInv.connect {s s' : St} (hi : QInv cfg s) (hf : FreshInv s) (hn : s'.nsid = s.nsid) (hq : s'.queue = s.queue)
    (hwr : s'.wr = some s.next) (herr : s'.err = s.err) : QInv cfg s' := by
  refine ⟨by rw [hn]; exact hi.nsidPos, by rw [hq]; exact hi.nz, ?_⟩
  intro _ w _ hw he
  rw [hwr] at hw; cases hw
  rw [herr, hf.errFresh s.next (Nat.le_refl _)] at he; cases he

theorem QInv.procRel {s : St} (hi : QInv cfg s) (b : Bool) (t : Nat) : QInv cfg (s.procRel b t) :=
  ⟨hi.nsidPos, hi.nz, hi.clean⟩

/-- a thread that is not on its way to `Close()` moves: a `failed` process() is another thread -/
theorem QInv.setPc {s : St} (hi : QInv cfg s) (t : Nat) (p : Pc) {q : Pc} (hq : s.pc t = q)
    (hf : ∀ sid, q ≠ .failed sid) : QInv cfg (s.setPc t p) := by
  refine hi.keep cfg (Nat.le_refl _) (fun _ h => h) (Or.inl rfl) rfl rfl (fun sid h0 => ?_)
  rw [pc_setPc]
  by_cases e : t = 0
  · subst e; exact absurd (hq.symm.trans h0) (hf sid)
  · rw [if_neg e]; exact h0

theorem qInv_step (s s' : St) (a : Act) (hm : MutexInv cfg s) (hf : FreshInv s)
    (hi : QInv cfg s) (h : step cfg bytesOf s a = some s') : QInv cfg s' := by
  -- `nsid` and the queue stay (said by equations: matching `hi.nz` against the successor's tower of updates is slow)
  have only : ∀ {s₁ : St}, s₁.nsid = s.nsid → s₁.queue = s.queue →
      (cfg.useQueue = true → ∀ w, s₁.conn ≠ none → s₁.wr = some w → s₁.err.get w = true → ∃ sid, s₁.pc 0 = .failed sid) →
      QInv cfg s₁ :=
    fun hn hq hc => ⟨hn ▸ hi.nsidPos, hq ▸ hi.nz, hc⟩
  -- a thread that is not on its way to `Close()` moves; conn, wr, err stay
  have away : ∀ {s₁ : St} (t : Nat) (p : Pc) {q : Pc}, s₁.pcs = s.pcs → s.nsid ≤ s₁.nsid → (∀ y ∈ s₁.queue, y ∈ s.queue) →
      s₁.conn = s.conn → s₁.wr = s.wr → s₁.err = s.err → s.pc t = q → (∀ sid, q ≠ .failed sid) →
      QInv cfg (s₁.setPc t p) := by
    intro s₁ t p q h0 h1 h2 h3 h4 h5 hq hf
    exact (hi.keep cfg h1 h2 (.inl h3) h4 h5 (fun _ h => by simpa only [St.pc, h0] using h)).setPc cfg t p
      (by simpa only [St.pc, h0] using hq) hf
  have hs := step_sound h
  clear h
  cases hs with
  | @book _ t p s₁ hb =>
    cases hb with
    | quiet hq =>
      cases hq with
      | connectFail hp _ | writeSticky hp _ _ _ | swallow hp _ _ _ _ | writeEnd hp | bgCheck _ hp _ | bgDialFail hp =>
        exact hi.setPc cfg _ _ hp nofun
    | close _ => exact only rfl rfl (fun _ _ hc => absurd rfl hc)
    | reconfClose _ _ _ => exact only rfl rfl (fun _ _ hc => absurd rfl hc)
    | lockSend _ _ hp _ _ => exact away t _ rfl (Nat.le_succ _) (fun _ h => h) rfl rfl rfl hp (fun _ => by simp)
    | dequeue hp hq _ _ =>
      exact away 0 _ rfl (Nat.le_refl _) (fun y hy => by rw [hq]; exact List.mem_cons_of_mem _ hy) rfl rfl rfl hp (fun _ => by simp)
    | flushAfterFail hp => exact away 0 _ rfl (Nat.le_refl _) (fun _ h => h) rfl rfl rfl hp (fun _ => by simp)
    | unlock hp _ => exact away t _ rfl (Nat.le_refl _) (fun _ h => h) rfl rfl rfl hp (fun _ => by simp)
    | reconfDialFail hp => exact away t _ rfl (Nat.le_refl _) (fun _ h => h) rfl rfl rfl hp (fun _ => by simp)
  | still he =>
    cases he with
    | @enqueue t sid _ _ _ hsid _ =>
      refine ⟨Nat.le_succ_of_le hi.nsidPos, ?_, hi.clean⟩
      intro y hy
      have hy' : y ∈ s.queue ++ [sid] := hy
      rcases List.mem_append.mp hy' with h1 | h1
      · exact hi.nz y h1
      · simp at h1; subst h1; subst hsid; have := hi.nsidPos; omega
    | enqueueFail _ _ _ _ _ => exact hi.keep cfg (Nat.le_succ _) (fun _ h => h) (Or.inl rfl) rfl rfl (fun _ h => h)
    | extClose _ _ => exact only rfl rfl (fun _ _ hc => absurd rfl hc)
    | _ => exact hi.keep cfg (Nat.le_refl _) (fun _ h => h) (Or.inl rfl) rfl rfl (fun _ h => h)
  | connectOk _ _ | bgConnectOk _ _ _ _ | bgDialOk _ | reconfDialOk _ => exact hi.connect cfg hf rfl rfl rfl rfl
  | @writeBegin t _ _ hp _ _ _ => exact away t _ rfl (Nat.le_refl _) (fun _ h => h) rfl rfl rfl hp (fun _ => by simp)
  | @writeChunk t _ _ _ _ hp _ _ => exact away t _ rfl (Nat.le_refl _) (fun _ h => h) rfl rfl rfl hp (fun _ => by simp)
  | @flushOk t _ _ _ hp _ _ _ =>
    refine QInv.procRel cfg ?_ _ _
    refine QInv.setPc cfg ?_ t _ hp nofun
    exact hi.keep cfg (Nat.le_refl _) (fun _ h => h) (Or.inl rfl) rfl rfl (fun _ h => h)
  | autoFlush | peerClose => exact hi.keep cfg (Nat.le_refl _) (fun _ h => h) (Or.inl rfl) rfl rfl (fun _ h => h)
  | @autoFlushErr t k sid w rest hp _ _ =>
    -- (`rfl` through three updates is slow; unfolding them is not)
    refine only (by simp only [St.setPc, St.setErr, St.push]) (by simp only [St.setPc, St.setErr, St.push])
      (fun hu w' hc hw he => ?_)
    have ht0 : t = 0 := ((hm.cs t (by rw [hp]; rfl)).1 hu).1
    subst ht0
    exact ⟨sid, pc_setPc_self _ _ _⟩
  | @flushErr t k sid w0 w hp _ _ _ _ =>
    refine QInv.procRel cfg ?_ _ _
    refine only (by simp only [St.setPc, St.setErr, St.push]) (by simp only [St.setPc, St.setErr, St.push])
      (fun hu w' hc _ _ => ?_)
    have ht0 : t = 0 := ((hm.cs t (by rw [hp]; rfl)).1 hu).1
    subst ht0
    -- process(): a failed Flush closes the connection
    exact absurd rfl hc

end Tcp
