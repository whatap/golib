/-
  Golib.Tcp.Exec — whole calls of the client as schedules of model actions.

  The harness observes the client at the granularity of calls (one Send, one item taken by
  process(), one background Connect) together with each call's outcome.  `expand` turns such an
  event into the list of atomic actions the program of Golib.Tcp.Model performs for it — the
  program is deterministic once the outcome is fixed, the only state-dependent choice being
  whether `send()` has to connect first.  The driver replays these action lists with `Tcp.run`,
  so every guard of the model is checked: an observation is admitted only if the model can do it.

  The recovery theorem (Golib.Tcp.Recover) runs its own lists `okSend` / `stickySend`; they are
  these action lists through `okSend_eq` / `stickySend_eq` (Golib.Tcp.Refine: equal to `directActs`)
  and `expand_direct` (Golib.Tcp.Interp: `expand` of a direct send is `directActs`).
-/
import Golib.Tcp.Model

namespace Tcp

inductive Outcome where
  | ok          -- Send returned nil
  | connect     -- "cannot connect"
  | write       -- "buffered writer cannot write" (sticky error, or the write itself failed)
  | flush       -- "cannot flush"
  deriving DecidableEq, Repr

inductive Ev where
  | direct (t : Nat) (o : Outcome)     -- sendDirect by thread t (the send gets id `nsid`)
  | enq (t : Nat) (ok : Bool)          -- SendFlush in queue mode
  | proc (ok : Bool)                   -- process() takes the head of the queue, sends, flushes
  | bg (ok : Bool)                     -- Connect at the top of process()'s loop (or the initial Connect)
  | peerClose (c n : Nat)
  | setCap (c : Int)                   -- Queue.SetCapacity
  | setTimeout (n : Nat)
  | reconf (t : Nat) (ok : Bool)       -- ApplyConfig with a changed license / server list: Close, Connect
  | tick (d : Nat)
  deriving Repr

/-- actions of `send()` up to and including the copy of the frame into the buffered writer -/
def sendPrefix (s : St) (t len : Nat) : List Act :=
  (if s.conn = none then [Act.connectOk t] else []) ++ [.writeBegin t, .writeChunk t len, .writeEnd t]

def writerErr (s : St) : Bool :=
  match s.wr with
  | some w => s.err.get w
  | none => false

/-- `lenOf sid` is the length of the frame of send `sid` -/
def expand (cfg : Cfg) (lenOf : Nat → Nat) (s : St) : Ev → List Act
  | .direct t .ok => [.lockSend t s.nsid] ++ sendPrefix s t (lenOf s.nsid) ++ [.flushOk t, .unlock t]
  | .direct t .connect => [.lockSend t s.nsid, .connectFail t, .close t, .unlock t]
  | .direct t .write =>
    if s.conn ≠ none ∧ writerErr s then [.lockSend t s.nsid, .writeSticky t, .close t, .unlock t]
    else [.lockSend t s.nsid] ++ (if s.conn = none then [Act.connectOk t] else []) ++
         [.writeBegin t, .writeChunk t (lenOf s.nsid), .autoFlushErr t (lenOf s.nsid - 1), .close t, .unlock t]
  | .direct t .flush =>
    [.lockSend t s.nsid] ++ sendPrefix s t (lenOf s.nsid) ++ [.flushErr t (lenOf s.nsid - 1), .unlock t]
  | .enq t true => [.enqueue t s.nsid]
  | .enq t false => [.enqueueFail t s.nsid]
  | .proc true =>
    match s.queue with
    | sid :: _ => [.dequeue] ++ sendPrefix s 0 (lenOf sid) ++ [.flushOk 0]
    | [] => [.dequeue]
  | .proc false =>
    match s.queue with
    | sid :: _ => [.dequeue] ++ sendPrefix s 0 (lenOf sid) ++ [.flushErr 0 (lenOf sid - 1)]
    | [] => [.dequeue]
  | .bg true => if cfg.bgLocked then [.bgConnectOk] else [.bgCheck, .bgDialOk]
  | .bg false => if cfg.bgLocked then [.bgConnectFail] else [.bgCheck, .bgDialFail]
  | .peerClose c n => [.peerClose c n]
  | .setCap c => [.setCapacity c]
  | .setTimeout n => [.setTimeout n]
  | .reconf t true => [.reconfClose t, .reconfDialOk t]
  | .reconf t false => [.reconfClose t, .reconfDialFail t]
  | .tick d => [.tick d]

end Tcp
