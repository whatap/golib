/-
  Golib.Tcp.WireLink — the frames of the C06 model are the frames C05 proves things about.

  `Wire.frame` (C05's reference encoder of the one-way frame) is `Tcp.mkFrame` with C05's license hash
  `Wire.hash64` (`wire_frame_eq`; for `makeData`: `C06.frame_is_c05_frame`).  So streams of C05 frames are
  self-delimiting because `mkFrame`'s are (`mkFrame_selfDelim`), and the stream theorems of C06 (whole
  frames, unique decomposition) apply to them.

  (proof-only file; nothing here is linked into the driver)
-/
import Golib.Tcp.Frame
import Golib.Wire.Reference

namespace Tcp
open Prim

theorem wire_frame_eq (pc : Int) (lic pl : Bytes) (hlen : pl.length < 256 ^ 4) :
    Wire.frame pc lic pl = mkFrame pc (Wire.hash64 lic) pl := by
  unfold mkFrame Wire.frame Wire.netSrcOneWay Wire.netSrcVersion
  rw [Prim.encI_of_lt 4 pl.length hlen]
  simp

theorem wire_frames_selfDelim (pc : Nat → Int) (lic pl : Nat → Bytes) (hlen : ∀ sid, (pl sid).length < 2147483648) :
    SelfDelim (fun sid => Wire.frame (pc sid) (lic sid) (pl sid)) 22 (fun hdr => unbeN ((hdr.drop 18).take 4)) := by
  have hl : ∀ sid, (pl sid).length < 256 ^ 4 := fun sid => Nat.lt_trans (hlen sid) (by decide)
  rw [funext fun sid => wire_frame_eq (pc sid) (lic sid) (pl sid) (hl sid)]
  exact mkFrame_selfDelim pc _ pl hl

end Tcp
