/-
  Golib.Tcp.Fresh — a new connection's buffered writer starts clean.

  Writers are numbered as they are created; nothing touches the error flag of a writer that
  does not exist yet, and every write in progress targets an existing writer.  Together with the
  byte accounting (`BytesInv`) and `OrderInv.freshLog` this says that after `connectOk` the
  current writer has an empty buffer, no sticky error and nothing on the wire.
-/
import Golib.Tcp.Order

namespace Tcp

variable (cfg : Cfg) (bytesOf : Nat → Bytes)

structure FreshInv (s : St) : Prop where
  errFresh : ∀ w, s.next ≤ w → s.err.get w = false
  pcw : ∀ t sid w rest, s.pc t = .writing sid w rest → w < s.next

theorem FreshInv.procRel {s : St} (hi : FreshInv s) (b : Bool) (t : Nat) : FreshInv (s.procRel b t) :=
  ⟨hi.errFresh, hi.pcw⟩

theorem freshInv_init : FreshInv init := by
  constructor
  · intro w _; rfl
  · intro t sid w rest h; simp [init, St.pc, AMap.get] at h

theorem FreshInv.of {s s' : St} (hi : FreshInv s) (hnext : s.next ≤ s'.next)
    (herr : ∀ w, s'.next ≤ w → s'.err.get w = s.err.get w)
    (hpc : ∀ t sid w rest, s'.pc t = .writing sid w rest → s.pc t = .writing sid w rest ∨ w < s'.next) :
    FreshInv s' := by
  constructor
  · intro w hw; rw [herr w hw]; exact hi.errFresh w (by omega)
  · intro t sid w rest h
    rcases hpc t sid w rest h with h1 | h1
    · have := hi.pcw t sid w rest h1; omega
    · exact h1

theorem FreshInv.frame {s s' : St} (hi : FreshInv s) (hn : s'.next = s.next) (he : s'.err = s.err)
    (hp : s'.pcs = s.pcs) : FreshInv s' :=
  hi.of (Nat.le_of_eq hn.symm) (fun _ _ => by rw [he]) (fun _ _ _ _ h' => Or.inl (by simpa only [St.pc, hp] using h'))

theorem FreshInv.setPc {s : St} (hi : FreshInv s) (t : Nat) {p : Pc}
    (hp : ∀ sid w rest, p = .writing sid w rest → w < s.next) : FreshInv (s.setPc t p) :=
  hi.of (Nat.le_refl _) (fun _ _ => rfl)
    (fun _ _ _ _ h' => (pc_of_setPc h').elim (fun e => Or.inr (hp _ _ _ e)) Or.inl)

theorem freshInv_step (s s' : St) (a : Act) (ho : OrderInv s)
    (hi : FreshInv s) (h : step cfg bytesOf s a = some s') : FreshInv s' := by
  have hs := step_sound h
  clear h
  cases hs with
  | @book _ t p s₁ hb =>
    refine FreshInv.setPc (hi.frame hb.sameW.2.next hb.sameW.2.err hb.sameW.1) t (fun _ _ _ e => ?_)
    have := hb.pc.1; rw [e] at this; cases this
  | still he => exact hi.frame he.sameW.2.next he.sameW.2.err he.sameW.1
  | connectOk _ _ | bgConnectOk _ _ _ _ => exact hi.of (Nat.le_succ _) (fun _ _ => rfl) (fun _ _ _ _ h' => Or.inl h')
  | bgDialOk _ | reconfDialOk _ =>
    refine FreshInv.setPc ?_ _ (fun _ _ _ e => nomatch e)
    exact hi.of (Nat.le_succ _) (fun _ _ => rfl) (fun _ _ _ _ h' => Or.inl h')
  | @writeBegin t sid w _ hw _ _ =>
    have hwn := ho.wrNew w hw
    refine FreshInv.setPc ?_ t (fun _ _ _ e => by cases e; show w < s.next; omega)
    exact hi.frame rfl rfl rfl
  | @writeChunk t n sid w rest hp _ _ =>
    refine FreshInv.setPc ?_ t (fun _ _ _ e => by cases e; exact hi.pcw t sid w rest hp)
    exact hi.frame rfl rfl rfl
  | autoFlush _ _ _ _ => exact hi.frame rfl rfl rfl
  | @autoFlushErr t k sid w rest hp _ _ =>
    have hw := hi.pcw t sid w rest hp
    refine FreshInv.setPc ?_ t (fun _ _ _ e => nomatch e)
    refine hi.of (Nat.le_refl _) (fun w' hw' => ?_) (fun _ _ _ _ h' => Or.inl h')
    have hw'' : s.next ≤ w' := hw'
    exact AMap.get_set_ne _ _ _ _ (by omega)
  | @flushOk t sid w0 w _ _ _ _ =>
    refine FreshInv.procRel (FreshInv.setPc ?_ t (fun _ _ _ e => by split at e <;> cases e)) _ _
    exact hi.frame rfl rfl rfl
  | @flushErr t k sid w0 w _ hw _ _ _ =>
    have hwn := ho.wrNew w hw
    refine FreshInv.procRel (FreshInv.setPc ?_ t (fun _ _ _ e => by split at e <;> cases e)) _ _
    refine hi.of (Nat.le_refl _) (fun w' hw' => ?_) (fun _ _ _ _ h' => Or.inl h')
    have hw'' : s.next ≤ w' := hw'
    exact AMap.get_set_ne _ _ _ _ (by omega)
  | peerClose _ _ => exact hi.frame rfl rfl rfl

end Tcp
