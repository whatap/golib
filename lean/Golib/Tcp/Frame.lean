/-
  Golib.Tcp.Frame — frames as byte strings.

  * the one-way frame layout written by `makeData` (DataOutputX.WriteHeader):
        [10, 0] ++ be8 pcode ++ be8 licenseHash ++ be4 |payload| ++ payload
    and the reader's view of the 22 header bytes (`parseHeader`);
  * which license a send uses (`effLicense`: per-send override if non-empty, else the client's);
  * streams of frames: `concatF`, and the lemma that a prefix of a concatenation of frames is a
    concatenation of whole frames followed by a strict prefix of the next one (`prefix_frames`);
  * self-delimiting frames (`SelfDelim`: the first bytes of a frame give its length): a stream
    splits into whole frames and a tail (`IsTail`) in one way only (`decompose_unique`), and the
    frames of `mkFrame` are self-delimiting (`mkFrame_selfDelim`).

  The payload layout is C05's matter; here a frame is header ++ opaque payload.
-/
import Golib.Basic
import Golib.Prim.Int

namespace Tcp
open Prim

def hdrLen : Nat := 22

/-- license in effect for a send: `if o.License != "" { o.License } else { this.License }` -/
def effLicense (override dflt : Bytes) : Bytes := if override ≠ [] then override else dflt

def mkFrame (pcode hash : Int) (payload : Bytes) : Bytes :=
  [10, 0] ++ encI 8 pcode ++ encI 8 hash ++ beN 4 payload.length ++ payload

/-- `makeData`: header with the pack's pcode and the hash of the license in effect -/
def makeData (hash64 : Bytes → Int) (dflt override : Bytes) (pcode : Int) (payload : Bytes) : Bytes :=
  mkFrame pcode (hash64 (effLicense override dflt)) payload

structure Header where
  src : Nat
  ver : Nat
  pcode : Int
  hash : Int
  len : Nat
  deriving DecidableEq, Repr

/-- the collector's reading of the first 22 bytes -/
def parseHeader (bs : Bytes) : Option Header :=
  if bs.length < hdrLen then none else
  some { src := bs.getD 0 0, ver := bs.getD 1 0,
         pcode := decI 8 ((bs.drop 2).take 8), hash := decI 8 ((bs.drop 10).take 8),
         len := unbeN ((bs.drop 18).take 4) }

theorem mkFrame_length (pcode hash : Int) (payload : Bytes) :
    (mkFrame pcode hash payload).length = hdrLen + payload.length := by
  simp [mkFrame, hdrLen]; omega

theorem parseHeader_mkFrame (pcode hash : Int) (payload rest : Bytes)
    (hp : inRange 8 pcode) (hh : inRange 8 hash) (hl : payload.length < 256 ^ 4) :
    parseHeader (mkFrame pcode hash payload ++ rest) =
      some { src := 10, ver := 0, pcode := pcode, hash := hash, len := payload.length } := by
  have e1 : (encI 8 pcode).length = 8 := encI_length 8 pcode
  have e2 : (encI 8 hash).length = 8 := encI_length 8 hash
  have e3 : (beN 4 payload.length).length = 4 := beN_length 4 _
  have hlen : ¬ ((mkFrame pcode hash payload ++ rest).length < hdrLen) := by
    rw [List.length_append, mkFrame_length]; omega
  unfold parseHeader
  rw [if_neg hlen]
  have d2 : (mkFrame pcode hash payload ++ rest).drop 2 =
      encI 8 pcode ++ (encI 8 hash ++ (beN 4 payload.length ++ (payload ++ rest))) := by
    simp [mkFrame]
  have d10 : (mkFrame pcode hash payload ++ rest).drop 10 =
      encI 8 hash ++ (beN 4 payload.length ++ (payload ++ rest)) := by
    have : (10 : Nat) = 2 + 8 := rfl
    rw [this, ← List.drop_drop, d2, List.drop_left' e1]
  have d18 : (mkFrame pcode hash payload ++ rest).drop 18 =
      beN 4 payload.length ++ (payload ++ rest) := by
    have : (18 : Nat) = 10 + 8 := rfl
    rw [this, ← List.drop_drop, d10, List.drop_left' e2]
  rw [d2, d10, d18, List.take_left' e1, List.take_left' e2, List.take_left' e3,
    decI_encI 8 pcode hp, decI_encI 8 hash hh, unbeN_beN_of_lt 4 _ hl]
  simp [mkFrame]

theorem prefix_append_cases {α : Type} (d a b : List α) (h : d <+: a ++ b) :
    d <+: a ∨ ∃ d', d = a ++ d' ∧ d' <+: b := by
  rcases List.prefix_or_prefix_of_prefix h (List.prefix_append a b) with h1 | ⟨d', rfl⟩
  · exact .inl h1
  · exact .inr ⟨d', rfl, (List.prefix_append_right_inj a).mp h⟩

variable (bytesOf : Nat → Bytes)

/-- the byte stream consisting of the frames of sends `sids`, in order -/
def concatF : List Nat → Bytes
  | [] => []
  | sid :: r => bytesOf sid ++ concatF r

theorem concatF_append (a b : List Nat) : concatF bytesOf (a ++ b) = concatF bytesOf a ++ concatF bytesOf b := by
  induction a with
  | nil => rfl
  | cons x r ih => simp [concatF, ih]

theorem concatF_singleton (sid : Nat) : concatF bytesOf [sid] = bytesOf sid := by simp [concatF]

/-- `d` consists of the whole frames `fs.take k` followed by `tail`, which is empty or a strict
    prefix of the next frame `fs[k]` -/
def WholeThenTail (fs : List Nat) (d : Bytes) : Prop :=
  ∃ k tail, d = concatF bytesOf (fs.take k) ++ tail ∧
    (tail = [] ∨ ∃ sid, fs[k]? = some sid ∧ tail <+: bytesOf sid ∧ tail ≠ bytesOf sid)

theorem prefix_frames (fs : List Nat) (d : Bytes) (h : d <+: concatF bytesOf fs) :
    WholeThenTail bytesOf fs d := by
  induction fs generalizing d with
  | nil =>
    have : d = [] := by simpa [concatF] using h
    exact ⟨0, [], by simp [this, concatF], Or.inl rfl⟩
  | cons f r ih =>
    simp only [concatF] at h
    rcases prefix_append_cases d _ _ h with hd | ⟨d', hd', hpre⟩
    · -- d is a prefix of the first frame
      by_cases he : d = bytesOf f
      · exact ⟨1, [], by simp [he, concatF], Or.inl rfl⟩
      · exact ⟨0, d, by simp [concatF], Or.inr ⟨f, by simp, hd, he⟩⟩
    · -- d = first frame ++ d'
      obtain ⟨k, tail, hk, ht⟩ := ih d' hpre
      refine ⟨k + 1, tail, ?_, ?_⟩
      · rw [hd', hk]; simp [concatF]
      · rcases ht with ht | ⟨sid, hs, hp, hn⟩
        · exact Or.inl ht
        · exact Or.inr ⟨sid, by simpa using hs, hp, hn⟩

theorem prefix_frames_sublist (fs : List Nat) (k : Nat) : (fs.take k).Sublist fs := List.take_sublist k fs

/-- the first `h > 0` bytes of a frame determine its length -/
structure SelfDelim (h : Nat) (lenOf : Bytes → Nat) : Prop where
  pos : 0 < h
  len : ∀ sid, (bytesOf sid).length = h + lenOf ((bytesOf sid).take h)

/-- empty, or a strict prefix of some frame -/
def IsTail (t : Bytes) : Prop := t = [] ∨ ∃ u, t <+: bytesOf u ∧ t ≠ bytesOf u

variable {bytesOf}

theorem SelfDelim.frame_eq {h : Nat} {lenOf : Bytes → Nat} (sd : SelfDelim bytesOf h lenOf) (a b : Nat) (l : Bytes)
    (ha : bytesOf a <+: l) (hb : bytesOf b <+: l) : bytesOf a = bytesOf b := by
  have la := sd.len a
  have lb := sd.len b
  have ta : (bytesOf a).take h = l.take h := by
    obtain ⟨x, hx⟩ := ha
    rw [← hx, List.take_append_of_le_length (by omega)]
  have tb : (bytesOf b).take h = l.take h := by
    obtain ⟨x, hx⟩ := hb
    rw [← hx, List.take_append_of_le_length (by omega)]
  have hl : (bytesOf a).length = (bytesOf b).length := by rw [la, lb, ta, tb]
  exact (List.prefix_of_prefix_length_le ha hb (Nat.le_of_eq hl)).eq_of_length hl

theorem SelfDelim.not_frame_in_tail {h : Nat} {lenOf : Bytes → Nat} (sd : SelfDelim bytesOf h lenOf) (a : Nat)
    (x t : Bytes) (ht : IsTail bytesOf t) (he : bytesOf a ++ x = t) : False := by
  have la := sd.len a
  have hpos := sd.pos
  rcases ht with h0 | ⟨u, hp, hn⟩
  · rw [h0] at he
    have h2 := congrArg List.length he
    simp only [List.length_append, List.length_nil] at h2
    omega
  · have hau : bytesOf a <+: bytesOf u := (List.prefix_append _ x).trans (he ▸ hp)
    have hsame := sd.frame_eq a u (bytesOf u) hau (List.prefix_refl _)
    have hlen : t.length < (bytesOf u).length := by
      have := hp.length_le
      rcases Nat.lt_or_ge t.length (bytesOf u).length with h1 | h1
      · exact h1
      · exact absurd (List.IsPrefix.eq_of_length_le hp h1) hn
    have : (bytesOf a).length ≤ t.length := by rw [← he]; simp
    rw [hsame] at this
    omega

/-- The reader's parse is the writer's log: if a stream is whole frames `fs` then a tail, and also
    whole frames `fs'` then a tail, the two frame sequences are the same byte strings and the tails
    are equal. -/
theorem SelfDelim.decompose_unique {h : Nat} {lenOf : Bytes → Nat} (sd : SelfDelim bytesOf h lenOf) :
    ∀ (fs fs' : List Nat) (t t' : Bytes), IsTail bytesOf t → IsTail bytesOf t' →
      concatF bytesOf fs ++ t = concatF bytesOf fs' ++ t' →
      fs.map bytesOf = fs'.map bytesOf ∧ t = t' := by
  intro fs
  induction fs with
  | nil =>
    intro fs' t t' ht ht' he
    cases fs' with
    | nil => exact ⟨rfl, by simpa [concatF] using he⟩
    | cons b r' =>
      simp only [concatF, List.nil_append, List.append_assoc] at he
      exact (sd.not_frame_in_tail b _ t ht he.symm).elim
  | cons a r ih =>
    intro fs' t t' ht ht' he
    cases fs' with
    | nil =>
      simp only [concatF, List.nil_append, List.append_assoc] at he
      exact (sd.not_frame_in_tail a _ t' ht' he).elim
    | cons b r' =>
      simp only [concatF, List.append_assoc] at he
      have hab : bytesOf a = bytesOf b :=
        sd.frame_eq a b (bytesOf a ++ (concatF bytesOf r ++ t)) (List.prefix_append _ _)
          (by rw [he]; exact List.prefix_append _ _)
      rw [hab] at he
      have := ih r' t t' ht ht' (List.append_cancel_left he)
      exact ⟨by simp [hab, this.1], this.2⟩

/-- frames built by `mkFrame` are self-delimiting: bytes 18..21 of the header give the payload length -/
theorem mkFrame_selfDelim (pc hs : Nat → Int) (pl : Nat → Bytes) (hlen : ∀ sid, (pl sid).length < 256 ^ 4) :
    SelfDelim (fun sid => mkFrame (pc sid) (hs sid) (pl sid)) hdrLen (fun hdr => unbeN ((hdr.drop 18).take 4)) := by
  constructor
  · decide
  · intro sid
    have e1 : (encI 8 (pc sid)).length = 8 := encI_length 8 _
    have e2 : (encI 8 (hs sid)).length = 8 := encI_length 8 _
    have e3 : (beN 4 (pl sid).length).length = 4 := beN_length 4 _
    have ht : (mkFrame (pc sid) (hs sid) (pl sid)).take hdrLen =
        [10, 0] ++ encI 8 (pc sid) ++ encI 8 (hs sid) ++ beN 4 (pl sid).length := by
      unfold mkFrame
      rw [List.take_append_of_le_length (by simp [e1, e2, e3, hdrLen])]
      exact List.take_of_length_le (by simp [e1, e2, e3, hdrLen])
    have hd : ([10, 0] ++ encI 8 (pc sid) ++ encI 8 (hs sid) ++ beN 4 (pl sid).length).drop 18 =
        beN 4 (pl sid).length := by
      rw [List.drop_append_of_le_length (by simp [e1, e2]), ]
      have : ([10, 0] ++ encI 8 (pc sid) ++ encI 8 (hs sid)).drop 18 = [] :=
        List.drop_of_length_le (by simp [e1, e2])
      rw [this]; rfl
    rw [mkFrame_length]
    show hdrLen + (pl sid).length = hdrLen + unbeN ((((mkFrame (pc sid) (hs sid) (pl sid)).take hdrLen).drop 18).take 4)
    rw [ht, hd, List.take_of_length_le (by rw [e3]; exact Nat.le_refl 4), unbeN_beN_of_lt 4 _ (hlen sid)]

end Tcp
