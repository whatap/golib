/-
  Golib.Tcp.Model — CodeModel of net/oneway.OneWayTcpClient as a machine of atomic actions.

  What the Go code does, step by step (OneWayTcpClient.go):

    sendDirect:  Lock(oneWayClientSendLock); dout := makeData(p, opts)
                 send(bytes):  if conn == nil { Connect() }           -- may fail
                               wr.Write(bytes)                          -- bufio: copy, auto-flush when full, sticky error
                 on error:     Close(); return err
                 Flush():      wr.Flush()                               -- flushes the *current* `wr`
                 on error:     return err (no Close)
                 Unlock
    SendFlush (queue mode):  Queue.Put(send)  → nil | "Enqueue Failed"
    process():   loop { Connect() if conn == nil;  x := Queue.GetTimeout();
                        makeData; send(bytes); on error Close();  Flush(); on error Close() }
    Connect():   if conn != nil return;  dial;  conn = c;  wr = bufio.NewWriter(c)
    Close():     conn.Close(); conn = nil          (wr is left in place)

  Threads: `0` is the process() goroutine, `1, 2, …` are senders.  Each has a program counter `Pc`;
  an action is one atomic step of one thread (or of the peer).  A schedule is any list of actions
  whose guards hold — `run` returns `none` as soon as a guard fails.

  `Cfg` carries the facts that tie A re-extracts from the source on every run:
    useQueue    SendFlush puts the send on the queue for process() instead of calling sendDirect
    sendLocked  sendDirect holds the send lock from before makeData until after Flush
    bgLocked    process() calls Connect while holding the send lock        (false as found: D42)
    procLocked  process() holds the send lock while it sends and flushes an item   (false as found: D70)
    acLocked    ApplyConfig closes and re-dials while holding the send lock   (false as found: D70)
    rearm       send() arms the write deadline before every write (true in the code)
    recoverReports  send()'s recover() turns a swallowed panic into an error   (false as found: D71)

  The queue component is C11's sequential model of RequestQueue (`Golib.Queue.Seq`): `enqueue`,
  `enqueueFail`, `dequeue` and `setCapacity` are `Queue.step` on `(queue, qcap)` with the operations
  `put`, `getNoWait`, `setCapacity`; send ids start at 1 because the queue API uses 0 (nil) for
  "nothing".  Time is a counter `now` advanced by `tick`; a write needs `now ≤ deadline` of its writer.

  Frames are opaque: `bytesOf sid` is the frame of send `sid` (Golib.Tcp.Frame gives the layout).
  Connections and their buffered writers are numbered in the order they are created; writer `w`
  writes to connection `w`.

  (core Lean only — the driver links against this file.)
-/
import Golib.Basic
import Golib.Queue.Seq

namespace Tcp

/-! ### a small finite map with default (association list, updated in place) -/

def AMap (α : Type) := List (Nat × α)

instance {α : Type} [DecidableEq α] : DecidableEq (AMap α) := inferInstanceAs (DecidableEq (List (Nat × α)))

namespace AMap
variable {α : Type} [Inhabited α]

def empty : AMap α := []

def get : AMap α → Nat → α
  | [], _ => default
  | (k', v) :: r, k => if k' = k then v else get r k

def set : AMap α → Nat → α → AMap α
  | [], k, v => [(k, v)]
  | (k', v') :: r, k, v => if k' = k then (k, v) :: r else (k', v') :: set r k v

theorem get_set (m : AMap α) (k k' : Nat) (v : α) :
    (m.set k v).get k' = if k = k' then v else m.get k' := by
  fun_induction AMap.set m k v with
  | case1 k v => simp only [get]
  | case2 v' r k v => simp only [get]; split <;> rfl
  | case3 a v' r k v h ih =>
    simp only [get, ih]
    by_cases h2 : a = k'
    · subst h2; simp [Ne.symm h]
    · simp [h2]

@[simp] theorem get_set_self (m : AMap α) (k : Nat) (v : α) : (m.set k v).get k = v := by
  simp [get_set]

theorem get_set_ne (m : AMap α) (k k' : Nat) (v : α) (h : k ≠ k') : (m.set k v).get k' = m.get k' := by
  simp [get_set, h]

def toList (m : AMap α) : List (Nat × α) := m

/-- a map all of whose stored values (and the default) are `v` returns `v` everywhere -/
theorem get_eq_of_forall (m : AMap α) (v : α) (hd : (default : α) = v)
    (h : ∀ p : Nat × α, p ∈ m.toList → p.2 = v) (k : Nat) : m.get k = v := by
  fun_induction AMap.get m k with
  | case1 k => exact hd
  | case2 b r k => exact h (k, b) (by simp [toList])
  | case3 a b r k _ ih => exact ih (fun q hq => h q (by simp only [toList] at hq ⊢; exact List.mem_cons_of_mem _ hq))

@[simp] theorem get_empty (k : Nat) : (empty : AMap α).get k = default := rfl

end AMap

structure Cfg where
  useQueue : Bool
  sendLocked : Bool
  bgLocked : Bool
  procLocked : Bool
  acLocked : Bool
  rearm : Bool
  recoverReports : Bool
  deriving DecidableEq, Repr

inductive Pc where
  /-- sender: between two sends;  process(): at the top of its loop -/
  | idle
  /-- frame of send `sid` built (makeData); `send()` is next -/
  | made (sid : Nat)
  /-- inside `wr.Write` on writer `w`; `rest` is still to be copied -/
  | writing (sid w : Nat) (rest : Bytes)
  /-- `send()` returned nil (frame went to writer `w`); `Flush()` is next -/
  | wrote (sid w : Nat)
  /-- `send()` returned an error; `Close()` is next -/
  | failed (sid : Nat)
  /-- process() only: closed after a failed send, still calls `Flush()` -/
  | afterFail (sid : Nat)
  /-- process() only, `bgLocked = false`: inside Connect, past the `conn != nil` test -/
  | bgDial
  /-- sender only: result known, `Unlock` is next -/
  | done (sid : Nat) (ok : Bool)
  /-- inside ApplyConfig, between its Close() and its Connect() -/
  | reconf
  deriving DecidableEq, Repr

instance : Inhabited Pc := ⟨.idle⟩

structure St where
  next : Nat := 0                      -- connections / writers created so far
  nsid : Nat := 1                      -- next send id (0 is the queue's "nothing")
  conn : Option Nat := none            -- this.conn
  wr : Option Nat := none              -- this.wr
  lock : Option Nat := none            -- holder of oneWayClientSendLock
  queue : List Nat := []               -- RequestQueue: items
  qcap : Int := 0                      -- RequestQueue: capacity (≤ 0: unbounded)
  pcs : AMap Pc := []
  sentRev : AMap Bytes := []           -- bytes the kernel took on connection c, newest first
  buf : AMap Bytes := []               -- bufio buffer of writer w
  err : AMap Bool := []                -- bufio sticky error of writer w
  log : AMap (List Nat) := []          -- ghost: sends whose frame was handed to writer w, in order
  pend : AMap Bytes := []              -- ghost: bytes of the frame in progress on writer w not yet copied
  cut : AMap (Option Nat) := []        -- peer closed connection c having received that many bytes
  handed : List Nat := []              -- ghost: acceptance order (lock order / enqueue order)
  results : List (Nat × Bool) := []    -- ghost: (sid, Send returned nil), newest first
  now : Nat := 0                       -- time
  timeout : Nat := 60000               -- this.Timeout
  deadline : AMap Nat := []            -- write deadline of connection c
  xclosed : Bool := false              -- the application called Close() since the current send began

def St.pc (s : St) (t : Nat) : Pc := s.pcs.get t
def St.setPc (s : St) (t : Nat) (p : Pc) : St := { s with pcs := s.pcs.set t p }
def St.sent (s : St) (c : Nat) : Bytes := (s.sentRev.get c).reverse
/-- what the peer has received on connection `c` -/
def St.delivered (s : St) (c : Nat) : Bytes :=
  match s.cut.get c with
  | some n => (s.sent c).take n
  | none => s.sent c

/-- the RequestQueue as C11 models it -/
def St.q (s : St) : Queue.Q := ⟨s.queue, s.qcap⟩

/-- the kernel takes the first `k` buffered bytes of writer `w` -/
def St.push (s : St) (w k : Nat) : St :=
  { s with sentRev := s.sentRev.set w (((s.buf.get w).take k).reverse ++ s.sentRev.get w),
           buf := s.buf.set w ((s.buf.get w).drop k) }

def St.setErr (s : St) (w : Nat) : St := { s with err := s.err.set w true }

/-- a fresh connection with its buffered writer becomes current (its deadline: one timeout from now) -/
def St.connectNew (s : St) : St :=
  { s with conn := some s.next, wr := some s.next, next := s.next + 1,
           deadline := s.deadline.set s.next (s.now + s.timeout) }

inductive Act where
  | lockSend (t sid : Nat)       -- Lock + makeData
  | connectOk (t : Nat)
  | connectFail (t : Nat)
  | writeBegin (t : Nat)         -- (deadline armed) wr.Write starts on the current writer
  | writeSticky (t : Nat)        -- wr.Write returns the writer's sticky error at once
  | writeChunk (t n : Nat)       -- n more bytes copied into the buffer
  | writeEnd (t : Nat)
  | autoFlush (t k : Nat)        -- buffer full inside Write: k bytes go out
  | autoFlushErr (t k : Nat)     -- … and the write fails after k bytes
  | flushOk (t : Nat)
  | flushErr (t k : Nat)         -- k bytes go out, then the error (reset, timeout, …)
  | close (t : Nat)
  | flushAfterFail               -- process(): Flush after a failed send (result ignored)
  | unlock (t : Nat)
  | enqueue (t sid : Nat)        -- Queue.Put accepted
  | enqueueFail (t sid : Nat)    -- Queue.Put refused: "Enqueue Failed"
  | dequeue                      -- GetTimeout returns the head (+ Lock if procLocked) + makeData
  | bgConnectOk                  -- process(): Connect at loop top (atomic: under the lock / sole owner)
  | bgConnectFail
  | bgCheck                      -- process(), bgLocked = false: `conn == nil` seen
  | bgDialOk                     -- … and later conn, wr assigned
  | bgDialFail
  | peerClose (c n : Nat)
  | setCapacity (c : Int)        -- Queue.SetCapacity (constructor option / ApplyConfig)
  | setTimeout (n : Nat)         -- this.Timeout = … (ApplyConfig)
  | reconfClose (t : Nat)        -- ApplyConfig, license/servers changed: (Lock if acLocked) Close()
  | reconfDialOk (t : Nat)       -- … Connect() succeeded (Unlock if acLocked)
  | reconfDialFail (t : Nat)
  | tick (d : Nat)               -- time passes
  | extClose (t : Nat)           -- the application calls the public Close() (no lock)
  | swallow (t : Nat)            -- send(): conn became nil under it; the nil dereference is recovered and `nil` returned
  deriving DecidableEq, Repr

/-- the result of a finished `send()+Flush()` of thread `t` -/
def St.finish (s : St) (t sid : Nat) (ok : Bool) : St :=
  if t = 0 then
    -- process(): errors are not reported; a failed Flush closes the connection
    if ok then s.setPc 0 .idle else { s with conn := none }.setPc 0 .idle
  else s.setPc t (.done sid ok)

/-- process() releases the send lock at the end of an item, if it took it -/
def St.procRel (s : St) (locked : Bool) (t : Nat) : St :=
  { s with lock := if t = 0 ∧ locked = true then none else s.lock }

variable (cfg : Cfg) (bytesOf : Nat → Bytes)

def step (s : St) : Act → Option St
  | .lockSend t sid =>
    if t ≠ 0 ∧ cfg.useQueue = false ∧ s.pc t = .idle ∧ sid = s.nsid ∧ (cfg.sendLocked = true → s.lock = none) then
      some ({ s with lock := some t, nsid := s.nsid + 1, handed := s.handed ++ [sid], xclosed := false }.setPc t (.made sid))
    else none
  | .connectOk t =>
    match s.pc t with
    | .made _ => if s.conn = none then some s.connectNew else none
    | _ => none
  | .connectFail t =>
    match s.pc t with
    | .made sid => if s.conn = none then some (s.setPc t (.failed sid)) else none
    | _ => none
  | .writeBegin t =>
    match s.pc t, s.wr with
    | .made sid, some w =>
      if s.conn ≠ none ∧ s.err.get w = false then
        some ({ s with log := s.log.set w (s.log.get w ++ [sid]), pend := s.pend.set w (bytesOf sid),
                       deadline := s.deadline.set w (if cfg.rearm = true then s.now + s.timeout else s.deadline.get w) }.setPc t
          (.writing sid w (bytesOf sid)))
      else none
    | _, _ => none
  | .writeSticky t =>
    match s.pc t, s.wr with
    | .made sid, some w =>
      if s.conn ≠ none ∧ s.err.get w = true then some (s.setPc t (.failed sid)) else none
    | _, _ => none
  | .writeChunk t n =>
    match s.pc t with
    | .writing sid w rest =>
      if 0 < n ∧ n ≤ rest.length then
        some ({ s with buf := s.buf.set w (s.buf.get w ++ rest.take n), pend := s.pend.set w (rest.drop n) }.setPc t
          (.writing sid w (rest.drop n)))
      else none
    | _ => none
  | .writeEnd t =>
    match s.pc t with
    | .writing sid w [] => some (s.setPc t (.wrote sid w))
    | _ => none
  | .autoFlush t k =>
    match s.pc t with
    | .writing _ w _ =>
      if k ≤ (s.buf.get w).length ∧ s.now ≤ s.deadline.get w ∧ s.err.get w = false then some (s.push w k) else none
    | _ => none
  | .autoFlushErr t k =>
    match s.pc t with
    | .writing sid w _ =>
      if k ≤ (s.buf.get w).length ∧ s.err.get w = false then some (((s.push w k).setErr w).setPc t (.failed sid)) else none
    | _ => none
  | .flushOk t =>
    match s.pc t, s.wr with
    | .wrote sid _, some w =>
      if s.err.get w = false ∧ s.now ≤ s.deadline.get w then
        some (((s.push w (s.buf.get w).length).finish t sid true).procRel cfg.procLocked t)
      else none
    | _, _ => none
  | .flushErr t k =>
    match s.pc t, s.wr with
    | .wrote sid _, some w =>
      if k ≤ (s.buf.get w).length ∧ (s.err.get w = true → k = 0) ∧ (s.err.get w = false → k < (s.buf.get w).length) then
        some ((((s.push w k).setErr w).finish t sid false).procRel cfg.procLocked t)
      else none
    | _, _ => none
  | .close t =>
    match s.pc t with
    | .failed sid =>
      some ({ s with conn := none }.setPc t (if t = 0 then .afterFail sid else .done sid false))
    | _ => none
  | .flushAfterFail =>
    match s.pc 0 with
    | .afterFail _ => some ((s.setPc 0 .idle).procRel cfg.procLocked 0)
    | _ => none
  | .unlock t =>
    match s.pc t with
    | .done sid ok =>
      if t ≠ 0 then some ({ s with lock := none, results := (sid, ok) :: s.results }.setPc t .idle) else none
    | _ => none
  | .enqueue t sid =>
    if t ≠ 0 ∧ cfg.useQueue = true ∧ s.pc t = .idle ∧ sid = s.nsid ∧
        (Queue.step s.q (.put sid)).2.1 = .bool true then
      some { s with queue := (Queue.step s.q (.put sid)).1.items, nsid := s.nsid + 1, handed := s.handed ++ [sid],
                    results := (sid, true) :: s.results }
    else none
  | .enqueueFail t sid =>
    if t ≠ 0 ∧ cfg.useQueue = true ∧ s.pc t = .idle ∧ sid = s.nsid ∧
        (Queue.step s.q (.put sid)).2.1 = .bool false then
      some { s with queue := (Queue.step s.q (.put sid)).1.items, nsid := s.nsid + 1,
                    results := (sid, false) :: s.results }
    else none
  | .dequeue =>
    match s.pc 0, (Queue.step s.q .getNoWait).2.1 with
    | .idle, .val sid =>
      if sid ≠ 0 ∧ (cfg.procLocked = true → s.lock = none) then
        some ({ s with queue := (Queue.step s.q .getNoWait).1.items,
                       lock := if cfg.procLocked = true then some 0 else s.lock, xclosed := false }.setPc 0 (.made sid))
      else none
    | _, _ => none
  | .bgConnectOk =>
    if cfg.bgLocked = true ∧ s.pc 0 = .idle ∧ s.lock = none ∧ s.conn = none then some s.connectNew else none
  | .bgConnectFail =>
    if cfg.bgLocked = true ∧ s.pc 0 = .idle ∧ s.lock = none ∧ s.conn = none then some s else none
  | .bgCheck =>
    if cfg.bgLocked = false ∧ s.pc 0 = .idle ∧ s.conn = none then some (s.setPc 0 .bgDial) else none
  | .bgDialOk =>
    if s.pc 0 = .bgDial then some (s.connectNew.setPc 0 .idle) else none
  | .bgDialFail =>
    if s.pc 0 = .bgDial then some (s.setPc 0 .idle) else none
  | .peerClose c n =>
    if s.cut.get c = none ∧ n ≤ (s.sentRev.get c).length then some { s with cut := s.cut.set c (some n) } else none
  | .setCapacity c => some { s with qcap := (Queue.step s.q (.setCapacity c)).1.cap }
  | .setTimeout n => some { s with timeout := n }
  | .reconfClose t =>
    if t ≠ 0 ∧ s.pc t = .idle ∧ (cfg.acLocked = true → s.lock = none) then
      some ({ s with conn := none, lock := if cfg.acLocked = true then some t else s.lock }.setPc t .reconf)
    else none
  | .reconfDialOk t =>
    if s.pc t = .reconf then
      some ({ s.connectNew with lock := if cfg.acLocked = true then none else s.lock }.setPc t .idle)
    else none
  | .reconfDialFail t =>
    if s.pc t = .reconf then
      some ({ s with lock := if cfg.acLocked = true then none else s.lock }.setPc t .idle)
    else none
  | .tick d => some { s with now := s.now + d }
  | .extClose t =>
    if t ≠ 0 ∧ s.pc t = .idle then some { s with conn := none, xclosed := true } else none
  | .swallow t =>
    match s.pc t, s.wr with
    | .made sid, some w =>
      if cfg.recoverReports = false ∧ s.xclosed = true ∧ s.conn = none then some (s.setPc t (.wrote sid w)) else none
    | _, _ => none

def run : List Act → St → Option St
  | [], s => some s
  | a :: as, s =>
    match step cfg bytesOf s a with
    | some s' => run as s'
    | none => none

def init : St := {}

/-- states the client can be in: reached from the initial state by some schedule -/
def Reach (s : St) : Prop := ∃ acts, run cfg bytesOf acts init = some s

theorem run_append (as bs : List Act) (s : St) :
    run cfg bytesOf (as ++ bs) s = (run cfg bytesOf as s).bind (run cfg bytesOf bs) := by
  fun_induction run cfg bytesOf as s with
  | case1 s => simp
  | case2 a as s s' h ih => simpa [run, h] using ih
  | case3 a as s h => simp [run, h]

end Tcp
