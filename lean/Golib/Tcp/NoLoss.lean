/-
  Golib.Tcp.NoLoss — with a healthy connection nothing accepted is lost.

  A schedule is *benign* when it contains no fault action (failed dial, failed write or flush,
  peer close), no racy background dial (`bgDialOk`, possible only when process() connects
  without the send lock), no reconfiguration step and no swallowed panic (`Act.benign`).  Along
  benign schedules every send that was accepted (Send returned nil / Put returned true) is either
  still queued, being sent by process(), or its frame lies whole inside the bytes some connection
  carried — and no connection was cut.
-/
import Golib.Tcp.Order

namespace Tcp

variable (cfg : Cfg) (bytesOf : Nat → Bytes)

def Act.isFault : Act → Bool
  | .connectFail _ => true
  | .autoFlushErr _ _ => true
  | .flushErr _ _ => true
  | .peerClose _ _ => true
  | _ => false

/-- a reconfiguration step (ApplyConfig's Close / Connect) -/
def Act.isReconf : Act → Bool
  | .reconfClose _ => true
  | .reconfDialOk _ => true
  | .reconfDialFail _ => true
  | _ => false

/-- the swallowed panic of send() (possible only while `recoverReports = false`) -/
def Act.isSwallow : Act → Bool
  | .swallow _ => true
  | _ => false

/-- neither a fault, nor the racy background dial, nor a reconfiguration, nor a swallowed panic -/
def Act.benign (a : Act) : Bool := !a.isFault && a != .bgDialOk && !a.isReconf && !a.isSwallow

/-- the frame of `sid` is whole inside what connection `w` carried -/
def Whole (s : St) (w sid : Nat) : Prop :=
  ∃ pre post, s.log.get w = pre ++ sid :: post ∧ concatF bytesOf (pre ++ [sid]) <+: s.sent w

def inProgress (p : Pc) (sid : Nat) : Prop :=
  p = .made sid ∨ (∃ w rest, p = .writing sid w rest) ∨ (∃ w, p = .wrote sid w)

/-- thread is between the start of `wr.Write` on writer `w` and the end of `Flush` -/
def onWriter (p : Pc) (sid w : Nat) : Prop := (∃ rest, p = .writing sid w rest) ∨ p = .wrote sid w

theorem onWriter_inCS {p : Pc} {sid w : Nat} (h : onWriter p sid w) : inCS p = true := by
  rcases h with ⟨rest, h⟩ | h <;> simp [h, inCS]

structure HealthyInv (s : St) : Prop where
  noErr : ∀ w, s.err.get w = false
  noCut : ∀ w, s.cut.get w = none
  noFail : ∀ t sid, s.pc t ≠ .failed sid
  wrCur : ∀ t sid w, onWriter (s.pc t) sid w → s.wr = some w ∧ ∃ pre, s.log.get w = pre ++ [sid]
  bufIdle : ∀ w, (s.buf.get w ≠ [] ∨ s.pend.get w ≠ []) → ∃ t sid, onWriter (s.pc t) sid w
  doneWhole : ∀ t sid, s.pc t = .done sid true → ∃ w, Whole bytesOf s w sid
  accepted : ∀ sid, (sid, true) ∈ s.results →
    sid ∈ s.queue ∨ inProgress (s.pc 0) sid ∨ ∃ w, Whole bytesOf s w sid

theorem healthyInv_init : HealthyInv bytesOf init := by
  constructor
  · intro w; rfl
  · intro w; rfl
  · intro t sid h; simp [init, St.pc, AMap.get] at h
  · intro t sid w h; rcases h with ⟨rest, h⟩ | h <;> simp [init, St.pc, AMap.get] at h
  · intro w h; rcases h with h | h <;> exact absurd rfl h
  · intro t sid h; simp [init, St.pc, AMap.get] at h
  · intro sid h; simp [init] at h

theorem Whole.mono {s s' : St} {w sid : Nat}
    (hsent : s.sent w <+: s'.sent w) (hlog : ∃ ext, s'.log.get w = s.log.get w ++ ext)
    (h : Whole bytesOf s w sid) : Whole bytesOf s' w sid := by
  obtain ⟨pre, post, h1, h2⟩ := h
  obtain ⟨ext, he⟩ := hlog
  exact ⟨pre, post ++ ext, by rw [he, h1]; simp, h2.trans hsent⟩

theorem push_sent_prefix (s : St) (w k w' : Nat) : s.sent w' <+: (s.push w k).sent w' := by
  simp only [St.push, St.sent, AMap.get_set]
  by_cases e : w = w'
  · subst e; simp
  · simp [e]

theorem not_onWriter_of {p : Pc} (h : isWriting p = false) (h2 : ∀ sid w, p ≠ .wrote sid w) :
    ∀ sid w, ¬ onWriter p sid w := by
  intro sid w hw
  rcases hw with ⟨rest, hw⟩ | hw
  · rw [hw] at h; simp [isWriting] at h
  · exact h2 sid w hw

theorem onWriter_iff_of_not {p q : Pc} (h1 : ∀ sid w, ¬ onWriter p sid w) (h2 : ∀ sid w, ¬ onWriter q sid w) :
    ∀ sid w, onWriter p sid w ↔ onWriter q sid w :=
  fun sid w => ⟨fun h => absurd h (h1 sid w), fun h => absurd h (h2 sid w)⟩

/-- thread `t` moves `p0 → p` without touching a writer: it may pass from `writing` to `wrote` on the
    same writer, take an item from the queue, or report a result it holds as `done`; the current writer may
    change while nobody is on one -/
theorem HealthyInv.move {s s' : St} (hi : HealthyInv bytesOf s) (t : Nat) (p : Pc)
    (hpc : ∀ t', s'.pc t' = if t = t' then p else s.pc t')
    (herr : s'.err = s.err) (hcut : s'.cut = s.cut)
    (hwr : s'.wr = s.wr ∨ ∀ t' sid w, ¬ onWriter (s.pc t') sid w) (hlog : s'.log = s.log)
    (hbuf : s'.buf = s.buf) (hpend : s'.pend = s.pend) (hsent : ∀ w, s'.sent w = s.sent w)
    (hres : ∀ sid, (sid, true) ∈ s'.results → (sid, true) ∈ s.results ∨ s.pc t = .done sid true)
    (hq : ∀ sid ∈ s.queue, sid ∈ s'.queue ∨ (t = 0 ∧ p = .made sid))
    (hp1 : ∀ sid, p ≠ .failed sid) (hp3 : ∀ sid, p ≠ .done sid true)
    (hon : ∀ sid w, onWriter p sid w ↔ onWriter (s.pc t) sid w)
    (hprog : t = 0 → ∀ sid, inProgress (s.pc 0) sid → inProgress p sid) : HealthyInv bytesOf s' := by
  have hW : ∀ w sid, Whole bytesOf s w sid → Whole bytesOf s' w sid := by
    intro w sid h
    exact h.mono bytesOf (by rw [hsent]; exact List.prefix_refl _) ⟨[], by rw [hlog]; simp⟩
  have hpc' : ∀ t' sid w, onWriter (s'.pc t') sid w ↔ onWriter (s.pc t') sid w := by
    intro t' sid w
    rw [hpc]
    by_cases e : t = t'
    · rw [if_pos e, ← e]; exact hon sid w
    · rw [if_neg e]
  constructor
  · rw [herr]; exact hi.noErr
  · rw [hcut]; exact hi.noCut
  · intro t' sid h
    rw [hpc] at h
    by_cases e : t = t'
    · rw [if_pos e] at h; exact hp1 sid h
    · rw [if_neg e] at h; exact hi.noFail t' sid h
  · intro t' sid w h
    have h0 := (hpc' t' sid w).mp h
    rcases hwr with hwr | hwr
    · rw [hwr, hlog]; exact hi.wrCur t' sid w h0
    · exact absurd h0 (hwr t' sid w)
  · intro w h
    rw [hbuf, hpend] at h
    obtain ⟨t', sid, ht'⟩ := hi.bufIdle w h
    exact ⟨t', sid, (hpc' t' sid w).mpr ht'⟩
  · intro t' sid h
    rw [hpc] at h
    by_cases e : t = t'
    · rw [if_pos e] at h; exact absurd h (hp3 sid)
    · rw [if_neg e] at h
      obtain ⟨w, hw⟩ := hi.doneWhole t' sid h
      exact ⟨w, hW w sid hw⟩
  · intro sid h
    rcases hres sid h with h0 | h0
    · rcases hi.accepted sid h0 with h1 | h1 | ⟨w, h1⟩
      · rcases hq sid h1 with h2 | ⟨h2, h3⟩
        · exact Or.inl h2
        · refine Or.inr (Or.inl ?_)
          rw [hpc, if_pos h2, h3]; exact Or.inl rfl
      · refine Or.inr (Or.inl ?_)
        rw [hpc]
        by_cases e : t = 0
        · rw [if_pos e]; exact hprog e sid h1
        · rw [if_neg e]; exact h1
      · exact Or.inr (Or.inr ⟨w, hW w sid h1⟩)
    · obtain ⟨w, hw⟩ := hi.doneWhole t sid h0
      exact Or.inr (Or.inr ⟨w, hW w sid hw⟩)

/-- Thread `t` is inside the critical section, hence alone there (`mutex_unique`): no other thread is on a
    writer, and after its step to `p` only `t`'s own obligations are left. -/
theorem HealthyInv.solo {s s' : St} (hi : HealthyInv bytesOf s) (hm : MutexInv cfg s) (t : Nat) (p : Pc)
    (hcs : inCS (s.pc t) = true) (hpc : ∀ t', s'.pc t' = if t = t' then p else s.pc t')
    (herr : s'.err = s.err) (hcut : s'.cut = s.cut) (hres : s'.results = s.results) (hq : s'.queue = s.queue)
    (hp1 : ∀ sid, p ≠ .failed sid)
    (hwr : ∀ sid w, onWriter p sid w → s'.wr = some w ∧ ∃ pre, s'.log.get w = pre ++ [sid])
    (hbuf : ∀ w, (s'.buf.get w ≠ [] ∨ s'.pend.get w ≠ []) → ∃ sid, onWriter p sid w)
    (hW : ∀ w sid, Whole bytesOf s w sid → Whole bytesOf s' w sid)
    (hdone : ∀ sid, p = .done sid true → ∃ w, Whole bytesOf s' w sid)
    (hprog : t = 0 → ∀ sid, inProgress (s.pc 0) sid → inProgress p sid ∨ ∃ w, Whole bytesOf s' w sid) :
    HealthyInv bytesOf s' := by
  constructor
  · rw [herr]; exact hi.noErr
  · rw [hcut]; exact hi.noCut
  · intro t' sid h
    rw [hpc] at h
    by_cases e : t = t'
    · rw [if_pos e] at h; exact hp1 sid h
    · rw [if_neg e] at h; exact hi.noFail t' sid h
  · intro t' sid w h
    rw [hpc] at h
    by_cases e : t = t'
    · rw [if_pos e] at h; exact hwr sid w h
    · rw [if_neg e] at h; exact absurd (mutex_unique cfg hm t' t (onWriter_inCS h) hcs).symm e
  · intro w h
    obtain ⟨sid, hs⟩ := hbuf w h
    exact ⟨t, sid, by rw [hpc, if_pos rfl]; exact hs⟩
  · intro t' sid h
    rw [hpc] at h
    by_cases e : t = t'
    · rw [if_pos e] at h; exact hdone sid h
    · rw [if_neg e] at h
      obtain ⟨w, hw⟩ := hi.doneWhole t' sid h
      exact ⟨w, hW w sid hw⟩
  · intro sid h
    rw [hres] at h
    rcases hi.accepted sid h with h1 | h1 | ⟨w, h1⟩
    · exact Or.inl (hq ▸ h1)
    · by_cases e : t = 0
      · rcases hprog e sid h1 with h2 | h2
        · exact Or.inr (Or.inl (by rw [hpc, if_pos e]; exact h2))
        · exact Or.inr (Or.inr h2)
      · exact Or.inr (Or.inl (by rw [hpc, if_neg e]; exact h1))
    · exact Or.inr (Or.inr ⟨w, hW w sid h1⟩)

/-- The thread inside the critical section holds the frame of `sid` (`made`) or is copying it on `w` (`writing`), and
    starts or continues the copy on the current writer `w`: nothing goes out, `w`'s log gains `ext` and ends with
    `sid`, the other writers keep buffer, rest and log. -/
theorem HealthyInv.copy {s s' : St} (hi : HealthyInv bytesOf s) (hm : MutexInv cfg s) (t sid w : Nat) (r' : Bytes)
    (ext : List Nat) (hfrom : s.pc t = .made sid ∨ ∃ rest, s.pc t = .writing sid w rest)
    (hpc : ∀ t', s'.pc t' = if t = t' then .writing sid w r' else s.pc t')
    (herr : s'.err = s.err) (hcut : s'.cut = s.cut) (hres : s'.results = s.results) (hq : s'.queue = s.queue)
    (hsent : s'.sentRev = s.sentRev) (hwr : s'.wr = some w) (hlog : s'.log.get w = s.log.get w ++ ext)
    (hlast : ∃ pre, s'.log.get w = pre ++ [sid])
    (hoth : ∀ w', w ≠ w' → s'.buf.get w' = s.buf.get w' ∧ s'.pend.get w' = s.pend.get w' ∧
      s'.log.get w' = s.log.get w') : HealthyInv bytesOf s' := by
  have hcs : inCS (s.pc t) = true := by rcases hfrom with h | ⟨_, h⟩ <;> rw [h] <;> rfl
  refine hi.solo cfg bytesOf hm t _ hcs hpc herr hcut hres hq nofun ?_ ?_ ?_ nofun ?_
  · intro sid' w' hw'
    rcases hw' with ⟨_, h1⟩ | h1 <;> cases h1
    exact ⟨hwr, hlast⟩
  · intro w' hw'
    by_cases e : w = w'
    · subst e; exact ⟨sid, Or.inl ⟨_, rfl⟩⟩
    · rw [(hoth w' e).1, (hoth w' e).2.1] at hw'
      obtain ⟨t', sid', ht'⟩ := hi.bufIdle w' hw'
      have := mutex_unique cfg hm t' t (onWriter_inCS ht') hcs
      subst this
      rcases hfrom with h | ⟨_, h⟩ <;> rw [h] at ht' <;> rcases ht' with ⟨_, h1⟩ | h1 <;> cases h1
      exact absurd rfl e
  · intro w' sid' hW
    refine hW.mono bytesOf (by simp only [St.sent, hsent]; exact List.prefix_refl _) ?_
    by_cases e : w = w'
    · subst e; exact ⟨ext, hlog⟩
    · exact ⟨[], by rw [(hoth w' e).2.2, List.append_nil]⟩
  · intro e sid' h1
    subst e
    rcases hfrom with h | ⟨_, h⟩ <;> rw [h] at h1 <;> rcases h1 with h1 | ⟨_, _, h1⟩ | ⟨_, h1⟩ <;> cases h1 <;>
      exact Or.inl (Or.inr (Or.inl ⟨w, _, rfl⟩))

theorem HealthyInv.procRel {s : St} (hi : HealthyInv bytesOf s) (b : Bool) (t : Nat) :
    HealthyInv bytesOf (s.procRel b t) :=
  ⟨hi.noErr, hi.noCut, hi.noFail, hi.wrCur, hi.bufIdle, hi.doneWhole, hi.accepted⟩

/- What `HealthyInv` records, field by field (every arm of `healthyInv_step` re-establishes these seven):
   `noErr`      no writer carries bufio's sticky error;
   `noCut`      the peer closed no connection;
   `noFail`     no thread is on its way to `Close()` after a failed send;
   `wrCur`      a thread between the start of `wr.Write` and the end of `Flush` is on the *current* writer, and
                its send is the last one logged there;
   `bufIdle`    a writer holds buffered bytes, or the rest of a frame, only while some thread is on it;
   `doneWhole`  a sender about to return nil (`done sid true`) has its frame whole on a connection;
   `accepted`   every send reported as accepted is queued, in progress in process(), or whole on a connection
                (`NothingLost`, before `noCut` turns "carried" into "received"). -/

/-- The second disjunct of `hb` is a reconfiguration step of the repaired client: ApplyConfig and
    process() both work under the send lock (`acLocked ∧ procLocked`). -/
theorem healthyInv_step (s s' : St) (a : Act)
    (hb : a.benign = true ∨ (a.isFault = false ∧ a.isReconf = true ∧ cfg.acLocked = true ∧ cfg.procLocked = true))
    (hm : MutexInv cfg s) (hby : BytesInv bytesOf s)
    (hi : HealthyInv bytesOf s) (h : step cfg bytesOf s a = some s') : HealthyInv bytesOf s' := by
  -- nobody else is inside the critical section while `t` is
  have solo : ∀ t t' sid w, inCS (s.pc t) = true → onWriter (s.pc t') sid w → t' = t :=
    fun t t' sid w h1 h2 => mutex_unique cfg hm t' t (onWriter_inCS h2) h1
  have idle : ∀ t w, inCS (s.pc t) = true → (s.buf.get w ≠ [] ∨ s.pend.get w ≠ []) → ∃ sid, onWriter (s.pc t) sid w := by
    intro t w h1 h2
    obtain ⟨t', sid, ht'⟩ := hi.bufIdle w h2
    exact ⟨sid, solo t t' sid w h1 ht' ▸ ht'⟩
  have wmono : ∀ {s' : St}, (∀ w, s.sent w <+: s'.sent w) → (∀ w, ∃ ext, s'.log.get w = s.log.get w ++ ext) →
      ∀ w sid, Whole bytesOf s w sid → Whole bytesOf s' w sid :=
    fun h1 h2 w sid hw => hw.mono bytesOf (h1 w) (h2 w)
  -- thread `t` is nowhere near a writer (`q`: not `made`, `writing`, `wrote`) and moves to a point `p` on no writer,
  -- other than `failed` and `done … true`; besides that only book-keeping changes.  Arguments after `t`: where `t`
  -- is (`s.pc t = q`), the two halves of `Book.sameW`, what became of `results` and of the queue; then seven side
  -- conditions on the two program points, closed by `rfl` or `nofun`: `q` is not `made`, not `writing`, not `wrote`;
  -- `p` is not `writing`, not `wrote`, not `failed`, not `done … true`
  have off : ∀ {s₁ : St} (t : Nat) {p q : Pc}, s.pc t = q → s₁.pcs = s.pcs → SameW s s₁ →
      (∀ sid, (sid, true) ∈ s₁.results → (sid, true) ∈ s.results ∨ s.pc t = .done sid true) →
      (∀ sid ∈ s.queue, sid ∈ s₁.queue ∨ (t = 0 ∧ p = .made sid)) →
      (∀ sid, q ≠ .made sid) → isWriting q = false → (∀ sid w, q ≠ .wrote sid w) →
      isWriting p = false → (∀ sid w, p ≠ .wrote sid w) → (∀ sid, p ≠ .failed sid) → (∀ sid, p ≠ .done sid true) →
      HealthyInv bytesOf (s₁.setPc t p) := by
    intro s₁ t p q hq h0 hw hres hqu hq0 hq1 hq2 hp1 hp2 hp3 hp4
    refine hi.move bytesOf t p (fun t' => by rw [pc_setPc]; simp only [St.pc, h0]) hw.err hw.cut (.inl hw.wr) hw.log hw.buf
      hw.pend (fun w => by simp only [St.sent]; rw [show (s₁.setPc t p).sentRev = s.sentRev from hw.sentRev]) hres hqu
      hp3 hp4 (onWriter_iff_of_not (not_onWriter_of hp1 hp2) (by rw [hq]; exact not_onWriter_of hq1 hq2))
      (fun e sid h1 => ?_)
    subst e; rw [hq] at h1
    rcases h1 with h1 | ⟨w, rest, h1⟩ | ⟨w, h1⟩
    · exact absurd h1 (hq0 sid)
    · rw [h1] at hq1; cases hq1
    · exact absurd h1 (hq2 sid w)
  have hs := step_sound h
  clear h
  cases hs with
  | @book _ t p s₁ hk =>
    have hw := hk.sameW
    cases hk with
    | quiet hq =>
      cases hq with
      | connectFail _ _ => simp [Act.benign, Act.isFault, Act.isReconf, Act.isSwallow] at hb
      | swallow _ _ _ _ _ => simp [Act.benign, Act.isReconf, Act.isSwallow] at hb
      | @writeSticky t sid w _ _ _ he => rw [hi.noErr w] at he; cases he
      | @writeEnd t sid w hp =>
        refine hi.move bytesOf t _ (fun t' => pc_setPc _ _ _ _) rfl rfl (.inl rfl) rfl rfl rfl (fun _ => rfl) (fun _ => Or.inl)
          (fun _ => Or.inl) (fun _ => by simp) (fun _ => by simp) ?_ ?_
        · intro sid' w'
          rw [hp]; simp [onWriter]
        · intro e sid' h1
          subst e; rw [hp] at h1
          rcases h1 with h1 | ⟨_, _, h1⟩ | ⟨_, h1⟩ <;> cases h1
          exact Or.inr (Or.inr ⟨w, rfl⟩)
      | bgCheck _ hp _ => exact off 0 hp hw.1 hw.2 (fun _ => .inl) (fun _ => .inl) nofun rfl nofun rfl nofun nofun nofun
      | bgDialFail hp => exact off 0 hp hw.1 hw.2 (fun _ => .inl) (fun _ => .inl) nofun rfl nofun rfl nofun nofun nofun
    | lockSend _ _ hp _ _ => exact off t hp hw.1 hw.2 (fun _ => .inl) (fun _ => .inl) nofun rfl nofun rfl nofun nofun nofun
    | @dequeue sid q hp hq _ _ =>
      refine off 0 hp hw.1 hw.2 (fun _ => .inl) (fun x hx => ?_) nofun rfl nofun rfl nofun nofun nofun
      rw [hq] at hx
      rcases List.mem_cons.mp hx with e | h1
      · exact Or.inr ⟨rfl, by rw [e]⟩
      · exact Or.inl h1
    | @close t sid hp => exact absurd hp (hi.noFail t sid)
    | flushAfterFail hp => exact off 0 hp hw.1 hw.2 (fun _ => .inl) (fun _ => .inl) nofun rfl nofun rfl nofun nofun nofun
    | @unlock t sid ok hp _ =>
      refine off t hp hw.1 hw.2 (fun sid' h' => ?_) (fun _ => .inl) nofun rfl nofun rfl nofun nofun nofun
      rcases List.mem_cons.mp h' with e | h1
      · cases e; exact Or.inr hp
      · exact Or.inl h1
    | reconfClose _ hp _ => exact off t hp hw.1 hw.2 (fun _ => .inl) (fun _ => .inl) nofun rfl nofun rfl nofun nofun nofun
    | reconfDialFail hp => exact off t hp hw.1 hw.2 (fun _ => .inl) (fun _ => .inl) nofun rfl nofun rfl nofun nofun nofun
  | still he =>
    cases he with
    | @enqueue t sid ht0 _ hp _ _ =>
      constructor
      · exact hi.noErr
      · exact hi.noCut
      · exact hi.noFail
      · exact hi.wrCur
      · exact hi.bufIdle
      · exact hi.doneWhole
      · intro sid' h'
        have h'' : (sid', true) ∈ (sid, true) :: s.results := h'
        rcases List.mem_cons.mp h'' with h1 | h1
        · cases h1; exact Or.inl (by show sid ∈ s.queue ++ [sid]; simp)
        · rcases hi.accepted sid' h1 with h2 | h2 | h2
          · exact Or.inl (by show sid' ∈ s.queue ++ [sid]; exact List.mem_append_left _ h2)
          · exact Or.inr (Or.inl h2)
          · exact Or.inr (Or.inr h2)
    | @enqueueFail t sid _ _ _ _ _ =>
      constructor
      · exact hi.noErr
      · exact hi.noCut
      · exact hi.noFail
      · exact hi.wrCur
      · exact hi.bufIdle
      · exact hi.doneWhole
      · intro sid' h'
        have h'' : (sid', true) ∈ (sid, false) :: s.results := h'
        rcases List.mem_cons.mp h'' with h1 | h1
        · cases h1
        · exact hi.accepted sid' h1
    | _ => exact ⟨hi.noErr, hi.noCut, hi.noFail, hi.wrCur, hi.bufIdle, hi.doneWhole, hi.accepted⟩
  | @connectOk t sid hp _ =>
    -- the dialling sender is alone inside: nobody is on a writer
    refine ⟨hi.noErr, hi.noCut, hi.noFail, fun t' sid' w hw' => ?_, hi.bufIdle, hi.doneWhole, hi.accepted⟩
    have hw' : onWriter (s.pc t') sid' w := hw'
    have := solo t t' sid' w (by simp [hp, inCS]) hw'
    subst this; rw [hp] at hw'; rcases hw' with ⟨_, h1⟩ | h1 <;> cases h1
  | bgConnectOk _ hp hlk _ =>
    -- `process()` is idle and the lock is free: nobody is on a writer
    refine ⟨hi.noErr, hi.noCut, hi.noFail, fun t' sid' w hw' => ?_, hi.bufIdle, hi.doneWhole, hi.accepted⟩
    have hw' : onWriter (s.pc t') sid' w := hw'
    have hcs' := onWriter_inCS hw'
    cases hq : cfg.useQueue with
    | true =>
      have := ((hm.cs t' hcs').1 hq).1
      subst this; rw [hp] at hw'; rcases hw' with ⟨_, h1⟩ | h1 <;> cases h1
    | false =>
      have := ((hm.cs t' hcs').2 hq).2
      rw [hlk] at this; cases this
  | bgDialOk _ => simp [Act.benign, Act.isFault, Act.isReconf, Act.isSwallow] at hb
  | @reconfDialOk t hp =>
    obtain ⟨ht0, hlt⟩ := hm.rlock t hp
    have hlk : cfg.acLocked = true ∧ cfg.procLocked = true := by
      rcases hb with hb | ⟨_, _, h1, h2⟩
      · simp [Act.benign, Act.isFault, Act.isReconf, Act.isSwallow] at hb
      · exact ⟨h1, h2⟩
    have hlock : s.lock = some t := hlt hlk.1
    -- ApplyConfig holds the lock: nobody is on a writer
    have none_on : ∀ t' sid w, ¬ onWriter (s.pc t') sid w := by
      intro t' sid w hw
      have hcs' := onWriter_inCS hw
      cases hq : cfg.useQueue with
      | true => exact ht0 (Option.some.inj (hlock.symm.trans (((hm.cs t' hcs').1 hq).2 hlk.2)))
      | false =>
        have e : t = t' := Option.some.inj (hlock.symm.trans ((hm.cs t' hcs').2 hq).2)
        rw [← e, hp] at hcs'; cases hcs'
    exact hi.move bytesOf t .idle (fun _ => pc_setPc _ _ _ _) rfl rfl (.inr none_on) rfl rfl rfl (fun _ => rfl)
      (fun _ => .inl) (fun _ => .inl) nofun nofun
      (onWriter_iff_of_not (not_onWriter_of rfl nofun) (by rw [hp]; exact not_onWriter_of rfl nofun))
      (fun e => absurd e ht0)
  | @writeBegin t sid w hp hw _ _ =>
    exact hi.copy cfg bytesOf hm t sid w _ [sid] (.inl hp) (fun _ => pc_setPc _ _ _ _) rfl rfl rfl rfl rfl hw
      (AMap.get_set_self _ _ _) ⟨_, AMap.get_set_self _ _ _⟩
      (fun w' e => ⟨rfl, AMap.get_set_ne _ _ _ _ e, AMap.get_set_ne _ _ _ _ e⟩)
  | @writeChunk t n sid w rest hp _ _ =>
    obtain ⟨hwr, hlast⟩ := hi.wrCur t sid w (by rw [hp]; exact .inl ⟨rest, rfl⟩)
    exact hi.copy cfg bytesOf hm t sid w _ [] (.inr ⟨rest, hp⟩) (fun _ => pc_setPc _ _ _ _) rfl rfl rfl rfl rfl hwr
      (List.append_nil _).symm hlast (fun w' e => ⟨AMap.get_set_ne _ _ _ _ e, AMap.get_set_ne _ _ _ _ e, rfl⟩)
  | @autoFlush t k sid w rest hp _ _ _ =>
    have hW : ∀ w' sid', Whole bytesOf s w' sid' → Whole bytesOf (s.push w k) w' sid' :=
      wmono (fun w' => push_sent_prefix s w k w') (fun w' => ⟨[], by simp [St.push]⟩)
    constructor
    · exact hi.noErr
    · exact hi.noCut
    · exact hi.noFail
    · exact hi.wrCur
    · intro w' hw'
      by_cases e : w = w'
      · subst e; exact ⟨t, sid, by rw [show (s.push w k).pc t = s.pc t from rfl, hp]; exact Or.inl ⟨rest, rfl⟩⟩
      · have hw'' : s.buf.get w' ≠ [] ∨ s.pend.get w' ≠ [] := by
          simpa [St.push, AMap.get_set, e] using hw'
        exact hi.bufIdle w' hw''
    · intro t' sid' h'
      obtain ⟨w', hw'⟩ := hi.doneWhole t' sid' h'
      exact ⟨w', hW w' sid' hw'⟩
    · intro sid' h'
      rcases hi.accepted sid' h' with h1 | h1 | ⟨w', h1⟩
      · exact Or.inl h1
      · exact Or.inr (Or.inl h1)
      · exact Or.inr (Or.inr ⟨w', hW w' sid' h1⟩)
  | autoFlushErr _ _ _ => simp [Act.benign, Act.isFault, Act.isReconf, Act.isSwallow] at hb
  | @flushOk t sid w0 w hp hw _ _ =>
    refine HealthyInv.procRel bytesOf ?_ _ _
    have hcs : inCS (s.pc t) = true := by simp [hp, inCS]
    obtain ⟨hwr0, pre, hlogw⟩ := hi.wrCur t sid w0 (by rw [hp]; exact Or.inr rfl)
    have hww : w0 = w := Option.some.inj (hwr0.symm.trans hw)
    subst hww
    have hpend0 : s.pend.get w0 = [] := hby.pend_nil cfg bytesOf hm hcs (by rw [hp]; rfl) (hi.noErr w0)
    -- the flush puts the rest of the frame of `sid`, the last one logged on `w0`, on the wire
    have hnew : Whole bytesOf (s.push w0 (s.buf.get w0).length) w0 sid := by
      refine ⟨pre, [], hlogw, ?_⟩
      have := hby.eq w0
      rw [hpend0, List.append_nil] at this
      rw [← hlogw, ← this]
      simp [St.push, St.sent]
    refine hi.solo cfg bytesOf hm t _ hcs (fun _ => pc_setPc _ _ _ _) rfl rfl rfl rfl (fun _ => by split <;> simp) ?_ ?_
      (wmono (push_sent_prefix s w0 _) (fun _ => ⟨[], (List.append_nil _).symm⟩)) ?_ ?_
    · intro sid' w' hw'
      split at hw' <;> rcases hw' with ⟨_, h1⟩ | h1 <;> cases h1
    · intro w' hw'
      by_cases e : w0 = w'
      · subst e
        rcases hw' with h1 | h1
        · simp [St.push, St.setPc] at h1
        · exact absurd hpend0 h1
      · have hw'' : s.buf.get w' ≠ [] ∨ s.pend.get w' ≠ [] := by
          simpa [St.push, St.setPc, AMap.get_set, e] using hw'
        obtain ⟨sid', h1⟩ := idle t w' hcs hw''
        rw [hp] at h1; rcases h1 with ⟨_, h1⟩ | h1 <;> cases h1
        exact absurd rfl e
    · intro sid' h'
      split at h' <;> cases h'
      exact ⟨w0, hnew⟩
    · intro e sid' h1
      subst e; rw [hp] at h1
      rcases h1 with h1 | ⟨_, _, h1⟩ | ⟨_, h1⟩ <;> cases h1
      exact Or.inr ⟨w0, hnew⟩
  | flushErr _ _ _ _ _ => simp [Act.benign, Act.isFault, Act.isReconf, Act.isSwallow] at hb
  | peerClose _ _ => simp [Act.benign, Act.isFault, Act.isReconf, Act.isSwallow] at hb

end Tcp
