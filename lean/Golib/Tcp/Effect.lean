/-
  Golib.Tcp.Effect — what one step of the machine can do: the relation `Step`, which is `step` (`step_iff`).

  How to read it.  The state has two layers.  The *writer layer* — `next conn wr sentRev buf err log pend cut` — is
  what the connections and their bufio writers hold.  The *book-keeping layer* — `lock nsid handed results queue
  qcap xclosed` — is who holds the send lock and which sends were accepted (no invariant reads the clock fields
  `now timeout deadline`).  Twenty of the thirty-one actions leave the writer layer alone, at most dropping the
  connection: `Book` lists those in which a thread moves (six of them, `Quiet`, change nothing but that thread's
  program counter), `Still` those in which none does.  The other eleven are constructors of `Step` itself: the four
  that make a connection, the two that copy, the four that flush, and the peer's close.

  Every constructor carries the change of data and the move of the acting thread *together*, with the successor
  written out.  The two cannot be taken one after the other: whichever of "`pend w` set" and "thread at `writing`"
  (`writeBegin`), or of "lock released" and "thread at `idle`" (`unlock`), comes first, the state in between
  violates an invariant (`BytesInv.p1`/`p2`, `MutexInv.cs`).

  The invariant proofs split over `Step` (`have hs := step_sound h; clear h; cases hs with …` — with `h` left in
  the context every arm carries the successor substituted into it, and `simp` and `rfl` get slow).  An arm for `book`
  or `still` needs only that the writer layer stayed (`Book.sameW`, `Still.sameW`) and where the thread went
  (`Book.pc`), unless the invariant reads the book-keeping; then it opens `Book`/`Still` and sees the members.
  Successors are towers of updates: a field is read through one or two of them by `rfl`, through more of them by
  peeling (`X.procRel`, `X.setPc`) or unfolding, since `rfl` through a tower costs exponentially in its height.

  In the other direction `Step.complete` builds schedules: a constructor with its guards is a step taken.  One
  concrete action is inverted by unfolding `step` at it (`of_ite_some`; `step_enqueue`, `step_enqueueFail`,
  `step_dequeue` for the queue), not through the relation.
-/
import Golib.Tcp.Model
import Golib.Queue.Thms

namespace Tcp

variable (cfg : Cfg) (bytesOf : Nat → Bytes)

def isWriting : Pc → Bool
  | .writing _ _ _ => true
  | _ => false

/-- `Quiet s a t p`: action `a` moves thread `t` to `p` and changes nothing else -/
inductive Quiet (s : St) : Act → Nat → Pc → Prop
  | connectFail {t sid : Nat} : s.pc t = .made sid → s.conn = none → Quiet s (.connectFail t) t (.failed sid)
  | writeSticky {t sid w : Nat} : s.pc t = .made sid → s.wr = some w → s.conn ≠ none → s.err.get w = true →
      Quiet s (.writeSticky t) t (.failed sid)
  | swallow {t sid w : Nat} : s.pc t = .made sid → s.wr = some w → cfg.recoverReports = false → s.xclosed = true →
      s.conn = none → Quiet s (.swallow t) t (.wrote sid w)
  | writeEnd {t sid w : Nat} : s.pc t = .writing sid w [] → Quiet s (.writeEnd t) t (.wrote sid w)
  | bgCheck : cfg.bgLocked = false → s.pc 0 = .idle → s.conn = none → Quiet s .bgCheck 0 .bgDial
  | bgDialFail : s.pc 0 = .bgDial → Quiet s .bgDialFail 0 .idle

/-- `Book s a t p s₁`: action `a` moves thread `t` to `p`; before the move (`s₁`) it changes book-keeping only,
    except that `close` and `reconfClose` (the two `Close()`) also drop the connection -/
inductive Book (s : St) : Act → Nat → Pc → St → Prop
  | quiet {a : Act} {t : Nat} {p : Pc} : Quiet cfg s a t p → Book s a t p s
  | lockSend {t sid : Nat} : t ≠ 0 → cfg.useQueue = false → s.pc t = .idle → sid = s.nsid →
      (cfg.sendLocked = true → s.lock = none) →
      Book s (.lockSend t sid) t (.made sid)
        { s with lock := some t, nsid := s.nsid + 1, handed := s.handed ++ [sid], xclosed := false }
  | dequeue {sid : Nat} {q : List Nat} : s.pc 0 = .idle → s.queue = sid :: q → sid ≠ 0 →
      (cfg.procLocked = true → s.lock = none) →
      Book s .dequeue 0 (.made sid)
        { s with queue := q, lock := if cfg.procLocked = true then some 0 else s.lock, xclosed := false }
  | close {t sid : Nat} : s.pc t = .failed sid →
      Book s (.close t) t (if t = 0 then .afterFail sid else .done sid false) { s with conn := none }
  | flushAfterFail {sid : Nat} : s.pc 0 = .afterFail sid → Book s .flushAfterFail 0 .idle (s.procRel cfg.procLocked 0)
  | unlock {t sid : Nat} {ok : Bool} : s.pc t = .done sid ok → t ≠ 0 →
      Book s (.unlock t) t .idle { s with lock := none, results := (sid, ok) :: s.results }
  | reconfClose {t : Nat} : t ≠ 0 → s.pc t = .idle → (cfg.acLocked = true → s.lock = none) →
      Book s (.reconfClose t) t .reconf { s with conn := none, lock := if cfg.acLocked = true then some t else s.lock }
  | reconfDialFail {t : Nat} : s.pc t = .reconf →
      Book s (.reconfDialFail t) t .idle { s with lock := if cfg.acLocked = true then none else s.lock }

/-- `Still s a s'`: no thread moves, the writer layer stays (the application's `Close()` drops the connection) -/
inductive Still (s : St) : Act → St → Prop
  | enqueue {t sid : Nat} : t ≠ 0 → cfg.useQueue = true → s.pc t = .idle → sid = s.nsid → s.q.room = true →
      Still s (.enqueue t sid)
        { s with queue := s.queue ++ [sid], nsid := s.nsid + 1, handed := s.handed ++ [sid],
                 results := (sid, true) :: s.results }
  | enqueueFail {t sid : Nat} : t ≠ 0 → cfg.useQueue = true → s.pc t = .idle → sid = s.nsid → s.q.room = false →
      Still s (.enqueueFail t sid) { s with nsid := s.nsid + 1, results := (sid, false) :: s.results }
  | bgConnectFail : cfg.bgLocked = true → s.pc 0 = .idle → s.lock = none → s.conn = none → Still s .bgConnectFail s
  | setCapacity {c : Int} : Still s (.setCapacity c) { s with qcap := c }
  | setTimeout {n : Nat} : Still s (.setTimeout n) { s with timeout := n }
  | tick {d : Nat} : Still s (.tick d) { s with now := s.now + d }
  | extClose {t : Nat} : t ≠ 0 → s.pc t = .idle → Still s (.extClose t) { s with conn := none, xclosed := true }

/-- one step, by what it does to the writer layer -/
inductive Step (s : St) : Act → St → Prop
  | book {a : Act} {t : Nat} {p : Pc} {s₁ : St} : Book cfg s a t p s₁ → Step s a (s₁.setPc t p)
  | still {a : Act} {s' : St} : Still cfg s a s' → Step s a s'
  /-- `send()` dials, or `process()` under the lock at the top of its loop: nobody moves -/
  | connectOk {t sid : Nat} : s.pc t = .made sid → s.conn = none → Step s (.connectOk t) s.connectNew
  | bgConnectOk : cfg.bgLocked = true → s.pc 0 = .idle → s.lock = none → s.conn = none → Step s .bgConnectOk s.connectNew
  /-- the unlocked `process()`, or `ApplyConfig`, finishes its dial -/
  | bgDialOk : s.pc 0 = .bgDial → Step s .bgDialOk (s.connectNew.setPc 0 .idle)
  | reconfDialOk {t : Nat} : s.pc t = .reconf →
      Step s (.reconfDialOk t) ({ s.connectNew with lock := if cfg.acLocked = true then none else s.lock }.setPc t .idle)
  | writeBegin {t sid w : Nat} : s.pc t = .made sid → s.wr = some w → s.conn ≠ none → s.err.get w = false →
      Step s (.writeBegin t)
        ({ s with log := s.log.set w (s.log.get w ++ [sid]), pend := s.pend.set w (bytesOf sid),
                  deadline := s.deadline.set w (if cfg.rearm = true then s.now + s.timeout else s.deadline.get w) }.setPc t
          (.writing sid w (bytesOf sid)))
  | writeChunk {t n sid w : Nat} {rest : Bytes} : s.pc t = .writing sid w rest → 0 < n → n ≤ rest.length →
      Step s (.writeChunk t n)
        ({ s with buf := s.buf.set w (s.buf.get w ++ rest.take n), pend := s.pend.set w (rest.drop n) }.setPc t
          (.writing sid w (rest.drop n)))
  | autoFlush {t k sid w : Nat} {rest : Bytes} : s.pc t = .writing sid w rest → k ≤ (s.buf.get w).length →
      s.now ≤ s.deadline.get w → s.err.get w = false → Step s (.autoFlush t k) (s.push w k)
  | autoFlushErr {t k sid w : Nat} {rest : Bytes} : s.pc t = .writing sid w rest → k ≤ (s.buf.get w).length →
      s.err.get w = false → Step s (.autoFlushErr t k) (((s.push w k).setErr w).setPc t (.failed sid))
  | flushOk {t sid w0 w : Nat} : s.pc t = .wrote sid w0 → s.wr = some w → s.err.get w = false →
      s.now ≤ s.deadline.get w →
      Step s (.flushOk t)
        (((s.push w (s.buf.get w).length).setPc t (if t = 0 then .idle else .done sid true)).procRel cfg.procLocked t)
  | flushErr {t k sid w0 w : Nat} : s.pc t = .wrote sid w0 → s.wr = some w → k ≤ (s.buf.get w).length →
      (s.err.get w = true → k = 0) → (s.err.get w = false → k < (s.buf.get w).length) →
      Step s (.flushErr t k)
        (({ (s.push w k).setErr w with conn := if t = 0 then none else s.conn }.setPc t
          (if t = 0 then .idle else .done sid false)).procRel cfg.procLocked t)
  | peerClose {c n : Nat} : s.cut.get c = none → n ≤ (s.sentRev.get c).length →
      Step s (.peerClose c n) { s with cut := s.cut.set c (some n) }

variable {cfg bytesOf}

/-- a guarded step that was taken: the guard held and the successor is the one written down -/
theorem of_ite_some {α : Type} {c : Prop} [Decidable c] {x y : α} (h : (if c then some x else none) = some y) :
    c ∧ y = x := by
  split at h
  · next hc => exact ⟨hc, (Option.some.inj h).symm⟩
  · cases h

/-- a successful `Flush` only moves the thread -/
theorem finish_true (s : St) (t sid : Nat) :
    s.finish t sid true = s.setPc t (if t = 0 then .idle else .done sid true) := by
  by_cases h0 : t = 0 <;> simp [St.finish, h0]

/-- after a failed `Flush` process() also drops the connection (a sender leaves that to `Close()`) -/
theorem finish_false (s : St) (t sid : Nat) :
    s.finish t sid false =
      { s with conn := if t = 0 then none else s.conn }.setPc t (if t = 0 then .idle else .done sid false) := by
  by_cases h0 : t = 0 <;> simp [St.finish, h0]

/-! The three actions on the queue, inverted one by one: `step` calls C11's `Queue.step`, whose equations
    (`Golib.Queue.Thms`) say what came of it. -/

theorem step_enqueue {s s' : St} {t sid : Nat} (h : step cfg bytesOf s (.enqueue t sid) = some s') :
    Still cfg s (.enqueue t sid) s' := by
  obtain ⟨⟨h1, h2, h3, h4, h5⟩, rfl⟩ := of_ite_some h
  have hr := Queue.Ret.bool.inj ((Queue.step_put_ret s.q sid).symm.trans h5)
  rw [Queue.step_put_of_room s.q sid hr]; exact .enqueue h1 h2 h3 h4 hr

theorem step_enqueueFail {s s' : St} {t sid : Nat} (h : step cfg bytesOf s (.enqueueFail t sid) = some s') :
    Still cfg s (.enqueueFail t sid) s' := by
  obtain ⟨⟨h1, h2, h3, h4, h5⟩, rfl⟩ := of_ite_some h
  have hr := Queue.Ret.bool.inj ((Queue.step_put_ret s.q sid).symm.trans h5)
  rw [Queue.step_put_of_full s.q sid hr]; exact .enqueueFail h1 h2 h3 h4 hr

theorem step_dequeue {s s' : St} (h : step cfg bytesOf s .dequeue = some s') :
    ∃ sid q s₁, s.queue = sid :: q ∧ s₁.queue = q ∧ Book cfg s .dequeue 0 (.made sid) s₁ ∧ s' = s₁.setPc 0 (.made sid) := by
  dsimp only [step] at h
  split at h
  · next sid hp hq =>
    obtain ⟨⟨h0, hl⟩, rfl⟩ := of_ite_some h
    obtain ⟨r, h1, h2⟩ := Queue.step_getNoWait_val s.q sid hq h0
    rw [h2]; exact ⟨sid, r, _, h1, rfl, .dequeue hp h1 h0 hl, rfl⟩
  · cases h

theorem step_sound {s s' : St} {a : Act} (h : step cfg bytesOf s a = some s') : Step cfg bytesOf s a s' := by
  cases a <;> dsimp only [step] at h
  case lockSend t sid => obtain ⟨⟨h1, h2, h3, h4, h5⟩, rfl⟩ := of_ite_some h; exact .book (.lockSend h1 h2 h3 h4 h5)
  case connectOk t =>
    split at h
    · next sid hp => obtain ⟨hc, rfl⟩ := of_ite_some h; exact .connectOk hp hc
    · cases h
  case connectFail t =>
    split at h
    · next sid hp => obtain ⟨hc, rfl⟩ := of_ite_some h; exact .book (.quiet (.connectFail hp hc))
    · cases h
  case writeBegin t =>
    split at h
    · next sid w hp hw => obtain ⟨⟨h3, h4⟩, rfl⟩ := of_ite_some h; exact .writeBegin hp hw h3 h4
    · cases h
  case writeSticky t =>
    split at h
    · next sid w hp hw => obtain ⟨⟨h3, h4⟩, rfl⟩ := of_ite_some h; exact .book (.quiet (.writeSticky hp hw h3 h4))
    · cases h
  case writeChunk t n =>
    split at h
    · next sid w rest hp => obtain ⟨⟨h2, h3⟩, rfl⟩ := of_ite_some h; exact .writeChunk hp h2 h3
    · cases h
  case writeEnd t =>
    split at h
    · next sid w hp => cases h; exact .book (.quiet (.writeEnd hp))
    · cases h
  case autoFlush t k =>
    split at h
    · next sid w rest hp => obtain ⟨⟨h1, h2, h3⟩, rfl⟩ := of_ite_some h; exact .autoFlush hp h1 h2 h3
    · cases h
  case autoFlushErr t k =>
    split at h
    · next sid w rest hp => obtain ⟨⟨h1, h2⟩, rfl⟩ := of_ite_some h; exact .autoFlushErr hp h1 h2
    · cases h
  case flushOk t =>
    split at h
    · next sid w0 w hp hw =>
      obtain ⟨⟨h1, h2⟩, rfl⟩ := of_ite_some h
      rw [finish_true]; exact .flushOk hp hw h1 h2
    · cases h
  case flushErr t k =>
    split at h
    · next sid w0 w hp hw =>
      obtain ⟨⟨h1, h2, h3⟩, rfl⟩ := of_ite_some h
      rw [finish_false]; exact .flushErr hp hw h1 h2 h3
    · cases h
  case close t =>
    split at h
    · next sid hp => cases h; exact .book (.close hp)
    · cases h
  case flushAfterFail =>
    split at h
    · next sid hp => cases h; exact .book (.flushAfterFail hp)
    · cases h
  case unlock t =>
    split at h
    · next sid ok hp => obtain ⟨ht, rfl⟩ := of_ite_some h; exact .book (.unlock hp ht)
    · cases h
  case enqueue t sid => exact .still (step_enqueue (bytesOf := bytesOf) h)
  case enqueueFail t sid => exact .still (step_enqueueFail (bytesOf := bytesOf) h)
  case dequeue => obtain ⟨_, _, _, _, _, hk, rfl⟩ := step_dequeue (bytesOf := bytesOf) h; exact .book hk
  case bgConnectOk => obtain ⟨⟨h1, h2, h3, h4⟩, rfl⟩ := of_ite_some h; exact .bgConnectOk h1 h2 h3 h4
  case bgConnectFail => obtain ⟨⟨h1, h2, h3, h4⟩, rfl⟩ := of_ite_some h; exact .still (.bgConnectFail h1 h2 h3 h4)
  case bgCheck => obtain ⟨⟨h1, h2, h3⟩, rfl⟩ := of_ite_some h; exact .book (.quiet (.bgCheck h1 h2 h3))
  case bgDialOk => obtain ⟨hp, rfl⟩ := of_ite_some h; exact .bgDialOk hp
  case bgDialFail => obtain ⟨hp, rfl⟩ := of_ite_some h; exact .book (.quiet (.bgDialFail hp))
  case peerClose c n => obtain ⟨⟨h1, h2⟩, rfl⟩ := of_ite_some h; exact .peerClose h1 h2
  case setCapacity c => cases h; exact .still .setCapacity
  case setTimeout n => cases h; exact .still .setTimeout
  case reconfClose t => obtain ⟨⟨h1, h2, h3⟩, rfl⟩ := of_ite_some h; exact .book (.reconfClose h1 h2 h3)
  case reconfDialOk t => obtain ⟨hp, rfl⟩ := of_ite_some h; exact .reconfDialOk hp
  case reconfDialFail t => obtain ⟨hp, rfl⟩ := of_ite_some h; exact .book (.reconfDialFail hp)
  case tick d => cases h; exact .still .tick
  case extClose t => obtain ⟨⟨h1, h2⟩, rfl⟩ := of_ite_some h; exact .still (.extClose h1 h2)
  case swallow t =>
    split at h
    · next sid w hp hw => obtain ⟨⟨h3, h4, h5⟩, rfl⟩ := of_ite_some h; exact .book (.quiet (.swallow hp hw h3 h4 h5))
    · cases h

/-- the converse of `step_sound`: whatever `Step` lists, the machine does -/
theorem Step.complete {s s' : St} {a : Act} (h : Step cfg bytesOf s a s') : step cfg bytesOf s a = some s' := by
  cases h with
  | book hb =>
    cases hb with
    | quiet hq =>
      cases hq with
      | connectFail hp hc => dsimp only [step]; rw [hp]; exact if_pos hc
      | writeSticky hp hw hc he => dsimp only [step]; rw [hp, hw]; exact if_pos ⟨hc, he⟩
      | swallow hp hw h1 h2 h3 => dsimp only [step]; rw [hp, hw]; exact if_pos ⟨h1, h2, h3⟩
      | writeEnd hp => dsimp only [step]; rw [hp]
      | bgCheck h1 h2 h3 => exact if_pos ⟨h1, h2, h3⟩
      | bgDialFail hp => exact if_pos hp
    | lockSend h1 h2 h3 h4 h5 => exact if_pos ⟨h1, h2, h3, h4, h5⟩
    | @dequeue sid q hp hq h0 hl =>
      dsimp only [step]; rw [hp, Queue.step_getNoWait_cons s.q sid q hq]; exact if_pos ⟨h0, hl⟩
    | close hp => dsimp only [step]; rw [hp]
    | flushAfterFail hp => dsimp only [step]; rw [hp]; rfl
    | unlock hp ht => dsimp only [step]; rw [hp]; exact if_pos ht
    | reconfClose h1 h2 h3 => exact if_pos ⟨h1, h2, h3⟩
    | reconfDialFail hp => exact if_pos hp
  | still he =>
    cases he with
    | @enqueue t sid h1 h2 h3 h4 hr =>
      dsimp only [step]; rw [Queue.step_put_of_room s.q sid hr]; exact if_pos ⟨h1, h2, h3, h4, rfl⟩
    | @enqueueFail t sid h1 h2 h3 h4 hr =>
      dsimp only [step]; rw [Queue.step_put_of_full s.q sid hr]; exact if_pos ⟨h1, h2, h3, h4, rfl⟩
    | bgConnectFail h1 h2 h3 h4 => exact if_pos ⟨h1, h2, h3, h4⟩
    | setCapacity => rfl
    | setTimeout => rfl
    | tick => rfl
    | extClose h1 h2 => exact if_pos ⟨h1, h2⟩
  | connectOk hp hc => dsimp only [step]; rw [hp]; exact if_pos hc
  | bgConnectOk h1 h2 h3 hc => exact if_pos ⟨h1, h2, h3, hc⟩
  | bgDialOk hp => exact if_pos hp
  | reconfDialOk hp => exact if_pos hp
  | writeBegin hp hw hc he => dsimp only [step]; rw [hp, hw]; exact if_pos ⟨hc, he⟩
  | writeChunk hp h0 hn => dsimp only [step]; rw [hp]; exact if_pos ⟨h0, hn⟩
  | autoFlush hp h1 h2 h3 => dsimp only [step]; rw [hp]; exact if_pos ⟨h1, h2, h3⟩
  | autoFlushErr hp h1 h2 => dsimp only [step]; rw [hp]; exact if_pos ⟨h1, h2⟩
  | flushOk hp hw h1 h2 => dsimp only [step]; rw [hp, hw]; dsimp only; rw [finish_true]; exact if_pos ⟨h1, h2⟩
  | flushErr hp hw h1 h2 h3 => dsimp only [step]; rw [hp, hw]; dsimp only; rw [finish_false]; exact if_pos ⟨h1, h2, h3⟩
  | peerClose h1 h2 => exact if_pos ⟨h1, h2⟩

theorem step_iff {s s' : St} {a : Act} : step cfg bytesOf s a = some s' ↔ Step cfg bytesOf s a s' :=
  ⟨step_sound, Step.complete⟩

/-- the writer layer of `s'` is that of `s`, except that the connection may have been dropped -/
structure SameW (s s' : St) : Prop where
  next : s'.next = s.next
  wr : s'.wr = s.wr
  sentRev : s'.sentRev = s.sentRev
  buf : s'.buf = s.buf
  err : s'.err = s.err
  log : s'.log = s.log
  pend : s'.pend = s.pend
  cut : s'.cut = s.cut
  conn : s'.conn = s.conn ∨ s'.conn = none

theorem Book.sameW {s s₁ : St} {a : Act} {t : Nat} {p : Pc} (h : Book cfg s a t p s₁) : s₁.pcs = s.pcs ∧ SameW s s₁ := by
  cases h with
  | close _ | reconfClose _ _ _ => exact ⟨rfl, rfl, rfl, rfl, rfl, rfl, rfl, rfl, rfl, .inr rfl⟩
  | _ => exact ⟨rfl, rfl, rfl, rfl, rfl, rfl, rfl, rfl, rfl, .inl rfl⟩

theorem Still.sameW {s s' : St} {a : Act} (h : Still cfg s a s') : s'.pcs = s.pcs ∧ SameW s s' := by
  cases h with
  | extClose _ _ => exact ⟨rfl, rfl, rfl, rfl, rfl, rfl, rfl, rfl, rfl, .inr rfl⟩
  | _ => exact ⟨rfl, rfl, rfl, rfl, rfl, rfl, rfl, rfl, rfl, .inl rfl⟩

/-- where a book-keeping move leads: never into a copy, out of one only at its end, and into the unlocked dial only
    if `process()` connects without the lock -/
theorem Book.pc {s s₁ : St} {a : Act} {t : Nat} {p : Pc} (h : Book cfg s a t p s₁) :
    isWriting p = false ∧ (∀ sid w rest, s.pc t = .writing sid w rest → rest = []) ∧
      (p = .bgDial → cfg.bgLocked = false) := by
  have off : ∀ {q : Pc}, s.pc t = q → isWriting q = false → ∀ sid w rest, s.pc t = .writing sid w rest → rest = [] := by
    intro q hq hn _ _ _ hw
    rw [hq] at hw; rw [hw] at hn; cases hn
  cases h with
  | quiet hq =>
    cases hq with
    | connectFail hp _ => exact ⟨rfl, off hp rfl, nofun⟩
    | writeSticky hp _ _ _ => exact ⟨rfl, off hp rfl, nofun⟩
    | swallow hp _ _ _ _ => exact ⟨rfl, off hp rfl, nofun⟩
    | writeEnd hp => exact ⟨rfl, fun _ _ _ hw => by rw [hp] at hw; cases hw; rfl, nofun⟩
    | bgCheck hb hp _ => exact ⟨rfl, off hp rfl, fun _ => hb⟩
    | bgDialFail hp => exact ⟨rfl, off hp rfl, nofun⟩
  | lockSend _ _ hp _ _ => exact ⟨rfl, off hp rfl, nofun⟩
  | dequeue hp _ _ _ => exact ⟨rfl, off hp rfl, nofun⟩
  | close hp => exact ⟨by split <;> rfl, off hp rfl, fun e => by split at e <;> cases e⟩
  | flushAfterFail hp => exact ⟨rfl, off hp rfl, nofun⟩
  | unlock hp _ => exact ⟨rfl, off hp rfl, nofun⟩
  | reconfClose _ hp _ => exact ⟨rfl, off hp rfl, nofun⟩
  | reconfDialFail hp => exact ⟨rfl, off hp rfl, nofun⟩

end Tcp
