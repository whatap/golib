/-
  Golib.Tcp.Inv — the two invariants of the one-way client machine (Golib.Tcp.Model): `MutexInv`
  (who may be inside send()/Flush(), and holding which lock) and `BytesInv` (per writer: bytes taken,
  bytes buffered and the rest of the frame being copied are the frames handed to it), each proved by
  induction over schedules (`Reach`): one lemma per invariant saying that every action preserves it.
-/
import Golib.Tcp.Effect
import Golib.Tcp.Frame

namespace Tcp

variable (cfg : Cfg) (bytesOf : Nat → Bytes)

/-- inside `send()`/`Flush()` (sender: between Lock and Unlock) -/
def inCS : Pc → Bool
  | .idle => false
  | .bgDial => false
  | .reconf => false
  | _ => true

/-- Direct mode: whoever is inside the critical section is a sender and holds the send lock, and
    the queue stays empty (so process() never sends).  Queue mode: only process() (thread 0) is
    ever inside — holding the lock if `procLocked`.  A thread inside ApplyConfig between Close and
    Connect holds the lock if `acLocked`. -/
structure MutexInv (s : St) : Prop where
  cs : ∀ t, inCS (s.pc t) = true →
        (cfg.useQueue = true → t = 0 ∧ (cfg.procLocked = true → s.lock = some 0)) ∧
        (cfg.useQueue = false → t ≠ 0 ∧ s.lock = some t)
  noq : cfg.useQueue = false → s.queue = []
  rlock : ∀ t, s.pc t = .reconf → t ≠ 0 ∧ (cfg.acLocked = true → s.lock = some t)

theorem mutexInv_init : MutexInv cfg init := by
  refine ⟨?_, ?_, ?_⟩
  · intro t h; simp [init, St.pc, AMap.get, inCS] at h
  · intro _; rfl
  · intro t h; simp [init, St.pc, AMap.get] at h

@[simp] theorem pc_setPc (s : St) (t t' : Nat) (p : Pc) :
    (s.setPc t p).pc t' = if t = t' then p else s.pc t' := by
  simp [St.pc, St.setPc, AMap.get_set]

theorem pc_setPc_self (s : St) (t : Nat) (p : Pc) : (s.setPc t p).pc t = p := AMap.get_set_self _ _ _

theorem pc_of_setPc {s : St} {t t' : Nat} {p q : Pc} (h : (s.setPc t p).pc t' = q) : p = q ∨ s.pc t' = q := by
  rw [pc_setPc] at h
  split at h
  · exact Or.inl h
  · exact Or.inr h

/-- thread `t` moves to `p` (staying inside, or leaving, the critical section); lock and queue unchanged -/
theorem MutexInv.move {s s' : St} (hi : MutexInv cfg s) (t : Nat) (p : Pc)
    (hpc : ∀ t', s'.pc t' = if t = t' then p else s.pc t') (hl : s'.lock = s.lock) (hq : s'.queue = s.queue)
    (hin : inCS p = true → inCS (s.pc t) = true) (hr : p ≠ .reconf) : MutexInv cfg s' := by
  refine ⟨?_, ?_, ?_⟩
  · intro t' ht'
    rw [hpc] at ht'
    rw [hl]
    by_cases e : t = t'
    · subst e; rw [if_pos rfl] at ht'; exact hi.cs t (hin ht')
    · rw [if_neg e] at ht'; exact hi.cs t' ht'
  · rw [hq]; exact hi.noq
  · intro t' ht'
    rw [hpc] at ht'
    rw [hl]
    by_cases e : t = t'
    · rw [if_pos e] at ht'; exact absurd ht' hr
    · rw [if_neg e] at ht'; exact hi.rlock t' ht'

theorem MutexInv.same {s s' : St} (hi : MutexInv cfg s)
    (hpc : s'.pcs = s.pcs) (hl : s'.lock = s.lock) (hq : s'.queue = s.queue) : MutexInv cfg s' := by
  refine ⟨?_, ?_, ?_⟩
  · intro t' ht'; simp only [St.pc, hpc] at ht'; rw [hl]; exact hi.cs t' ht'
  · rw [hq]; exact hi.noq
  · intro t' ht'; simp only [St.pc, hpc] at ht'; rw [hl]; exact hi.rlock t' ht'

/-- thread `t` leaves the critical section (or ApplyConfig) for good, releasing the lock if it held it -/
theorem MutexInv.leave {s s' : St} (hi : MutexInv cfg s) (t : Nat) (p : Pc)
    (hpc : ∀ t', s'.pc t' = if t = t' then p else s.pc t') (hq : s'.queue = s.queue)
    (hp : inCS p = false) (hr : p ≠ .reconf)
    (hl : s'.lock = s.lock ∨ s.lock = some t) : MutexInv cfg s' := by
  rcases hl with hl | hold
  · exact hi.move cfg t p hpc hl hq (fun h => by rw [hp] at h; cases h) hr
  -- `t` held the lock: nobody else was inside
  refine ⟨?_, ?_, ?_⟩
  · intro t' ht'
    have e : t ≠ t' := fun e => by rw [hpc, if_pos e, hp] at ht'; cases ht'
    rw [hpc, if_neg e] at ht'
    obtain ⟨h1, h2⟩ := hi.cs t' ht'
    refine ⟨fun hu => ⟨(h1 hu).1, fun hpl => ?_⟩, fun hu => ?_⟩
    · exact absurd (Option.some.inj (hold.symm.trans ((h1 hu).2 hpl))) (fun e' => e (e'.trans (h1 hu).1.symm))
    · exact absurd (Option.some.inj (hold.symm.trans (h2 hu).2)) e
  · rw [hq]; exact hi.noq
  · intro t' ht'
    have e : t ≠ t' := fun e => by rw [hpc, if_pos e] at ht'; exact hr ht'
    rw [hpc, if_neg e] at ht'
    obtain ⟨h1, h2⟩ := hi.rlock t' ht'
    exact ⟨h1, fun hac => absurd (Option.some.inj (hold.symm.trans (h2 hac))) e⟩

/-- Thread `t` enters the critical section or ApplyConfig (`p`), taking the lock (`b`) from free where the mode asks
    for it; whoever else held an obligation on the lock keeps it, since a lock that is held is not taken. -/
theorem MutexInv.acquire {s s' : St} (hi : MutexInv cfg s) (t : Nat) (p : Pc) (b : Bool)
    (hpc : ∀ t', s'.pc t' = if t = t' then p else s.pc t')
    (hl : s'.lock = if b = true then some t else s.lock) (hfree : b = true → s.lock = none)
    (hq : cfg.useQueue = false → s'.queue = [])
    (hcs : inCS p = true → (cfg.useQueue = true → t = 0 ∧ (cfg.procLocked = true → b = true)) ∧
      (cfg.useQueue = false → t ≠ 0 ∧ b = true))
    (hr : p = .reconf → t ≠ 0 ∧ (cfg.acLocked = true → b = true)) : MutexInv cfg s' := by
  have held : ∀ {u : Nat}, s.lock = some u → s'.lock = some u := by
    intro u hu
    cases b with
    | false => rw [hl]; exact hu
    | true => rw [hfree rfl] at hu; cases hu
  refine ⟨fun t' ht' => ?_, hq, fun t' ht' => ?_⟩
  · rw [hpc] at ht'
    by_cases e : t = t'
    · subst e; rw [if_pos rfl] at ht'
      obtain ⟨h1, h2⟩ := hcs ht'
      exact ⟨fun hu => ⟨(h1 hu).1, fun hpl => by rw [hl, if_pos ((h1 hu).2 hpl), (h1 hu).1]⟩,
        fun hu => ⟨(h2 hu).1, by rw [hl, if_pos (h2 hu).2]⟩⟩
    · rw [if_neg e] at ht'
      obtain ⟨h1, h2⟩ := hi.cs t' ht'
      exact ⟨fun hu => ⟨(h1 hu).1, fun hpl => held ((h1 hu).2 hpl)⟩, fun hu => ⟨(h2 hu).1, held (h2 hu).2⟩⟩
  · rw [hpc] at ht'
    by_cases e : t = t'
    · subst e; rw [if_pos rfl] at ht'
      exact ⟨(hr ht').1, fun hac => by rw [hl, if_pos ((hr ht').2 hac)]⟩
    · rw [if_neg e] at ht'
      exact ⟨(hi.rlock t' ht').1, fun hac => held ((hi.rlock t' ht').2 hac)⟩

theorem finish_sender {t : Nat} (ht : t ≠ 0) (s : St) (sid : Nat) (ok b : Bool) :
    (s.finish t sid ok).procRel b t = s.setPc t (.done sid ok) := by
  simp only [St.finish, St.procRel, ht, false_and, if_false]

/-- the end of a `send()+Flush()`: thread `t` leaves the critical section (process() releasing the
    lock if it held it) -/
theorem MutexInv.finished {s : St} (hi : MutexInv cfg s) (t : Nat) (p : Pc) (b : Bool) {q : Pc} (hq : s.pc t = q)
    (hcs : inCS q = true) (hp : inCS p = true → t ≠ 0) (hr : p ≠ .reconf)
    (hb : b = cfg.procLocked) : MutexInv cfg ((s.setPc t p).procRel b t) := by
  rw [← hq] at hcs
  by_cases h0 : t = 0 ∧ b = true
  · obtain ⟨rfl, hbt⟩ := h0
    have huq : cfg.useQueue = true := by
      cases hu : cfg.useQueue with
      | true => rfl
      | false => exact absurd rfl ((hi.cs 0 hcs).2 hu).1
    refine hi.leave cfg 0 p (fun _ => pc_setPc _ _ _ _) rfl ?_ hr
      (Or.inr (((hi.cs 0 hcs).1 huq).2 (by rw [← hb]; exact hbt)))
    cases hin : inCS p with
    | false => rfl
    | true => exact absurd rfl (hp hin)
  · refine hi.move cfg t p (fun _ => pc_setPc _ _ _ _) ?_ rfl (fun hh => ?_) hr
    · show (if t = 0 ∧ b = true then none else s.lock) = s.lock
      rw [if_neg h0]
    · by_cases e : t = 0
      · exact absurd e (hp hh)
      · exact hcs

theorem mutexInv_step (hl : cfg.sendLocked = true) (s s' : St) (a : Act)
    (hi : MutexInv cfg s) (h : step cfg bytesOf s a = some s') : MutexInv cfg s' := by
  -- a thread moves inside the critical section; lock and queue stay
  have inside : ∀ {s₁ : St} {t : Nat} {p q : Pc}, s₁.pcs = s.pcs → s₁.lock = s.lock → s₁.queue = s.queue →
      s.pc t = q → inCS q = true → p ≠ .reconf → MutexInv cfg (s₁.setPc t p) := by
    intro s₁ t p q h1 h2 h3 hp hq hr
    exact hi.move cfg t p (fun t' => by rw [pc_setPc]; simp only [St.pc, h1]) h2 h3 (fun _ => hp ▸ hq) hr
  have hs := step_sound h
  clear h  -- see the head of `Effect.lean`
  cases hs with
  | @book _ t p s₁ hb =>
    cases hb with
    | quiet hq =>
      refine hi.move cfg t p (fun _ => pc_setPc _ _ _ _) rfl rfl ?_ ?_ <;> cases hq <;> simp [inCS, *]
    | close hp => exact inside rfl rfl rfl hp rfl (by split <;> simp)
    | flushAfterFail hp => exact hi.finished cfg 0 _ _ hp rfl (fun hh => by simp [inCS] at hh) (by simp) rfl
    | unlock hp ht0 =>
      have hin : inCS (s.pc t) = true := by simp [hp, inCS]
      have hdir : cfg.useQueue = false := by
        cases hu : cfg.useQueue with
        | false => rfl
        | true => exact absurd ((hi.cs t hin).1 hu).1 ht0
      exact hi.leave cfg t _ (fun t' => pc_setPc _ _ _ _) rfl rfl (by simp) (Or.inr ((hi.cs t hin).2 hdir).2)
    | reconfDialFail hp =>
      refine hi.leave cfg t _ (fun t' => pc_setPc _ _ _ _) rfl rfl (by simp) ?_
      by_cases hac : cfg.acLocked = true
      · exact Or.inr ((hi.rlock t hp).2 hac)
      · exact Or.inl (if_neg hac)
    | lockSend ht0 hq _ _ hlk =>
      exact hi.acquire cfg t _ true (fun _ => pc_setPc _ _ _ _) rfl (fun _ => hlk hl) hi.noq
        (fun _ => ⟨fun hu => by simp [hq] at hu, fun _ => ⟨ht0, rfl⟩⟩) nofun
    | @dequeue sid q _ hq _ hlk =>
      have huq : cfg.useQueue = true := by
        cases hu : cfg.useQueue with
        | true => rfl
        | false => have := hi.noq hu; simp [hq] at this
      exact hi.acquire cfg 0 _ cfg.procLocked (fun _ => pc_setPc _ _ _ _) rfl hlk (fun hu => by simp [huq] at hu)
        (fun _ => ⟨fun _ => ⟨rfl, id⟩, fun hu => by simp [huq] at hu⟩) nofun
    | reconfClose ht0 _ hlk =>
      exact hi.acquire cfg t _ cfg.acLocked (fun _ => pc_setPc _ _ _ _) rfl hlk hi.noq nofun (fun _ => ⟨ht0, id⟩)
  | still he =>
    cases he with
    | enqueue _ hq _ _ _ => exact ⟨hi.cs, fun hq' => by simp [hq] at hq', hi.rlock⟩
    | _ => exact hi.same cfg rfl rfl rfl
  | connectOk _ _ | bgConnectOk _ _ _ _ => exact hi.same cfg rfl rfl rfl
  | bgDialOk _ =>
    exact hi.move cfg 0 _ (fun t' => pc_setPc _ _ _ _) rfl rfl (fun hh => by simp [inCS] at hh) (by simp)
  | @reconfDialOk t hp =>
    refine hi.leave cfg t _ (fun t' => pc_setPc _ _ _ _) rfl rfl (by simp) ?_
    by_cases hac : cfg.acLocked = true
    · exact Or.inr ((hi.rlock t hp).2 hac)
    · exact Or.inl (if_neg hac)
  | writeBegin hp _ _ _ => exact inside rfl rfl rfl hp rfl (by simp)
  | writeChunk hp _ _ => exact inside rfl rfl rfl hp rfl (by simp)
  | autoFlushErr hp _ _ => exact inside rfl rfl rfl hp rfl (by simp)
  | autoFlush | peerClose => exact hi.same cfg rfl rfl rfl
  | @flushOk t sid w0 w hp _ _ _ =>
    refine MutexInv.finished cfg ?_ t _ _ hp rfl ?_ ?_ rfl
    · exact hi.same cfg rfl rfl rfl
    · intro hh e; simp [e, inCS] at hh
    · split <;> simp
  | @flushErr t k sid w0 w hp _ _ _ _ =>
    refine MutexInv.finished cfg ?_ t _ _ hp rfl ?_ ?_ rfl
    · exact hi.same cfg rfl rfl rfl
    · intro hh e; simp [e, inCS] at hh
    · split <;> simp

theorem mutex_unique {s : St} (hi : MutexInv cfg s) (t t' : Nat)
    (h1 : inCS (s.pc t) = true) (h2 : inCS (s.pc t') = true) : t = t' := by
  cases hq : cfg.useQueue with
  | true => rw [((hi.cs t h1).1 hq).1, ((hi.cs t' h2).1 hq).1]
  | false =>
    have a := ((hi.cs t h1).2 hq).2
    have b := ((hi.cs t' h2).2 hq).2
    exact Option.some.inj (a.symm.trans b)

/-- For every writer `w`: the bytes the kernel took, then the bytes still buffered, then the rest of
    the frame being copied, are exactly the frames handed to `w`, in order (`eq`).  `pend` is the
    remainder of the frame some thread is copying right now (`p1`), and is non-empty only while a
    thread is copying or after the writer failed (`p2`). -/
structure BytesInv (s : St) : Prop where
  eq : ∀ w, s.sent w ++ s.buf.get w ++ s.pend.get w = concatF bytesOf (s.log.get w)
  p1 : ∀ t sid w rest, s.pc t = .writing sid w rest → s.pend.get w = rest
  p2 : ∀ w, s.pend.get w ≠ [] → s.err.get w = true ∨ ∃ t sid, s.pc t = .writing sid w (s.pend.get w)

theorem bytesInv_init : BytesInv bytesOf init := by
  constructor
  · intro w; rfl
  · intro t sid w rest h; simp [init, St.pc, AMap.get] at h
  · intro w h; exact absurd rfl h

theorem push_sent_buf (s : St) (w k w' : Nat) :
    (s.push w k).sent w' ++ (s.push w k).buf.get w' = s.sent w' ++ s.buf.get w' := by
  simp only [St.push, St.sent, AMap.get_set]
  by_cases e : w = w'
  · subst e; simp
  · simp [e]

theorem BytesInv.pend_nil {s : St} (hi : BytesInv bytesOf s) (hm : MutexInv cfg s) {t w : Nat}
    (hcs : inCS (s.pc t) = true) (hnw : isWriting (s.pc t) = false) (he : s.err.get w = false) :
    s.pend.get w = [] := by
  refine Classical.byContradiction (fun hne => ?_)
  rcases hi.p2 w hne with h1 | ⟨t', sid', ht'⟩
  · rw [he] at h1; cases h1
  · have : t' = t := mutex_unique cfg hm t' t (by simp [ht', inCS]) hcs
    rw [this] at ht'; rw [ht'] at hnw; cases hnw

/-- The thread inside the critical section starts or continues a copy on writer `w`.  It is alone inside
    (`mutex_unique`), so afterwards it is the one `writing` thread, and `pend w` is what it has left. -/
theorem BytesInv.copy {s s' : St} (hi : BytesInv bytesOf s) (hm : MutexInv cfg s) (t sid w : Nat) (r' : Bytes)
    (hcs : inCS (s.pc t) = true) (hpc : ∀ t', s'.pc t' = if t = t' then .writing sid w r' else s.pc t')
    (heq : s'.sent w ++ s'.buf.get w ++ s'.pend.get w = concatF bytesOf (s'.log.get w)) (hpend : s'.pend.get w = r')
    (hoth : ∀ w', w ≠ w' → s'.sentRev.get w' = s.sentRev.get w' ∧ s'.buf.get w' = s.buf.get w' ∧
      s'.pend.get w' = s.pend.get w' ∧ s'.log.get w' = s.log.get w')
    (herr : s'.err = s.err) (hmine : ∀ sid0 w0 rest, s.pc t = .writing sid0 w0 rest → w0 = w) :
    BytesInv bytesOf s' := by
  have alone : ∀ {t' sid' w' rest'}, s.pc t' = .writing sid' w' rest' → t' = t :=
    fun h => mutex_unique cfg hm _ t (by simp [h, inCS]) hcs
  constructor
  · intro w'
    by_cases e : w = w'
    · subst e; exact heq
    · obtain ⟨h1, h2, h3, h4⟩ := hoth w' e
      simp only [St.sent, h1, h2, h3, h4]; exact hi.eq w'
  · intro t' sid' w' rest' h'
    rw [hpc] at h'
    by_cases e : t = t'
    · rw [if_pos e] at h'; cases h'; exact hpend
    · rw [if_neg e] at h'; exact absurd (alone h').symm e
  · intro w' hw'
    by_cases e : w = w'
    · subst e; exact Or.inr ⟨t, sid, by rw [hpc, if_pos rfl, hpend]⟩
    · rw [(hoth w' e).2.2.1] at hw' ⊢
      rw [herr]
      rcases hi.p2 w' hw' with h1 | ⟨t', sid', ht'⟩
      · exact Or.inl h1
      · have := alone ht'; subst this
        exact absurd (hmine _ _ _ ht').symm e

/-- a thread moves between program points without starting a copy; buffers may be flushed -/
theorem BytesInv.move {s s' : St} (hi : BytesInv bytesOf s) (t : Nat) (p : Pc)
    (hpc : ∀ t', s'.pc t' = if t = t' then p else s.pc t')
    (hsb : ∀ w, s'.sent w ++ s'.buf.get w = s.sent w ++ s.buf.get w)
    (hpend : s'.pend = s.pend) (hlog : s'.log = s.log)
    (herr : ∀ w, s.err.get w = true → s'.err.get w = true)
    (hp : isWriting p = false)
    (hold : ∀ sid w rest, s.pc t = .writing sid w rest → rest = [] ∨ s'.err.get w = true) :
    BytesInv bytesOf s' := by
  constructor
  · intro w; rw [hsb, hpend, hlog]; exact hi.eq w
  · intro t' sid w rest h
    rw [hpc] at h
    by_cases e : t = t'
    · rw [if_pos e] at h; rw [h] at hp; simp [isWriting] at hp
    · rw [if_neg e] at h; rw [hpend]; exact hi.p1 t' sid w rest h
  · intro w hw
    rw [hpend] at hw ⊢
    rcases hi.p2 w hw with he | ⟨t', sid, ht'⟩
    · exact Or.inl (herr w he)
    · by_cases e : t = t'
      · subst e
        rcases hold sid w _ ht' with h0 | h1
        · exact absurd h0 hw
        · exact Or.inl h1
      · exact Or.inr ⟨t', sid, by rw [hpc, if_neg e]; exact ht'⟩

/-- no thread moves; buffers may be flushed -/
theorem BytesInv.same {s s' : St} (hi : BytesInv bytesOf s)
    (hpc : s'.pcs = s.pcs)
    (hsb : ∀ w, s'.sent w ++ s'.buf.get w = s.sent w ++ s.buf.get w)
    (hpend : s'.pend = s.pend) (hlog : s'.log = s.log)
    (herr : ∀ w, s.err.get w = true → s'.err.get w = true) : BytesInv bytesOf s' := by
  constructor
  · intro w; rw [hsb, hpend, hlog]; exact hi.eq w
  · intro t' sid w rest h
    simp only [St.pc, hpc] at h
    rw [hpend]; exact hi.p1 t' sid w rest h
  · intro w hw
    rw [hpend] at hw ⊢
    rcases hi.p2 w hw with he | ⟨t', sid, ht'⟩
    · exact Or.inl (herr w he)
    · exact Or.inr ⟨t', sid, by simp only [St.pc, hpc]; exact ht'⟩

theorem BytesInv.procRel {s : St} (hi : BytesInv bytesOf s) (b : Bool) (t : Nat) :
    BytesInv bytesOf (s.procRel b t) := ⟨hi.eq, hi.p1, hi.p2⟩

theorem BytesInv.sameW {s s' : St} (hi : BytesInv bytesOf s) (hp : s'.pcs = s.pcs) (hw : SameW s s') :
    BytesInv bytesOf s' :=
  hi.same bytesOf hp (fun w => by simp only [St.sent, hw.sentRev, hw.buf]) hw.pend hw.log (fun _ h => hw.err ▸ h)

theorem setErr_get (s : St) (w w' : Nat) : s.err.get w' = true → (s.setErr w).err.get w' = true := by
  intro h; simp only [St.setErr, AMap.get_set]; split <;> simp [h]

theorem bytesInv_step (s s' : St) (a : Act) (hm : MutexInv cfg s)
    (hi : BytesInv bytesOf s) (h : step cfg bytesOf s a = some s') : BytesInv bytesOf s' := by
  have hs := step_sound h
  clear h
  cases hs with
  | @book _ t p s₁ hb =>
    refine (hi.sameW bytesOf hb.sameW.1 hb.sameW.2).move bytesOf t p (fun _ => pc_setPc _ _ _ _) (fun _ => rfl) rfl rfl
      (fun _ h => h) hb.pc.1 (fun sid w rest h' => Or.inl (hb.pc.2.1 sid w rest ?_))
    simpa only [St.pc, hb.sameW.1] using h'
  | still he => exact hi.sameW bytesOf he.sameW.1 he.sameW.2
  | connectOk _ _ | bgConnectOk _ _ _ _ => exact hi.same bytesOf rfl (fun _ => rfl) rfl rfl (fun _ h => h)
  | bgDialOk hp | reconfDialOk hp =>
    exact BytesInv.move bytesOf (s := { s.connectNew with lock := _ }) ⟨hi.eq, hi.p1, hi.p2⟩ _ _
      (fun _ => pc_setPc _ _ _ _) (fun _ => rfl) rfl rfl (fun _ h => h) rfl
      (fun sid w rest h' => absurd (hp.symm.trans h') (by simp))
  | peerClose _ _ => exact hi.same bytesOf rfl (fun _ => rfl) rfl rfl (fun _ h => h)
  | @writeBegin t sid w hp hw _ he =>
    have hcs : inCS (s.pc t) = true := by simp [hp, inCS]
    have hpend0 : s.pend.get w = [] := hi.pend_nil cfg bytesOf hm hcs (by rw [hp]; rfl) he
    refine hi.copy cfg bytesOf hm t sid w (bytesOf sid) hcs (fun _ => pc_setPc _ _ _ _) ?_ (AMap.get_set_self _ _ _)
      (fun w' e => ⟨rfl, rfl, AMap.get_set_ne _ _ _ _ e, AMap.get_set_ne _ _ _ _ e⟩) rfl
      (fun _ _ _ h' => by rw [hp] at h'; cases h')
    have := hi.eq w
    simp only [St.sent, hpend0, List.append_nil] at this
    simp [St.setPc, St.sent, concatF_append, concatF_singleton, this]
  | @writeChunk t n sid w rest hp _ hn =>
    have hpend : s.pend.get w = rest := hi.p1 t sid w rest hp
    refine hi.copy cfg bytesOf hm t sid w (rest.drop n) (by simp [hp, inCS]) (fun _ => pc_setPc _ _ _ _) ?_
      (AMap.get_set_self _ _ _)
      (fun w' e => ⟨rfl, AMap.get_set_ne _ _ _ _ e, AMap.get_set_ne _ _ _ _ e, rfl⟩) rfl
      (fun _ _ _ h' => by rw [hp] at h'; cases h'; rfl)
    have := hi.eq w
    simp only [St.sent, hpend] at this
    simp only [St.setPc, St.sent, AMap.get_set_self]
    rw [← this]
    simp [List.append_assoc]
  | @autoFlush t k sid w rest _ _ _ _ => exact hi.same bytesOf rfl (push_sent_buf s w k) rfl rfl (fun _ h => h)
  | @autoFlushErr t k sid w rest hp _ _ =>
    have h1 : BytesInv bytesOf ((s.push w k).setErr w) :=
      hi.same bytesOf rfl (push_sent_buf s w k) rfl rfl (fun w' h' => setErr_get (s.push w k) w w' h')
    refine h1.move bytesOf t _ (fun t' => pc_setPc _ _ _ _) (fun _ => rfl) rfl rfl (fun _ h => h) rfl ?_
    intro sid' w' rest' h'
    rw [show ((s.push w k).setErr w).pc t = s.pc t from rfl, hp] at h'; cases h'
    exact Or.inr (AMap.get_set_self _ _ _)
  | @flushOk t sid w0 w hp _ _ _ =>
    refine BytesInv.procRel bytesOf ?_ _ _
    have h1 : BytesInv bytesOf (s.push w (s.buf.get w).length) :=
      hi.same bytesOf rfl (push_sent_buf s w _) rfl rfl (fun _ h => h)
    refine h1.move bytesOf t _ (fun t' => pc_setPc _ _ _ _) (fun _ => rfl) rfl rfl (fun _ h => h) (by split <;> rfl) ?_
    intro sid' w' rest' h'; exact absurd (hp.symm.trans h') (by simp)
  | @flushErr t k sid w0 w hp _ _ _ _ =>
    refine BytesInv.procRel bytesOf ?_ _ _
    have h1 : BytesInv bytesOf { (s.push w k).setErr w with conn := if t = 0 then none else s.conn } :=
      hi.same bytesOf rfl (push_sent_buf s w k) rfl rfl (setErr_get (s.push w k) w)
    refine h1.move bytesOf t _ (fun t' => pc_setPc _ _ _ _) (fun _ => rfl) rfl rfl (fun _ h => h) (by split <;> rfl) ?_
    intro sid' w' rest' h'; exact absurd (hp.symm.trans h') (by simp)

end Tcp
