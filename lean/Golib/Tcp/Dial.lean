/-
  Golib.Tcp.Dial — `Connect()` over the configured server list, with time.

  The action machine (Golib.Tcp.Model) has `connectOk` / `connectFail` as answers of the environment.
  This file says where that answer comes from: `Connect()` walks `this.Servers` in order, gives every
  server its own dial deadline `now + Timeout`, goes on to the next server when a dial fails — at once
  (refused), or by running into its deadline (host gone, packets dropped) — and stops at the first
  server that accepts.  `connectList` is that loop; `firstLive` is the specification ("the first server
  of the list that answers within Timeout"); `connect_is_firstLive` proves them equal for every list,
  every Timeout and every starting time: a reachable server is reached however many servers before it
  are dead and however they are dead.

  `DialLoop` is the transcription of the loop by xlate/c06 (where the dial deadline is computed, what
  the error branch does, whether the loop stops at the first success); `interpDial` gives it a semantics
  and `interp_is_model` proves it equal to `connectList` for the shape of the code; `shared_budget_loses`
  is the counterexample class for a deadline computed once for the whole list.
-/

namespace Tcp

/-- how an entry of the server list answers a connection attempt -/
inductive Srv where
  | up (d : Nat)   -- accepts, `d` time units after the attempt began
  | refused        -- answers at once with a refusal (nothing listens there)
  | gone           -- never answers (host down, packets dropped, accept queue full)
  deriving DecidableEq, Repr

/-- one dial with `left` time units until its deadline: (connected?, time it takes).  A dial whose
    deadline has passed fails at once (Go reports "i/o timeout" before it sends anything). -/
def dialOne (left : Nat) : Srv → Bool × Nat
  | .up d => if d < left then (true, d) else (false, left)
  | .refused => (false, 0)
  | .gone => (false, left)

/-- the server answers a dial that is given `T` time units -/
def Srv.live (T : Nat) : Srv → Bool
  | .up d => decide (d < T)
  | _ => false

/-- what a failed dial of a server that is not live costs when it is given `T` -/
def Srv.cost (T : Nat) : Srv → Nat
  | .up _ => T
  | .refused => 0
  | .gone => T

theorem dialOne_live {T : Nat} {s : Srv} (h : s.live T = true) : ∃ d, dialOne T s = (true, d) ∧ d < T := by
  cases s with
  | up d => simp [Srv.live] at h; exact ⟨d, by simp [dialOne, h], h⟩
  | refused => simp [Srv.live] at h
  | gone => simp [Srv.live] at h

theorem dialOne_dead {T : Nat} {s : Srv} (h : s.live T = false) : dialOne T s = (false, s.cost T) := by
  cases s with
  | up d => simp [Srv.live] at h; simp [dialOne, Srv.cost]; omega
  | refused => rfl
  | gone => rfl

/-- **The model of `Connect()`'s loop**: servers in list order, `T` for each, first success wins.
    `i` is the index of the head of the list; the result is (index connected or none, time at return). -/
def connectList (T : Nat) : List Srv → (now i : Nat) → Option Nat × Nat
  | [], now, _ => (none, now)
  | s :: rest, now, i =>
    match dialOne T s with
    | (true, d) => (some i, now + d)
    | (false, d) => connectList T rest (now + d) (i + 1)

/-- the specification: index of the first server that answers within `T` -/
def firstLive (T : Nat) : List Srv → Option Nat
  | [] => none
  | s :: rest => if s.live T then some 0 else (firstLive T rest).map (· + 1)

theorem connectList_idx (T : Nat) (l : List Srv) (now i : Nat) :
    (connectList T l now i).1 = (firstLive T l).map (· + i) := by
  induction l generalizing now i with
  | nil => rfl
  | cons s rest ih =>
    cases h : s.live T with
    | true =>
      obtain ⟨d, hd, _⟩ := dialOne_live h
      simp [connectList, hd, firstLive, h]
    | false =>
      simp only [connectList, dialOne_dead h, firstLive, h, ih]
      cases firstLive T rest <;> simp [Nat.add_comm, Nat.add_left_comm]

theorem connect_is_firstLive (T : Nat) (l : List Srv) (now : Nat) :
    (connectList T l now 0).1 = firstLive T l := by
  rw [connectList_idx]; cases firstLive T l <;> simp

/-- the specification is core's `List.findIdx?` -/
theorem firstLive_eq_findIdx? (T : Nat) (l : List Srv) : firstLive T l = l.findIdx? (·.live T) := by
  induction l with
  | nil => rfl
  | cons s rest ih => rw [firstLive, List.findIdx?_cons, ih]

theorem firstLive_none_iff (T : Nat) (l : List Srv) : firstLive T l = none ↔ ∀ s ∈ l, s.live T = false := by
  rw [firstLive_eq_findIdx?]; exact List.findIdx?_eq_none_iff

theorem firstLive_some_iff (T : Nat) (l : List Srv) (k : Nat) :
    firstLive T l = some k ↔
      (∃ s, l[k]? = some s ∧ s.live T = true) ∧ ∀ j, j < k → ∀ s, l[j]? = some s → s.live T = false := by
  rw [firstLive_eq_findIdx?, List.findIdx?_eq_some_iff_getElem]
  constructor
  · rintro ⟨h, hk, hb⟩
    refine ⟨⟨l[k], List.getElem?_eq_getElem h, hk⟩, fun j hj s hs => ?_⟩
    obtain ⟨hj', rfl⟩ := List.getElem?_eq_some_iff.mp hs
    exact Bool.eq_false_iff.mpr (hb j hj)
  · rintro ⟨⟨s, hs, hl⟩, hb⟩
    obtain ⟨h, rfl⟩ := List.getElem?_eq_some_iff.mp hs
    exact ⟨h, hl, fun j hj => Bool.eq_false_iff.mp (hb j hj _ (List.getElem?_eq_getElem _))⟩

/-- the time `Connect()` takes: each server before the one reached costs at most `T`, the dial that
    succeeds less than `T` -/
theorem connectList_time (T : Nat) (l : List Srv) (now i : Nat) :
    now ≤ (connectList T l now i).2 ∧ (connectList T l now i).2 ≤ now + l.length * T := by
  induction l generalizing now i with
  | nil => simp [connectList]
  | cons s rest ih =>
    cases h : s.live T with
    | true =>
      obtain ⟨d, hd, hlt⟩ := dialOne_live h
      simp only [connectList, hd, List.length_cons, Nat.succ_mul]
      omega
    | false =>
      have hc : s.cost T ≤ T := by cases s <;> simp [Srv.cost]
      have := ih (now + s.cost T) (i + 1)
      simp only [connectList, dialOne_dead h, List.length_cons, Nat.succ_mul]
      omega

/-- where the dial's deadline comes from -/
inductive Budget where
  | perServer      -- `net.DialTimeout(…, host, Timeout)` / a `Dialer{Timeout: …}`: Timeout for every dial
  | shared         -- one deadline `now + Timeout` computed before the loop and used for every dial
  | unknown
  deriving DecidableEq, Repr

/-- `Connect()`'s loop as xlate/c06 transcribes it -/
structure DialLoop where
  ranges : Bool        -- the dial stands in `for _, host := range this.Servers` and dials `host`
  budget : Budget
  nextOnErr : Bool     -- `if err != nil { …; continue }`: a failed dial goes on to the next server
  stopOnOk : Bool      -- after a successful dial conn / wr are assigned and the function returns nil
  deriving DecidableEq, Repr

/-- the loop the model was written against -/
def assumedDialLoop : DialLoop := { ranges := true, budget := .perServer, nextOnErr := true, stopOnOk := true }

/-- semantics of the transcribed loop; `dl` is the deadline computed before the loop (`shared`),
    `acc` the connection made so far (a loop that does not stop at the first success keeps the last) -/
def loopDial (L : DialLoop) (T dl : Nat) : List Srv → (now i : Nat) → Option Nat → Option Nat × Nat
  | [], now, _, acc => (acc, now)
  | s :: rest, now, i, acc =>
    let left := match L.budget with
      | .perServer => T
      | .shared => dl - now
      | .unknown => 0
    match dialOne left s with
    | (true, d) => if L.stopOnOk then (some i, now + d) else loopDial L T dl rest (now + d) (i + 1) (some i)
    | (false, d) => if L.nextOnErr then loopDial L T dl rest (now + d) (i + 1) acc else (acc, now + d)

def interpDial (L : DialLoop) (T : Nat) (servers : List Srv) (now : Nat) : Option Nat × Nat :=
  if L.ranges then loopDial L T (now + T) servers now 0 none else (none, now)

theorem loopDial_is_model (L : DialLoop) (hb : L.budget = .perServer) (hn : L.nextOnErr = true)
    (hs : L.stopOnOk = true) (T dl : Nat) (l : List Srv) (now i : Nat) :
    loopDial L T dl l now i none = connectList T l now i := by
  induction l generalizing now i with
  | nil => rfl
  | cons s rest ih =>
    simp only [loopDial, connectList, hb, hn, hs, if_true]
    cases dialOne T s with
    | mk ok d => cases ok <;> simp [ih]

theorem interp_is_model (L : DialLoop) (hr : L.ranges = true) (hb : L.budget = .perServer)
    (hn : L.nextOnErr = true) (hs : L.stopOnOk = true) (T : Nat) (l : List Srv) (now : Nat) :
    interpDial L T l now = connectList T l now 0 := by
  simp [interpDial, hr, loopDial_is_model L hb hn hs]

theorem loopDial_shared_expired (L : DialLoop) (hb : L.budget = .shared) (hn : L.nextOnErr = true)
    (T dl : Nat) (l : List Srv) (now i : Nat) (acc : Option Nat) (h : dl ≤ now) :
    loopDial L T dl l now i acc = (acc, now) := by
  induction l generalizing i with
  | nil => rfl
  | cons s rest ih =>
    have h0 : dl - now = 0 := by omega
    have hd : dialOne 0 s = (false, 0) := by cases s <;> simp [dialOne]
    simp [loopDial, hb, hn, h0, hd, ih]

/-- **One deadline for the whole list**: a server that is gone uses the budget up, and no server after
    it is reached — whatever the rest of the list is (in particular when all of it is up). -/
theorem shared_budget_loses (L : DialLoop) (hr : L.ranges = true) (hb : L.budget = .shared)
    (hn : L.nextOnErr = true) (T : Nat) (rest : List Srv) (now : Nat) :
    interpDial L T (.gone :: rest) now = (none, now + T) := by
  simp only [interpDial, hr, if_true, loopDial, hb, dialOne, hn]
  have : now + T - now = T := by omega
  rw [this]
  exact loopDial_shared_expired L hb hn T (now + T) rest (now + T) 1 none (Nat.le_refl _)

end Tcp
