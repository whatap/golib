/-
  Golib.Props.X02 — extension check X02: text and conversion utilities of whatap/golib that no
  property is anchored in.

    1  util/paramtext/ParamText.go   template text with `${name}` parameters and custom braces
    2  util/shellarg/ShellArg.go     argv → option table, typed getters
    3  util/urlutil/URL.go           URL splitter and its printers
    4  util/castutil, util/mathutil  conversions over dynamic types; Scale / RoundScale (integer part)
       lang/ref                      INT / BYTE hash codes

  The models (Golib.Ext.*) follow the code that exists.  Each section states the laws the code
  evidently intends, in full strength where the code has them, as `…_partial` under the narrowest
  hypothesis where it does not, with a `finding_*` witness of the failure.
-/
import Golib.Ext.ParamTextLemmas
import Golib.Ext.ShellUrlLemmas
import Golib.Ext.CastMath

namespace X02
open Ext Ext.Str

/-! ## 1. ParamText -/
section ParamText
open Ext.ParamText

/-- the constructor terminates unless BOTH braces are empty -/
theorem paramtext_total (sb eb text : Bytes) (hb : sb ≠ [] ∨ eb ≠ []) : (parse sb eb text).isSome :=
  parseF_total sb eb hb _ text (Nat.lt_succ_self _)

/-- parser/printer inverse: the tokens, written back with their braces and raw names, are the text —
    nothing is dropped, duplicated or reordered, for arbitrary text and arbitrary braces -/
theorem paramtext_flatten (sb eb text : Bytes) (ts : List Tok) (h : parse sb eb text = some ts) :
    flatten sb eb ts = text :=
  parseF_flatten sb eb _ text ts h

def Tok.raw : Tok → Option Bytes
  | .lit _ => none
  | .ref r => some r

/-- `GetKeys()` are the names between the braces, in order, each trimmed -/
theorem paramtext_keys (ts : List Tok) : keys ts = (ts.filterMap Tok.raw).map trimSpace := by
  induction ts with
  | nil => rfl
  | cons t ts ih =>
    cases t with
    | lit s => simp only [keys, List.filterMap_cons, Tok.key, Tok.raw] at ih ⊢; exact ih
    | ref r => simp only [keys, List.filterMap_cons, Tok.key, Tok.raw, List.map_cons] at ih ⊢; rw [ih]

/-- what one token becomes under `ToStringMap(p)` -/
def subst (sb eb : Bytes) (p : Option (List (Bytes × Bytes))) : Tok → Bytes
  | .lit s => s
  | .ref raw =>
    match p.bind (lookup · (trimSpace raw)) with
    | some v => v
    | none => sb ++ trimSpace raw ++ eb

/-- substituting a map is the token-wise substitution -/
theorem paramtext_toStringMap_tokenwise (sb eb : Bytes) (p : Option (List (Bytes × Bytes))) (ts : List Tok) :
    toStringMap sb eb p ts = (ts.map (subst sb eb p)).flatten := by
  induction ts with
  | nil => rfl
  | cons t ts ih =>
    cases t with
    | lit s => simp [toStringMap, subst, ih]
    | ref r => simp only [toStringMap, subst, List.map_cons, List.flatten_cons, ih]; rfl

theorem paramtext_toStringStr_tokenwise (q : Bytes) (ts : List Tok) :
    toStringStr q ts = (ts.map (fun t => match t with | .lit s => s | .ref _ => q)).flatten := by
  induction ts with
  | nil => rfl
  | cons t ts ih => cases t <;> simp [toStringStr, ih]

/-- with no parameter (the start brace does not occur) the text is one literal, and every rendering
    reproduces it unchanged -/
theorem paramtext_no_parameter (sb eb text : Bytes) (h : indexOf sb text = none) :
    parse sb eb text = some (litTok text) ∧ keys (litTok text) = [] ∧
    (∀ p, toStringMap sb eb p (litTok text) = text) ∧ (∀ q, toStringStr q (litTok text) = text) := by
  cases text with
  | nil => simp [parse, parseF, litTok, keys, toStringMap, toStringStr]
  | cons c cs =>
    refine ⟨?_, ?_, ?_, ?_⟩
    · simp only [parse, List.length_cons]
      unfold parseF
      simp [step, h, litTok]
    · simp [litTok, keys, Tok.key]
    · intro p; simp [litTok, toStringMap]
    · intro q; simp [litTok, toStringStr]

theorem toStringMap_eq_flatten (sb eb : Bytes) (p : Option (List (Bytes × Bytes))) (ts : List Tok)
    (h : ∀ r, Tok.ref r ∈ ts → trimSpace r = r ∧ p.bind (lookup · r) = none) :
    toStringMap sb eb p ts = flatten sb eb ts := by
  fun_induction toStringMap sb eb p ts with
  | case1 => rfl
  | case2 s ts ih => rw [flatten_cons, ih (fun r hr => h r (by simp [hr]))]; rfl
  | case3 r ts k ih =>
    have hr := h r (by simp)
    rw [flatten_cons, ih (fun r hr => h r (by simp [hr]))]
    simp only [k, Tok.src, hr.1, hr.2]

/-- FULL LAW (fails, see `finding_padded_name`): `ToStringMap(nil)` reproduces the original text.
    It holds when no name between braces is padded with white space and the map has none of the names. -/
theorem paramtext_roundtrip_partial (sb eb text : Bytes) (p : Option (List (Bytes × Bytes))) (ts : List Tok)
    (h : parse sb eb text = some ts)
    (hk : ∀ r, Tok.ref r ∈ ts → trimSpace r = r ∧ p.bind (lookup · r) = none) :
    toStringMap sb eb p ts = text := by
  rw [toStringMap_eq_flatten sb eb p ts hk]; exact paramtext_flatten sb eb text ts h

/-- completeness: a text assembled from literals (free of the first byte of the start brace) and names
    (free of the first byte of the end brace) parses into exactly those literals and names -/
theorem paramtext_segments (c : Nat) (t : Bytes) (d : Nat) (u : Bytes) :
    ∀ (segs : List (Bytes × Bytes)) (tail : Bytes),
    (∀ s ∈ segs, c ∉ s.1 ∧ d ∉ s.2) → c ∉ tail →
    parse (c :: t) (d :: u) (build (c :: t) (d :: u) segs tail) = some (expect segs tail)
  | [], tail, _, ht => by
    cases tail with
    | nil => rfl
    | cons x xs =>
      rw [build, parse_cons _ _ (.inl (List.cons_ne_nil _ _)), step_tail c t (d :: u) (x :: xs) ht]
      rfl
  | (l, n) :: r, tail, hs, ht => by
    have hln := hs (l, n) (by simp)
    have ih := paramtext_segments c t d u r tail (fun s h => hs s (by simp [h])) ht
    have hb : (c :: t) ≠ [] ∨ (d :: u) ≠ [] := .inl (List.cons_ne_nil _ _)
    -- the reference iteration, from a text that starts with the start brace
    have ref : parse (c :: t) (d :: u) ((c :: t) ++ (n ++ ((d :: u) ++ build (c :: t) (d :: u) r tail)))
        = some (.ref n :: expect r tail) := by
      rw [List.cons_append, parse_cons _ _ hb, ← List.cons_append, step_ref c t d u n hln.2]
      simp only [ih, Option.map_some]
    cases l with
    | nil => simpa [build, expect, litTok] using ref
    | cons x l =>
      rw [build, List.cons_append, parse_cons _ _ hb, ← List.cons_append, step_lit c t (d :: u) x l hln.1]
      simp only [List.cons_append] at ref ⊢
      simp only [ref, Option.map_some, expect, litTok, List.cons_ne_nil, if_false, List.cons_append,
        List.nil_append]

theorem keys_expect (segs : List (Bytes × Bytes)) (tail : Bytes) :
    keys (expect segs tail) = segs.map (fun s => trimSpace s.2) := by
  fun_induction expect segs tail with
  | case1 tail => simp only [litTok]; split <;> simp [keys, Tok.key]
  | case2 l n r tail ih =>
    simp only [keys] at ih ⊢
    simp only [litTok, List.map_cons]
    split <;> simp only [List.nil_append, List.cons_append, List.filterMap_cons, Tok.key, ih]
/-- … and `GetKeys()` of it are exactly the (trimmed) names, in order -/
theorem paramtext_segments_keys (c : Nat) (t : Bytes) (d : Nat) (u : Bytes) (segs : List (Bytes × Bytes)) (tail : Bytes)
    (hs : ∀ s ∈ segs, c ∉ s.1 ∧ d ∉ s.2) (ht : c ∉ tail) :
    (parse (c :: t) (d :: u) (build (c :: t) (d :: u) segs tail)).map keys = some (segs.map (fun s => trimSpace s.2)) := by
  rw [paramtext_segments c t d u segs tail hs ht]; simp [keys_expect]

-- non-vacuity: "a${ k }b" with the default braces
example : parse [36, 123] [125] (build [36, 123] [125] [([97], [32, 107, 32])] [98]) = some [.lit [97], .ref [32, 107, 32], .lit [98]] :=
  paramtext_segments 36 [123] 125 [] [([97], [32, 107, 32])] [98] (by decide) (by decide +kernel)

/-- FINDING: with both braces empty, an iteration of the constructor on a non-empty text emits a
    reference named "" and leaves the text as it was — the loop never ends (and allocates for ever) -/
theorem finding_emptyBraces_diverges (c : Nat) (cs : Bytes) :
    step [] [] (c :: cs) = .more (.ref []) (c :: cs) ∧ ∀ fuel, parseF [] [] fuel (c :: cs) = none :=
  ⟨step_emptyBraces _, fun f => parseF_emptyBraces f c cs⟩

/-- FINDING: `NewParamText("${ a }").ToStringMap(nil) = "${a}"`, not the original text -/
theorem finding_padded_name :
    (parse [36, 123] [125] [36, 123, 32, 97, 32, 125]).map (toStringMap [36, 123] [125] none) = some [36, 123, 97, 125] := by
  decide +kernel

/-- an unterminated brace: the rest of the text, start brace included, is one literal -/
theorem paramtext_unterminated : parse [36, 123] [125] [97, 36, 123, 98] = some [.lit [97], .lit [36, 123, 98]] := by
  decide +kernel

end ParamText

/-! ## 2. ShellArg -/
section ShellArg
open Ext.ShellArg

theorem shellarg_get_put_same (t : Tab) (k v : Bytes) : get (put t k v) k = some v := get_put_same t k v
theorem shellarg_get_put_other (t : Tab) (k k' v : Bytes) (h : k ≠ k') : get (put t k v) k' = get t k' :=
  get_put_other t k k' v h
/-- `Put` of a present key keeps the iteration order -/
theorem shellarg_keys_put_present (t : Tab) (k v : Bytes) (h : (get t k).isSome) :
    (put t k v).map (·.1) = t.map (·.1) := by
  fun_induction put t k v <;> simp_all [ShellArg.get]
/-- `Put` of a new key appends it -/
theorem shellarg_keys_put_absent (t : Tab) (k v : Bytes) (h : get t k = none) :
    (put t k v).map (·.1) = t.map (·.1) ++ [k] := by
  fun_induction put t k v <;> simp_all [ShellArg.get]

/-- the (key, first value) pairs of the groups argv is cut into -/
def kv1 (args : List Bytes) : List (Bytes × Bytes) := (groups args.length args).map (fun g => (g.1, g.2.1))

/-- refinement to the abstract parse: `Get(key, d)` is the first value of the LAST group with that
    key, `d` when there is none -/
theorem shellarg_get_last_wins (args : List Bytes) (k d : Bytes) :
    getStr (parse args) k d = ((get (kv1 args).reverse k).getD d) := by
  unfold getStr parse kv1
  rw [foldl_apply_param, get_foldl_put]
  cases get (List.map (fun g => (g.1, g.2.1)) (groups args.length args)).reverse k <;> simp [ShellArg.get]

/-- the typed getters return the default when the key is absent (not only then: a stored value may equal the default) -/
theorem shellarg_defaults (s : SA) (k : Bytes) (h : hasKey s k = false) (ds : Bytes) (di dl : Int) (db : Bool) :
    getStr s k ds = ds ∧ getInt s k di = di ∧ getLong s k dl = dl ∧ getBool s k db = db ∧ get2 s k = get s.param2 k := by
  unfold hasKey at h
  cases hg : get s.param k with
  | some v => simp [hg] at h
  | none => simp [getStr, getInt, getLong, getBool, get2, hg]

/-- argv made of options `-key [value [value2]]` (values do not start with `-`) yields exactly these
    options: first values in `parameter`, second values in `parameter2` -/
theorem shellarg_wellformed (gs : List (Bytes × List Bytes)) (h : WF gs) :
    parse (render gs) = (gs.map (fun g => (g.1, g.2.headD [], g.2[1]?))).foldl apply {} := by
  unfold parse; rw [groups_wf gs _ h (Nat.le_refl _)]

-- non-vacuity: ["-a","1","2","-b"]
example : WF [([45, 97], [[49], [50]]), ([45, 98], [])] := by unfold WF; decide

/-- FINDING: a negative number cannot be passed as a value — it becomes a key of its own, and the
    option gets "" whose `GetInt` is 0, not the default -/
theorem finding_negative_value :
    let s := parse [[45, 110], [45, 53]]
    getInt s [45, 110] 7 = 0 ∧ hasKey s [45, 53] = true := by decide +kernel

/-- `-tag.x` is recorded in Tags AND as an ordinary option -/
theorem shellarg_tag : parse [[45, 116, 97, 103, 46, 120], [118]] =
    { tags := [([45, 116, 97, 103, 46, 120], [120])], param := [([45, 116, 97, 103, 46, 120], [118])], param2 := [] } := by
  decide +kernel

end ShellArg

/-! ## 3. URL -/
section Url
open Ext.Url

/-- the plain shape `scheme://host[:port][/path][?query]` -/
structure Plain where
  proto : Bytes
  host : Bytes
  port : Option Bytes
  path : Bytes
  query : Option Bytes

def Plain.portS (x : Plain) : Bytes := match x.port with | some p => 58 :: p | none => []
def Plain.queryS (x : Plain) : Bytes := match x.query with | some q => 63 :: q | none => []
def Plain.render (x : Plain) : Bytes :=
  x.proto ++ 58 :: 47 :: 47 :: ((x.host ++ x.portS) ++ x.path) ++ x.queryS

/-- exactly the shapes for which the laws below are proved: the scheme is non-empty and has no `:` `?`;
    the host has no `/` `:` `?`; a port, if written, is non-empty without `/` `?`; the path is empty or
    starts with `/` and has no `?` `%`; a query, if written, is non-empty without `%` `+` -/
structure Plain.ok (x : Plain) : Prop where
  proto_ne : x.proto ≠ []
  proto_c : 58 ∉ x.proto
  proto_q : 63 ∉ x.proto
  host_s : 47 ∉ x.host
  host_c : 58 ∉ x.host
  host_q : 63 ∉ x.host
  port_ok : ∀ p, x.port = some p → p ≠ [] ∧ 47 ∉ p ∧ 63 ∉ p
  path_ok : x.path = [] ∨ ∃ r, x.path = 47 :: r
  path_q : 63 ∉ x.path
  path_pc : 37 ∉ x.path
  query_ok : ∀ q, x.query = some q → q ≠ [] ∧ 37 ∉ q ∧ 43 ∉ q

theorem plain_splits (x : Plain) (h : x.ok) :
    splitQ x.render = (x.query.getD [], x.proto ++ 58 :: 47 :: 47 :: ((x.host ++ x.portS) ++ x.path)) ∧
    splitPath ((x.host ++ x.portS) ++ x.path) = (x.host ++ x.portS, x.path) ∧
    parsePort (x.host ++ x.portS) = (x.host, x.port.getD [], x.port.isSome) := by
  have hps : 47 ∉ x.portS ∧ 63 ∉ x.portS := by
    unfold Plain.portS
    cases hp : x.port with
    | none => simp
    | some p => have := h.port_ok p hp; simp [this.2.1, this.2.2]
  have hpre : 63 ∉ x.proto ++ 58 :: 47 :: 47 :: ((x.host ++ x.portS) ++ x.path) := by
    simp [h.proto_q, h.host_q, hps.2, h.path_q]
  refine ⟨?_, ?_, ?_⟩
  · unfold Plain.render Plain.queryS
    cases hq : x.query with
    | none => simpa using splitQ_none _ hpre
    | some q => simpa using splitQ_some _ q hpre
  · have hhp : 47 ∉ x.host ++ x.portS := by simp [h.host_s, hps.1]
    rcases h.path_ok with hp | ⟨r, hp⟩
    · rw [hp, List.append_nil]; exact splitPath_none _ hhp
    · rw [hp]; exact splitPath_some _ r hhp
  · unfold Plain.portS
    cases hp : x.port with
    | none => simpa using parsePort_none _ h.host_c
    | some p => simpa using parsePort_some _ p h.host_c

/-- for URLs of the plain shape the components are the expected substrings … -/
theorem url_plain_components (x : Plain) (h : x.ok) :
    let u := process x.render
    u.proto = x.proto ∧ u.host = x.host ∧ u.rawPort = x.port.getD [] ∧ u.rawPath = x.path ∧ u.path = x.path ∧
    u.rawQuery = x.query.getD [] ∧ u.query = x.query.getD [] ∧
    u.port = (match x.port with
              | some p => (atoi p).1
              | none => if x.proto = https then 443 else 80) := by
  obtain ⟨h1, h2, h3⟩ := plain_splits x h
  have hpr := splitProto_some x.proto ((x.host ++ x.portS) ++ x.path) h.proto_c
  have hpath : unescape false x.path = some x.path := unescape_plain false x.path h.path_pc (by simp)
  have hquery : unescape true (x.query.getD []) = some (x.query.getD []) := by
    cases hq : x.query with
    | none => simp [unescape]
    | some q => have := h.query_ok q hq; exact unescape_plain true q this.2.1 (fun _ => this.2.2)
  simp only [process, h1, hpr, h2, h3, hpath, hquery, Option.getD_some]
  refine ⟨by trivial, by trivial, by trivial, by trivial, by trivial, by trivial, by trivial, ?_⟩
  cases x.port <;> simp

/-- … and `String()` reassembles the input; `Domain()` and `DomainPath()` are its prefixes -/
theorem url_plain_string (x : Plain) (h : x.ok) :
    let u := process x.render
    Url.toString u = x.render ∧ domain u = x.proto ++ sepScheme ++ x.host ∧
    domainPath u = x.proto ++ sepScheme ++ x.host ++ x.portS ++ x.path := by
  obtain ⟨e1, e2, e3, _, e5, _, e7, _⟩ := url_plain_components x h
  have hproto : protoPart (process x.render) = x.proto ++ sepScheme := by
    unfold protoPart; rw [e1]; simp [h.proto_ne]
  have hport : portPart (process x.render) = x.portS := by
    unfold portPart Plain.portS; rw [e3]
    cases hp : x.port with
    | none => simp
    | some p => simp [(h.port_ok p hp).1]
  have hquery : queryPart (process x.render) = x.queryS := by
    unfold queryPart Plain.queryS; rw [e7]
    cases hq : x.query with
    | none => simp
    | some q => simp [(h.query_ok q hq).1]
  simp only [Url.toString, domain, domainPath, hproto, hport, hquery, e2, e5]
  refine ⟨?_, by trivial, by trivial⟩
  simp [Plain.render, sepScheme]

-- non-vacuity: "https://a:8/p?x"
example : Plain.ok ⟨[104, 116, 116, 112, 115], [97], some [56], [47, 112], some [120]⟩ :=
  ⟨by decide, by decide, by decide, by decide, by decide, by decide,
   by intro p hp; cases hp; decide, Or.inr ⟨[112], rfl⟩, by decide, by decide,
   by intro q hq; cases hq; decide⟩

/-- FINDING: `String()` does not reassemble a URL with an empty port or an empty query:
    `"http://a:/x?"` is printed `"http://a/x"` -/
theorem finding_string_drops_empty :
    Url.toString (process [104,116,116,112,58,47,47,97,58,47,120,63]) = [104,116,116,112,58,47,47,97,47,120] := by
  decide +kernel

/-- FINDING: percent escapes are decoded by `String()` (`"http://a/%41"` is printed `"http://a/A"`),
    an escape that does not decode leaves the raw text -/
theorem finding_string_decodes :
    Url.toString (process [104,116,116,112,58,47,47,97,47,37,52,49]) = [104,116,116,112,58,47,47,97,47,65] ∧
    Url.toString (process [104,116,116,112,58,47,47,97,47,37,52]) = [104,116,116,112,58,47,47,97,47,37,52] := by
  decide +kernel

/-- FINDING: `File` of a URL without a path is cut at the `//` of the scheme: `NewURL("http://host").File = "/host"` -/
theorem finding_file_bare_host :
    (process [104,116,116,112,58,47,47,104,111,115,116]).file = [47,104,111,115,116] := by decide +kernel

/-- FINDING: the error of `Atoi` is ignored: `"https://a:x/"` has Port 0 (not 443), and a port that
    overflows int64 is 9223372036854775807 -/
theorem finding_port_error_ignored :
    (process [104,116,116,112,115,58,47,47,97,58,120,47]).port = 0 ∧
    (process ([104,116,116,112,58,47,47,97,58] ++ List.replicate 20 57 ++ [47])).port = 9223372036854775807 := by
  decide +kernel

end Url

/-! ## 4. castutil / mathutil / ref -/
section Cast
open Ext.Cast

/-- `CInt` of an int64 within int32 is the value -/
theorem cInt_int64_inRange (v : Int) (h : -2147483648 ≤ v ∧ v ≤ 2147483647) : cInt (.i64 v) = v :=
  wrap32_inRange v h

/-- … and otherwise wraps as Go's `int32(v)` does: the unique value of int32 congruent to `v` mod 2^32 -/
theorem cInt_int64_wraps (v : Int) :
    -2147483648 ≤ cInt (.i64 v) ∧ cInt (.i64 v) ≤ 2147483647 ∧ (cInt (.i64 v) - v) % 4294967296 = 0 :=
  ⟨(wrap32_range v).1, (wrap32_range v).2, wrap32_congr v⟩

theorem cLong_int64 (v : Int) : cLong (.i64 v) = v := rfl

/-- a string converts through `Atoi`; a string that does not parse (or overflows int64) gives 0 -/
theorem cInt_string (s : Bytes) : cInt (.str s) = if (atoi s).2 then wrap32 (atoi s).1 else 0 := rfl
theorem cLong_string (s : Bytes) : cLong (.str s) = if (atoi s).2 then (atoi s).1 else 0 := rfl

/-- `CInt`/`CLong` agree on int32-range values -/
theorem cInt_eq_cLong_inRange (d : Dyn) (h : -2147483648 ≤ cLong d ∧ cLong d ≤ 2147483647) : cInt d = cLong d := by
  cases d <;> simp only [cInt, cLong] at h ⊢
  · split <;> simp_all [wrap32_inRange]
  · exact wrap32_inRange _ h

/-- FINDING: only `int64` (resp. `float64`) and `string` convert; `int`, `int32`, `float32` give the
    zero value because the failed type assertion panics and is recovered; `CString` of an integer is
    fmt's bad-verb text -/
theorem finding_only_int64_converts (v : Int) (b : Nat) :
    cInt (.i32 v) = 0 ∧ cInt (.int v) = 0 ∧ cLong (.i32 v) = 0 ∧ cLong (.int v) = 0 ∧
    cFloat (.f32 b) = .bits 0 ∧ cDouble (.f32 b) = .bits 0 ∧ cString (.f32 b) = .text [] ∧
    cString (.i64 5) = .text (ascii "%!s(int64=5)") := by
  refine ⟨rfl, rfl, rfl, rfl, rfl, rfl, rfl, ?_⟩
  decide +kernel

/-- `CBool`: the decision table -/
theorem cBool_table (b : Bool) (v : Int) (n : Nat) :
    cBool (.bool b) = b ∧ cBool (.boolVal b) = b ∧ cBool .nil = false ∧ cBool .boolValNil = false ∧
    cBool (.i64 v) = false ∧ cBool (.f64 n) = false ∧
    cBool (.str (ascii "true")) = true ∧ cBool (.str (ascii "TRUE")) = true ∧ cBool (.str (ascii "tRuE")) = true ∧
    cBool (.str (ascii "1")) = false ∧ cBool (.str (ascii " true")) = false := by
  refine ⟨rfl, rfl, rfl, rfl, rfl, rfl, ?_, ?_, ?_, ?_, ?_⟩ <;> decide +kernel

def lowerAscii (c : Nat) : Nat := if 65 ≤ c ∧ c ≤ 90 then c + 32 else c

/-- folding to a lower-case letter `L`: the byte is `L` or its capital -/
theorem lowerAscii_eq_iff {L : Nat} (hL : 97 ≤ L ∧ L ≤ 122) (a : Nat) :
    lowerAscii a = L ↔ a = L ∨ a = L - 32 := by
  unfold lowerAscii; split <;> omega

/-- `CBool(string)` is ASCII-case-insensitive equality with "true" -/
theorem cBool_string_iff (s : Bytes) : cBool (.str s) = true ↔ s.map lowerAscii = [116, 114, 117, 101] := by
  simp only [cBool]
  match s with
  | [] => simp [eqFoldTrue]
  | [_] => simp [eqFoldTrue]
  | [_, _] => simp [eqFoldTrue]
  | [_, _, _] => simp [eqFoldTrue]
  | [a, b, c, d] =>
    simp only [eqFoldTrue, List.map_cons, List.map_nil, List.cons.injEq, and_true, Bool.and_eq_true,
      Bool.or_eq_true, beq_iff_eq, and_assoc, Nat.reduceSub,
      lowerAscii_eq_iff (L := 116) ⟨by decide, by decide⟩, lowerAscii_eq_iff (L := 114) ⟨by decide, by decide⟩,
      lowerAscii_eq_iff (L := 117) ⟨by decide, by decide⟩, lowerAscii_eq_iff (L := 101) ⟨by decide, by decide⟩]
  | _ :: _ :: _ :: _ :: _ :: _ => simp [eqFoldTrue]

/-- `Atoi` on the decimal text of small numbers, and its error values -/
theorem atoi_examples :
    atoi (ascii "0") = (0, true) ∧ atoi (ascii "-7") = (-7, true) ∧ atoi (ascii "+7") = (7, true) ∧
    atoi (ascii "9223372036854775807") = (9223372036854775807, true) ∧
    atoi (ascii "-9223372036854775808") = (-9223372036854775808, true) ∧
    atoi (ascii "9223372036854775808") = (9223372036854775807, false) ∧
    atoi (ascii "99999999999999999999x") = (9223372036854775807, false) ∧
    atoi (ascii "9x") = (0, false) ∧ atoi (ascii "") = (0, false) ∧ atoi (ascii "-") = (0, false) ∧
    atoi (ascii " 1") = (0, false) := by
  refine ⟨?_, ?_, ?_, ?_, ?_, ?_, ?_, ?_, ?_, ?_, ?_⟩ <;> decide +kernel

/-- `Atoi` answers within int64, and answers 0 or a bound whenever it reports an error -/
theorem atoi_range (s : Bytes) :
    -9223372036854775808 ≤ (atoi s).1 ∧ (atoi s).1 ≤ 9223372036854775807 ∧
    ((atoi s).2 = false → (atoi s).1 = 0 ∨ (atoi s).1 = 9223372036854775807 ∨ (atoi s).1 = -9223372036854775808) := by
  unfold atoi
  split <;> exact atoiSigned_range _ _

/-- `Scale(n) = 10^n` for n = 1..4 -/
theorem scale_pow10 (n : Int) (h : 1 ≤ n ∧ n ≤ 4) : scale n = 10 ^ n.toNat := by
  have : n = 1 ∨ n = 2 ∨ n = 3 ∨ n = 4 := by omega
  rcases this with h | h | h | h <;> subst h <;> decide +kernel

/-- FINDING: every other argument, 0, negative and ≥ 5 included, gives 10000 -/
theorem finding_scale_default (n : Int) (h : n < 1 ∨ 4 ≤ n) : scale n = 10000 := by
  unfold scale
  have h1 : n ≠ 1 := by omega
  have h2 : n ≠ 2 := by omega
  have h3 : n ≠ 3 := by omega
  simp [h1, h2, h3]

theorem scale_pos (n : Int) : 0 < scale n := by
  unfold scale; split <;> (try split) <;> (try split) <;> omega

/-- integer part of `RoundScale`: an integer is a fixed point for every scale -/
theorem roundScaleInt_id (v sc : Int) : roundScaleInt v sc = v := by
  unfold roundScaleInt
  split
  · rfl
  · exact Int.mul_ediv_cancel v (Int.ne_of_gt (scale_pos sc))

/-- `ref.INT.HashCode` is `int32(Value)`: the value itself within int32 -/
theorem intHashCode_inRange (v : Int) (h : -2147483648 ≤ v ∧ v ≤ 2147483647) : intHashCode v = v :=
  wrap32_inRange v h

/-- `Equals` is equality of values, so equal objects have equal hash codes (trivially); distinct
    values collide exactly when they differ by a multiple of 2^32 -/
theorem intHashCode_collide (v k : Int) : intHashCode (v + 4294967296 * k) = intHashCode v :=
  wrap32_periodic v k

end Cast

/-! ## the library models -/
section Lib

/-- `TrimSpace` removes only a prefix and a suffix -/
theorem trimSpace_infix (s : Bytes) : ∃ a b, s = a ++ trimSpace s ++ b := by
  obtain ⟨a, ha⟩ := trimLeftF_suffix spaceEncs s.length s
  obtain ⟨b, hb⟩ := trimLeftF_suffix (spaceEncs.map List.reverse) (trimLeft s).length (trimLeft s).reverse
  refine ⟨a, b.reverse, ?_⟩
  unfold trimSpace trimRight
  have hb' := congrArg List.reverse hb
  simp only [List.reverse_reverse, List.reverse_append] at hb'
  rw [List.append_assoc, ← hb']
  exact ha

/-- `TrimSpace` examples: Unicode white space is trimmed, U+200B (zero width space) and invalid bytes are not -/
theorem trimSpace_examples :
    trimSpace [32, 9, 97, 32, 98, 10] = [97, 32, 98] ∧
    trimSpace [0xC2, 0xA0, 0xE3, 0x80, 0x80, 97, 0xE2, 0x80, 0x83] = [97] ∧
    trimSpace [0xE2, 0x80, 0x8B, 97] = [0xE2, 0x80, 0x8B, 97] ∧
    trimSpace [0xA0, 97, 0xC2] = [0xA0, 97, 0xC2] ∧
    trimSpace [32, 32] = [] := by
  refine ⟨?_, ?_, ?_, ?_, ?_⟩ <;> decide +kernel

end Lib

end X02
