/-
  X01 — tie A: the method bodies of the key types, re-transcribed from the Go source on every run
  (Golib/Gen/X01.lean, by xlate/x01 with go/parser + go/ast), interpreted by Ext.KeySrc and PROVED to be the
  hand-written CodeModel Ext.Keys for ALL inputs.  A change of a field order, multiplier, initial value,
  arithmetic type, compared field, comparison style, offset or width in the Go code changes the generated
  data and breaks one of these obligations.
-/
import Golib.Gen.X01
import Golib.Ext.KeysLemmas

namespace X01Gen
open Ext.Keys Ext.KeySrc Prim

/-! ### Hash -/
theorem i2_hash (a : I2) : hashOf Gen.X01.i2 [a.v1, a.v2] = I2.hash a := rfl
theorem i3_hash (a : I3) : hashOf Gen.X01.i3 [a.v1, a.v2, a.v3] = I3.hash a := rfl
theorem l2_hash (a : L2) : hashOf Gen.X01.l2 [a.v1, a.v2] = L2.hash a := rfl
theorem l3_hash (a : L3) : hashOf Gen.X01.l3 [a.v1, a.v2, a.v3] = L3.hash a := rfl
theorem poid_hash (a : POID) : hashOf Gen.X01.poid [a.pcode, a.oid] = POID.hash a := rfl
theorem pkind_hash (a : POID) : hashOf Gen.X01.pkind [a.pcode, a.oid] = POID.hash a := rfl
theorem pkoid_hash (a : PKOID) : hashOf Gen.X01.pkoid [a.pcode, a.okind, a.oid] = PKOID.hash a := rfl
/-- every Hash ends in `return uint(result)` -/
theorem hash_returns :
    [Gen.X01.i2, Gen.X01.i3, Gen.X01.l2, Gen.X01.l3, Gen.X01.poid, Gen.X01.pkind, Gen.X01.pkoid].map (·.hashRet)
      = List.replicate 7 "uint(result)" := rfl

/-! ### Equals -/
theorem i2_equals (a b : I2) : equalsOf Gen.X01.i2 [a.v1, a.v2] [b.v1, b.v2] = I2.equals a b := by
  simp [equalsOf, Gen.X01.i2, I2.equals]
theorem i3_equals (a b : I3) : equalsOf Gen.X01.i3 [a.v1, a.v2, a.v3] [b.v1, b.v2, b.v3] = I3.equals a b := by
  simp [equalsOf, Gen.X01.i3, I3.equals, Bool.and_assoc]
theorem l2_equals (a b : L2) : equalsOf Gen.X01.l2 [a.v1, a.v2] [b.v1, b.v2] = L2.equals a b := by
  simp [equalsOf, Gen.X01.l2, L2.equals]
theorem l3_equals (a b : L3) : equalsOf Gen.X01.l3 [a.v1, a.v2, a.v3] [b.v1, b.v2, b.v3] = L3.equals a b := by
  simp [equalsOf, Gen.X01.l3, L3.equals, Bool.and_assoc]
theorem poid_equals (a b : POID) : equalsOf Gen.X01.poid [a.pcode, a.oid] [b.pcode, b.oid] = POID.equals a b := by
  simp [equalsOf, Gen.X01.poid, POID.equals, bne, Bool.not_not]
/-- PKIND compares the same fields in the same order as POID (the model has one `POID` for both), so this is
    `poid_equals`; a change of PKIND.Equals alone still fails here, a change of POID.Equals fails `poid_equals` first -/
theorem pkind_equals (a b : POID) : equalsOf Gen.X01.pkind [a.pcode, a.oid] [b.pcode, b.oid] = POID.equals a b :=
  poid_equals a b
theorem pkoid_equals (a b : PKOID) :
    equalsOf Gen.X01.pkoid [a.pcode, a.okind, a.oid] [b.pcode, b.okind, b.oid] = PKOID.equals a b := by
  simp [equalsOf, Gen.X01.pkoid, PKOID.equals, Bool.and_assoc, bne, Bool.not_not]

/-! ### CompareTo -/
theorem i2_compare (a b : I2) : cmpOf Gen.X01.i2 [a.v1, a.v2] [b.v1, b.v2] = I2.compareTo a b := rfl
theorem i3_compare (a b : I3) : cmpOf Gen.X01.i3 [a.v1, a.v2, a.v3] [b.v1, b.v2, b.v3] = I3.compareTo a b := rfl
theorem l2_compare (a b : L2) : cmpOf Gen.X01.l2 [a.v1, a.v2] [b.v1, b.v2] = L2.compareTo a b := rfl
theorem l3_compare (a b : L3) : cmpOf Gen.X01.l3 [a.v1, a.v2, a.v3] [b.v1, b.v2, b.v3] = L3.compareTo a b := rfl
theorem poid_compare (a b : POID) : cmpOf Gen.X01.poid [a.pcode, a.oid] [b.pcode, b.oid] = POID.compareTo a b := rfl
theorem pkind_compare (a b : POID) : cmpOf Gen.X01.pkind [a.pcode, a.oid] [b.pcode, b.oid] = POID.compareTo a b := rfl
theorem pkoid_compare (a b : PKOID) :
    cmpOf Gen.X01.pkoid [a.pcode, a.okind, a.oid] [b.pcode, b.okind, b.oid] = PKOID.compareTo a b := rfl

/-! ### ToBytes / ToObject -/
theorem i2_tobytes (a : I2) : toBytesOf Gen.X01.i2 [a.v1, a.v2] = some (I2.toBytes a) := by
  simp [toBytesOf, contiguous, Gen.X01.i2, I2.toBytes, encFields]
theorem i3_tobytes (a : I3) : toBytesOf Gen.X01.i3 [a.v1, a.v2, a.v3] = some (I3.toBytes a) := by
  simp [toBytesOf, contiguous, Gen.X01.i3, I3.toBytes, encFields]
theorem l2_tobytes (a : L2) : toBytesOf Gen.X01.l2 [a.v1, a.v2] = some (L2.toBytes a) := by
  simp [toBytesOf, contiguous, Gen.X01.l2, L2.toBytes, encFields]
theorem l3_tobytes (a : L3) : toBytesOf Gen.X01.l3 [a.v1, a.v2, a.v3] = some (L3.toBytes a) := by
  simp [toBytesOf, contiguous, Gen.X01.l3, L3.toBytes, encFields]
/-- ToObject reads field i at the i-th slot, widths 4 4 (4) / 8 8 (8), no gap — the shape of `I2.toObject` … `L3.toObject` -/
theorem toobject_shapes :
    toObjectShape Gen.X01.i2 = some [4, 4] ∧ toObjectShape Gen.X01.i3 = some [4, 4, 4] ∧
    toObjectShape Gen.X01.l2 = some [8, 8] ∧ toObjectShape Gen.X01.l3 = some [8, 8, 8] := ⟨rfl, rfl, rfl, rfl⟩
/-- POID / PKIND / PKOID have no byte form -/
theorem no_byte_form : [Gen.X01.poid, Gen.X01.pkind, Gen.X01.pkoid].all (fun s => s.toBytes.isEmpty && s.toObject.isEmpty) = true := rfl

/-! ### LINK (text of the bodies, receiver `this`, parameter `o`) -/
theorem link_source : Gen.X01.link =
  { hashRet := "returnuint(this.HashCode())",
    hashCode := "return(hash.Hash(this.IP)|int32(this.Port))",
    equals := ["vark*LINK", "ifo!=nil{k=o.(*LINK)}", "ifcompare.EqualBytes(this.IP,k.IP)==false{returnfalse}",
      "returnthis.Port==k.Port"],
    includes := ["ifcompare.EqualBytes(this.IP,o.IP)==false{returnfalse}", "ifthis.Port==0{returntrue}",
      "returnthis.Port==o.Port"],
    toBytes := ["o.WriteBlob(this.IP)", "o.WriteInt(int32(this.Port))", "returnthis"],
    toObject := ["this.IP=o.ReadBlob()", "this.Port=int(o.ReadInt())", "returnthis"] } := rfl

end X01Gen
