/-
  Property C14 — obligations over the regenerated source facts (tie A).

  `Golib.Gen.C14` is rewritten by `xlate/c14` from /repo/util/hll on every run.  Each theorem
  below says that a transcribed source expression is the one the bridge theorems of
  `Golib.HLL.SrcBridge` were proved about (or that a constant/table equals the model's), so a
  change of the Go source that alters an expression, a constant, the clz table, the byte form's
  call sequence or the decision of `Cardinality` makes this module fail to check.
-/
import Golib.Gen.C14
import Golib.HLL.SrcBridge
import Golib.HLL.SrcProg
import Golib.HLL.SrcHash
import Golib.HLL.SrcObj

namespace C14Gen
open HLL

theorem gen_constants :
    Gen.C14.LOG2_BITS_PER_WORD = HLL.LOG2_BITS_PER_WORD ∧ Gen.C14.REGISTER_SIZE = HLL.REGISTER_SIZE := by decide

theorem gen_clz_table : Gen.C14.clzLookup = HLL.clzLookup := by decide

theorem gen_clz32 : Gen.C14.clz32 = Src.clz32 := by rfl

theorem gen_get : Gen.C14.get = Src.get := by rfl

theorem gen_set :
    Gen.C14.setTarget = .recv "M" ∧ Gen.C14.setIdx = Src.setIdx ∧ Gen.C14.setVal = Src.setVal := by
  refine ⟨by rfl, by rfl, by rfl⟩

theorem gen_updateIfGreater :
    Gen.C14.updCond = Src.updCond ∧ Gen.C14.updTarget = .recv "M" ∧ Gen.C14.updIdx = Src.updIdx ∧
    Gen.C14.updVal = Src.updVal ∧ Gen.C14.updRetThen = .tt ∧ Gen.C14.updRetElse = .ff := by
  refine ⟨by rfl, by rfl, by rfl, by rfl, by rfl, by rfl⟩

theorem gen_registerset_merge :
    Gen.C14.mergeOuterBound = .bin .lt 63 (.loc "l0") (.call1 "len" (.recv "M")) ∧
    Gen.C14.mergeInnerBound = .bin .lt 63 (.loc "l2") (.lit 6) ∧
    Gen.C14.mergeInit = .conv 32 (.lit 0) ∧
    Gen.C14.mergeCond = Src.mergeCond ∧ Gen.C14.mergeThen = Src.mergeThat ∧ Gen.C14.mergeElse = Src.mergeThis ∧
    Gen.C14.mergeStoreIdx = .loc "l0" ∧ Gen.C14.mergeStoreVal = .loc "l1" := by
  refine ⟨by rfl, by rfl, by rfl, by rfl, by rfl, by rfl, by rfl, by rfl⟩

theorem gen_sizeForCount : Gen.C14.getBits = Src.getBits ∧ Gen.C14.sizeForCount = Src.sizeForCount := by
  refine ⟨by rfl, by rfl⟩

theorem gen_offerHashed :
    Gen.C14.offerCallee = "registerSet.UpdateIfGreater" ∧ Gen.C14.offerIdx = Src.offerIdx ∧
    Gen.C14.offerRank = Src.offerRank ∧
    Gen.C14.offer = .call1 "offerHashed" (.call1 "MurmurHash" (.arg 0)) ∧
    Gen.C14.offerLong = .call1 "offerHashed" (.call1 "MurmurHashLong" (.arg 0)) := by
  refine ⟨by rfl, by rfl, by rfl, by rfl, by rfl⟩

/-- the decision of `Cardinality`: loop over `registerSet.Count` registers, exact power-of-two
    terms, zero count, and — with fix-D30 — linear counting only if `zeros != 0` -/
theorem gen_cardinality :
    Gen.C14.cardLoopBound = .bin .lt 63 (.loc "l2") (.recv "registerSet.Count") ∧
    Gen.C14.cardTerm = Src.cardTerm ∧ Gen.C14.cardZeroTest = Src.cardZeroTest ∧
    Gen.C14.cardCond = Src.cardCond ∧ Gen.C14.cardThen = Src.cardThen ∧ Gen.C14.cardElse = Src.cardElse ∧
    Gen.C14.linearCounting = Src.linearCounting ∧ Gen.C14.round = Src.round := by
  refine ⟨by rfl, by rfl, by rfl, by rfl, by rfl, by rfl, by rfl, by rfl⟩

/-- `getAlphaMM`: the constants are those of `HLL.consts` (which the driver evaluates) -/
theorem gen_alpha : Gen.C14.alphaMM = Src.alphaMM := by rfl

theorem gen_bytes_and_merge_skeletons :
    Gen.C14.getBytesBody = Src.getBytesBody ∧ Gen.C14.buildBody = Src.buildBody ∧
    Gen.C14.mergeBody = Src.mergeBody ∧ Gen.C14.addAllBody = Src.addAllBody ∧
    Gen.C14.newIntBody = Src.newIntBody ∧ Gen.C14.newRegisterSetInitBody = Src.newRegisterSetInitBody := by
  refine ⟨by rfl, by rfl, by rfl, by rfl, by rfl, by rfl⟩

/-- input-count guards (`in.CheckCount(count, minBytes)`) are not part of the byte-form skeleton:
    they only reject a word count the remaining bytes cannot supply (4 bytes per word), which the
    model's `build` rejects as well (`decMany` fails on short input).  The only guard admitted is
    the one in `BuildHyperLogLog` on the decoded word count with element size 4; any other guard
    (another function, another count or element size) makes this obligation fail. -/
theorem gen_count_guards :
    Gen.C14.countGuards = [] ∨ Gen.C14.countGuards = ["BuildHyperLogLog: v0.CheckCount(int(v2), 4)"] := by
  decide

open HLL.Src in
/-- the transcribed `RegisterSet.Get` computes the model's `wordGet` -/
theorem gen_get_meaning (ρ : Env) (pos : Nat) (h : ρ.args.getD 0 0 = pos) (hp : pos < 4611686018427387904) :
    Gen.C14.get.eval ρ = wordGet (ρ.tab "M" (pos / 6)) (pos % 6) := by
  rw [gen_get]; exact get_bridge ρ pos h hp

open HLL.Src in
/-- the transcribed `RegisterSet.Set` stores the model's `wordSet` at word `position / 6` -/
theorem gen_set_meaning (ρ : Env) (pos v : Nat) (h0 : ρ.args.getD 0 0 = pos) (h1 : ρ.args.getD 1 0 = v)
    (hp : pos < 4294967296) (hv : v < 32) (hw : ρ.tab "M" (pos / 6) < 4294967296) :
    Gen.C14.setIdx.eval ρ = pos / 6 ∧
    Gen.C14.setVal.eval ρ = wordSet (ρ.tab "M" (pos / 6)) (pos % 6) v := by
  rw [gen_set.2.1, gen_set.2.2]; exact set_bridge ρ pos v h0 h1 hp hv hw

open HLL.Src in
/-- the transcribed `RegisterSet.UpdateIfGreater` is the model's `wordUpd`: it stores
    `wordSet old i v` and returns true iff `wordGet old i < v`, else leaves the word and returns false -/
theorem gen_updateIfGreater_meaning (ρ : Env) (pos v : Nat) (h0 : ρ.args.getD 0 0 = pos)
    (h1 : ρ.args.getD 1 0 = v) (hp : pos < 4294967296) (hv : v < 32)
    (hw : ρ.tab "M" (pos / 6) < 4294967296) :
    Gen.C14.updIdx.eval ρ = pos / 6 ∧
    wordUpd (ρ.tab "M" (pos / 6)) (pos % 6) v =
      (if Gen.C14.updCond.eval ρ ≠ 0 then (Gen.C14.updVal.eval ρ, decide (Gen.C14.updRetThen.eval ρ ≠ 0))
       else (ρ.tab "M" (pos / 6), decide (Gen.C14.updRetElse.eval ρ ≠ 0))) := by
  obtain ⟨hc, _, hi, hv', ht, he⟩ := gen_updateIfGreater
  rw [hc, hi, hv', ht, he]
  obtain ⟨b1, b2, b3⟩ := upd_bridge ρ pos v h0 h1 hp hv hw
  refine ⟨b1, ?_⟩
  unfold wordUpd
  by_cases hlt : wordGet (ρ.tab "M" (pos / 6)) (pos % 6) < v
  · rw [if_pos hlt, if_pos (b2.mpr hlt), b3]; simp [Ex.eval]
  · rw [if_neg hlt, if_neg (fun h => hlt (b2.mp h))]; simp [Ex.eval]

open HLL.Src in
/-- the transcribed inner loop of `RegisterSet.Merge` accumulates the model's `mergeWord` -/
theorem gen_merge_meaning (ρ : Env) (a b j : Nat) (hj : ρ.locv "l2" = j) (hj6 : j < 6)
    (ha : ρ.tab "M" (ρ.locv "l0") = a) (hb : ρ.tab "that.M" (ρ.locv "l0") = b) :
    (if Gen.C14.mergeCond.eval ρ ≠ 0 then Gen.C14.mergeThen.eval ρ else Gen.C14.mergeElse.eval ρ) =
      mergeTerm a b j ∧ mergeLoop a b = mergeWord a b := by
  obtain ⟨_, _, _, hc, ht, he, _, _⟩ := gen_registerset_merge
  rw [hc, ht, he]
  exact ⟨merge_bridge ρ a b j hj hj6 ha hb, mergeLoop_eq a b⟩

open HLL.Src in
/-- the transcribed `getSizeForCount` is the model's `wordCount` -/
theorem gen_sizeForCount_meaning (ρ : Env) (count : Nat) (h0 : ρ.args.getD 0 0 = count)
    (hf : ρ.fn1 "getBits" count = count / 6) (hc : count < 4611686018427387904) :
    Gen.C14.getBits.eval ρ = count / 6 ∧ Gen.C14.sizeForCount.eval ρ = wordCount count := by
  rw [gen_sizeForCount.1, gen_sizeForCount.2]; exact sizeForCount_bridge ρ count h0 hf hc

open HLL.Src in
/-- the transcribed `clz32` (comparison tree + transcribed table) is the model's `clz32`,
    hence the number of leading zeros -/
theorem gen_clz32_meaning (ρ : Env) (x : Nat) (h0 : ρ.args.getD 0 0 = x) (hx : x < 4294967296)
    (ht : ∀ i, ρ.tab "clzLookup" i = Gen.C14.clzLookup.getD i 0) :
    Gen.C14.clz32.eval ρ = 32 - bitlen x := by
  rw [gen_clz32, clz32_bridge ρ x h0 hx (by intro i; rw [ht i, gen_clz_table]), HLL.clz32_correct x hx]
  rfl

open HLL.Src in
/-- the transcribed index and rank expressions of `offerHashed` are the model's `idx` and `rank` -/
theorem gen_offerHashed_meaning (ρ : Env) (p h : Nat) (h0 : ρ.args.getD 0 0 = h)
    (hl : ρ.fldv "log2m" = p) (hc : ∀ x, ρ.fn1 "clz32" x = HLL.clz32 x) (hp1 : 1 ≤ p) (hp2 : p ≤ 32) :
    Gen.C14.offerIdx.eval ρ = idx p h ∧ Gen.C14.offerRank.eval ρ = rank p h := by
  rw [gen_offerHashed.2.1, gen_offerHashed.2.2.1]; exact offer_bridge ρ p h h0 hl hc hp1 hp2

open HLL.Src in
/-- index and rank of the transcribed `offerHashed`, for every precision 4..16 at once (no per-p
    evaluation): the leading `p` bits, and the leading zeros of the remaining bits + 1 -/
theorem gen_offerHashed_spec (ρ : Env) (p h : Nat) (h0 : ρ.args.getD 0 0 = h)
    (hl : ρ.fldv "log2m" = p) (hc : ∀ x, ρ.fn1 "clz32" x = HLL.clz32 x) (h1 : 4 ≤ p) (h2 : p ≤ 16)
    (hh : Hashed h) :
    Gen.C14.offerIdx.eval ρ = h / 2 ^ (32 - p) ∧ Gen.C14.offerIdx.eval ρ < 2 ^ p ∧
    Gen.C14.offerRank.eval ρ = (32 - p) - bitlen (h % 2 ^ (32 - p)) + 1 ∧
    Gen.C14.offerRank.eval ρ < 32 := by
  obtain ⟨e1, e2⟩ := gen_offerHashed_meaning ρ p h h0 hl hc (by omega) (by omega)
  rw [e1, e2]
  exact ⟨rfl, idx_lt p h (by omega) hh, rank_spec p h (by omega) (by omega),
    rank_lt_32 p h (by omega) (by omega)⟩

/-- the transcribed statement lists of `GetBytes` and `BuildHyperLogLog` -/
theorem gen_byte_form_programs :
    Gen.C14.getBytesProg = Src.getBytesProg ∧ Gen.C14.buildProg = Src.buildProg := by
  refine ⟨by rfl, by rfl⟩

open HLL.Src in
/-- **interpreted**: running the transcribed `GetBytes` writes exactly the model's `getBytes` -/
theorem gen_getBytes_meaning (ρ : Env) (colls : String → List Nat) (p : Nat) (ws : Array Nat)
    (hl : ρ.fldv "log2m" = p) (hsz : ρ.fldv "registerSet.Size" = ws.size)
    (hc : colls "registerSet.ReadOnlyBits" = ws.toList)
    (hp : p < 4294967296) (hs : ws.size < 4294967296) (hw : ∀ w ∈ ws.toList, w < 4294967296) :
    WStep.run ρ colls Gen.C14.getBytesProg [] = some (getBytes p ws) := by
  rw [gen_byte_form_programs.1]; exact getBytes_bridge ρ colls p ws hl hsz hc hp hs hw

open HLL.Src in
/-- **interpreted**: the transcribed `BuildHyperLogLog` is the model's decoder `build`; with the
    round trip (the next theorem), rebuilding what the transcribed `GetBytes` wrote restores the
    counter -/
theorem gen_build_meaning (σ : Store) :
    RStep.sem Gen.C14.buildProg σ = build := by
  rw [gen_byte_form_programs.2]; exact build_bridge σ

open HLL.Src in
theorem gen_byte_form_roundtrip (ρ : Env) (colls : String → List Nat) (σ : Store) (p : Nat)
    (ws : Array Nat) (bs rest : Bytes)
    (hl : ρ.fldv "log2m" = p) (hsz : ρ.fldv "registerSet.Size" = ws.size)
    (hc : colls "registerSet.ReadOnlyBits" = ws.toList) (hp : PrecOK p) (hw : WFState p ws)
    (hrun : WStep.run ρ colls Gen.C14.getBytesProg [] = some bs) :
    P.run (RStep.sem Gen.C14.buildProg σ) (bs ++ rest) = some ((p, ws), rest) := by
  have hs : ws.size < 2147483648 := by rw [hw.size]; exact wordCount_lt p hp.hi
  rw [gen_getBytes_meaning ρ colls p ws hl hsz hc (by have := hp.hi; omega) (by omega)
    (wf_words_lt p ws hw)] at hrun
  injection hrun with hrun
  rw [← hrun, gen_build_meaning]
  exact run_build_getBytes_wf p ws rest hp hw

/-- the hash: the symbolically executed bodies of `MurmurHashLong` and `MurmurHash` -/
theorem gen_murmur : Gen.C14.murmurLong = Src.murmurLong ∧ Gen.C14.murmur32 = Src.murmur32 := by
  refine ⟨by rfl, by rfl⟩

open HLL.Src in
/-- **interpreted**: the transcribed `MurmurHashLong` computes the model's `murmurLong` for every
    64-bit item, `MurmurHash` the hash of the zero-extended 32-bit item; both are 32-bit values, so
    every theorem stated for an arbitrary hash applies to the hash the code uses -/
theorem gen_murmur_meaning (ρ : Env) (data : Nat) (h0 : ρ.args.getD 0 0 = data) :
    Gen.C14.murmurLong.eval ρ = murmurLong data ∧ Hashed (murmurLong data) ∧
    (data < 4294967296 → (∀ x, ρ.fn1 "MurmurHashLong" x = murmurLong x) →
      Gen.C14.murmur32.eval ρ = murmur32 data) := by
  refine ⟨?_, murmurLong_lt data, ?_⟩
  · rw [gen_murmur.1]; exact murmurLong_bridge ρ data h0
  · intro hd hf; rw [gen_murmur.2]; exact murmur32_bridge ρ data h0 hd hf

/-- the transcribed statement lists of `HyperLogLog.Merge` and `HyperLogLog.AddAll` -/
theorem gen_merge_addAll_programs :
    Gen.C14.mergeProg = Src.mergeProg ∧ Gen.C14.addAllProg = Src.addAllProg := by
  refine ⟨by rfl, by rfl⟩

open HLL.Src in
/-- **interpreted**: the transcribed `Merge` returns the model's `mergeAll` of receiver and
    arguments and writes neither the receiver nor any argument (only its fresh local) -/
theorem gen_merge_obj_meaning (σ : MState) (hr : σ.recv.size = wordCount (2 ^ σ.p))
    (ha : ∀ b ∈ σ.args, b.size = wordCount (2 ^ σ.p)) :
    ∃ τ, MStep.sem Gen.C14.mergeProg σ = some (some (mergeAll σ.p σ.recv σ.args), τ) ∧
      τ.recv = σ.recv ∧ τ.args = σ.args ∧ τ.p = σ.p := by
  rw [gen_merge_addAll_programs.1]; exact merge_bridge_obj σ hr ha

open HLL.Src in
/-- **interpreted**: the transcribed `AddAll` panics exactly when the sizes differ, otherwise turns
    the receiver's words into `merge recv other` and touches nothing else -/
theorem gen_addAll_obj_meaning (σ : MState) (b : Array Nat) (hb : σ.args = [b]) :
    MStep.sem Gen.C14.addAllProg σ =
      if σ.recv.size = b.size then some (none, { σ with recv := merge σ.recv b }) else none := by
  rw [gen_merge_addAll_programs.2]; exact addAll_bridge_obj σ b hb

/-! non-vacuity of the interpreted obligations: the evaluators compute on concrete environments -/
example : Gen.C14.get.eval ⟨[9], fun _ i => if i = 1 then 229376 else 0, fun _ => 0, fun _ _ => 0, fun _ => 0⟩ = 7 := by
  decide +kernel
example : Gen.C14.sizeForCount.eval ⟨[193], fun _ _ => 0, fun _ => 0, fun _ x => x / 6, fun _ => 0⟩ = 32 := by
  decide +kernel
example : Gen.C14.murmurLong.eval ⟨[1], fun _ _ => 0, fun _ => 0, fun _ _ => 0, fun _ => 0⟩ = 1527037976 := by
  decide +kernel
example : (HLL.Src.MStep.sem Gen.C14.addAllProg ⟨4, #[1, 0, 0], [#[32, 0, 0]], fun _ => #[]⟩).map
    (fun r => r.2.recv) = some #[33, 0, 0] := by decide +kernel
example : HLL.Src.MStep.sem Gen.C14.addAllProg ⟨4, #[1, 0, 0], [#[32, 0]], fun _ => #[]⟩ = none := by
  decide +kernel

end C14Gen
