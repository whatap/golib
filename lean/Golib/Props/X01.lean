/-
  Extension check X01 — composite key types (hmap.LinkedKey implementations) and the path tree.

  Part 1 (this file, `X01.*` up to `linked_map_over_keys`): lang/variable/{I2,I3,L2,L3}.go, lang/POID.go, PKIND.go,
  PKOID.go, lang/topology/LINK.go.   CodeModel: Golib/Ext/Keys.lean.   Evident laws:

    (K1) Equals is field-wise equality (hence an equivalence relation), equal keys have equal Hash,
         so util/hmap's LinkedMap / LinkedSet (model and refinement theorem of C09) is a dictionary over them;
    (K2) CompareTo is the lexicographic total order, consistent with Equals;
    (K3) ToBytes / ToObject round-trip every value and consume exactly their bytes.

  The code satisfies K1 for all types; K2 for I2 I3 L2 L3 but NOT for POID/PKIND/PKOID (sign of a wrapped
  difference: `finding_poid_compare_*`); K3 for I2 L2 L3, NOT for I3 (`finding_i3_tobytes`) and for LINK only while
  Port fits int32 (`finding_link_port`).  LINK.Equals(nil) panics (`finding_link_equals_nil`).

  Part 2: util/pathutil/PathTree.go.   CodeModel: Golib/Ext/PathTree.lean.   See the second half of this file.
-/
import Golib.Ext.KeysLemmas
import Golib.Ext.PathTreeLemmas
import Golib.HMap.LinkedStep

namespace X01
open Ext.Keys Prim

/-! ## K1 — Equals is field-wise equality; Hash respects it -/

theorem i2_equals_iff (a b : I2) : I2.equals a b = true ↔ a = b := by
  cases a; cases b; simp [I2.equals]; omega
theorem i3_equals_iff (a b : I3) : I3.equals a b = true ↔ a = b := by
  cases a; cases b; simp [I3.equals]; omega
theorem l2_equals_iff (a b : L2) : L2.equals a b = true ↔ a = b := by
  cases a; cases b; simp [L2.equals]
theorem l3_equals_iff (a b : L3) : L3.equals a b = true ↔ a = b := by
  cases a; cases b; simp [L3.equals]; omega
/-- POID and PKIND (the same code over `Oid` / `OKind`) -/
theorem poid_equals_iff (a b : POID) : POID.equals a b = true ↔ a = b := by
  cases a; cases b; simp [POID.equals]; omega
theorem pkoid_equals_iff (a b : PKOID) : PKOID.equals a b = true ↔ a = b := by
  cases a; cases b; simp [PKOID.equals]; omega
/-- LINK: the IP bytes (a nil and an empty IP are the same key) and the port -/
theorem link_equals_iff (a b : LINK) : LINK.equals a b = true ↔ a = b := by
  cases a; cases b; simp [LINK.equals, equalBytes_iff]

/-- a Boolean relation that coincides with `=` is an equivalence relation -/
theorem equivalence_of_iff {α : Type} (eq : α → α → Bool) (h : ∀ a b, eq a b = true ↔ a = b) :
    (∀ a, eq a a = true) ∧ (∀ a b, eq a b = eq b a) ∧ (∀ a b c, eq a b = true → eq b c = true → eq a c = true) := by
  refine ⟨fun a => (h a a).mpr rfl, fun a b => ?_, fun a b c h1 h2 => (h a c).mpr (((h a b).mp h1).trans ((h b c).mp h2))⟩
  by_cases e : a = b
  · subst e; rfl
  · have h1 : eq a b = false := by cases hh : eq a b <;> simp_all
    have h2 : eq b a = false := by
      cases hh : eq b a
      · rfl
      · exact absurd ((h b a).mp hh).symm e
    rw [h1, h2]

theorem equals_is_equivalence :
    ((∀ a, I2.equals a a = true) ∧ (∀ a b, I2.equals a b = I2.equals b a) ∧ (∀ a b c, I2.equals a b = true → I2.equals b c = true → I2.equals a c = true)) ∧
    ((∀ a, I3.equals a a = true) ∧ (∀ a b, I3.equals a b = I3.equals b a) ∧ (∀ a b c, I3.equals a b = true → I3.equals b c = true → I3.equals a c = true)) ∧
    ((∀ a, L2.equals a a = true) ∧ (∀ a b, L2.equals a b = L2.equals b a) ∧ (∀ a b c, L2.equals a b = true → L2.equals b c = true → L2.equals a c = true)) ∧
    ((∀ a, L3.equals a a = true) ∧ (∀ a b, L3.equals a b = L3.equals b a) ∧ (∀ a b c, L3.equals a b = true → L3.equals b c = true → L3.equals a c = true)) ∧
    ((∀ a, POID.equals a a = true) ∧ (∀ a b, POID.equals a b = POID.equals b a) ∧ (∀ a b c, POID.equals a b = true → POID.equals b c = true → POID.equals a c = true)) ∧
    ((∀ a, PKOID.equals a a = true) ∧ (∀ a b, PKOID.equals a b = PKOID.equals b a) ∧ (∀ a b c, PKOID.equals a b = true → PKOID.equals b c = true → PKOID.equals a c = true)) ∧
    ((∀ a, LINK.equals a a = true) ∧ (∀ a b, LINK.equals a b = LINK.equals b a) ∧ (∀ a b c, LINK.equals a b = true → LINK.equals b c = true → LINK.equals a c = true)) :=
  ⟨equivalence_of_iff _ i2_equals_iff, equivalence_of_iff _ i3_equals_iff, equivalence_of_iff _ l2_equals_iff,
   equivalence_of_iff _ l3_equals_iff, equivalence_of_iff _ poid_equals_iff, equivalence_of_iff _ pkoid_equals_iff,
   equivalence_of_iff _ link_equals_iff⟩

/-- equal keys hash equally, and the hash is a 64-bit `uint` -/
theorem hash_consistent :
    (∀ a b, I2.equals a b = true → I2.hash a = I2.hash b) ∧ (∀ a b, I3.equals a b = true → I3.hash a = I3.hash b) ∧
    (∀ a b, L2.equals a b = true → L2.hash a = L2.hash b) ∧ (∀ a b, L3.equals a b = true → L3.hash a = L3.hash b) ∧
    (∀ a b, POID.equals a b = true → POID.hash a = POID.hash b) ∧
    (∀ a b, PKOID.equals a b = true → PKOID.hash a = PKOID.hash b) ∧
    (∀ a b, LINK.equals a b = true → LINK.hash a = LINK.hash b) :=
  ⟨fun a b h => by rw [(i2_equals_iff a b).mp h], fun a b h => by rw [(i3_equals_iff a b).mp h],
   fun a b h => by rw [(l2_equals_iff a b).mp h], fun a b h => by rw [(l3_equals_iff a b).mp h],
   fun a b h => by rw [(poid_equals_iff a b).mp h], fun a b h => by rw [(pkoid_equals_iff a b).mp h],
   fun a b h => by rw [(link_equals_iff a b).mp h]⟩

theorem hash_is_uint64 (a : I2) (b : I3) (c : L2) (d : L3) (e : POID) (f : PKOID) (g : LINK) :
    I2.hash a < 2 ^ 64 ∧ I3.hash b < 2 ^ 64 ∧ L2.hash c < 2 ^ 64 ∧ L3.hash d < 2 ^ 64 ∧
    POID.hash e < 2 ^ 64 ∧ PKOID.hash f < 2 ^ 64 ∧ LINK.hash g < 2 ^ 64 :=
  ⟨toUint_lt _, toUint_lt _, toUint_lt _, toUint_lt _, toUint_lt _, toUint_lt _, toUint_lt _⟩

/-- the hash values the code computes (not the ones of the Java original: I2 folds V2 first) -/
example : I2.hash ⟨1, 2⟩ = 1024 ∧ I2.hash ⟨2, 1⟩ = 994 ∧ I3.hash ⟨1, 2, 3⟩ = 30817 := by decide +kernel
/-- a negative int32 result is sign-extended by `uint(result)` -/
example : I2.hash ⟨-2000, 0⟩ = 18446744073709550577 := by decide +kernel
/-- Equals ≠ Hash-equality: distinct keys may collide (31·v2 + v1 is not injective) -/
example : I2.hash ⟨31, 0⟩ = I2.hash ⟨0, 1⟩ ∧ I2.equals ⟨31, 0⟩ ⟨0, 1⟩ = false := by decide +kernel

/-- LINK.Include: same IP and (own port 0 = any port, or the same port); Equals implies Include -/
theorem link_equals_includes (a b : LINK) (h : LINK.equals a b = true) : LINK.includes a b = true := by
  have := (link_equals_iff a b).mp h; subst this
  have e : equalBytes a.ip a.ip = true := (equalBytes_iff _ _).mpr rfl
  simp [LINK.includes, e]

/-- **finding**: `LINK.Equals(nil)` dereferences the nil `*LINK` it has just declined to assign -/
theorem finding_link_equals_nil (a : LINK) : LINK.equalsOpt a none = none := rfl

/-! ### the linked map / set of C09 over these keys

`HMap.LMap` (CodeModel of util/hmap.LinkedMap / LinkedSet: bucket table indexed by `Hash() % len`, chains searched
with `Equals`) is generic in the key type with decidable equality and in the hash function.  By `*_equals_iff` the
Go `Equals` IS that decidable equality, and `Hash` is a function of the key, so the refinement theorem (`HMap.LMap.refine_run_new`) applies. -/

open HMap in
/-- every history on a LinkedMap keyed by I2 / I3 / L2 / L3 / POID(PKIND) / PKOID / LINK with the code's own Hash
    answers exactly like the insertion-ordered dictionary -/
theorem linked_map_over_keys {V : Type} [DecidableEq V] (thr : Nat → Nat) (cap : Nat) :
    (∀ (d : Desc I2 V) ops, (LMap.run I2.hash thr d (LMap.new thr cap) ops).2 = (S.run d {} ops).2) ∧
    (∀ (d : Desc I3 V) ops, (LMap.run I3.hash thr d (LMap.new thr cap) ops).2 = (S.run d {} ops).2) ∧
    (∀ (d : Desc L2 V) ops, (LMap.run L2.hash thr d (LMap.new thr cap) ops).2 = (S.run d {} ops).2) ∧
    (∀ (d : Desc L3 V) ops, (LMap.run L3.hash thr d (LMap.new thr cap) ops).2 = (S.run d {} ops).2) ∧
    (∀ (d : Desc POID V) ops, (LMap.run POID.hash thr d (LMap.new thr cap) ops).2 = (S.run d {} ops).2) ∧
    (∀ (d : Desc PKOID V) ops, (LMap.run PKOID.hash thr d (LMap.new thr cap) ops).2 = (S.run d {} ops).2) ∧
    (∀ (d : Desc LINK V) ops, (LMap.run LINK.hash thr d (LMap.new thr cap) ops).2 = (S.run d {} ops).2) :=
  ⟨fun d ops => LMap.refine_run_new _ thr d cap ops, fun d ops => LMap.refine_run_new _ thr d cap ops,
   fun d ops => LMap.refine_run_new _ thr d cap ops, fun d ops => LMap.refine_run_new _ thr d cap ops,
   fun d ops => LMap.refine_run_new _ thr d cap ops, fun d ops => LMap.refine_run_new _ thr d cap ops,
   fun d ops => LMap.refine_run_new _ thr d cap ops⟩

/-! ## K2 — CompareTo -/

/-- I2 I3 L2 L3: CompareTo is the three-way lexicographic comparison: −1 / 0 / +1 exactly for `<` / `=` / `>` -/
theorem i2_compare (a b : I2) :
    (I2.compareTo a b = 0 ↔ a = b) ∧
    (I2.compareTo a b = -1 ↔ a.v1 < b.v1 ∨ (a.v1 = b.v1 ∧ a.v2 < b.v2)) ∧
    (I2.compareTo a b = 1 ↔ b.v1 < a.v1 ∨ (b.v1 = a.v1 ∧ b.v2 < a.v2)) ∧
    I2.compareTo b a = - I2.compareTo a b := by
  obtain ⟨a1, a2⟩ := a; obtain ⟨b1, b2⟩ := b
  simpa [I2.compareTo, lexLt, swapPairs] using cmpLex_spec [(a1, b1), (a2, b2)]

theorem l2_compare (a b : L2) :
    (L2.compareTo a b = 0 ↔ a = b) ∧
    (L2.compareTo a b = -1 ↔ a.v1 < b.v1 ∨ (a.v1 = b.v1 ∧ a.v2 < b.v2)) ∧
    (L2.compareTo a b = 1 ↔ b.v1 < a.v1 ∨ (b.v1 = a.v1 ∧ b.v2 < a.v2)) ∧
    L2.compareTo b a = - L2.compareTo a b := by
  obtain ⟨a1, a2⟩ := a; obtain ⟨b1, b2⟩ := b
  simpa [L2.compareTo, lexLt, swapPairs] using cmpLex_spec [(a1, b1), (a2, b2)]

theorem i3_compare (a b : I3) :
    (I3.compareTo a b = 0 ↔ a = b) ∧
    (I3.compareTo a b = -1 ↔ a.v1 < b.v1 ∨ (a.v1 = b.v1 ∧ (a.v2 < b.v2 ∨ (a.v2 = b.v2 ∧ a.v3 < b.v3)))) ∧
    (I3.compareTo a b = 1 ↔ b.v1 < a.v1 ∨ (b.v1 = a.v1 ∧ (b.v2 < a.v2 ∨ (b.v2 = a.v2 ∧ b.v3 < a.v3)))) ∧
    I3.compareTo b a = - I3.compareTo a b := by
  obtain ⟨a1, a2, a3⟩ := a; obtain ⟨b1, b2, b3⟩ := b
  simpa [I3.compareTo, lexLt, swapPairs] using cmpLex_spec [(a1, b1), (a2, b2), (a3, b3)]

theorem l3_compare (a b : L3) :
    (L3.compareTo a b = 0 ↔ a = b) ∧
    (L3.compareTo a b = -1 ↔ a.v1 < b.v1 ∨ (a.v1 = b.v1 ∧ (a.v2 < b.v2 ∨ (a.v2 = b.v2 ∧ a.v3 < b.v3)))) ∧
    (L3.compareTo a b = 1 ↔ b.v1 < a.v1 ∨ (b.v1 = a.v1 ∧ (b.v2 < a.v2 ∨ (b.v2 = a.v2 ∧ b.v3 < a.v3)))) ∧
    L3.compareTo b a = - L3.compareTo a b := by
  obtain ⟨a1, a2, a3⟩ := a; obtain ⟨b1, b2, b3⟩ := b
  simpa [L3.compareTo, lexLt, swapPairs] using cmpLex_spec [(a1, b1), (a2, b2), (a3, b3)]

/-- transitivity (with the characterisation above: a strict total order) -/
theorem compare_trans :
    (∀ a b c : I2, I2.compareTo a b = -1 → I2.compareTo b c = -1 → I2.compareTo a c = -1) ∧
    (∀ a b c : I3, I3.compareTo a b = -1 → I3.compareTo b c = -1 → I3.compareTo a c = -1) ∧
    (∀ a b c : L2, L2.compareTo a b = -1 → L2.compareTo b c = -1 → L2.compareTo a c = -1) ∧
    (∀ a b c : L3, L3.compareTo a b = -1 → L3.compareTo b c = -1 → L3.compareTo a c = -1) := by
  refine ⟨fun a b c h1 h2 => ?_, fun a b c h1 h2 => ?_, fun a b c h1 h2 => ?_, fun a b c h1 h2 => ?_⟩
  · exact (cmpLex_neg _).2 (lexLt_trans [(a.v1, b.v1, c.v1), (a.v2, b.v2, c.v2)]
      ((cmpLex_neg _).1 h1) ((cmpLex_neg _).1 h2))
  · exact (cmpLex_neg _).2 (lexLt_trans [(a.v1, b.v1, c.v1), (a.v2, b.v2, c.v2), (a.v3, b.v3, c.v3)]
      ((cmpLex_neg _).1 h1) ((cmpLex_neg _).1 h2))
  · exact (cmpLex_neg _).2 (lexLt_trans [(a.v1, b.v1, c.v1), (a.v2, b.v2, c.v2)]
      ((cmpLex_neg _).1 h1) ((cmpLex_neg _).1 h2))
  · exact (cmpLex_neg _).2 (lexLt_trans [(a.v1, b.v1, c.v1), (a.v2, b.v2, c.v2), (a.v3, b.v3, c.v3)]
      ((cmpLex_neg _).1 h1) ((cmpLex_neg _).1 h2))

/-- POID / PKIND / PKOID: the evident law is `compareTo = compareSpec` (lexicographic on pcode, [okind,] oid).
    It holds exactly while the subtractions do not overflow. -/
theorem poid_compare_partial (a b : POID)
    (h1 : I64 (a.pcode - b.pcode)) (h2 : I32 (a.oid - b.oid)) :
    POID.compareTo a b = POID.compareSpec a b := by
  unfold POID.compareTo POID.compareSpec
  rw [wrap64_id _ h1, wrap32_id _ h2]
  exact cmpDiff_sub [(a.pcode, b.pcode), (a.oid, b.oid)]

theorem pkoid_compare_partial (a b : PKOID)
    (h1 : I64 (a.pcode - b.pcode)) (h2 : I32 (a.okind - b.okind)) (h3 : I32 (a.oid - b.oid)) :
    PKOID.compareTo a b = PKOID.compareSpec a b := by
  unfold PKOID.compareTo PKOID.compareSpec
  rw [wrap64_id _ h1, wrap32_id _ h2, wrap32_id _ h3]
  exact cmpDiff_sub [(a.pcode, b.pcode), (a.okind, b.okind), (a.oid, b.oid)]

/-- the hypothesis is satisfiable by real keys (project codes and object ids of moderate size) -/
example : I64 ((⟨123456789012, -5⟩ : POID).pcode - (⟨-99, 7⟩ : POID).pcode) ∧ I32 ((-5 : Int) - 7) := by decide +kernel

/-- even with overflow CompareTo answers 0 exactly on equal keys (consistent with Equals) -/
theorem poid_compare_zero (a b : POID) (ha : POID.WF a) (hb : POID.WF b) : POID.compareTo a b = 0 ↔ a = b := by
  obtain ⟨ap, ao⟩ := a; obtain ⟨bp, bo⟩ := b
  obtain ⟨ha1, ha2⟩ := ha; obtain ⟨hb1, hb2⟩ := hb
  simp only at ha1 ha2 hb1 hb2
  have z1 := wrap64_zero ap bp ha1 hb1
  have z2 := wrap32_zero ao bo ha2 hb2
  simp only [POID.compareTo, cmpDiff, sgn, POID.mk.injEq]
  constructor
  · intro h
    by_cases e1 : wrap64 (ap - bp) = 0
    · by_cases e2 : wrap32 (ao - bo) = 0
      · exact ⟨z1.mp e1, z2.mp e2⟩
      · simp [e1, e2] at h; split at h <;> omega
    · simp [e1] at h; split at h <;> omega
  · rintro ⟨e1, e2⟩
    simp [z1.mpr e1, z2.mpr e2]

/-- **finding**: antisymmetry fails — both `a.CompareTo(b)` and `b.CompareTo(a)` are −1 -/
theorem finding_poid_compare_antisym :
    POID.compareTo ⟨-9223372036854775808, 0⟩ ⟨0, 0⟩ = -1 ∧ POID.compareTo ⟨0, 0⟩ ⟨-9223372036854775808, 0⟩ = -1 ∧
    POID.compareTo ⟨0, -2147483648⟩ ⟨0, 0⟩ = -1 ∧ POID.compareTo ⟨0, 0⟩ ⟨0, -2147483648⟩ = -1 := by decide +kernel

/-- **finding**: transitivity fails — a < b, b < c but a > c (and the same through the int32 field) -/
theorem finding_poid_compare_trans :
    POID.compareTo ⟨-9223372036854775808, 0⟩ ⟨0, 0⟩ = -1 ∧ POID.compareTo ⟨0, 0⟩ ⟨9223372036854775807, 0⟩ = -1 ∧
    POID.compareTo ⟨-9223372036854775808, 0⟩ ⟨9223372036854775807, 0⟩ = 1 ∧
    PKOID.compareTo ⟨0, -2147483648, 0⟩ ⟨0, 0, 0⟩ = -1 ∧ PKOID.compareTo ⟨0, 0, 0⟩ ⟨0, 2147483647, 0⟩ = -1 ∧
    PKOID.compareTo ⟨0, -2147483648, 0⟩ ⟨0, 2147483647, 0⟩ = 1 := by decide +kernel

/-- **finding**: the answer contradicts the numeric order: pcode 3·10^18 vs −7·10^18 compares as "less" -/
theorem finding_poid_compare_order :
    POID.compareTo ⟨3000000000000000000, 0⟩ ⟨-7000000000000000000, 0⟩ = -1 ∧
    POID.compareSpec ⟨3000000000000000000, 0⟩ ⟨-7000000000000000000, 0⟩ = 1 := by decide +kernel

/-! ## K3 — ToBytes / ToObject -/

theorem i2_roundtrip (k : I2) (r : Bytes) (h : I2.WF k) : P.run I2.toObject (I2.toBytes k ++ r) = some (k, r) :=
  run_rd2 4 k.v1 k.v2 r (I32_inRange _ h.1) (I32_inRange _ h.2) I2.mk

theorem l2_roundtrip (k : L2) (r : Bytes) (h : L2.WF k) : P.run L2.toObject (L2.toBytes k ++ r) = some (k, r) :=
  run_rd2 8 k.v1 k.v2 r (I64_inRange _ h.1) (I64_inRange _ h.2) L2.mk

theorem l3_roundtrip (k : L3) (r : Bytes) (h : L3.WF k) : P.run L3.toObject (L3.toBytes k ++ r) = some (k, r) :=
  run_rd3 8 k.v1 k.v2 k.v3 r (I64_inRange _ h.1) (I64_inRange _ h.2.1) (I64_inRange _ h.2.2) L3.mk

/-- I3: what comes back is (V1, V2, V2) — the round trip holds exactly for keys with V3 = V2 -/
theorem i3_roundtrip_partial (k : I3) (r : Bytes) (h : I3.WF k) :
    P.run I3.toObject (I3.toBytes k ++ r) = some (⟨k.v1, k.v2, k.v2⟩, r) :=
  run_rd3 4 k.v1 k.v2 k.v2 r (I32_inRange _ h.1) (I32_inRange _ h.2.1) (I32_inRange _ h.2.1) I3.mk

theorem i3_roundtrip_iff (k : I3) (r : Bytes) (h : I3.WF k) :
    P.run I3.toObject (I3.toBytes k ++ r) = some (k, r) ↔ k.v3 = k.v2 := by
  rw [i3_roundtrip_partial k r h]; cases k; simp; omega

/-- **finding**: I3.ToBytes never writes V3 -/
theorem finding_i3_tobytes :
    I3.toBytes ⟨1, 2, 3⟩ = [0,0,0,1, 0,0,0,2, 0,0,0,2] ∧
    P.run I3.toObject (I3.toBytes ⟨1, 2, 3⟩) = some (⟨1, 2, 2⟩, []) := by decide +kernel

/-- the encodings have the fixed sizes the Go code allocates and consist of bytes -/
theorem tobytes_sizes (a : I2) (b : I3) (c : L2) (d : L3) :
    (I2.toBytes a).length = 8 ∧ (I3.toBytes b).length = 12 ∧ (L2.toBytes c).length = 16 ∧ (L3.toBytes d).length = 24 ∧
    WFB (I2.toBytes a) ∧ WFB (I3.toBytes b) ∧ WFB (L2.toBytes c) ∧ WFB (L3.toBytes d) :=
  ⟨encFields_length _ _, encFields_length _ _, encFields_length _ _, encFields_length _ _,
   encFields_WFB _ _, encFields_WFB _ _, encFields_WFB _ _, encFields_WFB _ _⟩

/-- a buffer shorter than the encoding makes ToObject fail (index out of range in Go) -/
theorem toobject_short (bs : Bytes) :
    (bs.length < 8 → P.run I2.toObject bs = none) ∧ (bs.length < 12 → P.run I3.toObject bs = none) ∧
    (bs.length < 16 → P.run L2.toObject bs = none) ∧ (bs.length < 24 → P.run L3.toObject bs = none) :=
  -- each `rdI w` in front of a reader adds `w` to the bytes it needs
  have c (w : Nat) {α : Type} (f : Int → P α) {n : Nat} (h : ∀ x, ConsumesAtLeast (f x) n) :
      ConsumesAtLeast ((rdI w).bind f) (w + n) := (consumes_read w _).bind h
  ⟨(c 4 _ fun _ => c 4 _ fun _ => .pure _).short,
   (c 4 _ fun _ => c 4 _ fun _ => c 4 _ fun _ => .pure _).short,
   (c 8 _ fun _ => c 8 _ fun _ => .pure _).short,
   (c 8 _ fun _ => c 8 _ fun _ => c 8 _ fun _ => .pure _).short⟩

/-- LINK on the stream: blob(IP) then int32(Port); round trip while Port fits int32 -/
theorem link_roundtrip_partial (k : LINK) (r : Bytes) (hip : k.ip.length < 2147483648) (hp : I32 k.port) :
    P.run LINK.toObject (LINK.toBytes k ++ r) = some (k, r) := link_roundtrip k r hip hp

example : (⟨[127, 0, 0, 1], 8080⟩ : LINK).ip.length < 2147483648 ∧ I32 (8080 : Int) := by decide +kernel

/-- **finding**: a Port outside int32 (it is a Go `int`) comes back truncated -/
theorem finding_link_port :
    P.run LINK.toObject (LINK.toBytes ⟨[10, 0, 0, 1], 4294967376⟩) = some (⟨[10, 0, 0, 1], 80⟩, []) := by decide +kernel

/-! ## Part 2 — util/pathutil.PathTree refines an association from paths to values

  Spec      `Log V` (the effective inserts, newest first) with `Log.get` (exact path), `Log.has` (some stored path has this
            prefix) and `specFind` (greedy resolution: literal segment before `*`, `*` only for a non-empty segment, no
            backtracking); `absStep` / `absRun` is the abstract machine.
  CodeModel `PT V` / `insertArray` / `findArray` / `step` / `run` (Golib/Ext/PathTree.lean): the first-child / next-sibling
            ENTRY tree with the code's own linking rules and counter.
  `Rep t l` is the representation invariant (siblings distinct, `*` last; exact lookup and node existence of the tree are
  `l.get` / `l.has`; count ≤ number of ENTRYs; every stored path has ≥ 2 segments).
-/

section PathTree
open Ext.PathTree
variable {V : Type}

/-- the empty tree represents the empty association, and (the next) every operation preserves the representation -/
theorem tree_rep_init : Rep ({} : PT V) [] := by
  refine ⟨trivial, ?_, ?_, Nat.le_refl _, ?_⟩
  · intro n rest; cases rest <;> simp [lookup, Log.get]
  · intro n rest; cases rest <;> simp [hasNode, Log.has]
  · intro e he; cases he

theorem tree_rep_step (t : PT V) (l : Log V) (op : Op V) (h : Rep t l) : Rep (step t op).1 (absStep l op).1 := by
  cases op with
  | ins p v =>
    cases v with
    | none => simpa [step, absStep, insertArray, Log.ins] using h
    | some v =>
      match p with
      | [] => simpa [step, absStep, insertArray, Log.ins] using h
      | [_] => simpa [step, absStep, insertArray, Log.ins] using h
      | n :: m :: r =>
        have := rep_ins t l h n m r v
        simpa [step, absStep, Log.ins] using this
  | get p => exact h
  | size => exact h
  | enum => exact h

/-- Find of any path = greedy resolution over the stored paths -/
theorem tree_find_eq_spec (t : PT V) (l : Log V) (h : Rep t l) (p : Path) :
    findArray t p = specFind l.has l.get p := by
  cases p with
  | nil => rfl
  | cons n rest =>
    simp only [findArray]
    rw [findT_eq_spec rest t.top n h.1]
    exact specFind_congr _ _ _ _ _ (fun a b => h.2.2.1 a b) (fun a b => h.2.1 a b)

/-- one operation answers like the association (Insert: the previous value of exactly that path, nil for an ignored
    insert; Find: the greedy resolution; enumeration: see `finding_tree_enumeration`); Size is excluded, see below -/
theorem tree_step_out (t : PT V) (l : Log V) (op : Op V) (h : Rep t l) (hs : op.isSize = false) :
    (step t op).2 = (absStep l op).2 := by
  cases op with
  | ins p v =>
    cases v with
    | none => simp [step, absStep, insertArray]
    | some v =>
      match p with
      | [] => simp [step, absStep, insertArray]
      | [_] => simp [step, absStep, insertArray]
      | n :: m :: r =>
        simp only [step, absStep, insertArray_eq, old_ins, h.2.1]
        simp
  | get p => simp only [step, absStep, tree_find_eq_spec t l h p]
  | size => simp [Op.isSize] at hs
  | enum => rfl

/-- every finite history from a represented state: the answers are those of the association -/
theorem tree_refines_from (ops : List (Op V)) : ∀ (t : PT V) (l : Log V), Rep t l →
    (∀ op ∈ ops, op.isSize = false) →
    (run t ops).2 = (absRun l ops).2 ∧ Rep (run t ops).1 (absRun l ops).1 := by
  induction ops with
  | nil => intro t l h _; exact ⟨rfl, h⟩
  | cons op ops ih =>
    intro t l h hs
    have h1 := tree_step_out t l op h (hs op List.mem_cons_self)
    have h3 := ih (step t op).1 (absStep l op).1 (tree_rep_step t l op h)
      (fun o ho => hs o (List.mem_cons_of_mem _ ho))
    simp only [run, absRun]
    exact ⟨by rw [h1, h3.1], h3.2⟩

/-- every finite history from `NewPathTree()`: the answers are those of the association -/
theorem tree_refines (ops : List (Op V)) (hs : ∀ op ∈ ops, op.isSize = false) :
    (run ({} : PT V) ops).2 = (absRun [] ops).2 ∧ Rep (run ({} : PT V) ops).1 (absRun [] ops).1 :=
  tree_refines_from ops {} [] tree_rep_init hs

/-- Find after Insert: a stored path is found with its latest value, whatever else is stored (wildcards included) -/
theorem tree_find_stored (t : PT V) (l : Log V) (h : Rep t l) (p : Path) (v : V) (hp : l.get p = some v) :
    findArray t p = some v := by
  rw [tree_find_eq_spec t l h p]
  exact specFind_of_lk p l.has l.get v (stored_ne_nil h hp) hp (fun q _ hq => Log.has_of_get hp q hq)

/-- Insert returns the previous value and then the new one is found (two-or-more segments, non-nil value) -/
theorem tree_insert_then_find (t : PT V) (l : Log V) (h : Rep t l) (n m : Seg) (r : Path) (v : V) :
    (insertArray t (n :: m :: r) (some v)).2 = l.get (n :: m :: r) ∧
    findArray (insertArray t (n :: m :: r) (some v)).1 (n :: m :: r) = some v := by
  have ho := tree_step_out t l (.ins (n :: m :: r) (some v)) h rfl
  have hr := tree_rep_step t l (.ins (n :: m :: r) (some v)) h
  simp only [step, absStep] at ho hr
  refine ⟨?_, ?_⟩
  · have : Out.val (insertArray t (n :: m :: r) (some v)).2 = Out.val (l.get (n :: m :: r)) := by
      simpa using ho
    exact Out.val.inj this
  · apply tree_find_stored _ _ hr
    simp [Log.ins, Log.get]

/-- non-vacuity: a history with a wildcard, an overwrite and lookups that resolve through `*` -/
example : (run ({} : PT Nat) [.ins ["", "a", "*"] (some 1), .ins ["", "a", "b"] (some 2), .ins ["", "a", "b"] (some 3),
      .get ["", "a", "b"], .get ["", "a", "zz"], .get ["", "a", ""], .get ["", "a"]]).2
    = [.val none, .val none, .val (some 2), .val (some 3), .val (some 1), .val none, .val none] := by decide +kernel

/-- inserts that the code ignores: nil value, empty path, **one-segment path** -/
theorem tree_insert_one_segment (t : PT V) (s : Seg) (v : Option V) (p : Path) :
    insertArray t [s] v = (t, none) ∧ insertArray t [] v = (t, none) ∧ insertArray t p none = (t, none) := by
  refine ⟨?_, ?_, ?_⟩
  · cases v <;> rfl
  · cases v <;> rfl
  · rfl

/-- **finding**: Find after Insert fails for a path of one segment — nothing is stored -/
theorem finding_tree_one_segment :
    findArray (insertArray ({} : PT Nat) ["a"] (some 1)).1 ["a"] = none ∧
    findArray (insertArray ({} : PT Nat) ["*"] (some 1)).1 ["x"] = none := by
  decide +kernel

/-- Size(): never more than the number of ENTRYs of the tree … -/
theorem tree_size_le_nodes (t : PT V) (l : Log V) (h : Rep t l) : size t ≤ t.top.nodes := h.2.2.2.1

/-- **finding**: … but neither the number of stored paths nor a function of them: one path gives 3; the same two
    paths give 3 or 2 depending on the insertion order (the first ENTRY created below a leaf is not counted) -/
theorem finding_tree_size_not_paths : size (insertArray ({} : PT Nat) ["", "a", "b"] (some 1)).1 = 3 := by decide +kernel
theorem finding_tree_size_order :
    size (insertArray (insertArray ({} : PT Nat) ["", "a", "b"] (some 1)).1 ["", "a"] (some 2)).1 = 3 ∧
    size (insertArray (insertArray ({} : PT Nat) ["", "a"] (some 2)).1 ["", "a", "b"] (some 1)).1 = 2 ∧
    (insertArray (insertArray ({} : PT Nat) ["", "a"] (some 2)).1 ["", "a", "b"] (some 1)).1.top.nodes = 3 := by decide +kernel

/-- **finding**: the enumerator returned by Paths()/Values()/Entries() is never positioned on the tree: it yields
    nothing, whatever is stored -/
theorem finding_tree_enumeration (t : PT V) (all : List (Path × V)) :
    (enumerOf t).hasMore = false ∧ (enumerOf t).drain all = [] := ⟨rfl, rfl⟩

/-- what an enumeration of the structure would have to yield — every stored (path, value) exactly once — is well
    defined on the tree (`Tree.flatten`, pre-order) -/
theorem tree_flatten_complete (t : PT V) (l : Log V) (h : Rep t l) (p : Path) (v : V) :
    ((p, v) ∈ t.top.flatten [] ↔ l.get p = some v) ∧ ((t.top.flatten []).map (·.1)).Nodup := by
  refine ⟨?_, nodup_flatten _ h.1⟩
  rw [mem_flatten _ h.1]
  cases p with
  | nil => exact ⟨fun hl => (nomatch hl), fun hg => absurd rfl (stored_ne_nil h hg)⟩
  | cons a b => simp [lkP, h.2.1 a b]

/-- **finding**: Find commits to the first matching sibling: with /a/b/c and /a/*/d stored, /a/b/d is not found
    although the stored pattern /a/*/d matches it segment by segment -/
theorem finding_tree_no_backtracking :
    findArray (insertArray (insertArray ({} : PT Nat) ["", "a", "b", "c"] (some 1)).1 ["", "a", "*", "d"] (some 2)).1
      ["", "a", "b", "d"] = none ∧
    findArray (insertArray (insertArray ({} : PT Nat) ["", "a", "b", "c"] (some 1)).1 ["", "a", "*", "d"] (some 2)).1
      ["", "a", "x", "d"] = some 2 := by decide +kernel

end PathTree

end X01
