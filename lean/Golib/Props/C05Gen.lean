/-
  C05, tie A — obligations over the facts regenerated from the Go source on every run
  (lean/Golib/Gen/C05.lean, written by xlate/c05).  The constants and the hash table are compared with those of
  the *reference* (Golib.Wire.Reference / Hash), not with a copy.  The write steps of every function that puts
  bytes on the wire, with the bodies of their if / for statements, get a meaning from Golib/Wire/Steps.lean and
  are proved to mean the reference encoder for all field values (`…_is_reference`; the counter pack's helpers
  and sections are in C05GenCounter.lean).  The transcribed `Hash64` is proved to be `hash64`.
-/
import Golib.Wire.Decode
import Golib.Wire.Steps
import Golib.Wire.Route
import Golib.Gen.C05

namespace C05Gen
open Wire Prim

theorem pack_type_codes :
    Gen.C05.packTypes.map (fun t => (t.1, t.2.2)) =
      [("TagCountPack", typeTagCount), ("LogSinkPack", typeLogSink), ("TextPack", typeText),
       ("ParamPack", typeParameter), ("EventPack", typeEvent), ("ZipPack", typeZip),
       ("HitMapPack1", typeHitMap1), ("CounterPack1", typeCounter1)] := by decide

theorem pack_type_codes_fit : ∀ t ∈ Gen.C05.packTypes, t.2.2 < 32768 := by decide

theorem frame_source_version : Gen.C05.netSrc = netSrcOneWay ∧ Gen.C05.netVer = netSrcVersion := by decide

/-- both WriteHeader calls of the client pass the source and version constants (what else they pass
    — the pack's project code and the hash of the per-send or the client's license — is
    `makeData_is_reference` below) -/
theorem makeData_passes_constants :
    Gen.C05.makeDataHeaderConsts =
      [["netSrcAgentOneway", "netSrcAgentVersion"], ["netSrcAgentOneway", "netSrcAgentVersion"]] := by decide

theorem header_marker : Gen.C05.hdrMarkers = [hdrMarker] := by decide

theorem hash_table : Gen.C05.crcTable = crcTable.toList := by decide +kernel

theorem hitmap_length : Gen.C05.hitmapLength = hitMapLength := by decide

theorem event_keys :
    Gen.C05.eventKeys.map (fun kv => (kv.1, ascii kv.2)) =
      [("ESCALATION_KEY", keyEsca), ("UUID_KEY", keyUuid), ("STATUS_KEY", keyStatus), ("OTYPE_KEY", keyOtype)] := by
  decide

/-! ### the regenerated write steps mean the reference encoder, for all field values

  `xlate/c05` transcribes every statement that writes — including the bodies of if / for statements and the
  helper methods of the counter pack — into nested steps (Golib/Wire/Steps.lean).  A `Sem` says what each
  written Go expression holds in terms of the reference's pack (the correspondence *Go expression ↔ reference
  field* is the trusted part: a table of names), which reference predicate a condition is, and which
  reference list a loop visits.  Every theorem below is for all field values.  Unknown methods, expressions,
  conditions or loops evaluate to a poison byte / the empty collection, so an unrecognised shape fails the
  obligation instead of being skipped. -/

def S0 : Sem := ⟨poison, fun _ => .none, fun _ => false, fun _ => [], fun _ => poison⟩

def semHdr (h : Hdr) : Sem :=
  { S0 with env := fun a => match a with
    | "Pcode" => .i h.pcode
    | "Oid" => .i h.oid
    | "Okind" => .i h.okind
    | "Onode" => .i h.onode
    | "Time" => .i h.time
    | _ => .none }

theorem header_writer_is_reference (h : Hdr) :
    Gen.C05.hdrCond = "(this.Okind | this.Onode) == 0" ∧
    run (semHdr h) Gen.C05.steps_hdrShort = encHdrShort h ∧
    run (semHdr h) Gen.C05.steps_hdrExt = encHdrExt h := by
  refine ⟨by decide, ?_, ?_⟩
  · simp [Gen.C05.steps_hdrShort, run, interp, wr, semHdr, S0, encHdrShort]
  · simp [Gen.C05.steps_hdrExt, run, interp, wr, wrLit, semHdr, S0, encHdrExt, hdrMarker]

def semIntBytes (t : Bytes) : Sem :=
  { S0 with
    env := fun a => match a with
      | "_L0" => .raw t
      | "len(_L0)" => .i t.length
      | _ => .none
    cond := fun c => match c with
      | "_L0 == nil || len(_L0) == 0" => decide (t = [])
      | _ => false }

/-- `WriteIntBytes(t)` = 4-byte length, then the bytes — in both branches of its test for emptiness -/
theorem writeIntBytes_is_reference (t : Bytes) :
    run (semIntBytes t) Gen.C05.steps_WriteIntBytes = wr "WriteIntBytes" (.raw t) := by
  by_cases h : t = []
  · subst h
    simp [Gen.C05.steps_WriteIntBytes, run, interp, wr, wrLit, semIntBytes, S0]
  · simp [Gen.C05.steps_WriteIntBytes, run, interp, wr, semIntBytes, S0, h]

def semWriteHeader (src ver : Nat) (pcode hash : Int) (t : Bytes) : Sem :=
  { S0 with env := fun a => match a with
    | "_L0" => .n src
    | "_L1" => .n ver
    | "_L2" => .i pcode
    | "_L3" => .i hash
    | "_L4" => .raw t
    | _ => .none }

/-- `WriteHeader(src, ver, pcode, hash)` writes src, ver, be8 pcode, be8 hash and then, through
    `WriteIntBytes`, be4 |t| and t, where t is the saved previous content of the stream -/
theorem writeHeader_is_reference (src ver : Nat) (pcode hash : Int) (t : Bytes) :
    run (semWriteHeader src ver pcode hash t) Gen.C05.steps_WriteHeader = wrapHeader src ver pcode hash t ∧
    run (semWriteHeader src ver pcode hash t) Gen.C05.steps_WriteOneWayHeader = wrapHeader src ver pcode hash t := by
  constructor
  · simp [Gen.C05.steps_WriteHeader, run, interp, wr, semWriteHeader, S0, wrapHeader]
  · simp [Gen.C05.steps_WriteOneWayHeader, run, interp, wr, semWriteHeader, S0, wrapHeader]

theorem wrapHeader_is_frame (pcode : Int) (license pl : Bytes) :
    wrapHeader netSrcOneWay netSrcVersion pcode (hash64 license) pl = frame pcode license pl := by
  simp [wrapHeader, frame, netSrcOneWay, netSrcVersion]

/-- meaning of `makeData`: the pack type and the pack's own bytes are written, then one of two
    `WriteHeader` calls wraps them -/
def makeDataMeaning (S : Sem) (constN : String → Nat) (valI : String → Int) : List Step → Bytes
  | [s1, s2, .ite c [.wrapHeader [a0, a1, a2, a3]] [.wrapHeader [b0, b1, b2, b3]]] =>
    if S.cond c then wrapHeader (constN a0) (constN a1) (valI a2) (valI a3) (run S [s1, s2])
    else wrapHeader (constN b0) (constN b1) (valI b2) (valI b3) (run S [s1, s2])
  | _ => poison

def semMakeData (ty : Nat) (body optLic : Bytes) : Sem :=
  { S0 with
    env := fun a => match a with
      | "_L0.Pack.GetPackType()" => .i ty
      | "_L0.Pack" => .raw body
      | _ => .none
    cond := fun c => match c with
      | "_L1.License != \"\"" => decide (optLic ≠ [])
      | _ => false }

/-- the frame the client builds, for every pack type code, pack body, client license and per-send license:
    source and version are the extracted constants, the project code is the pack's, the hash is `hash64` of
    the per-send license when that is non-empty and of the client's license otherwise -/
theorem makeData_is_reference (ty : Nat) (hty : ty < 65536) (pcode : Int) (body optLic clientLic : Bytes) :
    makeDataMeaning (semMakeData ty body optLic)
      (fun n => match n with
        | "netSrcAgentOneway" => Gen.C05.netSrc
        | "netSrcAgentVersion" => Gen.C05.netVer
        | _ => 999)
      (fun v => match v with
        | "_L0.Pack.GetPCODE()" => pcode
        | "whash.Hash64Str(_L1.License)" => hash64 optLic
        | "whash.Hash64Str(this.License)" => hash64 clientLic
        | _ => 0)
      Gen.C05.steps_makeData
    = frame pcode (if optLic ≠ [] then optLic else clientLic) (payload ty body) := by
  have e := encI_of_lt 2 ty hty
  by_cases h : optLic = []
  · simp [Gen.C05.steps_makeData, makeDataMeaning, run, interp, wr, semMakeData, S0, h, Gen.C05.netSrc, Gen.C05.netVer,
      ← wrapHeader_is_frame, netSrcOneWay, netSrcVersion, payload, e]
  · simp [Gen.C05.steps_makeData, makeDataMeaning, run, interp, wr, semMakeData, S0, h, Gen.C05.netSrc, Gen.C05.netVer,
      ← wrapHeader_is_frame, netSrcOneWay, netSrcVersion, payload, e]

def semSecureHeader (src ver : Nat) (pcode oid key : Int) (t : Bytes) : Sem :=
  { S0 with env := fun a => match a with
    | "_L0" => .n src
    | "_L1" => .n ver
    | "_L2" => .i pcode
    | "_L3" => .i oid
    | "_L4" => .i key
    | "_L5" => .raw t
    | _ => .none }

/-- `WriteSecureHeader(src, ver, pcode, oid, key)`: the reference secure frame around the saved content -/
theorem writeSecureHeader_is_reference (src ver : Nat) (pcode oid key : Int) (t : Bytes) :
    run (semSecureHeader src ver pcode oid key t) Gen.C05.steps_WriteSecureHeader = secureFrame src ver pcode oid key t := by
  simp [Gen.C05.steps_WriteSecureHeader, run, interp, wr, semSecureHeader, S0, secureFrame]

/-! ### what a pack carries from one Write to the next (the tie-A half of the re-send clause)

  `C05.resend_frames_are_current_state` says the model's frames depend on the current public state only.  For the
  Go objects to behave like that, a pack must not keep encoded bytes between Writes.  Regenerated from the
  source: the unexported fields of the eight pack structs (and AbstractPack), those among them that could hold
  encoded bytes, the fields assigned inside Write (or a method Write calls on the receiver), and the
  package-level variables Write mentions.  As of today the only state a Write leaves behind is the tag hash of
  the two tag-hash packs — a number, which the model has as an input (`effTagHash`, `send_*_frame_condition`).
  A new cache field, a new assignment in Write or a package-level scratch buffer changes one of these lists. -/

theorem pack_state_unexported_fields :
    Gen.C05.packUnexportedFields = [("AbstractPack", []), ("TagCountPack", [("tagHash", "int64")]), ("LogSinkPack", []),
      ("TextPack", [("records", "[]TextRec")]), ("ParamPack", [("table", "*hmap.StringKeyLinkedMap")]), ("EventPack", []),
      ("ZipPack", []), ("HitMapPack1", []), ("CounterPack1", [])] := by decide

theorem pack_state_no_byte_cache : ∀ e ∈ Gen.C05.packByteHoldingFields, e.2 = [] := by decide

theorem pack_state_assigned_in_write :
    Gen.C05.packAssignedInWrite = [("AbstractPack", []), ("TagCountPack", ["tagHash"]), ("LogSinkPack", ["TagHash"]),
      ("TextPack", []), ("ParamPack", []), ("EventPack", []), ("ZipPack", []), ("HitMapPack1", []), ("CounterPack1", [])] := by
  decide

theorem pack_state_no_package_scratch : ∀ e ∈ Gen.C05.packPkgVarsInWrite, e.2 = [] := by decide

def semZip (p : Zip) : Sem :=
  { S0 with
    hdr := encHdr p.hdr
    env := fun a => match a with
      | "Status" => .n p.status
      | "RecordCount" => .i p.recordCount
      | "Records" => .b p.records
      | _ => .none }

theorem zip_writer_is_reference (p : Zip) : run (semZip p) Gen.C05.steps_ZipPack = encZip p := by
  simp [Gen.C05.steps_ZipPack, run, interp, wr, semZip, S0, encZip]

/-- tag-count pack.  Trusted in the `then` branch: the side buffer holds what was written to it (the encoded
    tag map) and `tagHash` holds `Hash64` of it after the assignment — the harness compares both on every pack. -/
def semTagCount (p : TagCount) : Sem :=
  { S0 with
    hdr := encHdr p.hdr
    env := fun a => match a with
      | "Category" => .b p.category
      | "tagHash" => .i (effTagHash p.tagHash p.tags)
      | "Tags" => .m p.tags
      | "Data" => .m p.data
      | "$side.ToByteArray()" => .raw (encMap p.tags)
      | _ => .none
    cond := fun c => match c with
      | "this.tagHash == 0 && this.Tags.Size() > 0" => decide (p.tagHash = 0 ∧ p.tags ≠ [])
      | _ => false }

theorem tagcount_writer_is_reference (p : TagCount) :
    run (semTagCount p) Gen.C05.steps_TagCountPack = encTagCount p := by
  simp only [Gen.C05.steps_TagCountPack, run, List.append_nil]
  rw [interp_ite_same]
  · simp only [run, List.append_nil, List.append_assoc]
    rfl
  · rfl

def semLogSink (p : LogSink) : Sem :=
  { S0 with
    hdr := encHdr p.hdr
    env := fun a => match a with
      | "Category" => .b p.category
      | "TagHash" => .i (effTagHash p.tagHash p.tags)
      | "Tags" => .m p.tags
      | "ResetTagHash()" => .raw (encMap p.tags)
      | "Line" => .i p.line
      | "Content" => .b p.content
      | "Fields" => .m p.fields
      | _ => .none
    cond := fun c => match c with
      | "this.TagHash == 0 && this.Tags.Size() > 0" => decide (p.tagHash = 0 ∧ p.tags ≠ [])
      | "this.Fields != nil && this.Fields.Size() > 0" => decide (p.fields ≠ [])
      | _ => false }

theorem logsink_writer_is_reference (p : LogSink) :
    run (semLogSink p) Gen.C05.steps_LogSinkPack = encLogSink p := by
  simp only [Gen.C05.steps_LogSinkPack, run, List.append_nil]
  rw [interp_ite_same, interp_ite]
  · simp only [run, List.append_nil, List.append_assoc]
    obtain ⟨hdr, cat, th, tags, line, content, fields⟩ := p
    cases fields <;> rfl
  · rfl

/-- tag-count pack, `then` branch: what goes to the side buffer is the encoded tag map — this is what the main
    stream then receives as `$side.ToByteArray()` — and `tagHash` is assigned `Hash64` of exactly those bytes
    (`hash64_is_reference`: that function is `hash64`).  With this, the two facts `semTagCount` takes about the
    branch are consequences of the regenerated steps, not assumptions. -/
theorem tagcount_side_buffer (p : TagCount) (h : p.tagHash = 0 ∧ p.tags ≠ []) :
    sideOf (semTagCount p) Gen.C05.steps_TagCountPack = encMap p.tags ∧
    (semTagCount p).env "$side.ToByteArray()" = .raw (sideOf (semTagCount p) Gen.C05.steps_TagCountPack) ∧
    Gen.C05.tagCountStores = "hash.Hash64(($side.ToByteArray()))" ∧
    (semTagCount p).env "tagHash" = .i (hash64 (sideOf (semTagCount p) Gen.C05.steps_TagCountPack)) := by
  have e : sideOf (semTagCount p) Gen.C05.steps_TagCountPack = encMap p.tags := by
    simp [Gen.C05.steps_TagCountPack, sideOf, sideI, wr, semTagCount, S0, h]
  refine ⟨e, ?_, by decide, ?_⟩
  · rw [e]; rfl
  · rw [e]; simp [semTagCount, S0, effTagHash, h]

/-- `LogSinkPack.ResetTagHash`: its stream receives the encoded tag map, it stores `Hash64` of that stream in
    `TagHash` and returns the stream — what `LogSinkPack.Write` copies after the hash -/
theorem resetTagHash_is_reference (p : LogSink) :
    run (semLogSink p) Gen.C05.steps_LogSinkPack_ResetTagHash = encMap p.tags ∧
    Gen.C05.resetTagHashReturns = "$.ToByteArray()" ∧
    Gen.C05.resetTagHashStores = "hash.Hash64(($.ToByteArray()))" ∧
    (semLogSink p).env "ResetTagHash()" = .raw (run (semLogSink p) Gen.C05.steps_LogSinkPack_ResetTagHash) := by
  have e : run (semLogSink p) Gen.C05.steps_LogSinkPack_ResetTagHash = encMap p.tags := by
    simp [Gen.C05.steps_LogSinkPack_ResetTagHash, run, interp, wr, semLogSink, S0]
  refine ⟨e, by decide, by decide, ?_⟩
  rw [e]; rfl

def semText (p : TextP) : Sem :=
  { S0 with
    hdr := encHdr p.hdr
    env := fun a => match a with
      | "len(this.records)" => .i p.records.length
      | _ => .none
    coll := fun n => match n with
      | "for _L0 := 0; _L0 < len(this.records); _L0++" => p.records.map (fun r a => match a with
          | "records[_L0].Div" => .n r.div
          | "records[_L0].Hash" => .i r.hash
          | "records[_L0].Text" => .b r.text
          | _ => .none)
      | _ => [] }

theorem text_writer_is_reference (p : TextP) : run (semText p) Gen.C05.steps_TextPack = encTextP p := by
  simp only [Gen.C05.steps_TextPack, run, List.append_nil]
  rw [interp_loop p.records _ encTextRec rfl fun _ => by simp only [run, List.append_nil]; rfl]
  rfl

def semParam (p : Param) : Sem :=
  { S0 with
    hdr := encHdr p.hdr
    env := fun a => match a with
      | "Id" => .i p.id
      | "Request" => .i p.request
      | "Response" => .i p.response
      | "table.Size()" => .i p.table.length
      | _ => .none
    coll := fun n => match n with
      | "for this.Keys().HasMoreElements()" => p.table.map (fun kv a => match a with
          | "Keys().NextString()" => .b kv.1
          | "table.Get(((this.Keys()).NextString())).(val.Value)" => .v kv.2
          | _ => .none)
      | _ => [] }

theorem param_writer_is_reference (p : Param) : run (semParam p) Gen.C05.steps_ParamPack = encParam p := by
  simp only [Gen.C05.steps_ParamPack, run, List.append_nil]
  rw [interp_loop p.table _ encParamEntry rfl fun _ => by simp only [run, List.append_nil]; rfl]
  rfl

/-- event pack: the `Attr.Put` statements fold uuid / escalation / status / type into the attribute map
    (`event_puts_are_reference`); the count byte and the loop write that map -/
def semEvent (e : Event) : Sem :=
  { S0 with
    hdr := encHdr e.hdr
    env := fun a => match a with
      | "Level" => .n e.level
      | "Title" => .b e.title
      | "Message" => .b e.message
      | "Attr.Size()" => .n (foldAttrs e).length
      | _ => .none
    cond := fun c => match c with
      | "this.Uuid != \"\"" => decide (e.uuid ≠ [])
      | "this.Escalation" => e.escalation
      | _ => false
    coll := fun n => match n with
      | "for _L0 := 0; _L0 < this.Attr.Size(); _L0++" => (foldAttrs e).map (fun kv a => match a with
          | "Attr.Entries().NextElement().(*hmap.StringKeyLinkedEntry).GetKey()" => .b kv.1
          | "Attr.Entries().NextElement().(*hmap.StringKeyLinkedEntry).GetValue().(string)" => .b kv.2
          | _ => .none)
      | _ => [] }

theorem event_writer_is_reference (e : Event) : run (semEvent e) Gen.C05.steps_EventPack = encEvent e := by
  simp only [Gen.C05.steps_EventPack, run, List.append_nil]
  rw [interp_loop (foldAttrs e) _ encAttrEntry rfl fun _ => by
    simp only [run, interp, Sem.withElem, List.append_nil]; rfl]
  simp only [interp, run, List.append_nil, ite_self, List.nil_append]
  rfl

/-- the key constant a `Put` names, through the extracted constants -/
def putKey (k : String) : Bytes := ascii ((Gen.C05.eventKeys.lookup k).getD "")

/-- the value a `Put` writes -/
def putVal (e : Event) (v : String) : Bytes :=
  match v with
  | "Uuid" => e.uuid
  | "\"true\"" => ascii "true"
  | "\"false\"" => ascii "false"
  | "fmt.Sprintf(\"%d\", this.Status)" => decText e.status
  | "fmt.Sprintf(\"%d\", this.Otype)" => decText e.otype
  | _ => poison

/-- executing the `Attr.Put` statements of `EventPack.Write` in their order (uuid only when set, escalation as
    "true"/"false", status and type as decimal text) on the user's attributes gives exactly the reference's
    folded attribute map — for all events -/
theorem event_puts_are_reference (e : Event) :
    (putsOf (semEvent e) Gen.C05.steps_EventPack).foldl (fun a kv => putAttr a (putKey kv.1) (putVal e kv.2)) e.attr
      = foldAttrs e := by
  obtain ⟨hdr, uuid, esc, level, title, msg, status, otype, attr⟩ := e
  cases uuid <;> cases esc <;> rfl

/-- `EventPack.Write` takes out of `Attr` again exactly the keys it puts there (frame condition of a send of an event:
    `C05.send_event_frame_condition`): the keys of its `Put` statements and of its `Remove` statements are the same set -/
theorem event_removes_what_it_puts :
    ∀ k, k ∈ Gen.C05.eventRemovedKeys ↔ k ∈ ["UUID_KEY", "ESCALATION_KEY", "STATUS_KEY", "OTYPE_KEY"] := by
  have h : Gen.C05.eventRemovedKeys = ["UUID_KEY", "ESCALATION_KEY", "STATUS_KEY", "OTYPE_KEY"] := by decide
  intro k; rw [h]

/-- … and those four are the keys of the `Put` statements (whatever the branch conditions) -/
theorem event_put_keys (e : Event) :
    ∀ kv ∈ putsOf (semEvent e) Gen.C05.steps_EventPack, kv.1 ∈ ["UUID_KEY", "ESCALATION_KEY", "STATUS_KEY", "OTYPE_KEY"] := by
  by_cases hu : e.uuid = [] <;> cases he : e.escalation <;>
    simp [Gen.C05.steps_EventPack, putsOf, semEvent, S0, hu, he]

def semHitMap (p : HitMap) : Sem :=
  { S0 with
    hdr := encHdr p.hdr
    coll := fun n => match n with
      | "for _L0 := 0; _L0 < HITMAP_LENGTH; _L0++" =>
        ((p.hit.take Gen.C05.hitmapLength).zip (p.error.take Gen.C05.hitmapLength)).map (fun c a => match a with
          | "Hit[_L0]" => .i c.1
          | "Error[_L0]" => .i c.2
          | _ => .none)
      | _ => [] }

theorem hitmap_writer_is_reference (p : HitMap) : run (semHitMap p) Gen.C05.steps_HitMapPack1 = encHitMap p := by
  simp only [Gen.C05.steps_HitMapPack1, run, List.append_nil]
  rw [interp_loop ((p.hit.take hitMapLength).zip (p.error.take hitMapLength)) _ cellC.enc rfl fun _ => by
    simp only [run, List.append_nil]; rfl, ← encCells_zip]
  rfl

theorem hash64_step_is_reference (crc b : Nat) (hc : crc < 18446744073709551616) (hb : b < 256) :
    evalH Gen.C05.hash64Step crc b = ((hash64Step crc b : Nat) : Int) := by
  simp only [Gen.C05.hash64Step, evalH]
  rw [u64_ofNat crc hc, convTo_uint64_ofNat b (by omega), u64_ofNat b (by omega), convTo_uint8_ofNat,
    u64_convTo_uint64, u64_wrap32 _ (crcTable_lt _ (Nat.mod_lt _ (by decide))), u64_ofNat _ (by omega)]
  rfl

theorem goFold_eq (bs : Bytes) (c : Nat) (hc : c < 18446744073709551616) (h : WFB bs) :
    bs.foldl (fun c b => u64 (evalH Gen.C05.hash64Step c b)) c = bs.foldl hash64Step c := by
  induction bs generalizing c with
  | nil => rfl
  | cons b bs ih =>
    have ⟨hb, hbs⟩ := WFB_cons.mp h
    simp only [List.foldl_cons]
    rw [hash64_step_is_reference c b hc hb, u64_ofNat _ (hash64Step_lt c b hc)]
    exact ih _ (hash64Step_lt c b hc) hbs

/-- the transcribed function — initial register, transcribed step over all bytes from first to last,
    transcribed final expression, return conversion — is the reference `hash64` -/
theorem hash64_is_reference (bs : Bytes) (h : WFB bs) :
    goHash64 Gen.C05.hash64Init Gen.C05.hash64Step Gen.C05.hash64Final Gen.C05.hash64Ret bs = hash64 bs := by
  unfold goHash64
  rw [goFold_eq bs _ (by decide) h]
  have hf := foldl_hash64Step_lt bs Gen.C05.hash64Init (by decide)
  simp only [Gen.C05.hash64Final, evalH, Gen.C05.hash64Ret]
  rw [u64_ofNat _ hf, u64_ofNat _ (by decide)]
  have hx : (List.foldl hash64Step Gen.C05.hash64Init bs ^^^ 18446744073709551615) < 18446744073709551616 :=
    Nat.xor_lt_two_pow (n := 64) hf (by decide)
  rw [convTo_int64_ofNat _ hx]
  rfl

/-- the loop visits every byte once, first to last (`for i := 0; i < len(bytes); i++`, element `bytes[i]`) -/
theorem hash64_loop_shape :
    Gen.C05.hash64Shape = ["sz := len(bytes)", "for i := 0; i < sz; i++", "elem bytes[i]"] := by decide

/-- `Hash64Str(s)` is `Hash64` of the bytes of `s` -/
theorem hash64Str_is_hash64_of_bytes : Gen.C05.hash64StrBody = "Hash64([]byte(_L0))" := by decide

example : goHash64 Gen.C05.hash64Init Gen.C05.hash64Step Gen.C05.hash64Final Gen.C05.hash64Ret (ascii "abcdefg")
    = 3463164852 := by decide +kernel

/-- **`SendFlush` in queue mode only enqueues** — for every client state, caller object and per-send license the
    regenerated statements of `SendFlush` mean the model's `send` step: a `TcpSend` carrying the caller's pack
    pointer, flush flag and options goes on the client's queue; there is no other statement (no call on the pack,
    no assignment through it): the pack reaches `makeData` as the caller handed it over. -/
theorem sendFlush_queue_branch_only_enqueues {σ : Type} (enc : Bytes → σ → Bytes) (after : σ → σ)
    (c : Queue.Client σ) (ref : Nat) (lic : Bytes) :
    sendFlushMeaning enc after true ref lic c Gen.C05.route_SendFlush = .enqueued (Queue.step enc after c (.send ref lic)) := by
  simp [Gen.C05.route_SendFlush, sendFlushMeaning, fieldOf]

/-- … and otherwise hands the same pack and the same options to `sendDirect` -/
theorem sendFlush_direct_branch {σ : Type} (enc : Bytes → σ → Bytes) (after : σ → σ)
    (c : Queue.Client σ) (ref : Nat) (lic : Bytes) :
    sendFlushMeaning enc after false ref lic c Gen.C05.route_SendFlush = .direct "_L1" "_L3..." := by
  simp [Gen.C05.route_SendFlush, sendFlushMeaning]

/-- `Send(p, opts...)` is `SendFlush(p, false, opts...)` -/
theorem send_is_sendFlush :
    (delegateMeaning Gen.C05.route_Send : RouteOutcome Unit) = .delegated "_L0.SendFlush" ["_L1", "false", "_L2..."] := by
  simp [Gen.C05.route_Send, delegateMeaning]

example : (sendFlushMeaning (fun _ (_ : Nat) => []) id true 3 [97] (Queue.Client.fresh [] (fun _ => 0)) Gen.C05.route_SendFlush
    matches .enqueued ⟨[], _, [⟨3, [97]⟩], []⟩) = true := by
  rw [sendFlush_queue_branch_only_enqueues]; rfl
end C05Gen
