/-
  Props.C15Gen — tie A: the Go source, regenerated as Lean data on every run (`Golib/Gen/C15.lean`,
  written by xlate/c15 with Go's own type checker), against the CodeModels of Props.C15.

  * constant tables and constants are equal to the model's (`decide`);
  * code: every transcribed block is given the semantics `GoSem` (Go's sized-integer arithmetic) and is
    proved to compute the arithmetic CodeModel **for all inputs**.  Each theorem below is
    `bridge ∘ canonical-form equality`: the bridge theorem (Golib/Hash/GoBridge*.lean) is about the
    hand-kept copy `GoModel`; the equality of canonical forms of the regenerated block and that copy is
    decided here; `GoSemProofs` proves that blocks with equal canonical forms compute the same values
    (inlining of temporaries, order of independent statements, operand order of `| & ^ + *`).
    For the one-line functions of util/bitutil the bridge is the rest of the proof itself.
-/
import Golib.Gen.C15
import Golib.Hash.GoBridgeHash
import Golib.Hash.GoBridgeHexa
import Golib.Hash.GoBridgeMurmur
import Golib.Hash.IpShape
import Golib.Hash.GoBridgeFull
import Golib.Hash.StrShape
import Golib.Hash.CrcProofs

namespace C15Gen
open GoSem GoBridge Gen.C15

/-- the translator met no construct it could not transcribe -/
theorem nothing_unknown : unknownCount = 0 := by decide

/-- **no hidden state**: no function of util/hash, util/hexa32, util/bitutil, util/iputil, hll/MurmurHash.go writes a
    package-level variable (assignment, increment or decrement, address taken, append/copy/delete, method call on it), and
    `stringutil.HashCode` touches none — so no result can depend on earlier calls (a cache breaks this by name) -/
theorem no_package_state_written :
    stateRefs.all (fun r => r.2.2.1 == "r" || (r.1 == "util/stringutil" && r.2.1 != "HashCode")) = true := by decide

/-- the only package-level variables of these packages are the two constant tables -/
theorem package_vars_tied :
    pkgVars.lookup "util/hash" = some ["table"] ∧ pkgVars.lookup "util/hexa32" = some ["digits"]
    ∧ pkgVars.lookup "util/bitutil" = some [] ∧ pkgVars.lookup "util/iputil" = some [] ∧ pkgVars.lookup "util/hll" = some [] := by
  decide

/-- **the caller's memory is never written**: no function of util/hash, util/hexa32, util/bitutil, util/iputil,
    hll/MurmurHash.go (nor `stringutil.HashCode`) stores through, appends to, copies into or takes the address of an element
    of a name that may alias one of its slice parameters (the parameters, and every local assigned from a slice expression or
    an `append` of one — a fixpoint).  `append(data[a:b], …)` is on the list because it writes into the spare capacity of the
    caller's array: a "pure" hash that pads its tail that way zeroes the bytes that follow the hashed region. -/
theorem no_argument_written :
    argWrites.all (fun r => r.1 == "util/stringutil" && r.2.1 != "HashCode") = true := by decide

/-- … and the only code outside these files that is ever handed (a slice of) a caller's slice is `io.ToInt`
    (read-only: C01's big-endian reader); every other receiver is a function of the same files, covered by
    `no_argument_written` -/
theorem argument_passed_tied :
    argPasses.all (fun r => r.2.2.1 == "local" || r.2.2.2 == "io.ToInt"
      || (r.1 == "util/stringutil" && r.2.1 != "HashCode")) = true := by decide

/-- the scan sees the property's functions: the hand-overs it is expected to report are reported -/
example : argPasses.contains ("util/hll", "MurmurHashLongByte", "local", "murmurHashLong") = true
    ∧ argPasses.contains ("util/iputil", "ToInt", "extern", "io.ToInt") = true := by decide

theorem table_tied : crcTable = Hash.table := by decide +kernel

theorem digits_tied : digits = Hexa32.digits.map Char.toNat := by decide +kernel

theorem hexa_constants_tied :
    plusChar = some 'x'.toNat ∧ minusChar = some 'z'.toNat
    ∧ toString32Texts.contains "z8000000000000" = true ∧ toLong32Texts.contains "z8000000000000" = true := by
  decide +kernel

theorem murmur_seeds_tied :
    murmur_MurmurHashByte_seed = some Murmur.defaultSeed
    ∧ murmur_MurmurHashLongByte_seed = some Murmur.defaultSeed := by decide +kernel

/-- the exported murmur entry points are one call each (parameters written `#k`, constants by value):
    `MurmurHash(o) = MurmurHashLong(uint64(o))` (model `Murmur.murmurU32`, `C15.murmurU32_ref`);
    `MurmurHashByte(data) = murmurHash(data, int32(len(data)), 0xe17a1465)` and `MurmurHashByteSeed(data, seed)` likewise — so the
    hypothesis `ρ 1 = data.length` of `murmurHash_full_tied` is what every exported caller passes;
    `MurmurHashLongByte(data, length) = murmurHashLong(data, length, 0xe17a1465)` hands the caller's `length` through
    (`Murmur.murmurLongByte`, `C15.murmurLongByte_prefix`) -/
theorem murmur_wrappers_tied :
    wrapcall_MurmurHash = ("MurmurHashLong", ["uint64(#0)"])
    ∧ wrapcall_MurmurHashByte = ("murmurHash", ["#0", "int32(len(#0))", "3782874213"])
    ∧ wrapcall_MurmurHashByteSeed = ("murmurHash", ["#0", "int32(len(#0))", "#1"])
    ∧ wrapcall_MurmurHashLongByte = ("murmurHashLong", ["#0", "#1", "3782874213"])
    ∧ Murmur.defaultSeed = 3782874213 := by decide +kernel

/-- the string forms call the byte forms: `HashStr(s) = Hash([]byte(s))`, `Hash64Str → Hash64`,
    `Hash64StrV2 → Hash64V2`, `GetLongHash(s) = if s == "" then 0 else Hash64v2([]byte(s))`
    (modelled as `Hash.hashStr := Hash.hash`, `Hash.getLongHash`) -/
theorem wrappers_tied :
    wrapper_HashStr = ("Hash", none) ∧ wrapper_Hash64Str = ("Hash64", none)
    ∧ wrapper_Hash64StrV2 = ("Hash64V2", none) ∧ wrapper_GetLongHash = ("Hash64v2", some 0) := by decide

/-! ### util/bitutil — every function, all inputs -/

open BitUtil

theorem composite64_tied (h l : Int) (hh : isI32 h) (hl : isI32 l) :
    call noArr fn_Composite64 [h, l] = composite64 h l := by
  rw [call_congr (g := GoModel.fn_Composite64) (by decide +kernel) (by decide +kernel)]
  have rh : inRange .i32 h := hh
  have rl : inRange .i32 l := hl
  go_call GoModel.fn_Composite64
  simp only [norm_of_inRange rh, norm_of_inRange rl, norm_of_inRange (inRange_mono rh : inRange .i64 h),
    norm_of_inRange (inRange_mono rl : inRange .i64 l)]
  exact shl_bor_low .i64 32 h l 4294967296 (by decide) (by decide) (by decide) (by decide)

theorem composite32_tied (h l : Int) (hh : isI16 h) (hl : isI16 l) :
    call noArr fn_Composite32 [h, l] = composite32 h l := by
  rw [call_congr (g := GoModel.fn_Composite32) (by decide +kernel) (by decide +kernel)]
  have rh : inRange .i16 h := hh
  have rl : inRange .i16 l := hl
  go_call GoModel.fn_Composite32
  simp only [norm_of_inRange rh, norm_of_inRange rl, norm_of_inRange (inRange_mono rh : inRange .i32 h),
    norm_of_inRange (inRange_mono rl : inRange .i32 l)]
  exact shl_bor_low .i32 16 h l 65536 (by decide) (by decide) (by decide) (by decide)

theorem composite16_tied (h l : Int) (hh : isU8 h) (hl : isU8 l) :
    call noArr fn_Composite16 [h, l] = composite16 h l := by
  rw [call_congr (g := GoModel.fn_Composite16) (by decide +kernel) (by decide +kernel)]
  have rh : inRange .u8 h := hh
  have rl : inRange .u8 l := hl
  go_call GoModel.fn_Composite16
  simp only [norm_of_inRange rh, norm_of_inRange rl, norm_of_inRange (inRange_mono rh : inRange .i16 h),
    norm_of_inRange (inRange_mono rl : inRange .i16 l)]
  exact shl_bor_low .i16 8 h l 256 (by decide) (by decide) (by decide) (by decide)

theorem setHigh64_tied (s h : Int) (hs : isI64 s) (hh : isI32 h) :
    call noArr fn_SetHigh64 [s, h] = setHigh64 s h := by
  rw [call_congr (g := GoModel.fn_SetHigh64) (by decide +kernel) (by decide +kernel)]
  have rs : inRange .i64 s := hs
  have rh : inRange .i32 h := hh
  go_call GoModel.fn_SetHigh64
  simp only [norm_of_inRange rs, norm_of_inRange rh, norm_of_inRange (inRange_mono rh : inRange .i64 h)]
  rw [evalOp_comm .bor .i64 _ _ (Or.inl rfl), setHigh64, Int.add_comm]
  exact shl_bor_low .i64 32 h s 4294967296 (by decide) (by decide) (by decide) (by decide)

theorem setLow64_tied (s l : Int) (hs : isI64 s) (hl : isI32 l) :
    call noArr fn_SetLow64 [s, l] = setLow64 s l := by
  rw [call_congr (g := GoModel.fn_SetLow64) (by decide +kernel) (by decide +kernel)]
  have rs : inRange .i64 s := hs
  have rl : inRange .i32 l := hl
  have em : norm .i64 18446744069414584320 = -4294967296 := by decide
  go_call GoModel.fn_SetLow64
  simp only [em, norm_of_inRange rs, norm_of_inRange rl, norm_of_inRange (inRange_mono rl : inRange .i64 l)]
  rw [band_high32 s rs]
  unfold isI64 at hs
  exact bor_band_low .i64 32 _ l 4294967296 (by decide) (by decide) (by decide) (by decide) (by omega)
    ⟨by simp only [Ty.half]; omega, by simp only [Ty.half, Ty.modulus]; omega⟩

theorem getHigh64_tied (k : Int) (hk : isI64 k) : call noArr fn_GetHigh64 [k] = getHigh64 k := by
  rw [call_congr (g := GoModel.fn_GetHigh64) (by decide +kernel) (by decide +kernel)]
  have rk : inRange .i64 k := hk
  have em : norm .i32 4294967295 = -1 := by decide
  have e : evalOp .shr .i64 k 32 = k / 4294967296 := rfl
  go_call GoModel.fn_GetHigh64
  rw [em, band_neg_one, norm_of_inRange rk, e]
  unfold getHigh64 wrap32
  simp only [go_arith]
  omega

theorem getLow64_tied (k : Int) (hk : isI64 k) : call noArr fn_GetLow64 [k] = getLow64 k := by
  rw [call_congr (g := GoModel.fn_GetLow64) (by decide +kernel) (by decide +kernel)]
  have rk : inRange .i64 k := hk
  have em : norm .i32 4294967295 = -1 := by decide
  go_call GoModel.fn_GetLow64
  rw [em, band_neg_one, norm_of_inRange rk]
  unfold getLow64 wrap32
  simp only [go_arith]
  omega

theorem getHigh32_tied (k : Int) (hk : isI32 k) : call noArr fn_GetHigh32 [k] = getHigh32 k := by
  rw [call_congr (g := GoModel.fn_GetHigh32) (by decide +kernel) (by decide +kernel)]
  have rk : inRange .i32 k := hk
  have em : norm .i16 65535 = -1 := by decide
  have e : evalOp .shr .i32 k 16 = k / 65536 := rfl
  go_call GoModel.fn_GetHigh32
  rw [em, band_neg_one, norm_of_inRange rk, e]
  unfold getHigh32 wrap16
  simp only [go_arith]
  omega

theorem getLow32_tied (k : Int) (hk : isI32 k) : call noArr fn_GetLow32 [k] = getLow32 k := by
  rw [call_congr (g := GoModel.fn_GetLow32) (by decide +kernel) (by decide +kernel)]
  have rk : inRange .i32 k := hk
  go_call GoModel.fn_GetLow32
  rw [norm_of_inRange rk, band_low .i32 16 k _ 65536 (by decide) (by decide) (by decide) (by decide)]
  rfl

theorem getHigh16_tied (k : Int) (hk : isI16 k) : call noArr fn_GetHigh16 [k] = getHigh16 k := by
  rw [call_congr (g := GoModel.fn_GetHigh16) (by decide +kernel) (by decide +kernel)]
  have rk : inRange .i16 k := hk
  go_call GoModel.fn_GetHigh16
  rw [norm_of_inRange rk, band_low .i16 8 _ _ 256 (by decide) (by decide) (by decide) (by decide)]
  unfold getHigh16
  simp only [go_arith, Int.reduceToNat, Int.reducePow]
  omega

theorem getLow16_tied (k : Int) (hk : isI16 k) : call noArr fn_GetLow16 [k] = getLow16 k := by
  rw [call_congr (g := GoModel.fn_GetLow16) (by decide +kernel) (by decide +kernel)]
  have rk : inRange .i16 k := hk
  go_call GoModel.fn_GetLow16
  rw [norm_of_inRange rk, band_low .i16 8 k _ 256 (by decide) (by decide) (by decide) (by decide)]
  unfold getLow16
  simp only [go_arith]
  omega

example : isI32 (-1) ∧ isI64 (-5) := by unfold isI32 isI64; decide

/-! ### util/hash — whole functions: guard, prelude, `for` header (as a `while` loop), body, final block -/

/-- **`Hash(bytes)`**, nil or not: `crc := 0xffffffff; sz := len(bytes); for i := 0; i < sz; i++ { … }; crc ^= …;
    return int32(crc)` — every block regenerated from the source and interpreted by `GoSem` — is `Hash.hash`,
    hence CRC-32 (IEEE) of the bytes by `C15.hash_is_crc32`.  No hypothesis on the start environment. -/
theorem hash_full_tied (o : Option Bytes) (hw : WFB (o.getD [])) (hl : (o.getD []).length < 4611686018427387904) (ρ : Env) (e : Nat) :
    callWhile (hashArrsO o) loop_Hash.pre loop_Hash.init loop_Hash.cond loop_Hash.post loop_Hash.body loop_Hash.after
      ((o.getD []).length + 1 + e) ρ = Hash.hash (o.getD []) :=
  hash_full_bridge _ _ _ _ _ _ ⟨by decide +kernel, by decide +kernel, by decide +kernel, by decide +kernel,
    by decide +kernel, by decide +kernel⟩ o hw hl ρ e

theorem hash64_full_tied (o : Option Bytes) (hw : WFB (o.getD [])) (hl : (o.getD []).length < 4611686018427387904) (ρ : Env) (e : Nat) :
    callWhile (hashArrsO o) loop_Hash64.pre loop_Hash64.init loop_Hash64.cond loop_Hash64.post loop_Hash64.body
      loop_Hash64.after ((o.getD []).length + 1 + e) ρ = Hash.hash64 (o.getD []) :=
  hash64_full_bridge _ _ _ _ _ _ ⟨by decide +kernel, by decide +kernel, by decide +kernel, by decide +kernel,
    by decide +kernel, by decide +kernel⟩ o hw hl ρ e

/-- the regenerated `Hash` computes CRC-32 (IEEE) of the bytes, read as int32 — the property's first clause,
    stated about the regenerated code -/
theorem hash_crc32_tied (o : Option Bytes) (hw : WFB (o.getD [])) (hl : (o.getD []).length < 4611686018427387904) (ρ : Env) (e : Nat) :
    callWhile (hashArrsO o) loop_Hash.pre loop_Hash.init loop_Hash.cond loop_Hash.post loop_Hash.body loop_Hash.after
      ((o.getD []).length + 1 + e) ρ = Hash.toI32 (Hash.crc32 (o.getD [])) := by
  rw [hash_full_tied o hw hl ρ e]
  unfold Hash.hash
  rw [Hash.hashU_eq_crc32 _ hw]

/-- the regenerated table is the CRC-32 table: entry `i` = eight shift/xor steps of `i` with 0xEDB88320 -/
theorem crc_table_generated_tied : crcTable = (List.range 256).map Hash.crcEntry := by
  rw [table_tied]; exact Hash.table_eq_entries

/-- `Hash64v2` including `if bytes == nil { return 0 }` (`none` is the nil slice) -/
theorem hash64v2_full_tied (o : Option Bytes) (hw : WFB (o.getD [])) (hl : (o.getD []).length < 4611686018427387904)
    (ρ : Env) (e : Nat) :
    callWhile (hashArrsO o) loop_Hash64v2.pre loop_Hash64v2.init loop_Hash64v2.cond loop_Hash64v2.post loop_Hash64v2.body
      loop_Hash64v2.after ((o.getD []).length + 1 + e) ρ = Hash.hash64v2 o :=
  hash64v2_full_bridge _ _ _ _ _ _ ⟨by decide +kernel, by decide +kernel, by decide +kernel, by decide +kernel,
    by decide +kernel, by decide +kernel⟩ o hw hl ρ e

/-- `Hash64V2` including `if sz := len(bytes); sz == 0 { return 0 } else { … }` -/
theorem hash64V2_full_tied (o : Option Bytes) (hw : WFB (o.getD [])) (hl : (o.getD []).length < 4611686018427387904)
    (ρ : Env) (e : Nat) :
    callWhile (hashArrsO o) loop_Hash64V2.pre loop_Hash64V2.init loop_Hash64V2.cond loop_Hash64V2.post loop_Hash64V2.body
      loop_Hash64V2.after ((o.getD []).length + 1 + e) ρ = Hash.hash64V2 o :=
  hash64V2_full_bridge _ _ _ _ _ _ ⟨by decide +kernel, by decide +kernel, by decide +kernel, by decide +kernel,
    by decide +kernel, by decide +kernel⟩ o hw hl ρ e

/-- hence the two regenerated v2 implementations agree on every input -/
theorem hash64v2_agree_tied (o : Option Bytes) (hw : WFB (o.getD [])) (hl : (o.getD []).length < 4611686018427387904)
    (ρ ρ' : Env) (e : Nat) :
    callWhile (hashArrsO o) loop_Hash64v2.pre loop_Hash64v2.init loop_Hash64v2.cond loop_Hash64v2.post loop_Hash64v2.body
      loop_Hash64v2.after ((o.getD []).length + 1 + e) ρ
    = callWhile (hashArrsO o) loop_Hash64V2.pre loop_Hash64V2.init loop_Hash64V2.cond loop_Hash64V2.post
      loop_Hash64V2.body loop_Hash64V2.after ((o.getD []).length + 1 + e) ρ' := by
  rw [hash64v2_full_tied o hw hl ρ e, hash64V2_full_tied o hw hl ρ' e]
  exact Hash.hash64v2_agree o

/-- `HashAddr`: `switch len(src) { case 4: c := ToInt(src); return int64(c)*int64(c)  case 8: return ToLong(src)
    default: return int64(Hash(src)) }`; the three calls are pseudo-variables 1, 3, 4 holding the callees' results -/
theorem hashAddr_tied (src : Bytes) (hw : WFB src) (ρ : Env)
    (h1 : ρ 1 = (Hash.toInt src).getD 0) (h3 : ρ 3 = (Hash.toLong src).getD 0) (h4 : ρ 4 = Hash.hash src) :
    retVal (runRet (bufArrs src) ρ fn_HashAddr.body) = Hash.hashAddr src :=
  hashAddr_bridge _ (by decide +kernel) src hw ρ h1 h3 h4

/-- which identifier numbers stand for the three calls (`#0` is the parameter `src`) -/
theorem hashAddr_calls_tied :
    fn_HashAddr.names.lookup "ToInt(#0)" = some 1 ∧ fn_HashAddr.names.lookup "ToLong(#0)" = some 3
    ∧ fn_HashAddr.names.lookup "Hash(#0)" = some 4 := by decide

/-- `stringutil.HashCode`, whole function with its `for i := 0; i < len(s); i++` -/
theorem hashCode_full_tied (bs : Bytes) (hw : WFB bs) (hl : bs.length < 4611686018427387904) (ρ : Env) (e : Nat) :
    callWhile (strArrs bs) loop_HashCode.pre loop_HashCode.init loop_HashCode.cond loop_HashCode.post loop_HashCode.body
      loop_HashCode.after (bs.length + 1 + e) ρ = StrHash.hashCode bs :=
  hashCode_full_bridge _ _ _ _ _ _ (by decide +kernel) (by decide +kernel) (by decide +kernel) (by decide +kernel)
    (by decide +kernel) (by decide +kernel) (by decide +kernel) bs hw hl ρ e

example : WFB ((some [104, 105] : Option Bytes).getD []) := by decide

/-! ### util/hexa32 — `to_long` and `to_str`, whole functions -/

/-- the closure `findc` -/
theorem findc_tied (c : Char) : call noArr fn_findc [(c.toNat : Int)] = Hexa32.findc c := by
  have h : fn_findc.params = GoModel.fn_findc.params ∧ normStmts fn_findc.body = normStmts GoModel.fn_findc.body := by
    decide +kernel
  rw [← findc_bridge c]
  unfold call
  rw [h.1, (normStmts_eq h.2 noArr _).2]

/-- `to_long`: prelude (`result`, `limit = -MaxInt64`, `multmin = limit/32`), per character
    `digit := findc(…)` and the guarded loop body, final `-result` — is `Hexa32.toLong`, for every text
    (the closure through `findc_tied`: a changed `findc` breaks that theorem first) -/
theorem toLong_tied (ρ : Env) (cs : List Char) :
    goToLong noArr fn_findc loop_to_long.body loop_to_long.after (runEnv noArr ρ loop_to_long.pre) cs
      = Hexa32.toLong cs :=
  toLong_fn_bridge fn_findc loop_to_long.pre loop_to_long.body loop_to_long.after
    findc_tied (by decide +kernel) (by decide +kernel) (by decide +kernel) ρ cs

/-- the character loop of `to_long` is `for i := 0; i < len(s); i++` (compared as text; its meaning is the
    recursion over the characters in `GoBridge.goToLong`) -/
theorem toLong_header_tied : loop_to_long.header = ["#1 := 0", "#1 < len(#0)", "#1++"] := by decide

/-- `to_str(v)`: `radix := 32`, `i = -i`, the digit loop on the negated value (condition, stored digit,
    `i = i / radix`), the last digit — is `Hexa32.toStr v`, for every `0 ≤ v ≤ MaxInt64` -/
theorem toStr_tied (v : Int) (hv : 0 ≤ v ∧ v ≤ Hexa32.maxInt64) (ρ : Env) (h0 : ρ 0 = v) (fuel : Nat) (hf : v.natAbs ≤ fuel) :
    goToStrLoop hexaArrs loop_to_str.cond loop_to_str.body loop_to_str.post loop_to_str.after (fuel + 1)
      (runEnv hexaArrs (runEnv hexaArrs ρ loop_to_str.pre) loop_to_str.init) [] = Hexa32.toStr v :=
  toStr_fn_bridge _ _ _ _ _ _ (by decide +kernel) (by decide +kernel) (by decide +kernel) (by decide +kernel)
    (by decide +kernel) (by decide +kernel) v hv ρ h0 fuel hf

example : (0 : Int) ≤ 35 ∧ (35 : Int) ≤ Hexa32.maxInt64 := by decide

/-! ### util/hexa32 — the top level: `ToString32`, `ToLong32` and the bijection, all from regenerated code -/

/-- `to_str(v)` as regenerated and interpreted -/
def goToStrF (v : Int) : List Char :=
  goToStrLoop hexaArrs loop_to_str.cond loop_to_str.body loop_to_str.post loop_to_str.after (v.natAbs + 1)
    (runEnv hexaArrs (runEnv hexaArrs (upd (fun _ => 0) 0 v) loop_to_str.pre) loop_to_str.init) []

/-- `to_long(s)` as regenerated and interpreted -/
def goToLongF (cs : List Char) : Int :=
  goToLong noArr fn_findc loop_to_long.body loop_to_long.after (runEnv noArr (fun _ => 0) loop_to_long.pre) cs

/-- **`ToString32(num)`** — sign test, the MinInt64 literal, `"z" + to_str(-num)`, `strconv.Itoa` for 0..9,
    `"x" + to_str(num)`, with `to_str` the regenerated function — is `Hexa32.toString32`, on all of int64 -/
theorem toString32_full_tied (n : Int) (hn : Hexa32.minInt64 ≤ n ∧ n ≤ Hexa32.maxInt64) (A : Arrays) (ρ : Env) (h0 : ρ 0 = n) :
    StrShape.evalT goToStrF ρ A tree_ToString32 = Hexa32.toString32 n := by
  have e : tree_ToString32 = GoModel.tree_ToString32 := by decide +kernel
  rw [e]
  exact StrShape.toString32_bridge goToStrF
    (fun v h0 h1 => toStr_tied v ⟨h0, h1⟩ _ (by simp [upd]) _ (Nat.le_refl _)) A ρ n h0 hn.1 hn.2

/-- **`ToLong32(str)`** — empty text, first byte `z` / `x`, the MinInt64 literal, `-1 * to_long(str[1:])`,
    `strconv.Atoi` otherwise, with `to_long` the regenerated function — is `Hexa32.toLong32`, on every text -/
theorem toLong32_full_tied (s : List Char) : StrShape.evalD goToLongF s tree_ToLong32 = Hexa32.toLong32 s := by
  have e : tree_ToLong32 = GoModel.tree_ToLong32 := by decide +kernel
  rw [e]
  exact StrShape.toLong32_bridge goToLongF (fun t => toLong_tied _ t) s

/-- **the identifier encoding is a bijection on int64, stated about the regenerated code**: decoding (regenerated
    `ToLong32`) the encoding (regenerated `ToString32`) of any 64-bit integer returns it — MinInt64 and both signs included -/
theorem hexa_bijection_tied (n : Int) (hn : Hexa32.minInt64 ≤ n ∧ n ≤ Hexa32.maxInt64) (A : Arrays) (ρ : Env) (h0 : ρ 0 = n) :
    StrShape.evalD goToLongF (StrShape.evalT goToStrF ρ A tree_ToString32) tree_ToLong32 = n := by
  rw [toString32_full_tied n hn A ρ h0, toLong32_full_tied]
  exact Hexa32.toLong32_toString32 n hn.1 hn.2

example : Hexa32.minInt64 ≤ Hexa32.minInt64 ∧ Hexa32.minInt64 ≤ Hexa32.maxInt64 := by decide

/-! ### util/hll — MurmurHashLong and murmurHash, whole functions -/

theorem murmurHashLong_fn_tied (d : Nat) (hd : d < 18446744073709551616) :
    call noArr fn_MurmurHashLong [(d : Int)] = ((Murmur.murmurLong d : Nat) : Int) := by
  rw [call_congr (g := GoModel.fn_MurmurHashLong) (by decide +kernel) (by decide +kernel)]
  exact murmurLong_bridge d hd

/-- `murmurHash(data, len(data), seed)` with its header `for i := 0; i < int(len_4); i++` interpreted: prelude,
    loop, tail and avalanche — is `Murmur.murmur32 data seed` (Props.C15: the exact relation to MurmurHash2).
    `ρ 1`, `ρ 2` are the arguments `length`, `seed`. -/
theorem murmurHash_full_tied (data : Bytes) (hw : WFB data) (seed : Nat) (hs : seed < 4294967296)
    (hl : data.length < 2147483648) (ρ : Env) (h1 : ρ 1 = (data.length : Int)) (h2 : ρ 2 = (seed : Int)) (e : Nat) :
    callWhile (dataArrs data) loop_murmurHash.pre loop_murmurHash.init loop_murmurHash.cond loop_murmurHash.post
      loop_murmurHash.body loop_murmurHash.after (data.length / 4 + 1 + e) ρ = ((Murmur.murmur32 data seed : Nat) : Int) :=
  murmur32_full_bridge _ _ _ _ _ _ (by decide +kernel) (by decide +kernel) (by decide +kernel) (by decide +kernel)
    (by decide +kernel) (by decide +kernel) (by decide +kernel) data hw seed hs hl ρ h1 h2 e

/-- … which is the published MurmurHash2 of the input with its last `len % 4` bytes reversed -/
theorem murmurHash_ref_tied (data : Bytes) (hw : WFB data) (seed : Nat) (hs : seed < 4294967296)
    (hl : data.length < 2147483648) (ρ : Env) (h1 : ρ 1 = (data.length : Int)) (h2 : ρ 2 = (seed : Int)) (e : Nat) :
    callWhile (dataArrs data) loop_murmurHash.pre loop_murmurHash.init loop_murmurHash.cond loop_murmurHash.post
      loop_murmurHash.body loop_murmurHash.after (data.length / 4 + 1 + e) ρ
      = ((Murmur.Ref.murmurHash2 (Murmur.swapTail data) seed : Nat) : Int) := by
  rw [murmurHash_full_tied data hw seed hs hl ρ h1 h2 e, Murmur.murmur32_eq_ref_swapTail data seed hw]

/-- `murmurHashLong(data, len(data), seed)` (behind `MurmurHashLongByte`): prelude, `for i := 0; i < int(length8); i++`,
    the fall-through `switch` on `length % 8`, avalanche — is `Murmur.murmur64 data seed` = MurmurHash64A -/
theorem murmurHashLong64_full_tied (data : Bytes) (hw : WFB data) (seed : Nat) (hs : seed < 4294967296)
    (hl : data.length < 2147483648) (ρ : Env) (h1 : ρ 1 = (data.length : Int)) (h2 : ρ 2 = (seed : Int)) (e : Nat) :
    callWhile (dataArrs data) loop_murmurHashLong.pre loop_murmurHashLong.init loop_murmurHashLong.cond
      loop_murmurHashLong.post loop_murmurHashLong.body loop_murmurHashLong.after (data.length / 8 + 1 + e) ρ
      = ((Murmur.murmur64 data seed : Nat) : Int) :=
  murmur64_full_bridge _ _ _ _ _ _ (by decide +kernel) (by decide +kernel) (by decide +kernel) (by decide +kernel)
    (by decide +kernel) (by decide +kernel) (by decide +kernel) data hw seed hs hl ρ h1 h2 e

/-- the regenerated `murmurHashLong` is the published MurmurHash64A -/
theorem murmurHashLong64_ref_tied (data : Bytes) (hw : WFB data) (seed : Nat) (hs : seed < 4294967296)
    (hl : data.length < 2147483648) (ρ : Env) (h1 : ρ 1 = (data.length : Int)) (h2 : ρ 2 = (seed : Int)) (e : Nat) :
    callWhile (dataArrs data) loop_murmurHashLong.pre loop_murmurHashLong.init loop_murmurHashLong.cond
      loop_murmurHashLong.post loop_murmurHashLong.body loop_murmurHashLong.after (data.length / 8 + 1 + e) ρ
      = ((Murmur.Ref.murmurHash64A data seed : Nat) : Int) := by
  rw [murmurHashLong64_full_tied data hw seed hs hl ρ h1 h2 e, Murmur.murmur64_eq_ref data seed hw]

theorem toInt_tied (a b c d : Nat) (rest : Bytes) (ha : a < 256) (hb : b < 256) (hc : c < 256) (hd : d < 256) :
    some (call (bufArrs (a :: b :: c :: d :: rest)) fn_ToInt []) = Hash.toInt (a :: b :: c :: d :: rest) := by
  rw [call_congr (g := GoModel.fn_ToInt) (by decide +kernel) (by decide +kernel)]
  simp only [go_run, GoModel.fn_ToInt, bufArrs]
  simp only [if_true, Nat.reduceEqDiff, if_false, Int.reduceToNat, List.map_cons, List.getD_cons_zero, List.getD_cons_succ]
  rw [retVal_some]
  simp only [evalOp, Int.ofNat_eq_natCast, norm_i32_byte _ ha, norm_i32_byte _ hb, norm_i32_byte _ hc, norm_i32_byte _ hd,
    Int.reduceToNat, Int.reducePow, Int.mul_one, Hash.toInt, norm_i32_wrap]
  simp only [w32_l, w32_r, w32_i]

theorem toLong_bytes_tied (a b c d e f g h : Nat) (rest : Bytes) (ha : a < 256) (hb : b < 256) (hc : c < 256)
    (hd : d < 256) (he : e < 256) (hf : f < 256) (hg : g < 256) (hh : h < 256) :
    some (call (bufArrs (a :: b :: c :: d :: e :: f :: g :: h :: rest)) fn_ToLong [])
      = Hash.toLong (a :: b :: c :: d :: e :: f :: g :: h :: rest) := by
  rw [call_congr (g := GoModel.fn_ToLong) (by decide +kernel) (by decide +kernel)]
  simp only [go_run, GoModel.fn_ToLong, bufArrs]
  simp only [if_true, Int.reduceToNat, List.map_cons, List.getD_cons_zero, List.getD_cons_succ]
  rw [retVal_some]
  simp only [evalOp, Int.ofNat_eq_natCast, norm_i64_byte _ ha, norm_i64_byte _ hb, norm_i64_byte _ hc, norm_i64_byte _ hd,
    norm_i64_byte _ he, norm_i64_byte _ hf, norm_i64_byte _ hg, norm_i64_byte _ hh,
    Int.reduceToNat, Int.reducePow, Int.mul_one, Hash.toLong, norm_i64_wrap]
  simp only [w64_l, w64_r]

/-! ### util/iputil — the shape of ToString / ToBytes, interpreted -/

/-- the sequence of buffer writes of `ToString` and its empty-slice text, interpreted by
    `IpShape.toStringOf`, is `IpUtil.toString` on every slice -/
theorem ipToString_tied (ip : Bytes) :
    IpShape.toStringOf ipToString_pieces ipToString_empty ip = IpUtil.toString ip := by
  have h : ipToString_pieces = [.octet 0, .text ".", .octet 1, .text ".", .octet 2, .text ".", .octet 3]
      ∧ ipToString_empty = "0.0.0.0" := by decide
  rw [h.1, h.2]; exact IpShape.toStringOf_model ip

/-- separator, part count, loop bound, mask and default bytes of `ToBytes`, interpreted by
    `IpShape.toBytesOf`, give `IpUtil.toBytes` on every text -/
theorem ipToBytes_tied (s : List Char) :
    IpShape.toBytesOf ipToBytes_sep ipToBytes_count ipToBytes_bound ipToBytes_mask ipToBytes_default s
      = IpUtil.toBytes s := by
  have h : ipToBytes_sep = "." ∧ ipToBytes_count = 4 ∧ ipToBytes_bound = 4 ∧ ipToBytes_mask = 255
      ∧ ipToBytes_default = [0, 0, 0, 0] := by decide
  rw [h.1, h.2.1, h.2.2.1, h.2.2.2.1, h.2.2.2.2]; exact IpShape.toBytesOf_model s

/-! ### non-vacuity: the hypotheses of the ties above are met by concrete inputs -/

example : callWhile (hashArrsO (some [104, 105])) loop_Hash.pre loop_Hash.init loop_Hash.cond loop_Hash.post loop_Hash.body
    loop_Hash.after 3 (fun _ => 0) = Hash.hash [104, 105] :=
  hash_full_tied (some [104, 105]) (by decide) (by decide) (fun _ => 0) 0

example : callWhile (hashArrsO none) loop_Hash64v2.pre loop_Hash64v2.init loop_Hash64v2.cond loop_Hash64v2.post
    loop_Hash64v2.body loop_Hash64v2.after 1 (fun _ => 7) = 0 :=
  hash64v2_full_tied none (by decide) (by decide) (fun _ => 7) 0

example : callWhile (dataArrs [1, 2, 3]) loop_murmurHash.pre loop_murmurHash.init loop_murmurHash.cond loop_murmurHash.post
    loop_murmurHash.body loop_murmurHash.after 1 (upd (upd (fun _ => 0) 1 3) 2 7) = ((Murmur.murmur32 [1, 2, 3] 7 : Nat) : Int) :=
  murmurHash_full_tied [1, 2, 3] (by decide) 7 (by decide) (by decide) _ (by simp [upd]) (by simp [upd]) 0

example (A : Arrays) : StrShape.evalD goToLongF (StrShape.evalT goToStrF (upd (fun _ => 0) 0 Hexa32.minInt64) A tree_ToString32)
    tree_ToLong32 = Hexa32.minInt64 :=
  hexa_bijection_tied Hexa32.minInt64 (by decide) A _ (by simp [upd])

example (src : Bytes) (hw : WFB src) :
    retVal (runRet (bufArrs src)
      (upd (upd (upd (fun _ => 0) 1 ((Hash.toInt src).getD 0)) 3 ((Hash.toLong src).getD 0)) 4 (Hash.hash src))
      fn_HashAddr.body) = Hash.hashAddr src :=
  hashAddr_tied src hw _ (by simp [upd]) (by simp [upd]) (by simp [upd])

end C15Gen
