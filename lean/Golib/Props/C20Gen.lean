/-
  Property C20, tie A — the bodies of `Equals` / `CompareTo` that `xlate/c20` regenerates from
  lang/value and util/compare on every run (Golib/Gen/C20.lean), *interpreted* by the semantics of
  Golib/Value/CmpIR.lean, compute the model's `cmpV` / `eqV` for all inputs.

  So the flat part of the model is not compared with the code by the harness only: the transcribed
  code itself is proved equal to it.  A changed constant (1 ↔ -1), a swapped `<`, another field,
  another helper, a byte-typed fallback, an `Equals` that no longer checks the type — each changes
  the generated body, and the table fact that reads it no longer checks: `cmpBodies_ok` / `eqBodies_ok`
  for the flat types, `contCmp_ok` / `contEq_ok` for the containers (each says that the entry of every
  type is the method of its kind; that such a method computes the model is proved for any record:
  `runCmp_of_OK`, `runEq_of_scheme`, `runContCmp_of_OK`, `runContEq_of_OK`).  The three container types
  and the slice helpers are interpreted as well (Golib/Value/CmpIRC.lean: `container_compareTo_agree`,
  `source_determines_cmp`, `numeric_helpers_are_cmpSeq`); their golden skeletons
  (`container_skeletons_agree`, `helper_skeletons_agree`) are kept next to those.
-/
import Golib.Gen.C20
import Golib.Value.CmpIRLaws
import Golib.Value.CmpIRCLaws

namespace C20Gen
open Value Value.IR

/-- the transcribed `CompareTo` of the value's own type -/
def genCmp (a b : Value) : Option Int :=
  (lookup Gen.C20.cmpBodies (ctorOf a).typeName).bind (fun fc => runCmp fc a b)

def genEq (a b : Value) : Option Bool :=
  (lookup Gen.C20.eqBodies (ctorOf a).typeName).bind (fun e => runEq e a b)

/-- the table holds, for every flat type, a `CompareTo` with the type guard, the int fallback and the body
    of the type's kind -/
theorem cmpBodies_ok : Ctor.all.all (fun c => (cmpScheme c).isNone ||
    (lookup Gen.C20.cmpBodies c.typeName).any (flatCmpOK c)) = true := by decide +kernel

/-- … and the `Equals` of the type's kind -/
theorem eqBodies_ok : Ctor.all.all (fun c => (eqScheme c).isNone ||
    lookup Gen.C20.eqBodies c.typeName == eqScheme c) = true := by decide +kernel

/-- every flat type, any two values (same or different types): the interpreted source body of
    `CompareTo` returns what the model returns -/
theorem compareTo_bodies_agree (a b : Value) (hf : isFlat a = true) : genCmp a b = some (cmpV a b) := by
  rw [cmpV_flat a b hf]
  have h := List.all_eq_true.mp cmpBodies_ok (ctorOf a) (all_complete _)
  rw [cmpScheme_flat a hf, Bool.false_or] at h
  unfold genCmp
  cases hl : lookup Gen.C20.cmpBodies (ctorOf a).typeName with
  | none => rw [hl] at h; cases h
  | some fc => rw [hl] at h; exact runCmp_of_OK fc a b h

/-- … and the interpreted source body of `Equals` -/
theorem equals_bodies_agree (a b : Value) (hf : isFlat a = true) : genEq a b = some (eqV a b) := by
  rw [eqV_flat a b hf]
  have h := List.all_eq_true.mp eqBodies_ok (ctorOf a) (all_complete _)
  rw [eqScheme_flat a hf, Bool.false_or, beq_iff_eq] at h
  unfold genEq
  cases he : eqScheme (ctorOf a) with
  | none => have := eqScheme_flat a hf; rw [he] at this; cases this
  | some e => rw [h, he]; exact runEq_of_scheme e a b he

/-- every flat `CompareTo` answers 1 to a nil argument and falls back on the int difference of the type codes -/
theorem fallbacks_are_int :
    Gen.C20.cmpBodies.all (fun e => e.2.fallback == "intSub" && e.2.nilRet == 1) = true := by decide

/-- exactly the seventeen flat types have bodies (a new value type would show up here) -/
theorem flat_types_complete :
    Gen.C20.cmpBodies.length = 17 ∧ Gen.C20.eqBodies.length = 17 ∧
    Gen.C20.eqBodies.map (·.1) = Gen.C20.cmpBodies.map (·.1) := by decide

/-- list / map / int-map: nil, type fallback, size difference, the loop along the receiver, plain
    assertion on the receiver's entry and comma-ok on the other's (D04), missing ⇒ 1 / false,
    recursion, first non-zero / first unequal, 0 / true at the end -/
theorem container_skeletons_agree : Gen.C20.containers = containerSkeletons := by decide

/-- util/compare: the slice helpers are the plain loop the model's `lexBy (cmpOf lt)` describes -/
theorem helper_skeletons_agree : Gen.C20.helpers = helperSkeletons := by decide


/-! ### the container methods and the slice helpers, interpreted (CmpIRC.lean)

The loops of `ListValue / MapValue / IntMapValue . Equals / CompareTo` are transcribed statement by
statement (nil test, type fallback, size test, `for i …` over the receiver's slice with `that.table[i]`
or `keys := this.Keys()` with `that.table.Get(key)`, plain or comma-ok assertion on the other's entry,
`if v2 == nil`, the recursive call, the final return) and interpreted with the calls on the children
as a parameter `rec`.  With `rec := cmpV` the interpretation returns `cmpV` — the model satisfies the
transcribed equations — and it is the only function that does (`source_determines_cmp / _eq`). -/

/-- the transcribed `CompareTo` of a container type; `rec` stands for the calls on the children -/
def genContCmp (rec : Value → Value → Int) (a b : Value) : Option Int :=
  (lookup Gen.C20.contCmp (ctorOf a).typeName).bind (fun cc => runContCmp cc rec a b)

def genContEq (rec : Value → Value → Bool) (a b : Value) : Option Bool :=
  (lookup Gen.C20.contEq (ctorOf a).typeName).bind (fun ce => runContEq ce rec a b)

/-- the table holds, for the three container types, a `CompareTo` with the standard fields -/
theorem contCmp_ok : [Ctor.list, .map, .imap].all (fun c =>
    (lookup Gen.C20.contCmp c.typeName).any (contCmpOK c)) = true := by decide +kernel

theorem contEq_ok : [Ctor.list, .map, .imap].all (fun c =>
    (lookup Gen.C20.contEq c.typeName).any (contEqOK c)) = true := by decide +kernel

/-- list / map / int map against any value: the interpreted source of `CompareTo`, with the model
    for the recursive calls, returns what the model returns (type fallback, size difference, the walk
    along the receiver, 1 for a key the other map lacks, first non-zero child result, 0) -/
theorem container_compareTo_agree (a b : Value) (hf : isFlat a = false) :
    genContCmp cmpV a b = some (cmpV a b) := by
  have h := List.all_eq_true.mp contCmp_ok (ctorOf a) (ctorOf_cont a hf)
  unfold genContCmp
  cases hl : lookup Gen.C20.contCmp (ctorOf a).typeName with
  | none => rw [hl] at h; cases h
  | some cc => rw [hl] at h; exact runContCmp_of_OK cc a b hf h

/-- … and of `Equals` -/
theorem container_equals_agree (a b : Value) (hf : isFlat a = false) :
    genContEq eqV a b = some (eqV a b) := by
  have h := List.all_eq_true.mp contEq_ok (ctorOf a) (ctorOf_cont a hf)
  unfold genContEq
  cases hl : lookup Gen.C20.contEq (ctorOf a).typeName with
  | none => rw [hl] at h; cases h
  | some ce => rw [hl] at h; exact runContEq_of_OK ce a b hf h

/-- one unfolding of the whole transcribed `CompareTo` (all twenty types) -/
def genStepCmp (rec : Value → Value → Int) (a b : Value) : Option Int :=
  if isFlat a then genCmp a b else genContCmp rec a b

def genStepEq (rec : Value → Value → Bool) (a b : Value) : Option Bool :=
  if isFlat a then genEq a b else genContEq rec a b

/-- the model satisfies the equations read off the source, for every pair of values of every type -/
theorem model_satisfies_source (a b : Value) :
    genStepCmp cmpV a b = some (cmpV a b) ∧ genStepEq eqV a b = some (eqV a b) := by
  cases hf : isFlat a
  · simp [genStepCmp, genStepEq, hf, container_compareTo_agree a b hf, container_equals_agree a b hf]
  · simp [genStepCmp, genStepEq, hf, compareTo_bodies_agree a b hf, equals_bodies_agree a b hf]

theorem genStepCmp_congr (f g : Value → Value → Int) (a b : Value)
    (h : ∀ x ∈ kids a, ∀ w, f x w = g x w) : genStepCmp f a b = genStepCmp g a b := by
  unfold genStepCmp genContCmp
  split
  · rfl
  · cases lookup Gen.C20.contCmp (ctorOf a).typeName with
    | none => rfl
    | some cc => simp [Option.bind, runContCmp_congr cc f g a b h]

theorem genStepEq_congr (f g : Value → Value → Bool) (a b : Value)
    (h : ∀ x ∈ kids a, ∀ w, f x w = g x w) : genStepEq f a b = genStepEq g a b := by
  unfold genStepEq genContEq
  split
  · rfl
  · cases lookup Gen.C20.contEq (ctorOf a).typeName with
    | none => rfl
    | some ce => simp [Option.bind, runContEq_congr ce f g a b h]

/-- … and it is the only function that does: whatever satisfies the transcribed `CompareTo`
    (terminating on every pair, i.e. never panicking) is `cmpV`.  Nesting depth is unbounded. -/
theorem source_determines_cmp (f : Value → Value → Int)
    (h : ∀ a b, genStepCmp f a b = some (f a b)) : ∀ a b, f a b = cmpV a b :=
  fix_unique genStepCmp genStepCmp_congr f cmpV h fun a b => (model_satisfies_source a b).1

theorem source_determines_eq (f : Value → Value → Bool)
    (h : ∀ a b, genStepEq f a b = some (f a b)) : ∀ a b, f a b = eqV a b :=
  fix_unique genStepEq genStepEq_congr f eqV h fun a b => (model_satisfies_source a b).2

/-- the other map's entry is read with the comma-ok form in all four map methods (D04 repaired);
    a nil argument gives 0 / false -/
theorem container_assertions :
    Gen.C20.contCmp.all (fun e => e.2.nilRet == 0 && e.2.fallback == "intSub" && e.2.sizeCheck &&
      (e.2.iter == "index" || e.2.thatCommaOk)) = true ∧
    Gen.C20.contEq.all (fun e => e.2.guard && e.2.sizeCheck && (e.2.iter == "index" || e.2.thatCommaOk)) = true := by
  decide

/-! ### util/compare, interpreted: the six numeric slice helpers are `cmpSeq`, `CompareToStrings`
    is `cmpStrs`, every `EqualX` is `CompareToX(…) == 0` — for all element orders and all inputs -/

/-- the table holds the fourteen helpers: six `<` / `>` loops, the `strings.Compare` loop, and seven zero tests -/
theorem helperBodies_ok :
    (∀ h ∈ ["CompareToBytes", "CompareToShorts", "CompareToInts", "CompareToLongs", "CompareToFloats", "CompareToDoubles"],
      lookup Gen.C20.helperBodies h = some (.loop "both" [.ifGt 1, .ifLt (-1)] "lenDiff")) ∧
    lookup Gen.C20.helperBodies "CompareToStrings" = some (.loop "both" [.cmp3Nonzero] "lenDiff") ∧
    (∀ p ∈ [("EqualBytes", "CompareToBytes"), ("EqualShorts", "CompareToShorts"), ("EqualInts", "CompareToInts"),
        ("EqualLongs", "CompareToLongs"), ("EqualFloats", "CompareToFloats"), ("EqualDoubles", "CompareToDoubles"),
        ("EqualStrings", "CompareToStrings")],
      lookup Gen.C20.helperBodies p.1 = some (.eqZero p.2)) := by decide +kernel

theorem numeric_helpers_are_cmpSeq {α : Type} (lt : α → α → Bool) (c : α → α → Int) (xs ys : List α) :
    ∀ h ∈ ["CompareToBytes", "CompareToShorts", "CompareToInts", "CompareToLongs", "CompareToFloats", "CompareToDoubles"],
      runHelperCmp Gen.C20.helperBodies h lt c xs ys = some (cmpSeq lt xs ys) := fun h hm => by
  rw [runHelperCmp_loop _ h _ (helperBodies_ok.1 h hm), runHLoop_ltgt]

theorem string_helper_is_cmpStrs (lt : Bytes → Bytes → Bool) (xs ys : List Bytes) :
    runHelperCmp Gen.C20.helperBodies "CompareToStrings" lt cmpStr xs ys = some (cmpStrs xs ys) := by
  rw [runHelperCmp_loop _ _ _ helperBodies_ok.2.1, runHLoop_cmp3]; rfl

theorem equal_helpers_are_zero_tests {α : Type} (lt : α → α → Bool) (c : α → α → Int) (xs ys : List α) :
    ∀ p ∈ [("EqualBytes", "CompareToBytes"), ("EqualShorts", "CompareToShorts"), ("EqualInts", "CompareToInts"),
        ("EqualLongs", "CompareToLongs"), ("EqualFloats", "CompareToFloats"), ("EqualDoubles", "CompareToDoubles"),
        ("EqualStrings", "CompareToStrings")],
      runHelperEq Gen.C20.helperBodies p.1 lt c xs ys = (runHelperCmp Gen.C20.helperBodies p.2 lt c xs ys).map (· == 0) :=
  fun p hm => runHelperEq_eqZero _ _ _ (helperBodies_ok.2.2 p hm) lt c xs ys

/-- wherever the semantics of a flat body calls a helper by name (`helperCmp`, CmpIR.lean), the
    transcribed body of that helper computes the same on the two payloads -/
theorem helper_bodies_agree (h f : String) (a b : Value) (r : Int) (hr : helperCmp h f a b = some r) :
    payloadCmp Gen.C20.helperBodies h a b = some r := by
  unfold helperCmp at hr
  split at hr <;> cases hr
  all_goals
    simp only [payloadCmp]
    first | exact numeric_helpers_are_cmpSeq _ _ _ _ _ (by simp) | exact string_helper_is_cmpStrs _ _ _

theorem helper_eq_bodies_agree (h f : String) (a b : Value) (r : Bool) (hr : helperEq h f a b = some r) :
    payloadEq? Gen.C20.helperBodies h a b = some r := by
  unfold helperEq at hr
  have key : ∀ p ∈ [("EqualBytes", "CompareToBytes"), ("EqualShorts", "CompareToShorts"), ("EqualInts", "CompareToInts"),
      ("EqualLongs", "CompareToLongs"), ("EqualFloats", "CompareToFloats"), ("EqualDoubles", "CompareToDoubles"),
      ("EqualStrings", "CompareToStrings")], ∀ r', helperCmp p.2 f a b = some r' →
      payloadEq? Gen.C20.helperBodies p.1 a b = some (r' == 0) := fun p hm r' h1 => by
    rw [payloadEq?_eqZero _ _ _ (helperBodies_ok.2.2 p hm), helper_bodies_agree _ f a b r' h1]; rfl
  split at hr
  case h_6 => cases hr
  all_goals
    obtain ⟨r', h1, rfl⟩ := Option.map_eq_some_iff.mp hr
    exact key (_, _) (by simp) r' h1

/-! non-vacuity -/
example : genCmp (.dec 3) (.dec 5) = some 1 := (compareTo_bodies_agree _ _ rfl).trans (by decide +kernel)
example : genCmp (.lsum 5 1 0 0) (.lsum 5 2 9 9) = some 1 := (compareTo_bodies_agree _ _ rfl).trans (by decide +kernel)
example : genEq (.text [1]) (.blob [1]) = some false := (equals_bodies_agree _ _ rfl).trans (by decide +kernel)
example : genContCmp cmpV (.list [.dec 1, .list [.dec 3]]) (.list [.dec 1, .list [.dec 5]]) = some 1 :=
  (container_compareTo_agree _ _ rfl).trans (by decide +kernel)
example : genContCmp cmpV (.map [([97], .null)]) (.map [([98], .null)]) = some 1 :=      -- D04/D08: missing key
  (container_compareTo_agree _ _ rfl).trans (by decide +kernel)
example : genContEq eqV (.imap [(1, .dec 1), (2, .null)]) (.imap [(2, .null), (1, .dec 1)]) = some true :=
  (container_equals_agree _ _ rfl).trans (by decide +kernel)
example : genStepCmp cmpV (.list []) (.dec 0) = some 50 := (model_satisfies_source _ _).1.trans (by decide +kernel)
example : payloadCmp Gen.C20.helperBodies "CompareToBytes" (.blob [1, 2]) (.blob [1, 3]) = some (-1) :=
  helper_bodies_agree "CompareToBytes" "Val" _ _ _ (by decide +kernel)
example : helperCmp "CompareToStrings" "Val" (.at [[1]]) (.at [[1], [2]]) = some (-1) := by decide +kernel
example : helperEq "EqualInts" "Val" (.ai [1]) (.ai [1]) = some true := by decide +kernel

end C20Gen
