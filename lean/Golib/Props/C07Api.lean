/-
  Property C07 — what the masking writes *exactly* (the token-level `mask_password` does not
  exclude a rewriting that damages the key and keeps the value), streams of packs in one buffer, and the
  remaining exported functions of the anchor files (ParamKV accessors, the setter whose value travels as text).

  The one-pass and two-pass masking theorems are proved in Golib.Udp.MaskExact; the others here.  The model functions
  of Golib.Udp.Api are run by the driver (ops V, I, H, C, WS, RS) and compared in harness stage `api`.
-/
import Golib.Props.C07
import Golib.Udp.MaskExact
import Golib.Udp.Api

namespace Udp
open Layout Prim

/-- **any sequence of packs** (any types, any versions, any receiving packs) written one after the
    other is read back one after the other: each reader consumes exactly its own pack's bytes, the
    packs come out as `post`, and what follows the last pack is left untouched -/
theorem stream_roundtrip (items : List (PackT × Int × Rec × Rec)) (rest : Bytes)
    (h : ∀ i ∈ items, WF i.1.layout i.2.1 i.2.2.1 i.2.2.2) :
    P.run (readStream (items.map fun i => (i.1, i.2.1, i.2.2.2)))
        (writeStream (items.map fun i => (i.1, i.2.1, i.2.2.1)) ++ rest)
      = some (items.map fun i => post i.1.layout i.2.1 i.2.2.1 i.2.2.2, rest) := by
  induction items with
  | nil => simp [readStream, writeStream]
  | cons i r ih =>
    obtain ⟨t, ver, x, st⟩ := i
    have h1 := h (t, ver, x, st) (by simp)
    simp only [List.map_cons, readStream, writeStream, List.append_assoc]
    rw [P.run_bind_some _ _ _ _ _ (Layout.roundtrip t.layout ver x st _ h1)]
    rw [P.run_bind_some _ _ _ _ _ (ih (fun j hj => h j (by simp [hj])))]
    rfl

end Udp

namespace C07
open Udp Udp.Layout Prim

/-! ### masking, exactly

`mask_password` is token-level: a rewriting that damages the key instead of replacing the value
(`password=word` ↦ `pass#=word`, the value located by searching the token for its text) satisfies it
and keeps the password.  The statements below say what the result *is*. -/

/-- the token-level statement alone does not exclude a damaged key: `"host=db1 pass#=word"` is leak-free -/
theorem leakFree_is_token_level :
    leakFree [104, 111, 115, 116, 61, 100, 98, 49, 32, 112, 97, 115, 115, 35, 61, 119, 111, 114, 100] := by
  unfold leakFree; decide +kernel

/-- **`ParamKV.ToStringStr`, exactly**: `NewParamKVSeperate(s, c, "=").ToStringStr(key, val)` on plain
    tokens joined by `c` (blank or semicolon) writes every keyed token as `key=value'` with `value'` =
    `val` for the key asked for and the value of the *last* token with that key otherwise (Go map);
    tokens with an empty key are copied; nothing else changes (any number of tokens, repeated keys,
    any `key`/`val`) -/
theorem tostringstr_exact (c : Nat) (hc : c = 32 ∨ c = 59) (key val : Bytes) (toks : List Tok) (hne : toks ≠ [])
    (h : ∀ u ∈ toks, PlainTok u) :
    maskPass c key val (renderGrp c toks) = renderGrp c (toks.map (substTok key val toks)) :=
  Udp.maskPass_exact c hc key val toks hne h

/-- **both passes of Process(), exactly**, on a string with one kind of separator whose first key is
    not `password` (a first key `password` makes the other pass cut the string to `password=#`);
    blank-joined: the tokens with the first token's key have non-empty values (`k= b=1` is glued to
    `k=b=1` by TrimSpace — not a leak, but not this shape) -/
theorem mask_exact_uniform (c : Nat) (hc : c = 32 ∨ c = 59) (t : Tok) (r : List Tok) (h : ∀ u ∈ t :: r, PlainTok u)
    (hk : t.1 ≠ kwPassword) (hfirst : c = 32 → ∀ u ∈ t :: r, u.1 = t.1 → u.2 ≠ []) :
    maskDbc (renderGrp c (t :: r)) = renderGrp c ((t :: r).map (substTok kwPassword kwHash (t :: r))) :=
  Udp.maskDbc_uniform c hc t r h hk hfirst

/-- **the masking replaces the password value and nothing else**: pairwise distinct keys, one kind of
    separator, first key not `password`, any version of a masking family: `password=v` becomes
    `password=#` for *any* plain `v` — also a piece of the word `password` — and every other token
    stays byte for byte -/
theorem mask_exact_distinct (ver : Int) (hv : masksAt ver = true) (c : Nat) (hc : c = 32 ∨ c = 59)
    (t : Tok) (r : List Tok) (h : ∀ u ∈ t :: r, PlainTok u) (hn : ((t :: r).map (·.1)).Nodup)
    (hk : t.1 ≠ kwPassword) (hfirst : c = 32 → t.2 ≠ []) :
    processDbc ver (renderGrp c (t :: r)) = renderGrp c ((t :: r).map maskTok) := by
  unfold processDbc
  rw [hv]; simp only [if_true]
  rw [maskDbc_uniform c hc t r h hk]
  · congr 1
    apply List.map_congr_left
    intro u hu
    rw [substTok_nodup _ _ _ hn u hu kw_ne_nil]; rfl
  · intro hc32 u hu huk
    have : u = t := by
      have h1 := lastValOf_nodup (t :: r) hn u hu
      have h2 := lastValOf_nodup (t :: r) hn t (by simp)
      rw [huk] at h1
      -- same key in a list with distinct keys: same token
      have : u.2 = t.2 := by rw [← h1, ← h2]
      exact Prod.ext huk this
    rw [this]; exact hfirst hc32

/-- pack level: Dbc after Process() of the three connection-string packs is the masked string -/
theorem process_masks_exactly (p : PackT) (hp : p = UdpTxSqlPack ∨ p = UdpTxSqlParamPack ∨ p = UdpTxDbcPack)
    (ver : Int) (hv : masksAt ver = true) (st : Rec) (c : Nat) (hc : c = 32 ∨ c = 59)
    (t : Tok) (r : List Tok) (h : ∀ u ∈ t :: r, PlainTok u) (hn : ((t :: r).map (·.1)).Nodup)
    (hk : t.1 ≠ kwPassword) (hfirst : c = 32 → t.2 ≠ [])
    (hd : st "Dbc" = .str (renderGrp c (t :: r))) :
    ∃ st', p.process ver st = some st' ∧ st' "Dbc" = .str (renderGrp c ((t :: r).map maskTok)) := by
  obtain ⟨st', hpr, hdbc⟩ := Udp.process_dbc p hp ver st ⟨_, hd⟩
  refine ⟨st', hpr, ?_⟩
  rw [hdbc, hd]
  exact congrArg _ (mask_exact_distinct ver hv c hc t r h hn hk hfirst)

/-- non-vacuity, on the shape the token-level statement misses: `"host=db1 user=app password=word dbname=x"`
    satisfies the hypotheses (the password is a piece of its own key) … -/
example : (∀ u ∈ [(([104, 111, 115, 116], [100, 98, 49]) : Tok), ([117, 115, 101, 114], [97, 112, 112]),
      (kwPassword, [119, 111, 114, 100]), ([100, 98, 110, 97, 109, 101], [120])], PlainTok u) ∧
    ([(([104, 111, 115, 116], [100, 98, 49]) : Tok), ([117, 115, 101, 114], [97, 112, 112]),
      (kwPassword, [119, 111, 114, 100]), ([100, 98, 110, 97, 109, 101], [120])].map (·.1)).Nodup := by
  unfold PlainTok; decide +kernel
/-- … and comes out as `"host=db1 user=app password=# dbname=x"`, for blanks and for semicolons -/
example : ∀ c ∈ [32, 59], processDbc 50100 (renderGrp c [([104, 111, 115, 116], [100, 98, 49]), ([117, 115, 101, 114], [97, 112, 112]),
      (kwPassword, [119, 111, 114, 100]), ([100, 98, 110, 97, 109, 101], [120])]) =
    renderGrp c [([104, 111, 115, 116], [100, 98, 49]), ([117, 115, 101, 114], [97, 112, 112]),
      (kwPassword, kwHash), ([100, 98, 110, 97, 109, 101], [120])] := by decide +kernel
/-- repeated keys: the last value wins (`x=2 x=1` ↦ `x=1 x=1`), `password=password` ↦ `password=#` -/
example : maskPass 32 kwPassword kwHash (renderGrp 32 [([120], [50]), ([120], [49]), (kwPassword, kwPassword)]) =
    renderGrp 32 [([120], [49]), ([120], [49]), (kwPassword, kwHash)] := by decide +kernel

/-- `ParamKV.ExistsKey` / `GetValue` on plain tokens: whether a token has the key; the value of the last one -/
theorem paramkv_getvalue (c : Nat) (hc : c = 32 ∨ c = 59) (key : Bytes) (toks : List Tok) (hne : toks ≠ [])
    (h : ∀ u ∈ toks, PlainTok u) (hk : key ≠ []) :
    existsKey c key (renderGrp c toks) = toks.any (fun u => u.1 == key) ∧
    getValue c key (renderGrp c toks) = lastValOf key toks := by
  have hsplit := splitOn_renderGrp c hc toks hne h
  have hne0 : key.isEmpty = false := by simpa using hk
  have hex : existsKey c key (renderGrp c toks) = toks.any (fun u => u.1 == key) := by
    unfold existsKey
    rw [hsplit, hne0, ← List.isSome_find?, ← List.isSome_find?, find_render key toks h, Option.isSome_map]; rfl
  refine ⟨hex, ?_⟩
  unfold getValue
  rw [hex, hsplit]
  cases ha : toks.any (fun u => u.1 == key)
  · simp only [Bool.false_eq_true, if_false]
    rcases lastValOf_spec key toks with ⟨u, hu, huk, _⟩ | ⟨_, he⟩
    · have : toks.any (fun u => u.1 == key) = true := List.any_eq_true.mpr ⟨u, hu, by simp [huk]⟩
      rw [ha] at this; cases this
    · exact he.symm
  · simp only [if_true]
    exact lookupLast_render key toks h

example : getValue 59 [120] (renderGrp 59 [([120], [50]), ([121], []), ([120], [49])]) = [49] ∧
    existsKey 59 [122] (renderGrp 59 [([120], [50]), ([121], []), ([120], [49])]) = false := by decide +kernel

/-! ### streams of packs -/

/-- **streams**: any sequence of packs — any types, versions, receiving packs — written one after the
    other into one buffer (`WritePack` … `WritePack`) and read one after the other from one reader
    (`ReadPack` … `ReadPack`): every reader consumes exactly its own pack's bytes, every pack comes out as
    `post` (hence `udp_restores` for each), the bytes after the last pack are untouched.  `items` =
    (type, version, pack written, receiving pack). -/
theorem udp_stream_roundtrip (items : List (PackT × Int × Rec × Rec)) (rest : Bytes)
    (h : ∀ i ∈ items, WF i.1.layout i.2.1 i.2.2.1 i.2.2.2) :
    P.run (readStream (items.map fun i => (i.1, i.2.1, i.2.2.2)))
        (writeStream (items.map fun i => (i.1, i.2.1, i.2.2.1)) ++ rest)
      = some (items.map fun i => post i.1.layout i.2.1 i.2.2.1 i.2.2.2, rest) :=
  Udp.stream_roundtrip items rest h

/-- non-vacuity: the example end pack at two versions in one stream, into a pooled and into a new pack -/
example : ∀ i ∈ [(UdpTxEndPack, (50101 : Int), exEnd, UdpTxEndPack.clearedRec), (UdpTxEndPack, 50100, exEnd, UdpTxEndPack.freshRec)],
    WF i.1.layout i.2.1 i.2.2.1 i.2.2.2 := by
  intro i hi
  simp only [List.mem_cons, List.not_mem_nil, or_false] at hi
  rcases hi with rfl | rfl <;> exact WF_of_wfB _ _ _ _ (by decide +kernel)

/-! ### setters -/

/-- `UdpTxEndPack.SetMcallerUrlHash(v)` followed by Process(): the hash is `v` wherever the code parses it
    (every int32; the decimal text is what the wire carries) -/
theorem set_caller_hash_process (ver : Int) (st : Rec) (v : Int) (hv : inRange 4 v) (ha : endHashActive ver = true) :
    ∃ st', UdpTxEndPack.process ver (setMcallerUrlHash v st) = some st' ∧ st' "McallerUrlHash" = .int v :=
  process_caller_hash ver _ v hv ha (by simp [setMcallerUrlHash, Rec.set])

/-! ### the masking families over their whole range (seeded change C07-r8-2)

`Write` / `Read` of every pack take the Go branch for every version above 50000 and the PHP branch for
every version up to 20000; `Process()` must mask on exactly those versions — not only from the first
gate of the family (50100, 10101 …) on. -/

/-- `Process()` masks at a version iff the family ladder of `Write` / `Read` puts it in the Go family
    (above 50000 — also 50001 … 50099, below the first Go gate) or the PHP family (up to 20000) -/
theorem mask_family_iff (ver : Int) : masksAt ver = true ↔ (50000 < ver ∨ ver ≤ 20000) := by
  unfold masksAt
  simp only [Bool.or_eq_true, decide_eq_true_eq, gt_iff_lt]

/-- the whole families: every Go and every PHP version masks -/
theorem mask_whole_families (ver : Int) (h : 50000 < ver ∨ ver ≤ 20000) : masksAt ver = true :=
  (mask_family_iff ver).2 h

/-- **Process() never leaves a password value, for every version of the Go and PHP families** as the
    family ladder delimits them (the hypothesis is on the version itself, not on `masksAt`) -/
theorem process_no_password_whole_families (t : PackT)
    (ht : t = UdpTxSqlPack ∨ t = UdpTxSqlParamPack ∨ t = UdpTxDbcPack)
    (ver : Int) (hfam : 50000 < ver ∨ ver ≤ 20000) (st : Rec) (tok : Tok) (rest : List (Nat × Tok))
    (htok : PlainTok tok) (hrest : ∀ cu ∈ rest, (cu.1 = 32 ∨ cu.1 = 59) ∧ PlainTok cu.2)
    (hd : st "Dbc" = .str (renderFlat tok rest)) :
    ∃ st', t.process ver st = some st' ∧ ∃ b, st' "Dbc" = .str b ∧ leakFree b :=
  process_no_password t ht ver st tok rest htok hrest (mask_whole_families ver hfam) hd

/-- non-vacuity: the lowest Go version, an interior one below the gate 50100, the lower neighbour of
    that gate, the top of the PHP family; and the other families do not mask -/
example : masksAt 50001 = true ∧ masksAt 50050 = true ∧ masksAt 50099 = true ∧ masksAt 20000 = true ∧
    masksAt 10001 = true ∧ masksAt 50000 = false ∧ masksAt 20001 = false := by decide +kernel

end C07
