/-
  C05, tie A (continued) — the counter pack: its helper methods, the sections of its body and the whole
  `CounterPack1.Write`, as regenerated steps (lean/Golib/Gen/C05.lean) proved equal to the reference encoder
  for all field values.
-/
import Golib.Props.C05Gen

namespace C05Gen
open Wire Prim

/-- `IntIntMap.ToBytes`: decimal count, then (decimal key, decimal value) per entry in the map's own order -/
def semIntIntMap (kvs : List (Int × Int)) : Sem :=
  { S0 with
    env := fun a => match a with
      | "Size()" => .i kvs.length
      | _ => .none
    coll := fun n => match n with
      | "for this.Entries().HasMoreElements()" => kvs.map (fun kv a => match a with
          | "Entries().NextElement().(*IntIntEntry).GetKey()" => .i kv.1
          | "Entries().NextElement().(*IntIntEntry).GetValue()" => .i kv.2
          | _ => .none)
      | _ => [] }

theorem intIntMap_ToBytes_is_reference (kvs : List (Int × Int)) :
    run (semIntIntMap kvs) Gen.C05.steps_IntIntMap_ToBytes = wr "ToBytes" (.ii kvs) := by
  simp only [Gen.C05.steps_IntIntMap_ToBytes, run, List.append_nil]
  rw [interp_loop kvs _ encIntIntEntry rfl fun _ => by simp only [run, List.append_nil]; rfl]
  rfl

/-- `writeShortArray(out, v)`: one-byte count then the shorts; a nil slice is the single byte 0 -/
def semShortArray (xs : List Int) (isNil : Bool) : Sem :=
  { S0 with
    env := fun a => match a with
      | "len(_L0)" => .n xs.length
      | _ => .none
    cond := fun c => match c with
      | "_L0 == nil" => isNil
      | _ => false
    coll := fun n => match n with
      | "for _L1 := 0; _L1 < len(_L0); _L1++" => xs.map (fun x a => match a with
          | "_L0[_L1]" => .i x
          | _ => .none)
      | _ => [] }

theorem writeShortArray_is_reference (xs : List Int) (isNil : Bool) (h : isNil = true → xs = []) :
    run (semShortArray xs isNil) Gen.C05.steps_CounterPack1_writeShortArray = encShorts8 xs := by
  simp only [Gen.C05.steps_CounterPack1_writeShortArray, run, interp_ite, List.append_nil]
  rw [interp_loop xs _ (encI 2) rfl fun _ => List.append_nil _]
  cases isNil with
  | true => rw [h rfl]; rfl
  | false => rfl

def oidEnv (e : OidEntry) : String → FV := fun a =>
  match a with
  | "TxcallerOidMeter.Entries().NextElement().(*hmap.IntKeyLinkedEntry).GetKey()" => .i e.key
  | "TxcallerOidMeter.Entries().NextElement().(*hmap.IntKeyLinkedEntry).GetValue().(*TxMeter).Time" => .i e.time
  | "TxcallerOidMeter.Entries().NextElement().(*hmap.IntKeyLinkedEntry).GetValue().(*TxMeter).Count" => .i e.count
  | "TxcallerOidMeter.Entries().NextElement().(*hmap.IntKeyLinkedEntry).GetValue().(*TxMeter).Error" => .i e.error
  | "TxcallerOidMeter.Entries().NextElement().(*hmap.IntKeyLinkedEntry).GetValue().(*TxMeter).Actx" => .i e.actx
  | _ => .none

def sqlEnv (e : SqlEntry) : String → FV := fun a =>
  match a with
  | "SqlMeter.Entries().NextElement().(*hmap.IntKeyLinkedEntry).GetKey()" => .i e.key
  | "SqlMeter.Entries().NextElement().(*hmap.IntKeyLinkedEntry).GetValue().(*SqlMeter).Time" => .i e.time
  | "SqlMeter.Entries().NextElement().(*hmap.IntKeyLinkedEntry).GetValue().(*SqlMeter).Count" => .i e.count
  | "SqlMeter.Entries().NextElement().(*hmap.IntKeyLinkedEntry).GetValue().(*SqlMeter).Error" => .i e.error
  | "SqlMeter.Entries().NextElement().(*hmap.IntKeyLinkedEntry).GetValue().(*SqlMeter).Actx" => .i e.actx
  | "SqlMeter.Entries().NextElement().(*hmap.IntKeyLinkedEntry).GetValue().(*SqlMeter).FetchCount" => .i e.fetchCount
  | "SqlMeter.Entries().NextElement().(*hmap.IntKeyLinkedEntry).GetValue().(*SqlMeter).FetchTime" => .i e.fetchTime
  | _ => .none

def httpcEnv (e : OidEntry) : String → FV := fun a =>
  match a with
  | "HttpcMeter.Entries().NextElement().(*hmap.IntKeyLinkedEntry).GetKey()" => .i e.key
  | "HttpcMeter.Entries().NextElement().(*hmap.IntKeyLinkedEntry).GetValue().(*HttpcMeter).Time" => .i e.time
  | "HttpcMeter.Entries().NextElement().(*hmap.IntKeyLinkedEntry).GetValue().(*HttpcMeter).Count" => .i e.count
  | "HttpcMeter.Entries().NextElement().(*hmap.IntKeyLinkedEntry).GetValue().(*HttpcMeter).Error" => .i e.error
  | "HttpcMeter.Entries().NextElement().(*hmap.IntKeyLinkedEntry).GetValue().(*HttpcMeter).Actx" => .i e.actx
  | _ => .none

def groupEnv (e : GroupEntry) : String → FV := fun a =>
  match a with
  | "TxcallerGroupMeter.Entries().NextElement().(*hmap.LinkedEntry).GetKey().(*lang.PKIND).PCode" => .i e.pcode
  | "TxcallerGroupMeter.Entries().NextElement().(*hmap.LinkedEntry).GetKey().(*lang.PKIND).OKind" => .i e.okind
  | "TxcallerGroupMeter.Entries().NextElement().(*hmap.LinkedEntry).GetValue().(*TxMeter).Time" => .i e.time
  | "TxcallerGroupMeter.Entries().NextElement().(*hmap.LinkedEntry).GetValue().(*TxMeter).Count" => .i e.count
  | "TxcallerGroupMeter.Entries().NextElement().(*hmap.LinkedEntry).GetValue().(*TxMeter).Error" => .i e.error
  | "TxcallerGroupMeter.Entries().NextElement().(*hmap.LinkedEntry).GetValue().(*TxMeter).Actx" => .i e.actx
  | _ => .none

def poidEnv (e : PoidEntry) : String → FV := fun a =>
  match a with
  | "TxcallerPOidMeter.Entries().NextElement().(*hmap.LinkedEntry).GetKey().(*lang.POID).PCode" => .i e.pcode
  | "TxcallerPOidMeter.Entries().NextElement().(*hmap.LinkedEntry).GetKey().(*lang.POID).Oid" => .i e.oid
  | "TxcallerPOidMeter.Entries().NextElement().(*hmap.LinkedEntry).GetValue().(*TxMeter).Time" => .i e.time
  | "TxcallerPOidMeter.Entries().NextElement().(*hmap.LinkedEntry).GetValue().(*TxMeter).Count" => .i e.count
  | "TxcallerPOidMeter.Entries().NextElement().(*hmap.LinkedEntry).GetValue().(*TxMeter).Error" => .i e.error
  | "TxcallerPOidMeter.Entries().NextElement().(*hmap.LinkedEntry).GetValue().(*TxMeter).Acts" => .is e.acts
  | "TxcallerPOidMeter.Entries().NextElement().(*hmap.LinkedEntry).GetValue().(*TxMeter).Actx" => .i e.actx
  | _ => .none

/-- what the Go expressions of the counter pack's helper methods hold, in terms of the reference's pack;
    `poidNil` = "the (project, object) meter map is nil" (nil and empty coincide on the wire) -/
def semMeters (p : Counter) (poidNil : Bool) : Sem :=
  { S0 with
    env := fun a => match a with
      | "TxcallerOidMeter.Size()" => .i (p.oidMeter.getD []).length
      | "SqlMeter.Size()" => .i (p.sqlMeter.getD []).length
      | "HttpcMeter.Size()" => .i (p.httpcMeter.getD []).length
      | "TxcallerGroupMeter.Size()" => .i (p.groupMeter.getD []).length
      | "TxcallerPOidMeter.Size()" => .i p.poidMeter.length
      | "TxcallerUnknown.Time" => .i ((p.unknown.map (·.time)).getD 0)
      | "TxcallerUnknown.Count" => .i ((p.unknown.map (·.count)).getD 0)
      | "TxcallerUnknown.Error" => .i ((p.unknown.map (·.error)).getD 0)
      | "TxcallerUnknown.Actx" => .i ((p.unknown.map (·.actx)).getD 0)
      | _ => .none
    cond := fun c => match c with
      | "this.TxcallerOidMeter == nil" => p.oidMeter.isNone
      | "this.SqlMeter == nil" => p.sqlMeter.isNone
      | "this.HttpcMeter == nil" => p.httpcMeter.isNone
      | "this.TxcallerGroupMeter == nil" => p.groupMeter.isNone
      | "this.TxcallerPOidMeter == nil" => poidNil
      | "this.TxcallerUnknown != nil" => p.unknown.isSome
      | _ => false
    coll := fun n => match n with
      | "for this.TxcallerOidMeter.Entries().HasMoreElements()" => (p.oidMeter.getD []).map oidEnv
      | "for this.SqlMeter.Entries().HasMoreElements()" => (p.sqlMeter.getD []).map sqlEnv
      | "for this.HttpcMeter.Entries().HasMoreElements()" => (p.httpcMeter.getD []).map httpcEnv
      | "for this.TxcallerGroupMeter.Entries().HasMoreElements()" => (p.groupMeter.getD []).map groupEnv
      | "for this.TxcallerPOidMeter.Entries().HasMoreElements()" => p.poidMeter.map poidEnv
      | _ => [] }

/-- the four meter helpers have the shape of `run_meter`.  The names are looked up by `simp only`: rewriting
    compares two literals at their first difference, evaluation (`rfl`) walks through the whole common prefix,
    and these names are long. -/
theorem oidMeter_is_reference (p : Counter) (b : Bool) :
    run (semMeters p b) Gen.C05.steps_CounterPack1_writeTxcallerOidMeter
      = encOption 9 (encCounted encOidEntry) p.oidMeter :=
  run_meter p.oidMeter oidEnv encOidEntry (by simp only [semMeters]) (by simp only [semMeters])
    (by simp only [semMeters]) fun _ => by simp only [run, interp, Sem.withElem, oidEnv, List.append_nil]; rfl

theorem sqlMeter_is_reference (p : Counter) (b : Bool) :
    run (semMeters p b) Gen.C05.steps_CounterPack1_writeSqlMeter
      = encOption 9 (encCounted encSqlEntry) p.sqlMeter :=
  run_meter p.sqlMeter sqlEnv encSqlEntry (by simp only [semMeters]) (by simp only [semMeters])
    (by simp only [semMeters]) fun _ => by simp only [run, interp, Sem.withElem, sqlEnv, List.append_nil]; rfl

theorem httpcMeter_is_reference (p : Counter) (b : Bool) :
    run (semMeters p b) Gen.C05.steps_CounterPack1_writeHttpcMeter
      = encOption 9 (encCounted encOidEntry) p.httpcMeter :=
  run_meter p.httpcMeter httpcEnv encOidEntry (by simp only [semMeters]) (by simp only [semMeters])
    (by simp only [semMeters]) fun _ => by simp only [run, interp, Sem.withElem, httpcEnv, List.append_nil]; rfl

theorem groupMeter_is_reference (p : Counter) (b : Bool) :
    run (semMeters p b) Gen.C05.steps_CounterPack1_writeTxcallerGroupMeter
      = encOption 9 (encCounted encGroupEntry) p.groupMeter :=
  run_meter p.groupMeter groupEnv encGroupEntry (by simp only [semMeters]) (by simp only [semMeters])
    (by simp only [semMeters]) fun _ => by simp only [run, interp, Sem.withElem, groupEnv, List.append_nil]; rfl

theorem unknownMeter_is_reference (p : Counter) (b : Bool) :
    run (semMeters p b) Gen.C05.steps_CounterPack1_writeTxcallerOther = encOption 2 encUnknown p.unknown := by
  simp only [Gen.C05.steps_CounterPack1_writeTxcallerOther, run, interp, semMeters, List.append_nil]
  cases p.unknown <;> rfl

/-- the (project, object) meter (D27): decimal count, then per entry pcode, oid, time, count, error,
    the active-slice array, actx -/
theorem poidMeter_is_reference (p : Counter) (b : Bool) (hb : b = true → p.poidMeter = []) :
    run (semMeters p b) Gen.C05.steps_CounterPack1_writeTxcallerPOidMeter = encCounted encPoidEntry p.poidMeter := by
  simp only [Gen.C05.steps_CounterPack1_writeTxcallerPOidMeter, run, interp_ite, List.append_nil]
  rw [interp_loop p.poidMeter poidEnv encPoidEntry (by simp only [semMeters]) fun _ => by
    simp only [run, interp, Sem.withElem, poidEnv, List.append_nil]; rfl]
  simp only [interp, semMeters]
  cases b with
  | true => rw [hb rfl]; rfl
  | false => rfl

/-- what the Go expressions of `CounterPack1.Write` hold; a helper call means the helper's own regenerated steps -/
def semCounter (p : Counter) (poidNil : Bool) : Sem where
  hdr := encHdr p.hdr
  env a := match a with
    | "Duration" => .i p.duration
    | "Cputime" => .i p.cputime
    | "HeapTot" => .i p.heapTot
    | "HeapUse" => .i p.heapUse
    | "HeapPerm" => .i p.heapPerm
    | "HeapPendingFinalization" => .i p.heapPendingFinalization
    | "GcCount" => .i p.gcCount
    | "GcTime" => .i p.gcTime
    | "ServiceCount" => .i p.serviceCount
    | "ServiceError" => .i p.serviceError
    | "ServiceTime" => .i p.serviceTime
    | "SqlCount" => .i p.sqlCount
    | "SqlError" => .i p.sqlError
    | "SqlTime" => .i p.sqlTime
    | "SqlFetchCount" => .i p.sqlFetchCount
    | "SqlFetchTime" => .i p.sqlFetchTime
    | "HttpcCount" => .i p.httpcCount
    | "HttpcError" => .i p.httpcError
    | "HttpcTime" => .i p.httpcTime
    | "ActSvcCount" => .i p.actSvcCount
    | "ActSvcSlice" => .is p.actSvcSlice
    | "Cpu" => .n p.cpu
    | "CpuSys" => .n p.cpuSys
    | "CpuUsr" => .n p.cpuUsr
    | "CpuWait" => .n p.cpuWait
    | "CpuSteal" => .n p.cpuSteal
    | "CpuIrq" => .n p.cpuIrq
    | "CpuProc" => .n p.cpuProc
    | "CpuCores" => .i p.cpuCores
    | "Mem" => .n p.mem
    | "Swap" => .n p.swap
    | "Disk" => .n p.disk
    | "ThreadTotalStarted" => .i p.threadTotalStarted
    | "ThreadCount" => .i p.threadCount
    | "ThreadDaemon" => .i p.threadDaemon
    | "ThreadPeakCount" => .i p.threadPeakCount
    | "ProcFd" => .i p.procFd
    | "Tps" => .n p.tps
    | "RespTime" => .i p.respTime
    | "ApType" => .i p.apType
    | "Starttime" => .i p.starttime
    | "PackDropped" => .i p.packDropped
    | "HostIp" => .i p.hostIp
    | "MacHash" => .i p.macHash
    | "Pid" => .i p.pid
    | "ThreadPoolActiveCount" => .i p.threadPoolActiveCount
    | "ThreadPoolQueueSize" => .i p.threadPoolQueueSize
    | "ContainerKey" => .i p.containerKey
    | "TxDbcTime" => .n p.txDbcTime
    | "TxSqlTime" => .n p.txSqlTime
    | "TxHttpcTime" => .n p.txHttpcTime
    | "ApdexSatisfied" => .i p.apdexSatisfied
    | "ApdexTolerated" => .i p.apdexTolerated
    | "ArrivalRate" => .n p.arrivalRate
    | "GcOldgenCount" => .i p.gcOldgenCount
    | "Version" => .n p.version
    | "HeapMax" => .i p.heapMax
    | "ProcFdMax" => .i p.procFdMax
    | "Metering" => .n p.metering
    | "ApdexTotal" => .i p.apdexTotal
    | "Resp90" => .i p.resp90
    | "Resp95" => .i p.resp95
    | "TimeSqrSum" => .i p.timeSqrSum
    | "DbNumActive" => .ii ((p.dbPool.map (·.active)).getD [])
    | "DbNumIdle" => .ii ((p.dbPool.map (·.idle)).getD [])
    | "Netstat.Est" => .i ((p.netstat.map (·.est)).getD 0)
    | "Netstat.FinW" => .i ((p.netstat.map (·.finW)).getD 0)
    | "Netstat.CloW" => .i ((p.netstat.map (·.cloW)).getD 0)
    | "Netstat.TimW" => .i ((p.netstat.map (·.timW)).getD 0)
    | "Websocket.Count" => .i ((p.websocket.map (·.count)).getD 0)
    | "Websocket.In" => .i ((p.websocket.map (·.inBytes)).getD 0)
    | "Websocket.Out" => .i ((p.websocket.map (·.outBytes)).getD 0)
    | "Extra" => .im (p.extra.getD [])
    | "_L0" => .n p.activeStat.length
    | _ => .none
  cond c := match c with
    | "this.DbNumActive == nil || this.DbNumIdle == nil" => p.dbPool.isNone
    | "this.Netstat == nil" => p.netstat.isNone
    | "this.Websocket == nil" => p.websocket.isNone
    | "this.Extra == nil" => p.extra.isNone
    | _ => false
  coll n := match n with
    | "for _L1 := 0; _L1 < _L0; _L1++" => p.activeStat.map (fun x a => match a with
        | "ActiveStat[_L1]" => .i x
        | _ => .none)
    | _ => []
  call n := match n with
    | "writeTxcallerOidMeter" => run (semMeters p poidNil) Gen.C05.steps_CounterPack1_writeTxcallerOidMeter
    | "writeSqlMeter" => run (semMeters p poidNil) Gen.C05.steps_CounterPack1_writeSqlMeter
    | "writeHttpcMeter" => run (semMeters p poidNil) Gen.C05.steps_CounterPack1_writeHttpcMeter
    | "writeTxcallerGroupMeter" => run (semMeters p poidNil) Gen.C05.steps_CounterPack1_writeTxcallerGroupMeter
    | "writeTxcallerOther" => run (semMeters p poidNil) Gen.C05.steps_CounterPack1_writeTxcallerOther
    | "writeTxcallerPOidMeter" => run (semMeters p poidNil) Gen.C05.steps_CounterPack1_writeTxcallerPOidMeter
    | _ => poison

/-- the blob's content: walking down the regenerated statements and the chunks of `encCounterBody` side by side,
    every statement writes the chunk at its position.  A plain field evaluates to its chunk; an optional section is
    `interp_opt`; a helper call means the helper's own steps, so a meter is its `…Meter_is_reference`.  The
    active-stat array is written inline — its count byte by the last statement of part 8, its shorts by the loop
    that is part 9 — where the reference has the one chunk `encShorts8 p.activeStat`: there two statements meet
    one chunk (`run_chunk₂`). -/
theorem counter_body_is_reference (p : Counter) (b : Bool) (hb : b = true → p.poidMeter = []) :
    run (semCounter p b) Gen.C05.steps_CounterPack1_body = encCounterBody p := by
  have sec {α : Type} (o : Option α) (f : α → Bytes) {c : String} {e : List Step}
      (hc : (semCounter p b).cond c = o.isNone) (he : ∀ x, o = some x → run (semCounter p b) e = 1 :: f x) :
      interp (semCounter p b) (.ite c [.lit "WriteByte" 0] e) = encOption 1 f o := interp_opt o f hc rfl he
  unfold encCounterBody
  -- interval, cpu time, heap; gc; transactions, sql, http calls; active transactions: count and slices
  iterate 21 refine run_chunk rfl ?_
  -- cpu / memory / disk gauges; threads
  iterate 15 refine run_chunk rfl ?_
  -- optional sections with a presence byte, plain fields between them
  refine run_chunk (sec p.dbPool encDbPool rfl fun x h => by
    simp only [run, List.append_nil]; unfold semCounter; rw [h]; rfl) ?_
  refine run_chunk (sec p.netstat encNetStat rfl fun x h => by
    simp only [run, List.append_nil]; unfold semCounter; rw [h]; rfl) ?_
  iterate 4 refine run_chunk rfl ?_
  refine run_chunk (sec p.websocket encWebSocket rfl fun x h => by
    simp only [run, List.append_nil]; unfold semCounter; rw [h]; rfl) ?_
  iterate 4 refine run_chunk rfl ?_
  refine run_chunk (sec p.extra encIntMap rfl fun x h => by
    simp only [run, List.append_nil]; unfold semCounter; rw [h]; rfl) ?_
  -- pid, then the active-stat array: count byte and loop
  refine run_chunk rfl ?_
  refine run_chunk₂ ?_ ?_
  · rw [interp_loop p.activeStat _ (encI 2) rfl fun _ => List.append_nil _]; rfl
  iterate 2 refine run_chunk rfl ?_
  -- meters, the reserved zero count, the unknown-caller meter
  refine run_chunk (oidMeter_is_reference p b) ?_
  refine run_chunk (sqlMeter_is_reference p b) ?_
  refine run_chunk (httpcMeter_is_reference p b) ?_
  refine run_chunk (groupMeter_is_reference p b) ?_
  refine run_chunk rfl ?_
  refine run_chunk (unknownMeter_is_reference p b) ?_
  -- later additions, fixed order
  iterate 13 refine run_chunk rfl ?_
  -- per (project, object) caller meter, last three fields
  refine run_chunk (poidMeter_is_reference p b hb) ?_
  iterate 3 refine run_chunk rfl ?_
  rfl

/-- **the counter pack writer is the reference encoder, for all field values**: header on the outer stream,
    then ONE blob whose content is the twelve parts in order — 60-odd scalar fields with the method and at the
    position the reference has them, the four optional sections with their presence bytes and inner order, the
    inline active-stat array, the six meters (helpers interpreted from their own regenerated steps), the
    reserved zero count -/
theorem counter_writer_is_reference (p : Counter) (b : Bool) (hb : b = true → p.poidMeter = []) :
    Gen.C05.steps_CounterPack1 = .hdr :: (Gen.C05.steps_CounterPack1_body ++ [.blobWrap]) ∧
    (semCounter p b).hdr ++ encBlob (run (semCounter p b) Gen.C05.steps_CounterPack1_body) = encCounter p :=
  ⟨rfl, congrArg (encHdr p.hdr ++ encBlob ·) (counter_body_is_reference p b hb)⟩

end C05Gen
