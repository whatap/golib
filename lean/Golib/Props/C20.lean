/-
  Property C20 — value equality and comparison are total and lawful.

  The proofs are short steps from the lemmas of Golib.Value.*.  The model
  (`Value.eqV` = Equals, `Value.cmpV` = CompareTo, Golib/Value/Cmp.lean) is tied to /repo/lang/value
  and /repo/util/compare by the correspondence harness `harness/c20` (tie B) and by the transcribed
  method bodies interpreted in Golib/Props/C20Gen.lean (tie A).

  The model describes the code with the four proposed repairs (proposed/C20/fix-D04 … D07.diff:
  missing map key no longer panics; type fallback subtracts as int; nil payload = empty payload;
  summaries ordered by sum then count).  Two families of quirks are *kept* in the model and
  recorded as known findings; the laws that they break carry the matching hypothesis (the law in
  its general form is named `…_partial`; its corollaries carry the same hypothesis under their own
  names, its sharper forms a part of it, see below), and each hypothesis has `finding_*` witnesses below (the same inputs are
  replayed on the implementation by the harness on every run):

    NoNaN v        no NaN among the floats a comparison looks at            (D09: IEEE semantics)
    Aligned a b    maps that `CompareTo` walks have the same key *sequence*  (D08: the receiver's
                   key order is followed; a missing key gives 1)

  The sharper forms ask for a part of `NoNaN` only: `noSNaN` (no NaN among the float scalars,
  Golib/Value/CmpFlat.lean) for antisymmetry, `noArrNaN` (no NaN inside float arrays,
  Golib/Value/EqLaws.lean) of the middle value for transitivity of `Equals`.

  `WFV` (Golib/Value/WF.lean) is the representation invariant of a Go value (ranges; map keys
  pairwise distinct because they live in a hash map).
-/
import Golib.Value.CmpLaws
import Golib.Value.CmpExact
import Golib.Value.Canon
import Golib.Value.EqExact
import Golib.Value.CmpWrap

namespace C20
open Value

/-! ### totality -/

/-- `Equals` and `CompareTo` are total functions of two values: every pair, of any two types,
    any shapes and key sets, has a result (there is no failure case in the model; on the
    unrepaired code D04 is the counterexample: a key missing in the other map panics) -/
theorem total (a b : Value) : ∃ (e : Bool) (c : Int), eqV a b = e ∧ cmpV a b = c := ⟨_, _, rfl, rfl⟩

/-- a key that the other map lacks: not equal, and `CompareTo` gives 1 (the repaired D04 path) -/
theorem missing_key (k : Bytes) (v : Value) (kvs other : List (Bytes × Value))
    (h : lookupKV k other = none) (hl : ((k, v) :: kvs).length = other.length) :
    eqV (.map ((k, v) :: kvs)) (.map other) = false ∧ cmpV (.map ((k, v) :: kvs)) (.map other) = 1 := by
  rw [eqV_map, cmpV_map]
  simp [hl, eqKVs, cmpKVs, h]

/-! ### equality is an equivalence -/

/-- full statement: ∀ v, eqV v v.  Fails for NaN (finding_D09_refl). -/
theorem eq_refl_partial (v : Value) (hw : WFV v) (hn : NoNaN v) : eqV v v = true := eqV_refl v hw hn

/-- symmetry holds for all well-formed values, NaNs included, whatever the key order of maps -/
theorem eq_symm (a b : Value) (ha : WFV a) (hb : WFV b) (h : eqV a b = true) : eqV b a = true :=
  eqV_symm a b ha hb h

/-- full statement: without the NoNaN hypotheses.  Fails through a NaN inside a float array
    (finding_D09_trans). -/
theorem eq_trans_partial (a b c : Value) (ha : NoNaN a) (hb : NoNaN b) (hc : NoNaN c)
    (h1 : eqV a b = true) (h2 : eqV b c = true) : eqV a c = true :=
  eqV_trans_mid a b c (noArrNaN_of_noNaN b hb) h1 h2

/-- equality holds between a value and the result of decoding its encoding, in both directions
    (nil and empty payloads are one value in the model: D06 repaired).
    Full statement: without NoNaN.  Fails for NaN (finding_D09_decode). -/
theorem eq_decode_partial (v v' : Value) (r : Bytes) (hw : WFV v) (hn : NoNaN v)
    (hd : decode (encV v) = some (v', r)) : eqV v v' = true ∧ eqV v' v = true := by
  have := decode_encV v [] hw
  simp only [List.append_nil] at this
  rw [this] at hd
  cases hd
  exact ⟨eqV_refl v hw hn, eqV_refl v hw hn⟩

/-- the same without a hypothesis about the decoder: the encoding of `v` does decode, to something
    Equal to `v` in both directions, and nothing is left over -/
theorem eq_decode_exists (v : Value) (hw : WFV v) (hn : NoNaN v) :
    ∃ v', decode (encV v) = some (v', []) ∧ eqV v v' = true ∧ eqV v' v = true := by
  refine ⟨v, ?_, eqV_refl v hw hn, eqV_refl v hw hn⟩
  have := decode_encV v [] hw
  simpa using this

/-- values of different types are never equal -/
theorem eq_types (a b : Value) (h : tag a ≠ tag b) : eqV a b = false := eqV_tag_ne a b h

/-! ### comparison -/

/-- values of different types are ordered by their type code (D05 repaired: int subtraction) -/
theorem cmp_types (a b : Value) (h : tag a ≠ tag b) :
    cmpV a b = (tag a : Int) - (tag b : Int) ∧ sgn (cmpV a b) = sgn ((tag a : Int) - (tag b : Int)) := by
  rw [cmpV_tag_ne a b h]; exact ⟨rfl, rfl⟩

/-- `CompareTo` returns zero exactly when `Equals` holds — for every pair of values of every
    type (scalars, arrays, lists and maps; NaNs included) -/
theorem cmp_zero_iff_eq (a b : Value) : cmpV a b = 0 ↔ eqV a b = true := cmpV_zero_iff_eqV a b

/-- swapping the operands reverses the sign.
    Full statement: `∀ a b, sgn (cmpV a b) = - sgn (cmpV b a)`.  Fails with NaN
    (finding_D09_antisym), with maps of different key sets (finding_D08_keys) and with maps
    holding the same keys in another insertion order (finding_D08_order). -/
theorem cmp_antisymm_partial (a b : Value) (hwa : WFV a) (hwb : WFV b) (hna : NoNaN a) (hnb : NoNaN b)
    (hal : Aligned a b) : sgn (cmpV a b) = - sgn (cmpV b a) :=
  AS_sgn.mp (cmpV_AS a b hwa hwb hna hnb hal)

/-- … in particular for all values without maps (scalars, arrays, lists nested to any depth,
    mixed types): no alignment hypothesis is needed -/
theorem cmp_antisymm_mapfree (a b : Value) (hwa : WFV a) (hwb : WFV b) (hna : NoNaN a) (hnb : NoNaN b)
    (hm : mapFree a = true) : sgn (cmpV a b) = - sgn (cmpV b a) :=
  AS_sgn.mp (cmpV_AS a b hwa hwb hna hnb (aligned_of_mapFree a b hm))

/-- transitivity, in its strict and non-strict forms.
    Full statement: without NoNaN / Aligned.  Fails through NaN (finding_D09_cmp_trans) and
    through maps with different key order (finding_D08_trans). -/
theorem cmp_trans_partial (a b c : Value) (hwa : WFV a) (hwb : WFV b) (hwc : WFV c)
    (hna : NoNaN a) (hnb : NoNaN b) (hnc : NoNaN c)
    (hab : Aligned a b) (hbc : Aligned b c) (hac : Aligned a c) :
    (cmpV a b ≤ 0 → cmpV b c ≤ 0 → cmpV a c ≤ 0) ∧ (cmpV a b < 0 → cmpV b c ≤ 0 → cmpV a c < 0) ∧
    (cmpV a b ≤ 0 → cmpV b c < 0 → cmpV a c < 0) ∧ (cmpV a b = 0 → cmpV b c = 0 → cmpV a c = 0) :=
  cmpV_Tr a b c hwa hwb hwc hna hnb hnc hab hbc hac

theorem cmp_trans_mapfree (a b c : Value) (hwa : WFV a) (hwb : WFV b) (hwc : WFV c)
    (hna : NoNaN a) (hnb : NoNaN b) (hnc : NoNaN c) (hma : mapFree a = true) (hmb : mapFree b = true)
    (h1 : cmpV a b ≤ 0) (h2 : cmpV b c ≤ 0) : cmpV a c ≤ 0 :=
  (cmpV_Tr a b c hwa hwb hwc hna hnb hnc (aligned_of_mapFree a b hma) (aligned_of_mapFree b c hmb)
    (aligned_of_mapFree a c hma)).1 h1 h2

/-- a value compares as equal to itself -/
theorem cmp_refl_partial (v : Value) (hw : WFV v) (hn : NoNaN v) : cmpV v v = 0 :=
  (cmpV_zero_iff_eqV v v).mpr (eqV_refl v hw hn)

/-- the flat types (everything but list / map / int-map), any two of them, NaN-free: both laws
    without any well-formedness or alignment hypothesis -/
theorem cmp_flat_laws (a b c : Value) (hna : NoNaN a) (hnb : NoNaN b) (hnc : NoNaN c)
    (hfa : isFlat a = true) (hfb : isFlat b = true) :
    sgn (cmpV a b) = - sgn (cmpV b a) ∧ (cmpV a b ≤ 0 → cmpV b c ≤ 0 → cmpV a c ≤ 0) := by
  rw [cmpV_flat a b hfa, cmpV_flat b a hfb, cmpV_flat b c hfb, cmpV_flat a c hfa]
  exact ⟨AS_sgn.mp (cmpFlat_AS a b (noSNaN_of_noNaN a hna) (noSNaN_of_noNaN b hnb)), (cmpFlat_Tr a b c hna hnb hnc).1⟩

/-! ### sharper forms -/

/-- antisymmetry needs NaN-freeness of the float *scalars* only (float, double, the sum of a double
    summary): NaN elements of float arrays are skipped symmetrically -/
theorem cmp_antisymm_scalar_nan (a b : Value) (hwa : WFV a) (hwb : WFV b) (hna : noSNaN a = true)
    (hnb : noSNaN b = true) (hal : Aligned a b) : sgn (cmpV a b) = - sgn (cmpV b a) :=
  AS_sgn.mp (cmpV_AS_s a b hwa hwb hna hnb hal)

/-- exact, for the seventeen flat types (any two of them): the signs reverse **iff** the types
    differ or neither operand is a NaN float / double / double-summary sum.  This is the complete
    description of known finding `NaN:cmp-antisym`. -/
theorem cmp_antisymm_flat_iff (a b : Value) (hfa : isFlat a = true) (hfb : isFlat b = true) :
    sgn (cmpV a b) = - sgn (cmpV b a) ↔ (tag a ≠ tag b ∨ (noSNaN a = true ∧ noSNaN b = true)) := by
  rw [cmpV_flat a b hfa, cmpV_flat b a hfb, ← AS_sgn]; exact cmpFlat_AS_iff a b hfa

/-- float arrays are antisymmetric whatever they hold -/
theorem cmp_antisymm_float_arrays (xs ys : List Nat) :
    sgn (cmpV (.af xs) (.af ys)) = - sgn (cmpV (.af ys) (.af xs)) :=
  (cmp_antisymm_flat_iff (.af xs) (.af ys) rfl rfl).mpr (Or.inr ⟨rfl, rfl⟩)

/-- the complete description of known finding `Map.CompareTo:cmp-antisym-different-keys`: two
    maps of equal size, some key of one missing in the other, all entries under common keys
    Equal ⇒ `CompareTo` is 1 in **both** directions -/
theorem map_different_keys_both_one (a b : List (Bytes × Value)) (hwa : WFV (.map a)) (hwb : WFV (.map b))
    (hl : a.length = b.length) (hk : ∃ k ∈ a.map (·.1), k ∉ b.map (·.1))
    (hc : ∀ p ∈ a, ∀ w, lookupKV p.1 b = some w → eqV p.2 w = true) :
    cmpV (.map a) (.map b) = 1 ∧ cmpV (.map b) (.map a) = 1 := by
  simp only [WFV, wfV, Bool.and_eq_true, decide_eq_true_eq] at hwa hwb
  rw [cmpV_map, cmpV_map, if_neg (not_not_intro hl), if_neg (not_not_intro hl.symm), cmpKVs_eq, cmpKVs_eq]
  exact firstNZ_different_keys a b hl hwb.2 (wfKVs_mem a hwa.1.2) (wfKVs_mem b hwb.1.2) hk hc

theorem imap_different_keys_both_one (a b : List (Int × Value)) (hwa : WFV (.imap a)) (hwb : WFV (.imap b))
    (hl : a.length = b.length) (hk : ∃ k ∈ a.map (·.1), k ∉ b.map (·.1))
    (hc : ∀ p ∈ a, ∀ w, lookupKV p.1 b = some w → eqV p.2 w = true) :
    cmpV (.imap a) (.imap b) = 1 ∧ cmpV (.imap b) (.imap a) = 1 := by
  simp only [WFV, wfV, Bool.and_eq_true, decide_eq_true_eq] at hwa hwb
  rw [cmpV_imap, cmpV_imap, if_neg (not_not_intro hl), if_neg (not_not_intro hl.symm), cmpIKVs_eq, cmpIKVs_eq]
  exact firstNZ_different_keys a b hl hwb.2 (wfIKVs_mem a hwa.1.2) (wfIKVs_mem b hwb.1.2) hk hc

/-- values that hold no float anywhere satisfy `NoNaN`: for them every `_partial` theorem above
    holds with the alignment hypothesis alone (maps) or with none (no maps) -/
theorem floatfree_is_nan_free (v : Value) (h : floatFree v = true) : NoNaN v := noNaN_of_floatFree v h

theorem cmp_trans_floatfree (a b c : Value) (hwa : WFV a) (hwb : WFV b) (hwc : WFV c)
    (hfa : floatFree a = true) (hfb : floatFree b = true) (hfc : floatFree c = true)
    (hab : Aligned a b) (hbc : Aligned b c) (hac : Aligned a c) (h1 : cmpV a b ≤ 0) (h2 : cmpV b c ≤ 0) :
    cmpV a c ≤ 0 :=
  (cmpV_Tr a b c hwa hwb hwc (noNaN_of_floatFree a hfa) (noNaN_of_floatFree b hfb) (noNaN_of_floatFree c hfc)
    hab hbc hac).1 h1 h2

/-! ### exactness on scalars, transitivity under the weakest hypothesis -/

/-- for every scalar type (null, bool, decimal, int, long, text hash, text, float, double, both
    summaries): `Equals` holds **exactly** when the payloads are equal — the same number (a NaN equals
    nothing, −0 = +0), the same bytes, for a summary the same sum and count.  No tolerance, no
    coarser or finer relation. -/
theorem eq_exact (a b : Value) (ha : scalar a = true) : eqV a b = true ↔ payloadEq a b :=
  eqV_iff_payloadEq a b ha

/-- … and `CompareTo` is 0 exactly then -/
theorem cmp_zero_exact (a b : Value) (ha : scalar a = true) : cmpV a b = 0 ↔ payloadEq a b := by
  rw [cmpV_zero_iff_eqV]; exact eqV_iff_payloadEq a b ha

/-- a text is any byte sequence (a Go string need not be well-formed UTF-8): `CompareTo` is 0, and
    `Equals` holds, exactly when the **bytes** are the same — there is no decoding, replacement
    character, normal form or case folding between the payload and the comparison.  (Harness:
    `textPools`, `textStage` — texts that differ only inside ill-formed parts or only up to a
    canonicalisation, bare and inside containers.) -/
theorem text_exact (x y : Bytes) :
    (cmpV (.text x) (.text y) = 0 ↔ x = y) ∧ (eqV (.text x) (.text y) = true ↔ x = y) :=
  ⟨by simpa [payloadEq] using cmp_zero_exact (.text x) (.text y) rfl,
   by simpa [payloadEq] using eq_exact (.text x) (.text y) rfl⟩

/-- ill-formed bytes are told apart, also from U+FFFD and through containers -/
example : cmpV (.text [97, 254]) (.text [97, 255]) ≠ 0 ∧ cmpV (.text [255]) (.text [239, 191, 189]) ≠ 0 ∧
    cmpV (.list [.text [195]]) (.list [.text [194]]) ≠ 0 ∧
    cmpV (.map [([107], .text [128])]) (.map [([107], .text [191])]) ≠ 0 := by decide +kernel

/-- transitivity of `Equals` for the whole value type, containers included (structural
    induction), assuming only that the float **arrays** of the *middle* value hold no NaN; float
    and double scalars and summary sums may be NaN anywhere (a NaN equals nothing, which is
    transitive).  Narrows `eq_trans_partial`; `finding_D09_trans` shows the hypothesis is needed. -/
theorem eq_trans_mid (a b c : Value) (hb : noArrNaN b = true) (h1 : eqV a b = true) (h2 : eqV b c = true) :
    eqV a c = true := eqV_trans_mid a b c hb h1 h2

/-! ### what `Equals` decides (link to C02) -/

/-- on the types whose `Equals` is structural (null, bool, the integer types, text, text hash, blob,
    IPv4, int / long / text arrays, lists of those) `Equals` is equality of the values … -/
theorem eq_iff_same_value (a b : Value) (hr : rigid a = true) : eqV a b = true ↔ a = b :=
  eqV_iff_eq_of_rigid a b hr

/-- … i.e. equality of the encodings: `a.Equals(b)` decides "same bytes on the wire" -/
theorem eq_iff_same_bytes (a b : Value) (ha : WFV a) (hb : WFV b) (hr : rigid a = true) :
    eqV a b = true ↔ encV a = encV b :=
  (eqV_iff_eq_of_rigid a b hr).trans ⟨congrArg encV, encV_inj a b ha hb⟩

/-- in general (floats: −0 = +0; summaries: min / max ignored) `Equals` is equality of canonical
    forms, hence of *their* encodings — for all well-formed NaN-free values without maps -/
theorem eq_iff_canonical_bytes (a b : Value) (hwa : WFV a) (hwb : WFV b) (hna : NoNaN a) (hnb : NoNaN b)
    (hm : mapFree a = true) : eqV a b = true ↔ encV (canon a) = encV (canon b) :=
  (eqV_iff_canon a b hwa hwb hna hnb hm).trans ⟨congrArg encV, encV_inj _ _ (canon_WFV a hwa) (canon_WFV b hwb)⟩

/-- one direction holds for every well-formed NaN-free value, maps included: same bytes ⇒ Equal -/
theorem same_bytes_are_equal (a b : Value) (ha : WFV a) (hb : WFV b) (hn : NoNaN a) (h : encV a = encV b) :
    eqV a b = true :=
  encV_inj a b ha hb h ▸ eqV_refl a ha hn

/-- the converse fails: three pairs that are Equal and encode differently — −0 and +0, two summaries
    that differ in their min only, two maps with the same entries in another insertion order (what the
    canonical form, and the `mapFree` hypothesis of `eq_iff_canonical_bytes`, are there for) -/
theorem equal_with_different_bytes :
    (eqV (.f32 0) (.f32 2147483648) = true ∧ encV (.f32 0) ≠ encV (.f32 2147483648)) ∧
    (eqV (.lsum 1 1 0 0) (.lsum 1 1 5 0) = true ∧ encV (.lsum 1 1 0 0) ≠ encV (.lsum 1 1 5 0)) ∧
    (eqV (.map [([1], .null), ([2], .null)]) (.map [([2], .null), ([1], .null)]) = true ∧
      encV (.map [([1], .null), ([2], .null)]) ≠ encV (.map [([2], .null), ([1], .null)])) := by
  decide +kernel

/-- summaries after the D07 repair: equal sums are ordered by count, consistently -/
theorem summary_by_count (s c c' mn mx mn' mx' : Int) (h : c < c') :
    cmpV (.lsum s c mn mx) (.lsum s c' mn' mx') = 1 ∧ cmpV (.lsum s c' mn' mx') (.lsum s c mn mx) = -1 := by
  have h1 : ¬ (c = c') := by omega
  have h2 : ¬ (c' = c) := by omega
  have h3 : ¬ (c' < c) := by omega
  simp [cmpV, cmpFlat, tag, h, h1, h2, h3]

/-! ### witnesses of the known findings (the harness replays the same inputs on the implementation) -/

def nan32w : Nat := 2143289344   -- 0x7fc00000
def one32 : Nat := 1065353216    -- 1.0f
def two32 : Nat := 1073741824    -- 2.0f

/-- D09: a NaN float is not equal to itself … -/
theorem finding_D09_refl : eqV (.f32 nan32w) (.f32 nan32w) = false := by decide +kernel
/-- … nor to the decoding of its encoding -/
theorem finding_D09_decode :
    ∃ v', decode (encV (.f32 nan32w)) = some (v', []) ∧ eqV (.f32 nan32w) v' = false :=
  ⟨.f32 nan32w, by rfl, by decide +kernel⟩
/-- D09: a NaN element of a float array is skipped, so equality is not transitive -/
theorem finding_D09_trans :
    eqV (.af [one32]) (.af [nan32w]) = true ∧ eqV (.af [nan32w]) (.af [two32]) = true ∧
    eqV (.af [one32]) (.af [two32]) = false := by decide +kernel
/-- D09: comparing with NaN gives -1 in both directions -/
theorem finding_D09_antisym :
    cmpV (.f32 nan32w) (.f32 one32) = -1 ∧ cmpV (.f32 one32) (.f32 nan32w) = -1 := by decide +kernel
/-- D09: 1.0 ≤ NaN ≤ 2.0 by `CompareTo`, but 1.0 > 2.0 (floats order descending) -/
theorem finding_D09_cmp_trans :
    cmpV (.f32 one32) (.f32 nan32w) ≤ 0 ∧ cmpV (.f32 nan32w) (.f32 two32) ≤ 0 ∧
    ¬ cmpV (.f32 one32) (.f32 two32) ≤ 0 := by decide +kernel

/-- D08: equal size, different key sets: 1 in both directions -/
theorem finding_D08_keys :
    cmpV (.map [([97], .null)]) (.map [([98], .null)]) = 1 ∧
    cmpV (.map [([98], .null)]) (.map [([97], .null)]) = 1 := by decide +kernel
/-- D08: the same keys in another insertion order: -1 in both directions (each side walks its own
    key order): {x:1,y:2} against {y:3,x:0} -/
theorem finding_D08_order :
    cmpV (.map [([120], .dec 1), ([121], .dec 2)]) (.map [([121], .dec 3), ([120], .dec 0)]) = -1 ∧
    cmpV (.map [([121], .dec 3), ([120], .dec 0)]) (.map [([120], .dec 1), ([121], .dec 2)]) = -1 := by decide +kernel
/-- D08: … and `CompareTo` is then not transitive: a={x:1,y:2} b={y:3,x:0} c={x:2,y:1} -/
theorem finding_D08_trans :
    cmpV (.map [([120], .dec 1), ([121], .dec 2)]) (.map [([121], .dec 3), ([120], .dec 0)]) ≤ 0 ∧
    cmpV (.map [([121], .dec 3), ([120], .dec 0)]) (.map [([120], .dec 2), ([121], .dec 1)]) ≤ 0 ∧
    ¬ cmpV (.map [([120], .dec 1), ([121], .dec 2)]) (.map [([120], .dec 2), ([121], .dec 1)]) ≤ 0 := by decide +kernel
/-- the witnesses violate exactly the hypotheses of the partial theorems -/
theorem finding_hypotheses :
    ¬ NoNaN (.f32 nan32w) ∧ ¬ NoNaN (.af [nan32w]) ∧
    ¬ Aligned (.map [([97], .null)]) (.map [([98], .null)]) ∧
    ¬ Aligned (.map [([120], .dec 1), ([121], .dec 2)]) (.map [([121], .dec 3), ([120], .dec 0)]) := by
  unfold NoNaN Aligned; decide +kernel

/-! ### nesting depth -/

/-- the laws hold at every nesting depth, because nesting is transparent: the same chain of
    one-entry containers (one-element list, one-entry map / int map under the same key — `ws`, of any
    length and any mixture) around both operands changes neither `Equals` nor `CompareTo`.  In
    particular a value nested n deep is Equal to an identical one exactly when the leaves are, two
    chains that differ in a deep leaf compare as the leaves do (so the signs reverse when the leaves'
    do), for every n.  The harness evaluates exactly this clause on the implementation for depths
    1 … 1000 (`depthStage`). -/
theorem wrap_eq (ws : List Wrap) (a b : Value) : eqV (wrapAll ws a) (wrapAll ws b) = eqV a b := by
  induction ws with
  | nil => rfl
  | cons w ws ih => exact (wrap1_eq w _ _).trans ih
theorem wrap_cmp (ws : List Wrap) (a b : Value) : cmpV (wrapAll ws a) (wrapAll ws b) = cmpV a b := by
  induction ws with
  | nil => rfl
  | cons w ws ih => exact (wrap1_cmp w _ _).trans ih

/-- a well-formed value without NaN, nested to any depth, is Equal to itself and compares 0 with
    itself (`wrap_eq` / `wrap_cmp` reduce the nested case to the leaf, where `eq_refl_partial` applies) -/
theorem deep_refl (ws : List Wrap) (v : Value) (hw : WFV v) (hn : NoNaN v) :
    eqV (wrapAll ws v) (wrapAll ws v) = true ∧ cmpV (wrapAll ws v) (wrapAll ws v) = 0 := by
  rw [wrap_eq, wrap_cmp]; exact ⟨eqV_refl v hw hn, (cmp_zero_iff_eq v v).mpr (eqV_refl v hw hn)⟩

/-! ### non-vacuity: non-trivial values meet the hypotheses; the repaired behaviours -/

example : WFV (.map [([97], .list [.f32 one32, .af [two32]]), ([98], .dsum 0 3 0 0)]) ∧
    NoNaN (.map [([97], .list [.f32 one32, .af [two32]]), ([98], .dsum 0 3 0 0)]) := by
  unfold NoNaN; decide +kernel
example : Aligned (.map [([97], .dec 1), ([98], .imap [(5, .null)])]) (.map [([97], .text []), ([98], .imap [(5, .bool true)])]) := by
  unfold Aligned; decide +kernel
example : Aligned (.map [([97], .dec 1)]) (.map [([97], .dec 1), ([98], .null)]) := by unfold Aligned; decide +kernel  -- sizes differ: no constraint
example : mapFree (.list [.list [.dec 1, .af []], .text [1]]) = true := by decide +kernel
example : scalar (.dsum 0 1 2 3) = true ∧ noArrNaN (.list [.f32 nan32w, .af [one32]]) = true := by decide +kernel
example : payloadEq (.f32 0) (.f32 2147483648) ∧ ¬ payloadEq (.f32 one32) (.f32 (one32 + 1)) := by
  unfold payloadEq; decide +kernel
example : (eqV (.map [([97], .null)]) (.map [([98], .null)]) = false ∧ cmpV (.map [([97], .null)]) (.map [([98], .null)]) = 1) :=
  missing_key [97] .null [] [([98], .null)] (by rfl) (by rfl)
example : cmpV (.map [([97], .null)]) (.map [([98], .null)]) = 1 ∧ cmpV (.map [([98], .null)]) (.map [([97], .null)]) = 1 :=
  map_different_keys_both_one [([97], .null)] [([98], .null)] (by decide) (by decide) rfl ⟨[97], by simp, by simp⟩
    (fun p hp w hw => by simp at hp; subst hp; simp [lookupKV] at hw)
example : eqV (.list [.f32 nan32w]) (.list [.f32 nan32w]) = false ∧ noArrNaN (.list [.f32 nan32w]) = true := by decide +kernel
example : rigid (.list [.text [1], .ai [1, 2], .list [.null]]) = true := by decide +kernel
example : canon (.list [.f32 2147483648, .lsum 1 2 3 4]) = .list [.f32 0, .lsum 1 2 0 0] := by rfl
example : floatFree (.map [([1], .lsum 1 1 1 1)]) = true ∧ noSNaN (.af [nan32w]) = true := by decide +kernel
example : cmpV (.bool true) (.dec 0) = -10 ∧ cmpV (.dec 0) (.bool true) = 10 := by decide +kernel       -- D05
example : cmpV .null (.imap []) = -81 := by decide +kernel                                              -- D05 (NullValue)
example : cmpV (.lsum 5 1 0 0) (.lsum 5 2 0 0) = 1 ∧ cmpV (.lsum 5 2 0 0) (.lsum 5 1 0 0) = -1 := by decide +kernel  -- D07
example : eqV (.map [([97], .null)]) (.map [([98], .null)]) = false := by decide +kernel                 -- D04
example : eqV (.map [([97], .dec 1), ([98], .dec 2)]) (.map [([98], .dec 2), ([97], .dec 1)]) = true := by decide +kernel
example : isFlat (wrapAll (List.replicate 40 .l) (.dec 7)) = false ∧
    cmpV (wrapAll (List.replicate 40 .l) (.dec 7)) (wrapAll (List.replicate 40 .l) (.dec 8)) = 1 ∧
    cmpV (wrapAll (List.replicate 40 .l) (.dec 8)) (wrapAll (List.replicate 40 .l) (.dec 7)) = -1 := by
  refine ⟨by decide +kernel, ?_, ?_⟩ <;> rw [wrap_cmp] <;> decide +kernel
example : eqV (wrapAll [.l, .m [107], .im 1, .l] (.dec 7)) (wrapAll [.l, .m [107], .im 1, .l] (.dec 7)) = true :=
  (deep_refl _ (.dec 7) (by decide +kernel) (by unfold NoNaN; decide +kernel)).1

end C20
