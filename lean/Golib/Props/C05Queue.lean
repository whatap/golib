/-
  Property C05, queue mode — "for all … times and all field values", whatever route the pack takes to the wire.

  With `WithUseQueue` the one-way client's `Send` / `SendFlush` only put a pointer to the caller's pack and the
  per-send options on the queue; `process()` / `SendAndClear` build the frame later.  Model: Golib.Wire.QueueRoute
  (`Client`: pointers on the queue — the implementation's shape; `Spec`: the VALUE handed to Send on the queue —
  what the property asks for).  Here: the statements, instantiated with the reference frames of C05.

  Tie B: harness stage I (harness/c05/queue.go) — on real queue-mode clients (public singleton, hook client with its
  process goroutine, SendAndClear) the frames read off a loopback socket equal the reference frames of the states
  dumped BEFORE Send, in the order of the Send calls, and the objects are unchanged afterwards.
  Tie A: `C05Gen.sendFlush_queue_branch_only_enqueues` (the regenerated statements of SendFlush).
-/
import Golib.Wire.QueueRoute
import Golib.Props.C05

namespace C05
open Prim Wire Wire.Queue

/-- **Send in queue mode only enqueues**: no object changes (the caller's pack in particular), nothing is written,
    the license stays; the queue gains one item — a pointer to the object and the per-send license — at its end. -/
theorem queued_send_only_enqueues {σ : Type} (enc : Bytes → σ → Bytes) (after : σ → σ) (c : Client σ) (ref : Nat) (lic : Bytes) :
    (step enc after c (.send ref lic)).heap = c.heap ∧ (step enc after c (.send ref lic)).wire = c.wire ∧
    (step enc after c (.send ref lic)).license = c.license ∧
    (step enc after c (.send ref lic)).queue = c.queue ++ [⟨ref, lic⟩] := ⟨rfl, rfl, rfl, rfl⟩

/-- **every history in queue mode**: sends, drains (process / SendAndClear), license changes and mutations of
    objects that are not on the queue at that moment, in any order and number: the frames on the wire — and the
    objects afterwards — are those of the specification in which the queue holds the value handed to Send. -/
theorem queued_frames_are_values_handed_to_send {σ : Type} (enc : Bytes → σ → Bytes) (after : σ → σ)
    (h1 : ∀ l s, enc l (after s) = enc l s) (ops : List (Op σ)) (license : Bytes) (heap : Nat → σ)
    (hd : Disciplined enc after ops (Client.fresh license heap)) :
    (run enc after ops (Client.fresh license heap)).wire = (srun enc after ops (Spec.fresh license heap)).wire ∧
    (run enc after ops (Client.fresh license heap)).heap = (srun enc after ops (Spec.fresh license heap)).heap :=
  refines enc after h1 ops license heap hd

/-- **a batch** (what the harness stage does): `xs` handed to Send, then the queue drained: the wire carries, in the
    order of the Send calls, exactly the encodings of the values the objects had at Send, each under its license in
    effect (per-send if non-empty, else the client's). -/
theorem queued_batch_frames {σ : Type} (enc : Bytes → σ → Bytes) (after : σ → σ)
    (h1 : ∀ l s, enc l (after s) = enc l s) (license : Bytes) (heap : Nat → σ) (xs : List (Nat × Bytes)) :
    (run enc after (xs.map (fun x => Op.send x.1 x.2) ++ List.replicate xs.length .drain) (Client.fresh license heap)).wire
      = xs.map (fun x => enc (eff x.2 license) (heap x.1)) :=
  batch enc after h1 license heap xs

/-- the frame `makeData` builds for a tag-count pack / a zip pack under a license -/
def tagCountFrame (l : Bytes) (p : TagCount) : Bytes := frame p.hdr.pcode l (payload typeTagCount (encTagCount p))
def zipFrame (l : Bytes) (p : Zip) : Bytes := frame p.hdr.pcode l (payload typeZip (encZip p))

/-- the hypothesis `h1` for the tag-count pack (a send stores the tag hash: `norm`) -/
theorem tagCountFrame_after (l : Bytes) (p : TagCount) : tagCountFrame l p.norm = tagCountFrame l p := by
  unfold tagCountFrame
  rw [(send_tagcount_frame_condition p).2.2.2.2.2.2]
  rfl

/-- tag-count packs through the queue: the frames are the reference frames of the values handed to Send — for all
    header values (time 0 included: nothing is stamped), all field values, all licenses -/
theorem queued_batch_tagcount (license : Bytes) (heap : Nat → TagCount) (xs : List (Nat × Bytes)) :
    (run tagCountFrame TagCount.norm (xs.map (fun x => Op.send x.1 x.2) ++ List.replicate xs.length .drain)
        (Client.fresh license heap)).wire
      = xs.map (fun x => frame (heap x.1).hdr.pcode (eff x.2 license) (payload typeTagCount (encTagCount (heap x.1)))) :=
  batch tagCountFrame TagCount.norm tagCountFrame_after license heap xs

/-- packs whose send leaves the state alone (text, parameter, zip, hit-map, counter): any encoder -/
theorem queued_batch_plain {σ : Type} (enc : Bytes → σ → Bytes) (license : Bytes) (heap : Nat → σ) (xs : List (Nat × Bytes)) :
    (run enc id (xs.map (fun x => Op.send x.1 x.2) ++ List.replicate xs.length .drain) (Client.fresh license heap)).wire
      = xs.map (fun x => enc (eff x.2 license) (heap x.1)) :=
  batch enc id (fun _ _ => rfl) license heap xs

/-- a zip pack with time 0 (the boundary a route that "completes" packs would act on) goes out with time 0 -/
example : (run zipFrame id [.send 0 [], .drain] (Client.fresh [] (fun _ => ⟨⟨5, 1, 0, 0, 0⟩, 1, 2, [1, 2]⟩))).wire =
    [[10, 0, 0, 0, 0, 0, 0, 0, 0, 5, 0, 0, 0, 0, 0, 0, 0, 0, 0, 0, 0, 22,
      0x17, 0x0b, 1, 5, 0, 0, 0, 1, 0, 0, 0, 0, 0, 0, 0, 0, 1, 1, 2, 2, 1, 2]] := by decide

/-- a disciplined history with every kind of operation: the object is mutated before it is queued and after its
    frame was written, never in between; the license changes while the item is queued -/
example : Disciplined zipFrame id
    [.mutate 0 (fun p => { p with status := 7 }), .send 0 [], .send 1 [97], .setLicense [98], .drain,
     .mutate 0 (fun p => { p with status := 8 }), .drain, .send 0 []]
    (Client.fresh [] (fun _ => ⟨⟨5, 1, 0, 0, 0⟩, 1, 2, []⟩)) := by
  refine ⟨?_, trivial, trivial, trivial, trivial, ?_, trivial, trivial, trivial⟩
  · intro it hit; cases hit
  · intro it hit
    simp [step, Client.fresh] at hit
    subst hit; decide

/-- … and an undisciplined one really is excluded (mutating a queued object changes the frame: that is the
    caller's race, not the route's) -/
example : ¬ Disciplined zipFrame id [.send 0 [], .mutate 0 (fun p => { p with status := 7 }), .drain]
    (Client.fresh [] (fun _ => ⟨⟨5, 1, 0, 0, 0⟩, 1, 2, []⟩)) := by
  intro h
  exact h.2.1 ⟨0, []⟩ (by simp [step, Client.fresh]) rfl

/-! ### the license field is the hash of the license text as it is -/

/-- two frames with the same project code and payload are the same frame exactly when the two license texts have
    the same `hash64`: the license enters the frame through `hash64` of its bytes and through nothing else — no
    canonical form of the text (trimmed, case-folded, unquoted …) is part of the protocol. -/
theorem frame_eq_iff_license_hash (pcode : Int) (l l' pl : Bytes) (hp : inRange 8 pcode) (hl : pl.length < 2147483648) :
    frame pcode l pl = frame pcode l' pl ↔ hash64 l = hash64 l' := by
  constructor
  · intro h
    have a := frame_parse pcode l pl [] hp hl
    have b := frame_parse pcode l' pl [] hp hl
    rw [h, b] at a
    simp at a
    exact a.symm
  · intro h
    simp [frame_layout, h]

/-- **surrounding white space is part of the license text**: a trailing line end (LF, CR LF), a trailing or a
    leading blank, a tab change the license field, and a text of blanks only is not the empty license (whose
    hash is 0) — concrete witnesses, so a sender that trims the text first does not produce the reference frame. -/
theorem license_hashed_as_is :
    hash64 (ascii "abcdefg\n") ≠ hash64 (ascii "abcdefg") ∧ hash64 (ascii "abcdefg\r\n") ≠ hash64 (ascii "abcdefg") ∧
    hash64 (ascii "abcdefg ") ≠ hash64 (ascii "abcdefg") ∧ hash64 (ascii " abcdefg") ≠ hash64 (ascii "abcdefg") ∧
    hash64 (ascii "\tabcdefg") ≠ hash64 (ascii "abcdefg") ∧ hash64 (ascii "ABCDEFG") ≠ hash64 (ascii "abcdefg") ∧
    hash64 [] = 0 ∧ hash64 (ascii " ") ≠ 0 ∧ hash64 (ascii "\n") ≠ 0 ∧ hash64 (ascii "\r\n") ≠ 0 := by
  decide +kernel

/-- … hence the frames differ (same pack, same project code): the reference frame for the license `"abcdefg\n"`
    is not the reference frame for `"abcdefg"`, and the one for `" "` is not the one for the empty license. -/
theorem frame_sees_surrounding_blanks (pcode : Int) (pl : Bytes) (hp : inRange 8 pcode) (hl : pl.length < 2147483648) :
    frame pcode (ascii "abcdefg\n") pl ≠ frame pcode (ascii "abcdefg") pl ∧
    frame pcode (ascii " ") pl ≠ frame pcode [] pl := by
  refine ⟨fun h => license_hashed_as_is.1 ((frame_eq_iff_license_hash pcode _ _ pl hp hl).1 h), fun h => ?_⟩
  have := (frame_eq_iff_license_hash pcode _ _ pl hp hl).1 h
  exact license_hashed_as_is.2.2.2.2.2.2.2.1 (by rw [this]; exact license_hashed_as_is.2.2.2.2.2.2.1)

example : inRange 8 (12345 : Int) ∧ ([1, 2, 3] : Bytes).length < 2147483648 := by decide
end C05
