/-
  Property C07 — interpreted tie A: the transcribed Go functions compute the CodeModel.

  `xlate/c07 -mode goir` transcribes, statement by statement, into the IR of Golib.Udp.GoIR:
    util/paramtext/ParamKV.go      indexFold, ToPair, NewParamKVSeperate, ExistsKey, ToString, ToStringStr
    util/stringutil/StringUtil.go  Truncate, ParseInt32, ParseInt64, ParseStringZeroToEmpty, ArrayInt16ToString
  (Golib/Gen/UdpGoFns.lean).  The theorems below run these transcriptions with the IR's semantics and
  prove, **for all inputs**, that they return what the hand-written model returns:

    gen_ToPair      ToPair(s, "=")                       = Udp.toPair s
    gen_maskPass    NewParamKVSeperate(s, c, "=").ToStringStr(key, val) = Udp.maskPass c key val s
    gen_Truncate    Truncate(s, n)                       = s.take n
    gen_ParseInt32 / gen_ParseInt64                      = Udp.parseIntW 4 / 8
    gen_ZeroToEmpty ParseStringZeroToEmpty(v)            = Udp.zeroToEmpty v
    gen_Process_Dbc / gen_Process_Sql / gen_Process_SqlParam   the Process() bodies of the three connection-string packs
                                                         = Udp.processDbc on Dbc, the [QUERY TOO LONG] rule on Sql
    gen_ArrayInt16ToString  ArrayInt16ToString(a, c)     = Udp.joinInts c a   (the text UdpActiveStatsPack.Write sends)

  An edit of one of these functions changes the transcription, and the proof about it no longer
  applies (e.g. the offset taken in `strings.ToLower(s)` of D52, a `SplitN`, a changed comparison).
  Library calls (`strings.Split/TrimSpace/EqualFold`, `strconv.ParseInt`, `fmt.Sprintf("%d")`, map
  and bytes.Buffer operations) are the IR's builtins, i.e. the modelled functions.
-/
import Golib.Gen.UdpGoFns
import Golib.Udp.Split
import Golib.Udp.Mask

namespace C07Go
open Udp Udp.Go Udp.Gen.GoFns Prim

def find61 : Bytes → Nat → Int
  | [], _ => -1
  | x :: xs, k => if x = 61 then (k : Int) else find61 xs (k + 1)

theorem find61_ge (xs : Bytes) (k : Nat) : find61 xs k = -1 ∨ (k : Int) ≤ find61 xs k := by
  fun_induction find61 xs k with
  | case1 => left; rfl
  | case2 => right; omega
  | case3 x xs k _ ih =>
    rcases ih with h | h
    · left; exact h
    · right; omega

theorem foldByte_eq61 (x : Nat) : (foldByte x == 61) = (x == 61) := by
  unfold foldByte
  split
  · rename_i h
    have h1 : (x + 32 == 61) = false := by simp; omega
    have h2 : (x == 61) = false := by simp; omega
    rw [h1, h2]
  · rfl

def ifCond : E := (.bin .le (.bin .add (.var 3) (.var 2)) (.bi .len (.cons (.var 0) .nil)))
def ifBody : Ss := (.cons (.ifS (.bi .equalFold (.cons (.slice (.var 0) (.var 3) (.bin .add (.var 3) (.var 2))) (.cons (.var 1) .nil)))
      (.cons (.ret (.var 3))
      .nil)
      .nil)
      .nil)

theorem loop_indexFold (fe : FEnv) (s : Bytes) (fld : Store) (rest : Bytes) :
    ∀ (pre : Bytes) (loc : Store) (fuel : Nat), s = pre ++ rest → loc 0 = .str s → loc 1 = .str [61] → loc 2 = .int 1 →
      loc 3 = .int pre.length → rest.length + 1 ≤ fuel →
      loopCount 3 (condFn fe ifCond) (bodyFn fe ifBody) fuel { loc := loc, fld := fld } =
        if find61 rest pre.length = -1 then .norm { loc := upd loc 3 (.int s.length), fld := fld }
        else .ret (.int (find61 rest pre.length)) fld := by
  induction rest with
  | nil =>
    intro pre loc fuel hs h0 h1 h2 h3 hf
    cases fuel with
    | zero => omega
    | succ fuel =>
      have hlen : s.length = pre.length := by rw [hs]; simp
      have hC : condFn fe ifCond { loc := loc, fld := fld } = some false := by
        simp [udp_go, condFn, ifCond, h0, h2, h3, hlen]
        omega
      simp only [loopCount, hC, find61, if_true, hlen]
      rw [upd_self loc 3 _ h3]
  | cons x rest ih =>
    intro pre loc fuel hs h0 h1 h2 h3 hf
    cases fuel with
    | zero => omega
    | succ fuel =>
      have hlen : s.length = pre.length + (rest.length + 1) := by rw [hs]; simp
      have hsl : sliceV s (pre.length : Int) ((pre.length : Int) + 1) = some (.str [x]) := by
        rw [sliceV_eq _ _ _ (by omega), hs]
        simp
      have hC : condFn fe ifCond { loc := loc, fld := fld } = some true := by
        simp [udp_go, condFn, ifCond, h0, h2, h3, hlen]
        omega
      have hB : bodyFn fe ifBody { loc := loc, fld := fld } =
          if x = 61 then .ret (.int pre.length) fld else .norm { loc := loc, fld := fld } := by
        simp [udp_go, bodyFn, ifBody, h0, h1, h2, h3, hsl, equalFoldA, foldByte_eq61]
        have e61 : foldByte 61 = 61 := by decide
        rw [e61, foldByte_eq61]
        by_cases hx : x = 61
        · simp [hx]
        · have hb : (x == 61) = false := by simpa using hx
          simp [hx, hb]
      simp only [loopCount, hC, hB, find61]
      by_cases hx : x = 61
      · simp [hx]
      · simp only [hx, if_false, h3]
        have := ih (pre ++ [x]) (upd loc 3 (.int (pre.length + 1))) fuel (by rw [hs]; simp)
          (by rw [upd_other _ _ _ _ (by decide)]; exact h0) (by rw [upd_other _ _ _ _ (by decide)]; exact h1)
          (by rw [upd_other _ _ _ _ (by decide)]; exact h2) (by simp) (by simp at hf ⊢; omega)
        simp only [List.length_append, List.length_singleton] at this
        rw [this]
        rw [upd_upd]

theorem upd_apply (s : Store) (i : Nat) (v : V) (j : Nat) : upd s i v j = if j = i then v else s j := rfl
attribute [udp_go] upd_apply

theorem run_indexFold (fe : FEnv) (s : Bytes) (fld : Store) :
    runFn fe paramKV.indexFold [.str s, .str [61]] fld = some (.int (find61 s 0), fld) := by
  simp [udp_go, paramKV.indexFold]
  have hl := loop_indexFold fe s fld s []
    (upd (upd (fun j => if j = 0 then V.str s else if j - 1 = 0 then V.str [61] else V.str []) 2 (V.int 1)) 3 (V.int 0))
    (s.length + 2) (by simp) (by simp [upd_apply]) (by simp [upd_apply]) (by simp [upd_apply]) (by simp [upd_apply]) (by omega)
  simp only [ifCond, ifBody] at hl
  rw [hl]
  by_cases h : find61 s 0 = -1 <;> simp [h]

theorem find61_notMem (xs : Bytes) (k : Nat) (h : 61 ∉ xs) : find61 xs k = -1 := by
  induction xs generalizing k with
  | nil => rfl
  | cons x xs ih =>
    rw [List.mem_cons, not_or] at h
    rw [find61, if_neg (Ne.symm h.1), ih _ h.2]

theorem find61_append (ks r : Bytes) (k : Nat) (h : 61 ∉ ks) : find61 (ks ++ 61 :: r) k = ((k + ks.length : Nat) : Int) := by
  induction ks generalizing k with
  | nil => simp [find61]
  | cons x xs ih =>
    rw [List.mem_cons, not_or] at h
    rw [List.cons_append, find61, if_neg (Ne.symm h.1), ih _ h.2, List.length_cons]; congr 1; omega

theorem run_ToPair (fe : FEnv) (hfe : ∀ s fld, fe 0 [.str s, .str [61]] fld = some (.int (find61 s 0)))
    (s : Bytes) (fld : Store) :
    runFn fe paramKV.ToPair [.str s, .str [61]] fld = some (.pair (.str (toPair s).1) (.str (toPair s).2), fld) := by
  by_cases hm : 61 ∈ s
  · obtain ⟨k, r, hs, hk⟩ := List.eq_append_cons_of_mem hm
    have hp : find61 s 0 = (k.length : Int) := by rw [hs, find61_append k r 0 hk, Nat.zero_add]
    have hlen : s.length = k.length + (r.length + 1) := by rw [hs]; simp
    have hs1 : sliceV s 0 (k.length : Int) = some (.str k) := by
      rw [sliceV_eq _ _ _ (by omega), hs]; simp
    have hs2 : sliceV s ((k.length : Int) + 1) (s.length : Int) = some (.str r) := by
      have e : ((k.length : Int) + 1).toNat = k.length + 1 := by omega
      rw [sliceV_eq _ _ _ (by omega), e, Int.toNat_natCast, hlen, hs]; simp
      exact List.take_of_length_le (by omega)
    have htp : toPair s = (trim k, trim r) := by rw [hs]; exact toPair_kv k r hk
    have hne : ((k.length : Int) == -1) = false := by
      have : ¬ ((k.length : Int) = -1) := by omega
      simp [this]
    simp [udp_go, paramKV.ToPair, hfe, hp, hne, hs1, hs2, htp]
  · simp [udp_go, paramKV.ToPair, hfe, find61_notMem s 0 hm, toPair_noEq s hm]
    decide

def stepMap (m : List (Bytes × Bytes)) (t : Bytes) : List (Bytes × Bytes) :=
  if keyOf t = [] then m else mapPutV m (keyOf t) (valOf t)

def newLoopBody : Ss :=
  match paramKV.NewParamKVSeperate.body with
  | .cons _ (.cons _ (.cons _ (.cons _ (.cons _ (.cons (.ifS _ (.cons (.forRange _ _ _ b) _) _) _))))) => b
  | _ => .nil

/-- what the other functions expect of `ToPair` in the function environment -/
def FeToPair (fe : FEnv) : Prop :=
  ∀ t fld, fe 1 [.str t, .str [61]] fld = some (.pair (.str (keyOf t)) (.str (valOf t)))

theorem loop_new (fe : FEnv) (hfe : FeToPair fe) (xs : List Bytes) :
    ∀ (k : Nat) (loc fld : Store) (m : List (Bytes × Bytes)), fld 1 = .str [61] → fld 3 = .map m →
      ∃ loc', loopRange (rangeFn fe .blank (.var 3) newLoopBody) xs k { loc := loc, fld := fld } =
        .norm { loc := loc', fld := upd fld 3 (.map (xs.foldl stepMap m)) } := by
  induction xs with
  | nil =>
    intro k loc fld m h1 h3
    exact ⟨loc, by simp [loopRange, upd_self fld 3 _ h3]⟩
  | cons x xs ih =>
    intro k loc fld m h1 h3
    have hb : ∃ loc1, rangeFn fe .blank (.var 3) newLoopBody k x { loc := loc, fld := fld } =
        .norm { loc := loc1, fld := upd fld 3 (.map (stepMap m x)) } := by
      refine ⟨upd (upd (upd loc 3 (.str x)) 4 (.str (keyOf x))) 5 (.str (valOf x)), ?_⟩
      by_cases hk : keyOf x = []
      · simp [udp_go, rangeFn, newLoopBody, paramKV.NewParamKVSeperate, h1, h3, hfe x, stepMap, hk,
        upd_self fld 3 _ h3]
      · have hkb : (keyOf x == []) = false := by simpa using hk
        simp [udp_go, rangeFn, newLoopBody, paramKV.NewParamKVSeperate, h1, h3, hfe x, stepMap, hk, hkb]
    obtain ⟨loc1, hb⟩ := hb
    obtain ⟨loc', hl⟩ := ih (k + 1) loc1 (upd fld 3 (.map (stepMap m x))) (stepMap m x)
      (by rw [upd_other _ _ _ _ (by decide)]; exact h1) (by simp)
    refine ⟨loc', ?_⟩
    simp only [loopRange, hb, hl, List.foldl_cons, upd_upd]

theorem run_New (fe : FEnv) (hfe : FeToPair fe) (s : Bytes) (c : Nat) (fld0 : Store) :
    ∃ fld', runFn fe paramKV.NewParamKVSeperate [.str s, .str [c], .str [61]] fld0 = some (.nil, fld') ∧
      fld' 0 = .str [c] ∧ fld' 1 = .str [61] ∧ fld' 2 = .strs (splitOn c s) ∧
      fld' 3 = .map ((splitOn c s).foldl stepMap []) := by
  let F : Store := upd (upd (upd (upd (upd fld0 0 (.str [c])) 1 (.str [61])) 2 (.strs (splitOn c s))) 3 (.map [])) 4 (.str s)
  obtain ⟨loc', hl⟩ := loop_new fe hfe (splitOn c s) 0
    (fun j => if j = 0 then V.str s else if j - 1 = 0 then V.str [c] else if j - 1 - 1 = 0 then V.str [61] else V.str [])
    F [] (by simp [F, upd_apply]) (by simp [F, upd_apply])
  simp only [newLoopBody, paramKV.NewParamKVSeperate] at hl
  refine ⟨upd F 3 (.map ((splitOn c s).foldl stepMap [])), ?_, ?_, ?_, ?_, ?_⟩
  · simp [udp_go, paramKV.NewParamKVSeperate]
    simp only [F] at hl
    rw [hl]
  all_goals simp [F, upd_apply]

theorem run_ExistsKey (fe : FEnv) (key : Bytes) (fld : Store) (m : List (Bytes × Bytes)) (h3 : fld 3 = .map m) :
    runFn fe paramKV.ExistsKey [.str key] fld = some (.bool (m.any fun e => e.1 == key), fld) := by
  simp [udp_go, paramKV.ExistsKey, h3]

/-- the piece `ToString()` writes for one token -/
def piece (m : List (Bytes × Bytes)) (t : Bytes) : Bytes :=
  if keyOf t = [] then t else keyOf t ++ 61 :: mapGetV m (keyOf t)

/-- pieces with the separator after every piece but the `n`-th -/
def emit (c : Nat) (n : Int) (m : List (Bytes × Bytes)) : List Bytes → Nat → Bytes
  | [], _ => []
  | t :: ts, i => piece m t ++ (if (i : Int) < n - 1 then [c] else []) ++ emit c n m ts (i + 1)

theorem emit_join (c : Nat) (m : List (Bytes × Bytes)) (ts : List Bytes) (k : Nat) :
    emit c ((k + ts.length : Nat) : Int) m ts k = joinOn c (ts.map (piece m)) := by
  induction ts generalizing k with
  | nil => rfl
  | cons t ts ih =>
    cases ts with
    | nil =>
      have : ¬ ((k : Int) < ((k + 1 : Nat) : Int) - 1) := by omega
      simp [emit, joinOn, this]
    | cons u us =>
      have h : ((k : Int) < ((k + (t :: u :: us).length : Nat) : Int) - 1) := by simp; omega
      have e : k + (t :: u :: us).length = (k + 1) + (u :: us).length := by simp; omega
      have ih' := ih (k + 1)
      rw [← e] at ih'
      rw [emit, if_pos h, ih']
      simp [joinOn]

def toStringLoopBody : Ss :=
  match paramKV.ToString.body with
  | .cons _ (.cons (.ifS _ (.cons _ (.cons (.forRange _ _ _ b) _)) _) _) => b
  | _ => .nil

theorem loop_toString (fe : FEnv) (hfe : FeToPair fe) (c : Nat) (n : Int) (m : List (Bytes × Bytes)) (fld : Store)
    (h0 : fld 0 = .str [c]) (h1 : fld 1 = .str [61]) (h3 : fld 3 = .map m) (xs : List Bytes) :
    ∀ (k : Nat) (loc : Store) (b : Bytes), loc 0 = .str b → loc 1 = .int n →
      ∃ loc', loopRange (rangeFn fe (.var 2) (.var 3) toStringLoopBody) xs k { loc := loc, fld := fld } =
          .norm { loc := loc', fld := fld } ∧ loc' 0 = .str (b ++ emit c n m xs k) ∧ loc' 1 = .int n := by
  induction xs with
  | nil => intro k loc b hb hn; exact ⟨loc, by simp [loopRange], by simp [emit, hb], hn⟩
  | cons x xs ih =>
    intro k loc b hb hn
    have hstep : ∃ loc1, rangeFn fe (.var 2) (.var 3) toStringLoopBody k x { loc := loc, fld := fld } =
        .norm { loc := loc1, fld := fld } ∧
        loc1 0 = .str (b ++ piece m x ++ (if (k : Int) < n - 1 then [c] else [])) ∧ loc1 1 = .int n := by
      have hkb : (keyOf x == []) = decide (keyOf x = []) := by
        by_cases hk : keyOf x = [] <;> simp [hk]
      by_cases hk : keyOf x = [] <;> by_cases hlt : (k : Int) < n - 1
      all_goals
        refine ⟨?_, ?_, ?_, ?_⟩
        rotate_left
        · simp [udp_go, rangeFn, toStringLoopBody, paramKV.ToString, h0, h1, h3, hfe x, hk, hkb, hb, hn, hlt]
          rfl
        · simp [upd_apply, piece, hk, hlt]
        · simp [upd_apply, hn]
    obtain ⟨loc1, hs, hb1, hn1⟩ := hstep
    obtain ⟨loc', hl, hb', hn'⟩ := ih (k + 1) loc1 _ hb1 hn1
    refine ⟨loc', ?_, ?_, hn'⟩
    · simp only [loopRange, hs, hl]
    · rw [hb']; simp [emit, List.append_assoc]

theorem run_ToString (fe : FEnv) (hfe : FeToPair fe) (c : Nat) (toks : List Bytes) (m : List (Bytes × Bytes))
    (fld : Store) (h0 : fld 0 = .str [c]) (h1 : fld 1 = .str [61]) (h2 : fld 2 = .strs toks) (h3 : fld 3 = .map m) :
    runFn fe paramKV.ToString [] fld = some (.str (joinOn c (toks.map (piece m))), fld) := by
  obtain ⟨loc', hl, hb, _⟩ := loop_toString fe hfe c (toks.length : Int) m fld h0 h1 h3 toks 0
    (upd (upd (fun _ => V.str []) 0 (.str [])) 1 (.int toks.length)) [] (by simp [upd_apply]) (by simp [upd_apply])
  simp only [toStringLoopBody, paramKV.ToString] at hl
  have he := emit_join c m toks 0
  simp only [Nat.zero_add] at he
  simp [udp_go, paramKV.ToString, h2, hl, hb, he]

def FeExistsKey (fe : FEnv) : Prop :=
  ∀ key fld m, fld 3 = .map m → fe 3 [.str key] fld = some (.bool (m.any fun e => e.1 == key))
def FeToString (fe : FEnv) : Prop :=
  ∀ c toks m fld, fld 0 = .str [c] → fld 1 = .str [61] → fld 2 = .strs toks → fld 3 = .map m →
    fe 4 [] fld = some (.str (joinOn c (toks.map (piece m))))

theorem run_ToStringStr (fe : FEnv) (hE : FeExistsKey fe) (hT : FeToString fe) (c : Nat) (toks : List Bytes)
    (m : List (Bytes × Bytes)) (key val : Bytes)
    (fld : Store) (h0 : fld 0 = .str [c]) (h1 : fld 1 = .str [61]) (h2 : fld 2 = .strs toks) (h3 : fld 3 = .map m) :
    ∃ fld', runFn fe paramKV.ToStringStr [.str key, .str val] fld =
      some (.str (joinOn c (toks.map (piece (if m.any (fun e => e.1 == key) then mapPutV m key val else m)))), fld') := by
  by_cases hk : m.any (fun e => e.1 == key) = true
  · refine ⟨upd fld 3 (.map (mapPutV m key val)), ?_⟩
    have := hT c toks (mapPutV m key val) (upd fld 3 (.map (mapPutV m key val)))
      (by simp [upd_apply, h0]) (by simp [upd_apply, h1]) (by simp [upd_apply, h2]) (by simp [upd_apply])
    simp [udp_go, paramKV.ToStringStr, hE key fld m h3, hk, h3, this]
  · refine ⟨fld, ?_⟩
    have hkf : m.any (fun e => e.1 == key) = false := by
      cases h : m.any (fun e => e.1 == key)
      · rfl
      · exact absurd h hk
    simp [udp_go, paramKV.ToStringStr, hE key fld m h3, hkf, hT c toks m fld h0 h1 h2 h3]

/-! ### the Go map against `lookupLast` -/

theorem foldl_get (toks : List Bytes) (m : List (Bytes × Bytes)) (k : Bytes) (hk : k ≠ []) :
    mapGetV (toks.foldl stepMap m) k =
      match toks.reverse.find? (fun t => keyOf t == k) with
      | some t => valOf t
      | none => mapGetV m k := by
  induction toks generalizing m with
  | nil => rfl
  | cons t ts ih =>
    simp only [List.foldl_cons, List.reverse_cons, List.find?_append, ih]
    cases hf : ts.reverse.find? (fun t => keyOf t == k) with
    | some u => rfl
    | none =>
      simp only [Option.none_or, List.find?]
      unfold stepMap
      by_cases ht : keyOf t = k
      · have hne : ¬ keyOf t = [] := by rw [ht]; exact hk
        simp [ht, hk, mapGet_put]
      · have hb : (keyOf t == k) = false := by simpa using ht
        simp only [hb]
        split
        · rfl
        · have : ¬ k = keyOf t := fun h => ht h.symm
          rw [mapGet_put]; simp [this]

theorem foldl_any (toks : List Bytes) (m : List (Bytes × Bytes)) (k : Bytes) (hk : k ≠ []) :
    (toks.foldl stepMap m).any (fun e => e.1 == k) = (m.any (fun e => e.1 == k) || toks.any (fun t => keyOf t == k)) := by
  induction toks generalizing m with
  | nil => simp
  | cons t ts ih =>
    simp only [List.foldl_cons, ih, List.any_cons]
    unfold stepMap
    split
    · rename_i h
      have hne : ¬ ([] : Bytes) = k := fun h' => hk h'.symm
      have : (keyOf t == k) = false := by rw [h]; simpa using hne
      simp [this]
    · rw [mapAny_put]; simp [Bool.or_assoc]

/-- run the constructor, then `ToStringStr(key, val)`, as `Process()` does for one separator -/
def goMaskPass (c : Nat) (key val s : Bytes) : Option V :=
  match runFn (mkFEnv [paramKV.ToPair, paramKV.indexFold]) paramKV.NewParamKVSeperate
      [.str s, .str [c], .str [61]] (fun _ => .nil) with
  | some (_, fld) =>
    (runFn (mkFEnv [paramKV.ToString, paramKV.ExistsKey, paramKV.NewParamKVSeperate, paramKV.ToPair, paramKV.indexFold])
      paramKV.ToStringStr [.str key, .str val] fld).map (·.1)
  | none => none

theorem fe_indexFold (fld : Store) (s : Bytes) :
    mkFEnv [paramKV.indexFold] 0 [.str s, .str [61]] fld = some (.int (find61 s 0)) :=
  (mkFEnv_head ..).trans (by rw [run_indexFold]; rfl)

theorem feToPair2 : FeToPair (mkFEnv [paramKV.ToPair, paramKV.indexFold]) := by
  intro t fld
  exact (mkFEnv_head ..).trans (by rw [run_ToPair _ (fun s fld => fe_indexFold fld s) t fld]; rfl)

abbrev prog5 : List Fn :=
  [paramKV.ToString, paramKV.ExistsKey, paramKV.NewParamKVSeperate, paramKV.ToPair, paramKV.indexFold]

theorem feToPair_append (pre : List Fn) : FeToPair (mkFEnv (pre ++ [paramKV.ToPair, paramKV.indexFold])) := by
  intro t fld; rw [mkFEnv_append pre (by decide)]; exact feToPair2 t fld

theorem feExistsKey5 : FeExistsKey (mkFEnv prog5) := by
  intro k f m hm
  exact (mkFEnv_at [_] _ [_, _, _] _ _).trans (by rw [run_ExistsKey _ k f m hm]; rfl)

theorem feToString5 : FeToString (mkFEnv prog5) := by
  intro c toks m f a0 a1 a2 a3
  exact (mkFEnv_head ..).trans (congrArg (Option.map (·.1)) (run_ToString _ (feToPair_append [_, _]) c toks m f a0 a1 a2 a3))

theorem gen_maskPass (c : Nat) (key val s : Bytes) :
    goMaskPass c key val s = some (.str (maskPass c key val s)) := by
  unfold goMaskPass
  obtain ⟨fld, hrun, h0, h1, h2, h3⟩ := run_New _ feToPair2 s c (fun _ => .nil)
  rw [hrun]
  simp only []
  have hE := feExistsKey5
  have hT := feToString5
  obtain ⟨fld', hr⟩ := run_ToStringStr _ hE hT c (splitOn c s) _ key val fld h0 h1 h2 h3
  rw [hr]
  simp only [Option.map_some]
  congr 2
  rw [maskPass_eq]
  congr 1
  apply List.map_congr_left
  intro t ht
  unfold piece rebuild
  by_cases hk : keyOf t = []
  · simp [hk]
  · have hkb : (keyOf t).isEmpty = false := by simpa using hk
    simp only [hk, if_false, hkb, Bool.false_eq_true]
    congr 2
    have hex : (splitOn c s).any (fun u => keyOf u == keyOf t) = true :=
      List.any_eq_true.mpr ⟨t, ht, by simp⟩
    by_cases hkk : keyOf t = key
    · have hany : ((splitOn c s).foldl stepMap []).any (fun e => e.1 == key) = true := by
        rw [foldl_any _ _ _ (hkk ▸ hk), ← hkk, hex]; simp
      simp [hany, hkk, mapGet_put]
    · have hb : (keyOf t == key) = false := by simpa using hkk
      simp only [hb, Bool.false_eq_true, if_false]
      have hget : mapGetV ((splitOn c s).foldl stepMap []) (keyOf t) = lookupLast (keyOf t) (splitOn c s) := by
        rw [foldl_get _ _ _ hk]; unfold lookupLast
        cases (splitOn c s).reverse.find? (fun u => keyOf u == keyOf t) <;> rfl
      split
      · rw [mapGet_put]; simp [hkk, hget]
      · exact hget

theorem gen_ToPair (s : Bytes) (fld : Store) :
    mkFEnv paramKV.prog 1 [.str s, .str [61]] fld = some (.pair (.str (toPair s).1) (.str (toPair s).2)) := by
  simpa [keyOf, valOf, paramKV.prog] using feToPair_append [_, _, _, _] s fld

theorem gen_Truncate (s : Bytes) (n : Nat) (fld : Store) :
    mkFEnv stringutil.prog 0 [.str s, .int n] fld = some (.str (s.take n)) := by
  simp [udp_go, stringutil.prog, mkFEnv, stringutil.Truncate, execSs, execS]
  by_cases h : s.length ≤ n
  · simp [h, List.take_of_length_le h]
  · have hs : sliceV s 0 (n : Int) = some (.str (s.take n)) := by
      rw [sliceV_eq _ _ _ (by omega)]; simp
    have he : s.isEmpty = false := by cases s with
      | nil => simp at h
      | cons => rfl
    simp [h, he, hs]

theorem parseIntGo_inRange (w : Nat) (s : Bytes) (h : (parseIntGo w s).2 = true) : inRange w (parseIntGo w s).1 := by
  unfold parseIntGo at h ⊢
  cases hp : parseInt? s with
  | none => simp [hp] at h
  | some v =>
    simp only [hp] at h ⊢
    by_cases hr : inRange w v
    · simp [hr]
    · simp [hr] at h

/-- `r, err := strconv.ParseInt(str, 10, bits); if err == nil { return T(r) }; return 0` for a `w`-byte `T` -/
theorem run_parseInt (fe : FEnv) (w : Nat) (bits : Int) (conv : BI) (hb : (bits / 8).toNat = w)
    (hc : ∀ v, biApply conv [.int v] = some (.int (wrapI w v))) (s : Bytes) (fld : Store) :
    runFn fe ⟨1, .cons (.assign2 (.var 1) (.var 2) (.bi .parseInt (.cons (.var 0) (.cons (.int 10) (.cons (.int bits) .nil)))))
      (.cons (.ifS (.bin .eq (.var 2) .nil) (.cons (.ret (.bi conv (.cons (.var 1) .nil))) .nil) (.cons (.ret (.int 0)) .nil))
      .nil)⟩ [.str s] fld = some (.int (parseIntW w s), fld) := by
  have hp : biApply .parseInt [.str s, .int 10, .int bits] =
      some (.pair (.int (parseIntGo w s).1) (if (parseIntGo w s).2 then .nil else .bool false)) := by rw [← hb]; rfl
  simp [runFn, execSs, execS, evalE, evalEs, binApply, vEq, initLoc, setL, upd, hp, hc]
  rw [parseIntGo_ok]
  by_cases h : (parseIntGo w s).2 = true
  · simp [h, wrapI_id w _ (parseIntGo_inRange w s h)]
  · simp [h]

theorem gen_ParseInt32 (s : Bytes) (fld : Store) :
    mkFEnv stringutil.prog 1 [.str s] fld = some (.int (parseIntW 4 s)) := by
  exact (mkFEnv_at [_, _, _] _ [_] _ _).trans (by rw [stringutil.ParseInt32, run_parseInt _ 4 _ _ rfl (fun _ => rfl)]; rfl)

theorem gen_ParseInt64 (s : Bytes) (fld : Store) :
    mkFEnv stringutil.prog 2 [.str s] fld = some (.int (parseIntW 8 s)) := by
  exact (mkFEnv_at [_, _] _ [_, _] _ _).trans (by rw [stringutil.ParseInt64, run_parseInt _ 8 _ _ rfl (fun _ => rfl)]; rfl)

theorem gen_ZeroToEmpty (v : Int) (fld : Store) :
    mkFEnv stringutil.prog 3 [.int v] fld = some (.str (zeroToEmpty v)) := by
  simp [udp_go, stringutil.prog, mkFEnv, stringutil.ParseStringZeroToEmpty, execSs, execS]
  unfold zeroToEmpty
  by_cases h : v = 0
  · simp [h]
  · have : (v == 0) = false := by simpa using h
    simp [h, this]

def a2sLoopBody : Ss :=
  match stringutil.ArrayInt16ToString.body with
  | .cons _ (.cons _ (.cons (.forRangeI _ _ _ b) _)) => b
  | _ => .nil

theorem set_middle (l1 l2 : List Bytes) (v : Bytes) : (l1 ++ [] :: l2).set l1.length v = l1 ++ v :: l2 := by
  induction l1 with
  | nil => rfl
  | cons x xs ih => simp [List.set, ih]

theorem loop_a2s (fe : FEnv) (fld : Store) (rest : List Int) :
    ∀ (done : List Int) (loc : Store),
      loc 2 = .strs (done.map showInt ++ List.replicate rest.length []) →
      ∃ loc', loopRangeI (rangeFnI fe (.var 3) (.var 4) a2sLoopBody) rest done.length { loc := loc, fld := fld } =
          .norm { loc := loc', fld := fld } ∧
        loc' 2 = .strs ((done ++ rest).map showInt) ∧ loc' 1 = loc 1 := by
  induction rest with
  | nil => intro done loc h2; exact ⟨loc, by simp [loopRangeI], by simpa using h2, rfl⟩
  | cons x rest ih =>
    intro done loc h2
    have hlen : (done.length : Int) < ((done.map showInt ++ List.replicate (x :: rest).length ([] : Bytes)).length : Int) := by
      simp only [List.length_append, List.length_map, List.length_replicate, List.length_cons]; omega
    have hset : (done.map showInt ++ List.replicate (x :: rest).length ([] : Bytes)).set done.length (showInt x) =
        (done ++ [x]).map showInt ++ List.replicate rest.length [] := by
      have := set_middle (done.map showInt) (List.replicate rest.length []) (showInt x)
      simp only [List.length_map] at this
      simp only [List.length_cons, List.replicate_succ, this]
      simp
    have hstep : rangeFnI fe (.var 3) (.var 4) a2sLoopBody done.length x { loc := loc, fld := fld } =
        .norm { loc := upd (upd (upd loc 3 (.int done.length)) 4 (.int x)) 2
                  (.strs ((done ++ [x]).map showInt ++ List.replicate rest.length [])),
                fld := fld } := by
      simp only [udp_go, rangeFnI, a2sLoopBody, stringutil.ArrayInt16ToString, upd_same,
        upd_other _ 4 2 _ (by decide), upd_other _ 3 2 _ (by decide), upd_other _ 4 3 _ (by decide), h2]
      have hc : (0 : Int) ≤ (done.length : Int) ∧ (done.length : Int) < ((done.map showInt ++ List.replicate (x :: rest).length ([] : Bytes)).length : Int) :=
        ⟨by omega, hlen⟩
      simp only [hc, and_self, if_true, Int.toNat_natCast, hset]
    obtain ⟨loc', hl, h2', h1'⟩ := ih (done ++ [x])
      (upd (upd (upd loc 3 (.int done.length)) 4 (.int x)) 2
        (.strs ((done ++ [x]).map showInt ++ List.replicate rest.length []))) (upd_same ..)
    refine ⟨loc', ?_, ?_, ?_⟩
    · simp only [List.length_append, List.length_singleton] at hl
      simp only [loopRangeI, hstep, hl]
    · rw [h2', List.append_assoc, List.singleton_append]
    · rw [h1', upd_other _ _ _ _ (by decide), upd_other _ _ _ _ (by decide), upd_other _ _ _ _ (by decide)]

theorem gen_ArrayInt16ToString (xs : List Int) (c : Nat) (fld : Store) :
    mkFEnv stringutil.prog 4 [.ints xs, .str [c]] fld = some (.str (joinInts c xs)) := by
  have hj : joinInts c xs = joinOn c (xs.map showInt) := joinBytes_eq_joinOn c _
  cases xs with
  | nil =>
    simp [udp_go, stringutil.prog, mkFEnv, stringutil.ArrayInt16ToString, joinInts, joinBytes]
  | cons x xs' =>
    obtain ⟨loc', hl, h2, h1⟩ := loop_a2s (mkFEnv [stringutil.ParseStringZeroToEmpty, stringutil.ParseInt64, stringutil.ParseInt32, stringutil.Truncate])
      fld (x :: xs') []
      (upd (fun j => if j = 0 then V.ints (x :: xs') else if j - 1 = 0 then V.str [c] else V.str []) 2
        (.strs (List.replicate (x :: xs').length [])))
      (by simp [upd_apply])
    simp only [a2sLoopBody, stringutil.ArrayInt16ToString] at hl
    simp only [List.length_nil] at hl
    have hz : (((xs'.length : Int) + 1) == 0) = false := by
      have : ¬ ((xs'.length : Int) + 1 = 0) := by omega
      simpa using this
    have hnn : (0 : Int) ≤ (xs'.length : Int) + 1 := by omega
    have htn : ((xs'.length : Int) + 1).toNat = xs'.length + 1 := by omega
    simp only [List.length_cons] at hl
    refine (mkFEnv_head ..).trans ?_
    simp [udp_go, stringutil.ArrayInt16ToString, hz, hnn, htn, hl, h2, h1, hj]

/-! ### the two passes of `Process()` through the transcribed code -/

/-- `maskDbc` (Golib.Udp.ParamKV) is the transcribed ParamKV code run twice, as the Process()
    bodies do (`" "` then `";"`, key `password`, value `#`) -/
theorem gen_maskDbc_all (s : Bytes) :
    (match goMaskPass 32 kwPassword kwHash s with
      | some (.str s1) => goMaskPass 59 kwPassword kwHash s1
      | _ => none) = some (.str (maskDbc s)) := by
  rw [gen_maskPass 32 kwPassword kwHash s]
  simp only []
  rw [gen_maskPass 59 kwPassword kwHash _]
  unfold maskDbc
  cases s <;> rfl

theorem gen_maskDbc (s : Bytes) (hs : s ≠ []) :
    (match goMaskPass 32 kwPassword kwHash s with
      | some (.str s1) => goMaskPass 59 kwPassword kwHash s1
      | _ => none) = some (.str (maskDbc s)) := gen_maskDbc_all s

/-! ### the `Process()` bodies of the three packs that carry a connection string

Transcribed like the functions above (receiver fields 0 = Ver, 1 = Dbc, 2 = Sql).  The method call
`p.ToStringStr(k, v)` on the object of `paramtext.NewParamKVSeperate(s, sep, "=")` is function 0 of the
environment and means the transcribed ParamKV code (`goMaskPass`, proved equal to `maskPass` above). -/

def feMask : FEnv := fun i args _ =>
  if i = 0 then
    match args with
    | [.pair (.str s) (.pair (.str [c]) (.str [61])), .str k, .str v] => goMaskPass c k v s
    | _ => none
  else none

theorem feMask_apply (c : Nat) (s k v : Bytes) (fld : Store) :
    feMask 0 [.pair (.str s) (.pair (.str [c]) (.str [61])), .str k, .str v] fld = some (.str (maskPass c k v s)) := by
  simp only [feMask, if_true]; exact gen_maskPass c k v s

/-- the family ladder of the `Process()` bodies: the Go branch and the final `else` (PHP) run `blk`,
    Batch, .NET and Python nothing -/
def famLadder (blk : Ss) : Ss :=
  .cons (.ifS (.bin .lt (.int 50000) (.fld 0)) blk
    (.cons (.ifS (.bin .lt (.int 40000) (.fld 0)) .nil
      (.cons (.ifS (.bin .lt (.int 30000) (.fld 0)) .nil
        (.cons (.ifS (.bin .lt (.int 20000) (.fld 0)) .nil blk) .nil)) .nil)) .nil)) .nil

theorem execSs_single (fe : FEnv) (s : S) (st : St) : execSs fe (.cons s .nil) st = execS fe s st := by
  rw [execSs_cons]; cases execS fe s st <;> rfl

theorem exec_famLadder (fe : FEnv) (blk : Ss) (st : St) (ver : Int) (h0 : st.fld 0 = .int ver) :
    execSs fe (famLadder blk) st = if masksAt ver = true then execSs fe blk st else .norm st := by
  have lt : ∀ n : Int, evalE fe st.loc st.fld (.bin .lt (.int n) (.fld 0)) = some (.bool (decide (n < ver))) := fun n => by
    simp only [evalE, h0, binApply]
  simp only [famLadder, execSs_single, execS_if, lt, masksAt, Bool.or_eq_true, decide_eq_true_eq]
  by_cases c5 : 50000 < ver
  · simp only [c5, decide_true, true_or, if_true]
  · by_cases c2 : 20000 < ver
    · have hm : ¬ (ver > 50000 ∨ ver ≤ 20000) := by omega
      simp only [decide_eq_false c5, hm, if_false]
      by_cases c4 : 40000 < ver
      · simp only [c4, decide_true, execSs_nil]
      · by_cases c3 : 30000 < ver
        · simp only [decide_eq_false c4, c3, decide_true, execSs_nil]
        · simp only [decide_eq_false c4, decide_eq_false c3, c2, decide_true, execSs_nil]
    · have hm : ver > 50000 ∨ ver ≤ 20000 := by omega
      have c3 : ¬ 30000 < ver := by omega
      have c4 : ¬ 40000 < ver := by omega
      simp only [decide_eq_false c5, decide_eq_false c4, decide_eq_false c3, decide_eq_false c2, hm, if_true]

/-- the masking statements of the three bodies: `if Dbc != "" { two passes of ToStringStr("password", "#") }` -/
def maskIf : S :=
  .ifS (.bin .ne (.fld 1) (.str []))
    (.cons (.assign (.var 0) (.bi .mkKV (.cons (.fld 1) (.cons (.str [32]) (.cons (.str [61]) .nil)))))
    (.cons (.assign (.fld 1) (.call 0 (.cons (.var 0) (.cons (.str [112, 97, 115, 115, 119, 111, 114, 100]) (.cons (.str [35]) .nil)))))
    (.cons (.assign (.var 0) (.bi .mkKV (.cons (.fld 1) (.cons (.str [59]) (.cons (.str [61]) .nil)))))
    (.cons (.assign (.fld 1) (.call 0 (.cons (.var 0) (.cons (.str [112, 97, 115, 115, 119, 111, 114, 100]) (.cons (.str [35]) .nil)))))
    .nil))))
    .nil

theorem exec_maskIf (loc fld : Store) (dbc : Bytes) (h1 : fld 1 = .str dbc) :
    ∃ loc', execS feMask maskIf { loc := loc, fld := fld } = .norm { loc := loc', fld := upd fld 1 (.str (maskDbc dbc)) } := by
  have hkw : ([112, 97, 115, 115, 119, 111, 114, 100] : Bytes) = kwPassword := rfl
  have hh : ([35] : Bytes) = kwHash := rfl
  unfold maskDbc
  by_cases he : dbc = []
  · subst he
    exact ⟨loc, by simp [udp_go, maskIf, h1, upd_self _ 1 _ h1]⟩
  · have hb : (dbc == []) = false := by simpa using he
    have hemp : dbc.isEmpty = false := by simpa using he
    refine ⟨upd (upd loc 0 (.pair (.str dbc) (.pair (.str [32]) (.str [61])))) 0
      (.pair (.str (maskPass 32 kwPassword kwHash dbc)) (.pair (.str [59]) (.str [61]))), ?_⟩
    simp [udp_go, maskIf, h1, hb, hemp, hkw, hh, feMask_apply]
    exact upd_upd ..

/-- `if len(Sql) >= 32768 { Sql = "[QUERY TOO LONG]\r\n" + Sql }` -/
def tooLongIf : S :=
  .ifS (.bin .le (.int 32768) (.bi .len (.cons (.fld 2) .nil)))
    (.cons (.assign (.fld 2) (.bin .add (.str [91, 81, 85, 69, 82, 89, 32, 84, 79, 79, 32, 76, 79, 78, 71, 93, 13, 10]) (.fld 2)))
    .nil)
    .nil

theorem exec_tooLongIf (fe : FEnv) (loc fld : Store) (sql : Bytes) (h2 : fld 2 = .str sql) :
    execS fe tooLongIf { loc := loc, fld := fld } =
      .norm { loc := loc, fld := upd fld 2 (.str (if 32768 ≤ sql.length then tooLongPrefix ++ sql else sql)) } := by
  have hpre : ([91, 81, 85, 69, 82, 89, 32, 84, 79, 79, 32, 76, 79, 78, 71, 93, 13, 10] : Bytes) = tooLongPrefix := rfl
  by_cases hl : 32768 ≤ sql.length
  · have : (32768 : Int) ≤ (sql.length : Int) := by omega
    simp [udp_go, tooLongIf, h2, hl, this, hpre]
  · have : ¬ (32768 : Int) ≤ (sql.length : Int) := by omega
    simp [udp_go, tooLongIf, h2, hl, this, upd_self _ 2 _ h2]

theorem body_Dbc : process.UdpTxDbcPack.body = famLadder (.cons maskIf .nil) := rfl

/-- **UdpTxDbcPack.Process()**, transcribed, computes `processDbc` for every version and every Dbc -/
theorem gen_Process_Dbc (ver : Int) (dbc : Bytes) (fld : Store) (h0 : fld 0 = .int ver) (h1 : fld 1 = .str dbc) :
    ∃ fld', runFn feMask process.UdpTxDbcPack [] fld = some (.nil, fld') ∧
      fld' 1 = .str (processDbc ver dbc) ∧ fld' 0 = .int ver ∧ fld' 2 = fld 2 := by
  simp only [runFn, body_Dbc, exec_famLadder feMask _ ⟨_, fld⟩ ver h0, processDbc]
  by_cases hm : masksAt ver = true
  · obtain ⟨loc', hx⟩ := exec_maskIf (initLoc []) fld dbc h1
    simp only [hm, if_true, execSs_single, hx]
    exact ⟨_, rfl, rfl, by rw [upd_other _ _ _ _ (by decide)]; exact h0, upd_other _ _ _ _ (by decide)⟩
  · simp only [hm]
    exact ⟨_, rfl, h1, h0, rfl⟩

/-- what `Process()` of the SQL packs makes of Sql -/
def sqlAfter (ver : Int) (sql : Bytes) : Bytes :=
  if masksAt ver = true ∧ 32768 ≤ sql.length then tooLongPrefix ++ sql else sql

theorem body_Sql : process.UdpTxSqlPack.body = famLadder (.cons maskIf (.cons tooLongIf .nil)) := rfl

/-- **UdpTxSqlPack.Process()** (and UdpTxSqlParamPack's, the same body), transcribed, computes `processDbc`
    on Dbc and the `[QUERY TOO LONG]` prefix on Sql for every version and all field values -/
theorem gen_Process_Sql (ver : Int) (dbc sql : Bytes) (fld : Store) (h0 : fld 0 = .int ver) (h1 : fld 1 = .str dbc)
    (h2 : fld 2 = .str sql) :
    ∃ fld', runFn feMask process.UdpTxSqlPack [] fld = some (.nil, fld') ∧
      fld' 1 = .str (processDbc ver dbc) ∧ fld' 2 = .str (sqlAfter ver sql) ∧ fld' 0 = .int ver := by
  simp only [runFn, body_Sql, exec_famLadder feMask _ ⟨_, fld⟩ ver h0, processDbc, sqlAfter]
  by_cases hm : masksAt ver = true
  · obtain ⟨loc', hx⟩ := exec_maskIf (initLoc []) fld dbc h1
    have ht := exec_tooLongIf feMask loc' _ sql ((upd_other fld 1 2 (.str (maskDbc dbc)) (by decide)).trans h2)
    simp only [hm, if_true, true_and, execSs_cons, hx, execSs_nil, ht]
    refine ⟨_, rfl, ?_, upd_same .., ?_⟩
    · rw [upd_other _ _ _ _ (by decide)]; exact upd_same ..
    · rw [upd_other _ _ _ _ (by decide), upd_other _ _ _ _ (by decide)]; exact h0
  · simp only [hm]
    exact ⟨_, rfl, h1, h2, h0⟩

theorem gen_Process_SqlParam (ver : Int) (dbc sql : Bytes) (fld : Store) (h0 : fld 0 = .int ver) (h1 : fld 1 = .str dbc)
    (h2 : fld 2 = .str sql) :
    ∃ fld', runFn feMask process.UdpTxSqlParamPack [] fld = some (.nil, fld') ∧
      fld' 1 = .str (processDbc ver dbc) ∧ fld' 2 = .str (sqlAfter ver sql) ∧ fld' 0 = .int ver :=
  gen_Process_Sql ver dbc sql fld h0 h1 h2

/-- the Sql rule of the transcribed bodies is the model's derivation `dSqlTooLong` -/
theorem sqlAfter_model (ver : Int) (sql : Bytes) :
    (match dSqlTooLong.apply ver (fun f => if f = "Sql" then .str sql else .null) with
      | some st => st "Sql" | none => .null) = .str (sqlAfter ver sql) := by
  unfold sqlAfter Deriv.apply dSqlTooLong masksAtB
  by_cases hm : masksAt ver = true <;> by_cases hl : 32768 ≤ sql.length <;>
    simp [hm, hl, Val.asStr, assignAll, Rec.set]

/-! non-vacuity: the transcriptions run -/
example : (runFn feMask process.UdpTxDbcPack [] (fun j => if j = 0 then .int 50100 else if j = 1 then
    .str [112, 97, 115, 115, 119, 111, 114, 100, 61, 120] else .nil)).map (fun r => r.2 1) =
    some (.str [112, 97, 115, 115, 119, 111, 114, 100, 61, 35]) := by decide +kernel
example : goMaskPass 59 kwPassword kwHash [117, 61, 49, 59, 112, 97, 115, 115, 119, 111, 114, 100, 61, 120] =
    some (.str [117, 61, 49, 59, 112, 97, 115, 115, 119, 111, 114, 100, 61, 35]) := by decide +kernel
example : mkFEnv stringutil.prog 1 [.str [45, 53]] (fun _ => .nil) = some (.int (-5)) := by decide +kernel
example : mkFEnv stringutil.prog 4 [.ints [1, -2, 30], .str [44]] (fun _ => .nil) =
    some (.str [49, 44, 45, 50, 44, 51, 48]) := by decide +kernel
example : mkFEnv paramKV.prog 0 [.str [97, 98, 61, 99], .str [61]] (fun _ => .nil) = some (.int 2) := by decide +kernel

end C07Go
