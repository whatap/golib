/-
  Property C06 — the one-way TCP client delivers whole frames, in order, at most once, and recovers.

  The invariants and the constructions of schedules are in the lemma files Golib.Tcp.*; a fact that
  is stated only here is proved here.

  The CodeModel (Golib.Tcp.Model) is a machine of atomic actions following OneWayTcpClient.go:
  senders (threads 1,2,…) run sendDirect or SendFlush, thread 0 runs process(); the environment
  decides whether a dial, a write or a flush succeeds, how many bytes go out before an error,
  and when the peer closes.  Every theorem below quantifies over **all schedules** (`Reach`: any
  list of actions whose guards hold), all frame contents (`bytesOf` is arbitrary), any number of
  threads, any fault sequence.

  `Cfg` carries what tie A re-extracts from the Go source on every run (Golib/Props/C06Gen.lean);
  its seven fields (`useQueue`, `sendLocked`, `bgLocked`, `procLocked`, `acLocked`, `rearm`,
  `recoverReports`) are described at the head of Golib.Tcp.Model.  `bgLocked` (process() connects
  under the send lock) is false in the code as found: D42, see `finding_D42`.

  What a state records about the wire: `s.sent c` — the bytes the kernel took on connection `c`;
  `s.delivered c` — what the peer received (`sent c`, cut where the peer closed); `s.log.get c` —
  the sends whose frames were handed to the buffered writer of `c`, in order; `s.handed` — the
  sends in acceptance order (lock order / enqueue order; send ids are issued in that order);
  `s.results` — what Send returned.
-/
import Golib.Tcp.Drain
import Golib.Tcp.WireLink
import Golib.Props.C05
import Golib.Tcp.Histories
import Golib.Tcp.Dial

namespace C06
open Tcp

variable (cfg : Cfg) (bytesOf : Nat → Bytes)

/-! ### whole frames -/

/-- Per connection, every prefix of the bytes sent — in particular what the peer received before
    it closed, at whatever byte — is a sequence of whole frames of sends handed to that connection,
    in that order, followed by nothing or by a strict prefix of the next such frame. -/
theorem frames_whole (hl : cfg.sendLocked = true) (s : St) (hr : Reach cfg bytesOf s) (c : Nat) (d : Bytes)
    (hd : d <+: s.sent c) : WholeThenTail bytesOf (s.log.get c) d :=
  prefix_frames bytesOf _ d (hd.trans (sent_prefix_of_bytesInv bytesOf (inv_reach cfg bytesOf hl hr).bytes c))

/-- … so is what the peer received -/
theorem frames_whole_delivered (hl : cfg.sendLocked = true) (s : St) (hr : Reach cfg bytesOf s) (c : Nat) :
    WholeThenTail bytesOf (s.log.get c) (s.delivered c) :=
  frames_whole cfg bytesOf hl s hr c _ (delivered_prefix_sent s c)

/-- the frames on the wire are frames of accepted sends -/
theorem frames_accepted (hl : cfg.sendLocked = true) (s : St) (hr : Reach cfg bytesOf s) (c sid : Nat)
    (h : sid ∈ s.log.get c) : sid ∈ s.handed := by
  have ho := (inv_reach cfg bytesOf hl hr).order
  apply ho.logHanded
  by_cases hlt : c < s.next
  · exact List.mem_flatMap.mpr ⟨c, List.mem_range.mpr hlt, h⟩
  · rw [ho.freshLog c (by omega)] at h; cases h

/-- a stream ends inside a frame only while a write is in progress or bytes are still buffered:
    when the writer's buffer is empty and no copy is in progress, exactly whole frames were sent -/
theorem frames_complete_when_flushed (hl : cfg.sendLocked = true) (s : St) (hr : Reach cfg bytesOf s) (c : Nat)
    (hb : s.buf.get c = []) (hp : s.pend.get c = []) : s.sent c = concatF bytesOf (s.log.get c) := by
  have := (inv_reach cfg bytesOf hl hr).bytes.eq c
  rw [hb, hp] at this
  simpa using this

/-- The reader's parse is the writer's log.  Frames are self-delimiting (a length header), so however
    the collector splits what it received on a connection into whole frames and a tail, it finds
    byte for byte the first frames handed to that connection, in order. -/
theorem parse_is_log (hl : cfg.sendLocked = true) (h : Nat) (lenOf : Bytes → Nat) (sd : SelfDelim bytesOf h lenOf)
    (s : St) (hr : Reach cfg bytesOf s) (c : Nat) (fs' : List Nat) (t' : Bytes) (ht' : IsTail bytesOf t')
    (hparse : s.delivered c = concatF bytesOf fs' ++ t') :
    ∃ k, fs'.map bytesOf = ((s.log.get c).take k).map bytesOf := by
  obtain ⟨k, tail, hk, htail⟩ := frames_whole_delivered cfg bytesOf hl s hr c
  refine ⟨k, ?_⟩
  have hT : IsTail bytesOf tail := by
    rcases htail with h0 | ⟨sid, _, hp, hn⟩
    · exact Or.inl h0
    · exact Or.inr ⟨sid, hp, hn⟩
  exact ((sd.decompose_unique _ _ _ _ hT ht' (hk.symm.trans hparse)).1).symm

/-- the frames `makeData` builds are self-delimiting (payload length in header bytes 18..21) -/
theorem makeData_self_delimiting (hash64 : Bytes → Int) (dflt : Bytes) (ov : Nat → Bytes) (pc : Nat → Int)
    (pl : Nat → Bytes) (hlen : ∀ sid, (pl sid).length < 256 ^ 4) :
    SelfDelim (fun sid => makeData hash64 dflt (ov sid) (pc sid) (pl sid)) 22
      (fun hdr => Prim.unbeN ((hdr.drop 18).take 4)) :=
  mkFrame_selfDelim pc (fun sid => hash64 (effLicense (ov sid) dflt)) pl hlen

/-! ### order, at most once -/

/-- The sends whose frames went to the connections, connection after connection, are strictly
    increasing in acceptance order: nothing twice, nothing reordered; all of them were accepted;
    hence they form a subsequence of the acceptance order. -/
theorem order_once (hl : cfg.sendLocked = true) (s : St) (hr : Reach cfg bytesOf s) :
    (flatLogs s).Pairwise (· < ·) ∧ s.handed.Pairwise (· < ·) ∧ (∀ x ∈ flatLogs s, x ∈ s.handed) ∧
    (flatLogs s).Sublist s.handed := by
  have hc := (inv_reach cfg bytesOf hl hr).order
  exact ⟨hc.logSorted, hc.handedSorted, hc.logHanded,
    sublist_of_sorted _ _ hc.logSorted hc.handedSorted hc.logHanded⟩

/-- frames go to connections in the order the connections were made: only the newest writer is written -/
theorem newest_connection_only (hl : cfg.sendLocked = true) (s : St) (hr : Reach cfg bytesOf s) (w : Nat)
    (h : s.wr = some w) : w + 1 = s.next ∧ ∀ w', s.next ≤ w' → s.log.get w' = [] :=
  ⟨(inv_reach cfg bytesOf hl hr).order.wrNew w h, (inv_reach cfg bytesOf hl hr).order.freshLog⟩

/-! ### no interleaving -/

/-- at most one thread is between Lock and Unlock (direct mode) / only process() sends (queue mode) -/
theorem mutual_exclusion (hl : cfg.sendLocked = true) (s : St) (hr : Reach cfg bytesOf s) (t t' : Nat)
    (h1 : inCS (s.pc t) = true) (h2 : inCS (s.pc t') = true) : t = t' :=
  mutex_unique cfg (inv_reach cfg bytesOf hl hr).mutex t t' h1 h2

/-- For every buffered writer: bytes already sent, then bytes buffered, then the part of the frame
    still being copied are **exactly** the concatenation of the frames handed to it — the bytes
    of a frame are contiguous, never mixed with another frame's. -/
theorem no_interleave (hl : cfg.sendLocked = true) (s : St) (hr : Reach cfg bytesOf s) (w : Nat) :
    s.sent w ++ s.buf.get w ++ s.pend.get w = concatF bytesOf (s.log.get w) :=
  (inv_reach cfg bytesOf hl hr).bytes.eq w

/-! ### frame header: pcode and license -/

/-- the frame `makeData` builds carries the pack's project code, the hash of the per-send license
    if one was given and of the client's license otherwise, and the payload length -/
theorem license_choice (hash64 : Bytes → Int) (dflt override : Bytes) (pcode : Int) (payload rest : Bytes)
    (hp : Prim.inRange 8 pcode) (hh : ∀ b, Prim.inRange 8 (hash64 b)) (hlen : payload.length < 256 ^ 4) :
    parseHeader (makeData hash64 dflt override pcode payload ++ rest) =
      some { src := 10, ver := 0, pcode := pcode,
             hash := hash64 (if override ≠ [] then override else dflt), len := payload.length } :=
  parseHeader_mkFrame pcode _ payload rest hp (hh _) hlen

theorem frame_length (hash64 : Bytes → Int) (dflt override : Bytes) (pcode : Int) (payload : Bytes) :
    (makeData hash64 dflt override pcode payload).length = 22 + payload.length :=
  mkFrame_length _ _ _

/-! ### the frames are C05's frames -/

/-- with C05's license hash, the frame `makeData` builds is C05's reference frame byte for byte -/
theorem frame_is_c05_frame (dflt ov : Bytes) (pcode : Int) (pl : Bytes) (hlen : pl.length < 256 ^ 4) :
    makeData Wire.hash64 dflt ov pcode pl = Wire.frame pcode (effLicense ov dflt) pl := by
  unfold makeData
  exact (wire_frame_eq pcode _ pl hlen).symm

/-- instance of C05's `frame_parse`: the collector's parser reads from a C06 frame the pack's project
    code, the hash of the license in effect and the payload, consuming exactly the frame -/
theorem frame_parse_c05 (dflt ov : Bytes) (pcode : Int) (pl r : Bytes) (hp : Prim.inRange 8 pcode)
    (hlen : pl.length < 2147483648) :
    P.run Wire.parseFrame (makeData Wire.hash64 dflt ov pcode pl ++ r) =
      some (⟨10, 0, pcode, Wire.hash64 (effLicense ov dflt), pl⟩, r) := by
  rw [frame_is_c05_frame dflt ov pcode pl (by omega)]
  exact C05.frame_parse pcode _ pl r hp hlen

/-- `parse_is_log` at C05's reference frames: `Wire.frame` is `mkFrame` (`wire_frame_eq`), so streams of
    C05 frames decompose uniquely (`wire_frames_selfDelim`), and for the client sending C05 frames the
    collector's split of a connection's bytes is the beginning of that connection's log -/
theorem parse_is_log_c05 (hl : cfg.sendLocked = true) (pc : Nat → Int) (lic pl : Nat → Bytes)
    (hlen : ∀ sid, (pl sid).length < 2147483648) (s : St)
    (hr : Reach cfg (fun sid => Wire.frame (pc sid) (lic sid) (pl sid)) s) (c : Nat) (fs' : List Nat) (t' : Bytes)
    (ht' : IsTail (fun sid => Wire.frame (pc sid) (lic sid) (pl sid)) t')
    (hparse : s.delivered c = concatF (fun sid => Wire.frame (pc sid) (lic sid) (pl sid)) fs' ++ t') :
    ∃ k, fs'.map (fun sid => Wire.frame (pc sid) (lic sid) (pl sid)) =
      ((s.log.get c).take k).map (fun sid => Wire.frame (pc sid) (lic sid) (pl sid)) :=
  parse_is_log cfg _ hl 22 _ (wire_frames_selfDelim pc lic pl hlen) s hr c fs' t' ht' hparse

/-! ### recovery -/

/-- Every connection — in particular one made after any sequence of faults — starts at a frame
    boundary: the first byte the peer receives on it is the first byte of the first frame handed
    to that connection. -/
theorem recovers (hl : cfg.sendLocked = true) (hne : ∀ sid, bytesOf sid ≠ []) (s : St)
    (hr : Reach cfg bytesOf s) (c b : Nat) (rest : Bytes) (hd : s.delivered c = b :: rest) :
    ∃ sid r, s.log.get c = sid :: r ∧ (bytesOf sid).head? = some b := by
  have hp : s.delivered c <+: concatF bytesOf (s.log.get c) :=
    (delivered_prefix_sent s c).trans (sent_prefix_of_bytesInv bytesOf (inv_reach cfg bytesOf hl hr).bytes c)
  rw [hd] at hp
  cases hlog : s.log.get c with
  | nil => rw [hlog] at hp; simp [concatF] at hp
  | cons sid r =>
    refine ⟨sid, r, rfl, ?_⟩
    rw [hlog] at hp
    simp only [concatF] at hp
    cases hb : bytesOf sid with
    | nil => exact absurd hb (hne sid)
    | cons x xs =>
      rw [hb, List.cons_append, List.cons_prefix_cons] at hp
      simp [hp.1]

/-- The client reconnects on a later send (direct mode).  From every reachable state in which
    sender `t` is idle and the send lock is free — after any faults whatever — there is a
    continuation of at most two sends by `t`, containing no fault action, after which a send has
    been accepted and its frame is whole on a connection.  (Two, because a writer left with a
    sticky error makes the next send fail and close; the one after that dials.)  Queue mode:
    `queue_drains`. -/
theorem reconnects (hl : cfg.sendLocked = true) (hra : cfg.rearm = true) (hq : cfg.useQueue = false)
    (hne : ∀ sid, bytesOf sid ≠ [])
    (s : St) (hr : Reach cfg bytesOf s) (t : Nat) (ht : t ≠ 0) (hidle : s.pc t = .idle) (hlock : s.lock = none) :
    ∃ acts s', run cfg bytesOf acts s = some s' ∧ acts.length ≤ 11 ∧ (∀ a ∈ acts, a.isFault = false) ∧
      ∃ sid, s.nsid ≤ sid ∧ (sid, true) ∈ s'.results ∧ ∃ w, Whole bytesOf s' w sid := by
  have hg := inv_reach cfg bytesOf hl hr
  by_cases hclean : s.conn = none ∨ ∃ w, s.wr = some w ∧ s.err.get w = false
  · obtain ⟨s', hrun, hres, hw⟩ := send_ok_of_clean cfg bytesOf hl hra hq hne s hg t ht hidle hlock hclean
    refine ⟨_, s', hrun, ?_, okSend_noFault t _ _ _, s.nsid, Nat.le_refl _, hres ▸ List.mem_cons_self, hw⟩
    cases decide (s.conn = none) <;> simp [okSend]
  · -- connected, and the writer carries a sticky error
    have hc : s.conn ≠ none := fun h => hclean (Or.inl h)
    obtain ⟨w, hw⟩ : ∃ w, s.wr = some w := by
      cases hwr : s.wr with
      | none => exact absurd hwr (hg.order.connWr hc)
      | some w => exact ⟨w, rfl⟩
    have he : s.err.get w = true := by
      cases h : s.err.get w with
      | true => rfl
      | false => exact absurd (Or.inr ⟨w, hw, h⟩) hclean
    obtain ⟨s1, hrun1, hc1, hl1, hp1, hn1⟩ := sticky_send cfg bytesOf hq s t w ht hidle hlock hc hw he
    have hg1 := inv_run cfg bytesOf hl _ s s1 hg hrun1
    obtain ⟨s', hrun2, hres, hw2⟩ := send_ok_of_clean cfg bytesOf hl hra hq hne s1 hg1 t ht hp1 hl1 (Or.inl hc1)
    refine ⟨stickySend t s.nsid ++ okSend t s1.nsid (bytesOf s1.nsid).length (s1.conn = none), s', ?_, ?_, ?_, s1.nsid,
      by omega, hres ▸ List.mem_cons_self, hw2⟩
    · rw [run_append, hrun1]; exact hrun2
    · cases decide (s1.conn = none) <;> simp [okSend, stickySend]
    · intro a ha
      rcases List.mem_append.mp ha with h | h
      · exact stickySend_noFault t _ a h
      · exact okSend_noFault t _ _ _ a h

/-- **Queue mode: every queued pack is eventually written whole, in order.**  From every reachable
    queue-mode state in which process() is idle and the send lock free — after any faults — there
    is a fault-free continuation in which process() (dialling if there is no connection) empties the
    queue; afterwards every pack that was queued lies whole on a connection, and (by `order_once`,
    which holds in every reachable state) in acceptance order. -/
theorem queue_drains (hl : cfg.sendLocked = true) (hra : cfg.rearm = true) (huq : cfg.useQueue = true)
    (hne : ∀ sid, bytesOf sid ≠ []) (s : St) (hr : Reach cfg bytesOf s) (hp : s.pc 0 = .idle)
    (hlk : cfg.procLocked = true → s.lock = none) :
    ∃ acts s', run cfg bytesOf acts s = some s' ∧ (∀ a ∈ acts, a.isFault = false) ∧ s'.queue = [] ∧
      s'.pc 0 = .idle ∧ (∀ sid ∈ s.queue, ∃ w, Whole bytesOf s' w sid) ∧
      (flatLogs s').Pairwise (· < ·) := by
  obtain ⟨acts, s', h1, h2, h3, h4, h5, _⟩ :=
    drain cfg bytesOf hl hra huq hne s.queue s (inv_reach cfg bytesOf hl hr) rfl hp hlk
  exact ⟨acts, s', h1, h2, h3, h4, h5, (order_once cfg bytesOf hl s' (reach_run cfg bytesOf hr acts h1)).1⟩

/-- the queue component is C11's RequestQueue model: a Put is refused only when the queue is full,
    an accepted pack goes to the back, and GetTimeout hands out the front -/
theorem queue_is_c11 (s s' : St) (t sid : Nat) :
    (step cfg bytesOf s (.enqueue t sid) = some s' → s.q.room = true ∧ s'.queue = s.queue ++ [sid]) ∧
    (step cfg bytesOf s (.enqueueFail t sid) = some s' → s.q.room = false ∧ s'.queue = s.queue) ∧
    (step cfg bytesOf s .dequeue = some s' → ∃ x, s.queue = x :: s'.queue) := by
  refine ⟨fun h => ?_, fun h => ?_, fun h => ?_⟩
  · cases step_enqueue h with | enqueue _ _ _ _ hr => exact ⟨hr, rfl⟩
  · cases step_enqueueFail h with | enqueueFail _ _ _ _ hr => exact ⟨hr, rfl⟩
  · obtain ⟨x, _, _, hq, rfl, _, rfl⟩ := step_dequeue h; exact ⟨x, hq⟩

/-- **A healthy idle connection never fails a send** (direct mode): however long the client idles
    (`tick d`, any `d`), the next send on a clean writer — or with no connection: it dials — is
    accepted and whole on the wire: `send()` re-arms the write deadline before every write. -/
theorem idle_connection_never_fails (hl : cfg.sendLocked = true) (hra : cfg.rearm = true) (hq : cfg.useQueue = false)
    (hne : ∀ sid, bytesOf sid ≠ []) (s : St) (hr : Reach cfg bytesOf s) (t : Nat) (ht : t ≠ 0)
    (hidle : s.pc t = .idle) (hlock : s.lock = none)
    (hclean : s.conn = none ∨ ∃ w, s.wr = some w ∧ s.err.get w = false) (d : Nat) :
    ∃ dial s', run cfg bytesOf (.tick d :: okSend t s.nsid (bytesOf s.nsid).length dial) s = some s' ∧
      (s.nsid, true) ∈ s'.results ∧ ∃ w, Whole bytesOf s' w s.nsid := by
  have hg := inv_reach cfg bytesOf hl hr
  have e0 : step cfg bytesOf s (.tick d) = some { s with now := s.now + d } := rfl
  obtain ⟨s', hrun, hres, hw⟩ := send_ok_of_clean cfg bytesOf hl hra hq hne _
    (inv_run cfg bytesOf hl [.tick d] s _ hg (run_cons_of_step cfg bytesOf [] e0)) t ht hidle hlock hclean
  exact ⟨_, s', (run_cons_of_step cfg bytesOf _ e0).trans hrun, hres ▸ List.mem_cons_self, hw⟩

/-! ### with a healthy connection nothing accepted is lost -/

/-- The repaired client (process() connects, and sends its items, under the send lock; ApplyConfig
    closes and re-dials under it): along any schedule without a fault action — reconfigurations
    (ApplyConfig: Close, Connect), capacity and timeout changes, idle time included — every send
    that was accepted (Send / Put returned success) is still queued, is being sent by process(), or
    lies whole in what a connection carried and the peer received. -/
theorem healthy_no_loss (hl : cfg.sendLocked = true) (hbg : cfg.bgLocked = true) (hac : cfg.acLocked = true)
    (hpl : cfg.procLocked = true) (hrr : cfg.recoverReports = true) (acts : List Act) (s : St)
    (hh : Healthy acts) (h : run cfg bytesOf acts init = some s) : NothingLost bytesOf s :=
  no_loss_locked cfg bytesOf hl hbg hac hpl hrr acts s hh h

/-- Whatever the other locks: the same holds along schedules of benign actions (`Act.benign`): no fault
    action, and besides neither the racy background dial (`bgDialOk`), nor a step of ApplyConfig's Close /
    Connect, nor a panic of send() that its recover() swallows. -/
theorem healthy_no_loss_partial (hl : cfg.sendLocked = true) (acts : List Act) (s : St)
    (hh : ∀ a ∈ acts, a.benign = true) (h : run cfg bytesOf acts init = some s) : NothingLost bytesOf s := by
  have := run_inv cfg bytesOf (I := fun s => Inv cfg bytesOf s ∧ HealthyInv bytesOf s) (fun a => a.benign = true)
    (fun s a s' hb hi h => ⟨inv_step cfg bytesOf hl s a s' hi.1 h,
      healthyInv_step cfg bytesOf s s' a (Or.inl hb) hi.1.mutex hi.1.bytes hi.2 h⟩)
    acts init s hh ⟨inv_init cfg bytesOf, healthyInv_init bytesOf⟩ h
  exact nothingLost_of_healthy bytesOf this.2

/-- once the queue is drained and process() is idle, every accepted send is whole on the wire
    (both modes) -/
theorem healthy_drained (hl : cfg.sendLocked = true) (hbg : cfg.bgLocked = true) (hac : cfg.acLocked = true)
    (hpl : cfg.procLocked = true) (hrr : cfg.recoverReports = true) (acts : List Act) (s : St)
    (hh : Healthy acts) (h : run cfg bytesOf acts init = some s) (hq : s.queue = []) (hp : s.pc 0 = .idle)
    (sid : Nat) (ha : (sid, true) ∈ s.results) : ∃ w, Whole bytesOf s w sid ∧ s.delivered w = s.sent w := by
  rcases no_loss_locked cfg bytesOf hl hbg hac hpl hrr acts s hh h sid ha with h1 | h1 | h1
  · rw [hq] at h1; cases h1
  · rw [hp] at h1; rcases h1 with h2 | ⟨_, _, h2⟩ | ⟨_, h2⟩ <;> cases h2
  · exact h1

/-! ### fault histories: errors at arbitrary byte offsets, reconnects, no re-send -/

/-- Once a connection's buffered writer has failed, the connection is final: whatever the client
    and the environment do afterwards — any schedule — the bytes it carried and the sends logged on
    it stay as they are.  With `frames_whole`: the truncated frame stays the last thing on it. -/
theorem dead_connection_is_final (acts : List Act) (s s' : St) (h : run cfg bytesOf acts s = some s') (w : Nat)
    (hd : s.err.get w = true) : s'.err.get w = true ∧ s'.sent w = s.sent w ∧ s'.log.get w = s.log.get w :=
  run_dead cfg bytesOf acts s s' h w hd

/-- No re-send: the frame of a send is handed to at most one connection. -/
theorem no_resend (hl : cfg.sendLocked = true) (s : St) (hr : Reach cfg bytesOf s) (c c' sid : Nat)
    (h1 : sid ∈ s.log.get c) (h2 : sid ∈ s.log.get c') : c = c' :=
  one_connection (inv_reach cfg bytesOf hl hr).order c c' sid h1 h2

/-- **Delivered whole, in order, at most once — over all connections.**  In every reachable state
    there is a count `k c` per connection such that the peer of `c` received exactly the first
    `k c` frames handed to `c` and then nothing or a strict prefix of the next one; the whole frames
    of all connections, connection after connection, are strictly increasing in acceptance order
    (no frame twice, on one or on two connections) and a subsequence of the accepted sends. -/
theorem delivered_once (hl : cfg.sendLocked = true) (s : St) (hr : Reach cfg bytesOf s) :
    ∃ k : Nat → Nat,
      (∀ c, ∃ tail, s.delivered c = concatF bytesOf ((s.log.get c).take (k c)) ++ tail ∧
          (tail = [] ∨ ∃ sid, (s.log.get c)[k c]? = some sid ∧ tail <+: bytesOf sid ∧ tail ≠ bytesOf sid)) ∧
      (wholeFrames s k).Pairwise (· < ·) ∧ (wholeFrames s k).Sublist s.handed :=
  Tcp.delivered_once cfg bytesOf (inv_reach cfg bytesOf hl hr)

/-- The same over **histories of calls**: any list of sends that succeed, dials that fail, writes
    and flushes that fail after an arbitrary number of bytes, peer closes after an arbitrary number
    of bytes, `Close()` calls and idle periods (`Tcp.HEv`, run as a fold over the action machine). -/
theorem fault_histories (hl : cfg.sendLocked = true) (es : List HEv) (s : St)
    (h : runHist cfg bytesOf es init = some s) :
    ∃ k : Nat → Nat,
      (∀ c, ∃ tail, s.delivered c = concatF bytesOf ((s.log.get c).take (k c)) ++ tail ∧
          (tail = [] ∨ ∃ sid, (s.log.get c)[k c]? = some sid ∧ tail <+: bytesOf sid ∧ tail ≠ bytesOf sid)) ∧
      (wholeFrames s k).Pairwise (· < ·) ∧ (wholeFrames s k).Sublist s.handed :=
  Tcp.fault_histories cfg bytesOf hl es s h

/-- **A write error at any byte offset `k`**: exactly `k` more bytes are on the connection, the
    writer is in error, the client has closed, the send is reported as failed, the lock is free. -/
theorem write_fault_at_any_offset {s : St} {t sid w k : Nat} (ht : t ≠ 0) (hp : s.pc t = .made sid) (hw : s.wr = some w)
    (hc : s.conn ≠ none) (he : s.err.get w = false) (hne : bytesOf sid ≠ [])
    (hk : k ≤ (s.buf.get w ++ bytesOf sid).length) :
    ∃ s', run cfg bytesOf (writeFaultTail t (bytesOf sid).length k) s = some s' ∧
      s'.sent w = s.sent w ++ (s.buf.get w ++ bytesOf sid).take k ∧ s'.err.get w = true ∧ s'.conn = none ∧
      s'.results = (sid, false) :: s.results ∧ s'.log.get w = s.log.get w ++ [sid] ∧ s'.lock = none ∧
      s'.pc t = .idle ∧ s'.nsid = s.nsid ∧ (∀ w', w ≠ w' → s'.sent w' = s.sent w') := by
  have e3 := (Step.autoFlushErr (cfg := cfg) (bytesOf := bytesOf) (s := s.written cfg bytesOf t sid w) (k := k)
    (AMap.get_set_self _ _ _)
    (by rw [show (s.written cfg bytesOf t sid w).buf.get w = _ from AMap.get_set_self _ _ _]; exact hk) he).complete
  refine ⟨_, by
    rw [writeFaultTail, run_write cfg bytesOf hp hw hc he hne, run_cons_of_step cfg bytesOf _ e3,
      run_cons_of_step cfg bytesOf _ (Step.book (.close (pc_setPc_self _ _ _))).complete,
      run_cons_of_step cfg bytesOf _ (Step.book (.unlock (by rw [pc_setPc_self, if_neg ht]) ht)).complete]
    rfl, ?_⟩
  simp only [St.setPc, St.setErr, St.push, St.written, St.pc, St.sent, AMap.get_set_self, List.reverse_append,
    List.reverse_reverse, true_and]
  intro w' hne'
  rw [AMap.get_set_ne _ _ _ _ hne']

/-- **A flush error at any byte offset `k`** (short of everything). -/
theorem flush_fault_at_any_offset {s : St} {t sid w k : Nat} (ht : t ≠ 0) (hp : s.pc t = .made sid) (hw : s.wr = some w)
    (hc : s.conn ≠ none) (he : s.err.get w = false) (hne : bytesOf sid ≠ [])
    (hk : k < (s.buf.get w ++ bytesOf sid).length) :
    ∃ s', run cfg bytesOf (flushFaultTail t (bytesOf sid).length k) s = some s' ∧
      s'.sent w = s.sent w ++ (s.buf.get w ++ bytesOf sid).take k ∧ s'.err.get w = true ∧
      s'.results = (sid, false) :: s.results ∧ s'.log.get w = s.log.get w ++ [sid] ∧ s'.lock = none ∧
      s'.pc t = .idle ∧ s'.nsid = s.nsid ∧ (∀ w', w ≠ w' → s'.sent w' = s.sent w') := by
  have e3 := (Step.book (.quiet (.writeEnd (cfg := cfg) (s := s.written cfg bytesOf t sid w) (t := t) (sid := sid) (w := w)
    (AMap.get_set_self _ _ _)))).complete (bytesOf := bytesOf)
  have hb : ((s.written cfg bytesOf t sid w).setPc t (.wrote sid w)).buf.get w = s.buf.get w ++ bytesOf sid :=
    AMap.get_set_self _ _ _
  have e4 := (Step.flushErr (cfg := cfg) (bytesOf := bytesOf) (s := (s.written cfg bytesOf t sid w).setPc t (.wrote sid w))
    (k := k) (pc_setPc_self _ _ _) hw
    (hb ▸ Nat.le_of_lt hk) (fun h => absurd (he.symm.trans h) Bool.false_ne_true) (fun _ => hb ▸ hk)).complete
  -- a sender holds no lock of `process()`: the release is void
  rw [show ∀ x : St, x.procRel cfg.procLocked t = x from fun x => by simp only [St.procRel, ht, false_and, if_false],
    if_neg ht, if_neg ht] at e4
  refine ⟨_, by
    rw [flushFaultTail, run_write cfg bytesOf hp hw hc he hne, run_cons_of_step cfg bytesOf _ e3,
      run_cons_of_step cfg bytesOf _ e4, run_cons_of_step cfg bytesOf _ (Step.book (.unlock (pc_setPc_self _ _ _) ht)).complete]
    rfl, ?_⟩
  simp only [St.setPc, St.setErr, St.push, St.written, St.pc, St.sent, AMap.get_set_self, List.reverse_append,
    List.reverse_reverse, true_and]
  intro w' hne'
  rw [AMap.get_set_ne _ _ _ _ hne']

/-- **Write error at byte `k`, then reconnect** — from any reachable state with a connection up on a
    clean writer `w`, for every `k`: the history `[writeFault t k, ok t]` is admitted; connection
    `w` carried exactly `k` bytes more and never changes again; the failed send is reported failed
    and its frame is on no other connection (never re-sent); the next send is accepted and whole
    on a connection. -/
theorem fault_then_reconnect (hl : cfg.sendLocked = true) (hra : cfg.rearm = true) (hq : cfg.useQueue = false)
    (hne : ∀ sid, bytesOf sid ≠ []) (s : St) (hr : Reach cfg bytesOf s) (t w : Nat) (ht : t ≠ 0)
    (hidle : s.pc t = .idle) (hlock : s.lock = none) (hc : s.conn ≠ none) (hw : s.wr = some w) (he : s.err.get w = false)
    (k : Nat) (hk : k ≤ (s.buf.get w ++ bytesOf s.nsid).length) :
    ∃ s1 s2, runHist cfg bytesOf [.writeFault t k] s = some s1 ∧ runHist cfg bytesOf [.ok t] s1 = some s2 ∧
      s1.sent w = s.sent w ++ (s.buf.get w ++ bytesOf s.nsid).take k ∧
      (s.nsid, false) ∈ s2.results ∧ (s.nsid + 1, true) ∈ s2.results ∧ (∃ w', Whole bytesOf s2 w' (s.nsid + 1)) ∧
      (∀ c, s.nsid ∈ s2.log.get c → c = w) ∧
      (∀ acts s3, run cfg bytesOf acts s1 = some s3 → s3.sent w = s1.sent w) := by
  have hwe : ¬ (s.conn ≠ none ∧ writerErr s = true) := by
    intro h; simp [writerErr, hw, he] at h
  obtain ⟨s1, hrun1, hsent, herr, hconn, hres, hlog, hlk, hpc, hnsid, _⟩ :=
    write_fault_at_any_offset cfg bytesOf (s := s.locked t) (w := w) (k := k) ht (pc_setPc_self _ _ _) hw hc he (hne s.nsid) hk
  have hh1 : runHist cfg bytesOf [.writeFault t k] s = some s1 := by
    simp only [runHist, hexpand, if_neg hwe, if_neg hc, List.append_nil, List.singleton_append]
    rw [run_cons_of_step cfg bytesOf _ (show step cfg bytesOf s (.lockSend t s.nsid) = some (s.locked t) from
      (Step.book (.lockSend ht hq hidle rfl (fun _ => hlock))).complete), hrun1]; rfl
  have hr1 : Reach cfg bytesOf s1 := runHist_reach cfg bytesOf _ s s1 hr hh1
  have hn1 : s1.nsid = s.nsid + 1 := hnsid
  obtain ⟨s2, hrun2, hres2, hwhole⟩ :=
    send_ok_of_clean cfg bytesOf hl hra hq hne s1 (inv_reach cfg bytesOf hl hr1) t ht hpc hlk (Or.inl hconn)
  have hh2 : runHist cfg bytesOf [.ok t] s1 = some s2 := by
    simp only [runHist, hexpand]
    rw [hrun2]; rfl
  have hr2 : Reach cfg bytesOf s2 := runHist_reach cfg bytesOf _ s1 s2 hr1 hh2
  refine ⟨s1, s2, hh1, hh2, hsent, ?_, ?_, hn1 ▸ hwhole, ?_, ?_⟩
  · rw [hres2, hres]
    exact List.mem_cons_of_mem _ List.mem_cons_self
  · rw [hres2, hn1]
    exact List.mem_cons_self
  · intro c hcin
    refine one_connection (inv_reach cfg bytesOf hl hr2).order c w s.nsid hcin ?_
    rw [(run_dead cfg bytesOf _ s1 s2 hrun2 w herr).2.2, hlog]
    exact List.mem_append_right _ List.mem_cons_self
  · intro acts s3 h3
    exact (run_dead cfg bytesOf acts s1 s3 h3 w herr).2.1

/-! ### Close() racing a send -/

/-- **Every schedule of sends ∥ Close() leaves whole frames.**  The public `Close()` takes no lock
    (`extClose`, enabled whenever its caller is between calls); whatever it interleaves with — a
    sender before its nil test, inside `wr.Write`, before `Flush` — and whether or not `send()`'s
    recover() swallows the resulting panic (`swallow`): each connection received whole frames of
    accepted sends, in order, then at most a strict prefix of the next; nothing twice. -/
theorem close_race_whole_frames (hl : cfg.sendLocked = true) (acts : List Act) (s : St)
    (h : run cfg bytesOf acts init = some s) :
    (∀ c, WholeThenTail bytesOf (s.log.get c) (s.delivered c)) ∧
    (flatLogs s).Pairwise (· < ·) ∧ (flatLogs s).Sublist s.handed :=
  ⟨fun c => frames_whole_delivered cfg bytesOf hl s ⟨acts, h⟩ c,
   (order_once cfg bytesOf hl s ⟨acts, h⟩).1, (order_once cfg bytesOf hl s ⟨acts, h⟩).2.2.2⟩

theorem close_is_healthy (t : Nat) : (Act.extClose t).isFault = false := rfl

/-- `Close()` is not a fault: the no-loss theorem `healthy_no_loss` covers every interleaving of
    `Close()` calls with sends, provided recover() reports (`recoverReports`; `finding_D71` is the
    counterexample without) -/
theorem close_race_no_loss (hl : cfg.sendLocked = true) (hbg : cfg.bgLocked = true) (hac : cfg.acLocked = true)
    (hpl : cfg.procLocked = true) (hrr : cfg.recoverReports = true) (pre post : List Act) (t : Nat) (s : St)
    (hh : Healthy pre) (hh' : Healthy post) (h : run cfg bytesOf (pre ++ .extClose t :: post) init = some s) :
    NothingLost bytesOf s := by
  refine no_loss_locked cfg bytesOf hl hbg hac hpl hrr _ s ?_ h
  intro a ha
  rcases List.mem_append.mp ha with h1 | h1
  · exact hh a h1
  · rcases List.mem_cons.mp h1 with rfl | h2
    · rfl
    · exact hh' a h2

/-! ### the code as found: D42 (process() connects without the lock), D70 (ApplyConfig and process()'s
    sends without the lock), and what re-arming the deadline is for -/


def cfgFixed : Cfg :=
  { useQueue := false, sendLocked := true, bgLocked := true, procLocked := true, acLocked := true, rearm := true,
    recoverReports := true }
/-- the client as first found -/
def cfgFound : Cfg := { cfgFixed with bgLocked := false, procLocked := false, acLocked := false, recoverReports := false }
/-- after fix-D42 only -/
def cfgD70 : Cfg := { cfgFixed with procLocked := false, acLocked := false, recoverReports := false }
/-- after fix-D42 and fix-D70: every lock in place, `send()`'s recover() still returns nil -/
def cfgD71 : Cfg := { cfgFixed with recoverReports := false }
def threeBytes : Nat → Bytes := fun sid => [10, 0, sid]

/-- a schedule after which send `1` was accepted, nobody is in progress, the queue is empty and
    nothing was ever sent refutes `NothingLost` -/
theorem refutes_nothingLost {cfg : Cfg} {sched : List Act} (hh : Healthy sched)
    (h1 : (run cfg threeBytes sched init).map (fun s => (s.results, s.sentRev.toList.map Prod.snd)) = some ([(1, true)], [[]]))
    (h2 : (run cfg threeBytes sched init).map (fun s => (s.queue, s.pcs.get 0)) = some ([], Pc.idle)) :
    ¬ (∀ (acts : List Act) (s : St), Healthy acts → run cfg threeBytes acts init = some s → NothingLost threeBytes s) := by
  intro hall
  cases hrun : run cfg threeBytes sched init with
  | none => rw [hrun] at h1; cases h1
  | some s =>
    rw [hrun] at h1 h2
    simp only [Option.map_some, Option.some.injEq, Prod.mk.injEq] at h1 h2
    obtain ⟨hres, hsent⟩ := h1
    obtain ⟨hq, hpc⟩ := h2
    have := hall sched s hh hrun 1 (by rw [hres]; simp)
    rcases this with h3 | h3 | ⟨w, ⟨pre, post, _, h4⟩, _⟩
    · rw [hq] at h3; cases h3
    · have : s.pc 0 = Pc.idle := hpc
      rw [this] at h3; rcases h3 with h5 | ⟨_, _, h5⟩ | ⟨_, h5⟩ <;> cases h5
    · have hw : s.sentRev.get w = [] := AMap.get_eq_of_forall s.sentRev [] rfl (fun p hp => by
        have hm : p.2 ∈ s.sentRev.toList.map Prod.snd := List.mem_map.mpr ⟨p, hp, rfl⟩
        rw [hsent] at hm; simpa using hm) w
      rw [St.sent, hw, concatF_append, concatF_singleton] at h4
      have := List.prefix_nil.mp h4
      simp [threeBytes] at this

/-- D42: process() sees `conn == nil` and starts to dial; sender 1 connects, copies its frame into the
    buffered writer; process() assigns its own connection and writer; the sender's Flush flushes
    the new, empty writer and Send returns nil. -/
def scheduleD42 : List Act :=
  [.bgCheck, .lockSend 1 1, .connectOk 1, .writeBegin 1, .writeChunk 1 3, .writeEnd 1, .bgDialOk, .flushOk 1, .unlock 1]

/-- D42: in the code as found, no fault anywhere, a send is accepted and its frame is on no connection -/
theorem finding_D42 :
    ¬ (∀ (acts : List Act) (s : St), Healthy acts → run cfgFound threeBytes acts init = some s →
        NothingLost threeBytes s) :=
  refutes_nothingLost (sched := scheduleD42) (by decide) (by decide) (by decide)

/-- the same schedule is not a schedule of the repaired client: its background dial needs the lock -/
theorem scheduleD42_not_fixed : run cfgFixed threeBytes scheduleD42 init = none := by decide

/-- D70 (direct mode, after fix-D42): sender 1 has copied its frame into the buffered writer; thread 2
    runs ApplyConfig with a changed license — Close, Connect, no lock —; the sender's Flush flushes
    the new, empty writer and Send returns nil. -/
def scheduleD70 : List Act :=
  [.lockSend 1 1, .connectOk 1, .writeBegin 1, .writeChunk 1 3, .writeEnd 1, .reconfClose 2, .reconfDialOk 2,
   .flushOk 1, .unlock 1]

theorem finding_D70 :
    ¬ (∀ (acts : List Act) (s : St), Healthy acts → run cfgD70 threeBytes acts init = some s →
        NothingLost threeBytes s) :=
  refutes_nothingLost (sched := scheduleD70) (by decide) (by decide) (by decide)

/-- with ApplyConfig under the lock the reconfiguration has to wait for the sender -/
theorem scheduleD70_not_fixed : run cfgFixed threeBytes scheduleD70 init = none := by decide

def cfgQueueD70 : Cfg := { cfgFixed with useQueue := true, procLocked := false }
def cfgQueueFixed : Cfg := { cfgFixed with useQueue := true }

/-- D70 (queue mode): ApplyConfig takes the lock, but process() sends its items without it: the
    consumer has copied the frame of the accepted pack 1 into the writer when the connection is
    replaced; its Flush flushes the new writer; nothing reports the loss. -/
def scheduleD70q : List Act :=
  [.enqueue 1 1, .bgConnectOk, .dequeue, .writeBegin 0, .writeChunk 0 3, .writeEnd 0, .reconfClose 2, .reconfDialOk 2,
   .flushOk 0]

theorem finding_D70_queue :
    ¬ (∀ (acts : List Act) (s : St), Healthy acts → run cfgQueueD70 threeBytes acts init = some s →
        NothingLost threeBytes s) :=
  refutes_nothingLost (sched := scheduleD70q) (by decide) (by decide) (by decide)

theorem scheduleD70q_not_fixed : run cfgQueueFixed threeBytes scheduleD70q init = none := by decide

/-- D71 (all locks in place): sender 1 holds the send lock and has passed `send()`'s `conn == nil` test;
    thread 2 calls the public `Close()` — which takes no lock — and `conn` becomes nil; the sender's
    `conn.SetWriteDeadline` dereferences nil, `send()`'s deferred `recover()` swallows the panic and
    `send()` returns nil; `Flush()` of the (empty) writer succeeds; Send returns nil.  The frame was
    never written. -/
def scheduleD71 : List Act :=
  [.bgConnectOk, .lockSend 1 1, .extClose 2, .swallow 1, .flushOk 1, .unlock 1]

theorem finding_D71 :
    ¬ (∀ (acts : List Act) (s : St), Healthy acts → run cfgD71 threeBytes acts init = some s →
        NothingLost threeBytes s) :=
  refutes_nothingLost (sched := scheduleD71) (by decide) (by decide) (by decide)

/-- once recover() reports the panic as an error the schedule is no schedule of the client: the
    send cannot come back with nil -/
theorem scheduleD71_not_fixed : run cfgFixed threeBytes scheduleD71 init = none := by decide

/-- … the same race then ends in a reported failure (`connectFail` stands for "send() returned an
    error before anything was written"), or — had the test come after the Close — in a reconnect -/
example : (run cfgFixed threeBytes [.bgConnectOk, .lockSend 1 1, .extClose 2, .connectFail 1, .close 1, .unlock 1] init).map
    (fun s => s.results) = some [(1, false)] := by decide
example : (run cfgFixed threeBytes [.bgConnectOk, .lockSend 1 1, .extClose 2, .connectOk 1, .writeBegin 1, .writeChunk 1 3,
    .writeEnd 1, .extClose 2, .flushOk 1, .unlock 1] init).map (fun s => (s.results, s.delivered 0, s.delivered 1)) =
    some ([(1, true)], [], [10, 0, 1]) := by decide

def cfgArmOnce : Cfg := { cfgFixed with rearm := false }

def scheduleIdle : List Act :=
  [.bgConnectOk, .tick 60001, .lockSend 1 1, .writeBegin 1, .writeChunk 1 3, .writeEnd 1, .flushOk 1, .unlock 1]

/-- What re-arming is for.  If the write deadline were armed once, when the connection is made
    (`rearm = false`), a healthy connection that idles longer than the timeout could not complete
    its next flush: the only continuation is the error.  With re-arming the same schedule runs. -/
theorem finding_armOnce :
    run cfgArmOnce threeBytes scheduleIdle init = none ∧
    (run cfgArmOnce threeBytes (scheduleIdle.take 6) init).isSome = true ∧
    (run cfgFixed threeBytes scheduleIdle init).map (fun s => s.results) = some [(1, true)] := by
  refine ⟨?_, ?_, ?_⟩ <;> decide

/-! ### why the send lock matters -/

def cfgNoLock : Cfg := { cfgFixed with sendLocked := false }
def twoFrames : Nat → Bytes := fun sid => [10 + sid, 20 + sid]

def scheduleNoLock : List Act :=
  [.lockSend 1 1, .connectOk 1, .writeBegin 1, .writeChunk 1 1, .lockSend 2 2, .writeBegin 2, .writeChunk 2 2,
   .writeEnd 2, .writeChunk 1 1, .writeEnd 1, .flushOk 1]

/-- without the lock two senders' frames interleave in the buffered writer: what connection 0
    carries is no longer a prefix of whole frames -/
theorem finding_nolock :
    ∃ s, run cfgNoLock twoFrames scheduleNoLock init = some s ∧
      ¬ (s.sent 0 <+: concatF twoFrames (s.log.get 0)) := by
  cases hrun : run cfgNoLock twoFrames scheduleNoLock init with
  | none => exact absurd hrun (by decide)
  | some s =>
    refine ⟨s, rfl, ?_⟩
    have h1 : (run cfgNoLock twoFrames scheduleNoLock init).map (fun s => (s.sentRev.get 0, s.log.get 0)) =
        some ([21, 22, 12, 11], [1, 2]) := by decide
    rw [hrun] at h1
    simp only [Option.map_some, Option.some.injEq, Prod.mk.injEq] at h1
    simp only [St.sent, h1.1, h1.2]
    decide

/-! ### non-vacuity: schedules of the model with faults, reconfiguration, overflow, idle time -/

/-- direct sends by two threads; the peer closes connection 0 inside the second frame, the third
    send fails on flush, the fourth fails on the sticky error and closes, the fifth reconnects; the
    peer received frame 1 whole, two bytes of frame 2, and on connection 1 frame 5 -/
def scheduleFaulty : List Act :=
  [.lockSend 1 1, .connectOk 1, .writeBegin 1, .writeChunk 1 3, .writeEnd 1, .flushOk 1, .unlock 1,
   .lockSend 2 2, .writeBegin 2, .writeChunk 2 2, .writeChunk 2 1, .writeEnd 2, .flushOk 2, .unlock 2,
   .peerClose 0 5,
   .lockSend 1 3, .writeBegin 1, .writeChunk 1 3, .writeEnd 1, .flushErr 1 1, .unlock 1,
   .lockSend 2 4, .writeSticky 2, .close 2, .unlock 2,
   .lockSend 1 5, .connectOk 1, .writeBegin 1, .writeChunk 1 3, .writeEnd 1, .flushOk 1, .unlock 1]

example : (run cfgFixed threeBytes scheduleFaulty init).map (fun s => (s.delivered 0, s.delivered 1)) =
    some ([10, 0, 1, 10, 0], [10, 0, 5]) := by decide
example : (run cfgFixed threeBytes scheduleFaulty init).map (fun s => (s.log.get 0, s.log.get 1)) =
    some ([1, 2, 3], [5]) := by decide
example : (run cfgFixed threeBytes scheduleFaulty init).map (fun s => s.results) =
    some [(5, true), (4, false), (3, false), (2, true), (1, true)] := by decide

example : Reach cfgFixed threeBytes ((run cfgFixed threeBytes scheduleFaulty init).get (by decide)) :=
  ⟨scheduleFaulty, by simp⟩

/-- a fault history: send; write fault after 2 bytes; send (reconnects); the peer cuts connection 1 after
    2 bytes; flush fault after 1 byte; a send that meets the sticky error; 70 s idle; send (reconnects);
    Close(); dial fault; send (reconnects).  Four connections; the peers received frame 1 and two bytes
    of frame 2 | two bytes of frame 3 | frame 6 | frame 8; nothing twice; failures reported. -/
def historyFaulty : List HEv :=
  [.ok 1, .writeFault 2 2, .ok 1, .cut 1 2, .flushFault 2 1, .writeFault 1 0, .idle 70000, .ok 2, .close 1, .dialFault 2, .ok 1]

example : (runHist cfgFixed threeBytes historyFaulty init).map
      (fun s => ((List.range s.next).map (fun c => (s.delivered c, s.log.get c)), s.results)) =
    some ([([10, 0, 1, 10, 0], [1, 2]), ([10, 0], [3, 4]), ([10, 0, 6], [6]), ([10, 0, 8], [8])],
          [(8, true), (7, false), (6, true), (5, false), (4, false), (3, true), (2, false), (1, true)]) := by decide
/-- every fault offset of a 3-byte frame is admitted, none beyond it -/
example : (List.range 5).map (fun k => (runHist cfgFixed threeBytes [.ok 1, .writeFault 1 k] init).isSome) =
    [true, true, true, true, false] := by decide
example : (List.range 5).map (fun k => (runHist cfgFixed threeBytes [.ok 1, .flushFault 1 k] init).isSome) =
    [true, true, true, false, false] := by decide

/-- a write timeout with the peer alive (the collector stalls, nobody closes): the flush fails after one
    byte; the connection is not closed, but its writer keeps the error — a second send cannot write
    to it (the history with two flush faults in a row on one connection is not a history of the client:
    this is what the driver answers `reject` with when a client resets its writer), it fails on the
    sticky error, closes, and the send after that reconnects; connection 0 ends with the fragment -/
example : runHist cfgFixed threeBytes [.ok 1, .flushFault 1 1, .flushFault 1 1] init = none := by decide
example : (runHist cfgFixed threeBytes [.ok 1, .flushFault 1 1, .writeFault 1 0, .ok 1] init).map
      (fun s => ((List.range s.next).map (fun c => (s.delivered c, s.log.get c)), s.results)) =
    some ([([10, 0, 1, 10], [1, 2]), ([10, 0, 4], [4])], [(4, true), (3, false), (2, false), (1, true)]) := by decide

/-- queue mode, repaired client: capacity 2, two packs accepted, the third refused (C11: full), the
    capacity raised, a fourth accepted; process() connects and sends under the lock; ApplyConfig
    reconnects in between (it has to wait for the lock); idle time; everything accepted arrives, in order -/
def scheduleQueue : List Act :=
  [.setCapacity 2, .enqueue 1 1, .enqueue 2 2, .enqueueFail 1 3, .setCapacity 3, .enqueue 1 4, .bgConnectOk,
   .dequeue, .writeBegin 0, .writeChunk 0 3, .writeEnd 0, .flushOk 0,
   .reconfClose 3, .reconfDialOk 3, .tick 100000,
   .dequeue, .writeBegin 0, .writeChunk 0 3, .writeEnd 0, .flushOk 0,
   .dequeue, .writeBegin 0, .writeChunk 0 3, .writeEnd 0, .flushOk 0]

example : Healthy scheduleQueue := by decide
example : (run cfgQueueFixed threeBytes scheduleQueue init).map (fun s => (s.delivered 0, s.delivered 1)) =
    some ([10, 0, 1], [10, 0, 2, 10, 0, 4]) := by decide
example : (run cfgQueueFixed threeBytes scheduleQueue init).map (fun s => (s.results, s.queue, s.lock)) =
    some ([(4, true), (3, false), (2, true), (1, true)], [], none) := by decide
/-- a Put cannot be refused while there is room (C11's rule, not "may refuse at any time") -/
example : run cfgQueueFixed threeBytes [.setCapacity 2, .enqueue 1 1, .enqueueFail 1 2] init = none := by decide

/-! ### the server list: "the client reconnects" whenever one collector of the list is up

  The action machine takes the outcome of a dial (`connectOk` / `connectFail`) from the environment.
  `Tcp.connectList` (Golib.Tcp.Dial) is `Connect()`'s loop over `this.Servers` with time: every server
  is given the full `Timeout`; a server can accept after `d` time units, refuse at once, or never
  answer.  The theorems say which of the two outcomes the environment may give. -/

/-- `Connect()` connects to the first server of the list that answers within `Timeout` — for every
    list, every `Timeout`, every time of day -/
theorem connect_reaches_first_live (T : Nat) (servers : List Srv) (now : Nat) :
    (connectList T servers now 0).1 = firstLive T servers :=
  connect_is_firstLive T servers now

/-- … exactly: it reports server `k` iff `k` answers within `Timeout` and no server before `k` does -/
theorem connect_first_live_spec (T : Nat) (servers : List Srv) (now k : Nat) :
    (connectList T servers now 0).1 = some k ↔
      (∃ s, servers[k]? = some s ∧ s.live T = true) ∧ ∀ j, j < k → ∀ s, servers[j]? = some s → s.live T = false := by
  rw [connect_is_firstLive]; exact firstLive_some_iff T servers k

/-- "could not connect to any server" iff no server of the list answers within `Timeout` -/
theorem connect_fails_iff_none_live (T : Nat) (servers : List Srv) (now : Nat) :
    (connectList T servers now 0).1 = none ↔ ∀ s ∈ servers, s.live T = false := by
  rw [connect_is_firstLive]; exact firstLive_none_iff T servers

/-- **Any number of dead servers, dead in any way, before a live one**: the live one is reached.
    (`pre` may refuse, may never answer, may answer too late — each costs at most `Timeout`, none
    takes anything away from the servers behind it.) -/
theorem live_behind_dead_is_reached (T : Nat) (pre post : List Srv) (s : Srv) (now : Nat)
    (hpre : ∀ x ∈ pre, x.live T = false) (hs : s.live T = true) :
    (connectList T (pre ++ s :: post) now 0).1 = some pre.length := by
  rw [connect_first_live_spec]
  refine ⟨⟨s, by simp, hs⟩, ?_⟩
  intro j hj x hx
  rw [List.getElem?_append_left hj] at hx
  exact hpre x (List.mem_of_getElem? hx)

/-- the call returns within `length × Timeout` -/
theorem connect_time_bound (T : Nat) (servers : List Srv) (now : Nat) :
    now ≤ (connectList T servers now 0).2 ∧ (connectList T servers now 0).2 ≤ now + servers.length * T :=
  connectList_time T servers now 0

/-- Counterexample class for one dial deadline shared by the whole list (`now + Timeout` computed once
    before the loop): a first server that never answers uses the budget up; no server behind it is
    reached, however healthy — the client never reconnects although a collector of its list is up. -/
theorem finding_sharedBudget (T : Nat) (rest : List Srv) (now : Nat) :
    interpDial { assumedDialLoop with budget := .shared } T (.gone :: rest) now = (none, now + T) :=
  shared_budget_loses _ rfl rfl rfl T rest now

/-- non-vacuity: [gone, refused, up 2, up 0] with Timeout 5 — server 2 is reached at time 5 + 0 + 2;
    a server that answers only after the Timeout is passed over; with the shared deadline nothing is reached -/
example : connectList 5 [.gone, .refused, .up 2, .up 0] 0 0 = (some 2, 7) := by decide
example : connectList 5 [.up 9, .gone, .up 4] 100 0 = (some 2, 114) := by decide
example : connectList 5 [.gone, .refused, .up 5] 0 0 = (none, 10) := by decide
example : interpDial { assumedDialLoop with budget := .shared } 5 [.gone, .refused, .up 2, .up 0] 0 = (none, 5) := by decide
example : (∀ x ∈ [Srv.gone, .refused, .up 7], x.live 5 = false) ∧ (Srv.up 2).live 5 = true := by decide

end C06
