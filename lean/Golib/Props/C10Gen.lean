/-
  Property C10, tie A — obligations over the regenerated lock tables.

  `Golib/Gen/Locks.lean` is rewritten by `xlate/c10` from util/hmap/*.go, util/list/LinkedList.go and
  util/queue/*.go at the start of every check.  The judgements are the Lean functions of
  Golib/Conc/LockFacts.lean, evaluated by `decide` over the regenerated data: once per type
  (`disciplined_T`, all the judgements asked of one type together), so an edit of the Go source that
  breaks the discipline makes exactly the evaluation of that type fail; the theorems about one
  judgement are its projections.

    no_self_deadlock_T   no method of T that holds the (non re-entrant) instance lock reaches, through
                         calls on the same instance, a method that takes it again; every acquisition
                         is `Lock(); defer Unlock()` as the first two statements (released on every
                         path, panics included)
    point_ops_atomic_T   every exported *point operation* of T takes the lock first thing and touches
                         mutable fields only while holding it (or merely delegates to one such
                         method) — the premise for instantiating `C10.mutex_linearizable` /
                         `C10.lockset_race_free` with that method
    queue_locks          the queues touch their lists only under the condition's mutex, lock order is
                         cond.L → list.lock and the list never calls back

  Point operation = every exported method except the whole-structure operations, enumerator
  constructors and diagnostics listed in `wholeStructure` (for those only self-deadlock freedom is
  claimed; their unlocked accesses are not judged, only shown to be reads: `no_unlocked_writes`).
-/
import Golib.Gen.Locks
import Golib.Conc.Deadlock

namespace C10Gen
open LockFacts Gen.Locks

/-- whole-structure operations, enumerator constructors, diagnostics (must agree with
    `wholeStructure` in harness/c10/main.go) -/
def wholeStructure : List String :=
  ["Keys", "Values", "Entries", "ValueIterator", "KeyArray", "ValueArray", "GetKeySet", "ToKeySet",
   "ToString", "ToFormatString", "ToBytes", "ToObject", "Sort", "PutAll", "ToArray", "GetArray",
   "GetFirst", "GetLast", "GetNext", "PutBefore", "ToString1", "ToString2", "GetTimeout"]

def isPointOp (T : TypeFacts) (m : String) : Bool :=
  if wholeStructure.contains m then (m == "GetFirst" || m == "GetLast") && T.name != "LinkedList"
  else !(T.name == "LinkedList" && ["Remove", "PutBefore", "GetNext"].contains m)

/-- the exported point operations of `T` that are not atomic under the instance lock -/
def nonAtomicPointOps (T : TypeFacts) : List String :=
  (T.methods.filter (fun M => M.exported && isPointOp T M.name && !atomicOrDelegates T M.name)).map (·.name)

def pointOpsAtomic (T : TypeFacts) : Bool := (nonAtomicPointOps T).isEmpty

/-! ### writers are single critical sections (or sequences of point operations)

  A whole-structure operation need not be atomic (`PutAll`, `ToObject` are loops of locked `Put`s), but a
  method that *writes* the structure in a critical section of its own must not have a second critical
  section: "snapshot under the lock, compute unlocked, write the snapshot back under the lock" undoes every
  point operation that completed in between (what `C10.split_sort_undoes_completed_put` shows on the
  model; the atomic form is `C10.neutral_ops_never_disturb_point_ops`). -/

/-- the critical sections of `M`: its own (if it takes the lock) and those of the own methods it calls
    while not holding it -/
def sectionsOf (T : TypeFacts) (M : Method) : List String :=
  (if M.acquires then [M.name] else []) ++ M.callsFree.filter (acquiresWithin T T.fuel)

/-- exported methods that are not one critical section (nor a plain delegation) although one of their
    critical sections writes the structure and is not itself an exported atomic point operation -/
def splitWriters (T : TypeFacts) : List String :=
  (T.methods.filter (fun M => M.exported && !atomicOrDelegates T M.name &&
    (sectionsOf T M).any (fun c => match T.find c with
      | some C => mutatesWithin T T.fuel c && !(C.exported && isPointOp T c && atomicOrDelegates T c)
      | none => false))).map (·.name)

/-- exported methods — point operation or not — that *write* a shared field while the instance lock is not
    held, in their own body or in an own method they call while not holding it (a pre-sizing `reserve()` /
    `rehash()` in front of a loop of locked `Put`s) -/
def unlockedWriters (T : TypeFacts) : List String :=
  ((T.methods.filter (·.exported)).filter (fun M => (freeAccesses T T.fuel M.name).any (·.write))).map (·.name)

/-- `pointOpsAtomic` with the tests in another order: `atomicOrDelegates` is asked of every exported method
    by `splitWriters` too and is true of most, so `isPointOp` (a search through `wholeStructure`) is
    evaluated for the few others only -/
def nonAtomicFirst (T : TypeFacts) : Bool :=
  (T.methods.filter (fun M => M.exported && !atomicOrDelegates T M.name && isPointOp T M.name)).isEmpty

/-- The judgements asked of each type by itself, as one.  They look up the same methods and ask
    `freeAccesses`, `atomicOrDelegates`, `acquiresWithin` of the same names, and the kernel evaluates a
    subterm that recurs within one declaration once: hence one evaluation per type and not one per
    judgement. -/
def disciplined (T : TypeFacts) : Bool :=
  noSelfDeadlock T && nonAtomicFirst T && nestFree T && (splitWriters T).isEmpty &&
  (unlockedWriters T).isEmpty && (storedSliceReturners T).isEmpty && (valueReceivers T).isEmpty &&
  (writersUnderReadLock T).isEmpty && (crossInstanceLockers T).isEmpty

/-- what `disciplined T = true` says, judgement by judgement -/
structure Discipline (T : TypeFacts) : Prop where
  selfDeadlock : noSelfDeadlock T = true
  atomic : pointOpsAtomic T = true
  nest : nestFree T = true
  split : (splitWriters T).isEmpty = true
  unlocked : (unlockedWriters T).isEmpty = true
  slices : (storedSliceReturners T).isEmpty = true
  valueRecv : (valueReceivers T).isEmpty = true
  readLock : (writersUnderReadLock T).isEmpty = true
  cross : (crossInstanceLockers T).isEmpty = true

theorem Discipline.of_eval {T : TypeFacts} (h : disciplined T = true) : Discipline T := by
  simp only [disciplined, Bool.and_eq_true, and_assoc] at h
  obtain ⟨a, b, c, d, e, f, g, i, j⟩ := h
  refine ⟨a, ?_, c, d, e, f, g, i, j⟩
  simp only [nonAtomicFirst, pointOpsAtomic, nonAtomicPointOps, List.isEmpty_iff, List.map_eq_nil_iff,
    List.filter_eq_nil_iff, Bool.and_eq_true] at b ⊢
  exact fun M hM ⟨⟨x, y⟩, z⟩ => b M hM ⟨⟨x, z⟩, y⟩

theorem disciplined_IntFloatLinkedMap : Discipline IntFloatLinkedMap.facts := .of_eval (by decide +kernel)
theorem disciplined_IntIntLinkedMap : Discipline IntIntLinkedMap.facts := .of_eval (by decide +kernel)
theorem disciplined_IntIntMap : Discipline IntIntMap.facts := .of_eval (by decide +kernel)
theorem disciplined_IntKeyLinkedMap : Discipline IntKeyLinkedMap.facts := .of_eval (by decide +kernel)
theorem disciplined_IntKeyMap : Discipline IntKeyMap.facts := .of_eval (by decide +kernel)
theorem disciplined_IntLinkedSet : Discipline IntLinkedSet.facts := .of_eval (by decide +kernel)
theorem disciplined_IntSet : Discipline IntSet.facts := .of_eval (by decide +kernel)
theorem disciplined_LinkedList : Discipline LinkedList.facts := .of_eval (by decide +kernel)
theorem disciplined_LinkedMap : Discipline LinkedMap.facts := .of_eval (by decide +kernel)
theorem disciplined_LinkedSet : Discipline LinkedSet.facts := .of_eval (by decide +kernel)
theorem disciplined_LongFloatLinkedMap : Discipline LongFloatLinkedMap.facts := .of_eval (by decide +kernel)
theorem disciplined_LongKeyLinkedMap : Discipline LongKeyLinkedMap.facts := .of_eval (by decide +kernel)
theorem disciplined_LongLongLinkedMap : Discipline LongLongLinkedMap.facts := .of_eval (by decide +kernel)
theorem disciplined_RequestDoubleQueue : Discipline RequestDoubleQueue.facts := .of_eval (by decide +kernel)
theorem disciplined_RequestQueue : Discipline RequestQueue.facts := .of_eval (by decide +kernel)
theorem disciplined_StringIntLinkedMap : Discipline StringIntLinkedMap.facts := .of_eval (by decide +kernel)
theorem disciplined_StringKeyLinkedMap : Discipline StringKeyLinkedMap.facts := .of_eval (by decide +kernel)
theorem disciplined_StringLinkedSet : Discipline StringLinkedSet.facts := .of_eval (by decide +kernel)
theorem disciplined_StringLongLinkedMap : Discipline StringLongLinkedMap.facts := .of_eval (by decide +kernel)
theorem disciplined_StringSet : Discipline StringSet.facts := .of_eval (by decide +kernel)

/-- the table covers exactly the twenty collection types (a new type needs its obligations) -/
theorem types_covered : typeNames =
    ["IntFloatLinkedMap", "IntIntLinkedMap", "IntIntMap", "IntKeyLinkedMap", "IntKeyMap", "IntLinkedSet", "IntSet", "LinkedList", "LinkedMap", "LinkedSet", "LongFloatLinkedMap", "LongKeyLinkedMap", "LongLongLinkedMap", "RequestDoubleQueue", "RequestQueue", "StringIntLinkedMap", "StringKeyLinkedMap", "StringLinkedSet", "StringLongLinkedMap", "StringSet"] := rfl

theorem no_self_deadlock_IntFloatLinkedMap : noSelfDeadlock IntFloatLinkedMap.facts = true := disciplined_IntFloatLinkedMap.selfDeadlock
theorem no_self_deadlock_IntIntLinkedMap : noSelfDeadlock IntIntLinkedMap.facts = true := disciplined_IntIntLinkedMap.selfDeadlock
theorem no_self_deadlock_IntIntMap : noSelfDeadlock IntIntMap.facts = true := disciplined_IntIntMap.selfDeadlock
theorem no_self_deadlock_IntKeyLinkedMap : noSelfDeadlock IntKeyLinkedMap.facts = true := disciplined_IntKeyLinkedMap.selfDeadlock
theorem no_self_deadlock_IntKeyMap : noSelfDeadlock IntKeyMap.facts = true := disciplined_IntKeyMap.selfDeadlock
theorem no_self_deadlock_IntLinkedSet : noSelfDeadlock IntLinkedSet.facts = true := disciplined_IntLinkedSet.selfDeadlock
theorem no_self_deadlock_IntSet : noSelfDeadlock IntSet.facts = true := disciplined_IntSet.selfDeadlock
theorem no_self_deadlock_LinkedList : noSelfDeadlock LinkedList.facts = true := disciplined_LinkedList.selfDeadlock
theorem no_self_deadlock_LinkedMap : noSelfDeadlock LinkedMap.facts = true := disciplined_LinkedMap.selfDeadlock
theorem no_self_deadlock_LinkedSet : noSelfDeadlock LinkedSet.facts = true := disciplined_LinkedSet.selfDeadlock
theorem no_self_deadlock_LongFloatLinkedMap : noSelfDeadlock LongFloatLinkedMap.facts = true := disciplined_LongFloatLinkedMap.selfDeadlock
theorem no_self_deadlock_LongKeyLinkedMap : noSelfDeadlock LongKeyLinkedMap.facts = true := disciplined_LongKeyLinkedMap.selfDeadlock
theorem no_self_deadlock_LongLongLinkedMap : noSelfDeadlock LongLongLinkedMap.facts = true := disciplined_LongLongLinkedMap.selfDeadlock
theorem no_self_deadlock_RequestDoubleQueue : noSelfDeadlock RequestDoubleQueue.facts = true := disciplined_RequestDoubleQueue.selfDeadlock
theorem no_self_deadlock_RequestQueue : noSelfDeadlock RequestQueue.facts = true := disciplined_RequestQueue.selfDeadlock
theorem no_self_deadlock_StringIntLinkedMap : noSelfDeadlock StringIntLinkedMap.facts = true := disciplined_StringIntLinkedMap.selfDeadlock
theorem no_self_deadlock_StringKeyLinkedMap : noSelfDeadlock StringKeyLinkedMap.facts = true := disciplined_StringKeyLinkedMap.selfDeadlock
theorem no_self_deadlock_StringLinkedSet : noSelfDeadlock StringLinkedSet.facts = true := disciplined_StringLinkedSet.selfDeadlock
theorem no_self_deadlock_StringLongLinkedMap : noSelfDeadlock StringLongLinkedMap.facts = true := disciplined_StringLongLinkedMap.selfDeadlock
theorem no_self_deadlock_StringSet : noSelfDeadlock StringSet.facts = true := disciplined_StringSet.selfDeadlock

theorem point_ops_atomic_IntFloatLinkedMap : pointOpsAtomic IntFloatLinkedMap.facts = true := disciplined_IntFloatLinkedMap.atomic
theorem point_ops_atomic_IntIntLinkedMap : pointOpsAtomic IntIntLinkedMap.facts = true := disciplined_IntIntLinkedMap.atomic
theorem point_ops_atomic_IntIntMap : pointOpsAtomic IntIntMap.facts = true := disciplined_IntIntMap.atomic
theorem point_ops_atomic_IntKeyLinkedMap : pointOpsAtomic IntKeyLinkedMap.facts = true := disciplined_IntKeyLinkedMap.atomic
theorem point_ops_atomic_IntKeyMap : pointOpsAtomic IntKeyMap.facts = true := disciplined_IntKeyMap.atomic
theorem point_ops_atomic_IntLinkedSet : pointOpsAtomic IntLinkedSet.facts = true := disciplined_IntLinkedSet.atomic
theorem point_ops_atomic_IntSet : pointOpsAtomic IntSet.facts = true := disciplined_IntSet.atomic
theorem point_ops_atomic_LinkedList : pointOpsAtomic LinkedList.facts = true := disciplined_LinkedList.atomic
theorem point_ops_atomic_LinkedMap : pointOpsAtomic LinkedMap.facts = true := disciplined_LinkedMap.atomic
theorem point_ops_atomic_LinkedSet : pointOpsAtomic LinkedSet.facts = true := disciplined_LinkedSet.atomic
theorem point_ops_atomic_LongFloatLinkedMap : pointOpsAtomic LongFloatLinkedMap.facts = true := disciplined_LongFloatLinkedMap.atomic
theorem point_ops_atomic_LongKeyLinkedMap : pointOpsAtomic LongKeyLinkedMap.facts = true := disciplined_LongKeyLinkedMap.atomic
theorem point_ops_atomic_LongLongLinkedMap : pointOpsAtomic LongLongLinkedMap.facts = true := disciplined_LongLongLinkedMap.atomic
theorem point_ops_atomic_RequestDoubleQueue : pointOpsAtomic RequestDoubleQueue.facts = true := disciplined_RequestDoubleQueue.atomic
theorem point_ops_atomic_RequestQueue : pointOpsAtomic RequestQueue.facts = true := disciplined_RequestQueue.atomic
theorem point_ops_atomic_StringIntLinkedMap : pointOpsAtomic StringIntLinkedMap.facts = true := disciplined_StringIntLinkedMap.atomic
theorem point_ops_atomic_StringKeyLinkedMap : pointOpsAtomic StringKeyLinkedMap.facts = true := disciplined_StringKeyLinkedMap.atomic
theorem point_ops_atomic_StringLinkedSet : pointOpsAtomic StringLinkedSet.facts = true := disciplined_StringLinkedSet.atomic
theorem point_ops_atomic_StringLongLinkedMap : pointOpsAtomic StringLongLinkedMap.facts = true := disciplined_StringLongLinkedMap.atomic
theorem point_ops_atomic_StringSet : pointOpsAtomic StringSet.facts = true := disciplined_StringSet.atomic

theorem all_disciplined : ∀ T ∈ all, Discipline T := by
  simp only [all, List.forall_mem_cons, List.not_mem_nil, false_imp_iff, implies_true, and_true]
  exact
    ⟨disciplined_IntFloatLinkedMap, disciplined_IntIntLinkedMap, disciplined_IntIntMap,
    disciplined_IntKeyLinkedMap, disciplined_IntKeyMap, disciplined_IntLinkedSet, disciplined_IntSet,
    disciplined_LinkedList, disciplined_LinkedMap, disciplined_LinkedSet, disciplined_LongFloatLinkedMap,
    disciplined_LongKeyLinkedMap, disciplined_LongLongLinkedMap, disciplined_RequestDoubleQueue,
    disciplined_RequestQueue, disciplined_StringIntLinkedMap, disciplined_StringKeyLinkedMap,
    disciplined_StringLinkedSet, disciplined_StringLongLinkedMap, disciplined_StringSet⟩

/-- the instance lock is a plain mutex everywhere except the queues, which use the mutex of their
    condition variable -/
theorem lock_kinds :
    (all.filter (fun T => T.lockKind != "mutex")).map (·.name) = ["RequestDoubleQueue", "RequestQueue"] ∧
    RequestQueue.facts.lockKind = "cond" ∧ RequestDoubleQueue.facts.lockKind = "cond" := by decide +kernel

/-- **queue_locks.**  Every call on the queues' lists is made while holding the condition's mutex;
    the list takes only its own lock and calls nothing on other objects (lock order cond.L →
    list.lock, no cycle); callbacks run under the queue's lock (so a callback must not call back
    into the queue — recorded, see notes). -/
theorem queue_locks :
    subObjectCallsFree RequestQueue.facts ["queue"] = [] ∧
    subObjectCallsFree RequestDoubleQueue.facts ["queue1", "queue2"] = [] ∧
    LinkedList.facts.methods.all (fun M => M.fieldCallsHeld.isEmpty && M.fieldCallsFree.isEmpty && M.callbacksHeld.isEmpty) = true ∧
    (RequestQueue.facts.methods.flatMap (·.callbacksHeld)).eraseDups = ["Failed", "Overflowed"] := by decide +kernel

/-- **unlock_deferred.**  Every method of every type that takes the instance lock does so as its first
    statement and releases it by `defer` as its second (so a panic inside the operation — an
    uncomparable value, a user key whose Equals panics, a user callback — still releases the lock),
    and uses no other lock operation -/
theorem unlock_deferred_everywhere : all.all lockPatternOk = true :=
  List.all_eq_true.2 fun T hT => (Bool.and_eq_true_iff.1 (all_disciplined T hT).selfDeadlock).2

/-- **slice_results_fresh.**  Every exported or internal method whose result is a slice (the 17 KeyArray /
    ValueArray / ToArray / GetArray methods today; any new one is covered automatically) returns, on every
    return path, a slice allocated in that very call (`make`, a literal, a declared local that is only
    appended to), nil, or the result of another own method with that property — never a field, a slice of
    a field or a buffer kept in the object.  This is what makes the model's "a result is a value" transfer
    to the Go code (`C10.returned_results_are_final`). -/
theorem slice_results_fresh : all.all (fun T => (storedSliceReturners T).isEmpty) = true :=
  List.all_eq_true.2 fun T hT => (all_disciplined T hT).slices

/-- the obligation has a subject: these are the slice-returning methods found in the source -/
theorem slice_returning_methods_exist :
    (all.flatMap (fun T => (T.methods.filter (·.retSlice)).map (fun M => T.name ++ "." ++ M.name))).length ≥ 17 := by
  decide +kernel

/-- no method of a lock-bearing type has a value receiver (a call would copy the mutex) -/
theorem no_value_receivers :
    all.all (fun T => (valueReceivers T).isEmpty) = true :=
  List.all_eq_true.2 fun T hT => (all_disciplined T hT).valueRecv

/-- no method that takes only a read lock writes the structure, itself or through a callee
    (`GetLRU` re-chains the entry: it is a writer) -/
theorem no_write_under_read_lock :
    all.all (fun T => (writersUnderReadLock T).isEmpty) = true :=
  List.all_eq_true.2 fun T hT => (all_disciplined T hT).readLock

/-- no method holds another instance's lock while taking the receiver's (`a.PutAll(b)` ∥ `b.PutAll(a)`
    would deadlock on lock order, `m.PutAll(m)` on the lock itself) -/
theorem no_cross_instance_lock_order :
    all.all (fun T => (crossInstanceLockers T).isEmpty) = true :=
  List.all_eq_true.2 fun T hT => (all_disciplined T hT).cross

/-! ### the table checks as premises of proved implications (Golib/Conc/Deadlock.lean)

  `runs T n held m` interprets the regenerated call graph: it executes method `m` to call depth `n`
  (every recorded call site, the lock released when the acquiring method returns — which is what the
  `Lock(); defer Unlock()` pattern checked by the same judgement guarantees) and answers whether the
  execution ever tries to take the non re-entrant instance lock while holding it.  `nests` does the
  same for two instances of one type and answers whether the thread ever holds/requests both locks.
  `noSelfDeadlock_sound` and `nestFree_sound` are proved once, for every table. -/

/-- **deadlock freedom of the abstract call-graph machine, for the code as it stands**: for every
    collection type, every method called from outside (lock not held), to every call depth, never
    re-acquires the lock it holds -/
theorem deadlock_free (T : TypeFacts) (hT : T ∈ all) (n : Nat) (m : String) : runs T n false m = true :=
  noSelfDeadlock_sound T (all_disciplined T hT).selfDeadlock n m

/-- … and never holds or requests the locks of two instances at once, so no two threads can wait for
    each other on instance locks (`no_cycle_without_nesting`) -/
theorem no_instance_lock_nesting (T : TypeFacts) (hT : T ∈ all) (n : Nat) (m : String) :
    nests T n false false m = false :=
  nestFree_sound T (all_disciplined T hT).nest n m

/-- **writers_single_critical_section.**  In every collection type, every exported method — point operation
    or not (Sort, PutAll, ToObject, GetTimeout …) — that writes the structure does so in one critical section
    covering its whole body, or is a sequence of exported atomic point operations. -/
theorem writers_single_critical_section : all.all (fun T => (splitWriters T).isEmpty) = true :=
  List.all_eq_true.2 fun T hT => (all_disciplined T hT).split

/-- the obligation has a subject: exported whole-structure methods that write (the `Sort`s, …) exist -/
theorem whole_structure_writers_exist :
    (all.flatMap (fun T => (T.methods.filter (fun M => M.exported && !isPointOp T M.name && M.acquires &&
      mutatesWithin T T.fuel M.name)).map (fun M => T.name ++ "." ++ M.name))).length ≥ 10 := by
  -- ten are found among the first six types already
  rw [← List.take_append_drop 6 all, List.flatMap_append, List.length_append]
  exact Nat.le_add_right_of_le (by decide +kernel)

/-- a method entry for hand-made example tables -/
def exMethod (n : String) (e a lf : Bool) (held free : List String) (w : Bool) : Method :=
  { name := n, exported := e, acquires := a, lockFirst := lf, deferUnlock := a, irregular := false,
    callsHeld := held, callsFree := free, accHeld := [⟨"count", "count", w⟩],
    accFree := [], fieldCallsHeld := [], fieldCallsFree := [], callbacksHeld := [], valueRecv := false,
    rlock := false, ptrWrites := false, otherLocks := [], underOther := [], extCalls := [], paths := [] }

/-- `Sort` takes its snapshot through a locking helper and locks again later for the rebuild -/
def exSplit1 : TypeFacts :=
  { name := "M", file := "", lockField := "lock", lockKind := "mutex", fields := ["count"],
    methods := [exMethod "Put" true true true [] [] true, exMethod "entryArray" false true true [] [] false,
                exMethod "Sort" true true false [] ["entryArray"] true] }

/-- `Sort` = locking helper `entryArray` + locking helper `rebuild`; `PutAll` = a loop of `Put`s -/
def exSplit2 : TypeFacts :=
  { exSplit1 with methods := [exMethod "Put" true true true [] [] true, exMethod "entryArray" false true true [] [] false,
                exMethod "rebuild" false true true [] [] true, exMethod "Sort" true false false [] ["entryArray", "rebuild"] false,
                exMethod "PutAll" true false false [] ["Put"] false] }

/-- … and the judgement is not vacuous: a split `Sort` is flagged in both shapes, a loop of `Put`s is not -/
example : splitWriters exSplit1 = ["Sort"] ∧ splitWriters exSplit2 = ["Sort"] := by decide +kernel

/-- an atomic or delegating method touches nothing outside the lock -/
theorem freeAccesses_of_atomicOrDelegates {T : TypeFacts} {m : String} (h : atomicOrDelegates T m = true) :
    freeAccesses T T.fuel m = [] := by
  unfold atomicOrDelegates atomicMethod at h
  cases hM : T.find m with
  | none => simp [hM] at h
  | some M =>
    simp only [hM, Bool.or_eq_true, Bool.and_eq_true, List.isEmpty_iff] at h
    rcases h with h | h
    · exact h.2
    · exact h.1.1.2

/-- a method with an unlocked access is an exported one for which `freeAccesses` is not empty; an
    atomic point operation has none -/
theorem unlocked_not_pointOp {T : TypeFacts} (h : pointOpsAtomic T = true) :
    (unlockedMethods T).all (fun m => !isPointOp T m) = true := by
  simp only [pointOpsAtomic, nonAtomicPointOps, List.isEmpty_iff, List.map_eq_nil_iff,
    List.filter_eq_nil_iff, Bool.and_eq_true, Bool.not_eq_true', not_and, Bool.not_eq_false] at h
  simp only [List.all_eq_true, unlockedMethods, unlockedPublic, List.mem_eraseDups, List.mem_map,
    List.mem_flatMap, List.mem_filter, Bool.not_eq_true']
  rintro _ ⟨_, ⟨M, ⟨hM, he⟩, a, ha, rfl⟩, rfl⟩
  cases hp : isPointOp T M.name with
  | false => rfl
  | true => rw [freeAccesses_of_atomicOrDelegates (h M hM ⟨he, hp⟩)] at ha; cases ha

/-- what remains unlocked is confined to enumerator constructors / serializers (outside the
    property's quantifier over point operations; noted, not judged) -/
theorem unlocked_only_outside_point_ops :
    all.all (fun T => (unlockedMethods T).all (fun m => !isPointOp T m)) = true :=
  List.all_eq_true.2 fun T hT => unlocked_not_pointOp (all_disciplined T hT).atomic

/-- **no_unlocked_writes.**  No exported method of a collection type, whole-structure operations included
    (`PutAll`, `ToObject`, `Sort`, enumerator constructors …), writes the structure outside the lock: what
    `unlocked_only_outside_point_ops` tolerates outside the point operations are reads only.  (A bulk
    operation that grows the table without the lock loses the keys of point operations that complete
    meanwhile.) -/
theorem no_unlocked_writes : all.all (fun T => (unlockedWriters T).isEmpty) = true :=
  List.all_eq_true.2 fun T hT => (all_disciplined T hT).unlocked

/-- `PutAll` = unlocked helper `reserve` (writes `count`'s neighbours without the lock) + a loop of `Put`s -/
def exReserve : TypeFacts :=
  { exSplit1 with methods := [exMethod "Put" true true true [] [] true,
      { exMethod "reserve" false false false [] [] false with accHeld := [], accFree := [⟨"count", "count", true⟩] },
      exMethod "PutAll" true false false [] ["reserve", "Put"] false] }

/-- not vacuous: the pre-sizing `PutAll` is flagged, a plain loop of `Put`s (and a split `Sort`) is not -/
example : unlockedWriters exReserve = ["PutAll"] ∧ unlockedWriters exSplit2 = [] := by decide +kernel

end C10Gen
