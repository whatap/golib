/-
  Property C05 — bytes on the wire conform to the collector protocol layout.

  Spec      Golib.Wire.Reference / Golib.Wire.Counter: the independent reference *encoder*, written
            from the protocol layout (frame, payload, common header, the eight pack bodies).
  Decoder   Golib.Wire.Decode / CounterCodec: the reference *decoder* (what a non-Go collector does).
  Theorems  below: the frame is parsed back into its five parts with exact consumption, the length
            field is |payload|, both header forms byte for byte and when each is used, the tag hash
            and where it sits, and for each of the eight packs: the reference decoder recovers every
            field from the reference bytes and consumes them exactly.
  Tie B     harness/c05: pack.ToBytesPack, DataOutputX.WriteHeader and frames captured from the public
            one-way client on a loopback socket equal the reference bytes, for random packs of the
            eight types; the reference decoder is also run on the implementation's bytes.
  Tie A     Golib/Props/C05Gen.lean: constants and the hash table extracted from the Go source, and the Go
            writers, transcribed and interpreted (Golib.Wire.Steps), are the reference encoder
            (`…_is_reference`).

  The codecs and their round trips are in Golib.Wire.*; the tagged-value round trip
  (`Value.decode_encV`) is C02's theorem.
-/
import Golib.Wire.CounterCodec
import Golib.Wire.EventAttrs
import Golib.Wire.Collector
import Golib.Value.Facts
import Golib.Layout.HeaderProg

namespace C05
open Prim Wire Wire.Codec

/-- the frame, byte for byte -/
theorem frame_layout (pcode : Int) (license pl : Bytes) :
    frame pcode license pl =
      [10, 0] ++ encI 8 pcode ++ encI 8 (hash64 license) ++ encI 4 pl.length ++ pl := by
  simp [frame, netSrcOneWay, netSrcVersion]

/-- a receiver that reads two bytes, two 8-byte numbers and a 4-byte length recovers the five
    parts and consumes exactly the frame -/
theorem frame_parse (pcode : Int) (license pl r : Bytes)
    (hp : inRange 8 pcode) (hl : pl.length < 2147483648) :
    P.run parseFrame (frame pcode license pl ++ r) = some (⟨10, 0, pcode, hash64 license, pl⟩, r) :=
  run_parseFrame pcode license pl r hp hl

/-- the 4-byte field at offset 18 is |payload|; the frame is 22 bytes longer than the payload -/
theorem frame_length (pcode : Int) (license pl : Bytes) :
    ((frame pcode license pl).drop 18).take 4 = encI 4 pl.length ∧
    (frame pcode license pl).drop 22 = pl ∧
    (frame pcode license pl).length = 22 + pl.length := by
  rw [frame_layout]
  refine ⟨?_, ?_, by simp; omega⟩
  · rw [List.append_assoc _ (encI 4 _) pl, List.drop_left' (by simp), List.take_left' (by simp)]
  · rw [List.drop_left' (by simp)]

/-- a receiver never takes a truncated frame for a whole one -/
theorem frame_prefix_fails (pcode : Int) (license pl q s : Bytes)
    (hp : inRange 8 pcode) (hl : pl.length < 2147483648) (hs : s ≠ [])
    (hq : q ++ s = frame pcode license pl) : P.run parseFrame q = none :=
  Reads.prefix_fails (run_parseFrame pcode license pl · hp hl) (P.run_stable _) hs hq

/-! ### a connection's byte stream (what the fault-injection stage of the harness checks on real sockets) -/

/-- a connection that carried whole frames parses, frame after frame, into exactly those frames, nothing left -/
theorem stream_of_whole_frames_parses (xs : List Sent) (hw : ∀ x ∈ xs, x.wf) :
    parseStream xs.length (streamOf xs) = (xs.map Sent.parts, []) := by
  have := parseStream_whole xs [] xs.length (Nat.le_refl _) hw run_parseFrame_nil
  simpa using this

/-- … and when the connection died inside a frame: the whole frames come out, the truncated one is left over
    unparsed (it is never taken for a frame) -/
theorem stream_with_truncated_tail (xs : List Sent) (y : Sent) (q s : Bytes) (hw : ∀ x ∈ xs, x.wf) (hy : y.wf)
    (hs : s ≠ []) (hq : q ++ s = y.bytes) :
    parseStream (xs.length + 1) (streamOf xs ++ q) = (xs.map Sent.parts, q) :=
  parseStream_whole xs q (xs.length + 1) (Nat.le_succ _) hw
    (frame_prefix_fails y.pcode y.license y.payload q s hy.1 hy.2 hs hq)

/-- the same with any amount of fuel that suffices (the parse does not depend on the bound once it is large enough:
    the bound running out is never what stops it) -/
theorem stream_parse_any_fuel (xs : List Sent) (q : Bytes) (fuel : Nat) (hf : xs.length ≤ fuel) (hw : ∀ x ∈ xs, x.wf)
    (hq : P.run parseFrame q = none) : parseStream fuel (streamOf xs ++ q) = (xs.map Sent.parts, q) :=
  parseStream_whole xs q fuel hf hw hq

/-- a stream that starts with the TAIL of a frame does not pass for a stream of whole frames: if the parse of
    a connection's bytes is not (all frames, nothing left), the bytes are not a concatenation of whole frames -/
theorem not_whole_frames_detected (xs : List Sent) (bs : Bytes) (hw : ∀ x ∈ xs, x.wf)
    (h : parseStream xs.length bs ≠ (xs.map Sent.parts, [])) : bs ≠ streamOf xs := by
  intro e
  exact h (e ▸ stream_of_whole_frames_parses xs hw)

example : ∀ x ∈ ([⟨5, [], [1, 2]⟩, ⟨-1, [97], []⟩] : List Sent), x.wf := by
  intro x hx
  simp only [List.mem_cons, List.mem_nil_iff, or_false] at hx
  rcases hx with rfl | rfl <;> exact ⟨by decide, by decide⟩

example : parseStream 2 (streamOf [⟨5, [], [1, 2]⟩, ⟨-1, [97], []⟩]) =
    ([⟨10, 0, 5, 0, [1, 2]⟩, ⟨10, 0, -1, -72057593640010173, []⟩], []) := by decide +kernel

/-- a connection that starts with the tail of a frame (here: its last 5 bytes) and goes on with a whole frame
    does not parse into that frame — a receiver misreads it (the tail's bytes are taken for a header) -/
example : parseStream 3 ((frame 5 [] [1, 2]).drop 19 ++ frame 5 [] [1, 2]) ≠ ([⟨10, 0, 5, 0, [1, 2]⟩], []) := by
  decide +kernel

/-! ### the other frame variants of DataOutputX / pack (public API, not used by the one-way client) -/

/-- the secure frame (`WriteSecureHeader`): source, version, 8-byte project code, 4-byte object id, 4-byte transfer
    key, 4-byte length, payload — a parser recovers the six parts and consumes exactly the frame -/
theorem secure_frame_parse (src ver : Nat) (pcode oid key : Int) (pl r : Bytes) (hs : src < 256) (hv : ver < 256)
    (hp : inRange 8 pcode) (ho : inRange 4 oid) (hk : inRange 4 key) (hl : pl.length < 2147483648) :
    P.run parseSecure (secureFrame src ver pcode oid key pl ++ r) = some (⟨src, ver, pcode, oid, key, pl⟩, r) := by
  have h : P.Reads parseSecure _ _ :=
    .bind (run_rdU 1 src · (by omega)) <| .bind (run_rdU 1 ver · (by omega)) <|
    .bind (run_rdI 8 pcode · hp) <| .bind (run_rdI 4 oid · ho) <| .bind (run_rdI 4 key · hk) <|
    .bind (run_decBytes32 pl · hl) (.pure _)
  simpa [secureFrame, encBytes32, beN] using h r

theorem secure_frame_length (src ver : Nat) (pcode oid key : Int) (pl : Bytes) :
    (secureFrame src ver pcode oid key pl).length = 22 + pl.length := by
  simp [secureFrame]; omega

/-- block padding (`ToBytesPackECB`): the result is a whole number of blocks, starts with the payload unchanged,
    adds fewer than one block, and the added bytes are zeros -/
theorem ecb_padding (n : Nat) (hn : 0 < n) (bs : Bytes) :
    (padECB n bs).length % n = 0 ∧ (padECB n bs).take bs.length = bs ∧
    (padECB n bs).length < bs.length + n ∧ ∀ b ∈ (padECB n bs).drop bs.length, b = 0 := by
  -- `padECB` is the padding `Layout.ecbPad` of the header programs, whose block arithmetic is proved there
  refine ⟨Layout.ecbPad_length n hn bs, ?_⟩
  rw [show padECB n bs = Layout.ecbPad n bs from rfl, Layout.ecbPad_eq]
  refine ⟨by simp, ?_, by simpa using Layout.ecbTail_zero n bs⟩
  have := Nat.mod_lt bs.length hn
  unfold Layout.ecbTail; split <;> simp <;> omega

example : padECB 8 [1, 2, 3] = [1, 2, 3, 0, 0, 0, 0, 0] ∧ padECB 4 [1, 2, 3, 4] = [1, 2, 3, 4] := by decide
example : secureFrame 10 0 5 7 (-1) [1] = [10, 0, 0, 0, 0, 0, 0, 0, 0, 5, 0, 0, 0, 7, 255, 255, 255, 255, 0, 0, 0, 1, 1] := by decide

/-- the payload starts with the 2-byte pack type -/
theorem payload_layout (ty : Nat) (body r : Bytes) (h : ty < 65536) :
    payload ty body = beN 2 ty ++ body ∧ P.run (rdU 2) (payload ty body ++ r) = some (ty, body ++ r) := by
  refine ⟨rfl, ?_⟩
  unfold payload
  rw [List.append_assoc]
  exact run_rdU 2 ty _ (by omega)

/-- the license hash is a signed 64-bit number whose 8 bytes are the big-endian register -/
theorem license_hash_bytes (license : Bytes) :
    inRange 8 (hash64 license) ∧ encI 8 (hash64 license) = beN 8 (hash64U license) :=
  ⟨hash64_inRange license, encI_hash64 license⟩

/-- the hash table is the reflected CRC-32 table of the polynomial 0xEDB88320 -/
theorem hash_table_is_crc32 : crcTable.toList = (List.range 256).map crcEntry := crcTable_eq_gen

/-- short form: decimal project code, 4-byte object id, 8-byte time -/
theorem header_layout_short (h : Hdr) (hk : h.okind = 0) (hn : h.onode = 0) :
    encHdr h = encDecimal h.pcode ++ encI 4 h.oid ++ encI 8 h.time := by
  simp [encHdr, Hdr.extended, hk, hn, encHdrShort]

/-- extended form: marker 9, decimal project code, object id, kind, node (4 bytes each), 8-byte time -/
theorem header_layout_extended (h : Hdr) (hx : h.okind ≠ 0 ∨ h.onode ≠ 0) :
    encHdr h = [9] ++ encDecimal h.pcode ++ encI 4 h.oid ++ encI 4 h.okind ++ encI 4 h.onode ++ encI 8 h.time := by
  have : h.extended = true := by
    unfold Hdr.extended
    rcases hx with hx | hx <;> simp [hx]
  simp [encHdr, this, encHdrExt, hdrMarker]

/-- the extended form is used exactly when kind or node is non-zero, and the first byte tells
    which form it is (a decimal never starts with 9) -/
theorem header_form (h : Hdr) :
    (h.extended = true ↔ (h.okind ≠ 0 ∨ h.onode ≠ 0)) ∧
    ((encHdr h).headD 0 = 9 ↔ (h.okind ≠ 0 ∨ h.onode ≠ 0)) := by
  have e : h.extended = true ↔ (h.okind ≠ 0 ∨ h.onode ≠ 0) := by
    unfold Hdr.extended; simp
  refine ⟨e, ?_⟩
  rw [← e]
  unfold encHdr
  cases hx : h.extended with
  | true => simp [encHdrExt, hdrMarker]
  | false =>
    obtain ⟨c, tl, hr, hc, _⟩ := encDecimal_cons h.pcode
    simp [encHdrShort, hr]; omega

theorem header_roundtrip (h : Hdr) (r : Bytes) (wf : WFHdr h) :
    P.run decHdr (encHdr h ++ r) = some (h, r) := hdrC_RT h r wf

/-- the tag hash is the 64-bit hash of the encoded tag map and is written (as a decimal) directly
    before the map, after the version byte 0 and the category -/
theorem taghash_position_tagcount (p : TagCount) (h0 : p.tagHash = 0) (ht : p.tags ≠ []) :
    encTagCount p = encHdr p.hdr ++ [0] ++ encText p.category ++
      encDecimal (hash64 (Value.encV (.map p.tags))) ++ Value.encV (.map p.tags) ++ Value.encV (.map p.data) := by
  simp [encTagCount, encTagCountRaw, TagCount.norm, effTagHash, h0, ht, encMap]

theorem taghash_position_logsink (p : LogSink) (h0 : p.tagHash = 0) (ht : p.tags ≠ []) :
    encLogSink p = encHdr p.hdr ++ [0] ++ encText p.category ++
      encDecimal (hash64 (Value.encV (.map p.tags))) ++ Value.encV (.map p.tags) ++
      encDecimal p.line ++ encText p.content ++ encOptMap p.fields := by
  simp [encLogSink, encLogSinkRaw, LogSink.norm, effTagHash, h0, ht, encMap]

/-- a stored non-zero hash, or an empty tag map, is written as it is -/
theorem taghash_stored (stored : Int) (tags : List (Bytes × Value)) (h : stored ≠ 0 ∨ tags = []) :
    effTagHash stored tags = stored := by
  unfold effTagHash
  rcases h with h | h <;> simp [h]

/-! ### one pack object sent again and again (what the re-send-after-mutation stage checks on real objects)

  The model of a live pack object is its public state `σ`; between sends the application changes it in any way
  (`mutate f`, `f` arbitrary); a send emits `enc σ` and leaves the state as `after σ`.  For the eight packs `enc`
  is the reference encoder (a function of the state: nothing else can influence the bytes) and `after` is the
  identity, except for the two tag-hash packs where a send stores the effective tag hash (`norm`).  That the Go
  objects carry no other state from one Write to the next is tie A (`C05Gen.pack_state_*`). -/

inductive ObjOp (σ : Type) where
  | mutate (f : σ → σ)
  | send

/-- run a history on an object: the frames emitted (oldest first) and the final state -/
def runObj {σ : Type} (enc : σ → Bytes) (after : σ → σ) : List (ObjOp σ) → σ → List Bytes × σ
  | [], s => ([], s)
  | .mutate f :: ops, s => runObj enc after ops (f s)
  | .send :: ops, s => ((enc s :: (runObj enc after ops (after s)).1), (runObj enc after ops (after s)).2)

/-- the public states the object had at its sends -/
def statesAtSends {σ : Type} (after : σ → σ) : List (ObjOp σ) → σ → List σ
  | [], _ => []
  | .mutate f :: ops, s => statesAtSends after ops (f s)
  | .send :: ops, s => s :: statesAtSends after ops (after s)

/-- **re-send clause**: for every history of mutations and sends, every frame sent is the encoding of the
    public state the object had at that send — nothing of an earlier send survives in it -/
theorem resend_frames_are_current_state {σ : Type} (enc : σ → Bytes) (after : σ → σ) (ops : List (ObjOp σ)) (s : σ) :
    (runObj enc after ops s).1 = (statesAtSends after ops s).map enc := by
  fun_induction runObj enc after ops s with
  | case1 s => rfl
  | case2 f ops s ih => exact ih
  | case3 ops s ih => simp [statesAtSends, ih]

theorem effTagHash_idem (stored : Int) (tags : List (Bytes × Value)) :
    effTagHash (effTagHash stored tags) tags = effTagHash stored tags := by
  fun_cases effTagHash stored tags with
  | case1 h => unfold effTagHash; split <;> rfl
  | case2 h => exact if_neg h

/-- frame condition of a send of a tag-count pack: only the stored tag hash changes, and it becomes the hash
    that was written; sending again without a mutation sends the same bytes -/
theorem send_tagcount_frame_condition (p : TagCount) :
    p.norm.hdr = p.hdr ∧ p.norm.category = p.category ∧ p.norm.tags = p.tags ∧ p.norm.data = p.data ∧
    p.norm.tagHash = effTagHash p.tagHash p.tags ∧ p.norm.norm = p.norm ∧ encTagCount p.norm = encTagCount p := by
  have e : p.norm.norm = p.norm := by
    simp [TagCount.norm, effTagHash_idem]
  refine ⟨rfl, rfl, rfl, rfl, rfl, e, ?_⟩
  unfold encTagCount
  rw [e]

theorem send_logsink_frame_condition (p : LogSink) :
    p.norm.hdr = p.hdr ∧ p.norm.category = p.category ∧ p.norm.tags = p.tags ∧ p.norm.line = p.line ∧
    p.norm.content = p.content ∧ p.norm.fields = p.fields ∧
    p.norm.tagHash = effTagHash p.tagHash p.tags ∧ p.norm.norm = p.norm ∧ encLogSink p.norm = encLogSink p := by
  have e : p.norm.norm = p.norm := by
    simp [LogSink.norm, effTagHash_idem]
  refine ⟨rfl, rfl, rfl, rfl, rfl, rfl, rfl, e, ?_⟩
  unfold encLogSink
  rw [e]

/-- a tag-count pack that was sent (hash stored) and whose tags are then changed sends the STORED hash with the
    NEW tag map (the pack recomputes the hash only when it is 0) — the documented behaviour the harness takes
    as part of the public state (`GetTagHash`) -/
theorem resend_after_tag_change (p : TagCount) (tags' : List (Bytes × Value)) (h : p.norm.tagHash ≠ 0) :
    encTagCount { p.norm with tags := tags' } =
      encHdr p.hdr ++ ([0] ++ (encText p.category ++ (encDecimal p.norm.tagHash ++ (encMap tags' ++ encMap p.data)))) := by
  have e : effTagHash p.norm.tagHash tags' = p.norm.tagHash := taghash_stored _ _ (Or.inl h)
  show encHdr p.hdr ++ ([0] ++ (encText p.category ++ (encDecimal (effTagHash p.norm.tagHash tags') ++ (encMap tags' ++ encMap p.data)))) = _
  rw [e]

example : (runObj encZip id [.send, .mutate (fun p => { p with status := 7 }), .send] ⟨⟨5, 1, 0, 0, 1000⟩, 1, 2, [1, 2]⟩).1
    = [encZip ⟨⟨5, 1, 0, 0, 1000⟩, 1, 2, [1, 2]⟩, encZip ⟨⟨5, 1, 0, 0, 1000⟩, 7, 2, [1, 2]⟩] := by
  rw [resend_frames_are_current_state]; rfl

/-! a send is the identity on the public state — for every pack type, up to what the model lets a send change -/

/-- when sends leave the state alone (`after = id`: text, parameter, zip, hit-map, counter packs), the final state
    of any history is what the mutations alone make of the initial state -/
theorem sends_do_not_change_state {σ : Type} (enc : σ → Bytes) (ops : List (ObjOp σ)) (s : σ) :
    (runObj enc id ops s).2 = ops.foldl (fun st op => match op with | .mutate f => f st | .send => st) s := by
  fun_induction runObj enc id ops s with
  | case1 s => rfl
  | case2 f ops s ih => exact ih
  | case3 ops s ih => exact ih

/-- sending the same object again with no mutation in between gives byte-identical frames, as often as one likes —
    whenever a send does not change what is encoded (`enc (after s) = enc s`) and `after` is idempotent -/
theorem resend_identical {σ : Type} (enc : σ → Bytes) (after : σ → σ) (s : σ) (n : Nat)
    (h1 : enc (after s) = enc s) (h2 : after (after s) = after s) :
    (runObj enc after (List.replicate (n + 1) .send) s).1 = List.replicate (n + 1) (enc s) := by
  have key : ∀ m, (runObj enc after (List.replicate m .send) (after s)).1 = List.replicate m (enc s) := by
    intro m
    induction m with
    | zero => rfl
    | succ m ih => simp [List.replicate_succ, runObj, h1, h2, ih]
  simp [List.replicate_succ, runObj, key n]

/-! the eight packs: what a send does to the public state (`after`) satisfies both conditions -/

theorem resend_identical_tagcount (p : TagCount) (n : Nat) :
    (runObj encTagCount TagCount.norm (List.replicate (n + 1) .send) p).1 = List.replicate (n + 1) (encTagCount p) :=
  resend_identical _ _ p n (send_tagcount_frame_condition p).2.2.2.2.2.2 (send_tagcount_frame_condition p).2.2.2.2.2.1

theorem resend_identical_logsink (p : LogSink) (n : Nat) :
    (runObj encLogSink LogSink.norm (List.replicate (n + 1) .send) p).1 = List.replicate (n + 1) (encLogSink p) :=
  resend_identical _ _ p n (send_logsink_frame_condition p).2.2.2.2.2.2.2.2 (send_logsink_frame_condition p).2.2.2.2.2.2.2.1

/-- text, parameter, zip, hit-map, counter: a send is the identity -/
theorem resend_identical_plain {σ : Type} (enc : σ → Bytes) (s : σ) (n : Nat) :
    (runObj enc id (List.replicate (n + 1) .send) s).1 = List.replicate (n + 1) (enc s) :=
  resend_identical enc id s n rfl rfl

/-- event: a send takes the attributes under reserved keys out of the object again and changes nothing else;
    when the application's attributes use no reserved key (the intended use) the send is the identity and a
    re-send is byte-identical -/
theorem send_event_frame_condition (e : Event) :
    e.afterSend.hdr = e.hdr ∧ e.afterSend.uuid = e.uuid ∧ e.afterSend.escalation = e.escalation ∧
    e.afterSend.level = e.level ∧ e.afterSend.title = e.title ∧ e.afterSend.message = e.message ∧
    e.afterSend.status = e.status ∧ e.afterSend.otype = e.otype ∧
    e.afterSend.attr = e.attr.filter (fun p => !reserved p.1) ∧ e.afterSend.afterSend = e.afterSend ∧
    ((∀ p ∈ e.attr, reserved p.1 = false) → e.afterSend = e) :=
  ⟨rfl, rfl, rfl, rfl, rfl, rfl, rfl, rfl, rfl, Event.afterSend_idem e, Event.afterSend_id e⟩

theorem resend_identical_event (e : Event) (n : Nat) (h : ∀ p ∈ e.attr, reserved p.1 = false) :
    (runObj encEvent Event.afterSend (List.replicate (n + 1) .send) e).1 = List.replicate (n + 1) (encEvent e) :=
  resend_identical _ _ e n (by rw [Event.afterSend_id e h]) (Event.afterSend_idem e)

example : (runObj encEvent Event.afterSend [.send, .send] ⟨⟨1, 2, 0, 0, 3⟩, [], false, 10, [], [], 0, 0, [(ascii "a", ascii "b")]⟩).1
    = [encEvent ⟨⟨1, 2, 0, 0, 3⟩, [], false, 10, [], [], 0, 0, [(ascii "a", ascii "b")]⟩,
       encEvent ⟨⟨1, 2, 0, 0, 3⟩, [], false, 10, [], [], 0, 0, [(ascii "a", ascii "b")]⟩] :=
  resend_identical_event _ 1 (by decide)

/-! ### decodability: the reference decoder inverts the reference encoder, for each of the eight bodies

  Tagged values inside map fields are C02's well-formed values: `Value.WFV`, with C02's round trip
  `Value.decode_encV` (no assumption about the value codec is left in these statements).
  `(c.wf x)` says every field of `x` holds a value the field can carry (ranges, counts, lengths). -/

/-- the well-formed tagged values of C02 round-trip (C02's theorem) -/
def valuesOK : VOK := ⟨Value.WFV, Value.decode_encV⟩

theorem decodable_tagcount (p : TagCount) (r : Bytes) (wf : (tagCountC Value.WFV).wf p.norm) :
    (tagCountC Value.WFV).dec (encTagCount p ++ r) = some (p.norm, r) := by
  have := tagCountC_RT valuesOK p.norm r wf
  rwa [tagCountC_enc] at this

theorem decodable_logsink (p : LogSink) (r : Bytes) (wf : (logSinkC Value.WFV).wf p.norm) :
    (logSinkC Value.WFV).dec (encLogSink p ++ r) = some (p.norm, r) := by
  have := logSinkC_RT valuesOK p.norm r wf
  rwa [logSinkC_enc] at this

theorem decodable_text (p : TextP) (r : Bytes) (wf : textC.wf p) :
    textC.dec (encTextP p ++ r) = some (p, r) :=
  textC_enc p ▸ textC_RT p r wf

theorem decodable_param (p : Param) (r : Bytes) (wf : (paramC Value.WFV).wf p) :
    (paramC Value.WFV).dec (encParam p ++ r) = some (p, r) :=
  paramC_enc _ p ▸ paramC_RT valuesOK p r wf

/-- the event travels with uuid, escalation, status and object type folded into its attributes -/
theorem decodable_event (e : Event) (r : Bytes) (wf : eventWireC.wf e.toWire) :
    eventWireC.dec (encEvent e ++ r) = some (e.toWire, r) := by
  have := eventWireC_RT e.toWire r wf
  rwa [eventWireC_enc] at this

theorem decodable_zip (p : Zip) (r : Bytes) (wf : zipC.wf p) :
    zipC.dec (encZip p ++ r) = some (p, r) :=
  zipC_enc p ▸ zipC_RT p r wf

theorem decodable_hitmap (p : HitMap) (r : Bytes) (wf : hitMapC.wf p) :
    hitMapC.dec (encHitMap p ++ r) = some (p, r) :=
  hitMapC_enc _ ▸ hitMapC_RT p r wf

theorem decodable_counter (p : Counter) (r : Bytes) (wf : (counterC Value.WFV).wf p) :
    (counterC Value.WFV).dec (encCounter p ++ r) = some (p, r) := by
  have := counterC_RT valuesOK p r wf
  rwa [counterC_enc] at this

/-- status and object type travel as decimal text, which parses back to the number -/
theorem decimal_text_roundtrip (v : Int) : parseDecText (decText v) = some v := parseDecText_decText v

/-- when the user's attributes do not use the reserved keys, the attributes on the wire are the user's
    entries followed by uuid (if set), escalation, status, object type — in this order -/
theorem event_attrs_layout (e : Event) (h : ∀ p ∈ e.attr, reserved p.1 = false) :
    foldAttrs e = e.attr ++ ((if e.uuid = [] then [] else [(keyUuid, e.uuid)]) ++
      [(keyEsca, ascii (if e.escalation then "true" else "false")),
       (keyStatus, decText e.status), (keyOtype, decText e.otype)]) := by
  have := foldAttrs_append e e.attr [] h
  rw [List.append_nil] at this
  rw [this]
  congr 1
  -- on the empty map the four puts meet closed keys only
  unfold foldAttrs
  by_cases hu : e.uuid = [] <;> simp only [hu, if_true, if_false] <;> rfl

/-- … and a receiver gets the whole event back: decode the body, look the reserved keys up, parse the
    two numbers, drop the reserved keys.  (This is the write side of D21: the bytes carry status and
    object type correctly; the Go reader's loss of them is a read-side defect, property C03.) -/
theorem event_fields_recoverable (e : Event) (r : Bytes) (wf : eventWireC.wf e.toWire)
    (h : ∀ p ∈ e.attr, reserved p.1 = false) :
    (eventWireC.dec (encEvent e ++ r)).bind (fun (w, r') => (Event.ofWire w).map (fun e' => (e', r'))) = some (e, r) := by
  rw [decodable_event e r wf]
  simp [Event.ofWire_toWire e h]

/-- the encoding of each body is injective and prefix-free on well-formed packs (stated for the
    counter pack; `Codec.RT.injective` / `prefix_free` give it for every body) -/
theorem counter_encoding_injective (p q : Counter) (wp : (counterC Value.WFV).wf p) (wq : (counterC Value.WFV).wf q)
    (e : encCounter p = encCounter q) : p = q := by
  rw [← counterC_enc Value.WFV, ← counterC_enc Value.WFV] at e
  exact (counterC_RT valuesOK).injective p q wp wq e

/-! what "every field holds a value the field can carry" unfolds to, for the small bodies -/

theorem wf_zip (p : Zip) :
    zipC.wf p ↔ WFHdr p.hdr ∧ p.status < 256 ∧ inRange 8 p.recordCount ∧ p.records.length < 2147483648 := Iff.rfl

theorem wf_text (p : TextP) :
    textC.wf p ↔ WFHdr p.hdr ∧ p.records.length < 9223372036854775808 ∧
      ∀ r ∈ p.records, r.div < 256 ∧ inRange 4 r.hash ∧ r.text.length < 2147483648 := Iff.rfl

theorem wf_hitmap (p : HitMap) :
    hitMapC.wf p ↔ (WFHdr p.hdr ∧ True ∧ ((p.hit.take 120).zip (p.error.take 120)).length = 120 ∧
        ∀ c ∈ (p.hit.take 120).zip (p.error.take 120), (0 ≤ c.1 ∧ c.1 < 65536) ∧ (0 ≤ c.2 ∧ c.2 < 65536)) ∧
      (p.hit.length = 120 ∧ p.error.length = 120) := Iff.rfl

theorem wf_event (e : Event) :
    eventWireC.wf e.toWire ↔ WFHdr e.hdr ∧ e.level < 256 ∧ e.title.length < 2147483648 ∧
      e.message.length < 2147483648 ∧ (foldAttrs e).length < 256 ∧
      ∀ kv ∈ foldAttrs e, kv.1.length < 2147483648 ∧ kv.2.length < 2147483648 := Iff.rfl

theorem wf_param (wfv : Value → Prop) (p : Param) :
    (paramC wfv).wf p ↔ WFHdr p.hdr ∧ inRange 4 p.id ∧ inRange 8 p.request ∧ inRange 8 p.response ∧
      p.table.length < 9223372036854775808 ∧ ∀ kv ∈ p.table, kv.1.length < 2147483648 ∧ wfv kv.2 := Iff.rfl

theorem wf_tagcount (wfv : Value → Prop) (p : TagCount) :
    (tagCountC wfv).wf p ↔ WFHdr p.hdr ∧ True ∧ p.category.length < 2147483648 ∧ inRange 8 p.tagHash ∧
      wfv (.map p.tags) ∧ wfv (.map p.data) := Iff.rfl

/-- whole message, generic in the body codec: a receiver parses the frame and gets exactly (10, 0, pcode, hash of the
    license, payload); the payload starts with the pack type and the rest decodes to the fields, nothing left over
    (the per-pack statements `collector_decodes_*` below are the same for the dispatching collector) -/
theorem message_decodable {α : Type} (c : Codec α) (hc : c.RT) (ty : Nat) (x : α) (pcode : Int) (license : Bytes)
    (hty : ty < 65536) (hp : inRange 8 pcode) (wf : c.wf x)
    (hl : (payload ty (c.enc x)).length < 2147483648) :
    P.run parseFrame (frame pcode license (payload ty (c.enc x)))
        = some (⟨10, 0, pcode, hash64 license, payload ty (c.enc x)⟩, []) ∧
    P.run (rdU 2) (payload ty (c.enc x)) = some (ty, c.enc x) ∧ c.dec (c.enc x) = some (x, []) := by
  refine ⟨?_, ?_, ?_⟩
  · have := run_parseFrame pcode license (payload ty (c.enc x)) [] hp hl
    simpa [netSrcOneWay, netSrcVersion] using this
  · have := (payload_layout ty (c.enc x) [] hty).2
    simpa using this
  · have := hc x [] wf
    simpa using this

/-! ### end to end: "a non-Go collector can decode it", one statement per pack

  `collect` (Golib.Wire.Collector) is a whole receiver: parse the frame, read the pack type, dispatch to the
  reference decoder of that type, require that the payload is consumed exactly.  From the frame the reference
  encoder emits it recovers the project code, the license hash, the pack type and every field, and leaves
  whatever follows the frame untouched.  Tagged values are C02's well-formed values (`Value.WFV`,
  round trip `Value.decode_encV`): no assumption is left about them. -/

theorem collector_decodes_tagcount (p : TagCount) (license r : Bytes) (wf : (tagCountC Value.WFV).wf p.norm)
    (hl : (payload typeTagCount (encTagCount p)).length < 2147483648) :
    collect (frame p.hdr.pcode license (payload typeTagCount (encTagCount p)) ++ r)
      = some (⟨p.hdr.pcode, hash64 license, typeTagCount, .tagcount p.norm⟩, r) :=
  collect_frame _ _ _ _ _ _ (by decide) wf.1.1 hl (mapDec_nil AnyPack.tagcount (decodable_tagcount p [] wf))

theorem collector_decodes_logsink (p : LogSink) (license r : Bytes) (wf : (logSinkC Value.WFV).wf p.norm)
    (hl : (payload typeLogSink (encLogSink p)).length < 2147483648) :
    collect (frame p.hdr.pcode license (payload typeLogSink (encLogSink p)) ++ r)
      = some (⟨p.hdr.pcode, hash64 license, typeLogSink, .logsink p.norm⟩, r) :=
  collect_frame _ _ _ _ _ _ (by decide) wf.1.1 hl (mapDec_nil AnyPack.logsink (decodable_logsink p [] wf))

theorem collector_decodes_text (p : TextP) (license r : Bytes) (wf : textC.wf p)
    (hl : (payload typeText (encTextP p)).length < 2147483648) :
    collect (frame p.hdr.pcode license (payload typeText (encTextP p)) ++ r)
      = some (⟨p.hdr.pcode, hash64 license, typeText, .text p⟩, r) :=
  collect_frame _ _ _ _ _ _ (by decide) wf.1.1 hl (mapDec_nil AnyPack.text (decodable_text p [] wf))

theorem collector_decodes_param (p : Param) (license r : Bytes) (wf : (paramC Value.WFV).wf p)
    (hl : (payload typeParameter (encParam p)).length < 2147483648) :
    collect (frame p.hdr.pcode license (payload typeParameter (encParam p)) ++ r)
      = some (⟨p.hdr.pcode, hash64 license, typeParameter, .param p⟩, r) :=
  collect_frame _ _ _ _ _ _ (by decide) wf.1.1 hl (mapDec_nil AnyPack.param (decodable_param p [] wf))

/-- the event comes back whole: uuid, escalation, status and object type are recovered from the
    reserved attributes -/
theorem collector_decodes_event (e : Event) (license r : Bytes) (wf : eventWireC.wf e.toWire)
    (hres : ∀ p ∈ e.attr, reserved p.1 = false)
    (hl : (payload typeEvent (encEvent e)).length < 2147483648) :
    collect (frame e.hdr.pcode license (payload typeEvent (encEvent e)) ++ r)
      = some (⟨e.hdr.pcode, hash64 license, typeEvent, .event e⟩, r) := by
  refine collect_frame _ _ _ _ _ _ (by decide) wf.1.1 hl ?_
  have h := decodable_event e [] wf
  rw [List.append_nil] at h
  unfold decodeBody
  rw [if_neg (by decide), if_neg (by decide), if_neg (by decide), if_neg (by decide), if_pos rfl, h]
  simp only [Event.ofWire_toWire e hres]

theorem collector_decodes_zip (p : Zip) (license r : Bytes) (wf : zipC.wf p)
    (hl : (payload typeZip (encZip p)).length < 2147483648) :
    collect (frame p.hdr.pcode license (payload typeZip (encZip p)) ++ r)
      = some (⟨p.hdr.pcode, hash64 license, typeZip, .zip p⟩, r) :=
  collect_frame _ _ _ _ _ _ (by decide) wf.1.1 hl (mapDec_nil AnyPack.zip (decodable_zip p [] wf))

theorem collector_decodes_hitmap (p : HitMap) (license r : Bytes) (wf : hitMapC.wf p)
    (hl : (payload typeHitMap1 (encHitMap p)).length < 2147483648) :
    collect (frame p.hdr.pcode license (payload typeHitMap1 (encHitMap p)) ++ r)
      = some (⟨p.hdr.pcode, hash64 license, typeHitMap1, .hitmap p⟩, r) :=
  collect_frame _ _ _ _ _ _ (by decide) wf.1.1.1 hl (mapDec_nil AnyPack.hitmap (decodable_hitmap p [] wf))

theorem collector_decodes_counter (p : Counter) (license r : Bytes) (wf : (counterC Value.WFV).wf p)
    (hl : (payload typeCounter1 (encCounter p)).length < 2147483648) :
    collect (frame p.hdr.pcode license (payload typeCounter1 (encCounter p)) ++ r)
      = some (⟨p.hdr.pcode, hash64 license, typeCounter1, .counter p⟩, r) :=
  collect_frame _ _ _ _ _ _ (by decide) wf.1.1 hl (mapDec_nil AnyPack.counter (decodable_counter p [] wf))

/-- a frame whose pack type is none of the eight is refused, not misread -/
theorem collector_refuses_unknown_type (body : Bytes) (ty : Nat)
    (h : ty ∉ [typeTagCount, typeLogSink, typeText, typeParameter, typeEvent, typeZip, typeHitMap1, typeCounter1]) :
    decodeBody ty body = none := by
  simp only [List.mem_cons, List.mem_nil_iff, or_false, not_or] at h
  unfold decodeBody
  simp [h.1, h.2.1, h.2.2.1, h.2.2.2.1, h.2.2.2.2.1, h.2.2.2.2.2.1, h.2.2.2.2.2.2.1, h.2.2.2.2.2.2.2]

/-- D27 (repaired by proposed/C05/fix-D27.diff): a (project, object) meter entry written WITHOUT the
    active-slice array is not what the layout says — the reference decoder reads the next decimal's
    length byte as the slice count and fails or misreads.  Witness: one entry, all fields zero except
    actx = 1: the entry is `00 00 00 00 00 | 00 | 01 01` by the layout, `00 00 00 00 00 | 01 01` without
    the array, and the latter does not decode as an entry followed by nothing. -/
theorem finding_D27 :
    let e : PoidEntry := ⟨0, 0, 0, 0, 0, [], 1⟩
    let withoutActs : Bytes := encDecimal e.pcode ++ encDecimal e.oid ++ encDecimal e.time ++
      encDecimal e.count ++ encDecimal e.error ++ encDecimal e.actx
    encPoidEntry e = [0, 0, 0, 0, 0, 0, 1, 1] ∧ withoutActs = [0, 0, 0, 0, 0, 1, 1] ∧
    poidEntryC.dec (encPoidEntry e) = some (e, []) ∧ poidEntryC.dec withoutActs ≠ some (e, []) := by
  decide

/-! non-vacuity: concrete packs satisfy the hypotheses, and concrete bytes -/

/-- a concrete counter pack with sections present and absent, meters, slices -/
def sampleCounter : Counter :=
  { hdr := ⟨12345, -7, 3, 0, 1700000000000⟩,
    duration := 0,
    cputime := 1,
    heapTot := -129,
    heapUse := 70000,
    heapPerm := 1099511627776,
    heapPendingFinalization := -4611686018427387904,
    gcCount := 0,
    gcTime := 1,
    serviceCount := -129,
    serviceError := 70000,
    serviceTime := 1099511627776,
    sqlCount := -4611686018427387904,
    sqlError := 0,
    sqlTime := 1,
    sqlFetchCount := -129,
    sqlFetchTime := 70000,
    httpcCount := 1099511627776,
    httpcError := -4611686018427387904,
    httpcTime := 0,
    actSvcCount := 1,
    actSvcSlice := [1, -2, 3],
    cpu := 1065353216,
    cpuSys := 1065353216,
    cpuUsr := 1065353216,
    cpuWait := 1065353216,
    cpuSteal := 1065353216,
    cpuIrq := 1065353216,
    cpuProc := 1065353216,
    cpuCores := 1099511627776,
    mem := 1065353216,
    swap := 1065353216,
    disk := 1065353216,
    threadTotalStarted := -129,
    threadCount := 70000,
    threadDaemon := 1099511627776,
    threadPeakCount := -4611686018427387904,
    dbPool := some ⟨[(1, 2)], []⟩,
    netstat := some ⟨1, 2, 3, 4⟩,
    procFd := -129,
    tps := 1065353216,
    respTime := 1099511627776,
    apType := -2,
    websocket := none,
    starttime := 1,
    packDropped := -129,
    hostIp := 70000,
    macHash := 1099511627776,
    extra := some [(7, .text [104, 105])],
    pid := 4242,
    activeStat := [1, -2, 3],
    threadPoolActiveCount := -129,
    threadPoolQueueSize := 70000,
    oidMeter := some [⟨1, 1000, 3, 0, 1⟩],
    sqlMeter := some [],
    httpcMeter := none,
    groupMeter := none,
    unknown := some ⟨9, 8, 7, 6⟩,
    containerKey := 70000,
    txDbcTime := 1065353216,
    txSqlTime := 1065353216,
    txHttpcTime := 1065353216,
    apdexSatisfied := 1,
    apdexTolerated := -129,
    arrivalRate := 1065353216,
    gcOldgenCount := 1099511627776,
    version := 3,
    heapMax := 0,
    procFdMax := 1,
    metering := 1065353216,
    apdexTotal := 70000,
    poidMeter := [⟨12345, -3, 500, 2, 0, [1, 0, 0], 1⟩],
    resp90 := -4611686018427387904,
    resp95 := 0,
    timeSqrSum := 1 }

/-- `seq_wf`/`iso_wf` take the body apart field by field without unfolding the nested encoder and decoder -/
theorem sampleCounter_wf : (counterC Value.WFV).wf sampleCounter := by
  simp only [counterC, iso_wf, seq_wf, wrapBlob, hdrC, ofP, counterBodyT_enc]
  refine ⟨by decide, ?_, by decide +kernel⟩
  simp only [counterBodyT, dbPoolC, intIntC, netStatC, webSocketC, oidEntryC, sqlEntryC, groupEntryC,
    poidEntryC, unknownC, shorts8C, byteCount, iso_wf, seq_wf, counted, opt, versioned, lit, decimal, i16, i32,
    f32, u8, ofP, decimalCount, imap, Counter.toTuple, sampleCounter]
  and_intros
  all_goals decide

example : collect (frame 12345 (ascii "abcdefg") (payload typeCounter1 (encCounter sampleCounter)))
    = some (⟨12345, 3463164852, typeCounter1, .counter sampleCounter⟩, []) := by
  have := collector_decodes_counter sampleCounter (ascii "abcdefg") [] sampleCounter_wf (by decide +kernel)
  rw [List.append_nil] at this
  have h : hash64 (ascii "abcdefg") = 3463164852 := by decide +kernel
  rw [h] at this
  exact this

example : (counterC Value.WFV).dec (encCounter sampleCounter) = some (sampleCounter, []) := by
  have := decodable_counter sampleCounter [] sampleCounter_wf
  simpa using this

example : ∀ p ∈ ([(ascii "host", ascii "a")] : List (Bytes × Bytes)), reserved p.1 = false := by decide
example : Event.ofWire (Event.toWire ⟨⟨1, 2, 0, 0, 3⟩, ascii "u", true, 30, ascii "t", [], -5, 7, [(ascii "host", ascii "a")]⟩)
    = some ⟨⟨1, 2, 0, 0, 3⟩, ascii "u", true, 30, ascii "t", [], -5, 7, [(ascii "host", ascii "a")]⟩ := by
  decide +kernel

example : WFHdr ⟨12345, -7, 0, 0, 1700000000000⟩ := by decide
example : encHdr ⟨12345, -7, 0, 0, 1700000000000⟩ = [2, 48, 57, 255, 255, 255, 249, 0, 0, 1, 139, 207, 229, 104, 0] := by decide
example : encHdr ⟨0, 1, 2, 0, 3⟩ = [9, 0, 0, 0, 0, 1, 0, 0, 0, 2, 0, 0, 0, 0, 0, 0, 0, 0, 0, 0, 0, 3] := by decide
example : frame 5 [] (payload typeZip (encZip ⟨⟨5, 1, 0, 0, 1000⟩, 1, 2, [1, 2]⟩)) =
    [10, 0, 0, 0, 0, 0, 0, 0, 0, 5, 0, 0, 0, 0, 0, 0, 0, 0, 0, 0, 0, 22,
     23, 11, 1, 5, 0, 0, 0, 1, 0, 0, 0, 0, 0, 0, 3, 232, 1, 1, 2, 2, 1, 2] := by decide +kernel
example : zipC.wf ⟨⟨5, 1, 0, 0, 1000⟩, 1, 2, [1, 2]⟩ := by
  show WFHdr _ ∧ (1 : Nat) < 256 ∧ inRange 8 (2 : Int) ∧ [1, 2].length < 2147483648
  decide
example : hash64 (ascii "abcdefg") = 3463164852 := by decide +kernel
example : (foldAttrs ⟨⟨0, 0, 0, 0, 0⟩, [], true, 30, [], [], -5, 7, []⟩).map (fun kv => kv.1) = [keyEsca, keyStatus, keyOtype] := by
  decide +kernel
example : decText (-5) = ascii "-5" ∧ decText 2147483647 = ascii "2147483647" ∧ decText 0 = ascii "0" := by
  decide +kernel

/-! non-vacuity of the other packs' hypotheses, and sharpness of the one-byte count -/

example : (tagCountC Value.WFV).wf (TagCount.norm ⟨⟨1, 2, 0, 0, 3⟩, ascii "c", 7, [(ascii "k", .text (ascii "v"))], [(ascii "n", .dec 5)]⟩) := by
  rw [wf_tagcount]
  decide +kernel

example : (logSinkC Value.WFV).wf (LogSink.norm ⟨⟨1, 2, 0, 0, 3⟩, ascii "c", 7, [], 5, ascii "x", []⟩) := by
  show WFHdr _ ∧ True ∧ _ < 2147483648 ∧ inRange 8 _ ∧ Value.WFV _ ∧ inRange 8 _ ∧ _ < 2147483648 ∧ (optMapC Value.WFV).wf _
  refine ⟨by decide, trivial, by decide, by decide, by decide, by decide, by decide, ?_⟩
  show (Codec.opt (Codec.smap Value.WFV)).wf (optOfMap [])
  exact trivial

example : textC.wf ⟨⟨1, 2, 0, 0, 3⟩, [⟨1, -5, ascii "t"⟩]⟩ := by
  rw [wf_text]
  decide +kernel

example : (paramC Value.WFV).wf ⟨⟨1, 2, 0, 0, 3⟩, 4, 5, 6, [(ascii "k", .dec 1)]⟩ := by
  rw [wf_param]
  decide +kernel

example : eventWireC.wf (Event.toWire ⟨⟨1, 2, 0, 0, 3⟩, ascii "u", true, 30, ascii "t", [], -5, 7, [(ascii "host", ascii "a")]⟩) := by
  rw [wf_event]
  decide +kernel

example : ∃ p : TagCount, p.norm.tagHash ≠ 0 := ⟨⟨⟨1, 2, 0, 0, 3⟩, [], 5, [], []⟩, by decide⟩

example : ∃ p : TagCount, p.tagHash = 0 ∧ p.tags ≠ [] := ⟨⟨⟨1, 2, 0, 0, 3⟩, [], 0, [([1], .null)], []⟩, by decide⟩

/-- the hypothesis "at most 255 attributes on the wire" of `decodable_event` is exactly what the one-byte count can
    carry: with 256 (252 of the application + the four reserved ones) the count byte is 0 and the reference decoder
    does not get the event back — the writer (`byte(sz)`) has no guard there; such events are outside the protocol -/
theorem event_attr_cap_is_sharp :
    let e : Event := ⟨⟨1, 2, 0, 0, 3⟩, ascii "u", false, 0, [], [], 0, 0, (List.range 252).map (fun i => ([i], []))⟩
    (foldAttrs e).length = 256 ∧ eventWireC.dec (encEvent e) ≠ some (e.toWire, []) := by
  decide +kernel

end C05
