/-
  Property C05, fault clause — lifted to the client's state machine.

  C06's model of net/oneway.OneWayTcpClient (Golib.Tcp) is a machine of
  atomic actions with frames as opaque byte strings `bytesOf sid`; its theorem `Tcp.fault_histories` covers ANY
  history of sends, dial faults, write and flush faults at arbitrary byte offsets, peer cuts at arbitrary byte
  counts, application Close() calls and idle periods.  Here the frames are instantiated with C05's reference
  frames (`Wire.frame pcode license payload`) and C05's receiver (`Wire.parseStream`) is run on what each
  connection delivered:

    for every such history, on every connection, a collector that parses frame after frame gets exactly the
    frames that arrived whole — in acceptance order, none of them on two connections — and is left with the
    truncated tail (empty, or a strict prefix of the next frame) which it never takes for a frame.

  The hypothesis `cfg.sendLocked = true` is C06's tie-A fact "sendDirect holds the send lock from makeData to
  Flush".
-/
import Golib.Tcp.Histories
import Golib.Props.C05

namespace C05
open Prim Wire Tcp

/-- the frame of send `sid` -/
def framesOf (snd : Nat → Sent) : Nat → Bytes := fun sid => (snd sid).bytes

theorem concatF_framesOf (snd : Nat → Sent) (sids : List Nat) :
    concatF (framesOf snd) sids = streamOf (sids.map snd) := by
  induction sids with
  | nil => rfl
  | cons x xs ih => simp [concatF, streamOf, framesOf, ih]

/-- a receiver's parse of whole frames followed by a truncated one -/
theorem parse_whole_then_tail (snd : Nat → Sent) (hw : ∀ sid, (snd sid).wf) (sids : List Nat) (tail : Bytes)
    (ht : tail = [] ∨ ∃ sid, tail <+: (snd sid).bytes ∧ tail ≠ (snd sid).bytes) :
    parseStream (sids.length + 1) (concatF (framesOf snd) sids ++ tail) = (sids.map (fun sid => (snd sid).parts), tail) := by
  have hq : P.run parseFrame tail = none := by
    rcases ht with rfl | ⟨sid, ⟨s, hs⟩, hne⟩
    · exact run_parseFrame_nil
    · have hsne : s ≠ [] := by
        intro e; subst e; simp at hs; exact hne hs
      exact frame_prefix_fails (snd sid).pcode (snd sid).license (snd sid).payload tail s (hw sid).1 (hw sid).2 hsne hs
  have := parseStream_whole (sids.map snd) tail (sids.length + 1) (by simp) (by
    intro x hx
    obtain ⟨sid, _, rfl⟩ := List.mem_map.mp hx
    exact hw sid) hq
  rw [concatF_framesOf, this, List.map_map]
  rfl

/-- **Fault histories, as seen by a collector.**  Any history of the client (sends, dial / write / flush faults
    at arbitrary byte offsets, peer cuts, Close(), idle time) whose frames are reference frames: there is a
    count `k c` per connection such that the collector's parse of what connection `c` delivered is exactly the
    first `k c` frames handed to it, with the truncated tail left over; over all connections the whole frames
    are strictly increasing in acceptance order (so none is whole on two connections, none twice) and all were
    accepted sends. -/
theorem fault_history_streams_decode (cfg : Cfg) (hl : cfg.sendLocked = true) (snd : Nat → Sent)
    (hw : ∀ sid, (snd sid).wf) (es : List HEv) (s : St)
    (h : runHist cfg (framesOf snd) es Tcp.init = some s) :
    ∃ k : Nat → Nat,
      (∀ c, ∃ tail,
          parseStream (((s.log.get c).take (k c)).length + 1) (s.delivered c)
            = (((s.log.get c).take (k c)).map (fun sid => (snd sid).parts), tail) ∧
          (tail = [] ∨ ∃ sid, (s.log.get c)[k c]? = some sid ∧ tail <+: (snd sid).bytes ∧ tail ≠ (snd sid).bytes)) ∧
      (wholeFrames s k).Pairwise (· < ·) ∧ (wholeFrames s k).Sublist s.handed := by
  obtain ⟨k, hk, hp, hs⟩ := fault_histories cfg (framesOf snd) hl es s h
  refine ⟨k, ?_, hp, hs⟩
  intro c
  obtain ⟨tail, hd, ht⟩ := hk c
  refine ⟨tail, ?_, ht⟩
  rw [hd]
  apply parse_whole_then_tail snd hw
  rcases ht with h0 | ⟨sid, _, h1, h2⟩
  · exact Or.inl h0
  · exact Or.inr ⟨sid, h1, h2⟩

/-- the frame of a pack: what `makeData` puts on the wire for a pack of type `ty` with body `body` -/
def packSent (pcode : Int) (license : Bytes) (ty : Nat) (body : Bytes) : Sent := ⟨pcode, license, payload ty body⟩

example : (packSent 5 [] typeZip (encZip ⟨⟨5, 1, 0, 0, 1000⟩, 1, 2, [1, 2]⟩)).wf := by
  refine ⟨by decide, by decide⟩

/-! non-vacuity: a concrete history on the model — a send that succeeds, a send whose write fails after 5 bytes,
    a send after the reconnect — runs, with 22-byte reference frames -/
def cfgAllLocked : Cfg := ⟨false, true, true, true, true, true, true⟩
def tinySent : Nat → Sent := fun sid => ⟨(sid % 1000 : Nat), [], []⟩

example : (runHist cfgAllLocked (framesOf tinySent) [.ok 1, .writeFault 1 5, .ok 1] Tcp.init).isSome = true := by
  decide +kernel

example : ∀ sid, (tinySent sid).wf := fun sid => ⟨by
  show inRange 8 ((sid % 1000 : Nat) : Int)
  rw [inRange_8]; omega, by show ([] : Bytes).length < 2147483648; decide⟩

end C05
