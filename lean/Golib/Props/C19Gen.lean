/-
  Property C19 — tie A: the facts that `xlate/c19` transcribes from
  /repo/util/dateutil/{DateTimeHelper,DateFormat}.go on every run (Golib.Gen.C19) are the
  constants the hand-written CodeModel (Golib.Cal.*) is built from.  Closed facts (tables, constants,
  frames, the package surface) are evaluations; the transcribed bodies are given a semantics
  (Golib.Cal.PadIR, Golib.Cal.LoopIR) and proved to compute the model's functions for all arguments.
-/
import Golib.Gen.C19
import Golib.Cal.Helper
import Golib.Cal.DateFormat
import Golib.Cal.PadIR
import Golib.Cal.LoopIR

namespace C19Gen
open Cal

/-- the month-length table and the weekday labels of the source are those of the model -/
theorem gen_tables : Gen.C19.mdayLen = mdayLen ∧ Gen.C19.wday = wdayLabels := by decide

theorem gen_millis :
    Gen.C19.MILLIS_PER_SECOND = MILLIS_PER_SECOND ∧ Gen.C19.MILLIS_PER_MINUTE = MILLIS_PER_MINUTE ∧
    Gen.C19.MILLIS_PER_FIVE_MINUTE = MILLIS_PER_FIVE_MINUTE ∧ Gen.C19.MILLIS_PER_HOUR = MILLIS_PER_HOUR ∧
    (Gen.C19.MILLIS_PER_DAY : Int) = MILLIS_PER_DAY ∧ Gen.C19.MILLIS_PER_DAY = MS_DAY := by decide

/-- the body of `isYun` in the source computes the model's leap rule on every argument open()
    passes to it (0..99) -/
theorem gen_isYun : Gen.C19.isYunKnown = true ∧ ∀ y, y < 100 → Gen.C19.isYun y = isYun y := by decide

/-- the base instant is 2000-01-01T00:00:00 UTC, which is day 10957 = BASE_TIME / day -/
theorem gen_base : Gen.C19.baseDateUTC = [2000, 1, 1, 0, 0, 0, 0] ∧ daysFromCivil 2000 1 1 = BASE_DAY ∧
    BASE_TIME = (BASE_DAY : Int) * MILLIS_PER_DAY := by decide

/-- open(): 100 years × 12 months, weekday index starts at 5 and wraps after 6, February is
    month index 1, the date string is "%d%02d%02d" of (year+2000, mm+1, dd+1) -/
theorem gen_open : Gen.C19.openLoopBounds = [100, 12] ∧ Gen.C19.openLiteralInits = [0, 0, 0, 0, 5] ∧
    Gen.C19.openEqTests = [1, 6] ∧ Gen.C19.openDateFormat = ["%d%02d%02d"] ∧
    Gen.C19.openDateOffsets = [2000, 1, 1] := by decide

/-- what each string helper writes, piece by piece (this carries the pad widths: `mk2` for
    hours/minutes/seconds, `mk3` for milliseconds — fails on the code before the repair of D40) -/
theorem gen_pieces :
    Gen.C19.pieces_datetime = ["field:date", "lit: ", "call:mk2", "lit::", "call:mk2", "lit::", "call:mk2"] ∧
    Gen.C19.pieces_timestamp = ["field:date", "lit: ", "call:mk2", "lit::", "call:mk2", "lit::", "call:mk2", "lit:.", "call:mk3"] ∧
    Gen.C19.pieces_logtime = ["call:mk2", "lit::", "call:mk2", "lit::", "call:mk2", "lit:.", "call:mk3"] ∧
    Gen.C19.pieces_ymdhms = ["field:date", "call:mk2", "call:mk2", "call:mk2"] ∧
    Gen.C19.pieces_hhmmss = ["sprintf:%02d%02d%02d"] ∧ Gen.C19.pieces_hhmm = ["sprintf:%02d%02d"] := by decide

/-! ### interpreted obligations: the transcribed bodies, given a semantics (Golib.Cal.PadIR), compute
    the model's functions -/

/-- the body of `mk2` in the source computes the model's `mk2` on every two-digit argument
    (hours, minutes, seconds are < 100), the body of `mk3` the model's `mk3` on every
    millisecond value -/
theorem gen_mk2 : ∀ n, n < 100 → evalPad Gen.C19.mk2 n = some (mk2 n) := by
  intro n _
  simp only [Gen.C19.mk2, evalPad, switch_digits, mk2, decide_eq_true_eq]
  split <;> rfl

theorem gen_mk3 : ∀ n, n < 1000 → evalPad Gen.C19.mk3 n = some (mk3 n) := by
  intro n _
  simp only [Gen.C19.mk3, evalPad, switch_digits, mk3, decide_eq_true_eq]
  split
  · rfl
  · split <;> rfl

/-- the Sprintf formats of the source, interpreted, are the model's `Day.date`, `hhmmss`, `hhmm`
    bodies — for all arguments -/
theorem gen_sprintf (a b c : Nat) :
    evalFmt (Gen.C19.fmt_open.map Char.ofNat) [a, b, c] = some (itoa a ++ pad0 2 b ++ pad0 2 c) ∧
    evalFmt (Gen.C19.fmt_hhmmss.map Char.ofNat) [a, b, c] = some (pad0 2 a ++ pad0 2 b ++ pad0 2 c) ∧
    evalFmt (Gen.C19.fmt_hhmm.map Char.ofNat) [a, b] = some (pad0 2 a ++ pad0 2 b) := by
  simp [evalFmt, isDig, Gen.C19.fmt_open, Gen.C19.fmt_hhmmss, Gen.C19.fmt_hhmm]

/-- the piece sequences of the four buffer-writing helpers, run with the transcribed pad
    functions, produce the strings of the model (`datetime`, `timestampWith mk3`, `logtimeWith mk3`,
    `ymdhms` bodies) for every date string and every time of day -/
theorem gen_programs (date : List Char) (hh mm ss sss : Nat) (h1 : hh < 100) (h2 : mm < 100) (h3 : ss < 100)
    (h4 : sss < 1000) :
    evalPieces (evalPad Gen.C19.mk2) (evalPad Gen.C19.mk3) Gen.C19.prog_datetime date [hh, mm, ss] =
      some (date ++ ' ' :: mk2 hh ++ ':' :: mk2 mm ++ ':' :: mk2 ss) ∧
    evalPieces (evalPad Gen.C19.mk2) (evalPad Gen.C19.mk3) Gen.C19.prog_timestamp date [hh, mm, ss, sss] =
      some (date ++ ' ' :: mk2 hh ++ ':' :: mk2 mm ++ ':' :: mk2 ss ++ '.' :: mk3 sss) ∧
    evalPieces (evalPad Gen.C19.mk2) (evalPad Gen.C19.mk3) Gen.C19.prog_logtime date [hh, mm, ss, sss] =
      some (mk2 hh ++ ':' :: mk2 mm ++ ':' :: mk2 ss ++ '.' :: mk3 sss) ∧
    evalPieces (evalPad Gen.C19.mk2) (evalPad Gen.C19.mk3) Gen.C19.prog_ymdhms date [hh, mm, ss] =
      some (date ++ mk2 hh ++ mk2 mm ++ mk2 ss) := by
  have a := gen_mk2 hh h1
  have b := gen_mk2 mm h2
  have c := gen_mk2 ss h3
  have d := gen_mk3 sss h4
  simp [evalPieces, Gen.C19.prog_datetime, Gen.C19.prog_timestamp, Gen.C19.prog_logtime,
    Gen.C19.prog_ymdhms, a, b, c, d]

/-- **whole helper bodies, interpreted**: the `/ %` chain of each string helper as it stands in the
    source (variables by name) followed by its writes, run with the transcribed pad functions and
    formats, yields — for every elapsed time `time - BASE_TIME` and whatever the table holds
    (`dateOf idx`) — exactly the model's string: table entry `elapsed / day`, and the
    `hmsOf (elapsed % day)` fields through mk2/mk3/%02d.  Renaming variables keeps this green;
    dividing by the wrong constant, reading the wrong variable or dropping a `%` step breaks it. -/
theorem gen_bodies (dateOf : Nat → List Char) (el : Nat) :
    let h := hmsOf (el % 86400000)
    evalBody (evalPad Gen.C19.mk2) (evalPad Gen.C19.mk3) dateOf Gen.C19.chain_datetime Gen.C19.outs_datetime el =
      some (dateOf (el / 86400000) ++ ' ' :: mk2 h.hh ++ ':' :: mk2 h.mm ++ ':' :: mk2 h.ss) ∧
    evalBody (evalPad Gen.C19.mk2) (evalPad Gen.C19.mk3) dateOf Gen.C19.chain_timestamp Gen.C19.outs_timestamp el =
      some (dateOf (el / 86400000) ++ ' ' :: mk2 h.hh ++ ':' :: mk2 h.mm ++ ':' :: mk2 h.ss ++ '.' :: mk3 h.sss) ∧
    evalBody (evalPad Gen.C19.mk2) (evalPad Gen.C19.mk3) dateOf Gen.C19.chain_logtime Gen.C19.outs_logtime el =
      some (mk2 h.hh ++ ':' :: mk2 h.mm ++ ':' :: mk2 h.ss ++ '.' :: mk3 h.sss) ∧
    evalBody (evalPad Gen.C19.mk2) (evalPad Gen.C19.mk3) dateOf Gen.C19.chain_ymdhms Gen.C19.outs_ymdhms el =
      some (dateOf (el / 86400000) ++ mk2 h.hh ++ mk2 h.mm ++ mk2 h.ss) ∧
    evalBody (evalPad Gen.C19.mk2) (evalPad Gen.C19.mk3) dateOf Gen.C19.chain_hhmmss Gen.C19.outs_hhmmss el =
      some (pad0 2 h.hh ++ pad0 2 h.mm ++ pad0 2 h.ss) ∧
    evalBody (evalPad Gen.C19.mk2) (evalPad Gen.C19.mk3) dateOf Gen.C19.chain_hhmm Gen.C19.outs_hhmm el =
      some (pad0 2 h.hh ++ pad0 2 h.mm) := by
  intro h
  have a := gen_mk2 (el % 86400000 / 3600000) (by omega)
  have b := gen_mk2 (el % 3600000 / 60000) (by omega)
  have c := gen_mk2 (el % 60000 / 1000) (by omega)
  have d := gen_mk3 (el % 1000) (by omega)
  simp [h, hmsOf, MILLIS_PER_HOUR, MILLIS_PER_MINUTE, MILLIS_PER_SECOND, evalBody, evalAssigns, evalOuts, Env.get,
    evalFmt, isDig,
    Gen.C19.chain_datetime, Gen.C19.outs_datetime, Gen.C19.chain_timestamp, Gen.C19.outs_timestamp,
    Gen.C19.chain_logtime, Gen.C19.outs_logtime, Gen.C19.chain_ymdhms, Gen.C19.outs_ymdhms,
    Gen.C19.chain_hhmmss, Gen.C19.outs_hhmmss, Gen.C19.chain_hhmm, Gen.C19.outs_hhmm, a, b, c, d]


/-! ### the rune loops of DateFormat, interpreted

  `format` and `Parse` are transcribed statement by statement (`Gen.C19.formatBody`, `parseBody`, `parseFills`;
  semantics in Golib.Cal.LoopIR) and proved equal to the CodeModel **for all patterns, inputs and states**.
  This is where "every rune that is not one of y m d H M S s is a literal" is tied to the source: a loop body
  that gives some other rune a meaning (a quote that toggles a flag, an escape, a `continue`) contains a statement
  the semantics has no meaning for, or a clause the model does not have, and these obligations no longer check.
  Re-ordering the clauses, renaming variables or constants keeps them green. -/

/-- one pass of the loop body of `format` as it stands in the source — the single `switch ch` with its seven
    field clauses and the default clause — appends, for EVERY rune, what the model's `fmtRune` appends -/
theorem gen_format_body (f : Fields) (c : Char) : evalFmtBody Gen.C19.formatBody f c = some (fmtRune f c) := by
  rcases rune_cases c with rfl | rfl | rfl | rfl | rfl | rfl | rfl | ⟨hw, _⟩
  iterate 7 simp [Gen.C19.formatBody, evalFmtBody, runeCase, FmtAct.eval, TimeSel.eval, fmtRune, letterWidth, Fields.get]
  rw [Gen.C19.formatBody, evalFmtBody, runeCase_default _ _ c hw (by decide)]
  simp [evalFmtBody, FmtAct.eval, fmtRune, hw]

/-- **`format` is the model's `format`**: the function is `ret := this.formatStr; var buf bytes.Buffer; for _, ch := range ret { … };
    return buf.String()` and its loop, run on any pattern and any field values, writes `Cal.format pat f` -/
theorem gen_format_loop (pat : List Char) (f : Fields) :
    Gen.C19.formatFrame = ["alias", "buffer", "loop", "return-buffer"] ∧ Gen.C19.formatRangeOver = "recv.formatStr" ∧
    evalFormatLoop Gen.C19.formatBody pat f = some (format pat f) :=
  ⟨by decide, by decide, evalFormatLoop_eq _ gen_format_body pat f⟩

/-- one pass of the loop body of `Parse` as it stands in the source (`if i >= sz { break }`, then the `switch ch`)
    is one step of the model's `parseLoopZ`, for every rune, index, remaining input and field map -/
theorem gen_parse_body (sz i : Nat) (c : Char) (inp : List Char) (p : PStateZ) :
    evalParseBody Gen.C19.parseBody sz i c inp p = modelStep sz i c inp p := by
  by_cases hi : i ≥ sz
  · simp [Gen.C19.parseBody, evalParseBody, modelStep, hi]
  rcases rune_cases c with rfl | rfl | rfl | rfl | rfl | rfl | rfl | ⟨hw, _⟩
  iterate 7
    simp [Gen.C19.parseBody, evalParseBody, modelStep, hi, runeCase, ParseAct.eval, letterWidth] <;>
      cases toIntZ inp _ <;> rfl
  rw [Gen.C19.parseBody, evalParseBody, if_neg hi, evalParseBody, runeCase_default _ _ c hw (by decide)]
  simp [evalParseBody, ParseAct.eval, modelStep, hi, hw]

/-- **the loop of `Parse` is the model's `parseLoopZ`** on every pattern, input, start index and field map
    (so also on a reused object), and the function consists of the reader/size/clock initialisers, that loop,
    the seven fill statements, `time.Date`, the division to milliseconds and the return — nothing else -/
theorem gen_parse_loop (sz : Nat) (pat : List Char) (i : Nat) (inp : List Char) (p : PStateZ) :
    Gen.C19.parseFrame = ["reader", "sz", "now", "loop", "fill", "fill", "fill", "fill", "fill", "fill", "fill",
      "date", "millis", "return-millis"] ∧ Gen.C19.parseRangeOver = "recv.formatStr" ∧
    evalParseLoop Gen.C19.parseBody sz pat i inp p = some (parseLoopZ sz pat i inp p) :=
  ⟨by decide, by decide, evalParseLoop_eq _ sz (gen_parse_body sz) pat i inp p⟩

/-- the seven `if _, ok := this.date[K]; !ok { this.date[K] = now.X() }` statements, run in source order, are
    the model's `PStateZ.fill` — for every field map and every clock reading -/
theorem gen_parse_fills (p : PStateZ) (now : Fields) : evalFills Gen.C19.parseFills p now = some (p.fill now) := by
  rcases p with ⟨y, m, d, H, M, S, s⟩
  simp only [Gen.C19.parseFills, evalFills, TimeSel.eval, fill_stmt, and_self, if_true]
  rfl

/-- **one `Parse` call, as transcribed, is the model's `parseObj`**: loop, then (unless a field clause returned an
    error) the fills and `time.Date(…)/10⁶` of the filled map (argument order and factors: `gen_date_args`) -/
theorem gen_parse_obj (st : PStateZ) (pat : List Char) (now : Fields) (inp : List Char) :
    ((evalParseLoop Gen.C19.parseBody (utf8Len inp) pat 0 inp st).bind fun r =>
      if r.2 then (evalFills Gen.C19.parseFills r.1 now).map fun q => (q, some (dateToMsZ q.fields))
      else some (r.1, none)) = some (parseObj st pat now inp) := by
  rw [(gen_parse_loop (utf8Len inp) pat 0 inp st).2.2]
  simp only [Option.bind_some, parseObj]
  split
  · simp [gen_parse_fills]
  · rfl

/-- the two exported entries are the unexported `format` applied to the argument (`FormatTime`) and to the
    clock reading `time.Now()` (`Format`) — nothing in between -/
theorem gen_format_entries : Gen.C19.formatEntries =
    [("Format", "recv.format(time.Now())"), ("FormatTime", "recv.format(#0)")] := by decide

/-- the semantics gives no meaning to a body with a statement it does not know: the loop of the quoted-literal
    variant (`if ch == '\'' { quoted = !quoted; continue }; if quoted { … ; continue }; switch ch { … }`) is
    transcribed as `[.other, .other, .switchCh …]`, about which nothing of the above can be proved -/
example (f : Fields) : evalFormatLoop (.other :: .other :: Gen.C19.formatBody) ['y'] f = none := rfl
example : evalParseLoop (.breakIfIdxGeSz :: .other :: Gen.C19.parseBody) 5 ['y'] 0 ['2'] {} = none := rfl
/-- and it is not vacuous on the real body -/
example : evalFormatLoop Gen.C19.formatBody "y-m'd".toList ⟨2024, 2, 29, 7, 10, 5, 123⟩ = some "2024-02'29".toList := by decide

/-- format and Parse use the same seven letters with the model's widths -/
theorem gen_widths : Gen.C19.formatWidths = Gen.C19.parseWidths ∧ Gen.C19.formatWidths.length = 7 ∧
    (Gen.C19.formatWidths.map Prod.fst).Nodup ∧
    ∀ p ∈ Gen.C19.formatWidths, letterWidth (Char.ofNat p.1) = some p.2 := by decide

/-- time.Date receives year, month, day, hour, minute, second, millisecond·10⁶ in this order and
    the result is UnixNano / 10⁶ -/
theorem gen_date_args : Gen.C19.parseDateArgLetters = [121, 109, 100, 72, 77, 83, 115] ∧
    Gen.C19.parseNanosPerMilli = 1000000 ∧ Gen.C19.parseUnixNanoDivisor = 1000000 := by decide

/-! ### the exported helpers are functions of their argument (no hidden state)

  The CodeModel and the theorems of C19 describe each helper as a function of the instant.  That
  is the code only if the exported wrappers of DateUtil.go pass straight through to the
  DateTimeHelper methods and nothing in the package keeps state between calls.  Facts regenerated
  from *every* non-test file of the package: -/

/-- every exported wrapper that takes an instant or a date string is exactly
    `return helper.<method>(arg)` of the method the model names (the `…Now` variants pass `Now()`);
    the clock/delta functions are `other` (their effects are bounded by `gen_writers`) -/
theorem gen_wrappers : Gen.C19.wrappers =
    [("DateTime", "helper.datetime(#0)"), ("GetDateUnit", "helper.getDateUnit(#0)"),
     ("GetDateUnitNow", "helper.getDateUnit(Now())"), ("GetDelta", "other"),
     ("GetFiveMinUnit", "helper.getFiveMinUnit(#0)"), ("GetMinUnit", "helper.getMinUnit(#0)"),
     ("GetYmdTime", "helper.getYmdTime(#0)"), ("HHMM", "helper.hhmm(#0)"), ("HHMMSS", "helper.hhmmss(#0)"),
     ("Now", "other"), ("SetDelta", "other"), ("SetServerTime", "other"), ("SystemNow", "other"),
     ("TimeStamp", "helper.timestamp(#0)"), ("TimeStampNow", "helper.timestamp(Now())"),
     ("WeekDay", "helper.weekday(#0)"), ("YYYYMMDD", "helper.yyyymmdd(#0)"),
     ("YmdNow", "helper.yyyymmdd(Now())"), ("Ymdhms", "helper.ymdhms(#0)")] := by decide

/-- the exported surface of the package is the known one: no exported function, method or type
    through which a helper for another location (or any other object sharing state with the UTC
    helper) could be created.  The harness can only call what exists; a new exported constructor
    shows up here first. -/
theorem gen_exported_api : Gen.C19.exportedApi =
    ["func DateTime", "func GetDateUnit", "func GetDateUnitNow", "func GetDelta", "func GetFiveMinUnit",
     "func GetMinUnit", "func GetYmdTime", "func HHMM", "func HHMMSS", "func IsSyncTime", "func LPadInt",
     "func NewDateFormat", "func Now", "func SetDelta", "func SetServerTime", "func StartSyncTime",
     "func StopSyncTime", "func SystemNow", "func TimeStamp", "func TimeStampNow", "func WeekDay",
     "func YYYYMMDD", "func YmdNow", "func Ymdhms", "method DateFormat.Format", "method DateFormat.FormatTime",
     "method DateFormat.Parse", "method DateFormat.ToInt", "type DateFormat", "type DateTimeHelper",
     "type Day"] := by decide

/-- the package-level variables are the known ones: the helper and its registry, the clock
    delta and sync-time state, the two constant tables — nothing a helper could cache in -/
theorem gen_pkg_vars : Gen.C19.pkgVars =
    ["SyncTimeMillis", "_table", "delta", "helper", "lastSyncTime", "lock", "mdayLen",
     "syncTimeTicker", "wday"] := by decide

/-- no struct of the package has grown a field -/
theorem gen_struct_fields : Gen.C19.structFields =
    [("DateFormat", ["formatStr", "dateStr", "date"]),
     ("DateTimeHelper", ["BASE_TIME", "table", "dateTable", "LAST_DATE"]),
     ("Day", ["yyyy", "mm", "dd", "date", "wday", "time"])] := by decide

/-- the only functions that assign to a package-level variable or to a field of their receiver:
    the delta setters, the sync-time clock, the helper registry, open() filling the tables, and
    Parse's `this.date` (a recorded observation).  No formatting or unit method writes anything. -/
theorem gen_writers : Gen.C19.writers =
    [("DateFormat.Parse", ["recv.date"]), ("DateTimeHelper.open", ["recv.dateTable", "recv.table"]),
     ("SetDelta", ["var:delta"]), ("SetServerTime", ["var:delta"]),
     ("StartSyncTime", ["var:SyncTimeMillis", "var:lastSyncTime"]),
     ("clock", ["var:SyncTimeMillis", "var:lastSyncTime", "var:syncTimeTicker"]),
     ("getDateTimeHelper", ["var:_table"])] := by decide

end C19Gen
