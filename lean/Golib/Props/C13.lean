/-
  Property C13 — typed lists are faithful sequences; sorting yields an ordering permutation.

  The statements of the property; what several of them share is proved in Golib.Lists.*.
  CodeModel: `Lists.TL` (util/list/<T>List.go: size + table + ensure/add/…),
  `Lists.write/read` (wire form), `Lists.Sort.*` (comparator closures of Sorting /
  SortingAnyList / CompareChild), `Lists.Linked.LL` (LinkedList on a node heap).
  Spec: plain `List α`.  `sort.Sort` is a parameter (`Sort.SortContract`).

  The model describes the code with proposed/C13/fix-D43.diff, fix-D44.diff, fix-D45.diff applied, as
  /repo has them.  Of fix-D46.diff it has both sides: `FloatText.floatView dbl quirk` with `quirk := true`
  (the default) is `DoubleList.SetString` parsing with bitSize 32, `quirk := false` is the statement of
  /repo (bitSize 64; `doubleList_setString_partial`).  The four `finding_*` theorems (D43–D46) are about
  the statements without the respective fix.
-/
import Golib.Lists.Run
import Golib.Lists.Wire
import Golib.Lists.Sort
import Golib.Lists.LinkedProof
import Golib.Lists.Multi
import Golib.Lists.Cross
import Golib.Lists.TableWire
import Golib.Lists.LinkedAtomic
import Golib.Lists.LinkedConc
import Golib.Lists.CrossNum
import Golib.Lists.PackTable
import Golib.Lists.RunLift
import Golib.Lists.FloatText
import Golib.Lists.LinkedText

namespace C13
open Lists

/-- the objects a caller can start from: the zero value (`new(XList)`, nil table) or
    `NewXList(cap)` / `NewXListDefault()` -/
inductive Fresh {α : Type} (z : α) : TL α → Prop where
  | zeroValue : Fresh z TL.zeroValue
  | withCap (cap : Nat) : Fresh z (TL.mk' z cap)

theorem Fresh.inv {α : Type} {z : α} {l : TL α} (h : Fresh z l) : TL.Inv l := by
  cases h
  · exact TL.inv_zeroValue
  · exact TL.inv_mk' z _

theorem Fresh.abs {α : Type} {z : α} {l : TL α} (h : Fresh z l) : TL.abs l = [] := by
  cases h <;> simp

/-- **list_refines_seq.**  For every history of Add / AddAllArray / AddAll(other) / AddAll(this) /
    Set / Get / Size / ToArray on a fresh list, every answer (values, panics on out-of-range
    indices, sizes, arrays) is the answer of the plain sequence, and the final `ToArray()` is the
    final sequence.  (`BOUND` = 1 431 655 759 elements: below it `ensure` cannot reach
    "too big size".) -/
theorem list_refines_seq {α : Type} (g : Growth) (hg : g.OK) (z : α) (ops : List (Op α)) (l0 : TL α) (h0 : Fresh z l0)
    (hb : (Spec.run ops []).2.length ≤ TL.BOUND) :
    (Code.run g z ops l0).1 = (Spec.run ops []).1 ∧
    TL.toArray (Code.run g z ops l0).2 = (Spec.run ops []).2 := by
  have := run_refines g hg z ops l0 h0.inv (by rw [h0.abs]; exact hb)
  rw [h0.abs] at this
  exact ⟨this.1, this.2.1⟩

/-- the same from any reachable state (any object satisfying the representation invariant) -/
theorem list_refines_seq_from {α : Type} (g : Growth) (hg : g.OK) (z : α) (ops : List (Op α)) (l : TL α) (hi : TL.Inv l)
    (hb : (Spec.run ops (TL.abs l)).2.length ≤ TL.BOUND) :
    (Code.run g z ops l).1 = (Spec.run ops (TL.abs l)).1 ∧
    TL.abs (Code.run g z ops l).2 = (Spec.run ops (TL.abs l)).2 ∧ TL.Inv (Code.run g z ops l).2 :=
  run_refines g hg z ops l hi hb

/-- **never a stale slot.**  `get(i)` answers exactly for `0 ≤ i < size`, with the i-th element of
    the sequence; everything else panics — also the indices between `size` and the capacity. -/
theorem get_never_stale {α : Type} (l : TL α) (hi : TL.Inv l) (i : Int) :
    TL.get l i = if 0 ≤ i ∧ i < (TL.abs l).length then (TL.abs l)[i.toNat]? else none :=
  TL.get_spec l i hi

theorem get_beyond_size_panics {α : Type} (l : TL α) (i : Int) (h : (l.size : Int) ≤ i) :
    TL.get l i = none := by
  unfold TL.get; simp [h]

theorem set_in_range_only {α : Type} (l : TL α) (hi : TL.Inv l) (i : Int) (v : α) :
    (0 ≤ i ∧ i < (TL.abs l).length →
        ∃ l', TL.set l i v = some l' ∧ TL.abs l' = (TL.abs l).set i.toNat v ∧ TL.Inv l') ∧
    (¬ (0 ≤ i ∧ i < (TL.abs l).length) → TL.set l i v = none) :=
  TL.set_spec l i v hi

/-- **capacity_irrelevant.**  Two fresh lists of any initial capacities (or the zero value)
    answer every history identically. -/
theorem capacity_irrelevant {α : Type} (g1 g2 : Growth) (hg1 : g1.OK) (hg2 : g2.OK) (z : α) (ops : List (Op α)) (l1 l2 : TL α)
    (h1 : Fresh z l1) (h2 : Fresh z l2) (hb : (Spec.run ops []).2.length ≤ TL.BOUND) :
    (Code.run g1 z ops l1).1 = (Code.run g2 z ops l2).1 ∧
    TL.toArray (Code.run g1 z ops l1).2 = TL.toArray (Code.run g2 z ops l2).2 := by
  have a := list_refines_seq g1 hg1 z ops l1 h1 hb
  have b := list_refines_seq g2 hg2 z ops l2 h2 hb
  exact ⟨a.1.trans b.1.symm, a.2.trans b.2.symm⟩

/-- … and so do two objects with different growth histories that hold the same sequence -/
theorem growth_history_irrelevant {α : Type} (g1 g2 : Growth) (hg1 : g1.OK) (hg2 : g2.OK) (z : α) (ops : List (Op α)) (l1 l2 : TL α)
    (h1 : TL.Inv l1) (h2 : TL.Inv l2) (he : TL.abs l1 = TL.abs l2)
    (hb : (Spec.run ops (TL.abs l1)).2.length ≤ TL.BOUND) :
    (Code.run g1 z ops l1).1 = (Code.run g2 z ops l2).1 ∧
    TL.abs (Code.run g1 z ops l1).2 = TL.abs (Code.run g2 z ops l2).2 := by
  have a := run_refines g1 hg1 z ops l1 h1 hb
  have b := run_refines g2 hg2 z ops l2 h2 (by rw [← he]; exact hb)
  rw [← he] at b
  exact ⟨a.1.trans b.1.symm, a.2.1.trans b.2.1.symm⟩

/-- the driver's tail-recursive runner is the run the theorems speak about -/
theorem driver_run_is_run {α : Type} (g : Growth) (z : α) (ops : List (Op α)) (l : TL α) :
    Code.runTR g z ops l [] = Code.run g z ops l := by
  rw [Code.runTR_eq]; simp

/-- **no_aliasing_lists.**  In a history over a pool of lists and caller-held slices, an operation
    leaves every list other than its target exactly as it was: the source of `AddAll`, the source
    of `Filtering`, and every bystander.  (Lists are values in the model, so this is the
    specification "no shared storage"; tie B compares all live objects after every operation.) -/
theorem no_aliasing_lists {α : Type} (g : Growth) (z : α) (op : Multi.MOp α) (st : Multi.MState α)
    (i : Nat) (h : op.targetList ≠ some i) : (Multi.step g z op st).2.lists i = st.lists i := by
  rcases Multi.step_shape g z op st with ⟨j, r, hj, e⟩ | ⟨hl, _⟩
  · rw [e]; exact Multi.setList_frame _ _ _ _ (hj ▸ h)
  · rw [hl]

/-- **no_aliasing_slices.**  A slice handed in (`AddAllArray`) or out (`ToArray`) changes only when
    the caller assigns or writes it, and writing it changes no list. -/
theorem no_aliasing_slices {α : Type} (g : Growth) (z : α) (op : Multi.MOp α) (st : Multi.MState α)
    (k : Nat) (h : op.targetArr ≠ some k) : (Multi.step g z op st).2.arrs k = st.arrs k := by
  rcases Multi.step_shape g z op st with ⟨j, r, _, e⟩ | ⟨_, ha⟩
  · rw [e, Multi.setList_arrs]
  · exact ha k h

theorem slice_write_keeps_lists {α : Type} (g : Growth) (z : α) (k i : Nat) (v : α)
    (st : Multi.MState α) : (Multi.step g z (.arrSet k i v) st).2.lists = st.lists := by
  simp only [Multi.step]; split <;> rfl

/-- **multi_object_refines.**  Every history over the pools answers as independent plain sequences
    (one per list, one per slice), from the all-zero-value pool, under any OK capacity policy. -/
theorem multi_object_refines {α : Type} (g : Growth) (hg : g.OK) (z : α) (ops : List (Multi.MOp α))
    (hs : Multi.SmallRun ops Multi.SState.init) :
    (Multi.run g z ops Multi.MState.init).1 = (Multi.srun ops Multi.SState.init).1 ∧
    Multi.Rel (Multi.run g z ops Multi.MState.init).2 (Multi.srun ops Multi.SState.init).2 :=
  Multi.run_refines g hg z ops _ _ Multi.Rel.init hs

/-- AddAll(other), then Set on the receiver: the source still holds its own elements -/
example : (Multi.run Growth.go (0 : Int)
    [.add 1 5, .add 1 6, .addAll 0 1, .set 0 0 9, .get 1 0, .set 1 1 7, .get 0 1]
    Multi.MState.init).1 = [.unit, .unit, .unit, .unit, .val 5, .unit, .val 6] := by decide

/-- **list_wire.**  `Read` of what `Write` produced, into a fresh list, gives an equal list and
    leaves the following bytes untouched — for fewer than 2^23 elements. -/
theorem list_wire {α : Type} (g : Growth) (hg : g.OK) (c : Codec α) (z : α) (l l0 : TL α) (r : Bytes)
    (hi : TL.Inv l) (h0 : Fresh z l0) (hsz : l.size < 8388608) (hw : ∀ x ∈ TL.abs l, c.wf x) :
    ∃ l', P.run (read g c z l0) (write c l ++ r) = some (l', r) ∧ TL.toArray l' = TL.toArray l := by
  have hs0 : l0.size = 0 := by cases h0 <;> rfl
  obtain ⟨l', h, ha, _⟩ := run_read_write g hg c z l l0 r hi h0.inv hsz hw
    (by rw [hs0]; unfold TL.BOUND; omega)
  exact ⟨l', h, by rw [TL.toArray_eq_abs, ha, h0.abs]; rfl⟩

/-- the five list types with their element codecs: every int / int64 (decimal), every float32 /
    float64 bit pattern (NaN payloads included), every string shorter than 2^31 bytes — each
    followed by arbitrary bytes `r`, which are left untouched -/
theorem int_wire (g : Growth) (hg : g.OK) (z : Int) (l l0 : TL Int) (r : Bytes) (hi : TL.Inv l) (h0 : Fresh z l0)
    (hsz : l.size < 8388608) (hw : ∀ x ∈ TL.abs l, Prim.inRange 8 x) :
    ∃ l', P.run (read g decimalCodec z l0) (write decimalCodec l ++ r) = some (l', r) ∧
      TL.toArray l' = TL.toArray l := list_wire g hg decimalCodec z l l0 r hi h0 hsz hw

theorem long_wire (g : Growth) (hg : g.OK) (z : Int) (l l0 : TL Int) (r : Bytes) (hi : TL.Inv l) (h0 : Fresh z l0)
    (hsz : l.size < 8388608) (hw : ∀ x ∈ TL.abs l, Prim.inRange 8 x) :
    ∃ l', P.run (read g decimalCodec z l0) (write decimalCodec l ++ r) = some (l', r) ∧
      TL.toArray l' = TL.toArray l := list_wire g hg decimalCodec z l l0 r hi h0 hsz hw

theorem float_wire (g : Growth) (hg : g.OK) (z : Nat) (l l0 : TL Nat) (r : Bytes) (hi : TL.Inv l) (h0 : Fresh z l0)
    (hsz : l.size < 8388608) (hw : ∀ x ∈ TL.abs l, x < 256 ^ 4) :
    ∃ l', P.run (read g floatCodec z l0) (write floatCodec l ++ r) = some (l', r) ∧
      TL.toArray l' = TL.toArray l := list_wire g hg floatCodec z l l0 r hi h0 hsz hw

theorem double_wire (g : Growth) (hg : g.OK) (z : Nat) (l l0 : TL Nat) (r : Bytes) (hi : TL.Inv l) (h0 : Fresh z l0)
    (hsz : l.size < 8388608) (hw : ∀ x ∈ TL.abs l, x < 256 ^ 8) :
    ∃ l', P.run (read g doubleCodec z l0) (write doubleCodec l ++ r) = some (l', r) ∧
      TL.toArray l' = TL.toArray l := list_wire g hg doubleCodec z l l0 r hi h0 hsz hw

theorem string_wire (g : Growth) (hg : g.OK) (z : Bytes) (l l0 : TL Bytes) (r : Bytes) (hi : TL.Inv l) (h0 : Fresh z l0)
    (hsz : l.size < 8388608) (hw : ∀ x ∈ TL.abs l, x.length < 2147483648) :
    ∃ l', P.run (read g textCodec z l0) (write textCodec l ++ r) = some (l', r) ∧
      TL.toArray l' = TL.toArray l := list_wire g hg textCodec z l l0 r hi h0 hsz hw

/-- **wire_prefix_fails.**  No strict prefix of a written list reads back, for any element codec
    (so a truncated list is never mistaken for a shorter one) -/
theorem wire_prefix_fails {α : Type} (g : Growth) (hg : g.OK) (c : Codec α) (z : α) (l l0 : TL α)
    (q s : Bytes) (hi : TL.Inv l) (h0 : Fresh z l0) (hsz : l.size < 8388608)
    (hw : ∀ x ∈ TL.abs l, c.wf x) (hs : s ≠ []) (hq : q ++ s = write c l) :
    P.run (read g c z l0) q = none := by
  obtain ⟨l', h, _⟩ := list_wire g hg c z l l0 [] hi h0 hsz hw
  rw [List.append_nil, ← hq] at h
  exact P.prefix_fails (read g c z l0) q s l' hs h

/-- **wire_read_appends.**  `Read` is an append into the receiver IN WHATEVER STATE it is: after
    adds, after an earlier `Read`, … — the receiver's elements stay in place and the decoded ones
    follow; so two chunks read one after the other into one list give both sequences in order. -/
theorem wire_read_appends {α : Type} (g : Growth) (hg : g.OK) (c : Codec α) (z : α) (l l0 : TL α) (r : Bytes)
    (hi : TL.Inv l) (hi0 : TL.Inv l0) (hsz : l.size < 8388608) (hw : ∀ x ∈ TL.abs l, c.wf x)
    (hb : l0.size + l.size ≤ TL.BOUND) :
    ∃ l', P.run (read g c z l0) (write c l ++ r) = some (l', r) ∧
      TL.abs l' = TL.abs l0 ++ TL.abs l ∧ TL.Inv l' :=
  run_read_write g hg c z l l0 r hi hi0 hsz hw hb

theorem wire_read_two_chunks {α : Type} (g : Growth) (hg : g.OK) (c : Codec α) (z : α) (a b l0 : TL α)
    (r : Bytes) (ha : TL.Inv a) (hb' : TL.Inv b) (hi0 : TL.Inv l0)
    (hsa : a.size < 8388608) (hsb : b.size < 8388608)
    (hwa : ∀ x ∈ TL.abs a, c.wf x) (hwb : ∀ x ∈ TL.abs b, c.wf x)
    (hbound : l0.size + a.size + b.size ≤ TL.BOUND) :
    ∃ l1 l2, P.run (read g c z l0) (write c a ++ (write c b ++ r)) = some (l1, write c b ++ r) ∧
      P.run (read g c z l1) (write c b ++ r) = some (l2, r) ∧
      TL.abs l2 = TL.abs l0 ++ TL.abs a ++ TL.abs b := by
  obtain ⟨l1, h1, a1, i1⟩ := run_read_write g hg c z a l0 (write c b ++ r) ha hi0 hsa hwa (by omega)
  have hs1 : l1.size = l0.size + a.size := by
    rw [← TL.abs_length i1, a1, List.length_append, TL.abs_length hi0, TL.abs_length ha]
  obtain ⟨l2, h2, a2, _⟩ := run_read_write g hg c z b l1 r hb' i1 hsb hwb (by omega)
  exact ⟨l1, l2, h1, h2, by rw [a2, a1]⟩

/-- reading depends only on the bytes consumed: the same list is read whatever follows -/
theorem wire_locality {α : Type} (g : Growth) (c : Codec α) (z : α) (l0 l' : TL α) (bs r : Bytes)
    (h : P.run (read g c z l0) bs = some (l', r)) :
    ∃ a, bs = a ++ r ∧ ∀ r', P.run (read g c z l0) (a ++ r') = some (l', r') :=
  P.locality (read g c z l0) bs l' r h

example : P.run (read Growth.go decimalCodec 0 (TL.mk' (0 : Int) 0)) [0, 0, 2, 1, 5] = none := by decide

/-- the bound is sharp: with 2^23 ≤ size < 2^24 the 24-bit count reads back negative and the
    reader takes no element (the error side is stated, not totalised away) -/
theorem wire_count_wraps {α : Type} (g : Growth) (c : Codec α) (z : α) (l l0 : TL α) (r : Bytes)
    (h1 : 8388608 ≤ l.size) (h2 : l.size < 16777216) :
    P.run (read g c z l0) (write c l ++ r) = some (l0, Prim.encMany c.enc (TL.toArray l) ++ r) := by
  open Prim in
  unfold Lists.read write
  have hr : inRange 3 ((l.size : Int) - 16777216) := (inRange_3 _).mpr (by omega)
  rw [← encI_sub_modulus 3, modulus_3, List.append_assoc, P.run_bind_some _ _ _ _ _ (run_rdI 3 _ _ hr)]
  have : ((l.size : Int) - 16777216).toNat = 0 := by omega
  rw [this]; rfl

open Lists.Sort

/-- **less_is_total_preorder** (Sorting): the closure is `≤` read in the requested direction -/
theorem less_is_total_preorder_1 {α : Type} {le : α → α → Bool} (h : TotalPreorder le)
    (asc : Bool) (vals : Nat → α) : TotalPreorder (lessIdx1 le asc vals) := lessIdx1_tp h asc vals

/-- **less_is_total_preorder** (SortingAnyList with CompareChild) -/
theorem less_is_total_preorder_2 {α β : Type} {le : α → α → Bool} {cle : β → β → Bool}
    (h : TotalPreorder le) (hc : TotalPreorder cle) (asc childAsc : Bool)
    (vals : Nat → α) (child : Nat → β) :
    TotalPreorder (lessIdx2 le asc vals cle child childAsc) := lessIdx2_tp h hc asc childAsc vals child

/-- the element orders the five list types use are total preorders -/
theorem element_orders : TotalPreorder intLe ∧ TotalPreorder (floatLe 31) ∧
    TotalPreorder (floatLe 63) ∧ TotalPreorder lexLe :=
  ⟨intLe_tp, floatLe_tp 31, floatLe_tp 63, lexLe_tp⟩

/-- **sorted_means_ordered** (Sorting): an index list sorted w.r.t. the closure meets the values in
    non-decreasing (asc) / non-increasing (desc) order -/
theorem sorted_means_ordered_1 {α : Type} (le : α → α → Bool) (asc : Bool) (vals : Nat → α)
    (out : List Nat) (hs : out.Pairwise (fun i j => lessIdx1 le asc vals i j = true)) :
    (out.map vals).Pairwise (fun a b => dir le asc a b = true) := by
  rw [List.pairwise_map]
  exact hs.imp (fun h => (lessOne_eq le asc _ _).symm.trans h)

/-- **sorted_means_ordered** (SortingAnyList): … and inside every run of equal primary values the
    child values are in the order requested for the child.  Conversely every such index list is
    sorted w.r.t. the closure: the closure decides exactly `Ordered2`. -/
theorem sorted_means_ordered_2 {α β : Type} (le : α → α → Bool) (asc : Bool) (vals : Nat → α)
    (cle : β → β → Bool) (child : Nat → β) (childAsc : Bool) (out : List Nat) :
    out.Pairwise (fun i j => lessIdx2 le asc vals cle child childAsc i j = true) ↔
    out.Pairwise (Ordered2 le asc vals cle child childAsc) :=
  ⟨fun h => h.imp (fun h => (lessIdx2_iff_ordered le asc vals cle child childAsc _ _).mp h),
   fun h => h.imp (fun h => (lessIdx2_iff_ordered le asc vals cle child childAsc _ _).mpr h)⟩

/-- adjacent comparisons suffice (what the driver evaluates on the implementation's results) -/
theorem chain_is_sorted {less : Nat → Nat → Bool} (h : TotalPreorder less) (out : List Nat)
    (hc : chainB less out = true) : out.Pairwise (fun i j => less i j = true) :=
  chainB_pairwise less h.trans out hc

/-- **Sorting / SortingAnyList return an ordering permutation**, for every `sort` that keeps the
    contract assumed of `sort.Sort` -/
theorem sorting_orders {α : Type} (sort : SortFn) (hs : SortContract sort)
    {le : α → α → Bool} (h : TotalPreorder le) (asc : Bool) (vals : Nat → α) (n : Nat) :
    (sorting sort le asc vals n).Perm (List.range n) ∧
    ((sorting sort le asc vals n).map vals).Pairwise (fun a b => dir le asc a b = true) :=
  sorting_ok sort hs h asc vals n

theorem sortingAnyList_orders {α β : Type} (sort : SortFn) (hs : SortContract sort)
    {le : α → α → Bool} {cle : β → β → Bool} (h : TotalPreorder le) (hc : TotalPreorder cle)
    (asc childAsc : Bool) (vals : Nat → α) (child : Nat → β) (n : Nat) :
    (sortingAnyList sort le asc vals cle child childAsc n).Perm (List.range n) ∧
    (sortingAnyList sort le asc vals cle child childAsc n).Pairwise
      (Ordered2 le asc vals cle child childAsc) :=
  sortingAnyList_ok sort hs h hc asc childAsc vals child n

/-- **go_sort_small_inputs.**  `sort.Sort` on at most 12 elements is `insertionSort`
    (go1.23 `pdqsort`: `if length <= 12 { insertionSort(data, a, b); return }`), and that loop,
    transcribed, orders its input for EVERY total preorder handed to it as `Less` — reflexive ones
    like the closures of this package included.  Nothing is assumed about `sort.Sort` here. -/
theorem go_sort_small_inputs {α : Type} {less : α → α → Bool} (h : TotalPreorder less) (xs : List α) :
    (goInsertionSort less xs).Perm xs ∧ (goInsertionSort less xs).Pairwise (fun a b => less a b = true) :=
  ⟨goInsertionSort_perm less xs, goInsertionSort_sorted h xs⟩

/-- **go_sort_contract.**  The contract of `sort.Sort` used by the theorems above follows from the
    model of its insertion sort plus the residual assumption `BigContract` about inputs longer than
    12 elements (partitioning and heap sort: permutation; sorted for total-preorder `Less`). -/
theorem go_sort_contract (big : SortFn) (hb : BigContract big) : SortContract (goSort big) :=
  goSort_contract big hb

/-- **sorting_orders_go / sortingAnyList_orders_go.**  For Go's `sort.Sort`
    (`goSort big`: insertion sort as transcribed up to 12 elements, `big` beyond) the ONLY hypothesis
    is `BigContract big` — about inputs longer than 12 elements.  Tie B checks that contract on the
    Go runtime directly (S cases: `sort.Sort` with reflexive total-preorder `Less`, 13 … 5000
    elements, duplicate-heavy) and through every Sorting* call. -/
theorem sorting_orders_go {α : Type} (big : SortFn) (hb : BigContract big)
    {le : α → α → Bool} (h : TotalPreorder le) (asc : Bool) (vals : Nat → α) (n : Nat) :
    (sorting (goSort big) le asc vals n).Perm (List.range n) ∧
    ((sorting (goSort big) le asc vals n).map vals).Pairwise (fun a b => dir le asc a b = true) :=
  sorting_ok (goSort big) (goSort_contract big hb) h asc vals n

theorem sortingAnyList_orders_go {α β : Type} (big : SortFn) (hb : BigContract big)
    {le : α → α → Bool} {cle : β → β → Bool} (h : TotalPreorder le) (hc : TotalPreorder cle)
    (asc childAsc : Bool) (vals : Nat → α) (child : Nat → β) (n : Nat) :
    (sortingAnyList (goSort big) le asc vals cle child childAsc n).Perm (List.range n) ∧
    (sortingAnyList (goSort big) le asc vals cle child childAsc n).Pairwise
      (Ordered2 le asc vals cle child childAsc) :=
  sortingAnyList_ok (goSort big) (goSort_contract big hb) h hc asc childAsc vals child n

/-- the residual assumption is satisfiable -/
theorem big_contract_satisfiable : BigContract (fun less xs => xs.mergeSort less) :=
  ⟨fun less xs _ => mergeSort_contract.perm less xs, fun less xs _ => mergeSort_contract.sorted less xs⟩

/-- Sorting on lists of at most 12 elements: ordering permutation with no assumption at all -/
theorem sorting_orders_small {α : Type} (big : SortFn) {le : α → α → Bool} (h : TotalPreorder le)
    (asc : Bool) (vals : Nat → α) (n : Nat) (hn : n ≤ 12) :
    (sorting (goSort big) le asc vals n).Perm (List.range n) ∧
    ((sorting (goSort big) le asc vals n).map vals).Pairwise (fun a b => dir le asc a b = true) := by
  have hl : (List.range n).length ≤ 12 := by simpa using hn
  have e : sorting (goSort big) le asc vals n = goInsertionSort (lessIdx1 le asc vals) (List.range n) := by
    unfold sorting goSort; rw [if_pos hl]
  rw [e]
  refine ⟨goInsertionSort_perm _ _, ?_⟩
  exact sorted_means_ordered_1 le asc vals _ (goInsertionSort_sorted (lessIdx1_tp h asc vals) _)

example : goInsertionSort (fun a b : Nat => decide (a ≤ b)) [3, 1, 2, 1] = [1, 1, 2, 3] := by decide

/-- queries are functions of the CURRENT contents (nothing is remembered between calls in the
    model): Sorting, an in-place Set at an existing index, the same Sorting again -/
example :
    let l0 : TL Int := ⟨3, false, #[3, 1, 2]⟩
    let srt := fun (l : TL Int) => sorting (goSort (fun less xs => xs.mergeSort less)) intLe true
      (fun i => l.table.getD i 0) l.size
    srt l0 = [1, 2, 0] ∧ (TL.set l0 1 9).map srt = some [2, 0, 1] := by decide

/-- the contract is not vacuous: merge sort keeps it -/
theorem sort_contract_satisfiable : SortContract (fun less xs => xs.mergeSort less) :=
  mergeSort_contract

/-- **filtering.**  `Filtering(idx)` returns the selected elements in that order and panics iff
    some index is outside `0 ≤ i < size`. -/
theorem filtering {α : Type} (g : Growth) (hg : g.OK) (z : α) (l : TL α) (hi : TL.Inv l) (idx : List Int)
    (hb : idx.length ≤ TL.BOUND) :
    (match Spec.filtering (TL.abs l) idx with
     | some vs => ∃ out, TL.filtering g z l idx = some out ∧ TL.toArray out = vs
     | none => TL.filtering g z l idx = none) ∧
    (Spec.filtering (TL.abs l) idx = none ↔ ∃ i ∈ idx, ¬ (0 ≤ i ∧ i < (TL.abs l).length)) ∧
    (∀ vs, Spec.filtering (TL.abs l) idx = some vs →
      vs.map some = idx.map (fun i => (TL.abs l)[i.toNat]?)) := by
  refine ⟨?_, Spec.filtering_eq_none_iff _ _, Spec.filtering_eq_map _ _⟩
  have := filtering_spec g hg z l hi idx hb
  cases hf : Spec.filtering (TL.abs l) idx with
  | none => rw [hf] at this; exact this
  | some vs =>
    rw [hf] at this
    obtain ⟨out, h1, h2, _⟩ := this
    exact ⟨out, h1, h2⟩

/-- **atoi_itoa.**  `strconv.Atoi(strconv.Itoa(v)) = v` for every int64 (the digit functions that
    model strconv) -/
theorem atoi_itoa (v : Int) (h : -9223372036854775808 ≤ v ∧ v ≤ 9223372036854775807) :
    Cross.atoi (Cross.itoa v) = some v := Cross.atoi_itoa v h

/-- **int_list_text_view.**  AddInt/AddLong, AddString, SetInt, SetString, GetInt, GetString on an
    IntList / LongList answer as the plain sequence of integers with `Atoi` on the way in (a text
    that does not parse panics and changes nothing) and `Itoa` on the way out -/
theorem int_list_text_view (g : Growth) (hg : g.OK) (op : Cross.IOp) (l : TL Int) (hi : TL.Inv l)
    (hb : (TL.abs l).length + 1 ≤ TL.BOUND) :
    (Cross.stepI g op l).1 = (Cross.specI op (TL.abs l)).1 ∧
    TL.abs (Cross.stepI g op l).2 = (Cross.specI op (TL.abs l)).2 ∧ TL.Inv (Cross.stepI g op l).2 :=
  Cross.stepI_refines g hg op l hi hb

/-- **string_list_int_view.**  AddInt/AddLong/SetInt (Itoa) and GetInt/GetLong (Atoi; panic when the
    element is not a number) on a StringList answer as the plain sequence of strings -/
theorem string_list_int_view (g : Growth) (hg : g.OK) (op : Cross.SOp) (l : TL Bytes) (hi : TL.Inv l)
    (hb : (TL.abs l).length + 1 ≤ TL.BOUND) :
    (Cross.stepS g op l).1 = (Cross.specS op (TL.abs l)).1 ∧
    TL.abs (Cross.stepS g op l).2 = (Cross.specS op (TL.abs l)).2 ∧ TL.Inv (Cross.stepS g op l).2 :=
  Cross.stepS_refines g hg op l hi hb

/-- **cross_view_histories.**  The three views above for EVERY op sequence (from any well-formed
    list, as long as the list stays below the bound): all answers are those of the plain sequence
    and the final list holds the final sequence. -/
theorem cross_view_histories (g : Growth) (hg : g.OK) :
    (∀ (ops : List Cross.IOp) (l : TL Int), TL.Inv l → (TL.abs l).length + ops.length ≤ TL.BOUND →
      (RunLift.runG (Cross.stepI g) ops l).1 = (RunLift.runG Cross.specI ops (TL.abs l)).1 ∧
      TL.abs (RunLift.runG (Cross.stepI g) ops l).2 = (RunLift.runG Cross.specI ops (TL.abs l)).2) ∧
    (∀ (ops : List Cross.SOp) (l : TL Bytes), TL.Inv l → (TL.abs l).length + ops.length ≤ TL.BOUND →
      (RunLift.runG (Cross.stepS g) ops l).1 = (RunLift.runG Cross.specS ops (TL.abs l)).1 ∧
      TL.abs (RunLift.runG (Cross.stepS g) ops l).2 = (RunLift.runG Cross.specS ops (TL.abs l)).2) ∧
    (∀ (k : CrossNum.Kind) (ops : List CrossNum.NOp) (l : TL CrossNum.Num), TL.Inv l →
      (TL.abs l).length + ops.length ≤ TL.BOUND →
      (RunLift.runG (CrossNum.step g k) ops l).1 = (RunLift.runG (CrossNum.spec k) ops (TL.abs l)).1 ∧
      TL.abs (RunLift.runG (CrossNum.step g k) ops l).2 = (RunLift.runG (CrossNum.spec k) ops (TL.abs l)).2) :=
  ⟨RunLift.lift _ _ (Cross.stepI_refines g hg) RunLift.specI_len,
   RunLift.lift _ _ (Cross.stepS_refines g hg) RunLift.specS_len,
   fun k => RunLift.lift _ _ (CrossNum.step_refines g hg k) (RunLift.specN_len k)⟩

example : (RunLift.runG (Cross.stepS Growth.go) [.addString [45, 49, 50], .addString [43, 53], .getInt 0, .getInt 1, .getInt 2]
    (TL.mk' ([] : Bytes) 0)).1 = [.unit, .unit, .int (-12), .int 5, .panic] := by decide

/-- an integer stored through the text view comes back as itself, in both directions -/
theorem cross_roundtrips (v : Int) (h : -9223372036854775808 ≤ v ∧ v ≤ 9223372036854775807) :
    (∀ s : List Bytes, (Cross.specS (.getInt s.length) (Cross.specS (.addInt v) s).2).1 = .int v) ∧
    (∀ s : List Int, Cross.specI (.addString (Cross.itoa v)) s = Cross.specI (.addInt v) s) :=
  ⟨fun s => by
    have : (s.length : Int) < (s.length : Int) + 1 := by omega
    simp [Cross.specS, Spec.get, Cross.atoi_itoa v h, this],
   fun s => by simp [Cross.specI, Cross.atoi_itoa v h]⟩

example : Cross.atoi [43, 55] = some 7 ∧ Cross.atoi [45] = none ∧ Cross.atoi [49, 95, 48] = none ∧
    Cross.atoi [] = none := by decide

example : Cross.decDigits 120 = [49, 50, 48] := by
  rw [Cross.decDigits, Cross.decDigits, Cross.decDigits]; simp

/-- **numeric_view.**  AddInt/AddLong/AddFloat/AddDouble, Set…, GetInt/GetLong/GetFloat/GetDouble,
    GetValue, GetObject on an int, long, float or double list answer as the plain sequence with
    Go's conversion (`FloatConv`: round to nearest even into float32/float64 with subnormals and
    overflow to ±Inf; truncation toward zero into int64) applied on the way in / out.  Excluded
    (answer `excluded`, never generated by tie B): float → int of NaN, ±Inf or a value whose
    truncation is outside int64 — Go leaves that result implementation-dependent — and NaN operands. -/
theorem numeric_view (g : Growth) (hg : g.OK) (k : CrossNum.Kind) (op : CrossNum.NOp)
    (l : TL CrossNum.Num) (hi : TL.Inv l) (hb : (TL.abs l).length + 1 ≤ TL.BOUND) :
    (CrossNum.step g k op l).1 = (CrossNum.spec k op (TL.abs l)).1 ∧
    TL.abs (CrossNum.step g k op l).2 = (CrossNum.spec k op (TL.abs l)).2 ∧
    TL.Inv (CrossNum.step g k op l).2 :=
  CrossNum.step_refines g hg k op l hi hb

/-- a value stored through a conversion is already of the list's kind: converting it again (the
    matching getter) returns it unchanged -/
theorem numeric_conv_idempotent (k : CrossNum.Kind) (x y : CrossNum.Num)
    (h : CrossNum.conv k x = some y) : CrossNum.conv k y = some y := by
  cases k <;> cases x <;>
    simp only [CrossNum.conv, Option.map_eq_some_iff, Option.some.injEq] at h <;>
    first
      | (subst h; rfl)
      | (obtain ⟨_, _, rfl⟩ := h; rfl)

/-- ToString prints the whole table; it shows exactly the sequence iff there is no spare capacity
    (an observable that does depend on capacity — not one of this property's) -/
theorem toString_full_table (l : TL Int) (h : l.table.size = l.size) :
    CrossNum.toStringInts l = [91] ++ CrossNum.joinSp ((TL.abs l).map Cross.itoa) ++ [93] := by
  have : l.table.toList.take l.size = l.table.toList := by
    rw [← h]; exact List.take_of_length_le (by simp)
  simp [CrossNum.toStringInts, TL.abs, this]

/-- a list without spare capacity (hypothesis of `toString_full_table`) is reachable -/
example : (TL.add Growth.go 0 (5 : Int) (TL.mk' 0 0)).map (fun l => (l.table.size, l.size)) = some (1, 1) := by
  decide

example : CrossNum.conv .f64 (.int 9007199254740993) = some (.f64 0x4340000000000000) ∧
    CrossNum.conv .int (.f64 0xbff8000000000000) = some (.int (-1)) ∧
    CrossNum.conv .int (.f64 0x43e0000000000000) = none ∧
    CrossNum.conv .f32 (.f64 0x3ff0000010000000) = some (.f32 0x3f800000) := by decide

open Lists.Table in
/-- **table_filter_rows_aligned.**  The loop "every column ↦ Filtering(idx)" refines the column-wise
    selection; when every index is in range for every column, EVERY column is selected by the SAME
    indices — row r of the result is row idx[r] of the source, in all columns — and one out-of-range
    index for one column makes the whole call panic. -/
theorem table_filter_rows_aligned (g : Growth) (hg : g.OK) (t : T) (hi : InvT t) (idx : List Int)
    (hb : idx.length ≤ TL.BOUND) :
    (match specFilter (absT t) idx with
     | some a' => ∃ t', filterCols g t idx = some t' ∧ absT t' = a' ∧ InvT t'
     | none => filterCols g t idx = none) ∧
    ((∀ e ∈ absT t, ∀ i ∈ idx, 0 ≤ i ∧ i < (e.2.2.length : Int)) →
      specFilter (absT t) idx = some ((absT t).map (fun e => (e.1, e.2.1, pick e.2.2 idx)))) ∧
    ((∃ e ∈ absT t, ∃ i ∈ idx, ¬ (0 ≤ i ∧ i < (e.2.2.length : Int))) → specFilter (absT t) idx = none) :=
  ⟨filterCols_spec g hg t hi idx hb, specFilter_valid _ _, specFilter_invalid _ _⟩

open Lists.Table in
/-- row r of a selected column is row idx[r] of the source column -/
theorem table_pick_row (xs : List V) (idx : List Int)
    (h : ∀ i ∈ idx, 0 ≤ i ∧ i < (xs.length : Int)) (r : Nat) :
    (pick xs idx)[r]? = (idx[r]?).bind (fun i => xs[i.toNat]?) := pick_getElem xs idx h r

open Lists.Table in
/-- **table_sort_permutes_rows.**  `Sort(data, key, asc)`: with the key present and all columns as
    long as the sort column, every column of the result is the source column selected by ONE
    permutation of the row numbers, and along it the sort column is in the requested order. -/
theorem table_sort_permutes_rows (sort : SortFn) (hs : SortContract sort) (g : Growth) (hg : g.OK)
    (t : T) (hi : InvT t) (key : Bytes) (asc : Bool) (c : Col) (hk : get t key = some c)
    (hlen : ∀ e ∈ t, e.2.l.size = c.l.size) (hb : c.l.size ≤ TL.BOUND) :
    ∃ (ord : List Nat) (t' : T), sortTable sort g t key asc = some t' ∧
      ord.Perm (List.range c.l.size) ∧
      absT t' = (absT t).map (fun e => (e.1, e.2.1, pick e.2.2 (ord.map Int.ofNat))) ∧
      (ord.map (cell c)).Pairwise (fun a b => dir (vLe (widthOfTy c.ty)) asc a b = true) := by
  have ho := sorting_ok sort hs (vLe_tp (widthOfTy c.ty)) asc (cell c) c.l.size
  obtain ⟨t', h1, h2⟩ := filterCols_perm g hg t hi _ hlen hb _ ho.1
  exact ⟨_, t', by simp only [sortTable, hk]; exact h1, ho.1, h2, ho.2⟩

open Lists.Table in
/-- … and selecting a column along a permutation of its row numbers permutes it: every row of the
    source is in the result exactly once (so `pick`, defined by `filterMap`, drops nothing in the
    two theorems around this one, and the row count is kept) -/
theorem table_sorted_column_is_permutation (xs : List V) (ord : List Nat)
    (h : ord.Perm (List.range xs.length)) :
    (pick xs (ord.map Int.ofNat)).Perm xs ∧ (pick xs (ord.map Int.ofNat)).length = xs.length := by
  have hp : (pick xs (ord.map Int.ofNat)).Perm (pick xs ((List.range xs.length).map Int.ofNat)) :=
    (h.map Int.ofNat).filterMap _
  rw [pick_range] at hp
  exact ⟨hp, hp.length_eq⟩

open Lists.Table in
/-- **table_sortAny_permutes_rows.**  `SortAnyList(data, key, asc, key2, asc2)`: the same, with ties
    of the first column ordered by the second -/
theorem table_sortAny_permutes_rows (sort : SortFn) (hs : SortContract sort) (g : Growth) (hg : g.OK)
    (t : T) (hi : InvT t) (key : Bytes) (asc : Bool) (key2 : Bytes) (asc2 : Bool) (c c2 : Col)
    (hk : get t key = some c) (hk2 : get t key2 = some c2)
    (hlen : ∀ e ∈ t, e.2.l.size = c.l.size) (hb : c.l.size ≤ TL.BOUND) :
    ∃ (ord : List Nat) (t' : T), sortAnyTable sort g t key asc key2 asc2 = some t' ∧
      ord.Perm (List.range c.l.size) ∧
      absT t' = (absT t).map (fun e => (e.1, e.2.1, pick e.2.2 (ord.map Int.ofNat))) ∧
      ord.Pairwise (Ordered2 (vLe (widthOfTy c.ty)) asc (cell c) (vLe (widthOfTy c2.ty)) (cell c2) asc2) := by
  have ho := sortingAnyList_ok sort hs (vLe_tp (widthOfTy c.ty)) (vLe_tp (widthOfTy c2.ty)) asc asc2
    (cell c) (cell c2) c.l.size
  obtain ⟨t', h1, h2⟩ := filterCols_perm g hg t hi _ hlen hb _ ho.1
  exact ⟨_, t', by simp only [sortAnyTable, hk, hk2]; exact h1, ho.1, h2, ho.2⟩

open Lists.Table in
/-- Put / Get / create: a put key is found, other keys are untouched, a new key goes last and an
    existing one keeps its place; `create` gives an empty list of the coded type (unknown → string);
    the element orders on tagged values are total preorders -/
theorem table_put_get_create (t : T) (k k2 : Bytes) (c : Col) (code w : Nat) :
    get (put t k c) k = some c ∧
    ((k == k2) = false → get (put t k c) k2 = get t k2) ∧
    (put t k c).map (·.1) = (if (t.map (·.1)).contains k then t.map (·.1) else t.map (·.1) ++ [k]) ∧
    ((create code).ty = (if code = 1 ∨ code = 2 ∨ code = 3 ∨ code = 4 then code else 5) ∧
      TL.abs (create code).l = [] ∧ TL.Inv (create code).l) ∧
    TotalPreorder (vLe w) :=
  ⟨get_put_same t k c, get_put_other t k k2 c, keys_put t k c,
    ⟨rfl, by simp [create], TL.inv_mk' _ _⟩, vLe_tp w⟩

open Lists.Table in
/-- **table_wire.**  `readTable(writeTable(t))` into an empty table: same keys in the same order,
    same list types (through `create`), equal lists, following bytes untouched — for at most 32767
    columns with pairwise distinct keys, each list below 2^23 elements of its own type. -/
theorem table_wire (g : Growth) (hg : g.OK) (t : T) (r : Bytes)
    (hn : t.length ≤ 32767) (hw : ∀ e ∈ t, WFEntry e)
    (hd : t.Pairwise (fun a b => (a.1 == b.1) = false)) :
    ∃ t', P.run (readTable g []) (writeTable t ++ r) = some (t', r) ∧ absT t' = absT t ∧ InvT t' :=
  run_readTable_fresh g hg t [] r hn hw hd (fun a ha => by cases ha)

open Lists.Table in
/-- … and a strict prefix of a written table never reads back -/
theorem table_wire_prefix_fails (g : Growth) (hg : g.OK) (t : T) (q s : Bytes)
    (hn : t.length ≤ 32767) (hw : ∀ e ∈ t, WFEntry e)
    (hd : t.Pairwise (fun a b => (a.1 == b.1) = false)) (hs : s ≠ []) (hq : q ++ s = writeTable t) :
    P.run (readTable g []) q = none := by
  obtain ⟨t', h, _, _⟩ := table_wire g hg t [] hn hw hd
  rw [List.append_nil, ← hq] at h
  exact P.prefix_fails (readTable g []) q s t' hs h

open Lists.Table in
example : (sortTable (goSort (fun less xs => xs.mergeSort less)) Growth.go
    [([1], ⟨1, ⟨3, false, #[.i 3, .i 1, .i 2]⟩⟩), ([2], ⟨5, ⟨3, false, #[.s [99], .s [97], .s [98]]⟩⟩)]
    [1] true).map absT = some [([1], 1, [.i 1, .i 2, .i 3]), ([2], 5, [.s [97], .s [98], .s [99]])] := by
  decide

open Lists.Table in
/-- **pack_unpack_merges.**  Read → Put(other columns) → Get / GetDataTable: a pack whose in-memory
    table is `m` and whose `dataBytes` hold the encoding of `w` (keys of `w` pairwise distinct and
    different from those of `m`) unpacks to the table `m` followed by `w` — every wire column is
    there, with its key, type and contents — and the byte cache is emptied. -/
theorem pack_unpack_merges (g : Growth) (hg : g.OK) (m w : T) (sz : Nat)
    (hn : w.length ≤ 32767) (hw : ∀ e ∈ w, WFEntry e)
    (hd : w.Pairwise (fun a b => (a.1 == b.1) = false))
    (hf : ∀ a ∈ m, ∀ e ∈ w, (a.1 == e.1) = false) :
    ∃ s', PackTable.unpack g { raw := writeTable w, rawSize := sz, table := m } = some s' ∧
      s'.raw = [] ∧ s'.rawSize = 0 ∧ absT s'.table = absT m ++ absT w := by
  obtain ⟨es', h1, h2, _⟩ := run_readTable_fresh g hg w m [] hn hw hd hf
  rw [List.append_nil] at h1
  refine ⟨{ raw := [], rawSize := 0, table := m ++ es' },
    PackTable.unpack_of_run g _ _ [] (PackTable.writeTable_nonempty w) h1, rfl, rfl, ?_⟩
  show absT (m ++ es') = absT m ++ absT w
  unfold absT at h2 ⊢
  rw [List.map_append, h2]

open Lists.Table in
/-- **pack_unpack_general.**  The same without any hypothesis on the keys: whatever the in-memory
    table holds and whatever keys the wire table has (colliding, repeated), unpack succeeds and the
    table is the in-memory one with the wire columns PUT one after the other — a colliding key is
    replaced in place by the wire column, new keys go last (`PackTable.aput`). -/
theorem pack_unpack_general (g : Growth) (hg : g.OK) (m w : T) (sz : Nat)
    (hn : w.length ≤ 32767) (hw : ∀ e ∈ w, WFEntry e) :
    ∃ s', PackTable.unpack g { raw := writeTable w, rawSize := sz, table := m } = some s' ∧
      s'.raw = [] ∧ s'.rawSize = 0 ∧ absT s'.table = (absT w).foldl PackTable.aput (absT m) := by
  obtain ⟨es', h1, h2, _⟩ := run_readTable_gen g hg w m [] hn hw
  rw [List.append_nil] at h1
  refine ⟨{ raw := [], rawSize := 0, table := putAll m es' },
    PackTable.unpack_of_run g _ _ [] (PackTable.writeTable_nonempty w) h1, rfl, rfl, ?_⟩
  show absT (putAll m es') = _
  rw [PackTable.absT_putAll, h2]

open Lists.Table in
/-- readTable of a written table into ANY receiver (no distinct-keys hypothesis): the decoded columns
    are put into it in order -/
theorem table_wire_any_receiver (g : Growth) (hg : g.OK) (t acc : T) (r : Bytes)
    (hn : t.length ≤ 32767) (hw : ∀ e ∈ t, WFEntry e) :
    ∃ es', P.run (readTable g acc) (writeTable t ++ r) = some (putAll acc es', r) ∧
      absT es' = absT t ∧ InvT es' :=
  run_readTable_gen g hg t acc r hn hw

open Lists.Table in
/-- a pack whose memory holds column `a` and whose wire table holds `a` (other contents) and `b`:
    after unpack `a` is the wire one, in its old place, and `b` follows -/
example : (PackTable.unpack Growth.go
    { raw := writeTable [([97], ⟨1, ⟨1, false, #[.i 7]⟩⟩), ([98], ⟨5, ⟨0, false, #[]⟩⟩)], rawSize := 0,
      table := [([97], ⟨1, ⟨2, false, #[.i 1, .i 2]⟩⟩), ([99], ⟨2, ⟨0, false, #[]⟩⟩)] }).map
      (fun s => (s.raw, absT s.table)) =
    some ([], [([97], 1, [.i 7]), ([99], 2, []), ([98], 5, [])]) := by decide

/-- **pack_write_current_after_unpack.**  Every access that unpacks (Get, GetDataTable) empties the
    byte cache, and a Write with an empty cache encodes the CURRENT in-memory table — so
    Write → Get → edit the list → Write emits the edited table. -/
theorem pack_write_current_after_unpack (g : Growth) (s s' : PackTable.St)
    (h : PackTable.unpack g s = some s') (hne : s'.table ≠ []) :
    (PackTable.write s').2 = ((Table.writeTable s'.table).length, Table.writeTable s'.table) :=
  PackTable.write_current s' (PackTable.unpack_clears_cache g s s' h) hne

/-- the code's cache, stated: while `dataBytes` is non-empty a Write re-emits it unchanged, whatever
    was Put or edited since (Put does not touch `dataBytes`); see the observation in notes/C13.md -/
theorem pack_write_cached (s : PackTable.St) (h : s.raw ≠ []) (k : Bytes) (c : Table.Col) :
    (PackTable.write s).2 = (s.rawSize, s.raw) ∧
    (PackTable.write (PackTable.put s k c)).2 = (s.rawSize, s.raw) := by
  refine ⟨(PackTable.write_cached s h).1, ?_⟩
  have := (PackTable.write_cached (PackTable.put s k c) (by simpa [PackTable.put] using h)).1
  simpa [PackTable.put] using this

/-- **linkedlist_seq.**  Every history of AddFirst / AddLast / Add / RemoveFirst / RemoveLast /
    Remove(entity) / PutBefore(value, entity) / Clear / ToArray / Size / GetFirst / GetLast on the
    pointer structure answers as the deque on a plain list. -/
theorem linkedlist_seq (ops : List Linked.Op) :
    (Linked.LL.run ops Linked.LL.empty).1 = (Linked.Spec.run ops []).1 :=
  Linked.run_refines_empty ops

/-- **linkedlist_atomic_conservation.**  For every sequential history of the mutators
    (AddFirst / AddLast / Add / RemoveFirst / RemoveLast / Remove) — hence for every interleaving
    in which concurrent calls take effect one at a time under the list's mutex — the elements
    still in the list together with the elements handed out by the Remove* calls are, as a
    multiset, the initial elements together with the elements added; two interleavings of the
    same calls agree on it.  (Tie B's concurrent stage checks this on the implementation through
    every public mutator alias.) -/
theorem linkedlist_atomic_conservation (ops : List Linked.Op) (s : List Int)
    (h : ∀ op ∈ ops, op.mutator = true) :
    ((Linked.Spec.run ops s).2 ++ ((Linked.Spec.run ops s).1.map Linked.Out.handedOut).flatten).Perm
      (s ++ (ops.map Linked.Op.added).flatten) ∧
    ∀ ops2, ops.Perm ops2 →
      ((Linked.Spec.run ops s).2 ++ ((Linked.Spec.run ops s).1.map Linked.Out.handedOut).flatten).Perm
        ((Linked.Spec.run ops2 s).2 ++ ((Linked.Spec.run ops2 s).1.map Linked.Out.handedOut).flatten) :=
  ⟨Linked.run_conserves ops s h, fun ops2 hp => Linked.interleavings_agree ops ops2 s hp h⟩

/-- **linkedlist_locked_conservation.**  With the mutex modelled (C10's mutex-object machine: any
    number of threads, any schedule of inv/acq/load/store/rel/ret actions, the pointer-level body
    between acq and rel): after EVERY schedule the heap represents the list the deque holds after
    the linearized operations, the recorded results are the deque's, and for mutators the elements
    left together with the elements handed out are exactly the elements added; two threads are
    never inside a body at once.  That the code is such a machine is tie A
    (`C13Gen.linkedlist_*_locked`). -/
theorem linkedlist_locked_conservation (sched : List (Conc.Act Linked.Op))
    (s : Conc.St Linked.LL Linked.Op Linked.Out)
    (hs : Conc.runActs Conc.Inst.llStep (Conc.initSt Linked.LL.empty) sched = some s) :
    (∃ vals, Conc.Inst.ListRel s.sh vals ∧
      vals = (Linked.Spec.run (Linked.opsOf (Conc.linOps s.log)) []).2 ∧
      Linked.outsOf (Conc.linOps s.log) = (Linked.Spec.run (Linked.opsOf (Conc.linOps s.log)) []).1 ∧
      ((∀ op ∈ Linked.opsOf (Conc.linOps s.log), op.mutator = true) →
        (vals ++ ((Linked.outsOf (Conc.linOps s.log)).map Linked.Out.handedOut).flatten).Perm
          (((Linked.opsOf (Conc.linOps s.log)).map Linked.Op.added).flatten))) ∧
    (∀ t u, Conc.inCS (s.ph t) → Conc.inCS (s.ph u) → t = u) :=
  ⟨Linked.locked_conservation sched s hs, fun t u ht hu => Linked.locked_mutual_exclusion sched s hs t u ht hu⟩

/-- a schedule of two threads: both invoke Add, thread 1 runs its body inside thread 0's invocation -/
example : (Conc.runActs Conc.Inst.llStep (Conc.initSt Linked.LL.empty)
    [.inv 0 (.add 1), .inv 1 (.add 2), .acq 1, .load 1, .store 1, .rel 1, .acq 0, .load 0, .store 0,
     .rel 0, .ret 0, .ret 1]).map (fun s => s.sh.size) = some 2 := by decide

example : ((Linked.Spec.run [.add 1, .addFirst 2, .removeLast, .addLast 3, .removeAt 0] []).2 ++
    [1, 2]).Perm ([] ++ [1, 2, 3]) := by decide

/-! ### the statements that the repairs fix-D43 … fix-D45 replaced in /repo -/

/-- **finding_D43.**  Before fix-D43 `CompareChild` compared an int/long child through float64
    (`intLeViaDouble`; /repo now calls `CompareToLong`).  For the primary values 7,7 and the child
    values (2^53, 2^53+1) — and for the mirrored child (2^53+1, 2^53) — that closure sees a tie, so
    *both* index orders are sorted w.r.t. it in both cases; whichever `sort.Sort` returns is out of
    child order for one of the two inputs. -/
theorem finding_D43 :
    let vals : Nat → Int := fun _ => 7
    let childA : Nat → Int := fun i => if i = 0 then 9007199254740992 else 9007199254740993
    let childB : Nat → Int := fun i => if i = 0 then 9007199254740993 else 9007199254740992
    ∀ out ∈ [[0, 1], [1, 0]],
      (chainB (lessIdx2 intLe true vals intLeViaDouble childA true) out = true ∧
       chainB (lessIdx2 intLe true vals intLeViaDouble childB true) out = true) ∧
      ¬ (chainB (lessIdx2 intLe true vals intLe childA true) out = true ∧
         chainB (lessIdx2 intLe true vals intLe childB true) out = true) := by
  decide

/-- … while the repaired comparison orders exactly these: -/
example : chainB (lessIdx2 intLe true (fun _ => (7 : Int)) intLe
    (fun i => if i = 0 then (9007199254740993 : Int) else 9007199254740992) true) [1, 0] = true := by
  decide

/-- **finding_D44.**  Before fix-D44 `ensure` on the zero value took `min(10, n)` (`ensureOrig`; /repo
    now has `math.Max`): appending more than ten elements at once to `new(XList)` panicked. -/
theorem finding_D44 {α : Type} (z : α) (xs : List α) (h : 10 < xs.length) :
    TL.addAllArrayOrig z xs (TL.zeroValue : TL α) = none := by
  open TL in
  unfold addAllArrayOrig ensureOrig
  have h1 : (0 + xs.length > (zeroValue : TL α).table.size) := by simp [zeroValue]; omega
  simp only [zeroValue, List.size_toArray, List.length_nil, Nat.zero_add] at h1 ⊢
  simp only [h1, if_true]
  have hm : min DEFAULT_CAPACITY xs.length = 10 := by unfold DEFAULT_CAPACITY; omega
  simp only [hm, growBy]
  have : ¬ (10 > MAX_SIZE) := by unfold MAX_SIZE; omega
  simp only [show (0 + 0 / 2 < 10) by omega, if_true, this, if_false, Option.bind_some]
  exact putAll_overflow xs _ (by simp) (by simp; omega)

/-- **finding_D45.**  Before fix-D45 (`addAllSelfOrig`: the loop bound `other.size` re-read every round;
    /repo now reads it once) `l.AddAll(l)` panicked for every non-empty list. -/
theorem finding_D45 {α : Type} (g : Growth) (hg : g.OK) (z : α) (l : TL α) (hi : TL.Inv l) (h0 : 0 < l.size)
    (hb : l.size + l.size ≤ TL.BOUND) : TL.addAllSelfOrig g z l = none := by
  obtain ⟨l1, h1, hs1, _, _, _⟩ := TL.ensure_spec g hg z (l.size + l.size) l hi hb
  unfold TL.addAllSelfOrig
  rw [h1]
  exact TL.selfLoopOrig_panics 0 l1 (by omega)

/-- the capacity policy of /repo is one of those the theorems quantify over -/
example : Growth.go.OK := Growth.go_ok

/-- … and so is a different one (double instead of one and a half) -/
example : (Growth.mk (fun o m => if o * 2 < m then m else o * 2) 4 2863311518).OK :=
  ⟨fun o m => by simp only []; split <;> omega,
   fun o m h1 h2 => by simp only []; unfold TL.BOUND at h2; split <;> omega,
   by simp [TL.BOUND]⟩

/-- a multi-object history meeting `SmallRun` -/
example : Multi.SmallRun [Multi.MOp.add 1 (5 : Int), .addAll 0 1] Multi.SState.init := by
  refine ⟨⟨fun i => ?_, trivial⟩, ⟨fun i => ?_, trivial⟩, trivial⟩ <;>
    simp only [Multi.sstep, Multi.upd, Multi.SState.init] <;> (repeat' split) <;> simp [TL.BOUND]

/-- a list at the wire count's wrap-around (hypotheses of `wire_count_wraps`) -/
example : ∃ l : TL Int, 8388608 ≤ l.size ∧ l.size < 16777216 := ⟨⟨8388608, false, #[]⟩, by decide⟩

open Lists.Table in
/-- a table meeting the hypotheses of `table_wire` / `pack_unpack_merges` -/
example : WFEntry ([97], ⟨1, ⟨2, false, #[.i 1, .i (-2)]⟩⟩) ∧ WFEntry ([], ⟨5, ⟨1, false, #[.s [104, 105], .s []]⟩⟩) := by
  refine ⟨⟨by decide, by simp [TL.Inv], by decide, ?_, by decide⟩, ⟨by decide, by simp [TL.Inv], by decide, ?_, by decide⟩⟩
  · intro x hx
    simp [TL.abs] at hx
    rcases hx with rfl | rfl <;> simp [wfV, Prim.inRange_8]
  · intro x hx
    simp [TL.abs] at hx
    subst hx; simp [wfV]


example : Fresh (0 : Int) (TL.mk' 0 3) := Fresh.withCap 3

/-- a history across two growth steps, with an out-of-range get at a slot that exists in the
    table (index 2, capacity 3) — it panics, it does not return the stale 0 -/
example : (Code.run Growth.go (0 : Int) [.add 5, .add 6, .get 2, .get 1, .addAllSelf, .add 7, .toArray, .size]
    (TL.mk' 0 3)).1 = [.unit, .unit, .panic, .val 6, .unit, .unit, .arr [5, 6, 5, 6, 7], .size 5] := by
  decide

example : (Spec.run [Op.add (5 : Int), .add 6, .get 2, .addAllSelf] []).2.length ≤ TL.BOUND := by
  decide

example : write decimalCodec (TL.mk' (0 : Int) 0) = [0, 0, 0] := by decide

example : TotalPreorder (lessIdx2 intLe false (fun i => (i : Int) % 2) lexLe (fun _ => [97]) true) :=
  lessIdx2_tp intLe_tp lexLe_tp _ _ _ _

example : floatLe 31 0x80000000 0 = true ∧ floatLe 31 0 0x80000000 = true ∧
    floatLe 31 0xbf800000 0x3f800000 = true ∧ floatLe 31 0x3f800000 0xbf800000 = false := by decide

example : roundNat 9007199254740993 = 9007199254740992 ∧ roundNat 9007199254740995 = 9007199254740996 := by
  decide

/-- **float_text_view.**  AddString / SetString / GetString on a FloatList or DoubleList
    (`FloatText.floatView`: ParseFloat with error → panic, FormatFloat 'f' 6) and AddFloat / AddDouble /
    SetFloat / SetDouble / GetFloat / GetDouble on a StringList (`FloatText.stringView`) — any view
    `v` — answer as the plain sequence with the conversion applied on the way in / out, for EVERY op
    sequence from any well-formed list below the bound; the final list holds the final sequence.
    Excluded (answer `excluded`, never generated by tie B): texts with '_', hexadecimal texts, "nan". -/
theorem float_text_view {α : Type} (g : Growth) (hg : g.OK) (v : FloatText.View α)
    (ops : List FloatText.VOp) (l : TL α) (hi : TL.Inv l) (hb : (TL.abs l).length + ops.length ≤ TL.BOUND) :
    (RunLift.runG (FloatText.stepV g v) ops l).1 = (RunLift.runG (FloatText.specV v) ops (TL.abs l)).1 ∧
    TL.abs (RunLift.runG (FloatText.stepV g v) ops l).2 = (RunLift.runG (FloatText.specV v) ops (TL.abs l)).2 :=
  RunLift.lift _ _ (FloatText.stepV_refines g hg v) (FloatText.specV_len v) ops l hi hb

example : (RunLift.runG (FloatText.specV (FloatText.floatView true)) [.add (.text [48, 46, 49]), .get 0 .f64,
      .add (.text [49, 101]), .get 1 .f64] []).1 =
    [.unit, .val (.f64 0x3fb999999999999a), .panic, .panic] := by decide +kernel

/-- **getString_correctly_rounded.**  The number `GetString` prints for the finite element ±m·2^e
    (`fmtF6 = sign, N / 10^6, '.', N mod 10^6 on six digits` with `N = scaled6 m e`) is the value
    rounded correctly to six decimals: exact for e ≥ 0, and |m·10^6 / 2^(-e) − N| ≤ 1/2 otherwise. -/
theorem getString_correctly_rounded (f : FloatConv.Fmt) (bits : Nat) (neg : Bool) (m : Nat) (e : Int)
    (hd : FloatConv.decode f bits = some (neg, m, e)) :
    FloatText.fmtF6 f bits = FloatText.fixed6 neg (FloatText.scaled6 m e) ∧
    (0 ≤ e → FloatText.scaled6 m e = m * 2 ^ e.toNat * 1000000) ∧
    (e < 0 → 2 * (2 ^ (-e).toNat * FloatText.scaled6 m e) ≤ 2 * (m * 1000000) + 2 ^ (-e).toNat ∧
      2 * (m * 1000000) ≤ 2 * (2 ^ (-e).toNat * FloatText.scaled6 m e) + 2 ^ (-e).toNat) :=
  ⟨by simp [FloatText.fmtF6, hd], fun he => by simp [FloatText.scaled6, he], fun he => by
    simp only [FloatText.scaled6, show ¬ e ≥ 0 by omega, if_false]
    exact FloatText.divRNE_nearest _ _ (Nat.two_pow_pos _)⟩

example : FloatConv.decode FloatConv.f64 0x3f80000000000000 = some (false, 2 ^ 52, -59) ∧     -- 1/128: a tie
    FloatText.scaled6 (2 ^ 52) (-59) = 7812 := by decide +kernel

/-- **doubleList_setString_partial.**  With the repaired statement (`quirk := false`,
    proposed/C13/fix-D46.diff, which /repo has) SetString stores on a DoubleList what AddString stores;
    on a FloatList and a StringList it did so before the fix as well. -/
theorem doubleList_setString_partial (x : FloatText.TV) :
    (FloatText.floatView true false).cin true x = (FloatText.floatView true false).cin false x ∧
    (FloatText.floatView false).cin true x = (FloatText.floatView false).cin false x ∧
    FloatText.stringView.cin true x = FloatText.stringView.cin false x := by
  cases x <;> exact ⟨rfl, rfl, rfl⟩

/-- **finding_D46.**  With `quirk = true` (the default of `floatView`: `DoubleList.SetString` before
    fix-D46, parsing with `ParseFloat(v, 32)`, the statement of FloatList) `SetString(0, "0.1")` stores
    float64(float32(0.1)) where `AddString("0.1")` stores 0.1, and `SetString(0, "1e39")` panics where
    `AddString("1e39")` does not. -/
theorem finding_D46 :
    (FloatText.floatView true).cin true (.text [48, 46, 49]) ≠ (FloatText.floatView true).cin false (.text [48, 46, 49]) ∧
    (FloatText.specV (FloatText.floatView true) (.set 0 (.text [49, 101, 51, 57])) [0]).1 = .panic ∧
    (FloatText.specV (FloatText.floatView true) (.add (.text [49, 101, 51, 57])) [0]).1 = .unit := by
  decide +kernel

/-- **linkedlist_text_views.**  After every history on the pointer structure, `ToString()` is the
    deque's elements in decimal, comma separated, and `ToString()` of the k-th entity (GetFirst +
    k × GetNext) is the decimal of the k-th element — a nil dereference exactly when there is none. -/
theorem linkedlist_text_views (ops : List Linked.Op) (k : Nat) :
    (Linked.LL.run ops Linked.LL.empty).2.toStringL =
      some (Linked.joinComma ((Linked.Spec.run ops []).2.map Cross.itoa)) ∧
    (Linked.LL.run ops Linked.LL.empty).2.entityToString k = ((Linked.Spec.run ops []).2)[k]?.map Cross.itoa := by
  obtain ⟨ids, h⟩ := Linked.run_rep ops _ _ _ Linked.Rep.empty
  exact ⟨Linked.toStringL_spec h, Linked.entityToString_spec h k⟩

example : (Linked.LL.run [.addLast 5, .addFirst (-7), .removeFirst, .addLast 12] Linked.LL.empty).2.toStringL =
    some (Cross.itoa 5 ++ [44] ++ Cross.itoa 12) := by
  rw [(linkedlist_text_views _ 0).1]; rfl

/-- **pack_iterate.**  `Iterate` is an unpacking access like Get / GetDataTable: it leaves the state
    `unpack` leaves (wire columns merged into the table, cache empty — so the next Write encodes the
    current table), hands the callback the keys of the merged table and calls it once per row of the
    first column (not at all for an empty table). -/
theorem pack_iterate (g : Growth) (s s' : PackTable.St) (r : Option (List Bytes × Nat))
    (h : PackTable.iterate g s = some (s', r)) :
    PackTable.unpack g s = some s' ∧ s'.raw = [] ∧
    r = (match s'.table with
      | [] => none
      | e :: _ => some (s'.table.map (fun x => x.1), e.2.l.size)) := by
  unfold PackTable.iterate at h
  split at h
  · cases h
  · rename_i u hu
    split at h <;> cases h <;> rename_i ht <;>
      exact ⟨hu, PackTable.unpack_clears_cache g s _ hu, by rw [ht]⟩

example : PackTable.iterate Growth.go (PackTable.put PackTable.empty [99] ⟨1, TL.mk' (.i 0) 0⟩) =
    some (PackTable.put PackTable.empty [99] ⟨1, TL.mk' (.i 0) 0⟩, some ([[99]], 0)) := by
  simp [PackTable.iterate, PackTable.unpack, PackTable.put, PackTable.empty, Table.put, TL.mk']

/-- **wire_roundtrip_iff.**  For a list of fewer than 2^24 elements the wire form reads back (into a
    fresh list, any bytes behind it left alone) to an equal list IF AND ONLY IF it has fewer than 2^23
    elements — the sharp domain of the wire clause (from 2^23 on the 24-bit count reads negative). -/
theorem wire_roundtrip_iff {α : Type} (g : Growth) (hg : g.OK) (c : Codec α) (z : α) (l l0 : TL α) (r : Bytes)
    (hi : TL.Inv l) (h0 : Fresh z l0) (h24 : l.size < 16777216) (hw : ∀ x ∈ TL.abs l, c.wf x) :
    (∃ l', P.run (read g c z l0) (write c l ++ r) = some (l', r) ∧ TL.toArray l' = TL.toArray l) ↔
      l.size < 8388608 := by
  constructor
  · intro ⟨l', h1, h2⟩
    apply Classical.byContradiction
    intro hn
    have hw' := wire_count_wraps g c z l l0 r (by omega) h24
    rw [hw'] at h1
    simp only [Option.some.injEq, Prod.mk.injEq] at h1
    rw [← h1.1, TL.toArray_eq_abs, TL.toArray_eq_abs, h0.abs] at h2
    have hl := TL.abs_length hi
    rw [← h2] at hl
    simp at hl
    omega
  · intro hsz
    exact list_wire g hg c z l l0 r hi h0 hsz hw

/-- **sorting_after_history.**  Sorting is a query on the CURRENT contents: after every history of
    Add / AddAll / Set / Get / … from a fresh list, `Sorting(asc)` — the code reads the elements through
    `get(i)`, i < size — returns a permutation of the indices of the sequence the history built that
    meets its values in the requested order (`BigContract`: sort.Sort beyond 12 elements). -/
theorem sorting_after_history {α : Type} (big : SortFn) (hbig : BigContract big) {le : α → α → Bool}
    (h : TotalPreorder le) (g : Growth) (hg : g.OK) (z : α) (ops : List (Op α)) (l0 : TL α) (h0 : Fresh z l0)
    (hb : (Spec.run ops []).2.length ≤ TL.BOUND) (asc : Bool) :
    (sorting (goSort big) le asc (fun i => (TL.get (Code.run g z ops l0).2 (i : Int)).getD z)
        (Code.run g z ops l0).2.size).Perm (List.range (Spec.run ops []).2.length) ∧
    ((sorting (goSort big) le asc (fun i => (TL.get (Code.run g z ops l0).2 (i : Int)).getD z)
        (Code.run g z ops l0).2.size).map (fun i => (Spec.run ops []).2.getD i z)).Pairwise
      (fun a b => dir le asc a b = true) := by
  have hr := list_refines_seq_from g hg z ops l0 h0.inv (by rw [h0.abs]; exact hb)
  rw [h0.abs] at hr
  obtain ⟨_, ha, hinv⟩ := hr
  have hv : (fun i : Nat => (TL.get (Code.run g z ops l0).2 (i : Int)).getD z) =
      (fun i => (Spec.run ops []).2.getD i z) := by
    funext i
    rw [TL.get_spec _ _ hinv, ha]
    by_cases hlt : i < (Spec.run ops []).2.length
    · have : (0 : Int) ≤ (i : Int) ∧ (i : Int) < ((Spec.run ops []).2.length : Int) := by omega
      simp [this, List.getD]
    · simp [List.getD, List.getElem?_eq_none (Nat.le_of_not_lt hlt)]
  have hn : (Code.run g z ops l0).2.size = (Spec.run ops []).2.length := by
    rw [← TL.abs_length hinv, ha]
  rw [hv, hn]
  exact sorting_orders_go big hbig h asc _ _

example : (Spec.run [Op.add (3 : Int), Op.add 1, Op.add 2] []).2 = [3, 1, 2] := by decide

end C13
