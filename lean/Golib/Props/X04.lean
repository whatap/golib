/-
  Extension check X04 — small state machines and codecs no property is anchored in.

  Part 1  lang/topology/NODE.go                       CodeModel Golib/Ext/Topo.lean (LINK: Golib/Ext/Keys.lean, X01)
    (N1) a history of AddListen / AddOutter calls leaves exactly the set of links the calls name, in first-insertion
         order, without duplicates: `node_history_refines_sets`, `node_listen_mem`, `node_outter_mem`
    (N2) address strings: `getIPPORT` splits at the last ':' (else the last '.'), is nil without either;
         what each shape of address contributes: `listen_*`, `outer_*`
    (N3) ToBytes / ToObject round trip of every reachable NODE.  The code does NOT satisfy it: ToBytes writes the
         type byte 0x50 that ToObject never reads (`finding_node_type_byte`, X01's known finding).  What is consistent:
         the payload after that byte (`node_roundtrip_partial`) for every NODE a history can reach (`node_reachable_ok`).
    Findings: `finding_node_type_byte`, `finding_has_listen_always_false` (AddOutter never filters a local listen
    address), `finding_unresolvable_listen_zero_link` (CreateLINK never returns nil: an unresolvable address is put
    as 0.0.0.0:0, which IsAttachable then matches against every 0.0.0.0 link).

  Part 2  util/panicutil/safefor.go, loop_counter.go   CodeModel Golib/Ext/SafeLoop.lean (`Ext.Safe`)
    (S1) a callback is run iff neither AllOff nor its name is switched off; (S2) counters count exactly the calls;
    (S3) "Safe": a panic of the callback does not leave Safe / SafeFor — NOT satisfied, there is no recover
    (`finding_safe_panic_escapes`, `finding_safefor_panic_escapes`); Cycle outside the table and SetOnOff before
    SetLoopOffMap panic (`finding_cycle_out_of_range`, `finding_setonoff_nil_map`).

  Part 3  util/keygen/KeyGen.go (`Ext.Key`, math/rand a parameter), util/dateutil/DateSyncTime.go (`Ext.Sync`)
-/
import Golib.Ext.TopoLemmas
import Golib.Ext.SafeLoopLemmas

namespace X04
open Ext.Keys Prim

/-- "a:b" style literals in the examples -/
def s (t : String) : Bytes := t.toList.map Char.toNat

/-! ## Part 1 — NODE -/
section Part1
open Ext.Topo

instance (k : LINK) : Decidable (LinkOK k) := by unfold LinkOK I32; infer_instance

/-! ### N2: address strings -/

theorem getIPPORT_examples :
    getIPPORT (s "10.0.0.1:80") = some ⟨s "10.0.0.1", s "80"⟩ ∧
    getIPPORT (s "[::1]:8080") = some ⟨s "[::1]", s "8080"⟩ ∧
    getIPPORT (s "*:22") = some ⟨s "*", s "22"⟩ ∧
    getIPPORT (s ":::22") = some ⟨s "::", s "22"⟩ ∧
    getIPPORT (s "10.0.0.1.80") = some ⟨s "10.0.0.1", s "80"⟩ ∧          -- BSD netstat form: last '.'
    getIPPORT (s "10.0.0.1") = some ⟨s "10.0.0", s "1"⟩ ∧                 -- no port: the last octet is taken for it
    getIPPORT (s ":") = some ⟨[], []⟩ ∧
    getIPPORT (s "localhost") = none ∧ getIPPORT [] = none := by decide +kernel

/-- `getIPPORT` answers nil exactly for the strings with neither ':' nor '.' -/
theorem getIPPORT_none_iff (a : Bytes) : getIPPORT a = none ↔ (58 ∉ a ∧ 46 ∉ a) := by
  simp only [getIPPORT, lastIndex_eq, ← Ext.Str.lastIndexB_none]
  cases Ext.Str.lastIndexB 58 a <;> cases Ext.Str.lastIndexB 46 a <;> simp

theorem ipo_predicates :
    (⟨s "::1", s "80"⟩ : IPO).isIPv6 = true ∧ (⟨s "[fe80::1]", s "80"⟩ : IPO).isIPv6 = true ∧
    (⟨s "10.0.0.1", s "80"⟩ : IPO).isIPv6 = false ∧ (⟨[], s "80"⟩ : IPO).isIPv6 = false ∧
    (⟨s "127.0.0.1", s "80"⟩ : IPO).isLocal127 = true ∧
    (⟨s "127.0.0.2", s "80"⟩ : IPO).isLocal127 = false ∧ (⟨s "127.000.000.001", []⟩ : IPO).isLocal127 = false := by
  decide +kernel

/-- `net.LookupIP` of a dotted quad (netip.parseIPv4): strict octets -/
theorem parseV4_examples :
    parseV4 (s "10.0.0.1") = some [10, 0, 0, 1] ∧ parseV4 (s "255.255.255.255") = some [255, 255, 255, 255] ∧
    parseV4 (s "0.0.0.0") = some [0, 0, 0, 0] ∧
    parseV4 (s "256.0.0.1") = none ∧ parseV4 (s "01.0.0.1") = none ∧ parseV4 (s "1.2.3") = none ∧
    parseV4 (s "1.2.3.4.5") = none ∧ parseV4 (s "1..3.4") = none ∧ parseV4 (s "1.2.3.") = none ∧
    parseV4 (s "") = none ∧ parseV4 (s "::1") = none ∧ parseV4 (s "1.2.3.4 ") = none := by decide +kernel

/-- whatever the resolver says, a created link has 4 well-formed address bytes and an int32 port -/
theorem createLINK_wellformed (ext : Ext) (hx : ExtOK ext) (ip port : Bytes) :
    LinkOK (createLINK ext ip (portOf port)) := createLINK_ok ext hx ip _ (portOf_I32 port)

theorem createLINK_of_v4 (ext : Ext) (a ip : Bytes) (p : Int) (h : parseV4 a = some ip) :
    createLINK ext a p = ⟨ip, p⟩ := by simp [createLINK, lookup, h]

/-- a specific (non-wildcard, non-127.0.0.1) address contributes the one link CreateLINK makes of it -/
theorem listenLinks_specific (ext : Ext) (locals : List Bytes) (addr : Bytes) (o : IPO) (hg : getIPPORT addr = some o)
    (h1 : o.isLocal127 = false) (hw : isWild o.ip = false) :
    listenLinks ext locals addr = [createLINK ext o.ip (portOf o.port)] := by simp [listenLinks, hg, h1, hw]

/-- a wildcard address contributes one link per local address, in the order of the set -/
theorem listenLinks_wild (ext : Ext) (locals : List Bytes) (addr : Bytes) (o : IPO) (hg : getIPPORT addr = some o)
    (hw : isWild o.ip = true) :
    listenLinks ext locals addr = locals.map (fun l => createLINK ext l (portOf o.port)) := by
  have h1 : o.isLocal127 = false := by
    unfold isWild at hw; unfold IPO.isLocal127
    cases h : o.ip == lit127
    · rfl
    · have e : o.ip = lit127 := by simpa using h
      rw [e] at hw; exact absurd hw (by decide +kernel)
  simp [listenLinks, hg, h1, hw]

/-- an address with a dotted-quad IP and a decimal port contributes exactly that link, whatever the resolver -/
theorem listen_plain (ext : Ext) :
    listenLinks ext [s "192.168.0.7"] (s "10.0.0.1:3306") = [⟨[10, 0, 0, 1], 3306⟩] := by
  rw [listenLinks_specific ext _ _ ⟨s "10.0.0.1", s "3306"⟩ (by decide +kernel) (by decide +kernel) (by decide +kernel),
    createLINK_of_v4 ext _ [10, 0, 0, 1] _ parseV4_examples.1, show portOf (s "3306") = 3306 by decide]

/-- "*", "0.0.0.0", "::" stand for every local address, in the order of the set -/
theorem listen_wildcards (ext : Ext) :
    listenLinks ext [s "192.168.0.7", s "10.1.1.1"] (s "*:22") = [⟨[192, 168, 0, 7], 22⟩, ⟨[10, 1, 1, 1], 22⟩] ∧
    listenLinks ext [s "192.168.0.7"] (s "0.0.0.0:22") = [⟨[192, 168, 0, 7], 22⟩] ∧
    listenLinks ext [s "192.168.0.7"] (s ":::22") = [⟨[192, 168, 0, 7], 22⟩] ∧
    listenLinks ext [] (s "*:22") = [] := by
  have p22 : portOf (s "22") = 22 := by decide +kernel
  have a1 := createLINK_of_v4 ext (s "192.168.0.7") [192, 168, 0, 7] 22 (by decide +kernel)
  have a2 := createLINK_of_v4 ext (s "10.1.1.1") [10, 1, 1, 1] 22 (by decide +kernel)
  rw [listenLinks_wild ext _ _ ⟨s "*", s "22"⟩ (by decide +kernel) (by decide +kernel),
    listenLinks_wild ext _ _ ⟨s "0.0.0.0", s "22"⟩ (by decide +kernel) (by decide +kernel),
    listenLinks_wild ext _ _ ⟨s "::", s "22"⟩ (by decide +kernel) (by decide +kernel),
    listenLinks_wild ext _ _ ⟨s "*", s "22"⟩ (by decide +kernel) (by decide +kernel)]
  simp only [List.map, p22, a1, a2, and_self]

/-- 127.0.0.1 and strings without a separator contribute nothing -/
theorem listen_nothing (ext : Ext) (locals : List Bytes) :
    listenLinks ext locals (s "127.0.0.1:80") = [] ∧ listenLinks ext locals (s "localhost") = [] := by
  constructor <;> rfl

/-- AddOutter: an IPv6 local or remote end, a 127.0.0.1 remote end, an unsplittable string: nothing -/
theorem outer_nothing (ext : Ext) (n : NODE) :
    outerLinks ext n (s "[::1]:5000") (s "8.8.8.8:53") = [] ∧ outerLinks ext n (s "10.0.0.1:5000") (s "[2001::1]:53") = [] ∧
    outerLinks ext n (s "10.0.0.1:5000") (s "127.0.0.1:53") = [] ∧ outerLinks ext n (s "x") (s "8.8.8.8:53") = [] ∧
    outerLinks ext n (s "10.0.0.1:5000") (s "x") = [] := by
  refine ⟨rfl, rfl, rfl, rfl, rfl⟩

/-- both ends IPv4 and the remote end not 127.0.0.1: the remote end's link, whatever the NODE holds (`hasListen` is false) -/
theorem outerLinks_plain (ext : Ext) (n : NODE) (loc remote : Bytes) (l r : IPO) (hl : getIPPORT loc = some l)
    (hr : getIPPORT remote = some r) (h6 : l.isIPv6 = false) (hr6 : (r.isIPv6 || r.isLocal127) = false) :
    outerLinks ext n loc remote = [createLINK ext r.ip (portOf r.port)] := by
  simp only [outerLinks, hl, hr, h6, hr6, hasListen, Bool.false_eq_true, if_false]

/-- the remote end 8.8.8.8:53 of the examples, from any IPv4 local end -/
theorem outer_dns (ext : Ext) (n : NODE) (loc : Bytes) (l : IPO) (hl : getIPPORT loc = some l) (h6 : l.isIPv6 = false) :
    outerLinks ext n loc (s "8.8.8.8:53") = [⟨[8, 8, 8, 8], 53⟩] := by
  rw [outerLinks_plain ext n _ _ l ⟨s "8.8.8.8", s "53"⟩ hl (by decide +kernel) h6 (by decide +kernel),
    createLINK_of_v4 ext _ [8, 8, 8, 8] _ (by decide +kernel), show portOf (s "53") = 53 by decide +kernel]

theorem outer_plain (ext : Ext) (n : NODE) :
    outerLinks ext n (s "10.0.0.1:5000") (s "8.8.8.8:53") = [⟨[8, 8, 8, 8], 53⟩] :=
  outer_dns ext n _ ⟨s "10.0.0.1", s "5000"⟩ (by decide +kernel) (by decide +kernel)

/-! ### N1: histories refine two insertion-ordered sets -/

/-- **the refinement**: after any history the two LinkedSets hold, in order of first insertion and without
    duplicates, exactly the links the individual calls contribute; Attr is untouched -/
theorem node_history_refines_sets (ext : Ext) (n : NODE) (ops : List Op) :
    (run ext n ops).listen = putAll n.listen (ops.flatMap (Op.listenPart ext)) ∧
    (run ext n ops).outter = putAll n.outter (ops.flatMap (Op.outerPart ext)) ∧
    (run ext n ops).attr = n.attr :=
  ⟨run_listen ext ops n, run_outter ext ops n, run_attr ext ops n⟩

theorem node_listen_mem (ext : Ext) (n : NODE) (ops : List Op) (k : LINK) :
    k ∈ (run ext n ops).listen ↔ k ∈ n.listen ∨ ∃ op ∈ ops, k ∈ op.listenPart ext := by
  rw [run_listen, mem_putAll]; simp [List.mem_flatMap]

theorem node_outter_mem (ext : Ext) (n : NODE) (ops : List Op) (k : LINK) :
    k ∈ (run ext n ops).outter ↔ k ∈ n.outter ∨ ∃ op ∈ ops, k ∈ op.outerPart ext := by
  rw [run_outter, mem_putAll]; simp [List.mem_flatMap]

theorem node_sets_nodup (ext : Ext) (n : NODE) (ops : List Op) (hl : n.listen.Nodup) (ho : n.outter.Nodup) :
    (run ext n ops).listen.Nodup ∧ (run ext n ops).outter.Nodup := by
  rw [run_listen, run_outter]; exact ⟨nodup_putAll _ _ hl, nodup_putAll _ _ ho⟩

/-- the sets only grow: no call removes a link (the first insertion fixes its position) -/
theorem node_sets_monotone (ext : Ext) (n : NODE) (ops : List Op) (k : LINK) :
    (k ∈ n.listen → k ∈ (run ext n ops).listen) ∧ (k ∈ n.outter → k ∈ (run ext n ops).outter) := by
  rw [node_listen_mem, node_outter_mem]; exact ⟨Or.inl, Or.inl⟩

/-- a call repeated adds nothing -/
theorem node_listen_idempotent (ext : Ext) (n : NODE) (locals : List Bytes) (addr : Bytes) (k : LINK) :
    k ∈ (addListen ext (addListen ext n locals addr) locals addr).listen ↔ k ∈ (addListen ext n locals addr).listen := by
  rw [addListen_idem]

/-- IsAttachable: some listen link has the same address and (its own port 0, or the same port) -/
theorem isAttachable_iff (n : NODE) (k : LINK) :
    isAttachable n k = true ↔ ∃ l ∈ n.listen, LINK.includes l k = true := by
  simp [isAttachable]

/-- a listen link attaches itself -/
theorem isAttachable_of_mem (n : NODE) (k : LINK) (h : k ∈ n.listen) : isAttachable n k = true := by
  rw [isAttachable_iff]
  refine ⟨k, h, ?_⟩
  have e : equalBytes k.ip k.ip = true := (equalBytes_iff _ _).mpr rfl
  simp [LINK.includes, e]

/-- **finding**: `hasListen` tests `k != nil` on a pointer CreateLINK never leaves nil, so it answers false and
    AddOutter does not drop connections whose local end is a listen address -/
theorem finding_has_listen_always_false (ext : Ext) :
    let n := addListen ext NODE.empty [] (s "10.0.0.1:80")
    hasListenSpec ext n (s "10.0.0.1") (s "80") = true ∧ hasListen ext n (s "10.0.0.1") (s "80") = false ∧
    (addOutter ext n (s "10.0.0.1:80") (s "8.8.8.8:53")).outter = [⟨[8, 8, 8, 8], 53⟩] := by
  intro n
  have k80 : createLINK ext (s "10.0.0.1") (portOf (s "80")) = ⟨[10, 0, 0, 1], 80⟩ := by
    rw [createLINK_of_v4 ext _ [10, 0, 0, 1] _ parseV4_examples.1, show portOf (s "80") = 80 by decide +kernel]
  have l1 : n.listen = [⟨[10, 0, 0, 1], 80⟩] := by
    show putAll [] (listenLinks ext [] (s "10.0.0.1:80")) = _
    rw [listenLinks_specific ext _ _ ⟨s "10.0.0.1", s "80"⟩ getIPPORT_examples.1 (by decide +kernel)
      (by decide +kernel), k80]
    rfl
  refine ⟨?_, rfl, ?_⟩
  · show n.listen.contains (createLINK ext (s "10.0.0.1") (portOf (s "80"))) = true
    rw [l1, k80]; decide
  · show putAll n.outter (outerLinks ext n (s "10.0.0.1:80") (s "8.8.8.8:53")) = _
    rw [outer_dns ext n _ ⟨s "10.0.0.1", s "80"⟩ getIPPORT_examples.1 (by decide +kernel)]
    rfl

/-- **finding**: an address the resolver cannot resolve is not skipped (`if k != nil` is always true): the zero link
    0.0.0.0:0 is put, and with Port 0 it "includes" every port of 0.0.0.0 -/
theorem finding_unresolvable_listen_zero_link (ext : Ext) (h : ext (s "[::1]") = .err) :
    (addListen ext NODE.empty [] (s "[::1]:8080")).listen = [⟨[0, 0, 0, 0], 0⟩] ∧
    isAttachable (addListen ext NODE.empty [] (s "[::1]:8080")) ⟨[0, 0, 0, 0], 12345⟩ = true := by
  have hp : parseV4 (s "[::1]") = none := by decide +kernel
  have hg : getIPPORT (s "[::1]:8080") = some ⟨s "[::1]", s "8080"⟩ := by decide +kernel
  have hl : (⟨s "[::1]", s "8080"⟩ : IPO).isLocal127 = false ∧ isWild (s "[::1]") = false := by decide +kernel
  have e : (addListen ext NODE.empty [] (s "[::1]:8080")).listen = [⟨[0, 0, 0, 0], 0⟩] := by
    simp [addListen, listenLinks, hg, hl.1, hl.2, createLINK, lookup, hp, h, NODE.empty, putAll, putSet, zeroIP]
  refine ⟨e, ?_⟩
  rw [isAttachable, e]
  decide +kernel

/-! ### N3: the byte codec -/

theorem node_tobytes_shape (n : NODE) : toBytes n = 0 :: 80 :: body n := rfl

/-- the value layer agrees: ver, then exactly `WriteValue(Attr)` (type byte 80 + map), then the two link lists -/
theorem node_tobytes_value (n : NODE) :
    toBytes n = 0 :: (Value.encV (.map n.attr) ++ encLinks n.listen ++ encLinks n.outter) := by
  rw [Value.encV]; simp [toBytes, body]

/-- every NODE a history of AddListen / AddOutter reaches from a well-formed one is well formed (4-byte addresses,
    int32 ports, no duplicates) -/
theorem node_reachable_ok (ext : Ext) (hx : ExtOK ext) (n : NODE) (h : NodeOK n) (ops : List Op) :
    NodeOK (run ext n ops) := by
  refine ⟨?_, ?_, ?_, ?_, ?_, ?_⟩
  · rw [run_attr]; exact h.attrWF
  · rw [run_attr]; exact h.attrNodup
  · intro k hk
    rw [run_listen, mem_putAll, List.mem_flatMap] at hk
    rcases hk with hk | ⟨op, _, hop⟩
    · exact h.listenOK k hk
    · exact (Op.parts_ok ext hx op).1 k hop
  · intro k hk
    rw [run_outter, mem_putAll, List.mem_flatMap] at hk
    rcases hk with hk | ⟨op, _, hop⟩
    · exact h.outterOK k hk
    · exact (Op.parts_ok ext hx op).2 k hop
  · rw [run_listen]; exact nodup_putAll _ _ h.listenNodup
  · rw [run_outter]; exact nodup_putAll _ _ h.outterNodup

theorem node_empty_ok : NodeOK NODE.empty :=
  ⟨rfl, by simp [NODE.empty], by simp [NODE.empty], by simp [NODE.empty], by simp [NODE.empty], by simp [NODE.empty]⟩

/-- Full statement (evident law): `toObject (toBytes n ++ r) = some (n, r)`.  The code violates it for the type
    byte; what holds: once that one byte is taken out, ToObject reads back every well-formed NODE and stops exactly
    at the end of its bytes. -/
theorem node_roundtrip_partial (n : NODE) (r : Bytes) (ver : Nat) (h : NodeOK n)
    (hl : n.attr.length ≤ 9223372036854775807 ∧ n.listen.length ≤ 9223372036854775807 ∧
      n.outter.length ≤ 9223372036854775807) :
    toObject (ver :: ((toBytes n).drop 2 ++ r)) = some (n, r) := by
  show readBody (body n ++ r) = some (n, r)
  unfold readBody body
  simp only [List.append_assoc]
  rw [run_decDecimal (n.attr.length : Int) _ (by rw [inRange_8]; omega)]
  simp only [Int.toNat_natCast]
  have hsz := Value.szKVs_le_length n.attr
  rw [Value.decKVs_encKVs n.attr [] _ _ h.attrWF (by simpa using h.attrNodup)
    (by simp only [List.length_append]; omega)]
  simp only [List.nil_append]
  rw [decLinks_enc n.listen _ h.listenOK h.listenNodup hl.2.1]
  simp only
  rw [decLinks_enc n.outter _ h.outterOK h.outterNodup hl.2.2]

/-- … in particular for everything reachable from `NewNODE()` -/
theorem node_roundtrip_reachable (ext : Ext) (hx : ExtOK ext) (ops : List Op) (r : Bytes)
    (hl : (run ext NODE.empty ops).listen.length ≤ 9223372036854775807 ∧
      (run ext NODE.empty ops).outter.length ≤ 9223372036854775807) :
    toObject (0 :: ((toBytes (run ext NODE.empty ops)).drop 2 ++ r)) = some (run ext NODE.empty ops, r) := by
  apply node_roundtrip_partial _ r 0 (node_reachable_ok ext hx _ node_empty_ok ops)
  refine ⟨?_, hl.1, hl.2⟩
  rw [run_attr]; simp [NODE.empty]

example : ExtOK (fun _ => Look.err) := by intro s ip h; simp at h

/-- the same with a non-trivial NODE, evaluated -/
theorem node_roundtrip_example :
    let n : NODE := ⟨[(s "type", .text (s "java"))], [⟨[10, 0, 0, 1], 3306⟩, ⟨[10, 0, 0, 1], 80⟩], [⟨[8, 8, 8, 8], 53⟩]⟩
    toObject (0 :: ((toBytes n).drop 2 ++ [7])) = some (n, [7]) := by
  intro n
  exact node_roundtrip_partial n [7] 0 ⟨by unfold Value.WFKVs; decide, by decide, by decide, by decide, by decide, by decide⟩ (by decide +kernel)

/-- **finding** (X01's `NODE.ToObject:type-byte-not-read`): ToObject starts `MapValue.Read` at the type byte 0x50;
    ReadDecimal takes 0x50 for an 8-byte length: the empty NODE `00 50 00 00 00` panics for lack of bytes, and a
    NODE with links reads an absurd count and runs off the end -/
theorem finding_node_type_byte :
    toBytes NODE.empty = [0, 80, 0, 0, 0] ∧ toObject (toBytes NODE.empty) = none ∧
    toObject (toBytes ⟨[], [⟨[10, 0, 0, 1], 80⟩], [⟨[8, 8, 8, 8], 53⟩]⟩) = none := by decide +kernel

/-- the misread is not always loud: seven zero bytes after the empty NODE make ToObject "succeed", having read the
    type byte and all that follows as an 8-byte count 0 … -/
theorem finding_node_type_byte_silent :
    (toObject (toBytes NODE.empty ++ [0, 0, 0, 0, 0, 0, 0])).map (fun p => (p.1.attr.length, p.1.listen, p.1.outter, p.2))
      = some (0, [], [], []) := by decide +kernel

/-- stored duplicates cannot come back: `toLinkObject` Puts into a set -/
theorem node_read_dedups :
    decLinks (encLinks [⟨[1, 1, 1, 1], 1⟩, ⟨[1, 1, 1, 1], 1⟩]) = some ([⟨[1, 1, 1, 1], 1⟩], []) := by decide +kernel

end Part1

/-! ## Part 2 — panicutil -/

namespace SafeLoop
open Ext.Safe

/-- (S1) Safe runs the callback iff neither AllOff nor the name is switched off -/
theorem safe_runs_iff (st : State) (name : Name) (cb : Cb) :
    (∃ e, (safe st name cb).2 = .safe true e) ↔ (st.allOff = false ∧ isOff st name = false) := by
  unfold safe
  cases h1 : st.allOff <;> cases h2 : isOff st name <;> simp
  cases cb 0 <;> simp

/-- a name switched off is not run and nothing escapes -/
theorem safe_off_not_run (st : State) (name : Name) (cb : Cb) (h : isOff st name = true) :
    (safe st name cb).2 = .safe false false := by
  unfold safe; cases st.allOff <;> simp [h]

theorem find_mapSet (m : List (Name × Bool)) (name : Name) (b : Bool) : find (mapSet m name b) name = some b := by
  unfold find mapSet
  split
  · rename_i hany
    induction m with
    | nil => simp at hany
    | cons p t ih =>
      by_cases hp : p.1 = name
      · simp [hp]
      · have hp' : (p.1 == name) = false := by simpa using hp
        simp only [List.any_cons, hp', Bool.false_or] at hany
        simp only [List.map_cons, hp', Bool.false_eq_true, if_false, List.find?]
        exact ih hany
  · rename_i hany
    have hnone : m.find? (fun p => p.1 == name) = none := by
      rw [List.find?_eq_none]; intro x hx hc; exact hany (List.any_eq_true.mpr ⟨x, hx, hc⟩)
    simp [List.find?_append, hnone]

theorem setOnOff_switches_off (st : State) (m : List (Name × Bool)) (name : Name) (h : st.lookup = some m) :
    isOff (step st (.setOnOff name false)).1 name = true ∧ isOff (step st (.setOnOff name true)).1 name = false := by
  simp [step, h, isOff, find_mapSet]

/-- the deferred bookkeeping always runs: after Safe the name is a key of PerfMap -/
theorem safe_perf (st : State) (name : Name) (cb : Cb) : name ∈ (safe st name cb).1.perf := by
  have h : ∀ s : State, name ∈ (perfPut s name).perf := by
    intro s; by_cases hc : name ∈ s.perf <;> simp [perfPut, hc]
  unfold safe
  split
  · exact h _
  · split
    · exact h _
    · split <;> exact h _

/-- (S3, partial) Full statement: `(safe st name cb).2 = .safe _ false` for every callback.  Holds only for
    callbacks that do not panic -/
theorem safe_never_escapes_partial (st : State) (name : Name) (cb : Cb) (h : cb 0 ≠ .panic) :
    ∃ ran, (safe st name cb).2 = .safe ran false := by
  unfold safe
  split
  · exact ⟨_, rfl⟩
  · split
    · exact ⟨_, rfl⟩
    · cases hc : cb 0
      · exact ⟨_, rfl⟩
      · exact absurd hc h
      · exact ⟨_, rfl⟩

example : (fun _ => Act.ret : Cb) 0 ≠ .panic := by decide +kernel

/-- **finding**: there is no recover in Safe: a panicking callback leaves it -/
theorem finding_safe_panic_escapes : (safe State.init [120] (fun _ => .panic)).2 = .safe true true := rfl

/-- **finding**: nor in SafeFor: the third call panics, SafeFor is left after exactly three calls -/
theorem finding_safefor_panic_escapes :
    (safeForLoop [120] (fun i => if i = 2 then .panic else .ret) 10 State.init 0).2 = .safeFor 3 .escaped := rfl

/-- SafeFor: AllOff on entry → returns at once without a call; a name switched off → never a call, never a return -/
theorem safeFor_allOff (st : State) (name : Name) (cb : Cb) (f : Nat) (h : st.allOff = true) :
    safeForLoop name cb (f + 1) st 0 = (st, .safeFor 0 .returned) := by
  simp [safeForLoop, h]

theorem safeFor_off_spins (st : State) (name : Name) (cb : Cb) (f : Nat) (h : st.allOff = false)
    (ho : isOff st name = true) : safeForLoop name cb (f + 1) st 0 = (st, .safeFor 0 .spins) := by
  simp [safeForLoop, h, ho]

theorem isOff_perfPut (st : State) (a b : Name) : isOff (perfPut st a) b = isOff st b := rfl

/-- SafeFor with a callback that returns k times and then panics: exactly k + 1 calls, then the panic escapes -/
theorem safeFor_counts_calls (name : Name) (k : Nat) : ∀ (st : State) (runs f : Nat), st.allOff = false →
    isOff st name = false → k < f →
    (safeForLoop name (fun i => if i = runs + k then .panic else .ret) f st runs).2 = .safeFor (runs + k + 1) .escaped := by
  induction k with
  | zero =>
    intro st runs f h1 h2 hf
    cases f with
    | zero => omega
    | succ f => simp [safeForLoop, h1, h2]
  | succ k ih =>
    intro st runs f h1 h2 hf
    cases f with
    | zero => omega
    | succ f =>
      have hne : ¬ runs = runs + (k + 1) := by omega
      simp only [safeForLoop, h1, h2, Bool.false_eq_true, if_false, hne]
      have := ih (perfPut st name) (runs + 1) f h1 (by rw [isOff_perfPut]; exact h2) (by omega)
      rw [show runs + 1 + k = runs + (k + 1) by omega] at this
      exact this

/-- (S2) counters count exactly the calls: over any history, counter `id` has grown by the number of `Cycle(id)`
    calls when id is inside the table, and no other op touches it -/
theorem counters_count_calls (ops : List Op) : ∀ (st : State) (id : Int), 0 ≤ id → id < MAX_COUNTERS →
    (run st ops).1.counts id = st.counts id + cycles id ops :=
  fun st id h0 h1 => by rw [run_counts, if_pos ⟨h0, h1⟩]

/-- **finding**: `Cycle(id)` outside [0, 8192) is an index panic; the table is unchanged -/
theorem finding_cycle_out_of_range (st : State) (id : Int) (h : id < 0 ∨ MAX_COUNTERS ≤ id) :
    step st (.cycle id) = (st, .panic) := by
  have hn : ¬ (0 ≤ id ∧ id < MAX_COUNTERS) := by unfold MAX_COUNTERS at *; omega
  simp only [step, hn, if_false]

/-- **finding**: in a fresh process `onofflookup` is the nil map: SetOnOff panics until SetLoopOffMap has been called -/
theorem finding_setonoff_nil_map (name : Name) (b : Bool) : (step State.init (.setOnOff name b)).2 = .panic := rfl

/-- ResetPerfMap hands out the keys and leaves the map empty -/
theorem resetPerf_spec (st : State) :
    step st .resetPerf = ({ st with perf := [] }, .keys st.perf) := rfl

example : (run State.init [.setMap (some (some [([97], false)])), .safe [97] (fun _ => .ret), .safe [98] (fun _ => .ret),
    .cycle 10, .cycle 10, .cycle 8192, .resetPerf]).2 =
    [.unit, .safe false false, .safe true false, .unit, .unit, .panic, .keys [[97], [98]]] := by decide +kernel

end SafeLoop

/-! ## Part 3 — keygen and DateSyncTime -/

namespace KeyGen
open Ext.Key

/-- determinism: after SetSeed(i) the outputs do not depend on anything that happened before -/
theorem seeded_deterministic {σ : Type} (g : Prng σ) (s1 s2 : σ) (i : Int) (ops : List Op) :
    (run g s1 (.setSeed i :: ops)).2 = (run g s2 (.setSeed i :: ops)).2 := rfl

/-- RandInt(i) / RandLong(i) are in [0, i) for i > 0 (given the contract of math/rand), panic for i ≤ 0 and then
    leave the generator untouched -/
theorem rand_range {σ : Type} (g : Prng σ) (hg : PrngOK g) (st : σ) (i : Int) (h : 0 < i) :
    (∃ v, (step g st (.randInt i)).2 = .val v ∧ 0 ≤ v ∧ v < i) ∧
    (∃ v, (step g st (.randLong i)).2 = .val v ∧ 0 ≤ v ∧ v < i) := by
  have hn : ¬ i ≤ 0 := by omega
  simp only [step, hn, if_false]
  exact ⟨⟨_, rfl, hg.r31 st i h⟩, ⟨_, rfl, hg.r63 st i h⟩⟩

theorem rand_nonpositive_panics {σ : Type} (g : Prng σ) (st : σ) (i : Int) (h : i ≤ 0) :
    step g st (.randInt i) = (st, .panic) ∧ step g st (.randLong i) = (st, .panic) := by
  simp [step, h]

/-- Next() is the bit pattern of the normal variate read as int64 -/
theorem next_is_bits {σ : Type} (g : Prng σ) (st : σ) :
    (step g st .next).2 = .val (Hash.toI64 (g.norm st).1) := rfl

/-- **finding**: AddSeed's type switch — integer arguments fall into empty cases (they are ignored), float arguments
    reach `it.(int64)` and panic: no argument ever changes the seed -/
theorem finding_addseed_args {σ : Type} (g : Prng σ) (st : σ) (now : Int) :
    step g st (.addSeed now [.int64, .uint8]) = (g.seed now, .unit) ∧
    step g st (.addSeed now [.int64, .float64]) = (st, .panic) := ⟨rfl, rfl⟩

theorem addSeed_ignores_args {σ : Type} (g : Prng σ) (st : σ) (now : Int) (args : List ArgTy)
    (h : addSeedPanics args = false) : step g st (.addSeed now args) = step g st (.addSeed now []) := by
  simp only [step, h]; rfl

end KeyGen

namespace SyncTime
open Ext.Sync

/-- IsSyncTime ⇔ StartSyncTime has ever been called -/
theorem isSync_iff_started (st : State) : (step st .isSync).2 = .bool (st.ticker != .nil) := rfl

/-- a tick either takes the ticker's time stamp or, more than 5 s after the last synchronisation, the system clock -/
theorem tick_rule (st : State) (t now : Int) (h : st.ticker = .running) :
    ((step st (.tick t now)).1.sync = t ∧ (step st (.tick t now)).1.last = st.last ∧ t ≤ st.last + 5000) ∨
    ((step st (.tick t now)).1.sync = now ∧ (step st (.tick t now)).1.last = now ∧ st.last + 5000 < t) := by
  simp only [step, h, if_true, TIME_SYNC_INTERVAL]
  by_cases c : t > st.last + 5000
  · right; simp [c]
  · left; simp [c]; omega

/-- **finding**: StopSyncTime before StartSyncTime dereferences the nil ticker; after Stop, IsSyncTime stays true
    (the pointer is never cleared) and the clock no longer moves -/
theorem finding_sync_lifecycle :
    (step State.init .stop).2 = .panic ∧
    (run State.init [.start 1000, .stop, .isSync, .tick 2000 2000]) =
      (⟨.stopped, 1000, 1000, 0⟩, [.unit, .unit, .bool true, .unit]) := by decide +kernel

end SyncTime

end X04
