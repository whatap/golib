/-
  Property C03 — obligations over the layouts regenerated from lang/pack on every run (tie A).

  `Gen.Packs.T.w` / `T.r` are the transcriptions of T's `Write` and `Read` bodies, made separately
  by xlate/c03.  Each `agree_T` below is decided by evaluation (`decide`); a field dropped, reordered,
  read with another width or into another field, a version gate edited on one side only, makes the
  regenerated data differ and the obligation fail.  With `Layout.agree_roundtrip` (proved once,
  Golib/Layout/Agree.lean) each `agree_T` gives T's round trip for every field value: see
  `C03.pack_roundtrip` in Props/C03.lean.
-/
import Golib.Layout.Agree
import Golib.Packs.Hand
import Golib.Packs.Container
import Golib.Packs.Agreements
import Golib.Packs.Irregular
import Golib.Layout.Prefix
import Golib.Packs.Caps
import Golib.Layout.HeaderProg
import Golib.Layout.Reencode
import Golib.Gen.PackLayouts

namespace C03Gen
open Layout Gen.Packs

/-! ### packs whose two bodies are both transcribed -/
theorem agree_ActiveStackPack : agrees ActiveStackPack.w ActiveStackPack.r = true := by decide +kernel
theorem agree_ErrorSnapPack1 : agrees ErrorSnapPack1.w ErrorSnapPack1.r = true := by decide +kernel
theorem agree_RealtimeUserPack : agrees RealtimeUserPack.w RealtimeUserPack.r = true := by decide +kernel
theorem agree_TextPack : agrees TextPack.w TextPack.r = true := by decide +kernel
theorem agree_StatServicePack : agrees StatServicePack.w StatServicePack.r = true := by decide +kernel
theorem agree_StatSqlPack : agrees StatSqlPack.w StatSqlPack.r = true := by decide +kernel
theorem agree_StatHttpcPack : agrees StatHttpcPack.w StatHttpcPack.r = true := by decide +kernel
theorem agree_StatErrorPack : agrees StatErrorPack.w StatErrorPack.r = true := by decide +kernel
theorem agree_StatRemoteIpPack : agrees StatRemoteIpPack.w StatRemoteIpPack.r = true := by decide +kernel
theorem agree_StatUserAgentPack : agrees StatUserAgentPack.w StatUserAgentPack.r = true := by decide +kernel
theorem agree_ZipPack : agrees ZipPack.w ZipPack.r = true := Packs.agrees_ZipPack
theorem agree_LogSinkZipPack : agrees LogSinkZipPack.w LogSinkZipPack.r = true := by decide +kernel
theorem agree_ServerInfoPack : agrees ServerInfoPack.w ServerInfoPack.r = true := by decide +kernel          -- D24
/-! unregistered pack types with a write/read pair -/
theorem agree_ProfileStepSplitPack : agrees ProfileStepSplitPack.w ProfileStepSplitPack.r = true := by decide +kernel
theorem agree_StatTransactionPack : agrees StatTransactionPack.w StatTransactionPack.r = true := by decide +kernel
theorem agree_StatTransactionPack1 : agrees StatTransactionPack1.w StatTransactionPack1.r = true := by decide +kernel
theorem agree_SMDiskPerfPack : agrees SMDiskPerfPack.w (SMDiskPerfPack.r.forget "Count") = true := by decide +kernel
theorem agree_SMNetPerfPack : agrees SMNetPerfPack.w (SMNetPerfPack.r.forget "Count") = true := by decide +kernel
theorem agree_SMProcPerfPack : agrees SMProcPerfPack.w SMProcPerfPack.r = true := by decide +kernel
theorem agree_SMTCPPerfPack : agrees SMTCPPerfPack.w SMTCPPerfPack.r = true := by decide +kernel
theorem agree_SMLogEventPack : agrees SMLogEventPack.w SMLogEventPack.r = true := by decide +kernel
theorem agree_SMPingPack : agrees SMPingPack.w SMPingPack.r = true := by decide +kernel
theorem agree_SMDownCheckPack : agrees SMDownCheckPack.w SMDownCheckPack.r = true := by decide +kernel
theorem agree_SMExtension : agrees SMExtension.w SMExtension.r = true := by decide +kernel                    -- D25
/-! element structs and records with their own write/read pair -/
theorem agree_CpuLinux : agrees CpuLinux.w CpuLinux.r = true := by decide +kernel
theorem agree_CpuWindow : agrees CpuWindow.w CpuWindow.r = true := by decide +kernel
theorem agree_CpuOSX : agrees CpuOSX.w CpuOSX.r = true := by decide +kernel                                   -- D26
theorem agree_MemoryLinux : agrees MemoryLinux.w MemoryLinux.r = true := by decide +kernel
theorem agree_MemoryWindow : agrees MemoryWindow.w MemoryWindow.r = true := by decide +kernel
/-- `DiskPerf.Write` emits the constant 1 where `Read` fills `Count`: `Count` is not carried -/
theorem agree_DiskPerf : agrees DiskPerf.w (DiskPerf.r.forget "Count") = true := by decide +kernel
theorem agree_NetPerf : agrees NetPerf.w (NetPerf.r.forget "Count") = true := by decide +kernel
theorem agree_ProcNetPerf : agrees ProcNetPerf.w ProcNetPerf.r = true := by decide +kernel
theorem agree_ProcFilePerf : agrees ProcFilePerf.w ProcFilePerf.r = true := by decide +kernel
theorem agree_ProcPerf : agrees ProcPerf.w ProcPerf.r = true := by decide +kernel
theorem agree_TCPPortPerf : agrees TCPPortPerf.w TCPPortPerf.r = true := by decide +kernel
theorem agree_SMLogEvent : agrees SMLogEvent.w SMLogEvent.r = true := by decide +kernel
theorem agree_TimeCount : agrees TimeCount.w TimeCount.r = true := by decide +kernel
theorem agree_SqlRec : agrees SqlRec.w SqlRec.r = true := by decide +kernel
theorem agree_HttpcRec : agrees HttpcRec.w HttpcRec.r = true := by decide +kernel
theorem agree_ErrorRec : agrees ErrorRec.w ErrorRec.r = true := by decide +kernel
theorem agree_DownCheckRec : agrees DownCheckRec.w DownCheckRec.r = true := by decide +kernel
/-- transaction records at the three versions in use (2: StatTransactionPack, 4: StatTransactionPack1) -/
theorem agree_TransactionRec_v2 : agrees (TransactionRec.w.subst "version" 2) TransactionRec.r = true := by decide +kernel
theorem agree_TransactionRec_v3 : agrees (TransactionRec.w.subst "version" 3) TransactionRec.r = true := by decide +kernel
theorem agree_TransactionRec_v4 : agrees (TransactionRec.w.subst "version" 4) TransactionRec.r = true := by decide +kernel
/-- … and the reader refuses the old versions 0 and 1, as the writer's comment says -/
theorem TransactionRec_old_refused :
    agrees (TransactionRec.w.subst "version" 1) TransactionRec.r = false ∧
    agrees (TransactionRec.w.subst "version" 0) TransactionRec.r = false := by decide +kernel

/-! ### record lists (`SetRecords*` / `GetRecords`): a 16-bit count, then the records; each obligation follows
    from the record's own (`Packs.agrees_recordsW`) -/
open Packs in
theorem agree_records_SqlRec : agrees (recordsW SqlRec.w) (recordsW SqlRec.r) = true := agrees_recordsW agree_SqlRec
open Packs in
theorem agree_records_HttpcRec : agrees (recordsW HttpcRec.w) (recordsW HttpcRec.r) = true := agrees_recordsW agree_HttpcRec
open Packs in
theorem agree_records_ErrorRec : agrees (recordsW ErrorRec.w) (recordsW ErrorRec.r) = true := agrees_recordsW agree_ErrorRec
open Packs in
theorem agree_records_DownCheckRec : agrees (recordsW DownCheckRec.w) (recordsW DownCheckRec.r) = true :=
  agrees_recordsW agree_DownCheckRec
open Packs in
theorem agree_records_TransactionRec_v2 :
    agrees (recordsW (TransactionRec.w.subst "version" 2)) (recordsW TransactionRec.r) = true :=
  agrees_recordsW agree_TransactionRec_v2
open Packs in
theorem agree_records_TransactionRec_v3 :
    agrees (recordsW (TransactionRec.w.subst "version" 3)) (recordsW TransactionRec.r) = true :=
  agrees_recordsW agree_TransactionRec_v3
open Packs in
theorem agree_records_TransactionRec_v4 :
    agrees (recordsW (TransactionRec.w.subst "version" 4)) (recordsW TransactionRec.r) = true :=
  agrees_recordsW agree_TransactionRec_v4

theorem agree_HitMapPack1 : agrees HitMapPack1.w HitMapPack1.r = true := by decide +kernel
theorem agree_ServiceRec : agrees ServiceRec.w ServiceRec.r = true := by decide +kernel
open Packs in
theorem agree_records_ServiceRec : agrees (recordsW ServiceRec.w) (recordsW ServiceRec.r) = true := agrees_recordsW agree_ServiceRec

/-! ### irregular packs: writer and reader layouts written by hand after the Go functions
    (Golib/Packs/Irregular.lean; tied by the correspondence harness and the statement skeletons) -/

open Packs.Irregular in
theorem agree_CounterPack1 : agrees Packs.Irregular.CounterPack1.w Packs.Irregular.CounterPack1.r = true := by decide +kernel

/-- both sides transcribed: `SMBasePack.w Cpu Memory` (dynamic dispatch: the layouts of the concrete types are
    parameters) pinned to the OS value, against the reader that binds OS and switches on it -/
def smBaseReader : L := SMBasePack.r
/-- SMBasePack for each OS class the reader knows (Cpu/CpuCore/Memory of the matching layout) -/
theorem agree_SMBasePack_linux : agrees ((SMBasePack.w CpuLinux.w MemoryLinux.w).pin "OS" 1) smBaseReader = true := by decide +kernel
theorem agree_SMBasePack_window : agrees ((SMBasePack.w CpuWindow.w MemoryWindow.w).pin "OS" 2) smBaseReader = true := by decide +kernel
theorem agree_SMBasePack_osx : agrees ((SMBasePack.w CpuLinux.w MemoryLinux.w).pin "OS" 3) smBaseReader = true := by decide +kernel
theorem agree_SMBasePack_hpux : agrees ((SMBasePack.w CpuLinux.w MemoryLinux.w).pin "OS" 4) smBaseReader = true := by decide +kernel
theorem agree_SMBasePack_aix : agrees ((SMBasePack.w CpuLinux.w MemoryLinux.w).pin "OS" 5) smBaseReader = true := by decide +kernel
/-- known finding `SMBasePack.OS:unsupported-os`: for OS_SUNOS / OPENBSD / FREEBSD (6, 7, 8) the reader has no
    case: what `Write` emits for Cpu / CpuCore / Memory is not consumed -/
theorem finding_SMBasePack_unsupported_os :
    agrees ((SMBasePack.w CpuLinux.w MemoryLinux.w).pin "OS" 6) smBaseReader = false ∧
    agrees ((SMBasePack.w CpuLinux.w MemoryLinux.w).pin "OS" 7) smBaseReader = false ∧
    agrees ((SMBasePack.w CpuLinux.w MemoryLinux.w).pin "OS" 8) smBaseReader = false := by decide +kernel

theorem agree_StatGeneralPack : agrees Packs.Irregular.StatGeneralPack.l Packs.Irregular.StatGeneralPack.l = true := by decide +kernel
theorem agree_StatGeneralPack1 : agrees Packs.Irregular.StatGeneralPack1.l Packs.Irregular.StatGeneralPack1.l = true := by decide +kernel
theorem agree_StatGeneralTable : agrees Packs.Irregular.StatGeneralTable.l Packs.Irregular.StatGeneralTable.l = true := by decide +kernel

/-! ### no transcribed reader asks whether the input has ended: `Layout.read_prefix_fails` applies to each -/
theorem generated_readers_tailFree : all.all (fun t => t.2.2.tailFree) = true := by decide +kernel
theorem CounterPack1_reader_tailFree : Packs.Irregular.CounterPack1.r.tailFree = true := by decide +kernel
/-- SMBasePack's `Available() == 0` test (C04's documented older-version tail) sits inside the blob the
    whole pack travels in: at the pack level a strict prefix still fails (the blob is cut short) -/
theorem SMBasePack_reader_tailFree : smBaseReader.tailFree = true := by decide +kernel

/-! ### packs whose bodies are transcribed up to a few statements ("gaps", parameters of the generated layout,
    filled in by hand in Golib/Packs/Hand.lean and pinned by their text): both sides must agree -/
theorem agree_TagCountPack : agrees Packs.Hand.TagCountPack.w TagCountPack.r = true := by decide +kernel
theorem agree_TagLogPack : agrees Packs.Hand.TagLogPack.w TagLogPack.r = true := by decide +kernel            -- D22
theorem agree_LogSinkPack : agrees Packs.Hand.LogSinkPack.w LogSinkPack.r = true := Packs.agrees_LogSinkPack
theorem agree_ParamPack : agrees Packs.Hand.ParamPack.w Packs.Hand.ParamPack.r = true := by decide +kernel
theorem agree_ExtensionPack : agrees Packs.Hand.ExtensionPack.w Packs.Hand.ExtensionPack.r = true := by decide +kernel
theorem agree_EventPack_wire : agrees Packs.Hand.EventPack.w Packs.Hand.EventPack.r = true := by decide +kernel

/-! ### the common header, INTERPRETED: the statements of `AbstractPack.Write` / `AbstractPack.Read` as regenerated
    (`AbstractPack.wProg` / `rProg`, xlate/c03/header.go) mean, for every header and every input, exactly the
    model the layout IR uses for `.hdr` (`encHeader` / `decHeader`, Golib/Layout/Header.lean) -/

/-- **writer**: for every header whose fields are in their Go types' ranges, what the transcribed statements
    write is `encHeader h` (the `(Okind | Onode) == 0` test is evaluated as a 32-bit bitwise or: `or32Zero_eq`) -/
theorem header_writer_interpreted (h : Hdr) (wf : h.WF) : AbstractPack.wProg.write h = encHeader h := by
  obtain ⟨_, _, h3, h4, _⟩ := wf
  simp [AbstractPack.wProg, WS.write, Hdr.get, or32Zero_eq _ _ h3 h4, encHeader, Hdr.short]

/-- **reader**, as a decoder program (hence on every input, complete or not): running the transcribed
    statements on an object holding `h0` is `decHeaderInto h0` … -/
theorem header_reader_interpreted (h0 : Hdr) : AbstractPack.rProg.toP nenv0 h0 = decHeaderInto h0 := by
  simp [AbstractPack.rProg, RS.toP, NEnv.set, Hdr.set, decHeaderInto]

/-- … and on a fresh object (what `CreatePack` hands to `Read`) it is the `decHeader` of the layout IR -/
theorem header_reader_fresh : AbstractPack.rProg.toP nenv0 hdr0 = decHeader := by
  rw [header_reader_interpreted, decHeaderInto_fresh]

/-- the writer's transcription is complete (no statement the translator did not know); for the reader an unknown
    statement would make `RS.toP` fail, which `header_reader_interpreted` excludes -/
theorem header_progs_total : AbstractPack.wProg.total = true := by decide +kernel

example : AbstractPack.wProg.write ⟨300, 1, 7, 0, 99⟩ = encHeader ⟨300, 1, 7, 0, 99⟩ :=
  header_writer_interpreted _ (by decide)

/-! ### LogSinkPack's content codec (`GetContentBytes` / `SetContentBytes`, pinned by skeleton) -/
theorem agree_LogSinkContent : agrees Packs.Hand.LogSinkContent.w Packs.Hand.LogSinkContent.r = true := by decide +kernel
theorem LogSinkContent_tailFree : Packs.Hand.LogSinkContent.r.tailFree = true := by decide +kernel
theorem LogSinkContent_known : Packs.Hand.LogSinkContent.w.known = true := by decide +kernel

/-! ### bounded tables: the limits the constructors set (SetMax), as recorded in Golib/Packs/Caps.lean -/
theorem caps_as_recorded : caps = Packs.expectedCaps := by decide +kernel

/-! ### the registry -/

/-- the type tag `WritePack` emits for a registered type selects that same type in `CreatePack` -/
theorem registry_consistent :
    registry.all (fun (code, ty) => packType.lookup ty == some code) = true := by decide +kernel

/-- no type code is listed twice in the factory -/
theorem registry_codes_distinct : (registry.map (·.1)).Nodup := by decide +kernel

/-- pack types that declare a type code the factory maps to *another* type (or to nothing) -/
def unregistered : List String :=
  (packType.filter (fun (ty, code) => registry.lookup code != some ty)).map (·.1)

theorem unregistered_types : unregistered =
    ["ProfileStepSplitPack", "SMBasePack", "SMDiskPerfPack", "SMDownCheckPack", "SMExtension",
     "SMLogEventPack", "SMNetPerfPack", "SMPingPack", "SMProcPerfPack", "SMTCPPerfPack",
     "StatTransactionPack", "StatTransactionPack1"] := by decide +kernel

end C03Gen
