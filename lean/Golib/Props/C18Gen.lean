/-
  Property C18 — obligations over the facts regenerated from the source on every run
  (tie A, translator xlate/c18 → Golib/Gen/C18.lean).  Each one is decided by evaluation.
  They hold for the source with the proposed fixes applied; on the unchanged source the ones
  named after D36/D37/D38/D39/D44 fail, which the check reports together with the failing
  inputs the harness exhibits.
-/
import Golib.Gen.C18
import Golib.Conf.FSLemmas
import Golib.Conf.Reload
import Golib.Conf.Observers
import Golib.Conf.FSDur
import Golib.Conf.Write

namespace C18Gen
open Gen.C18 Conf

/-- a read of the map needs the read or the write lock, a store needs the write lock -/
def accessOK : Acc × Held → Bool
  | (.read, .r) | (.read, .w) | (.write, .w) => true
  | _ => false

/-- every call of `f` from a method of FileConfig happens with the write lock held (and there is one) -/
def calledOnlyUnderW (f : String) : Bool :=
  let sites := lockFacts.flatMap (fun mf => mf.calls.filter (fun c => c.1 == f))
  !sites.isEmpty && sites.all (fun c => c.2 == .w)

/-- a method either guards every access itself, or is an unexported helper that takes no lock
    and is only ever called with the write lock held -/
def methodOK (mf : MethodFacts) : Bool :=
  mf.accesses.all accessOK || (!mf.exported && !mf.acquires && calledOnlyUnderW mf.name)

def acquiresOf (f : String) : Bool := lockFacts.any (fun mf => mf.name == f && mf.acquires)
def calleesOf (f : String) : List String :=
  (lockFacts.filter (fun mf => mf.name == f)).flatMap (fun mf => mf.calls.map (·.1))

/-- can a call of `f` end up taking the lock? (call graph of the type, bounded depth; running
    out of fuel counts as "yes") -/
def reachesAcquire : Nat → String → Bool
  | 0, _ => true
  | n + 1, f => acquiresOf f || (calleesOf f).any (reachesAcquire n)

/-- D36: every access to FileConfig.m is under FileConfig.mu (RLock for reads, Lock for stores):
    the hypothesis of `C18.no_torn_read` -/
theorem lock_discipline : lockFacts.all methodOK = true := by decide

/-- the RWMutex is not re-entered: nothing that may take the lock is called while it is held,
    and the observers (who call the getters) run without it -/
theorem no_self_deadlock :
    lockFacts.all (fun mf =>
      mf.calls.all (fun c => c.2 == .none || !reachesAcquire 8 c.1) &&
      mf.callbacks.all (fun h => h == .none)) = true := by decide

/-- D39: DefaultFileParser.Write stores the new content with exactly the call sequence
    `C18.crash_atomic` is about -/
theorem write_sequence_atomic : writeSeq = atomicSeq ∧ writeSeqUnknown = [] := by decide

/-- the replacement file written by DefaultFileParser.Write keeps the modification time the file
    system gave it at the write: nothing in the file sets file times (`os.Chtimes`, `Utimes`, …) — the
    `keepStamp = false` instance of `Conf.writeBackFile`, hypothesis of `C18.own_write_is_loaded` -/
theorem replacement_carries_time_of_write : writeSetsTimes = [] := by decide

/-- interpreted: the call sequence *as regenerated from the source*, run on the file-system models,
    leaves the configuration path with the complete old or new content at every process-stop point
    and after every power loss, for all contents -/
theorem generated_sequence_crash_atomic (old new : Str) :
    (∀ s ∈ crashStates new writeSeq ⟨some old, none⟩, visibleOK old new s) ∧
    (∀ s ∈ dstates new writeSeq (DFS.init old), ∀ c ∈ outcomes s, c = old ∨ c = new) := by
  rw [write_sequence_atomic.1]
  exact ⟨atomicSeq_visible old new none, atomicSeq_durable old new⟩

/-- the errors of WriteString, Sync and Rename are assigned to the function's `err` (not to a
    shadowing variable, not dropped), so the test guarding the rename sees them:
    the `checked = true` flow of `Conf.storeProtocol` (`C18.write_faults_safe`) -/
theorem store_errors_reach_the_guard :
    (["WriteString", "Sync", "Rename"].all fun c =>
      storeErrBindings.any (fun b => b.1 == c) && storeErrBindings.all (fun b => b.1 != c || b.2 == "assign")) = true := by
  decide

/-- the whole map is only ever replaced with the write lock held and refilled before that lock
    is released (one critical section: `C18.no_torn_read` for `.clear :: stores`; two sections
    give `C18.finding_reset_gap`) -/
theorem map_replaced_and_refilled_in_one_section :
    mapReplacements.all (fun r => r.2.1 == .w && r.2.2) = true := by decide

/-- reload takes the file's stamp once, before it reads the file, and never again
    (`Conf.reloadRacing false`; a stamp taken after the read gives `C18.finding_stamp_after_read`) -/
theorem stamp_taken_before_read : statCallsInReload = 1 ∧ stampRecordedBeforeRead = true := by decide

/-- the pass-through test of the code, interpreted: `no '=' ∨ HasPrefix(TrimLeft(line, cutset), p)` for the
    regenerated cutset and prefixes -/
def genPassThrough (l : Str) : Bool :=
  (passThroughNoEq && !l.contains '=') ||
  commentPrefixes.any (fun p => hasPrefix (l.dropWhile (fun c => commentTrimChars.contains c)) p)

theorem comment_test_facts :
    passThroughNoEq = true ∧ commentTrimChars = [' ', '\t', '\x0c'] ∧ commentPrefixes = [['#'], ['!']] := by decide

/-- interpreted obligation: the test the code applies to decide which lines are copied unchanged is,
    for every line, the model's `!l.contains '=' || isCommentLine l` (`Conf.writeLine` with fix-D39b) -/
theorem pass_through_test_is_model (l : Str) :
    genPassThrough l = (!l.contains '=' || isCommentLine l) := by
  obtain ⟨h1, h2, h3⟩ := comment_test_facts
  unfold genPassThrough isCommentLine
  rw [h1, h2, h3]
  have hw : (fun c : Char => [' ', '\t', '\x0c'].contains c) = isWs := by
    funext c
    simp only [isWs, List.contains, List.elem]
    cases (c == ' ') <;> cases (c == '\t') <;> cases (c == '\x0c') <;> rfl
  rw [hw]
  cases hd : l.dropWhile isWs with
  | nil => simp [hasPrefix]
  | cons c t => simp [hasPrefix, isCommentStart]

/-- D44: no properties.Must* call (their error handler terminates the process) -/
theorem no_must_load : mustLoadCalls = [] := by decide

/-- D37: reload compares the modification time in nanoseconds and the size (`Conf.verFull`) -/
theorem version_is_full : mtimeMethod = "UnixNano" ∧ sizeCompared = true := by decide

/-- the "no change" test of reload is built from equalities only: *any* difference of the version
    (older mtime, equal mtime with another size, …) triggers a load, as in `Conf.reload`
    (`c.last == v`) and as `C18.tracks` needs -/
theorem version_test_is_equality :
    sameVersionOps ≠ [] ∧ sameVersionOps.all (fun op => op == "==" || op == "!=") = true := by decide

/-- FileConfig notifies through the caller's observer registry itself, so targets added after the
    configuration was created are notified too (`Conf.Obs`: `run` calls whoever is registered at
    that moment) -/
theorem observer_registry_shared : observerStoredDirectly = true := by decide

/-- the registry is not locked while a target's ApplyConfig runs, so a callback may register
    another observer (or do anything else that takes the registry's lock) without blocking the
    reload goroutine -/
theorem observer_callbacks_outside_lock :
    observerCallbackHeld ≠ [] ∧ observerCallbackHeld.all (fun h => h == .none) = true := by decide

/-- SetValues does not build the new file from the in-memory map (`m` is not touched): it merges
    into what Parser.Read returns at the time of the write, as `Conf.setValuesModel` does -/
theorem setvalues_merges_into_file :
    (lockFacts.filter (fun mf => mf.name == "SetValues")).all (fun mf => mf.accesses.isEmpty) = true ∧
    (lockFacts.any (fun mf => mf.name == "SetValues")) = true := by decide

/-- D38: GetIntSet appends when `err == nil` -/
theorem intset_keeps_valid : intSetErrOp = "==" := by decide

/-- the default table of the model is the one ApplyDefault assigns -/
theorem defaults_table :
    defaultsComplete = true ∧ Gen.C18.defaults.map (fun p => (p.1.toList, p.2.toList)) = Conf.defaults :=
  -- both sides are `List.map` of the same function over a list of string literals: the literal lists are
  -- compared as they stand, no string is turned into characters
  ⟨rfl, rfl⟩

end C18Gen
