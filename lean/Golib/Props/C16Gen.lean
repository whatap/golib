/-
  Property C16, tie A — obligations over the facts regenerated from
  logsink/zip/ZipSendProxyThread.go by `xlate/c16` (Golib/Gen/C16.lean).

  Each `*_agree` theorem says that what the source contains *now* is what the ZipSender model
  (variant `fixed`) was written against (the reference values of Golib.ZipSender.Facts); the
  `*_in_source` theorems then show that the model's decisions are the source's expressions.  A change
  of a constant, of the assignment order in GetInstance, of a flush condition, of the copy at the
  hand-over or of the drain loop makes the corresponding `decide` fail.

  The second half is tie A, interpreted: each `*_interpreted` theorem says that the statement list
  transcribed from the source (run loop, tail of sendAndClear, ZipPack.SetRecords / GetRecords,
  SetTcpClient) is the reference list, and the `*_is_step`, `*_is_source` theorems after it that
  executing the reference list is the model's operation.
-/
import Golib.Gen.C16
import Golib.ZipSender.FactsLoop
import Golib.ZipSender.WireFacts
import Golib.ZipSender.FactsWire
import Golib.Packs.Skeletons

namespace C16Gen
open ZipSender

/-- the `const (…)` block: 5000 ms, 1000, 1024*64 bytes, 100 bytes -/
theorem constants_agree : Gen.C16.constants = defaults := by decide

/-- GetInstance: defaults first, then each option only under `if o.<field> > 0` (D31 repaired);
    this sequence *is* the model's `resolve .fixed` -/
theorem getInstance_assignments_agree :
    Gen.C16.getInstanceAssigns = getInstanceFixed ∧ Gen.C16.getInstanceUnrecognised = [] := by decide

theorem getInstance_resolve (o : Settings) : resolveBy Gen.C16.getInstanceAssigns o = resolve .fixed o := by
  rw [getInstance_assignments_agree.1]; rfl

/-- ApplyConfig: keys and fall-back values -/
theorem applyConfig_keys_agree : Gen.C16.applyConfigKeys = refConfigKeys := rfl

/-- Append: `if firstTime == 0 { firstTime = p.Time; if C1 {flush} } else { if C2 {flush} }` -/
theorem append_conditions_agree : Gen.C16.appendShape = refAppend := by decide

theorem sendAndClear_guard_agrees : Gen.C16.sendAndClearGuard = refSendAndClearGuard := by decide

theorem doZip_guards_agree : Gen.C16.doZipGuards = refDoZipGuards := by decide

theorem sendDirect_conditions_agree :
    Gen.C16.directLoopCond = refDirectLoop ∧ Gen.C16.directTailCond = refDirectTail := by decide

/-- all three hand-over sites pass a view of a `bytes.Buffer` through doZip and reuse the buffer … -/
theorem handover_sites_agree : Gen.C16.handOvers = refHandOvers := rfl

/-- … and doZip leaves no view behind: small payloads are copied, large ones replaced by gzip
    output (D32 repaired) — the model's `copyOnHandOver` -/
theorem handover_owned_agrees :
    (Gen.C16.handOvers.all (·.doZipBefore) && Gen.C16.doZipSmallCopies && Gen.C16.doZipZippedFresh)
      = Variant.fixed.copyOnHandOver := by decide

/-- run: the Done branch drains the queue before the last flush (D33 repaired); the idle
    branch flushes -/
theorem run_loop_agrees :
    Gen.C16.runDoneDrains = Variant.fixed.drainOnStop ∧ Gen.C16.runDoneFlushes = true ∧
    Gen.C16.runIdleFlushes = true := by decide

/-! ### the condition expressions, interpreted: the model's decisions are the *source's* expressions
    evaluated in the state (`Cnd.eval` of Golib.ZipSender.Facts), for every state and record -/

section
variable {ρ : Type}

/-- `ApplyConfig` as transcribed (setting ← GetInt(key, fall-back), in source order) computes, for every
    configuration, exactly the settings the model's `applyConfig` installs -/
theorem applyConfig_in_source (c : Conf) (s : Settings) :
    applyKeys Gen.C16.applyConfigKeys c.lookup s = c.resolve := by
  rw [applyConfig_keys_agree]
  simp [applyKeys, refConfigKeys, Conf.lookup, Settings.set, Conf.resolve, confFallback]

/-- … and the transcription is faithful to the control flow: the body of ApplyConfig is the straight line
    `lock; queueSize := …; if changed { set; resize the queue if there is one }; three assignments` — every
    other statement is recorded as an unrecognised row (which `applyConfig_keys_agree` rejects), and
    there is no `return` that could skip the settings that follow -/
theorem applyConfig_no_early_exit : Gen.C16.applyConfigReturns = 0 := by decide

/-- `Append` flushes exactly when the source's condition — the `firstTime == 0` split, then the size
    test or the size-or-age test — evaluates to true after the write -/
theorem append_decision_in_source (C : Codec ρ) (s : State ρ) (r : ρ) :
    mustFlush C s r ↔
      (if Gen.C16.appendShape.split.eval (appendEnv C s r) then Gen.C16.appendShape.first.eval (appendEnv C s r)
       else Gen.C16.appendShape.other.eval (appendEnv C s r)) = true := by
  rw [append_conditions_agree]
  unfold mustFlush
  simp only [refAppend, Cnd.eval, T.eval, appendEnv]
  by_cases h0 : s.firstTime = 0
  · simp [h0]
  · simp [h0]

/-- `sendAndClear` hands nothing over exactly when the source's guard (`buffer.Len() == 0`) holds -/
theorem sendAndClear_guard_in_source (v : Variant) (Z : Zip) (C : Codec ρ) (s : State ρ) :
    (sendAndClear v Z C s).2 = [] ↔
      Gen.C16.sendAndClearGuard.eval { Env.zero with bufLen := s.bufLen } = true := by
  rw [sendAndClear_guard_agrees, sendAndClear_emits]
  simp [refSendAndClearGuard, Cnd.eval, T.eval]

/-- a pack is compressed exactly when none of `doZip`'s early-return guards (status already set,
    `len(p.Records) < zipMin`) fires -/
theorem doZip_decision_in_source (v : Variant) (Z : Zip) (st : Settings) (src : Src) (alias : Ref) (recs : List ρ)
    (count : Nat) (bytes : Bytes) :
    (mkPack v Z st src alias recs count bytes).zipped =
      !(Gen.C16.doZipGuards.any (fun c => c.eval { Env.zero with zipMin := st.zipMin, recordsLen := bytes.length })) := by
  rw [doZip_guards_agree]
  simp only [refDoZipGuards, List.any_cons, List.any_nil, Cnd.eval, T.eval, Env.zero]
  fun_cases mkPack <;> simp [*]

/-- `SendDirect` hands a pack over inside its loop exactly when the source's loop condition holds -/
theorem sendDirect_decision_in_source (v : Variant) (Z : Zip) (C : Codec ρ) (st : Settings) (k : Nat) (d : DLoop ρ) (r : ρ) :
    ((directStep v Z C st k d r).out.length = d.out.length + 1) ↔
      Gen.C16.directLoopCond.eval { Env.zero with bufLen := ((d.len + (C.enc r).length : Nat) : Int), maxBuf := st.maxBuf } = true := by
  rw [sendDirect_conditions_agree.1]
  unfold directStep
  simp only [refDirectLoop, Cnd.eval, T.eval, decide_eq_true_eq, ge_iff_le]
  split <;> simp_all

end

/-- D69 repaired: ApplyConfig replaces the settings under `settingsMutex`, and every other reader
    (the background loop, Append, doZip, SendDirect) goes through a getter that takes the read lock —
    no unsynchronised access to the four settings is left (the race detector run of the harness is the
    dynamic counterpart) -/
theorem settings_guarded : Gen.C16.applyConfigLocks = true ∧ Gen.C16.unguardedSettingReads = [] := by decide

/-! ### interpreted obligations: the transcribed statements are given their semantics
    (`execR`, `execS` of Golib.ZipSender.FactsLoop) and are the model's functions for all inputs -/

/-- the transcribed body of `run()` is the reference loop body … -/
theorem run_loop_interpreted : Gen.C16.runIR = refRun := by decide

variable {ρ : Type}

/-- … so executing the source's Done branch *is* the model's `stop` (drain, last flush, return) … -/
theorem run_done_is_stop (Z : Zip) (C : Codec ρ) (s : State ρ) (hs : s.stopped = false) :
    execR .fixed Z C none Gen.C16.runIR.done s = ((stop .fixed Z C s).1, (stop .fixed Z C s).2, true) := by
  rw [run_loop_interpreted]; exact stop_is_execR .fixed Z C s hs

/-- … executing its "GetTimeout returned a record" branch is the model's `step` on a non-empty queue … -/
theorem run_got_is_step (Z : Zip) (C : Codec ρ) (s : State ρ) (r : ρ) (q : List ρ)
    (hs : s.stopped = false) (hq : s.queue = r :: q) :
    execR .fixed Z C (some r) Gen.C16.runIR.got { s with queue := q } =
      ((step .fixed Z C s).1, (step .fixed Z C s).2, false) := by
  rw [run_loop_interpreted]; exact step_got_is_execR .fixed Z C s r q hs hq

/-- … and its else branch (the idle timeout) is `step` on an empty queue; the timeout handed to
    GetTimeout is the waiting time in force -/
theorem run_idle_is_step (Z : Zip) (C : Codec ρ) (s : State ρ) (hs : s.stopped = false) (hq : s.queue = []) :
    execR .fixed Z C none Gen.C16.runIR.idle s = ((step .fixed Z C s).1, (step .fixed Z C s).2, false) ∧
    Gen.C16.runIR.timeout = .maxWait := by
  rw [run_loop_interpreted]; exact ⟨step_idle_is_execR .fixed Z C s hs hq, rfl⟩

/-- the transcribed tail of `sendAndClear` (hand-over, error branch, the three resets) is the
    reference tail … -/
theorem send_tail_interpreted : Gen.C16.sendTail = refTail := by decide

/-- … the model's flush is its semantics … -/
theorem sendAndClear_is_source_tail (Z : Zip) (C : Codec ρ) (s : State ρ) (h : s.bufLen ≠ 0) :
    (sendAndClear .fixed Z C s).1 =
      execS C (s.answers.headD true) Gen.C16.sendTail { s with answers := s.answers.tail } := by
  rw [send_tail_interpreted]; exact sendAndClear_is_execS .fixed Z C s h

/-- … and that semantics does not look at the client's answer: a hand-over is final -/
theorem handover_final_in_source (C : Codec ρ) (s : State ρ) (ok ok' : Bool) :
    execS C ok Gen.C16.sendTail s = execS C ok' Gen.C16.sendTail s := by
  rw [send_tail_interpreted]; exact refTail_ignores_answer C s ok ok'

/-! ### the pack on the wire (regenerated by `xlate/c03` from lang/pack: ZipPack.go, LogSinkPack.go, the CreatePack switch) -/

/-- `GetPackType` of the container and of the records, and the `CreatePack` entries that bring their
    readers back, are the type codes the wire model uses (`Wire.zipCode` = 0x170b, `LogSink.code` = 0x170a) -/
theorem pack_type_codes_in_source :
    Gen.Packs.packType.lookup "ZipPack" = some Wire.zipCode ∧ Gen.Packs.registry.lookup Wire.zipCode = some "ZipPack" ∧
    Gen.Packs.packType.lookup "LogSinkPack" = some LogSink.code ∧
    Gen.Packs.registry.lookup LogSink.code = some "LogSinkPack" := by decide +kernel

/-- `ZipPack.Write` and `ZipPack.Read` as they are in the source now agree field by field (header,
    status byte, decimal record count, blob): the hypothesis under which `transmitted_pack_reads_back`
    and `receiver_end_to_end` speak about the code -/
theorem zip_wire_layouts_agree : Layout.agrees Gen.Packs.ZipPack.w Gen.Packs.ZipPack.r = true := Wire.zip_agrees

/-- … and the writer is the layout the wire model was written against -/
theorem zip_writer_in_source : Gen.Packs.ZipPack.w =
    .hdr (.fld "Status" .u8 .u8 (.fld "RecordCount" .dec .i64 (.fld "Records" .blob .any .nil))) := rfl

/-- `ZipPack.SetRecords` / `GetRecords`: the statement skeletons C03's container model (`Zip.setRecords`,
    `Zip.getRecords`, used by `emitted_is_setRecords` / `receiver_gets_records`) was written against -/
theorem zip_container_skeletons_in_source :
    Gen.Packs.skel.ZipPack_SetRecords = Packs.Skeletons.ZipPack_SetRecords ∧
    Gen.Packs.skel.ZipPack_GetRecords = Packs.Skeletons.ZipPack_GetRecords := ⟨rfl, rfl⟩

/-! ### ZipPack.SetRecords / GetRecords and SetTcpClient, statement by statement (interpreted) -/

theorem zip_setRecords_interpreted : Gen.C16.zipSetRecords = refSetRecords := by decide

/-- the transcribed `SetRecords` *is* C03's `Zip.setRecords` (which `emitted_is_setRecords` is about),
    for every receiver and every argument -/
theorem zip_setRecords_is_source (z : Packs.Zip) (ps : List Packs.PV) :
    execSet ps Gen.C16.zipSetRecords z [] = some (z.setRecords ps) := by
  rw [zip_setRecords_interpreted]
  simp [refSetRecords, execSet, Packs.Zip.setRecords]

theorem zip_getRecords_interpreted : Gen.C16.zipGetRecords = refGetRecords := rfl

/-- the transcribed `GetRecords` (nil guard, `RecordCount` rounds of `ReadPack`, the four stamps, append)
    *is* C03's `Zip.getRecords` (which `receiver_gets_records` / `receiver_end_to_end` are about), for
    every factory and every container -/
theorem zip_getRecords_is_source (fac : Packs.Factory) (z : Packs.Zip) :
    execGet fac z Gen.C16.zipGetRecords ⟨[], []⟩ = Packs.Zip.getRecords fac z := by
  rw [zip_getRecords_interpreted]
  simp only [refGetRecords, execGet, Packs.Zip.getRecords, and_self, if_true, stampWith_ref]
  cases Packs.readPacks fac z.count z.records <;> rfl

theorem setTcpClient_interpreted : Gen.C16.setTcpClient = refSetTcpClient := by decide

/-- the transcribed `SetTcpClient` is the `setClient` input of the model (`crun_setClient`): the client
    becomes the argument, the sender's state is untouched, nothing is handed over -/
theorem setTcpClient_is_source {ρ : Type} (s : State ρ) (k k' : Nat) :
    execClient k' Gen.C16.setTcpClient (s, k) = some ((s, k'), []) := by
  rw [setTcpClient_interpreted]; rfl

end C16Gen
