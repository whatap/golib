/-
  Property C16 — log-sink zip batching emits every record exactly once, in order, decodably.

  Statements about the CodeModel `Golib.ZipSender.Model` of logsink/zip/ZipSendProxyThread.go.
  The general theorems they are read off (`history_feeds`, `run_invariant`, `run_core`, `loop_refines`,
  `crun_erase`, `decode_built`, `unwire_wire`, the closed forms of `sendAndClear` and `Append`) are in
  `Golib.ZipSender.{Lemmas,History,Theorems,Answers,Loop,Timing,Client,LogSink,WireFacts}`;
  the proofs here instantiate and combine them.

  The model is tied to the Go code by the correspondence harness `harness/c16` (tie B: real
  sender, recording and faulting client, stepped and free-running background loop) and by the
  regenerated facts of `Golib.Gen.C16` (tie A, interpreted: see Golib/Props/C16Gen.lean).

  `Variant.fixed` is the repaired code (D31 defaults kept, D32 uncompressed payload copied at
  hand-over, D33 queue drained on stop); `Variant.asFound` is the code as found and carries the
  `finding_*` witnesses; `Variant.returnOnError` is the seeded regression "sendAndClear returns when
  SendFlush fails", `Variant.countFirst` the seeded regression "packCount += 1 before the write".
  Theorems quantified over `v` need `hr : v.sound = true` (a transmission error is logged and the
  batch reset anyway; the count follows the write; true for `fixed` and `asFound` by `rfl`).

  Every theorem about a fresh sender quantifies over `ans`, the client's answers to the hand-overs
  to come: a faulting client is part of every statement.

  Assumptions appear as structures/hypotheses, never as axioms:
    `Unzip Z`     gzip round-trips (compress/gzip, not modelled) — the only assumption left in
                  `decodable_logsink`, where the record codec is the real LogSinkPack layout (C03)
    `Decoder C`   (generic form only) a record codec that round-trips
    `∀ r, C.enc r ≠ []`  a record's encoding is not empty (proved for the LogSinkPack layout)
-/
import Golib.ZipSender.Theorems
import Golib.ZipSender.Answers
import Golib.ZipSender.Loop
import Golib.ZipSender.LogSink
import Golib.ZipSender.Timing
import Golib.ZipSender.WireFacts
import Golib.ZipSender.Client

namespace C16
open ZipSender
open Prim (encMany)

variable {ρ : Type} (v : Variant) (Z : Zip) (C : Codec ρ) (hr : v.sound = true)

example : Variant.fixed.sound = true ∧ Variant.asFound.sound = true := ⟨rfl, rfl⟩

/-! ### every record exactly once, in order -/

include hr in
/-- For every history from a fresh sender, every behaviour `ans` of the client and whichever
    records fail to serialise (`C.fails`: `Append` recovers from the panic and drops them): the queue
    is FIFO and loses nothing it accepted (`deq ++ queue = accepted`); `fed`, the records that reached
    `Append`, is an order-preserving merge of what the loop dequeued and what was appended directly;
    and the emitted batches followed by the batch under construction are exactly the serialisable
    records of `fed` — nothing lost, duplicated or reordered, and a dropped record leaves no trace. -/
theorem exactly_once_in_order (st : Settings) (ans : List Bool) (h : List (In ρ)) :
    ∃ deq fed, deq ++ (final v Z C (init st ans) h).queue = accepted v Z C (init st ans) h ∧
      Interleave deq (directAppends h) fed ∧
      sharedRecs (emitted v Z C (init st ans) h) ++ (final v Z C (init st ans) h).buf.reverse = good C fed := by
  obtain ⟨deq, fed, h1, h2, h3⟩ := history_feeds v Z C hr h (init st ans)
  exact ⟨deq, fed, by simpa [init] using h1, h2, by simpa [init] using h3.recs⟩

include hr in
/-- queue path alone (the sender used through `Add` only): emitted ++ buffered ++ queued =
    accepted, as lists, restricted to the records that serialise -/
theorem exactly_once_queue_path (st : Settings) (ans : List Bool) (h : List (In ρ)) (hq : directAppends h = []) :
    sharedRecs (emitted v Z C (init st ans) h) ++ (final v Z C (init st ans) h).buf.reverse
      ++ good C (final v Z C (init st ans) h).queue = good C (accepted v Z C (init st ans) h) := by
  obtain ⟨deq, fed, h1, h2, h3⟩ := exactly_once_in_order v Z C hr st ans h
  rw [hq] at h2
  rw [h3, h2.nil_right, ← good_append, h1]

include hr in
/-- `Append` path alone (the sender used without its queue): emitted ++ buffered = the
    serialisable ones of the appended records -/
theorem exactly_once_append_path (st : Settings) (ans : List Bool) (h : List (In ρ))
    (hq : accepted v Z C (init st ans) h = []) :
    sharedRecs (emitted v Z C (init st ans) h) ++ (final v Z C (init st ans) h).buf.reverse
      = good C (directAppends h) := by
  obtain ⟨deq, fed, h1, h2, h3⟩ := exactly_once_in_order v Z C hr st ans h
  rw [hq] at h1
  have : deq = [] := (List.append_eq_nil_iff.mp h1).1
  rw [this] at h2
  rw [h3, h2.nil_left]

include hr in
/-- **a failing append is a no-op**: a record whose serialisation panics (nil Tags, nil pack, an
    element of the wrong type on the queue) leaves the batch — buffer, count, first time — exactly as
    it was and hands nothing over -/
theorem append_fail_noop (s : State ρ) (r : ρ) (hf : C.fails r = true) : appendRec v Z C s r = (s, []) :=
  ZipSender.append_fail_noop v Z C s r hr hf

/-- the regression "packCount += 1 before WritePack" (seeded, not in the code): the dropped record is
    counted; here it was alone in its batch, the empty buffer is not flushed, and the surplus leaks
    into the next pack, whose count (2) exceeds its records (1) -/
theorem finding_count_first_miscounts :
    (emitted .countFirst ⟨fun b => 31 :: b⟩ (⟨(·.2), (·.1), fun r => r.2.isEmpty⟩ : Codec (Int × Bytes)) (init defaults)
      [.append (1000, []), .step, .append (1001, [7]), .step]).map (fun p => (p.count, p.recs.length)) = [(2, 1)] := by
  decide +kernel

include hr in
/-- `SendDirect`: the packs it hands over hold exactly its arguments, in order -/
theorem exactly_once_direct (hne : ∀ r, C.enc r ≠ []) (s : State ρ) (h : List (In ρ)) :
    directRecs (emitted v Z C s h) = directSent h :=
  let ⟨_, _, _, _, hf⟩ := history_feeds v Z C hr h s
  hf.direct hne

/-- once the (repaired) sender is stopped, every serialisable record accepted or appended before
    has been emitted: the emitted records are the good ones of a merge of the two streams -/
theorem all_emitted_at_stop (hne : ∀ r, C.enc r ≠ []) (st : Settings) (ans : List Bool) (h : List (In ρ))
    (hs : (final .fixed Z C (init st ans) h).stopped = false) :
    ∃ fed, Interleave (accepted .fixed Z C (init st ans) (h ++ [.stop])) (directAppends h) fed ∧
      sharedRecs (emitted .fixed Z C (init st ans) (h ++ [.stop])) = good C fed :=
  ZipSender.all_emitted_at_stop .fixed Z C rfl rfl hne st ans h hs

/-! ### acceptance is the C11 queue's answer -/

/-- `Add` is `RequestQueue.Put` of the C11 model (`Golib.Queue.Seq`): same content afterwards,
    same answer, `accepted` / `failed` event; a full queue refuses the newcomer and keeps the rest -/
theorem add_is_queue_put (key : ρ → Nat) (s : State ρ) (r : ρ) :
    Queue.step (qAbs key s) (.put (key r)) =
      (qAbs key (add s r).1, .bool (canPut s),
       [if canPut s then Queue.Ev.accepted (key r) else Queue.Ev.failed (key r)]) :=
  add_refines_put key s r

/-- what the loop takes out is what the C11 queue's `GetTimeout` delivers (handles are non-nil) -/
theorem dequeue_is_queue_getTimeout (key : ρ → Nat) (s : State ρ) (k : Nat) (hk : ∀ r ∈ s.queue, key r ≠ 0) :
    Queue.step (qAbs key s) (.getTimeout k) =
      match s.queue with
      | [] => (qAbs key s, .val 0, [])
      | r :: q => (qAbs key { s with queue := q }, .val (key r), [.delivered (key r)]) := by
  cases hq : s.queue with
  | nil => exact Queue.step_getTimeout_nil _ k (by simp [qAbs, hq])
  | cons r q =>
    exact Queue.step_getTimeout_cons_ne _ k (key r) (q.map key) (by simp [qAbs, hq]) (hk r (by simp [hq]))

include hr in
/-- exactly-once with acceptance *defined* by the C11 model (`acceptedQ`: the records for which
    `Queue.step … (.put …)` answered `true`) -/
theorem exactly_once_accepted_by_queue (key : ρ → Nat) (st : Settings) (ans : List Bool) (h : List (In ρ))
    (hq : directAppends h = []) :
    sharedRecs (emitted v Z C (init st ans) h) ++ (final v Z C (init st ans) h).buf.reverse
      ++ good C (final v Z C (init st ans) h).queue = good C (acceptedQ key v Z C (init st ans) h) := by
  rw [acceptedQ_eq]; exact exactly_once_queue_path v Z C hr st ans h hq

/-! ### per pack: count, payload, compression flag -/

include hr in
theorem count_matches (st : Settings) (ans : List Bool) (h : List (In ρ)) :
    ∀ p ∈ emitted v Z C (init st ans) h, p.count = p.recs.length :=
  let ⟨_, _, _, _, hf⟩ := history_feeds v Z C hr h (init st ans)
  (hf.wf (WF_init C st ans)).2

include hr in
/-- the payload, after decompression when flagged, decodes back to exactly the pack's records
    (their observations under the decoder) and nothing is left over -/
theorem decodable (U : Unzip Z) (D : Decoder C) (st : Settings) (ans : List Bool) (h : List (In ρ)) :
    ∀ p ∈ emitted v Z C (init st ans) h, (∀ r ∈ p.recs, D.wf r) →
      decodePack U D p = some (p.recs.map D.obs, []) := by
  intro p hp hw
  obtain ⟨st', hb⟩ := emitted_built v Z C hr h (init st ans) p hp
  exact decode_built U D hb (count_matches v Z C hr st ans h p hp) hw

/-- **with the real record format**: records are LogSinkPacks in the wire layout of C03
    (`LogSink.codec`: type code 0x170a, header, Category, TagHash, Tags, Line, Content, optional
    Fields; reader layout regenerated from LogSinkPack.Read).  For every factory that maps the type
    code to that reader, every pack's payload — decompressed when flagged — reads back, with
    `readPack` `count` times, as the carried fields of exactly its records.  The only assumption
    left is `Unzip` (gzip). -/
theorem decodable_logsink (hr : v.sound = true) (U : Unzip Z) (fac : Packs.Factory) (hf : LogSink.Fac fac)
    (st : Settings) (ans : List Bool) (h : List (In Layout.Rec)) :
    ∀ p ∈ emitted v Z LogSink.codec (init st ans) h, (∀ x ∈ p.recs, LogSink.WFRec x) →
      decodePack U (LogSink.decoder fac hf) p = some (p.recs.map (fun x => (LogSink.pv x).carried), []) :=
  decodable v Z LogSink.codec hr U (LogSink.decoder fac hf) st ans h

/-- **"decodably", end to end**: the payload of every emitted pack is — compressed when flagged —
    exactly C03's container encoding `writePacks` of its records (each: 16-bit type code, header,
    body in the LogSinkPack layout), nothing else -/
theorem payload_is_c03_encoding (hr : v.sound = true) (st : Settings) (ans : List Bool) (h : List (In Layout.Rec)) :
    ∀ p ∈ emitted v Z LogSink.codec (init st ans) h,
      p.payload = (if p.zipped then Z.zip (Packs.writePacks (p.recs.map LogSink.pv))
                   else Packs.writePacks (p.recs.map LogSink.pv)) ∧
      p.count = p.recs.length := by
  intro p hp
  obtain ⟨st', hb⟩ := emitted_built v Z LogSink.codec hr h (init st ans) p hp
  rw [← LogSink.encMany_is_writePacks]
  exact ⟨hb.payload, count_matches v Z LogSink.codec hr st ans h p hp⟩

/-- … hence the receiving side — `ZipPack.GetRecords` as modelled and proved in C03
    (`Packs.Zip.getRecords`: read `RecordCount` packs, stamp each with the container's
    Pcode/Oid/Okind/Onode) — obtains exactly the records, in order, for all record contents within
    the writer's guards; gzip's round trip is the single hypothesis -/
theorem receiver_gets_records (hr : v.sound = true) (U : Unzip Z) (fac : Packs.Factory) (hf : LogSink.Fac fac)
    (hdr : Layout.Hdr) (st : Settings) (ans : List Bool) (h : List (In Layout.Rec)) :
    ∀ p ∈ emitted v Z LogSink.codec (init st ans) h, (∀ x ∈ p.recs, LogSink.WFRec x) →
      (if p.zipped then U.unzip p.payload else some p.payload).bind
        (fun raw => Packs.Zip.getRecords fac ⟨hdr, raw, p.count⟩)
      = some (p.recs.map (fun x => Packs.stamp hdr (LogSink.pv x).carried)) := by
  intro p hp hw
  obtain ⟨hpay, hcnt⟩ := payload_is_c03_encoding v Z hr st ans h p hp
  have hz := Packs.zip_records Layout.valueRT fac ⟨hdr, [], 0⟩ (p.recs.map LogSink.pv)
    (fun q hq => by
      obtain ⟨x, hx, rfl⟩ := List.mem_map.mp hq
      exact LogSink.pv_ok fac hf x (hw x hx))
  simp only [Packs.Zip.setRecords, List.length_map, List.map_map, Function.comp_def] at hz
  rw [hpay, hcnt, U.raw]
  exact hz

/-- the tag section travels as it is: the record's `TagHash` field with whatever value the caller
    left in it (0 excepted, see notes) and its `Tags` table — a stale hash does not change the tags
    the receiver decodes (`decodable_logsink` delivers `(pv x).carried`, which holds both) -/
theorem tags_travel_with_any_hash (x : Layout.Rec) :
    ("TagHash", x "TagHash") ∈ (LogSink.pv x).carried.2 ∧ ("Tags", x "Tags") ∈ (LogSink.pv x).carried.2 := by
  simp [LogSink.pv, Packs.PV.carried, Packs.Hand.LogSinkPack.w, Gen.Packs.LogSinkPack.w, Packs.Hand.tagSection, Layout.L.expect]

/-- the non-emptiness hypothesis of `exactly_once_direct` / `all_emitted_at_stop` holds for it -/
theorem logsink_encoding_nonempty (x : Layout.Rec) : LogSink.codec.enc x ≠ [] := by
  intro h
  have : (LogSink.codec.enc x).length = 0 := by rw [h]; rfl
  simp [LogSink.codec, Packs.writePack, Prim.encI_length] at this

include hr in
/-- compression is applied exactly when the payload reaches the minimum size in force at
    the moment the pack is built (`x.1` = the settings in force, `x.2` = the pack) -/
theorem zipped_iff (s : State ρ) (h : List (In ρ)) :
    ∀ x ∈ (run v Z C s h).2, (x.2.zipped = true ↔ x.1.zipMin ≤ ((encMany C.enc x.2.recs).length : Int)) :=
  fun x hx => (history_built v Z C hr h s x hx).zipped_iff

include hr in
/-- … and without configuration updates the settings in force are the initial ones -/
theorem zipped_iff_const (st : Settings) (ans : List Bool) (h : List (In ρ)) (hc : ∀ i ∈ h, isConfig i = false) :
    ∀ p ∈ emitted v Z C (init st ans) h, (p.zipped = true ↔ st.zipMin ≤ ((encMany C.enc p.recs).length : Int)) := by
  intro p hp
  obtain ⟨x, hx, rfl⟩ := List.mem_map.mp hp
  have := zipped_iff v Z C hr (init st ans) h x hx
  rwa [(settings_const v Z C hr h (init st ans) hc).2 x hx] at this

/-! ### flush conditions -/

include hr in
/-- `Append`: the batch is flushed as soon as the buffer size in force is reached or the
    record is at least the waiting time in force younger than the first one of the batch -/
theorem flush_on_append (s : State ρ) (r : ρ) (hok : C.fails r = false)
    (hm : s.settings.maxBuf ≤ ((s.bufLen + (C.enc r).length : Nat) : Int) ∨
          (s.firstTime ≠ 0 ∧ s.settings.maxWait ≤ C.time r - s.firstTime)) :
    (appendRec v Z C s r).1.bufLen = 0 ∧
    (0 < s.bufLen + (C.enc r).length →
      (appendRec v Z C s r).1.buf = [] ∧ (appendRec v Z C s r).2.map (·.recs) = [s.buf.reverse ++ [r]]) := by
  have hm : mustFlush C s r := hm
  rw [appendRec_ok v Z C s r hok, if_pos hm]
  refine ⟨sendAndClear_bufLen v Z C hr _, fun hpos => ?_⟩
  have hne : (appended C s r).bufLen ≠ 0 := Nat.ne_of_gt hpos
  rw [sendAndClear_eq v Z C hr, if_neg hne]
  simp [appended, flushed, flushPack]

/-- … and only then: otherwise the record is buffered and nothing is handed over -/
theorem no_flush_below_limits (s : State ρ) (r : ρ) (hok : C.fails r = false)
    (hm : ¬ (s.settings.maxBuf ≤ ((s.bufLen + (C.enc r).length : Nat) : Int) ∨
          (s.firstTime ≠ 0 ∧ s.settings.maxWait ≤ C.time r - s.firstTime))) :
    (appendRec v Z C s r).2 = [] ∧ (appendRec v Z C s r).1.buf = r :: s.buf := by
  have hm : ¬ mustFlush C s r := hm
  rw [appendRec_ok v Z C s r hok, if_neg hm]; exact ⟨rfl, rfl⟩

include hr in
/-- the idle timeout of the queue flushes the batch -/
theorem flush_on_idle (s : State ρ) (hs : s.stopped = false) (hq : s.queue = []) :
    (step v Z C s).1.bufLen = 0 := by
  rw [step_idle v Z C s hs hq]; exact sendAndClear_bufLen v Z C hr s

/-- stopping flushes the batch, and (repaired code) first drains the queue into it -/
theorem flush_on_stop (s : State ρ) (hs : s.stopped = false) :
    (stop .fixed Z C s).1.bufLen = 0 ∧ (stop .fixed Z C s).1.queue = [] ∧ (stop .fixed Z C s).1.stopped = true :=
  ⟨stop_flushes .fixed Z C s rfl hs, stop_drains .fixed Z C rfl s rfl hs, stop_stopped .fixed Z C s⟩

include hr in
/-- "no bytes buffered" means "no records buffered" when encodings are non-empty -/
theorem flushed_means_empty (hne : ∀ r, C.enc r ≠ []) (st : Settings) (ans : List Bool) (h : List (In ρ))
    (h0 : (final v Z C (init st ans) h).bufLen = 0) : (final v Z C (init st ans) h).buf = [] :=
  let ⟨_, _, _, _, hf⟩ := history_feeds v Z C hr h (init st ans)
  buf_nil_of_len C hne _ (hf.wf (WF_init C st ans)).1 h0

/-! ### a hand-over is final: the client's answer changes nothing -/

include hr in
/-- two runs that differ only in what the client answers (`a`, `a'`: any streams of
    ok / transmission error) hand over the same packs, paired with the same settings, and end in the
    same state up to the answers not yet consumed — a failed hand-over is neither repeated nor taken back -/
theorem hand_over_final (st : Settings) (a a' : List Bool) (h : List (In ρ)) :
    (run v Z C (init st a) h).2 = (run v Z C (init st a') h).2 ∧
    Sim (run v Z C (init st a) h).1 (run v Z C (init st a') h).1 := by
  -- both runs are the run from the common state without answers (`run_core`)
  have e := run_core v Z C hr h (init st a)
  rw [show (init st a).core = (init st a').core from rfl, run_core v Z C hr h (init st a')] at e
  exact ⟨(congrArg Prod.snd e).symm, (congrArg Prod.fst e).symm⟩

/-- the regression "return before the reset when SendFlush fails" (seeded, not in the code):
    the batch whose hand-over failed is handed over a second time inside the next pack -/
theorem finding_return_on_error_duplicates :
    sharedRecs (emitted .returnOnError ⟨fun b => 31 :: b⟩ (⟨(·.2), (·.1), fun _ => false⟩ : Codec (Int × Bytes)) (init defaults [false])
      [.append (1000, [1]), .step, .append (1001, [2]), .step]) = [(1000, [1]), (1000, [1]), (1001, [2])] := by
  decide +kernel

/-! ### a pack that has been handed over never changes -/

/-- repaired code: every emitted pack owns its bytes … -/
theorem handed_over_owned (s : State ρ) (h : List (In ρ)) :
    ∀ p ∈ emitted .fixed Z C s h, p.ref = .owned :=
  fun p hp => let ⟨_, hb⟩ := emitted_built .fixed Z C rfl h s p hp; hb.owned (.inl rfl)

/-- … hence whatever happens later (`h'`), a client that retained the pack still reads the
    payload it was handed -/
theorem handed_over_immutable (st : Settings) (ans : List Bool) (h h' : List (In ρ)) :
    ∀ p ∈ emitted .fixed Z C (init st ans) h, view C (final .fixed Z C (init st ans) (h ++ h')) p = p.payload :=
  fun p hp => by unfold view; rw [handed_over_owned Z C (init st ans) h p hp]

/-- code as found: compressed packs are safe (gzip allocates), and an aliased pack is intact
    at the moment of the hand-over — the damage comes later (`finding_D32`) -/
theorem found_zipped_owned (s : State ρ) (h : List (In ρ)) :
    ∀ p ∈ emitted .asFound Z C s h, p.zipped = true → p.ref = .owned :=
  fun p hp hz => let ⟨_, hb⟩ := emitted_built .asFound Z C rfl h s p hp; hb.owned (.inr hz)

theorem found_intact_at_handover (s : State ρ) :
    ∀ p ∈ (sendAndClear .asFound Z C s).2, view C (sendAndClear .asFound Z C s).1 p = p.payload :=
  view_at_handover .asFound Z C s rfl

/-! ### the real background loop: every schedule is a history -/

include hr in
/-- `run()` as an action machine (program counter `top` / `polling n` / `exited`; producers,
    configuration updates and the cancellation interleave freely with its `select` and `poll`
    actions; the cancellation is noticed only at the `select`): every execution hands over exactly
    the packs, and reaches exactly the sender state, of the atomic-action history `absHist` —
    so every theorem of this file about histories holds for every schedule of the real loop -/
theorem loop_refines (st : Settings) (ans : List Bool) (as : List (Act ρ)) :
    (lrun v Z C (linit st ans) as).1.core = final v Z C (init st ans) (absHist v Z C (linit st ans) as) ∧
    (lrun v Z C (linit st ans) as).2 = emitted v Z C (init st ans) (absHist v Z C (linit st ans) as) :=
  let r := ZipSender.loop_refines v Z C hr as (linit st ans) (LInv_init st ans)
  ⟨r.1, r.2.1⟩

include hr in
/-- exactly once and in order, counts, over the schedules of the loop itself -/
theorem loop_exactly_once (st : Settings) (ans : List Bool) (as : List (Act ρ)) :
    sharedRecs (lrun v Z C (linit st ans) as).2 ++ (lrun v Z C (linit st ans) as).1.core.buf.reverse
      ++ good C (lrun v Z C (linit st ans) as).1.core.queue
      = good C (accepted v Z C (init st ans) (absHist v Z C (linit st ans) as)) ∧
    ∀ p ∈ (lrun v Z C (linit st ans) as).2, p.count = p.recs.length := by
  obtain ⟨h1, h2⟩ := loop_refines v Z C hr st ans as
  rw [h1, h2]
  exact ⟨exactly_once_queue_path v Z C hr st ans _ (absHist_no_append v Z C as _),
         count_matches v Z C hr st ans _⟩

include hr in
/-- **the waiting-time clause over arbitrary clock readings**: the loop at its `select` reads the clock
    (`t0`) and enters GetTimeout with the waiting time in force; nothing is queued and the producers
    are silent; the rounds read the clock at arbitrary values `nows` before the deadline (the clock may
    stand still or jump back) and then at some `t1` at or after it.  The batch is flushed in that last
    round and not before, and `t1 - t0` is at least the waiting time in force. -/
theorem loop_idle_timeout_flushes (l : LState ρ) (t0 t1 : Int) (nows : List Int) (hpc : l.pc = .top)
    (hc : l.cancelled = false) (hq : l.core.queue = [])
    (hb : ∀ n ∈ nows, n < t0 + l.core.settings.maxWait) (hd : t0 + l.core.settings.maxWait ≤ t1) :
    let r := lrun v Z C l (.select t0 :: (nows.map .poll ++ [.poll t1]))
    r.1.core.bufLen = 0 ∧ r.1.pc = .top ∧ r.2 = (sendAndClear v Z C l.core).2 ∧
    t1 - t0 ≥ l.core.settings.maxWait := by
  have h1 := select_sets_deadline v Z C l t0 hpc hc
  generalize hl1 : ({ l with pc := .polling (t0 + l.core.settings.maxWait) } : LState ρ) = l1 at h1
  have hq1 : l1.core.queue = [] := by rw [← hl1]; exact hq
  have hp1 : l1.pc = .polling (t0 + l.core.settings.maxWait) := by rw [← hl1]
  have hcore : l1.core = l.core := by rw [← hl1]
  have h2 := no_flush_before_deadline v Z C nows l1 _ hp1 hq1 hb
  have h3 := (idle_flush_iff_due v Z C l1 _ t1 hp1 hq1).1 hd
  simp only [lrun, h1, lrun_snoc, h2, h3, List.nil_append, hcore]
  exact ⟨sendAndClear_bufLen v Z C hr l.core, trivial, trivial, by omega⟩

/-- the idle flush, both directions, for one round of GetTimeout: with nothing queued the round that
    reads the clock `now` flushes exactly when `timeto ≤ now`; earlier rounds change nothing -/
theorem loop_idle_flush_iff_due (l : LState ρ) (timeto now : Int) (hpc : l.pc = .polling timeto) (hq : l.core.queue = []) :
    (timeto ≤ now → lstep v Z C l (.poll now) =
        ({ l with core := (sendAndClear v Z C l.core).1, pc := .top }, (sendAndClear v Z C l.core).2)) ∧
    (now < timeto → lstep v Z C l (.poll now) = (l, [])) :=
  idle_flush_iff_due v Z C l timeto now hpc hq

/-- GetTimeout always returns once the clock has reached the deadline, whatever happened before -/
theorem loop_due_poll_returns (l : LState ρ) (timeto now : Int) (hpc : l.pc = .polling timeto) (hd : timeto ≤ now) :
    (lstep v Z C l (.poll now)).1.pc = .top := by
  have : timeto - now ≤ 0 := by omega
  cases hq : l.core.queue <;> simp [lstep, hpc, hq, this]

include hr in
/-- **the size and time clauses over whole histories, across configuration updates**: take ANY history `h` — configuration updates anywhere in it —
    that ends with nothing buffered (at the start, or right after a flush by size, by time, by the idle
    timeout), and any continuation `h'` without a further update: in the state reached the batch under
    construction is within the buffer limit and the waiting time *in force*, i.e. those the last update
    of `h` put in force (`lim`).  (While a batch is under construction an update may lower the limits
    below what is already buffered; the code re-examines the batch at the next `Append`, which is what
    `flush_on_append` states for arbitrary settings.)  A record with time 0 does not start the count of the
    waiting time — the code's sentinel. -/
theorem batch_within_limits_after_reconfig (hne : ∀ r, C.enc r ≠ []) (st : Settings) (ans : List Bool) (h h' : List (In ρ))
    (h0 : (final v Z C (init st ans) h).bufLen = 0) (hc : ∀ i ∈ h', isConfig i = false) :
    let lim := (final v Z C (init st ans) h).settings
    let s := final v Z C (init st ans) (h ++ h')
    ((s.bufLen : Int) < lim.maxBuf ∨ s.bufLen = 0) ∧
    (s.firstTime = 0 → ∀ r ∈ s.buf, C.time r = 0) ∧
    (s.firstTime ≠ 0 → ∀ r ∈ s.buf, C.time r = 0 ∨ C.time r = s.firstTime ∨ C.time r - s.firstTime < lim.maxWait) := by
  intro lim s
  have hb := history_BInv v Z C hr hne h' _ hc (BInv_empty C _ (flushed_means_empty v Z C hr hne st ans h h0) h0)
  have hs := (settings_const v Z C hr h' (final v Z C (init st ans) h) hc).1
  rw [← final_append] at hb hs
  unfold BInv at hb
  rw [hs] at hb
  exact hb

include hr in
/-- **… without configuration updates** (the case `h = []`; any client answers, any failing records): in
    every reachable state the batch under construction is below the buffer limit in force (or empty), and
    every record in it is younger than the waiting time in force, counted from the batch's first record
    (`firstTime`) -/
theorem batch_within_limits (hne : ∀ r, C.enc r ≠ []) (st : Settings) (ans : List Bool) (h : List (In ρ))
    (hc : ∀ i ∈ h, isConfig i = false) :
    let s := final v Z C (init st ans) h
    ((s.bufLen : Int) < st.maxBuf ∨ s.bufLen = 0) ∧
    (s.firstTime = 0 → ∀ r ∈ s.buf, C.time r = 0) ∧
    (s.firstTime ≠ 0 → ∀ r ∈ s.buf, C.time r = 0 ∨ C.time r = s.firstTime ∨ C.time r - s.firstTime < st.maxWait) :=
  batch_within_limits_after_reconfig v Z C hr hne st ans [] h rfl hc

/-- cancellation (repaired code): at its next `select` the loop drains the queue into the last
    batch, flushes it and returns -/
theorem loop_cancel_exits (l : LState ρ) (k : Int) (hi : LInv l) (hpc : l.pc = .top) (hc : l.cancelled = true) :
    let l' := (lstep .fixed Z C l (.select k)).1
    l'.pc = .exited ∧ l'.core.queue = [] ∧ l'.core.bufLen = 0 ∧ l'.core.stopped = true :=
  cancel_exits .fixed Z C rfl rfl l k hi hpc hc

/-- **the stop clause over the schedules of the real loop** (repaired code): after ANY schedule `as` —
    producers, SendDirect callers, configuration updates, clock readings interleaved at will — that leaves
    the loop at its `select` with the context cancelled, the next `select` exits the loop, and at that
    moment the shared packs handed over hold exactly the serialisable records the queue ever accepted,
    in order: nothing is left in the queue or in the batch -/
theorem loop_exit_emits_everything (hne : ∀ r, C.enc r ≠ []) (st : Settings) (ans : List Bool) (as : List (Act ρ)) (k : Int)
    (hpc : (lrun .fixed Z C (linit st ans) as).1.pc = .top) (hc : (lrun .fixed Z C (linit st ans) as).1.cancelled = true) :
    (lrun .fixed Z C (linit st ans) (as ++ [.select k])).1.pc = .exited ∧
    sharedRecs (lrun .fixed Z C (linit st ans) (as ++ [.select k])).2 =
      good C (accepted .fixed Z C (init st ans) (absHist .fixed Z C (linit st ans) (as ++ [.select k]))) :=
  exit_emits_everything .fixed Z C rfl rfl hne st ans as k hpc hc

/-- the verification hook `StepForVerif` that the deterministic harness drives is exactly one
    iteration of the modelled loop in which the first round already finds the deadline reached -/
theorem hook_step_is_loop_body (l : LState ρ) (t : Int) (hi : LInv l) (hpc : l.pc = .top) (hc : l.cancelled = false) :
    lrun v Z C l [.select t, .poll (t + l.core.settings.maxWait)] = hookStep v Z C l := by
  have hs : l.core.stopped = false := hi (by rw [hpc]; exact PC.noConfusion)
  unfold hookStep
  simp only [hc, Bool.false_eq_true, if_false, lrun, lstep, hpc]
  cases hq : l.core.queue with
  | cons r q => simp [step_got v Z C l.core r q hs hq]
  | nil => simp [step_idle v Z C l.core hs hq]

/-! ### the pack on the wire and at the receiver (ZipPack.Write / Read / GetRecords / SetRecords) -/

/-- **ZipPack.Write → ZipPack.Read**: the client transmits the pack with `pack.WritePack` (type code
    0x170b, header, status byte, decimal record count, blob); whatever header `hdr` the transmitting side
    stamped it with and whatever follows in the stream (`rest`), `pack.ReadPack` — with the reader layout
    regenerated from `ZipPack.Read` — delivers the same header, status, record count and payload, and
    leaves `rest`.  Guards: the Go field ranges (count an int64, payload a blob below 2 GiB). -/
theorem transmitted_pack_reads_back (fac : Packs.Factory) (hf : Wire.FacZ fac) (hdr : Layout.Hdr) (hh : hdr.WF)
    (p : Pack ρ) (rest : Bytes) (hc : (p.count : Int) < 9223372036854775808) (hl : p.payload.length < 2147483648) :
    Wire.unwire fac (Wire.wirePack hdr p ++ rest) = some (⟨hdr, Wire.statusOf p, p.count, p.payload⟩, rest) :=
  Wire.unwire_wire fac hf hdr _ _ _ rest (Wire.wfZip_pack hdr p hh hc hl)

/-- **end to end, through the wire**: every pack the sender emits (records = LogSinkPacks in C03's
    layout), transmitted with `WritePack`, received with `ReadPack`, decompressed when `Status == ZIPPED`
    and opened with `ZipPack.GetRecords`, yields exactly the sender's records of that pack, in order,
    each stamped with the container's Pcode/Oid/Okind/Onode — for every history, every client answer,
    every settings, any trailing bytes.  Hypotheses: gzip round-trips (`Unzip`), the records are within
    the writer's guards, the Go field ranges of the container. -/
theorem receiver_end_to_end (hr : v.sound = true) (U : Unzip Z) (fac : Packs.Factory) (hf : LogSink.Fac fac)
    (hz : Wire.FacZ fac) (hdr : Layout.Hdr) (hh : hdr.WF) (st : Settings) (ans : List Bool)
    (h : List (In Layout.Rec)) (rest : Bytes) :
    ∀ p ∈ emitted v Z LogSink.codec (init st ans) h, (∀ x ∈ p.recs, LogSink.WFRec x) →
      (p.count : Int) < 9223372036854775808 → p.payload.length < 2147483648 →
      Wire.receive U fac (Wire.wirePack hdr p ++ rest)
        = some (p.recs.map (fun x => Packs.stamp hdr (LogSink.pv x).carried), rest) := by
  intro p hp hw hc hl
  rw [Wire.receive_wirePack U fac hz hdr p rest hh hc hl,
    receiver_gets_records v Z hr U fac hf hdr st ans h p hp hw]
  rfl

/-- **ZipPack.SetRecords**: an uncompressed pack of the sender is what `SetRecords(records)` makes of a
    fresh ZipPack (C03's `Zip.setRecords`: `RecordCount = len(items)`, `Records` = the packs written one
    after the other) — the sender's incremental batching and the library's own container writer agree -/
theorem emitted_is_setRecords (hr : v.sound = true) (hdr : Layout.Hdr) (st : Settings) (ans : List Bool)
    (h : List (In Layout.Rec)) :
    ∀ p ∈ emitted v Z LogSink.codec (init st ans) h, p.zipped = false →
      (⟨hdr, p.payload, p.count⟩ : Packs.Zip) = Packs.Zip.setRecords ⟨hdr, [], 0⟩ (p.recs.map LogSink.pv) := by
  intro p hp hz
  obtain ⟨hpay, hcnt⟩ := payload_is_c03_encoding v Z hr st ans h p hp
  simp only [hz, Bool.false_eq_true, if_false] at hpay
  simp only [Packs.Zip.setRecords, List.length_map, hpay, hcnt]

/-! ### SetTcpClient: the client can be replaced at any time -/

/-- forgetting who received what, a history with `SetTcpClient` calls anywhere in it reaches the state
    and hands over the packs (with the settings in force) of the history without them: the switch
    changes nothing but the destination, so **every theorem of this file holds across client switches** -/
theorem set_client_is_transparent (s : State ρ) (k : Nat) (h : List (CIn ρ)) :
    (crun v Z C s k h).1.1 = final v Z C s (erase h) ∧
    (crun v Z C s k h).2.map (fun x => (x.settings, x.pack)) = (run v Z C s (erase h)).2 :=
  crun_erase v Z C h s k

/-- a switch in the middle of any history (`h1`, then `SetTcpClient(c_k')`, then `h2` without switches):
    the hand-overs before it stand, the switch hands nothing over, and every pack handed over afterwards
    — the batch that was under construction included — goes to the new client -/
theorem set_client_switch (s : State ρ) (k k' : Nat) (h1 h2 : List (CIn ρ)) (hn : ∀ i ∈ h2, isSwitch i = false) :
    (crun v Z C s k (h1 ++ .setClient k' :: h2)).2 =
      (crun v Z C s k h1).2 ++ (crun v Z C (crun v Z C s k h1).1.1 k' h2).2 ∧
    (∀ x ∈ (crun v Z C (crun v Z C s k h1).1.1 k' h2).2, x.dest = k') ∧
    (crun v Z C s k (h1 ++ .setClient k' :: h2)).1.2 = k' :=
  crun_switch v Z C h1 h2 k' hn s k

include hr in
/-- exactly once and in order **across all clients**: the records of the shared packs, taken in
    hand-over order whichever client received them, followed by the batch under construction, are the
    serialisable records fed to `Append`, `fed` being a merge of the dequeued and the directly appended ones -/
theorem exactly_once_across_clients (st : Settings) (ans : List Bool) (k : Nat) (h : List (CIn ρ)) :
    ∃ deq fed, deq ++ (crun v Z C (init st ans) k h).1.1.queue = accepted v Z C (init st ans) (erase h) ∧
      Interleave deq (directAppends (erase h)) fed ∧
      sharedRecs (cemitted v Z C (init st ans) k h) ++ (crun v Z C (init st ans) k h).1.1.buf.reverse = good C fed := by
  rw [cemitted_erase, (crun_erase v Z C h (init st ans) k).1]
  exact exactly_once_in_order v Z C hr st ans (erase h)

/-! ### defaults and configuration -/

/-- a sender created without size/time options runs with 5 s, 1000 records, 64 KiB, 100 bytes -/
theorem defaults_in_force : resolve .fixed ⟨0, 0, 0, 0⟩ = ⟨5000, 1000, 65536, 100⟩ := by decide +kernel

theorem defaults_are : defaults = ⟨5000, 1000, 1024 * 64, 100⟩ := rfl

/-- construction in general: a positive option wins, anything else keeps the default -/
theorem options_override (o : Settings) : resolve .fixed o =
    ⟨if o.maxWait > 0 then o.maxWait else 5000, if o.queueCap > 0 then o.queueCap else 1000,
     if o.maxBuf > 0 then o.maxBuf else 65536, if o.zipMin > 0 then o.zipMin else 100⟩ := by
  simp only [resolve, Variant.fixed, if_true, resolveBy, getInstanceFixed, defaultAssigns, List.cons_append,
    List.nil_append, List.foldl_cons, List.foldl_nil, applyAssign_guarded]
  rfl

/-- after `ApplyConfig c` the four settings are those of `c` (absent keys: the fall-backs
    written in `ApplyConfig`: 2000 ms, 1000, 64 KiB, 100) … -/
theorem config_overrides (s : State ρ) (c : Conf) :
    (stepIn v Z C s (.applyConfig c)).1.settings = c.resolve ∧ (stepIn v Z C s (.applyConfig c)).2 = [] :=
  ⟨rfl, rfl⟩

theorem config_present (q w b z : Int) : (Conf.mk (some q) (some w) (some b) (some z)).resolve = ⟨w, q, b, z⟩ := rfl

theorem config_absent : (Conf.mk none none none none).resolve = ⟨2000, 1000, 65536, 100⟩ := rfl

include hr in
/-- … and they stay in force for every pack built until the next configuration update -/
theorem config_stays (s : State ρ) (c : Conf) (h : List (In ρ)) (hc : ∀ i ∈ h, isConfig i = false) :
    ∀ x ∈ (run v Z C (stepIn v Z C s (.applyConfig c)).1 h).2, x.1 = c.resolve :=
  (settings_const v Z C hr h _ hc).2

include hr in
/-- no operation other than `ApplyConfig` touches the settings -/
theorem settings_stable (s : State ρ) (h : List (In ρ)) (hc : ∀ i ∈ h, isConfig i = false) :
    (final v Z C s h).settings = s.settings := (settings_const v Z C hr h s hc).1

/-! ### witnesses: the code as found violates the property (candidate defects D31–D33)

  concrete instance: a record is (time, encoded bytes); gzip is modelled by prefixing a byte -/

def xC : Codec (Int × Bytes) := ⟨(·.2), (·.1), fun _ => false⟩
/-- the same, where a record without bytes stands for one that cannot be serialised -/
def fC : Codec (Int × Bytes) := ⟨(·.2), (·.1), fun r => r.2.isEmpty⟩
def xZ : Zip := ⟨fun b => 31 :: b⟩
def xU : Unzip xZ := ⟨fun b => b.tail?, fun _ => rfl⟩

/-- D31: `GetInstance` assigns the defaults and then overwrites them with the option struct,
    whose four fields no exported option can set: buffer 0, wait 0, zip-min 0, queue 0 -/
theorem finding_D31 : resolve .asFound ⟨0, 0, 0, 0⟩ = ⟨0, 0, 0, 0⟩ ∧ resolve .asFound ⟨0, 0, 0, 0⟩ ≠ defaults := by
  decide +kernel

/-- consequence of D31: with the limits at zero every record leaves in a pack of its own,
    compressed — no batching at all -/
theorem finding_D31_no_batching :
    (emitted .asFound xZ xC (init (resolve .asFound ⟨0, 0, 0, 0⟩))
      [.append (1000, [1, 2]), .append (1001, [3]), .append (1002, [4, 5])]).map (fun p => (p.count, p.zipped))
      = [(1, true), (1, true), (1, true)] := by decide +kernel

def d32History : List (In (Int × Bytes)) := [.append (1000, [1, 2, 3]), .step]

/-- D32: an uncompressed pack handed over by `sendAndClear` is a view of the reusable buffer;
    the next record overwrites what the client retained -/
theorem finding_D32 :
    (emitted .asFound xZ xC (init defaults) d32History).map (fun p => (p.ref, p.payload)) = [(.sharedBuf, [1, 2, 3])] ∧
    (emitted .asFound xZ xC (init defaults) d32History).map
      (view xC (final .asFound xZ xC (init defaults) d32History)) = [[1, 2, 3]] ∧
    (emitted .asFound xZ xC (init defaults) d32History).map
      (view xC (final .asFound xZ xC (init defaults) (d32History ++ [.append (1001, [9, 9, 9])]))) = [[9, 9, 9]] := by
  decide +kernel

/-- the same at the `SendDirect` site: the first pack is overwritten within the same call -/
theorem finding_D32_direct :
    let h : List (In (Int × Bytes)) := [.sendDirect [(1, [1, 2]), (2, [3, 4]), (3, [5])]]
    let st : Settings := ⟨5000, 1000, 2, 100⟩
    (emitted .asFound xZ xC (init st) h).map (·.payload) = [[1, 2], [3, 4], [5]] ∧
    (emitted .asFound xZ xC (init st) h).map (view xC (final .asFound xZ xC (init st) h)) = [[5, 4], [5, 4], [5]] := by
  decide +kernel

/-- the repaired code on the same histories -/
theorem fixed_D32 :
    (emitted .fixed xZ xC (init defaults) d32History).map
      (view xC (final .fixed xZ xC (init defaults) (d32History ++ [.append (1001, [9, 9, 9])]))) = [[1, 2, 3]] := by
  decide +kernel

def d33History : List (In (Int × Bytes)) := [.add (1000, [1]), .add (1001, [2]), .step, .stop]

/-- D33: a record still queued at cancellation is never emitted: the loop has returned
    (every later `step`/`stop` is inert) and the record sits in the queue -/
theorem finding_D33 :
    sharedRecs (emitted .asFound xZ xC (init defaults) d33History) = [(1000, [1])] ∧
    (final .asFound xZ xC (init defaults) d33History).queue = [(1001, [2])] ∧
    (final .asFound xZ xC (init defaults) d33History).stopped = true := by
  decide +kernel

theorem stopped_is_final (s : State ρ) (hs : s.stopped = true) :
    step v Z C s = (s, []) ∧ stop v Z C s = (s, []) := stopped_inert v Z C s hs

theorem fixed_D33 :
    sharedRecs (emitted .fixed xZ xC (init defaults) d33History) = [(1000, [1]), (1001, [2])] ∧
    (final .fixed xZ xC (init defaults) d33History).queue = [] := by
  decide +kernel

/-! ### non-vacuity -/

/-- a record codec satisfying the `Decoder` hypothesis: 8-byte time, then a length-prefixed blob -/
def yC : Codec (Int × Bytes) := ⟨fun r => Prim.encI 8 r.1 ++ Prim.encBlob r.2, (·.1), fun _ => false⟩

def yD : Decoder yC :=
  Decoder.ofP (P.bind (Prim.rdI 8) (fun t => P.bind Prim.decBlob (fun b => .pure (t, b))))
    (fun r => Prim.inRange 8 r.1 ∧ r.2.length < 2147483648) (by
    intro r rest hw
    show P.run _ ((Prim.encI 8 r.1 ++ Prim.encBlob r.2) ++ rest) = _
    rw [List.append_assoc, P.run_bind_some _ _ _ _ _ (Prim.run_rdI 8 r.1 _ hw.1),
      P.run_bind_some _ _ _ _ _ (Prim.run_decBlob r.2 rest hw.2)]
    rfl)

theorem yC_nonempty : ∀ r : Int × Bytes, yC.enc r ≠ [] := by
  intro r h
  have : (yC.enc r).length = 0 := by rw [h]; rfl
  simp [yC, Prim.encI_length] at this

/-- a history that exercises size flush, time flush, idle flush, both compression outcomes,
    SendDirect and a configuration update -/
def demo : List (In (Int × Bytes)) :=
  [.add (1000, [1, 2, 3]), .add (1001, [4, 5]), .step, .step,                -- 5 bytes ≥ maxBuf 5 → flush
   .add (1002, [6]), .step, .add (9000, [7]), .step,                          -- 9000−1002 ≥ 5000 → flush
   .add (9001, [8]), .step, .step,                                            -- idle flush
   .sendDirect [(1, [1, 1, 1]), (2, [2, 2, 2]), (3, [3])],
   .applyConfig ⟨none, none, some 100, some 0⟩, .append (9002, [9]), .stop]

example : (emitted .fixed xZ xC (init ⟨5000, 1000, 5, 3⟩) demo).map (fun p => (p.src, p.recs.map (·.1), p.count, p.zipped)) =
    [(.shared, [1000, 1001], 2, true), (.shared, [1002, 9000], 2, false), (.shared, [9001], 1, false),
     (.direct, [1, 2], 2, true), (.direct, [3], 1, false), (.shared, [9002], 1, true)] := by decide +kernel

/-- the hypotheses of `decodable` are satisfiable: instance with `yC`, `yD`, `xU` -/
example (st : Settings) (ans : List Bool) (h : List (In (Int × Bytes))) :=
  decodable .fixed xZ yC rfl xU yD st ans h

/-- … and its well-formedness side condition holds for ordinary records -/
example : yD.wf (1700000000000, [1, 2, 3]) := by
  show Prim.inRange 8 _ ∧ _
  exact ⟨(Prim.inRange_8 _).mpr (by omega), by decide⟩

/-- `decodable_logsink` is not vacuous: the factory `fac0` qualifies, gzip-as-prefix is an `Unzip` -/
example (st : Settings) (ans : List Bool) (h : List (In Layout.Rec)) :=
  decodable_logsink .fixed xZ rfl xU LogSink.fac0 LogSink.fac0_ok st ans h

/-- unserialisable records at every position of a batch (first, middle, last, alone, two in a row,
    right before a size flush and before the stop): counts match and only the good records come out -/
example : (emitted .fixed xZ fC (init ⟨5000, 1000, 4, 3⟩)
      [.add (1, []), .add (2, [1]), .add (3, []), .add (4, [2]), .add (5, []), .step, .step, .step, .step, .step, .step,
       .add (6, []), .step, .step, .append (7, []), .append (8, []), .append (9, [3]), .add (10, []), .append (11, [4, 5, 6]),
       .add (12, [7]), .add (13, []), .stop]).map (fun p => (p.count, p.recs.map (·.1))) =
    [(2, [2, 4]), (2, [9, 11]), (1, [12])] := by decide +kernel

/-- a faulting client on a concrete history: every hand-over answered with an error, same packs -/
example : (emitted .fixed xZ xC (init ⟨5000, 1000, 5, 3⟩ [false, false, false, false, false, false]) demo).map (·.recs) =
    (emitted .fixed xZ xC (init ⟨5000, 1000, 5, 3⟩) demo).map (·.recs) := by decide +kernel

/-- a schedule of the loop machine: two producers' records, a GetTimeout whose clock even jumps back
    before it finds the first one, an idle timeout, a cancellation noticed at the next select -/
example : ((lrun .fixed xZ xC (linit ⟨5000, 1000, 100, 3⟩)
      [.select 100, .poll 100, .poll 90, .add (1000, [1, 2]), .poll 5000, .add (1001, [3]), .select 200, .poll 200,
       .select 300, .poll 5299, .poll 5300, .add (1002, [4]), .cancel, .select 9000]).2.map (·.recs)) =
    [[(1000, [1, 2]), (1001, [3])], [(1002, [4])]] := by decide +kernel

section
open Layout Packs
/-- a LogSinkPack (tags present, no fields) -/
def demoLS : Layout.Rec := fun k =>
  if k = "Pcode" then .int 7 else if k = "Oid" then .int 31 else if k = "Time" then .int 1700000000000
  else if k = "Category" then .bytes [99, 97, 116] else if k = "TagHash" then .int 0
  else if k = "Tags" then .value (.map [([107], .text [118])]) else if k = "Line" then .int 1
  else if k = "Content" then .bytes [104, 105] else if k = "Fields?" then .int 0
  else if k = "Fields" then .value (.map []) else .int 0

/-- on a concrete LogSinkPack the decoder reads back what the codec wrote (type code 0x170a) and
    leaves what follows; the bytes start `17 0a` (type code), then the short header -/
example : ((LogSink.decoder LogSink.fac0 LogSink.fac0_ok).dec (LogSink.codec.enc demoLS ++ [42])).map (fun x => (x.1.1, x.2)) =
    some (5898, [42]) := by decide +kernel

example : (LogSink.codec.enc demoLS).take 8 = [23, 10, 1, 7, 0, 0, 0, 31] := by decide +kernel

/-- `demoLS` meets the writer's guards: the hypothesis `LogSink.WFRec` of `decodable_logsink` /
    `receiver_gets_records` is satisfiable -/
example : LogSink.WFRec demoLS := by
  unfold LogSink.WFRec
  simp only [Packs.Hand.LogSinkPack.w, Gen.Packs.LogSinkPack.w, Packs.Hand.tagSection, L.WF]
  -- the field lookups first: `simp` decides the key comparisons cheaply
  simp [demoLS, hdrOf]
  refine ⟨?_, ?_, ?_, rfl, ?_, ?_, ⟨?_, _, rfl⟩, rfl, ?_, ?_, ?_, rfl, ?_⟩
  · show Layout.Hdr.WF ⟨7, 31, 0, 0, 1700000000000⟩; decide
  · show (0 : Int) ≤ 0 ∧ (0 : Int) < 256; decide
  · show [99, 97, 116].length < 2147483648; decide
  · show Prim.inRange 8 0; decide
  · show Prim.inRange 8 0; decide
  · show Value.WFV (.map [([107], .text [118])]); decide
  · show Prim.inRange 8 1; decide
  · show Prim.inRange 8 1; decide
  · show [104, 105].length < 2147483648; decide
  · intro h; exact absurd h (by decide)

/-- `receiver_gets_records` instantiated (factory `fac0`, gzip-as-prefix) -/
example (st : Settings) (ans : List Bool) (h : List (In Layout.Rec)) :=
  receiver_gets_records .fixed xZ rfl xU LogSink.fac0 LogSink.fac0_ok ⟨1, 2, 0, 0, 3⟩ st ans h

/-- the hypotheses of `all_emitted_at_stop` are met by a running sender with a non-empty codec -/
example : (final .fixed xZ yC (init defaults) [.add (1, [1]), .append (2, [2])]).stopped = false := by decide +kernel
example := all_emitted_at_stop xZ yC yC_nonempty defaults [] [.add (1, [1]), .append (2, [2])] (by decide)

/-- a factory as `CreatePack` is: LogSinkPack and ZipPack readers under their type codes -/
def facLZ : Packs.Factory := fun c =>
  if c = LogSink.code then some Gen.Packs.LogSinkPack.r else if c = Wire.zipCode then some Gen.Packs.ZipPack.r else none

/-- `receiver_end_to_end` instantiated: its factory hypotheses are satisfiable together -/
example (st : Settings) (ans : List Bool) (h : List (In Layout.Rec)) (rest : Bytes) :=
  receiver_end_to_end .fixed xZ rfl xU facLZ (by simp [LogSink.Fac, facLZ]) (by simp [Wire.FacZ, facLZ, LogSink.code, Wire.zipCode])
    ⟨1, 2, 0, 0, 3⟩ (by decide) st ans h rest

/-- the wire form of a concrete pack (2 records, uncompressed, payload `[1,2,3]`), followed by `[42]`:
    type code 17 0b, short header, status 0, decimal 2, blob; it reads back and leaves `[42]` -/
example : Wire.wire ⟨7, 31, 0, 0, 5⟩ 0 2 [1, 2, 3] = [23, 11, 1, 7, 0, 0, 0, 31, 0, 0, 0, 0, 0, 0, 0, 5, 0, 1, 2, 3, 1, 2, 3] := by
  decide +kernel
example : (Wire.unwire Wire.facZ (Wire.wire ⟨7, 31, 9, 0, 5⟩ 1 2 [1, 2, 3] ++ [42])).map (fun x => (x.1.hdr, x.1.status, x.1.count, x.1.records, x.2)) =
    some (⟨7, 31, 9, 0, 5⟩, 1, 2, [1, 2, 3], [42]) := by decide +kernel

/-- `transmitted_pack_reads_back` on a concrete pack (long header form, one record, trailing byte) -/
example := transmitted_pack_reads_back (ρ := Int × Bytes) Wire.facZ Wire.facZ_ok ⟨7, 31, 9, 0, 5⟩ (by decide)
  ⟨.shared, [(1, [1])], 1, false, [1], .owned⟩ [42] (by decide) (by decide)

/-- `set_client_switch` instantiated: a batch started under client 0, the switch, then the stop -/
example := set_client_switch .fixed xZ xC (init defaults) 0 1 [.op (.append (1, [1]))] [.op .stop] (by decide)

/-- `emitted_is_setRecords` / `exactly_once_across_clients` instantiated -/
example (st : Settings) (ans : List Bool) (h : List (In Layout.Rec)) := emitted_is_setRecords .fixed xZ rfl ⟨1, 2, 0, 0, 3⟩ st ans h
example (st : Settings) (ans : List Bool) (h : List (CIn (Int × Bytes))) := exactly_once_across_clients .fixed xZ xC rfl st ans 0 h

/-- client switches on a concrete history: the batch started under client 0 is flushed to client 1,
    the SendDirect packs after the second switch go to client 2; nothing twice -/
example : ((crun .fixed xZ xC (init ⟨5000, 1000, 5, 3⟩) 0
      [.op (.append (1000, [1, 2])), .setClient 1, .op (.append (1001, [3, 4, 5])), .op (.append (1002, [6])),
       .setClient 2, .op (.sendDirect [(1, [1, 1, 1, 1, 1]), (2, [2])]), .op .stop]).2.map
        (fun x => (x.dest, x.pack.recs.map (·.1)))) =
    [(1, [1000, 1001]), (2, [1]), (2, [2]), (2, [1002])] := by decide +kernel

/-- `loop_exit_emits_everything` instantiated: a schedule that ends at the `select` with the context
    cancelled while records are queued and a batch is under construction -/
example := loop_exit_emits_everything xZ yC yC_nonempty defaults []
  [.add (1, [1]), .select 0, .poll 0, .add (2, [2]), .add (3, [3]), .cancel] 7 (by decide) (by decide)

/-- `batch_within_limits_after_reconfig` instantiated: two updates, a flush, then records under the new limits -/
example := batch_within_limits_after_reconfig .fixed xZ yC rfl yC_nonempty ⟨50, 1000, 100, 3⟩ [false, true]
  [.append (1000, [1]), .applyConfig ⟨none, some 10, some 30, none⟩, .append (1001, [2]), .applyConfig ⟨none, some 7, some 20, some 0⟩, .step, .step]
  [.add (1010, [2, 3]), .step, .sendDirect [(1, [4])]] (by decide) (by decide)

/-- `batch_within_limits` instantiated: no configuration update in the history -/
example := batch_within_limits .fixed xZ yC rfl yC_nonempty ⟨50, 1000, 100, 3⟩ [false, true]
  [.add (1000, [1]), .step, .append (1010, [2, 3]), .sendDirect [(1, [4])], .stop] (by decide)

end

end C16
