/-
  C08, tie A — obligations over the facts regenerated from lang/step, lang/service and the profile
  packs (lean/Golib/Gen/C08.lean, written by xlate/c08 on every run).

  * the two registries (`CreateStep`, `CreateService`) and every type's own type code equal the
    model's tables (`decide`);
  * **interpreted skeletons**: the regenerated token list of every `Write` is read as a layout by
    `Step.parseW`, that of every `Read` by `Step.parseR` (interpreters that know nothing of the
    model); the obligations `iw_T` / `ir_T` say that these are the writer view and the reader view
    of the model's layout `T` (`decide`).  `gen_roundtrip_T` then follows from the bridge lemmas
    `wview_write` / `rview_read` and the generic round trip: the reader denoted by the regenerated
    `Read` skeleton reads back, for all field values in range and any following bytes, exactly
    what the writer denoted by the regenerated `Write` skeleton writes — and these bytes are the
    model's.  An edit of a writer or reader that changes the wire format changes the regenerated
    tokens; either they no longer parse, or they parse to another layout, and `iw_T` / `ir_T` fail.
-/
import Golib.Step.Interp
import Golib.Step.Setters
import Golib.Step.Api
import Golib.Step.Layouts
import Golib.Step.ValueInst
import Golib.Gen.C08

namespace C08Gen
open Step

def codesOf (tbl : List (Nat × String × L)) : List (Int × String) := tbl.map (fun (c, n, _) => ((c : Int), n))

theorem createStep_agrees : Gen.C08.createStep = codesOf stepTable := by decide +kernel
theorem createService_agrees : Gen.C08.createService = codesOf serviceTable := by decide +kernel

/-- what `GetStepType` / `GetServiceType` of each type answers is the code the model writes for it -/
theorem typeCodes_agree :
    Gen.C08.typeCodes = (stepTable ++ unregisteredSteps ++ serviceTable).map (fun (c, n, _) => (n, (c : Int))) := by
  decide

/-- the constants the layouts mention: error level WARNING, default HttpcStepX version, and the type
    code STEP_MESSAGE_X = 22 -/
theorem consts_agree :
    Gen.C08.consts.lookup "WARNING" = some 20 ∧ Gen.C08.consts.lookup "HTTPC_STEP_DEFAULT_VERSION" = some 2 ∧
    Gen.C08.consts.lookup "STEP_MESSAGE_X" = some 22 := by decide +kernel

/-- every registered step type answers the code it is registered under; the two unregistered types
    do not occur in `CreateStep` -/
theorem registered_codes_consistent :
    (∀ p ∈ Gen.C08.createStep, Gen.C08.typeCodes.lookup p.2 = some p.1) ∧
    Gen.C08.createStep.all (fun p => p.2 != "MessageStepX" && p.2 != "SqlStep_3") = true := by decide +kernel

/-- what an interpreted pair of skeletons gives -/
abbrev Denotes (tw tr : List Tok) (T : L) : Prop :=
  ∃ lw lr, parseW tw = some lw ∧ parseR tr = some lr ∧
    ∀ (x : Rec) (r : Bytes), T.WF valueRT x [] →
      (lw.write x = T.write x) ∧ lr.read [] (lw.write x ++ r) = some (T.expect x [], r)

theorem iw_MethodStepX : parseW Gen.C08.wtok_MethodStepX = some methodStepX.wview := by decide +kernel
theorem ir_MethodStepX : parseR Gen.C08.rtok_MethodStepX = some methodStepX.rview := by decide +kernel
theorem gen_roundtrip_MethodStepX : Denotes Gen.C08.wtok_MethodStepX Gen.C08.rtok_MethodStepX methodStepX :=
  interp_roundtrip valueRT _ _ methodStepX (by decide) iw_MethodStepX ir_MethodStepX

theorem iw_SqlStepX : parseW Gen.C08.wtok_SqlStepX = some sqlStepX.wview := by decide +kernel
theorem ir_SqlStepX : parseR Gen.C08.rtok_SqlStepX = some sqlStepX.rview := by decide +kernel
theorem gen_roundtrip_SqlStepX : Denotes Gen.C08.wtok_SqlStepX Gen.C08.rtok_SqlStepX sqlStepX :=
  interp_roundtrip valueRT _ _ sqlStepX (by decide) iw_SqlStepX ir_SqlStepX

theorem iw_ResultSetStep : parseW Gen.C08.wtok_ResultSetStep = some resultSetStep.wview := by decide +kernel
theorem ir_ResultSetStep : parseR Gen.C08.rtok_ResultSetStep = some resultSetStep.rview := by decide +kernel
theorem gen_roundtrip_ResultSetStep : Denotes Gen.C08.wtok_ResultSetStep Gen.C08.rtok_ResultSetStep resultSetStep :=
  interp_roundtrip valueRT _ _ resultSetStep (by decide) iw_ResultSetStep ir_ResultSetStep

theorem iw_SocketStep : parseW Gen.C08.wtok_SocketStep = some socketStep.wview := by decide +kernel
theorem ir_SocketStep : parseR Gen.C08.rtok_SocketStep = some socketStep.rview := by decide +kernel
theorem gen_roundtrip_SocketStep : Denotes Gen.C08.wtok_SocketStep Gen.C08.rtok_SocketStep socketStep :=
  interp_roundtrip valueRT _ _ socketStep (by decide) iw_SocketStep ir_SocketStep

theorem iw_HttpcStepX : parseW Gen.C08.wtok_HttpcStepX = some httpcStepX.wview := by decide +kernel
theorem ir_HttpcStepX : parseR Gen.C08.rtok_HttpcStepX = some httpcStepX.rview := by decide +kernel
theorem gen_roundtrip_HttpcStepX : Denotes Gen.C08.wtok_HttpcStepX Gen.C08.rtok_HttpcStepX httpcStepX :=
  interp_roundtrip valueRT _ _ httpcStepX (by decide) iw_HttpcStepX ir_HttpcStepX

theorem iw_ActiveStackStep : parseW Gen.C08.wtok_ActiveStackStep = some activeStackStep.wview := by decide +kernel
theorem ir_ActiveStackStep : parseR Gen.C08.rtok_ActiveStackStep = some activeStackStep.rview := by decide +kernel
theorem gen_roundtrip_ActiveStackStep : Denotes Gen.C08.wtok_ActiveStackStep Gen.C08.rtok_ActiveStackStep activeStackStep :=
  interp_roundtrip valueRT _ _ activeStackStep (by decide) iw_ActiveStackStep ir_ActiveStackStep

theorem iw_MessageStep : parseW Gen.C08.wtok_MessageStep = some messageStep.wview := by decide +kernel
theorem ir_MessageStep : parseR Gen.C08.rtok_MessageStep = some messageStep.rview := by decide +kernel
theorem gen_roundtrip_MessageStep : Denotes Gen.C08.wtok_MessageStep Gen.C08.rtok_MessageStep messageStep :=
  interp_roundtrip valueRT _ _ messageStep (by decide) iw_MessageStep ir_MessageStep

theorem iw_SecureMsgStep : parseW Gen.C08.wtok_SecureMsgStep = some secureMsgStep.wview := by decide +kernel
theorem ir_SecureMsgStep : parseR Gen.C08.rtok_SecureMsgStep = some secureMsgStep.rview := by decide +kernel
theorem gen_roundtrip_SecureMsgStep : Denotes Gen.C08.wtok_SecureMsgStep Gen.C08.rtok_SecureMsgStep secureMsgStep :=
  interp_roundtrip valueRT _ _ secureMsgStep (by decide) iw_SecureMsgStep ir_SecureMsgStep

theorem iw_DBCStep : parseW Gen.C08.wtok_DBCStep = some dbcStep.wview := by decide +kernel
theorem ir_DBCStep : parseR Gen.C08.rtok_DBCStep = some dbcStep.rview := by decide +kernel
theorem gen_roundtrip_DBCStep : Denotes Gen.C08.wtok_DBCStep Gen.C08.rtok_DBCStep dbcStep :=
  interp_roundtrip valueRT _ _ dbcStep (by decide) iw_DBCStep ir_DBCStep

theorem iw_MessageStepX : parseW Gen.C08.wtok_MessageStepX = some messageStepX.wview := by decide +kernel
theorem ir_MessageStepX : parseR Gen.C08.rtok_MessageStepX = some messageStepX.rview := by decide +kernel
theorem gen_roundtrip_MessageStepX : Denotes Gen.C08.wtok_MessageStepX Gen.C08.rtok_MessageStepX messageStepX :=
  interp_roundtrip valueRT _ _ messageStepX (by decide) iw_MessageStepX ir_MessageStepX

theorem iw_SqlStep_3 : parseW Gen.C08.wtok_SqlStep_3 = some sqlStep3.wview := by decide +kernel
theorem ir_SqlStep_3 : parseR Gen.C08.rtok_SqlStep_3 = some sqlStep3.rview := by decide +kernel
theorem gen_roundtrip_SqlStep_3 : Denotes Gen.C08.wtok_SqlStep_3 Gen.C08.rtok_SqlStep_3 sqlStep3 :=
  interp_roundtrip valueRT _ _ sqlStep3 (by decide) iw_SqlStep_3 ir_SqlStep_3

theorem iw_WasService : parseW Gen.C08.wtok_WasService = some wasService.wview := by decide +kernel
theorem ir_WasService : parseR Gen.C08.rtok_WasService = some wasService.rview := by decide +kernel
theorem gen_roundtrip_WasService : Denotes Gen.C08.wtok_WasService Gen.C08.rtok_WasService wasService :=
  interp_roundtrip valueRT _ _ wasService (by decide) iw_WasService ir_WasService

theorem iw_AppService : parseW Gen.C08.wtok_AppService = some appService.wview := by decide +kernel
theorem ir_AppService : parseR Gen.C08.rtok_AppService = some appService.rview := by decide +kernel
theorem gen_roundtrip_AppService : Denotes Gen.C08.wtok_AppService Gen.C08.rtok_AppService appService :=
  interp_roundtrip valueRT _ _ appService (by decide) iw_AppService ir_AppService

-- `WasService2.Write/Read` delegate to WasService's: the regenerated skeletons are the same token lists
theorem iw_WasService2 : parseW Gen.C08.wtok_WasService2 = some wasService.wview := iw_WasService
theorem ir_WasService2 : parseR Gen.C08.rtok_WasService2 = some wasService.rview := ir_WasService
theorem gen_roundtrip_WasService2 : Denotes Gen.C08.wtok_WasService2 Gen.C08.rtok_WasService2 wasService :=
  interp_roundtrip valueRT _ _ wasService (by decide) iw_WasService2 ir_WasService2

theorem iw_TxRecord : parseW Gen.C08.wtok_TxRecord = some txRecord.wview := by decide +kernel
theorem ir_TxRecord : parseR Gen.C08.rtok_TxRecord = some txRecord.rview := by decide +kernel
theorem gen_roundtrip_TxRecord : Denotes Gen.C08.wtok_TxRecord Gen.C08.rtok_TxRecord txRecord :=
  interp_roundtrip valueRT _ _ txRecord (by decide) iw_TxRecord ir_TxRecord

/-! the packs: the first token is the call of the header writer / reader (C03's subject), the rest is the body -/

theorem iw_ProfilePack : Gen.C08.wtok_ProfilePack.head? = some (.call "AbstractPack.Write") ∧
    parseW (Gen.C08.wtok_ProfilePack.drop 1) = some profilePackBody.wview := by decide +kernel
theorem ir_ProfilePack : Gen.C08.rtok_ProfilePack.head? = some (.call "AbstractPack.Read") ∧
    parseR (Gen.C08.rtok_ProfilePack.drop 1) = some profilePackBody.rview := by decide +kernel
theorem gen_roundtrip_ProfilePack : Denotes (Gen.C08.wtok_ProfilePack.drop 1) (Gen.C08.rtok_ProfilePack.drop 1) profilePackBody :=
  interp_roundtrip valueRT _ _ profilePackBody (by decide) iw_ProfilePack.2 ir_ProfilePack.2

theorem iw_ProfileStepSplitPack : Gen.C08.wtok_ProfileStepSplitPack.head? = some (.call "AbstractPack.Write") ∧
    parseW (Gen.C08.wtok_ProfileStepSplitPack.drop 1) = some profileStepSplitPackBody.wview := by decide +kernel
theorem ir_ProfileStepSplitPack : Gen.C08.rtok_ProfileStepSplitPack.head? = some (.call "AbstractPack.Read") ∧
    parseR (Gen.C08.rtok_ProfileStepSplitPack.drop 1) = some profileStepSplitPackBody.rview := by decide +kernel
theorem gen_roundtrip_ProfileStepSplitPack : Denotes (Gen.C08.wtok_ProfileStepSplitPack.drop 1) (Gen.C08.rtok_ProfileStepSplitPack.drop 1) profileStepSplitPackBody :=
  interp_roundtrip valueRT _ _ profileStepSplitPackBody (by decide) iw_ProfileStepSplitPack.2 ir_ProfileStepSplitPack.2

theorem iw_ErrorSnapPack1 : Gen.C08.wtok_ErrorSnapPack1.head? = some (.call "AbstractPack.Write") ∧
    parseW (Gen.C08.wtok_ErrorSnapPack1.drop 1) = some errorSnapPack1Body.wview := by decide +kernel
theorem ir_ErrorSnapPack1 : Gen.C08.rtok_ErrorSnapPack1.head? = some (.call "AbstractPack.Read") ∧
    parseR (Gen.C08.rtok_ErrorSnapPack1.drop 1) = some errorSnapPack1Body.rview := by decide +kernel
theorem gen_roundtrip_ErrorSnapPack1 : Denotes (Gen.C08.wtok_ErrorSnapPack1.drop 1) (Gen.C08.rtok_ErrorSnapPack1.drop 1) errorSnapPack1Body :=
  interp_roundtrip valueRT _ _ errorSnapPack1Body (by decide) iw_ErrorSnapPack1.2 ir_ErrorSnapPack1.2

/-! ### what an object could carry from one Write to the next

  The model's writers are functions of the current public fields.  For the Go objects to behave like that a
  record or pack must not keep encoded state between Writes.  Regenerated from the source: the unexported
  fields of every covered struct (incl. AbstractStep / AbstractService / AbstractPack), the receiver fields
  assigned inside `Write` (embedded writers and own helpers inlined), and the package-level variables of
  lang/step and lang/service.  A cache field, an assignment inside Write or a package-level scratch buffer
  changes one of these lists. -/

theorem no_unexported_state : ∀ e ∈ Gen.C08.unexportedFields, e.2 = [] := by decide +kernel
theorem write_assigns_no_field : ∀ e ∈ Gen.C08.assignedInWrite, e.2 = [] := by decide +kernel
/-- the only package-level variables are the two WebMethod name tables of lang/service (no writer mentions them) -/
theorem package_level_state : Gen.C08.packageVars = ["service.WebMethodName", "service.WebMethodValue"] := by decide +kernel

/-- every builder of the covered containers denotes the semantics the model gives it: the three
    `SetProfile` and `SetStack` REPLACE their field (`this.f = …`), `SetCtr` / `SetTrue` or into it.
    (An appending `SetProfile` — `this.Steps = append(this.Steps, …)` — denotes nothing and this fails.) -/
theorem setters_agree :
    Gen.C08.setters.map (fun p => (p.1, parseSetter p.2)) = setterTable.map (fun p => (p.1, some p.2)) := by decide +kernel

example : parseSetter [.asg "Steps" "[]byte" "append(Steps, step.ToBytesStep(local1)...)"] = none := by decide

/-- what a regenerated accessor entry (receiver, kind, field) denotes -/
def parseAcc (recv kind f : String) : Option Acc :=
  if kind = "get" then some (.get (qualField recv f))
  else if kind = "set" then some (.set (qualField recv f))
  else if kind = "or" then some (.orByte (qualField recv f))
  else if kind = "bit" then some (.bit (qualField recv f))
  else if kind = "const" ∧ f = "0" then some (.const 0)
  else none

/-- every exported one-line method of `AbstractStep` and of the eleven step types that is not a wire method, a
    type code or a builder denotes exactly what the model's `accessorTable` says (getter of which field, setter of
    which field, or-ing setter, bit test, constant 0) — and there are no others.  (`GetElapsed` returning another
    field, a `SetParent` that also touches `Index`, a type overriding `SetTrue` … change the regenerated entry.) -/
theorem accessors_agree :
    (∀ e ∈ Gen.C08.accessors, (parseAcc e.1 e.2.2.1 e.2.2.2).isSome ∧
        accessorTable.lookup (e.1, e.2.1) = parseAcc e.1 e.2.2.1 e.2.2.2) ∧
    Gen.C08.accessors.length = accessorTable.length ∧
    (Gen.C08.accessors.map (fun e => (e.1, e.2.1))).Nodup := by decide +kernel

example : parseAcc "DBCStep" "unknown" "return this.Elapsed + 1" = none := by decide

def initKey : Option Val → String × Int
  | none => ("arg", 0)
  | some (.i v) => ("int", v)
  | some (.b []) => ("empty", 0)
  | _ => ("other", 0)

/-- every constructor of the covered types allocates the type and sets the fields the model's `ctorTable` says
    (`NewHttpcStepX`: Version 2; `NewHttpcStepXVersion`, `NewMessageStepXWithStartTime`: their argument;
    `NewProfileStepSplitPack`: an empty step blob; all others: the zero object) — and there are no others -/
theorem ctors_agree :
    (∀ e ∈ Gen.C08.ctors,
        (ctorTable.lookup e.1).map (fun p => (p.1, p.2.map (fun i => (i.1, initKey i.2)))) = some e.2) ∧
    Gen.C08.ctors.length = ctorTable.length ∧ (Gen.C08.ctors.map (·.1)).Nodup := by decide +kernel

/-- non-vacuity: the interpreters do not accept everything — a writer skeleton with a call they do not
    know, or one that stops inside a section, denotes nothing -/
example : parseW [.w "WriteFloat" "X" "float32"] = none := by decide
example : parseW [.ifnz "Mtid", .wl "WriteByte" 1] = none := by decide
example : parseR [.r "ReadDecimal" "X" "int64" "int32"] = none := by decide   -- a narrowing read of an int64 field

end C08Gen
