/-
  Property C03 — "for every pack type the factory can create (and every other pack type offering a
  write/read pair)": the quantifier, over the lists regenerated from the Go source.

  Props/C03Gen.lean has one `agree_T` per type, written out by hand: a pack type ADDED to lang/pack would
  get no obligation and nobody would notice.  Here the same facts are stated over the regenerated lists
  (`covered`: all generated layouts, with the hand-filled ones), every type of the `CreatePack` switch and
  every type declaring a type code is shown to have an entry (exceptions listed exactly), and the tagged
  round trip is stated for the factory as regenerated (`genFactory`).
-/
import Golib.Props.C03
import Golib.Props.C03Gen

namespace C03Gen
open Layout Gen.Packs Packs _root_.Prim

/-- layouts with hand-filled sections (Golib/Packs/Hand.lean, Irregular.lean: the generated layout applied
    to the transcription gaps) -/
def handLayouts : List (String × L × L) := [
  ("TagCountPack", Packs.Hand.TagCountPack.w, TagCountPack.r),
  ("TagLogPack", Packs.Hand.TagLogPack.w, TagLogPack.r),
  ("LogSinkPack", Packs.Hand.LogSinkPack.w, LogSinkPack.r),
  ("ParamPack", Packs.Hand.ParamPack.w, Packs.Hand.ParamPack.r),
  ("ExtensionPack", Packs.Hand.ExtensionPack.w, Packs.Hand.ExtensionPack.r),
  ("EventPack", Packs.Hand.EventPack.w, Packs.Hand.EventPack.r),
  ("CounterPack1", Packs.Irregular.CounterPack1.w, Packs.Irregular.CounterPack1.r),
  ("StatGeneralPack", Packs.Irregular.StatGeneralPack.l, Packs.Irregular.StatGeneralPack.l)]

/-- readers that fill a field (`Count`) for which the writer emits the constant 1: not carried -/
def countForgotten : List String := ["DiskPerf", "NetPerf", "SMDiskPerfPack", "SMNetPerfPack"]

/-- every layout pair the round trip is claimed for, by type name -/
def covered : List (String × L × L) :=
  handLayouts ++
  (all.filter (fun t => t.1 != "TransactionRec")).map
    (fun t => if countForgotten.contains t.1 then (t.1, t.2.1, t.2.2.forget "Count") else t)

/-- the three checks made of every entry, in one pass over the table -/
theorem covered_checked : covered.all (fun t =>
    agrees t.2.1 t.2.2 && (t.1 == "CounterPack1" || t.2.1.known) && t.2.2.tailFree) = true := by decide +kernel

/-- every covered type: the writer and reader bodies, transcribed separately, agree -/
theorem covered_agree : covered.all (fun t => agrees t.2.1 t.2.2) = true :=
  all_imp covered_checked fun _ h => by simp only [Bool.and_eq_true] at h; exact h.1.1

/-- every type declaring a type code has covered layouts — except ProfilePack (`C03.profile_roundtrip`, C08's
    model), CompositePack (`C03.composite_tree_roundtrip`) and SMBasePack (writer parameterised by the Cpu/Memory
    layouts: `agree_SMBasePack_*`, one per OS class) -/
theorem declared_named :
    packType.all (fun tc => tc.1 == "ProfilePack" || tc.1 == "CompositePack" || tc.1 == "SMBasePack" ||
      (covered.lookup tc.1).isSome) = true := by decide +kernel

/-- every type the factory can create has covered layouts — except ProfilePack and CompositePack.  A registered
    type is declared, with the same code (`registry_consistent`), and a declared type has covered layouts
    (`declared_named`) unless it is SMBasePack, which is not registered.  So a type added to the `CreatePack`
    switch without layouts is reported by `declared_named`, or by `registry_consistent` if it declares no such code. -/
theorem registered_named :
    registry.all (fun ct => ct.2 == "ProfilePack" || ct.2 == "CompositePack" || (covered.lookup ct.2).isSome) = true := by
  have hsm : registry.all (fun ct => ct.2 != "SMBasePack") = true := by decide +kernel
  refine List.all_eq_true.mpr fun ct hct => ?_
  have h1 := List.all_eq_true.mp registry_consistent ct hct
  have h2 := List.all_eq_true.mp declared_named (ct.2, ct.1) (Golib.mem_of_lookup (eq_of_beq h1))
  have h3 := List.all_eq_true.mp hsm ct hct
  simp only [Bool.or_eq_true, bne_iff_ne, ne_eq, beq_iff_eq] at h2 h3 ⊢
  rcases h2 with ((h | h) | h) | h
  · exact .inl (.inl h)
  · exact .inl (.inr h)
  · exact absurd h h3
  · exact .inr h

/-- every generated layout pair is covered (TransactionRec: per version, `agree_TransactionRec_v2/3/4`):
    `covered` keeps every other entry of `all` under its name -/
theorem elements_named :
    all.all (fun t => t.1 == "TransactionRec" || (covered.lookup t.1).isSome) = true := by
  refine List.all_eq_true.mpr fun t ht => ?_
  by_cases h : t.1 = "TransactionRec"
  · simp [h]
  · have hm : (if countForgotten.contains t.1 then (t.1, t.2.1, t.2.2.forget "Count") else t) ∈ covered :=
      List.mem_append_right _ (List.mem_map_of_mem (List.mem_filter.mpr ⟨ht, by simpa using h⟩))
    have hs := List.lookup_isSome_iff.mpr ⟨_, hm, beq_self_eq_true _⟩
    have hk : (if countForgotten.contains t.1 then (t.1, t.2.1, t.2.2.forget "Count") else t).1 = t.1 := by
      split <;> rfl
    rw [hk] at hs
    simp [hs]

/-- re-encoding identity applies to (the writer is `known` for) every covered type but CounterPack1 (its
    meters carry a marker byte whose presence the decoded fields do not determine: `mrep`) -/
theorem covered_known : covered.all (fun t => t.1 == "CounterPack1" || t.2.1.known) = true :=
  all_imp covered_checked fun _ h => by simp only [Bool.and_eq_true] at h; exact h.1.2

/-- no covered reader asks whether the input has ended -/
theorem covered_tailFree : covered.all (fun t => t.2.2.tailFree) = true :=
  all_imp covered_checked fun _ h => by simp only [Bool.and_eq_true] at h; exact h.2

/-- `CreatePack`, from the regenerated switch: type code ↦ the reader of the type constructed -/
def genFactory : Factory := fun code =>
  (registry.lookup code).bind (fun ty => (covered.lookup ty).map (·.2))

theorem registry_codes_16bit : registry.all (fun ct => decide (-32768 ≤ ct.1 ∧ ct.1 < 32768)) = true := by decide +kernel

/-- **every registered type, through the regenerated factory**: for every entry `(code, ty)` of the
    `CreatePack` switch with covered layouts `(w, r)` (all but ProfilePack / CompositePack:
    `registered_named`) and every well-formed record, `ReadPack (WritePack p ++ rest)` is the pack's type
    code with exactly its carried fields, and `rest` -/
theorem registered_roundtrip (code : Int) (ty : String) (w r : L) (x : Rec) (rest : Bytes)
    (hreg : (code, ty) ∈ registry) (hl : covered.lookup ty = some (w, r))
    (hwf : w.WF valueRT env0 "" x) :
    readPack genFactory (writePack ⟨code, w, r, x⟩ ++ rest) = some ((code, w.expect env0 "" x), rest) := by
  have h1 : registry.lookup code = some ty := Golib.lookup_of_mem_nodup registry_codes_distinct hreg
  have h2 : -32768 ≤ code ∧ code < 32768 := by simpa using List.all_eq_true.mp registry_codes_16bit _ hreg
  refine C03.tagged_roundtrip genFactory ⟨code, w, r, x⟩ rest ⟨(inRange_2 code).mpr (by omega), ?_, ?_, hwf⟩
  · show genFactory code = some r
    simp [genFactory, h1, hl]
  · simpa using List.all_eq_true.mp covered_agree _ (Golib.mem_of_lookup hl)

/-- … and a type code outside the switch is refused -/
theorem unregistered_code_refused (code : Int) (body : Bytes) (hc : -32768 ≤ code ∧ code < 32768)
    (h : registry.lookup code = none) : readPack genFactory (encI 2 code ++ body) = none :=
  C03.unknown_code_fails genFactory code body ((inRange_2 code).mpr (by omega)) (by simp [genFactory, h])

/-! non-vacuity: the hypotheses of `registered_roundtrip` are met -/
example : (1792, "TextPack") ∈ registry := by decide +kernel
example : (covered.lookup "TextPack").isSome = true := by
  simpa using List.all_eq_true.mp registered_named (1792, "TextPack") (by decide +kernel)
example : (genFactory 1792).isSome = true := by
  have hl : registry.lookup 1792 = some "TextPack" := by decide +kernel
  rw [genFactory, hl, Option.bind_some, Option.isSome_map]
  simpa using List.all_eq_true.mp registered_named (1792, "TextPack") (by decide +kernel)
example : genFactory 1793 = none := by decide +kernel

/-- a StatRemoteIpPack (long header form, two rows, extreme values) … -/
def ipX : Rec := fun k =>
  if k = "Pcode" then .int (-9223372036854775808) else if k = "Onode" then .int 2147483647
  else if k = "IpTable#" then .int 2
  else if k = "IpTable[0].key" then .int (-2147483648) else if k = "IpTable[1].val" then .int 77 else .int 0

theorem ipX_wf : StatRemoteIpPack.w.WF valueRT env0 "" ipX := by
  have hc : countOf "" "IpTable" ipX = 2 := by decide +kernel
  have e1 : ipX (elemPfx "" "IpTable" 0 ++ "key") = .int (-2147483648) := rfl
  have e2 : ipX (elemPfx "" "IpTable" 0 ++ "val") = .int 0 := rfl
  have e3 : ipX (elemPfx "" "IpTable" 1 ++ "key") = .int 0 := rfl
  have e4 : ipX (elemPfx "" "IpTable" 1 ++ "val") = .int 77 := rfl
  simp only [StatRemoteIpPack.w, L.WF, hc]
  refine ⟨by decide +kernel, by simp [Layout.Prim.wf, inRange, modulus], fun i hi => ?_, trivial⟩
  obtain rfl | rfl : i = 0 ∨ i = 1 := by omega
  all_goals simp [e1, e2, e3, e4, Layout.Prim.wf, rngOk, Rng.ok, inRange, modulus]
/-- … travels through the regenerated factory: an instance of `registered_roundtrip` with every
    hypothesis discharged -/
example (rest : Bytes) :
    readPack genFactory (writePack ⟨4352, StatRemoteIpPack.w, StatRemoteIpPack.r, ipX⟩ ++ rest)
      = some ((4352, StatRemoteIpPack.w.expect env0 "" ipX), rest) :=
  registered_roundtrip 4352 "StatRemoteIpPack" _ _ ipX rest (by decide +kernel) (by decide +kernel) ipX_wf

end C03Gen
