/-
  Property C02 — the tagged value codec round-trips every value type, nested to any depth.

  The proofs are short steps from the lemmas of Golib.Value.*.  The model
  (`Value.encV` = WriteValue, `Value.decV` / `Value.decode` = ReadValue) is tied to
  /repo/lang/value by the correspondence harness `harness/c02` (tie B) and by the regenerated
  tables of `Golib.Gen.C02` (tie A, Golib/Props/C02Gen.lean).

  `WFV v` (Golib/Value/WF.lean) is exactly what a Go value can hold and the count fields can
  represent: scalars in the range of their Go type, arrays ≤ 32767 elements, text / blob < 2^31
  bytes, IPv4 = four bytes, list / map counts within int64, map keys pairwise distinct (they live
  in a hash map: decoding *puts*), recursively.
-/
import Golib.Value.Facts
import Golib.Value.DecWF
import Golib.Value.MapRefine
import Golib.Value.Stream
import Golib.Value.ApiFacts

namespace C02
open Value Prim
attribute [local instance] Value.decEqValue

/-- written with its type tag and read back, every well-formed value of every type, nested to any
    depth, yields the same value (same constructor = same type, equal content, list items and map
    entries in their original order), and decoding consumes exactly the bytes of the encoding:
    whatever follows (`r`) is left untouched.  Any fuel ≥ `szV v` does. -/
theorem value_roundtrip (v : Value) (fuel : Nat) (r : Bytes) (h : WFV v) (hf : szV v ≤ fuel) :
    decV fuel (encV v ++ r) = some (v, r) := decV_encV v fuel r h hf

/-- the fuel `decode` chooses (input length + 1) always suffices -/
theorem fuel_by_length (v : Value) : szV v ≤ (encV v).length := szV_le_length v

/-- the form to cite: `decode` after `encV` is the identity, with any continuation of the stream -/
theorem value_roundtrip_decode (v : Value) (r : Bytes) (h : WFV v) :
    decode (encV v ++ r) = some (v, r) := decode_encV v r h

/-- decoding the encoding alone leaves nothing (`Available() = 0`) -/
theorem value_consumes_exactly (v : Value) (h : WFV v) : decode (encV v) = some (v, []) := by
  have := decode_encV v [] h
  simpa using this

/-- re-encoding the decoded value reproduces the same bytes -/
theorem value_reencode (v v' : Value) (r r' : Bytes) (h : WFV v)
    (hd : decode (encV v ++ r) = some (v', r')) : encV v' ++ r' = encV v ++ r := by
  rw [decode_encV v r h] at hd
  cases hd; rfl

/-- the decoded value has the type of the encoded one -/
theorem value_type_kept (v v' : Value) (r r' : Bytes) (h : WFV v)
    (hd : decode (encV v ++ r) = some (v', r')) : tag v' = tag v ∧ ctorOf v' = ctorOf v := by
  rw [decode_encV v r h] at hd
  cases hd; exact ⟨rfl, rfl⟩

/-- for *any* input: a decoded value carries the tag byte it was read under -/
theorem decoded_tag_is_first_byte (f t : Nat) (bs : Bytes) (v : Value) (r : Bytes)
    (h : decV f (t :: bs) = some (v, r)) : tag v = t := decV_tag f t bs v r h

/-- a tag byte outside the table is rejected (`CreateValue` panics), it is not read as some type -/
theorem unknown_tag_rejected (f t : Nat) (bs : Bytes) (h : Ctor.ofCode t = none) :
    decV f (t :: bs) = none := by
  cases hd : decV f (t :: bs) with
  | none => rfl
  | some p =>
    rw [← decV_tag f t bs p.1 p.2 hd, tag_eq_code, ofCode_code] at h
    cases h

/-- list items come back in their original order: the decoded value is the list of the *same
    sequence* of items (equality of the item lists, not of their sets) -/
theorem list_order_kept (xs : List Value) (r : Bytes) (h : WFV (.list xs)) :
    decode (encV (.list xs) ++ r) = some (.list xs, r) := decode_encV _ r h

/-- map entries come back in their original (insertion) order, for both kinds of map -/
theorem map_order_kept (kvs : List (Bytes × Value)) (r : Bytes) (h : WFV (.map kvs)) :
    decode (encV (.map kvs) ++ r) = some (.map kvs, r) := decode_encV _ r h

theorem imap_order_kept (kvs : List (Int × Value)) (r : Bytes) (h : WFV (.imap kvs)) :
    decode (encV (.imap kvs) ++ r) = some (.imap kvs, r) := decode_encV _ r h

/-- and order matters to the codec: two lists / maps with the same entries in another order have
    different encodings (so "equal content in the original order" is not implied by a weaker
    multiset round trip) -/
theorem order_is_encoded :
    encV (.list [.null, .bool true]) ≠ encV (.list [.bool true, .null]) ∧
    encV (.map [([1], .null), ([2], .null)]) ≠ encV (.map [([2], .null), ([1], .null)]) := by decide

/-- the three container loops on their own, from any fuel that covers the items; the string-keyed
    one is what the value instance of Golib.Step (C08) and the node attributes of X04 are read with -/
theorem list_loop_roundtrip (xs : List Value) (f : Nat) (r : Bytes) (h : WFVs xs) (hf : szVs xs ≤ f) :
    decVs f xs.length (encVs xs ++ r) = some (xs, r) := decVs_encVs xs f r h hf

theorem map_loop_roundtrip (kvs acc : List (Bytes × Value)) (f : Nat) (r : Bytes) (h : WFKVs kvs)
    (hn : ((acc ++ kvs).map (·.1)).Nodup) (hf : szKVs kvs ≤ f) :
    decKVs f kvs.length acc (encKVs kvs ++ r) = some (acc ++ kvs, r) := decKVs_encKVs kvs acc f r h hn hf

theorem imap_loop_roundtrip (kvs acc : List (Int × Value)) (f : Nat) (r : Bytes) (h : WFIKVs kvs)
    (hn : ((acc ++ kvs).map (·.1)).Nodup) (hf : szIKVs kvs ≤ f) :
    decIKVs f kvs.length acc (encIKVs kvs ++ r) = some (acc ++ kvs, r) := decIKVs_encIKVs kvs acc f r h hn hf

/-- the encoding is injective … -/
theorem encoding_injective (a b : Value) (ha : WFV a) (hb : WFV b) (h : encV a = encV b) : a = b :=
  encV_inj a b ha hb h

/-- … and prefix-free: inside a stream a value's end is determined by its own bytes -/
theorem encoding_prefix_free (a b : Value) (r s : Bytes) (ha : WFV a) (hb : WFV b)
    (h : encV a ++ r = encV b ++ s) : a = b ∧ r = s := encV_prefix_free a b r s ha hb h

/-- for *any* byte input: whatever the decoder accepts is a well-formed value (scalars in range,
    arrays ≤ 32767, text/blob < 2^31 bytes, map keys distinct …) and what it leaves is bytes -/
theorem decoded_is_wellformed (f : Nat) (bs : Bytes) (v : Value) (r : Bytes)
    (h : decV f bs = some (v, r)) (hb : WFB bs) : WFV v ∧ WFB r := decV_WFV f bs v r h hb

/-- hence decoding normalises: the re-encoding of anything that was decoded (from canonical or
    non-canonical bytes) decodes to the same value again -/
theorem decode_normalises (bs : Bytes) (v : Value) (r r' : Bytes) (h : decode bs = some (v, r)) (hb : WFB bs) :
    decode (encV v ++ r') = some (v, r') := decode_encV v r' (decV_WFV _ bs v r h hb).1

/-! ### from one call to streams and histories -/

/-- a stream of values: the concatenation of k encodings (any k), followed by anything, read back
    with k calls of `ReadValue` gives the k values in order and leaves exactly what followed -/
theorem stream_roundtrip (vs : List Value) (r : Bytes) (h : WFVs vs) :
    decodeMany vs.length (encVs vs ++ r) = some (vs, r) := by
  induction vs with
  | nil => simp [decodeMany, encVs]
  | cons v t ih =>
    rw [wfVs_cons] at h
    simp only [List.length_cons, decodeMany, encVs, List.append_assoc]
    simp only [decode_encV v (encVs t ++ r) h.1, ih h.2, Option.map_some]

/-- reading until the input is exhausted recovers the whole sequence -/
theorem stream_roundtrip_all (vs : List Value) (f : Nat) (h : WFVs vs) (hf : vs.length ≤ f) :
    decodeAll f (encVs vs) = some vs := by
  induction vs generalizing f with
  | nil => cases f <;> simp [decodeAll, encVs]
  | cons v t ih =>
    rw [wfVs_cons] at h
    cases f with
    | zero => simp at hf
    | succ f =>
      simp only [encVs]
      cases hv : encV v with
      | nil => exact absurd hv (encV_ne_nil v)
      | cons b bs =>
        simp only [List.cons_append, decodeAll]
        have := decode_encV v (encVs t) h.1
        rw [hv, List.cons_append] at this
        simp only [this, ih f h.2 (by simpa using hf), Option.map_some]

/-- a process: in any history of encode / decode calls every output is the output of that call
    alone (the model's codec has state `Unit`; that this transfers to the Go code is what
    `C02Gen.no_package_state_written` / `codec_has_no_hidden_state` and the harness's history,
    failed-decode and concurrent stages check) -/
theorem history_outputs_are_per_call (cs : List Call) :
    runCalls () cs = cs.map (fun c => (stepCall () c).2) := run_outputs cs

/-- … so a decode anywhere in a history returns the value an encode produced, whatever was
    encoded, decoded or rejected before it -/
theorem roundtrip_anywhere_in_a_history (cs : List Call) (j : Nat) (hj : j < cs.length) (v : Value) (r : Bytes)
    (hw : WFV v) (hc : cs[j] = .decode (encV v ++ r)) :
    (runCalls () cs)[j]'(by rw [run_outputs]; simpa using hj) = .value v r := by
  simp only [run_outputs, List.getElem_map, hc, stepCall, decode_encV v r hw]

/-- the count guard of `ListValue.Read` (`CheckCount(count, 1)`, lang/value/ListValue.go) never rejects
    an input the unguarded model decodes: every value occupies at least one byte, so a list whose
    `count` items decode had at least `count` bytes left -/
theorem list_guard_never_rejects_decodable (f n : Nat) (bs : Bytes) (xs : List Value) (r : Bytes)
    (h : decVs f n bs = some (xs, r)) : n ≤ bs.length :=
  Nat.le_trans (Nat.le_add_left _ _) (consumes_decPs f n bs xs r ((run_decP_all f).2.1 n bs ▸ h))

theorem every_value_occupies_a_byte (f : Nat) (bs : Bytes) (v : Value) (r : Bytes) (h : decV f bs = some (v, r)) :
    r.length < bs.length := decV_consumes f bs v r h

/-- for ANY input and any fuel (not only encodings of well-formed values): a successful decode
    depends only on the bytes it consumed — the input is `consumed ++ rest`, and with any other rest
    (more bytes arriving later on a connection, the next value of a stream, nothing) the same value
    is decoded and that rest is left.  The decoder never looks ahead and keeps nothing back. -/
theorem decode_depends_only_on_consumed_bytes (f : Nat) (bs : Bytes) (v : Value) (r : Bytes)
    (h : decV f bs = some (v, r)) : ∃ a, bs = a ++ r ∧ ∀ c, decV f (a ++ c) = some (v, c) := by
  -- `decV f` is `P.run (decP f)`, and every program of `P` is local
  simp only [← run_decP] at h ⊢
  exact P.locality _ _ _ _ h

/-! ### the association lists are what the real tables hold (link to C09) -/

/-- `MapValue.Read` creates a `StringKeyLinkedMap` and `Put`s the decoded pairs in order.  For every
    hash function, growth policy and initial capacity, C09's bucket-table model driven by exactly
    that history abstracts to the entry list the model's decoder returns, and enumerating it
    (`Keys()` + `Get`, what `Write` / `Equals` / `CompareTo` walk) yields that list.  The
    "maps are insertion-ordered association lists" abstraction is therefore a theorem
    (C09.refine_run_from + `putKV` = the dictionary's put), not an assumption. -/
theorem map_read_is_table_history (hash : Bytes → Nat) (thr : Nat → Nat) (d : HMap.Desc Bytes Value)
    (hr : ∀ k, d.refuse k = false) (cap f n : Nat) (bs : Bytes) (res : List (Bytes × Value)) (r : Bytes)
    (h : decKVs f n [] bs = some (res, r)) :
    ∃ pairs : List (Bytes × Value), pairs.length = n ∧
      HMap.LMap.abs hash (HMap.LMap.run hash thr d (HMap.LMap.new thr cap) (readOps pairs)).1 = { ents := res, max := 0 } ∧
      (HMap.LMap.step hash thr d (HMap.LMap.run hash thr d (HMap.LMap.new thr cap) (readOps pairs)).1 HMap.Op.entries).2
        = HMap.Out.ents res :=
  let ⟨pairs, hl, he⟩ := decKVs_is_fold f n [] bs res r h
  have t := table_after_puts hash thr d hr cap pairs
  ⟨pairs, hl, he ▸ t.1, he ▸ t.2.1⟩

theorem imap_read_is_table_history (hash : Int → Nat) (thr : Nat → Nat) (d : HMap.Desc Int Value)
    (hr : ∀ k, d.refuse k = false) (cap f n : Nat) (bs : Bytes) (res : List (Int × Value)) (r : Bytes)
    (h : decIKVs f n [] bs = some (res, r)) :
    ∃ pairs : List (Int × Value), pairs.length = n ∧
      HMap.LMap.abs hash (HMap.LMap.run hash thr d (HMap.LMap.new thr cap) (readOps pairs)).1 = { ents := res, max := 0 } ∧
      (HMap.LMap.step hash thr d (HMap.LMap.run hash thr d (HMap.LMap.new thr cap) (readOps pairs)).1 HMap.Op.entries).2
        = HMap.Out.ents res :=
  let ⟨pairs, hl, he⟩ := decIKVs_is_fold f n [] bs res r h
  have t := table_after_puts hash thr d hr cap pairs
  ⟨pairs, hl, he ▸ t.1, he ▸ t.2.1⟩

/-- any sequence of puts on a fresh table: contents, enumeration, size and lookup are those of the
    `putKV` fold (the model's `lookupKV` is the dictionary's `get`) -/
theorem table_is_putKV_fold {K : Type} [DecidableEq K] (hash : K → Nat) (thr : Nat → Nat) (d : HMap.Desc K Value)
    (hr : ∀ k, d.refuse k = false) (cap : Nat) (pairs : List (K × Value)) :
    HMap.LMap.abs hash (HMap.LMap.run hash thr d (HMap.LMap.new thr cap) (readOps pairs)).1
      = { ents := foldPut [] pairs, max := 0 } ∧
    (∀ k, (HMap.LMap.step hash thr d (HMap.LMap.run hash thr d (HMap.LMap.new thr cap) (readOps pairs)).1 (HMap.Op.get k)).2
      = HMap.Out.ofVal (HMap.AL.get (foldPut [] pairs) k)) :=
  ⟨(table_after_puts hash thr d hr cap pairs).1, (table_after_puts hash thr d hr cap pairs).2.2.2⟩

/-- the type codes: pairwise distinct, `CreateValue ∘ GetValueType = id`, and conversely -/
theorem tags_injective :
    (∀ a b : Ctor, a.code = b.code → a = b) ∧ (∀ c : Ctor, Ctor.ofCode c.code = some c) ∧
    (∀ n c, Ctor.ofCode n = some c → c.code = n) ∧ (Ctor.all.map Ctor.code).Nodup ∧
    (∀ v : Value, tag v = (ctorOf v).code) :=
  ⟨code_injective, ofCode_code, code_of_ofCode, codes_nodup, tag_eq_code⟩

/-- why distinct keys are part of `WFV`: decoding *puts*; a second entry under a key that is
    already there replaces the value in place and the map comes back one entry shorter -/
theorem duplicate_key_is_put :
    decode (encV (.map [([1], .null), ([1], .bool true)])) = some (.map [([1], .bool true)], []) := by
  rfl

/-! ### the exported mutators and the map-only entry points (Golib/Value/Api.lean)

  `WFV` asks for pairwise distinct keys.  That is no restriction on what the Go code can hold: whatever
  history of Put / PutString / PutLong / NewList / PutAll / Clear (and look-ups in between) built a
  MapValue or IntMapValue, and whatever history of Add / AddString / AddLong / Set / Clear built a
  ListValue, the object's content is the fold of the history, its keys are distinct, and — the stored
  payloads being things a Go value can hold — it round-trips.  The only residual hypothesis is that the
  entry count fits the int64 count field. -/

theorem map_history_roundtrip (ops : List (MOp Bytes)) (r : Bytes)
    (hops : ∀ op ∈ ops, MOp.OK okBytes op) (hl : (MOp.final [] ops).length ≤ 9223372036854775807) :
    decode (encV (.map (MOp.final [] ops)) ++ r) = some (.map (MOp.final [] ops), r) ∧
    ((MOp.final [] ops).map (·.1)).Nodup :=
  have h := entOK_final okBytes ops [] (entOK_nil okBytes) hops
  ⟨decode_encV _ r ((wfV_map_iff _).mpr ⟨hl, h⟩), h.1⟩

theorem imap_history_roundtrip (ops : List (MOp Int)) (r : Bytes)
    (hops : ∀ op ∈ ops, MOp.OK okI32 op) (hl : (MOp.final [] ops).length ≤ 9223372036854775807) :
    decode (encV (.imap (MOp.final [] ops)) ++ r) = some (.imap (MOp.final [] ops), r) ∧
    ((MOp.final [] ops).map (·.1)).Nodup :=
  have h := entOK_final okI32 ops [] (entOK_nil okI32) hops
  ⟨decode_encV _ r ((wfV_imap_iff _).mpr ⟨hl, h⟩), h.1⟩

theorem list_history_roundtrip (ops : List LOp) (r : Bytes)
    (hops : ∀ op ∈ ops, LOp.OK op) (hl : (LOp.final [] ops).length ≤ 9223372036854775807) :
    decode (encV (.list (LOp.final [] ops)) ++ r) = some (.list (LOp.final [] ops), r) :=
  decode_encV _ r ((wfV_list_iff _).mpr ⟨hl, List.foldlRecOn (motive := fun s => ∀ x ∈ s, WFV x) ops LOp.next (by simp)
    fun s hs op hop => listOK_next s op hs (hops op hop)⟩)

/-- a history of calls on one object: the content is the fold of the calls, and every call's output is
    its look-up on the state the calls before it left (what the driver computes and the harness compares) -/
theorem map_history_outputs {K : Type} [DecidableEq K] (ops : List (MOp K)) :
    MOp.run [] ops [] = (MOp.final [] ops, MOp.outputs [] ops) := by
  rw [MOp.run_eq]; rfl

theorem list_history_outputs (ops : List LOp) : LOp.run [] ops [] = (LOp.final [] ops, LOp.outputs [] ops) := by
  rw [LOp.run_eq]; rfl

/-- Get right after Put sees the value put; every other key is untouched (frame condition of Put) -/
theorem get_sees_last_put {K : Type} [DecidableEq K] (s : List (K × Value)) (k : K) (v : Value) :
    MOp.out (MOp.next s (.put k v)) (.get k) = some v ∧
    ∀ k', k' ≠ k → MOp.out (MOp.next s (.put k v)) (.get k') = MOp.out s (.get k') :=
  ⟨lookup_put_same s k v, fun k' h => lookup_put_other s k k' v h⟩

/-- `WriteMapValue` and `IntMapValue.WriteValue` write what `WriteValue` writes -/
theorem write_map_value_is_write_value (kvs : List (Bytes × Value)) (ikvs : List (Int × Value)) :
    encMapValue kvs = encV (.map kvs) ∧ encIntMapValue ikvs = encV (.imap ikvs) :=
  ⟨encMapValue_eq kvs, by rw [encV]; rfl⟩

/-- for ANY input: `ReadMapValue` returns a map exactly when `ReadValue` decodes a map — the same
    entries, the same bytes left -/
theorem read_map_value_iff_read_value (bs : Bytes) (kvs : List (Bytes × Value)) (r : Bytes) :
    decMapValue bs = some (some kvs, r) ↔ decode bs = some (.map kvs, r) := decMapValue_iff bs kvs r

/-- hence the map-only pair round-trips every well-formed map, with anything behind it -/
theorem read_map_value_roundtrip (kvs : List (Bytes × Value)) (r : Bytes) (h : WFV (.map kvs)) :
    decMapValue (encMapValue kvs ++ r) = some (some kvs, r) := by
  rw [encMapValue_eq]
  exact (decMapValue_iff _ kvs r).mpr (decode_encV _ r h)

/-- what `ReadMapValue` does on any other first byte: nil, and exactly that one byte is gone (the body of
    the other value is still in the stream — a caller that goes on reading is out of step) -/
theorem read_map_value_other_type (t : Nat) (r : Bytes) (ht : t ≠ 80) : decMapValue (t :: r) = some (none, r) := by
  simp [decMapValue, ht]

/-! non-vacuity: concrete non-trivial values are well-formed and do round-trip -/

example : WFV (.list [.dec (-129), .map [([107], .text [104, 105]), ([], .imap [(-1, .f32 4286578688)])],
    .ai [1, -2], .dsum 0 3 1 2, .ip4 [127, 0, 0, 1]]) := by decide

example : encV (.list [.dec (-129), .map [([107], .text [104, 105])]]) =
    [70, 1, 2, 20, 2, 255, 127, 80, 1, 1, 1, 107, 50, 2, 104, 105] := by decide

example : decode [70, 1, 2, 20, 2, 255, 127, 80, 1, 1, 1, 107, 50, 2, 104, 105, 9] =
    some (.list [.dec (-129), .map [([107], .text [104, 105])]], [9]) := by rfl

example : ¬ WFV (.map [([1], .null), ([1], .null)]) := by decide
/-- non-vacuity of the C09 link: a regular descriptor exists, and the theorem yields a concrete table -/
example : ∃ pairs : List (Bytes × Value), pairs.length = 2 ∧
    HMap.LMap.abs (fun (k : Bytes) => k.length)
      (HMap.LMap.run (fun (k : Bytes) => k.length) (fun n => n * 3 / 4)
        ({ comb := fun _ b => b, veq := fun _ _ => false } : HMap.Desc Bytes Value)
        (HMap.LMap.new (fun n => n * 3 / 4) 101) (readOps pairs)).1
      = { ents := [([1], .null), ([2], .bool true)], max := 0 } :=
  let ⟨pairs, hl, ha, _⟩ := map_read_is_table_history (fun k => k.length) (fun n => n * 3 / 4)
    { comb := fun _ b => b, veq := fun _ _ => false }
    (fun _ => rfl) 101 100 2 (encKVs [([1], .null), ([2], .bool true)]) [([1], .null), ([2], .bool true)] [] (by rfl)
  ⟨pairs, hl, ha⟩
example : (runCalls () [.decode [99], .encode (.dec 5), .decode (encV (.dec 5) ++ [7])]).length = 3 := by rfl
example : decV 9 ([70, 1, 2, 0, 10, 1] ++ [5, 5]) = some (.list [.null, .bool true], [5, 5]) := by rfl
example : decodeMany 3 (encVs [.dec 5, .list [.null], .text [7]] ++ [9, 9]) = some ([.dec 5, .list [.null], .text [7]], [9, 9]) := by rfl
example : foldPut ([] : List (Bytes × Value)) [([1], .null), ([2], .bool true), ([1], .dec 5)] = [([1], .dec 5), ([2], .bool true)] := by
  rfl
/-- non-vacuity of the history theorems: a history with overwrite, Clear, refill, PutAll and look-ups -/
example : MOp.run ([] : List (Bytes × Value))
    [.put [1] (.dec 5), .putString [2] [104], .get [1], .put [1] .null, .clear, .size, .putLong [2] 7, .newList [1],
     .putAll [([3], .bool true), ([2], .null)], .getBool [3], .containsKey [9]] [] =
    ([([2], .null), ([1], .list []), ([3], .bool true)],
     [none, none, some (.dec 5), none, none, some (.dec 0), none, none, none, some (.bool true), some (.bool false)]) := by rfl
example : ∀ op ∈ ([.put [1] (.dec 5), .putString [2] [104], .clear, .putAll [([3], .bool true)]] : List (MOp Bytes)),
    MOp.OK okBytes op := by
  intro op h
  simp only [List.mem_cons, List.not_mem_nil, or_false] at h
  rcases h with rfl | rfl | rfl | rfl
  · exact ⟨by decide, by decide⟩
  · exact ⟨by decide, by decide⟩
  · trivial
  · intro p hp; simp only [List.mem_cons, List.not_mem_nil, or_false] at hp; subst hp; exact ⟨by decide, by decide⟩
example : LOp.run [] [.add .null, .addString [7], .set 0 (.dec 1), .get 1, .clear, .addLong 3, .size] [] =
    ([.dec 3], [none, none, none, some (.text [7]), none, none, some (.dec 1)]) := by rfl
example : decMapValue ([80, 1, 1, 1, 107, 0] ++ [9]) = some (some [([107], .null)], [9]) := by rfl
example : decMapValue [70, 1, 0] = some (none, [1, 0]) := by rfl
example : Ctor.ofCode 47 = none := rfl     -- FLOAT_SUMMARY is declared but not implemented

end C02
