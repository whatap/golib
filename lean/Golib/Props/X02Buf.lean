/-
  Golib.Props.X02Buf — extension check X02, item 5: util/stringutil/StringBuffer.go.
  Law: the buffer holds the appended texts, each preceded by one tab per open block; a history returns
  from every call iff it never closes more blocks than it opened (`strings.Repeat` panics on a negative
  count).
-/
import Golib.Ext.StrBuf

namespace X02
open Ext.StrBuf

/-- a write returns iff the depth is not negative, and then appends `depth` tabs and the text -/
theorem strbuf_write (b : SB) (s : Bytes) :
    ((write b s).2 = true ↔ 0 ≤ b.indent) ∧
    (0 ≤ b.indent → write b s = ({ b with buf := b.buf ++ (List.replicate b.indent.toNat 9 ++ s) }, true)) ∧
    (b.indent < 0 → write b s = (b, false)) := by
  unfold write
  by_cases h : b.indent < 0
  · simp [h]
  · simp [h]; omega

/-- never more blocks closed than opened, at every write (Clear starts over) -/
def depthOK : Int → List Op → Bool
  | _, [] => true
  | d, op :: ops =>
    match op with
    | .clear => depthOK 0 ops
    | .appendLineIndent _ => decide (0 ≤ d) && depthOK (d + 1) ops
    | .appendLineClose _ => decide (0 ≤ d - 1) && depthOK (d - 1) ops
    | .appendClose _ => decide (0 ≤ d - 1) && depthOK (d - 1) ops
    | _ => decide (0 ≤ d) && depthOK d ops

theorem write_indent (b : SB) (s : Bytes) : (write b s).1.indent = b.indent := by
  unfold write; split <;> rfl

theorem write_ok (b : SB) (s : Bytes) : (write b s).2 = decide (0 ≤ b.indent) := by
  unfold write
  by_cases h : b.indent < 0
  · have : ¬ (0 ≤ b.indent) := by omega
    simp [h, this]
  · have : 0 ≤ b.indent := by omega
    simp [h, this]

/-- totality of a history: every call returns iff the blocks are balanced -/
theorem strbuf_no_panic_iff (ops : List Op) : ∀ (b : SB), (run b ops).2.all id = depthOK b.indent ops := by
  induction ops with
  | nil => intro b; rfl
  | cons op ops ih =>
    intro b
    cases op with
    | clear => simp only [run, step, List.all_cons, id, Bool.true_and, depthOK]; exact ih _
    | append s | appendLine s | appendComment s | appendLineClose s | appendClose s =>
      simp only [run, step, List.all_cons, id, depthOK]
      rw [ih, write_indent, write_ok]
    | appendLineIndent s =>
      simp only [run, step, List.all_cons, id, depthOK]
      by_cases h : 0 ≤ b.indent
      · have hw : (write b (s ++ [10])).2 = true := by rw [write_ok]; simp [h]
        simp only [hw, if_true]
        rw [ih]
        simp [write_indent, h]
      · have hw : (write b (s ++ [10])).2 = false := by rw [write_ok]; simp [h]
        simp [hw, h]

/-- the text of a balanced block: `if a {` / body / `}` at depth 0 -/
theorem strbuf_block :
    run {} [.appendLineIndent [123], .appendLine [120], .appendLineClose [125]] =
      ({ buf := [123, 10, 9, 120, 10, 125, 10], indent := 0 }, [true, true, true]) := by decide +kernel

/-- FINDING: closing a block that was not opened panics, and so does every later write
    (`NewStringBuffer().AppendClose("}")`: strings: negative Repeat count) -/
theorem finding_appendClose_panics :
    run {} [.appendClose [125], .append [120]] = ({ buf := [], indent := -1 }, [false, false]) := by decide +kernel

end X02
