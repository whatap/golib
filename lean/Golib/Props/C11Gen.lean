/-
  Property C11, tie A — obligations over the regenerated facts of util/queue/RequestQueue.go and
  RequestDoubleQueue.go (`Golib/Gen/Locks.lean`, rewritten by `xlate/c10` on every check: for each
  method the execution paths through its body — loops unrolled up to twice — with the branch
  conditions taken, the calls made, and the Lock / defer Unlock / Wait / Broadcast sites).

  They check on the source the facts the model (Golib/Queue/Seq.lean, Golib/Queue/Conc.lean) assumes:
    * the capacity test of every put is `capacity <= 0 || size < capacity`        (Q.room)
    * a put that adds broadcasts afterwards, on every path                         (qbcast; queue_H)
    * a refused put adds nothing, returns false and calls the failure callback     (put_full)
    * a forced put evicts only while `size >= capacity`, reports each evicted element, then adds,
      broadcasts and returns false                                                 (putForce_full)
    * Get waits only inside `for size <= 0 { Wait() }` under the lock and removes only after the
      guard was seen false                                                         (cstep; no_lost_wakeup)
    * only Put/PutForce add elements (so the operations that do not broadcast cannot enable a waiter)

  Each obligation is a closed Boolean over the tables, so evaluating it is the whole proof; `+kernel`
  lets the kernel do that once instead of after the elaborator has already done the same.
-/
import Golib.Gen.Locks

namespace C11Gen
open LockFacts Gen.Locks

def capTest (cap q : String) : String := s!"this.{cap} <= 0 || this.{q}.Size() < this.{cap}"
def evictTest (cap q : String) : String := s!"this.{q}.Size() >= this.{cap}"

/-- a call of `t` on this path happens only directly under a taken condition `c` (since the last
    evaluation of a condition) -/
def callOnlyUnder (t c : String) : List Tok → Bool → Bool
  | [], _ => true
  | .assume c' :: rest, _ => callOnlyUnder t c rest (c' == c)
  | .assumeNot _ :: rest, _ => callOnlyUnder t c rest false
  | .call t' :: rest, ok => (t' != t || ok) && callOnlyUnder t c rest ok
  | _ :: rest, ok => callOnlyUnder t c rest ok

def putPathOk (cap q failed : String) (p : List Tok) : Bool :=
  if p.contains (.assume (capTest cap q)) then
    p.contains (.call (q ++ ".Add")) && broadcastAfter [q ++ ".Add"] p && p.getLast? == some (.ret "true")
  else if p.contains (.assumeNot (capTest cap q)) then
    !p.contains (.call (q ++ ".Add")) && p.getLast? == some (.ret "false")
      && (!p.contains (.assume s!"this.{failed} != nil") || p.contains (.call failed))
  else false

def putForcePathOk (cap q overflowed : String) (p : List Tok) : Bool :=
  if p.contains (.assume (capTest cap q)) then
    p.contains (.call (q ++ ".Add")) && broadcastAfter [q ++ ".Add"] p && p.getLast? == some (.ret "true")
      && !p.contains (.call (q ++ ".RemoveFirst"))
  else if p.contains (.assumeNot (capTest cap q)) then
    p.contains (.call (q ++ ".Add")) && broadcastAfter [q ++ ".Add"] p && p.getLast? == some (.ret "false")
      && callOnlyUnder (q ++ ".RemoveFirst") (evictTest cap q) p false
      && (!p.contains (.assume s!"this.{overflowed} != nil") || p.contains (.call overflowed))
      && p.contains (.assumeNot (evictTest cap q))       -- the loop is left only when size < capacity
  else false

def methodOk (T : TypeFacts) (m : String) (pathOk : List Tok → Bool) : Bool :=
  match T.find m with
  | none => false
  | some M => M.acquires && M.lockFirst && M.deferUnlock && !M.irregular && !M.paths.isEmpty
              && pathsLockFirst M && M.paths.all pathOk

def getPathOk (guard : String) (removes : List String) (p : List Tok) : Bool :=
  waitGuarded guard p && removeAfterGuardFalse guard removes p false

def removesSomething (removes : List String) (p : List Tok) : Bool :=
  removes.any (fun r => p.contains (.call r))

/-- the methods of `T` that add to one of its lists -/
def adders (T : TypeFacts) (adds : List String) : List String :=
  (T.methods.filter (fun M => M.paths.any (fun p => adds.any (fun a => p.contains (.call a))))).map (·.name)

/-- the methods of `T` with a Broadcast on some path / a Wait on some path -/
def broadcasters (T : TypeFacts) : List String :=
  (T.methods.filter (fun M => M.paths.any (·.contains .broadcast))).map (·.name)
def waiters (T : TypeFacts) : List String :=
  (T.methods.filter (fun M => M.paths.any (·.contains .wait))).map (·.name)

theorem put_capacity_test_and_broadcast :
    methodOk RequestQueue.facts "Put" (putPathOk "capacity" "queue" "Failed") = true := by decide +kernel

theorem putforce_evicts_then_adds_and_broadcasts :
    methodOk RequestQueue.facts "PutForce" (putForcePathOk "capacity" "queue" "Overflowed") = true := by decide +kernel

theorem get_waits_in_guarded_loop :
    methodOk RequestQueue.facts "Get" (fun p => getPathOk "this.queue.Size() <= 0" ["queue.RemoveFirst"] p
      && removesSomething ["queue.RemoveFirst"] p) = true ∧
    waiters RequestQueue.facts = ["Get"] := by decide +kernel

theorem getnowait_never_waits :
    methodOk RequestQueue.facts "GetNoWait" (fun p => !p.contains .wait
      && callOnlyUnder "queue.RemoveFirst" "this.queue.Size() > 0" p false) = true := by decide +kernel

/-- exactly the operations the model lets broadcast (`Queue.qbcast`: put, putForce) add elements and
    broadcast; Clear / GetNoWait / Size / SetCapacity neither add nor need to -/
theorem only_puts_add_and_they_broadcast :
    adders RequestQueue.facts ["queue.Add", "queue.AddLast", "queue.AddFirst", "queue.PutBefore"] = ["Put", "PutForce"] ∧
    broadcasters RequestQueue.facts = ["Put", "PutForce"] := by decide +kernel

/-- GetTimeout is the polling loop of the model: it only calls GetNoWait (never touches the list or
    the lock itself) -/
def pollsOnly (T : TypeFacts) (m : String) : Bool :=
  match T.find m with
  | none => false
  | some M => !M.acquires && !M.callsFree.isEmpty && M.callsFree.all (fun c => c == "GetNoWait" || c == "poll") && M.callsHeld.isEmpty
              && M.fieldCallsFree.isEmpty && M.fieldCallsHeld.isEmpty

theorem gettimeout_polls_getnowait :
    pollsOnly RequestQueue.facts "GetTimeout" = true ∧ pollsOnly RequestDoubleQueue.facts "GetTimeout" = true := by
  decide +kernel

/-- the clock functions a method calls -/
def clockFns : List String := ["dateutil.Now", "dateutil.SystemNow", "time.Now", "dateutil.SystemMillis", "dateutil.Millis"]
def usedClocks (T : TypeFacts) (m : String) : List String :=
  match T.find m with
  | none => ["?"]
  | some M => M.extCalls.filter (fun c => clockFns.contains c)

/-- the timed get computes its deadline and the remaining time with one and the same clock (a
    server-time delta between two clocks would make it return early or late) -/
theorem gettimeout_uses_one_clock :
    (usedClocks RequestQueue.facts "GetTimeout").length = 1 ∧
    (usedClocks RequestDoubleQueue.facts "GetTimeout").length = 1 := by decide +kernel

theorem double_put_capacity_test_and_broadcast :
    methodOk RequestDoubleQueue.facts "Put1" (putPathOk "capacity1" "queue1" "failed1") = true ∧
    methodOk RequestDoubleQueue.facts "Put2" (putPathOk "capacity2" "queue2" "failed2") = true := by decide +kernel

theorem double_putforce_evicts_then_adds_and_broadcasts :
    methodOk RequestDoubleQueue.facts "PutForce1" (putForcePathOk "capacity1" "queue1" "overflowed1") = true ∧
    methodOk RequestDoubleQueue.facts "PutForce2" (putForcePathOk "capacity2" "queue2" "overflowed2") = true := by decide +kernel

/-- Get waits while both queues are empty and then tries queue 1 before queue 2 -/
theorem double_get_waits_and_prefers_first :
    methodOk RequestDoubleQueue.facts "Get"
      (fun p => getPathOk "this.queue1.Size() <= 0 && this.queue2.Size() <= 0" ["queue1.RemoveFirst", "queue2.RemoveFirst"] p
        && callOnlyUnder "queue1.RemoveFirst" "this.queue1.Size() > 0" p false
        && callOnlyUnder "queue2.RemoveFirst" "this.queue2.Size() > 0" p false
        && (!p.contains (.call "queue2.RemoveFirst") || p.contains (.assumeNot "this.queue1.Size() > 0"))
        -- the only path that removes nothing is the one marked /*impossible*/ in the source: guard false
        -- (some queue non-empty) and yet both size tests false
        && (removesSomething ["queue1.RemoveFirst", "queue2.RemoveFirst"] p
            || (p.contains (.assumeNot "this.queue1.Size() > 0") && p.contains (.assumeNot "this.queue2.Size() > 0")
                && p.getLast? == some (.ret "nil")))) = true ∧
    waiters RequestDoubleQueue.facts = ["Get"] := by decide +kernel

theorem double_getnowait_prefers_first :
    methodOk RequestDoubleQueue.facts "GetNoWait"
      (fun p => !p.contains .wait
        && callOnlyUnder "queue1.RemoveFirst" "this.queue1.Size() > 0" p false
        && callOnlyUnder "queue2.RemoveFirst" "this.queue2.Size() > 0" p false
        && (!p.contains (.call "queue2.RemoveFirst") || p.contains (.assumeNot "this.queue1.Size() > 0"))) = true := by decide +kernel

theorem double_only_puts_add_and_they_broadcast :
    adders RequestDoubleQueue.facts ["queue1.Add", "queue2.Add", "queue1.AddLast", "queue2.AddLast", "queue1.AddFirst", "queue2.AddFirst"]
      = ["Put1", "Put2", "PutForce1", "PutForce2"] ∧
    broadcasters RequestDoubleQueue.facts = ["Put1", "Put2", "PutForce1", "PutForce2"] := by decide +kernel

/-! ### every queue operation runs under the queue's lock — one obligation per method, so that a dropped
    lock names the method (GetTimeout is the polling loop: it only calls GetNoWait, see
    `gettimeout_polls_getnowait`) -/

/-- `m` takes the queue's lock as its first statement, releases it by `defer`, touches no field and calls
    nothing on the inner lists outside of it -/
def methodLocked (T : TypeFacts) (m : String) : Bool :=
  atomicMethod T m && (match T.find m with | some M => M.fieldCallsFree.isEmpty | none => false)

theorem RequestQueue_Clear_locked : methodLocked RequestQueue.facts "Clear" = true := by decide +kernel
theorem RequestQueue_Get_locked : methodLocked RequestQueue.facts "Get" = true := by decide +kernel
theorem RequestQueue_GetCapacity_locked : methodLocked RequestQueue.facts "GetCapacity" = true := by decide +kernel
theorem RequestQueue_GetNoWait_locked : methodLocked RequestQueue.facts "GetNoWait" = true := by decide +kernel
theorem RequestQueue_Put_locked : methodLocked RequestQueue.facts "Put" = true := by decide +kernel
theorem RequestQueue_PutForce_locked : methodLocked RequestQueue.facts "PutForce" = true := by decide +kernel
theorem RequestQueue_SetCapacity_locked : methodLocked RequestQueue.facts "SetCapacity" = true := by decide +kernel
theorem RequestQueue_Size_locked : methodLocked RequestQueue.facts "Size" = true := by decide +kernel

theorem RequestDoubleQueue_Clear_locked : methodLocked RequestDoubleQueue.facts "Clear" = true := by decide +kernel
theorem RequestDoubleQueue_Get_locked : methodLocked RequestDoubleQueue.facts "Get" = true := by decide +kernel
theorem RequestDoubleQueue_GetCapacity1_locked : methodLocked RequestDoubleQueue.facts "GetCapacity1" = true := by decide +kernel
theorem RequestDoubleQueue_GetCapacity2_locked : methodLocked RequestDoubleQueue.facts "GetCapacity2" = true := by decide +kernel
theorem RequestDoubleQueue_GetNoWait_locked : methodLocked RequestDoubleQueue.facts "GetNoWait" = true := by decide +kernel
theorem RequestDoubleQueue_Put1_locked : methodLocked RequestDoubleQueue.facts "Put1" = true := by decide +kernel
theorem RequestDoubleQueue_Put2_locked : methodLocked RequestDoubleQueue.facts "Put2" = true := by decide +kernel
theorem RequestDoubleQueue_PutForce1_locked : methodLocked RequestDoubleQueue.facts "PutForce1" = true := by decide +kernel
theorem RequestDoubleQueue_PutForce2_locked : methodLocked RequestDoubleQueue.facts "PutForce2" = true := by decide +kernel
theorem RequestDoubleQueue_SetCapacity_locked : methodLocked RequestDoubleQueue.facts "SetCapacity" = true := by decide +kernel
theorem RequestDoubleQueue_Size_locked : methodLocked RequestDoubleQueue.facts "Size" = true := by decide +kernel
theorem RequestDoubleQueue_Size1_locked : methodLocked RequestDoubleQueue.facts "Size1" = true := by decide +kernel
theorem RequestDoubleQueue_Size2_locked : methodLocked RequestDoubleQueue.facts "Size2" = true := by decide +kernel
theorem RequestDoubleQueue_ToString1_locked : methodLocked RequestDoubleQueue.facts "ToString1" = true := by decide +kernel
theorem RequestDoubleQueue_ToString2_locked : methodLocked RequestDoubleQueue.facts "ToString2" = true := by decide +kernel

/-- no exported queue method is left out of the list above (a new method needs its obligation) -/
theorem queue_methods_covered :
    (RequestQueue.facts.methods.filter (·.exported)).map (·.name)
      = ["Clear", "Get", "GetCapacity", "GetNoWait", "GetTimeout", "Put", "PutForce", "SetCapacity", "Size"] ∧
    -- (SetCallbacks1/2, the setters of the callback fields, are listed apart: they must be locked as well)
    ((RequestDoubleQueue.facts.methods.filter (fun M => M.exported && M.name != "SetCallbacks1" && M.name != "SetCallbacks2")).map (·.name)
      = ["Clear", "Get", "GetCapacity1", "GetCapacity2", "GetNoWait", "GetTimeout", "Put1", "Put2", "PutForce1",
         "PutForce2", "SetCapacity", "Size", "Size1", "Size2", "ToString1", "ToString2"]) ∧
    (RequestDoubleQueue.facts.methods.filter (fun M => M.name == "SetCallbacks1" || M.name == "SetCallbacks2")).all
      (fun M => methodLocked RequestDoubleQueue.facts M.name) = true := by decide +kernel

/-! ### the former finding `RequestDoubleQueue:callbacks-unsettable` (repaired: SetCallbacks1/2), on the source facts -/

/-- the methods of `T` that assign one of the fields `flds` -/
def assigners (T : TypeFacts) (flds : List String) : List String :=
  (T.methods.filter (fun M => (M.accHeld ++ M.accFree).any (fun a => a.write && flds.contains a.root))).map (·.name)

/-- the methods of `T` that invoke one of the function-valued fields `flds` -/
def invokers (T : TypeFacts) (flds : List String) : List String :=
  (T.methods.filter (fun M => flds.any (fun f => M.callbacksHeld.contains f))).map (·.name)

/-- The double queue's four callbacks are fields of the struct whose names are not exported; the only
    methods of the type that assign them are the setters `SetCallbacks1` / `SetCallbacks2`
    (util/queue/RequestDoubleQueue.go; before they existed nothing could install a callback, and a
    refused or evicted element of the double queue was reported to nobody), and exactly
    Put1/Put2/PutForce1/PutForce2 invoke them.  The single queue's callbacks are exported fields
    (`Failed`, `Overflowed`) and are invoked by Put / PutForce. -/
theorem double_queue_callbacks_assigned_only_by_setters :
    ["failed1", "overflowed1", "failed2", "overflowed2"].all (RequestDoubleQueue.facts.fields.contains ·) = true ∧
    -- no method but the two setters assigns them
    (assigners RequestDoubleQueue.facts ["failed1", "overflowed1", "failed2", "overflowed2"]).all
      (fun m => m == "SetCallbacks1" || m == "SetCallbacks2") = true ∧
    invokers RequestDoubleQueue.facts ["failed1", "overflowed1", "failed2", "overflowed2"]
      = ["Put1", "Put2", "PutForce1", "PutForce2"] ∧
    ["Failed", "Overflowed"].all (RequestQueue.facts.fields.contains ·) = true ∧
    invokers RequestQueue.facts ["Failed", "Overflowed"] = ["Put", "PutForce"] := by decide +kernel

end C11Gen
