/-
  Property C07 — obligations over the regenerated facts (tie A).

  `xlate/c07` transcribes lang/pack/udp/*.go into Golib/Gen/UdpLayouts.lean on every run:
  every `Write` and `Read` body separately (layout IR), the struct fields, the assignments of
  every `Clear()` and constructor, `GetPackType`, the `CreatePack` / `ClosePack` switches with
  their pools, every `stringutil.Truncate` of a writer, and the statements of `Process()` of the
  packs that carry a connection string.  Each theorem below compares one of these facts with the
  hand-written CodeModel (Golib.Udp.Packs); a gate edited on one side only, a dropped or reordered
  field, a changed width or conversion, a field not reset by `Clear()`, a pack type without pool,
  a changed masking statement changes the generated data and the `decide` fails.
-/
import Golib.Udp.Packs
import Golib.Udp.ParamKV
import Golib.Udp.Merge
import Golib.Udp.Route
import Golib.Udp.WFB
import Golib.Gen.UdpLayouts
import Golib.Props.C07

namespace C07Gen
open Udp Udp.Layout Prim

/-! ### Write and Read of every type agree through the model's layout

`agree w r m`: the writer's view of `w` equals the writer's view of `m` and the reader's view of `r`
equals the reader's view of `m` (Golib.Udp.Layout).  With `Layout.agree_roundtrip` this gives, for
the *transcribed* `Read` and `Write`, every version and every well-formed pack:
`read T.r ver st (write T.w ver x ++ rest) = (post m ver x st, rest)`. -/

theorem agree_AbstractPack : agree Gen.AbstractPack.w Gen.AbstractPack.r (hdr .nil) = true := by decide +kernel

theorem agree_UdpTxStartPack : agree Gen.UdpTxStartPack.w Gen.UdpTxStartPack.r UdpTxStartPack.layout = true := by decide +kernel
theorem agree_UdpTxEndPack : agree Gen.UdpTxEndPack.w Gen.UdpTxEndPack.r UdpTxEndPack.layout = true := by decide +kernel
theorem agree_UdpTxStartEndPack : agree Gen.UdpTxStartEndPack.w Gen.UdpTxStartEndPack.r UdpTxStartEndPack.layout = true := by decide +kernel
theorem agree_UdpTxSqlPack : agree Gen.UdpTxSqlPack.w Gen.UdpTxSqlPack.r UdpTxSqlPack.layout = true := by decide +kernel
theorem agree_UdpTxSqlParamPack : agree Gen.UdpTxSqlParamPack.w Gen.UdpTxSqlParamPack.r UdpTxSqlParamPack.layout = true := by decide +kernel
theorem agree_UdpTxDbcPack : agree Gen.UdpTxDbcPack.w Gen.UdpTxDbcPack.r UdpTxDbcPack.layout = true := by decide +kernel
theorem agree_UdpTxHttpcPack : agree Gen.UdpTxHttpcPack.w Gen.UdpTxHttpcPack.r UdpTxHttpcPack.layout = true := by decide +kernel
theorem agree_UdpTxErrorPack : agree Gen.UdpTxErrorPack.w Gen.UdpTxErrorPack.r UdpTxErrorPack.layout = true := by decide +kernel
theorem agree_UdpTxMessagePack : agree Gen.UdpTxMessagePack.w Gen.UdpTxMessagePack.r UdpTxMessagePack.layout = true := by decide +kernel
theorem agree_UdpTxSecureMessagePack : agree Gen.UdpTxSecureMessagePack.w Gen.UdpTxSecureMessagePack.r UdpTxSecureMessagePack.layout = true := by decide +kernel
theorem agree_UdpTxMethodPack : agree Gen.UdpTxMethodPack.w Gen.UdpTxMethodPack.r UdpTxMethodPack.layout = true := by decide +kernel
theorem agree_UdpTxResultSetPack : agree Gen.UdpTxResultSetPack.w Gen.UdpTxResultSetPack.r UdpTxResultSetPack.layout = true := by decide +kernel
theorem agree_UdpTxParamPack : agree Gen.UdpTxParamPack.w Gen.UdpTxParamPack.r UdpTxParamPack.layout = true := by decide +kernel
theorem agree_UdpActiveStackPack1 : agree Gen.UdpActiveStackPack1.w Gen.UdpActiveStackPack1.r UdpActiveStackPack1.layout = true := by decide +kernel
theorem agree_UdpActiveStackPack : agree Gen.UdpActiveStackPack.w Gen.UdpActiveStackPack.r UdpActiveStackPack.layout = true := by decide +kernel
theorem agree_UdpActiveStatsPack : agree Gen.UdpActiveStatsPack.w Gen.UdpActiveStatsPack.r UdpActiveStatsPack.layout = true := by decide +kernel
theorem agree_UdpDBConPoolPack : agree Gen.UdpDBConPoolPack.w Gen.UdpDBConPoolPack.r UdpDBConPoolPack.layout = true := by decide +kernel
theorem agree_UdpConfigPack : agree Gen.UdpConfigPack.w Gen.UdpConfigPack.r UdpConfigPack.layout = true := by decide +kernel
theorem agree_UdpRelayPack : agree Gen.UdpRelayPack.w Gen.UdpRelayPack.r UdpRelayPack.layout = true := by decide +kernel

/-- nothing is left out: the transcribed pack types are exactly the model's (plus the header) -/
theorem layouts_complete :
    (Gen.layouts.map (·.1)).all (fun n => n == "AbstractPack" || (allPacks.map (·.name)).contains n) = true ∧
    allPacks.all (fun t => (Gen.layouts.map (·.1)).contains t.name) = true ∧
    Gen.layouts.length = allPacks.length + 1 := by
  decide +kernel

/-- the round trip of the transcribed code (one instance spelled out; the same one-liner works for
    every type from its `agree_*`) -/
theorem gen_roundtrip_UdpTxEndPack (ver : Int) (x st : Rec) (rest : Bytes)
    (h : WF UdpTxEndPack.layout ver x st) :
    P.run (read Gen.UdpTxEndPack.r ver st) (write Gen.UdpTxEndPack.w ver x ++ rest) =
      some (post UdpTxEndPack.layout ver x st, rest) :=
  agree_roundtrip _ _ _ agree_UdpTxEndPack ver x st rest h

theorem gen_roundtrip (w r m : Layout) (ha : agree w r m = true) (ver : Int) (x st : Rec) (rest : Bytes)
    (h : WF m ver x st) :
    P.run (read r ver st) (write w ver x ++ rest) = some (post m ver x st, rest) :=
  agree_roundtrip w r m ha ver x st rest h

/-! ### struct fields, Clear(), constructors, type codes -/

theorem struct_fields : ∀ t ∈ allPacks, Gen.structFields.lookup t.name = some t.fields := by decide +kernel

/-- the value a field holds after a sequence of assignments (the last one wins) -/
def finalOf (as : List (String × Val)) (f : String) : Option Val :=
  (as.reverse.find? (fun a => a.1 == f)).map (·.2)

/-- two assignment sequences have the same effect on the fields `fs` and touch nothing else
    (the order of assignments to different fields does not matter) -/
def sameEffect (fs : List String) (src model : List (String × Val)) : Bool :=
  fs.all (fun f => finalOf src f == finalOf model f) && src.all (fun a => fs.contains a.1)

theorem sameEffect_self (fs : List String) (m : List (String × Val)) :
    sameEffect fs m m = m.all (fun a => fs.contains a.1) := by
  simp [sameEffect]

/-- Clear() and the constructor of the source are the model's tables, assignment for assignment.  These two
    are where `Gen.clearAssigns` / `Gen.newAssigns` meet the model: a Clear() or constructor of one type edited in
    the source breaks them, and with them `clear_assigns`, `new_assigns`, `clear_total_source`, which rest on them. -/
theorem clear_source : ∀ t ∈ allPacks, Gen.clearAssigns.lookup t.name = some t.clear := by decide +kernel
theorem new_source : ∀ t ∈ allPacks, Gen.newAssigns.lookup t.name = some t.fresh := by decide +kernel

/-- the assignments of every Clear() have the effect of the model's; with `C07.clear_total` every
    struct field of the source (embedded header included) is reset to the model's constant -/
theorem clear_assigns :
    ∀ t ∈ allPacks, (Gen.clearAssigns.lookup t.name).map (sameEffect t.fieldNames · t.clear) = some true := by
  intro t ht
  rw [clear_source t ht, Option.map_some, sameEffect_self, clear_in_fields t ht]
theorem clear_assigns_UdpRelayPack :
    (Gen.clearAssigns.lookup "UdpRelayPack").map (sameEffect UdpRelayPack.fieldNames · UdpRelayPack.clear) = some true :=
  clear_assigns _ (by simp [allPacks])
theorem clear_assigns_UdpConfigPack :
    (Gen.clearAssigns.lookup "UdpConfigPack").map (sameEffect UdpConfigPack.fieldNames · UdpConfigPack.clear) = some true :=
  clear_assigns _ (by simp [allPacks])

/-- the struct table has one row per name, each the header's or a model type's -/
theorem struct_keys :
    (Gen.structFields.map (·.1)).Nodup ∧
    (Gen.structFields.map (·.1)).all (fun n => n == "AbstractPack" || (allPacks.map (·.name)).contains n) = true := by
  decide +kernel

/-- `clear_total` on the transcribed source directly: every struct field appears among the
    assignments of its type's Clear() -/
theorem clear_total_source :
    Gen.structFields.all (fun tf => tf.1 == "AbstractPack" ||
      match Gen.clearAssigns.lookup tf.1 with
      | some as => tf.2.all (fun f => (as.map (·.1)).contains f.1)
      | none => false) = true := by
  rw [List.all_eq_true]
  intro tf htf
  have hk := List.all_eq_true.mp struct_keys.2 tf.1 (List.mem_map_of_mem (f := (·.1)) htf)
  rw [Bool.or_eq_true] at hk ⊢
  refine hk.imp id fun hc => ?_
  -- the row is the model's `(t.name, t.fields)`, its Clear() the model's: `C07.clear_total`
  obtain ⟨t, ht, hn⟩ := List.mem_map.mp (List.contains_iff_mem.mp hc)
  have hf := (Golib.lookup_of_mem_nodup struct_keys.1 htf).symm.trans (hn ▸ struct_fields t ht)
  rw [← hn, clear_source t ht, Option.some.inj hf]
  have := C07.clear_total t ht
  rwa [PackT.clearTotal, PackT.fieldNames, List.all_map] at this

theorem new_assigns :
    ∀ t ∈ allPacks, (Gen.newAssigns.lookup t.name).map (sameEffect t.fieldNames · t.fresh) = some true := by
  intro t ht
  rw [new_source t ht, Option.map_some, sameEffect_self, fresh_in_fields t ht]

theorem pack_type_codes : ∀ t ∈ allPacks, Gen.packTypeOf.lookup t.name = some t.code := by decide +kernel

/-! ### CreatePack / ClosePack: type ↔ pool -/

def createRow (code : Nat) : Option (String × String × Bool × Bool) := Gen.createTable.lookup code
def closeRow (code : Nat) : Option String := Gen.closeTable.lookup code

/-- every pack type has its case in CreatePack (asserting its own type, setting Ver, returning the
    pack) and in ClosePack, both on the same pool, whose New calls the type's constructor -/
theorem pool_tables :
    ∀ t ∈ allPacks,
      createRow t.code = some (t.pool, t.name, true, true) ∧
      closeRow t.code = some t.pool ∧
      Gen.poolNew.lookup t.pool = some ("New" ++ t.name) ∧
      Gen.ctorType.lookup ("New" ++ t.name) = some t.name := by decide +kernel

/-- … and there are no other cases; ClosePack clears before it puts -/
theorem pool_tables_exact :
    Gen.createTable.length = allPacks.length ∧ Gen.closeTable.length = allPacks.length ∧
    Gen.poolNew.length = allPacks.length ∧ Gen.closeClearsFirst = true := by decide +kernel

theorem nothing_untranslated : Gen.untranslated = [] := by decide +kernel

/-! ### caps -/

theorem caps_source :
    (Gen.capsNamed.map fun c => (c.1, c.2.1, c.2.2.2)).all (fun c => modelCaps.contains c) = true ∧
    modelCaps.all (fun c => (Gen.capsNamed.map fun c => (c.1, c.2.1, c.2.2.2)).contains c) = true := by decide +kernel

/-- the documented caps use the HTTP_*_MAX_SIZE constants of UdpPack.go -/
theorem caps_constants :
    ((Gen.capsNamed.filter (·.1 == "UdpTxStartPack")).map (·.2.2.1)).all (fun n =>
      ["HTTP_HOST_MAX_SIZE", "HTTP_URI_MAX_SIZE", "HTTP_IP_MAX_SIZE", "HTTP_UA_MAX_SIZE", "HTTP_REF_MAX_SIZE",
       "HTTP_METHOD_MAX_SIZE"].contains n) = true := by decide +kernel

/-! ### Process() of the packs that carry a connection string -/

def maskBlock : String :=
  "ifNonEmpty Dbc [p = paramtext.NewParamKVSeperate(F.Dbc, \" \", \"=\"); F.Dbc = p.ToStringStr(\"password\", \"#\"); " ++
  "p = paramtext.NewParamKVSeperate(F.Dbc, \";\", \"=\"); F.Dbc = p.ToStringStr(\"password\", \"#\")]"
def tooLong : String := "ifLenGe len(F.Sql) 32768 [F.Sql = \"[QUERY TOO LONG]\\r\\n\" + F.Sql]"

/-- the five family branches of Process(): Go and the final `else` (PHP) mask, first at blanks then
    at semicolons, the key `password` with `#` — exactly `Udp.maskDbc` under `Udp.masksAt` -/
def procModel (withSql : Bool) : List (String × String) :=
  let blk := if withSql then maskBlock ++ "; " ++ tooLong else maskBlock
  [("(.verGt 50000)", blk), ("(.verGt 40000)", ""), ("(.verGt 30000)", ""), ("(.verGt 20000)", ""), ("else", blk)]

theorem process_facts :
    Gen.procFacts = [("UdpTxSqlPack", procModel true), ("UdpTxSqlParamPack", procModel true),
                     ("UdpTxDbcPack", procModel false)] := by decide +kernel

/-! ### theorems stated on what the source says, no hand-written table in between

`merge` computes the merged layout from the two transcriptions; `genPack` assembles a `PackT` from the
regenerated struct fields, Clear() and constructor assignments, type code, pool and merged layout.  By the
comparisons above it is the model's pack type up to that layout (`genPack_model`), so what `C07` proves of
the model's Clear tables and pools holds of `genPacks` and `genRouting`. -/

/-- every transcribed Write / Read pair fits together (a merged layout exists and passes `agree`) -/
theorem all_agreeM : Gen.layouts.all (fun nwr => agreeM nwr.2.1 nwr.2.2) = true := by decide +kernel

/-- **round trip of the transcribed code**: for every pack type of the source there is a layout `m`
    (computed, not hand-written) such that, for every version, every pack well-formed for `m`, every
    receiving pack and every rest, the transcribed `Read` run on the bytes of the transcribed `Write`
    consumes exactly those bytes and leaves `post m ver x st` -/
theorem source_roundtrip :
    ∀ nwr ∈ Gen.layouts, ∃ m, merge nwr.2.1 nwr.2.2 = some m ∧
      ∀ (ver : Int) (x st : Rec) (rest : Bytes), WF m ver x st →
        P.run (read nwr.2.2 ver st) (write nwr.2.1 ver x ++ rest) = some (post m ver x st, rest) := by
  intro nwr h
  have := all_agreeM
  rw [List.all_eq_true] at this
  exact merged_roundtrip _ _ (this nwr h)

/-- non-vacuity of `source_roundtrip`: the layout computed for UdpTxEndPack has well-formed packs -/
example : (merge Gen.UdpTxEndPack.w Gen.UdpTxEndPack.r).map (fun m => wfB m 50101
    (Rec.ofList [("Txid", .int 1), ("Time", .int 2), ("Elapsed", .int 3), ("Cpu", .int 0), ("Mem", .int 0), ("Pid", .int 9),
      ("ThreadId", .int 8), ("Host", .str [104]), ("Uri", .str [47]), ("Mtid", .int (-7)), ("Mdepth", .int 1),
      ("McallerTxid", .int 0), ("McallerPcode", .int 5), ("McallerSpec", .str []), ("McallerUrl", .str [49]),
      ("McallerPoidKey", .str []), ("Status", .int 200), ("McallerStepId", .int 4), ("XTraceId", .str [120])] (fun _ => .null))
    (fun _ => .null)) = some true := by decide +kernel

/-- the merged layouts computed from the source are the model's (reader's and writer's views) -/
theorem merged_is_model :
    ∀ t ∈ allPacks, (((Gen.layouts.lookup t.name).bind (fun wr => merge wr.1 wr.2)).map (fun m => (wv m, rv m))) =
      some (wv t.layout, rv t.layout) := by decide +kernel

/-- a pack type as the source describes it -/
def genPack (name : String) : Option PackT :=
  match Gen.structFields.lookup name, Gen.clearAssigns.lookup name, Gen.newAssigns.lookup name,
        Gen.packTypeOf.lookup name, Gen.layouts.lookup name with
  | some fields, some clear, some fresh, some code, some (w, r) =>
    match merge w r, Gen.createTable.lookup code with
    | some m, some row => some { name := name, code := code, layout := m, fields := fields, clear := clear,
                                 fresh := fresh, pool := row.1 }
    | _, _ => none
  | _, _, _, _, _ => none

def genPacks : List PackT := (Gen.packTypeOf.map (·.1)).filterMap genPack

/-- GetPackType is transcribed once per name, for model types only -/
theorem type_keys :
    (Gen.packTypeOf.map (·.1)).Nodup ∧
    (Gen.packTypeOf.map (·.1)).all (fun n => (allPacks.map (·.name)).contains n) = true := by decide +kernel

/-- a pack type as the source describes it is the model's, up to the merged layout: the five lookups of `genPack`
    are answered by `struct_fields`, `clear_source`, `new_source`, `pack_type_codes`, `merged_is_model`, `pool_tables` -/
theorem genPack_model (t : PackT) (ht : t ∈ allPacks) : ∃ m, genPack t.name = some { t with layout := m } := by
  have h5 := merged_is_model t ht
  have h6 : Gen.createTable.lookup t.code = some (t.pool, t.name, true, true) := (pool_tables t ht).1
  cases hl : Gen.layouts.lookup t.name with
  | none => rw [hl] at h5; cases h5
  | some wr =>
    obtain ⟨w, r⟩ := wr
    cases hm : merge w r with
    | none => rw [hl] at h5; simp [hm] at h5
    | some m =>
      refine ⟨m, ?_⟩
      simp only [genPack, struct_fields t ht, clear_source t ht, new_source t ht, pack_type_codes t ht, hl, hm, h6]

theorem genPack_name {n : String} (hn : n ∈ Gen.packTypeOf.map (·.1)) :
    ∃ t ∈ allPacks, ∃ m, t.name = n ∧ genPack n = some { t with layout := m } := by
  obtain ⟨t, ht, rfl⟩ := List.mem_map.mp (List.contains_iff_mem.mp (List.all_eq_true.mp type_keys.2 n hn))
  obtain ⟨m, hm⟩ := genPack_model t ht
  exact ⟨t, ht, m, rfl, hm⟩

theorem genPacks_model : ∀ g ∈ genPacks, ∃ t ∈ allPacks, ∃ m, g = { t with layout := m } := by
  intro g hg
  obtain ⟨n, hn, hgn⟩ := List.mem_filterMap.mp hg
  obtain ⟨t, ht, m, _, hm⟩ := genPack_name hn
  exact ⟨t, ht, m, Option.some.inj (hgn.symm.trans hm)⟩

theorem genPacks_complete : genPacks.map (·.name) = Gen.packTypeOf.map (·.1) ∧ genPacks.length = allPacks.length := by
  have h1 : genPacks.map (·.name) = Gen.packTypeOf.map (·.1) :=
    filterMap_keys genPack (·.name) _ fun n hn =>
      let ⟨_, _, _, e, hm⟩ := genPack_name hn
      ⟨_, hm, e⟩
  refine ⟨h1, ?_⟩
  have := congrArg List.length h1
  rw [List.length_map, List.length_map] at this
  rw [this]; decide

/-- Clear() of the source assigns every struct field of the source, for every type -/
theorem gen_clear_total : ∀ t ∈ genPacks, t.clearTotal = true := by
  intro g hg
  obtain ⟨t, ht, m, rfl⟩ := genPacks_model g hg
  exact C07.clear_total t ht

/-- single-pool histories, on the source-derived tables -/
theorem gen_pool_no_residue (t : PackT) (ht : t ∈ genPacks) (evs : List PoolEv) :
    ∀ vq ∈ (runPool t evs []).2,
      (∀ f ∈ t.fieldNames, vq.2 f = (t.clearedRec.set "Ver" (.int vq.1)) f) ∨
      (∀ f ∈ t.fieldNames, vq.2 f = (t.freshRec.set "Ver" (.int vq.1)) f) :=
  runPool_spec t (gen_clear_total t ht) evs [] (by intro o ho; cases ho)

/-- the two switches of UdpPack.go as routing maps: type name ↦ code (GetPackType) ↦ pool -/
def genRouting : Routing where
  closePool := fun n => match Gen.packTypeOf.lookup n with
    | some code => (Gen.closeTable.lookup code).getD ""
    | none => ""
  createPool := fun n => match Gen.packTypeOf.lookup n with
    | some code => ((Gen.createTable.lookup code).map (·.1)).getD ""
    | none => ""

/-- both switches of the source send a model type to its own pool -/
theorem genRouting_pool (t : PackT) (ht : t ∈ allPacks) :
    genRouting.closePool t.name = t.pool ∧ genRouting.createPool t.name = t.pool := by
  obtain ⟨h1, h2, _, _⟩ := pool_tables t ht
  simp only [createRow, closeRow] at h1 h2
  simp only [genRouting, pack_type_codes t ht, h1, h2, Option.map_some, Option.getD_some, and_self]

theorem gen_routing_same : ∀ t ∈ genPacks, genRouting.closePool t.name = genRouting.createPool t.name := by
  intro g hg
  obtain ⟨t, ht, m, rfl⟩ := genPacks_model g hg
  exact (genRouting_pool t ht).1.trans (genRouting_pool t ht).2.symm

/-- no two model types share a pool (`C07.pool_tables_model`) -/
theorem gen_routing_inj :
    ∀ t ∈ genPacks, ∀ u ∈ genPacks, genRouting.createPool t.name = genRouting.createPool u.name → t.name = u.name := by
  intro g hg g' hg' h
  obtain ⟨t, ht, m, rfl⟩ := genPacks_model g hg
  obtain ⟨u, hu, m', rfl⟩ := genPacks_model g' hg'
  have : t.pool = u.pool := (genRouting_pool t ht).2.symm.trans (h.trans (genRouting_pool u hu).2)
  exact congrArg (·.name) (Golib.eq_of_nodup_map (·.pool) allPacks C07.pool_tables_model.2.2 t u ht hu this)

theorem gen_names_nodup : (genPacks.map (·.name)).Nodup := by
  rw [genPacks_complete.1]; exact type_keys.1

/-- **pool routing of the source**: every history of CreatePack / ClosePack / drops over the pools of
    all pack types, with arbitrary packs released in any interleaving of types, runs without a
    type-assertion panic and hands out, for the type asked for, a pack that is on every struct field
    the type's Clear() constants or constructor constants -/
theorem gen_route_clean (evs : List MEv) (hev : ∀ e ∈ evs, evTypeIn genPacks e) :
    ∃ outs, runM genRouting evs (fun _ => []) = some outs ∧ ∀ out ∈ outs, out.1 ∈ genPacks ∧ CleanOut out :=
  route_clean genRouting genPacks gen_names_nodup gen_routing_same gen_routing_inj gen_clear_total evs hev

/-! ### no hidden package-level state (what the per-call theorems need to describe concurrent use)

The round-trip, numtext and masking theorems are statements about one call.  That they describe
every call of a process — one goroutine per transaction, all writing, reading and processing packs
at the same time — needs the code to keep no mutable package-level state besides the pools
(`sync.Pool` is safe for concurrent use by its contract).  Regenerated facts (scan of lang/pack/udp,
util/stringutil, util/paramtext, util/urlutil, io): -/

/-- the only package-level variables are the 19 pools and stringutil's compiled `linuxPattern` -/
theorem pkg_vars :
    Gen.pkgVars.map (·.1) = ["lang/pack/udp", "util/stringutil", "util/paramtext", "util/urlutil", "io"] ∧
    Gen.pkgVars.all (fun pv =>
      if pv.1 == "lang/pack/udp" then
        pv.2.all (fun v => (allPacks.map (·.pool)).contains v) && (allPacks.map (·.pool)).all (fun v => pv.2.contains v) &&
          pv.2.length == allPacks.length
      else if pv.1 == "util/stringutil" then pv.2 == ["linuxPattern"]
      else pv.2.isEmpty) = true := by
  decide +kernel

/-- no function writes, slices, takes the address of, or hands to another function a package-level
    variable; the only uses other than reads are method calls on a pool in CreatePack / ClosePack and on
    the compiled pattern in EscapeSpace -/
theorem no_package_state_written :
    Gen.stateRefs.all (fun r =>
      r.2.2.1 == "r" ||
      (r.2.2.1 == "m" && r.1 == "lang/pack/udp" && (r.2.1 == "CreatePack" || r.2.1 == "ClosePack") &&
        (allPacks.map (·.pool)).contains r.2.2.2) ||
      (r == ("util/stringutil", "EscapeSpace", "m", "linuxPattern"))) = true := by decide +kernel

/-- non-vacuity of `gen_route_clean`: a history over two source-derived types -/
example : (match genPack "UdpTxEndPack", genPack "UdpTxMessagePack" with
    | some a, some b => (runM genRouting [.close a (fun _ => .int 5), .close b (fun _ => .int 6),
        .create b (some 0) 50100, .create a (some 0) 10101] (fun _ => [])).map (fun outs => outs.map fun o => (o.1.name, o.2.2 "Host", o.2.2 "Hash"))
    | _, _ => none) = some [("UdpTxMessagePack", .int 6, .str []), ("UdpTxEndPack", .str [], .int 5)] := by decide +kernel

end C07Gen
