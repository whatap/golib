/-
  Golib.Props.X02Gen — obligations about the tables and constants re-read from the Go source by
  xlate/x02 (Golib/Gen/X02.lean, regenerated on every run): the models Golib.Ext.* are the generic
  functions instantiated with exactly the regenerated data, for all inputs.
-/
import Golib.Gen.X02
import Golib.Ext.ParamText
import Golib.Ext.ShellArg
import Golib.Ext.UrlUtil
import Golib.Ext.CastMath

namespace X02
open Ext Ext.Str

/-! ### castutil: the type switches -/
section Cast
open Ext.Cast

def row (i : Nat) : Row := Gen.X02.castSwitch.getD i ([], none)

/-- the regenerated switch table is the one the models were written against -/
theorem gen_castSwitch : Gen.X02.castSwitch = switchTable := rfl

/-- every C* function installs `recover()` and tests `val == nil` (so the models are total and nil is zero) -/
theorem gen_cast_guards : Gen.X02.castRecover.all id = true ∧ Gen.X02.castNilTest.all id = true ∧
    Gen.X02.castRecover.length = 6 ∧ Gen.X02.castNilTest.length = 6 := ⟨rfl, rfl, rfl, rfl⟩

/-- for every argument: each model computes what the branch selected by the REGENERATED table computes -/
theorem gen_cInt (d : Dyn) : cInt d = cIntBy (branchOf (row 0) d) d := by cases d <;> rfl
theorem gen_cLong (d : Dyn) : cLong d = cLongBy (branchOf (row 1) d) d := by cases d <;> rfl
theorem gen_cFloat (d : Dyn) : cFloat d = cFloatBy (branchOf (row 2) d) d := by cases d <;> rfl
theorem gen_cDouble (d : Dyn) : cDouble d = cDoubleBy (branchOf (row 3) d) d := by cases d <;> rfl
theorem gen_cString (d : Dyn) : cString d = cStringBy (branchOf (row 4) d) d := by cases d <;> rfl
theorem gen_cBool (d : Dyn) : cBool d = cBoolBy (branchOf (row 5) d) d := by cases d <;> rfl

/-- the branch taken by an `int`, `int32` or `float32` argument in the numeric conversions is the
    default clause whose assertion panics -/
theorem gen_other_types_panic (v : Int) (b : Nat) :
    branchOf (row 0) (.int v) = .dfltPanic ∧ branchOf (row 0) (.i32 v) = .dfltPanic ∧
    branchOf (row 1) (.int v) = .dfltPanic ∧ branchOf (row 2) (.f32 b) = .dfltPanic ∧
    branchOf (row 3) (.f32 b) = .dfltPanic := ⟨rfl, rfl, rfl, rfl, rfl⟩

end Cast

/-! ### mathutil.Scale -/

def lookupInt : List (Int × Int) → Int → Option Int
  | [], _ => none
  | (k, v) :: t, n => if k = n then some v else lookupInt t n

/-- `Scale` is the regenerated switch table with the regenerated default, for every argument -/
theorem gen_scale (n : Int) :
    Cast.scale n = (lookupInt Gen.X02.scaleCases n).getD Gen.X02.scaleDefault := by
  unfold Cast.scale Gen.X02.scaleCases Gen.X02.scaleDefault
  simp only [lookupInt]
  by_cases h1 : n = 1
  · subst h1; rfl
  · by_cases h2 : n = 2
    · subst h2; rfl
    · by_cases h3 : n = 3
      · subst h3; rfl
      · have e1 : ¬ (1 : Int) = n := fun e => h1 e.symm
        have e2 : ¬ (2 : Int) = n := fun e => h2 e.symm
        have e3 : ¬ (3 : Int) = n := fun e => h3 e.symm
        simp [h1, h2, h3, e1, e2, e3]

theorem gen_scale_table : Gen.X02.scaleCases = Cast.scaleTable ∧ Gen.X02.scaleDefault = Cast.scaleDefault := ⟨rfl, rfl⟩

/-! ### paramtext / shellarg constants -/

/-- `NewParamText(t) = NewParamTextBrace(t, "${", "}")` -/
theorem gen_defaultBraces : Gen.X02.defaultBraces = ([36, 123], [125]) := rfl

/-- the tag rule of the model is the generic rule with the regenerated prefix and offset … -/
theorem gen_addTag (s : ShellArg.SA) (a : Bytes) :
    ShellArg.addTag s a =
      if Gen.X02.tagPrefix.isPrefixOf a then { s with tags := ShellArg.put s.tags a (a.drop Gen.X02.tagSkip) } else s := rfl

/-- … the literal offset is the length of the prefix (so the tag value is what follows the prefix) … -/
theorem gen_tagSkip : Gen.X02.tagSkip = Gen.X02.tagPrefix.length := rfl

/-- … and a word is a value iff it does not start with the regenerated marker -/
theorem gen_isVal (w : Bytes) : ShellArg.isVal w = !(Gen.X02.valueMarker.isPrefixOf w) := rfl

/-! ### urlutil: separators, offsets, default ports -/
section Url
open Ext.Url

def sep (i : Nat) : Bytes := (Gen.X02.urlSearches.getD i (false, [])).2
def off (i : Nat) : Nat := Gen.X02.urlOffsets.getD i 0

/-- the searches are Index ?, LastIndex /, Index ://, Index /, Index : — in this order -/
theorem gen_url_search_kinds : Gen.X02.urlSearches.map (·.1) = [false, true, false, false, false] := rfl

theorem gen_splitQ (u : Bytes) : splitQ u =
    match indexOf (sep 0) u with
    | some p => (u.drop (p + off 0), u.take p)
    | none => ([], u) := rfl

/-- `File` is cut at the last occurrence of the one-byte separator `/` (the model's `lastIndexB 47`) -/
theorem gen_file_sep : sep 1 = [47] := rfl

theorem gen_splitProto (u : Bytes) : splitProto u =
    match indexOf (sep 2) u with
    | some p => (u.take p, u.drop (p + off 1))
    | none => ([], u) := rfl

theorem gen_splitPath (u : Bytes) : splitPath u =
    match indexOf (sep 3) u with
    | some p => (u.take p, u.drop p)
    | none => (u, []) := rfl

theorem gen_parsePort (u : Bytes) : parsePort u =
    match indexOf (sep 4) u with
    | some p => (u.take p, u.drop (p + off 2), true)
    | none => (u, [], false) := rfl

/-- default ports: 443 for the protocol literal compared (`https`), 80 otherwise, at both places -/
theorem gen_url_ports : Gen.X02.urlProtocols = [https, https] ∧ Gen.X02.urlPorts = [443, 80, 443, 80] := ⟨rfl, rfl⟩

end Url

end X02
