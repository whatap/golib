/-
  Property C03 — every pack type survives serialize/deserialize with all carried fields intact.

  The models, the generic round trip (`agree_roundtrip`) and the lemmas about single definitions are in
  Golib/Layout/*.lean and Golib/Packs/*.lean; what follows from them is proved here.

  Shape of the argument.  A pack body is a *layout* (Golib.Layout.IR): the writer body and the
  reader body are transcribed separately from the Go source on every run (xlate/c03 →
  Gen/PackLayouts.lean); `agrees w r` is decided by evaluation for every pack type
  (Props/C03Gen.lean); `pack_roundtrip` (below; the induction on the layouts is `Layout.agree_sound`, done once) turns
  each such fact into the round trip of that type for *all* field values, both header forms, any
  continuation of the input.  The tagged value codec inside map-valued fields is property C02: its
  theorem `Value.decode_encV` is plugged in (`Layout.valueRT`), so the statements below carry no
  hypothesis about values beyond well-formedness (`Value.WFV`, inside `L.WF`).
  gzip is abstract (`Packs.Gzip`: unzip ∘ zip = id).
-/
import Golib.Layout.Agree
import Golib.Layout.Reencode
import Golib.Layout.ValueInst
import Golib.Layout.Prefix
import Golib.Layout.History
import Golib.Layout.HeaderProg
import Golib.Packs.Profile
import Golib.Packs.Caps
import Golib.Packs.Container
import Golib.Packs.Tree
import Golib.Packs.Hand
import Golib.Packs.Counter
import Golib.Packs.Event

namespace C03
open Layout _root_.Prim Packs

/-- both header forms decode to the header written, leaving exactly what followed -/
theorem header_roundtrip (h : Hdr) (r : Bytes) (wf : h.WF) :
    P.run decHeader (encHeader h ++ r) = some (h, r) := Layout.header_roundtrip h r wf

/-- the long form (marker byte 9, kind and node carried) is chosen iff Okind or Onode is non-zero -/
theorem header_form (h : Hdr) : (encHeader h).headD 0 = 9 ↔ (h.okind = 0 ∧ h.onode = 0 → False) := by
  rw [show (h.okind = 0 ∧ h.onode = 0 → False) ↔ h.short = false by simp [← h.short_iff]]
  unfold encHeader
  cases hs : h.short
  · simp
  · obtain ⟨c, tl, he, hc, _⟩ := encDecimal_cons h.pcode
    simp only [if_true, he, List.cons_append, List.headD_cons]
    exact ⟨fun h9 => by omega, fun hf => by cases hf⟩

theorem header_short (h : Hdr) (h0 : h.okind = 0) (h1 : h.onode = 0) :
    encHeader h = encDecimal h.pcode ++ (encI 4 h.oid ++ encI 8 h.time) := by
  simp only [encHeader, h.short_iff.mpr ⟨h0, h1⟩, if_true]

theorem header_long (h : Hdr) (hk : ¬ (h.okind = 0 ∧ h.onode = 0)) :
    encHeader h = 9 :: (encDecimal h.pcode ++ (encI 4 h.oid ++ (encI 4 h.okind ++ (encI 4 h.onode ++ encI 8 h.time)))) := by
  have : h.short = false := Bool.eq_false_iff.mpr (mt h.short_iff.mp hk)
  simp only [encHeader, this, Bool.false_eq_true, if_false]

/-! ### the header's public accessors (Pack interface) and a header received by a USED object -/

/-- **populated through the public setters, observed through the public getters**: whatever the object
    held, after `SetPCODE p; SetOID o; SetOKIND k; SetONODE n; SetTime t` a write/read trip delivers exactly
    those five values (either header form), and `GetPCODE` / `GetTime` of the decoded header return `p` / `t` -/
theorem header_setters_roundtrip (h : Hdr) (p o k n t : Int) (r : Bytes) (wf : (⟨p, o, k, n, t⟩ : Hdr).WF) :
    let h' := ((((h.setPCODE p).setOID o).setOKIND k).setONODE n).setTime t
    P.run decHeader (encHeader h' ++ r) = some (⟨p, o, k, n, t⟩, r) ∧ h'.getPCODE = p ∧ h'.getTime = t :=
  ⟨Layout.header_roundtrip ⟨p, o, k, n, t⟩ r wf, rfl, rfl⟩

/-- each setter changes its own field only (frame condition) -/
theorem header_setter_frame (h : Hdr) (v : Int) :
    (h.setOID v) = { h with oid := v } ∧ (h.setPCODE v) = { h with pcode := v } ∧
    (h.setOKIND v) = { h with okind := v } ∧ (h.setONODE v) = { h with onode := v } ∧
    (h.setTime v) = { h with time := v } := ⟨rfl, rfl, rfl, rfl, rfl⟩

/-- **a header decoded INTO AN OBJECT THAT ALREADY HOLDS `h0`** (re-use of a pack object, `p.Read(in)` twice):
    the long form replaces all five fields; the short form (Okind = Onode = 0 on the writer's side) assigns
    Pcode, Oid and Time and leaves the object's Okind / Onode as they were — so the decoded header equals
    the one written iff the form was long or the object held zeros there (`header_into_used_eq`).  This is
    the behaviour of the code (`AbstractPack.Read` returns early); `C03Gen.header_reader_interpreted` ties
    `decHeaderInto` to the transcribed statements for every `h0`. -/
theorem header_into_used (h0 h : Hdr) (r : Bytes) (wf : h.WF) :
    P.run (decHeaderInto h0) (encHeader h ++ r) = some (h0.into h, r) := Layout.header_into_used h0 h r wf

theorem header_into_used_eq (h0 h : Hdr) :
    h0.into h = h ↔ (h.short = false ∨ (h0.okind = 0 ∧ h0.onode = 0)) := Hdr.into_eq_iff h0 h

/-- a fresh object (Okind = Onode = 0, what the factory creates) receives exactly the header written -/
theorem header_into_fresh (h : Hdr) : hdr0.into h = h := Layout.into_fresh h

example : (⟨1, 2, 7, 8, 3⟩ : Hdr).into ⟨5, 6, 0, 0, 9⟩ = ⟨5, 6, 7, 8, 9⟩ := by decide
example : P.run (decHeaderInto ⟨1, 2, 7, 8, 3⟩) (encHeader ⟨5, 6, 0, 0, 9⟩) = some (⟨5, 6, 7, 8, 9⟩, []) := by
  decide +kernel

theorem prim_roundtrip (p : Layout.Prim) (v : Val) (r : Bytes) (h : Layout.Prim.wf valueRT p v) :
    p.decode (p.encode v ++ r) = some (v, r) := Layout.Prim.rt valueRT p v r h

/-- **pack body round trip**: if the transcribed writer and reader agree, then for every record
    meeting the writer's explicit guards (ranges of the Go field types, blob < 2^31, arrays ≤ 32767)
    reading what was written delivers exactly the carried fields `w.expect`, in wire order, and
    leaves exactly what followed the encoding -/
theorem pack_roundtrip (w r : L) (h : agrees w r = true)
    (E : Env) (pfx : String) (x : Rec) (rest : Bytes) (hwf : w.WF valueRT E pfx x) :
    ∃ E', r.read pfx E (w.write E pfx x ++ rest) = some (w.expect E pfx x, E', rest) :=
  agree_roundtrip valueRT w r h E pfx x rest hwf

/-- **re-encoding is byte-identical**: serialising the fields the reader delivered reproduces exactly
    the bytes that were read.  `w.known`: the writer has no section whose marker byte the decoded fields
    do not determine — true of every covered type but CounterPack1 (`C03Gen.covered_known`). -/
theorem pack_reencode (w r : L) (h : agrees w r = true) (hk : w.known = true)
    (E : Env) (pfx : String) (x : Rec) (rest : Bytes) (hwf : w.WF valueRT E pfx x) :
    ∃ o E', r.read pfx E (w.write E pfx x ++ rest) = some (o, E', rest) ∧
      w.encodeOut E o = some (w.write E pfx x, []) := by
  obtain ⟨E', hr⟩ := agree_roundtrip valueRT w r h E pfx x rest hwf
  exact ⟨_, E', hr, by simpa using encodeOut_expect w hk E pfx x []⟩

/-- the encoding depends on the carried fields only: packs equal on them encode identically -/
theorem carried_determines_bytes (w : L) (hk : w.known = true) (E : Env) (pfx : String) (x y : Rec)
    (h : w.expect E pfx x = w.expect E pfx y) : w.write E pfx x = w.write E pfx y := by
  have hx := encodeOut_expect w hk E pfx x []
  rw [h, encodeOut_expect w hk E pfx y []] at hx
  simpa using hx.symm

/-- **a strict prefix never decodes** (layout level): whatever reader layout without an end-of-input
    test, if `q ++ s` is read completely and `s ≠ []`, the strict prefix `q` is rejected.  (Every
    primitive decoder is append-stable: the `P` programs by `P.locality`, the tagged value decoder because
    it is one of them at every fuel (`Value.run_decP`) and more fuel does not change a result.) -/
theorem layout_prefix_fails (l : L) (hn : l.tailFree = true) (pfx : String) (e : Env) (q s : Bytes)
    (o : Out) (e' : Env) (hs : s ≠ []) (h : l.read pfx e (q ++ s) = some (o, e', [])) :
    l.read pfx e q = none := read_prefix_fails l hn pfx e q s o e' hs h

/-- … hence no strict prefix of the encoding of a well-formed pack is accepted by its reader -/
theorem pack_prefix_fails (w r : L) (h : agrees w r = true) (hn : r.tailFree = true)
    (E : Env) (pfx : String) (x : Rec) (hwf : w.WF valueRT E pfx x) (q s : Bytes) (hs : s ≠ [])
    (hq : q ++ s = w.write E pfx x) : r.read pfx E q = none :=
  encoding_prefix_fails valueRT w r h hn E pfx x hwf q s hs hq

/-! ### re-use: one object receiving several packs, one stream carrying several packs -/

/-- frame condition: a path the reader did not assign keeps the object's old content -/
theorem reuse_frame (y : Rec) (o : Out) (p : String) (h : p ∉ keys o) : store y o p = y p :=
  store_frame y o p h

/-- decoding into a USED object: every carried path takes the new pack's value, every other path keeps
    what the object held before (readers that assign; readers that `Put` into a table they find merge
    rows — see Golib/Layout/History.lean) -/
theorem decode_into_used (w r : L) (h : agrees w r = true)
    (E : Env) (pfx : String) (x y : Rec) (rest : Bytes) (hwf : w.WF valueRT E pfx x)
    (hn : (keys (w.expect E pfx x)).Nodup) :
    ∃ o E', r.read pfx E (w.write E pfx x ++ rest) = some (o, E', rest) ∧
      (∀ k v, (k, v) ∈ w.expect E pfx x → store y o k = v) ∧
      (∀ p, p ∉ keys (w.expect E pfx x) → store y o p = y p) := by
  obtain ⟨E', hr⟩ := agree_roundtrip valueRT w r h E pfx x rest hwf
  exact ⟨_, E', hr, fun k v hkv => store_get y _ hn k v hkv, fun p hp => store_frame y _ p hp⟩

/-- a history of packs written one after the other into one stream is read back one after the other:
    in order, each with exactly its carried fields, nothing shared, whatever follows the stream -/
theorem history_roundtrip (w r : L) (h : agrees w r = true) (E : Env) (pfx : String)
    (xs : List Rec) (rest : Bytes) (hwf : ∀ x ∈ xs, w.WF valueRT E pfx x) :
    readAll r E pfx xs.length (writeAll w E pfx xs ++ rest) = some (xs.map (w.expect E pfx), rest) := by
  induction xs with
  | nil => rfl
  | cons x xs ih =>
    simp only [List.length_cons, Layout.readAll, Layout.writeAll, List.append_assoc, List.map_cons]
    obtain ⟨E', hr⟩ := agree_roundtrip valueRT w r h E pfx x (writeAll w E pfx xs ++ rest) (hwf x (by simp))
    rw [hr]
    simp only []
    rw [ih (fun y hy => hwf y (by simp [hy]))]

/-- the object that received a whole history: a path no pack carried holds the initial content … -/
theorem history_frame (y : Rec) (os : List Out) (p : String) (h : ∀ o ∈ os, p ∉ keys o) :
    received y os p = y p := by
  induction os generalizing y with
  | nil => rfl
  | cons o os ih =>
    have := ih (store y o) (fun o' ho' => h o' (by simp [ho']))
    simp only [received, List.foldl_cons] at this ⊢
    rw [this, store_frame y o p (h o (by simp))]

/-- … and a path carried by the last pack holds the last pack's value, whatever came before -/
theorem history_last (y : Rec) (os : List Out) (o : Out) (hn : (keys o).Nodup) (k : String) (v : Val)
    (h : (k, v) ∈ o) : received y (os ++ [o]) k = v := by
  simp only [received, List.foldl_append, List.foldl_cons, List.foldl_nil]
  exact store_get _ o hn k v h

/-- **type-tagged round trip** (`ToPack (ToBytesPack p)`): the tag written selects, in the factory, the
    reader of the same type; the decoded pack has that type code and the carried fields -/
theorem tagged_roundtrip (fac : Factory) (p : PV) (rest : Bytes) (h : p.ok valueRT fac) :
    readPack fac (writePack p ++ rest) = some (p.carried, rest) := readPack_writePack valueRT fac p rest h

/-- **`ToBytesPackECB`** (the encoding padded with zero bytes to a multiple of the block length `n`, for block
    ciphers): `ToPack` of the padded bytes is still the pack written — the type tag selects the reader, the
    reader consumes exactly the encoding and leaves exactly the padding … -/
theorem ecb_tagged_roundtrip (fac : Factory) (p : PV) (n : Nat) (h : p.ok valueRT fac) :
    readPack fac (ecbPad n (writePack p)) = some (p.carried, ecbTail n (writePack p)) := by
  rw [ecbPad_eq]; exact readPack_writePack valueRT fac p _ h

/-- … the padded length is a multiple of the block length, the padding is all zero, and an encoding that
    already fills its last block is not padded -/
theorem ecb_block_multiple (n : Nat) (hn : 0 < n) (bs : Bytes) : (ecbPad n bs).length % n = 0 :=
  ecbPad_length n hn bs
theorem ecb_padding_zero (n : Nat) (bs : Bytes) : ∀ b ∈ ecbTail n bs, b = 0 :=
  ecbTail_zero n bs
theorem ecb_no_padding (n : Nat) (bs : Bytes) (h : bs.length % n = 0) : ecbPad n bs = bs := by
  simp [ecbPad, h]

example : ecbPad 8 [1, 2, 3, 4, 5, 6, 7, 8, 9, 10] = [1, 2, 3, 4, 5, 6, 7, 8, 9, 10, 0, 0, 0, 0, 0, 0] := by decide
example : ecbPad 5 [1, 2, 3, 4, 5] = [1, 2, 3, 4, 5] := by decide

/-- a type code the factory does not know does not decode (CreatePack returns nil) -/
theorem unknown_code_fails (fac : Factory) (code : Int) (body : Bytes) (hc : inRange 2 code)
    (h : fac code = none) : readPack fac (encI 2 code ++ body) = none := by
  unfold readPack
  rw [run_rdI 2 code body hc]
  simp [h]

/-- ZipPack: `GetRecords (SetRecords ps)` = the inner packs, in order, stamped with the container's
    Pcode/Oid/Okind/Onode -/
theorem zip_records (fac : Factory) (z : Zip) (ps : List PV) (h : ∀ p ∈ ps, p.ok valueRT fac) :
    (z.setRecords ps).getRecords fac = some (ps.map (fun p => stamp z.hdr p.carried)) :=
  Packs.zip_records valueRT fac z ps h

/-- LogSinkZipPack, with or without compression (whatever the threshold) -/
theorem logsink_zip_records (g : Gzip) (fac : Factory) (hdr : Hdr) (ps : List PV)
    (zipMinSize : Nat) (h : ∀ p ∈ ps, p.ok valueRT fac) :
    let st := doZip g 0 (writePacks ps) zipMinSize
    (Zip.getRecords fac ⟨hdr, doUnZip g st.1 st.2, ps.length⟩)
      = some (ps.map (fun p => stamp hdr p.carried)) := by
  intro st
  rw [show doUnZip g st.1 st.2 = writePacks ps from unzip_zip g _ _]
  exact Packs.zip_records valueRT fac ⟨hdr, [], 0⟩ ps h

/-- stamping touches the four identity fields only (Time and every body field are the inner pack's) -/
theorem stamp_only_identity (h : Hdr) (k : String) (v : Val)
    (hk : k ≠ "Pcode" ∧ k ≠ "Oid" ∧ k ≠ "Okind" ∧ k ≠ "Onode") : stampField h (k, v) = (k, v) := by
  simp [stampField, hk.1, hk.2.1, hk.2.2.1, hk.2.2.2]

/-- CompositePack, one level (any depth: `composite_tree_roundtrip` below).  `ps.length ≤ 32767`: the
    count travels as a signed 16-bit field; beyond it `Read` sees a negative count and returns no pack. -/
theorem composite_roundtrip (fac : Factory) (h : Hdr) (ps : List PV) (rest : Bytes)
    (hh : h.WF) (hn : ps.length ≤ 32767) (hp : ∀ p ∈ ps, p.ok valueRT fac) :
    readComposite fac (writeComposite h ps ++ rest) = some ((h, ps.map PV.carried), rest) :=
  Packs.composite_roundtrip valueRT fac h ps rest hh hn hp

/-- CompositePack to any depth: a tree of packs reads back as itself (every leaf's carried fields,
    every node's header, same shape and order), by structural recursion on the tree -/
theorem composite_tree_roundtrip (fac : Factory) (t : PT) (rest : Bytes)
    (hok : okPT valueRT fac t) :
    readPT fac (depthPT t) (writePT t ++ rest) = some (carriedPT t, rest) :=
  tree_roundtrip valueRT fac t (depthPT t) rest hok (Nat.le_refl _)

/-- record lists (`SetRecords*` / `GetRecords`): 16-bit count, then the records -/
theorem records_roundtrip (bw br : L) (h : agrees (recordsW bw) (recordsW br) = true)
    (e : Env) (x : Rec) (rest : Bytes) (hwf : (recordsW bw).WF valueRT e "" x) :
    ∃ e', (recordsW br).read "" e ((recordsW bw).write e "" x ++ rest)
      = some ((recordsW bw).expect e "" x, e', rest) :=
  Packs.records_roundtrip valueRT bw br h e x rest hwf

/-! ### LogSinkPack's content codec: `SetContentBytes (GetContentBytes ())` -/

/-- the second write/read pair LogSinkPack offers (version byte 1, Content, Line): reading what
    `GetContentBytes` produced assigns exactly Content and Line, whatever follows -/
theorem logsink_content_roundtrip (E : Env) (x : Rec) (rest : Bytes)
    (hwf : Hand.LogSinkContent.w.WF valueRT E "" x) :
    ∃ E', Hand.LogSinkContent.r.read "" E (Hand.LogSinkContent.w.write E "" x ++ rest)
      = some (Hand.LogSinkContent.w.expect E "" x, E', rest) :=
  pack_roundtrip _ _ (by decide +kernel) E "" x rest hwf

/-- … and no strict prefix of those bytes is accepted -/
theorem logsink_content_prefix_fails (E : Env) (x : Rec) (hwf : Hand.LogSinkContent.w.WF valueRT E "" x)
    (q s : Bytes) (hs : s ≠ []) (hq : q ++ s = Hand.LogSinkContent.w.write E "" x) :
    Hand.LogSinkContent.r.read "" E q = none :=
  pack_prefix_fails _ _ (by decide +kernel) (by decide +kernel) E "" x hwf q s hs hq

/-! ### bounded tables inside packs (StatRemoteIpPack.IpTable ≤ 10000, StatUserAgentPack.UserAgents ≤ 500) -/

/-- **of a wire table (pairwise distinct keys: what a table writes), put row by row (`Put`: an existing
    key is updated in place, a new key evicts the oldest row when the table is full) into a table bounded
    by `max`, a decoded pack carries exactly the last `max` rows, in order**.  `1 ≤ max` is the code's own
    test (`if this.max > 0`: 0 means unbounded). -/
theorem bounded_table_keyed [BEq κ] [LawfulBEq κ] (max : Nat) (h : 1 ≤ max) (rows : List (κ × β))
    (hd : (rows.map (·.1)).Nodup) : rows.foldl (putK max) [] = capRows max rows := by
  have step : ∀ (pre : List (κ × β)) r rs, ((pre ++ r :: rs).map (·.1)).Nodup →
      putK max (capRows max pre) r = capRows max (pre ++ [r]) := fun pre r rs hn => by
    have hfresh : (capRows max pre).any (fun e => e.1 == r.1) = false := by
      rw [Bool.eq_false_iff]
      intro hany
      obtain ⟨e, he, hk⟩ := List.any_eq_true.mp hany
      obtain ⟨dropped, hpre⟩ := capRows_suffix max pre
      have hmem : e ∈ pre := by rw [hpre]; exact List.mem_append_right _ he
      rw [List.map_append, List.nodup_append] at hn
      exact hn.2.2 e.1 (List.mem_map_of_mem hmem) r.1 (by simp) (eq_of_beq hk)
    rw [putK, hfresh]
    exact capPut_capRows max h pre r
  simpa [capRows] using foldl_capRows (ok := fun l => (l.map (·.1)).Nodup) step rows [] hd

/-- the same for rows treated as all new (no key comparison) -/
theorem bounded_table_keeps_last (max : Nat) (h : 1 ≤ max) (rows : List α) :
    rows.foldl (capPut max) [] = capRows max rows := foldl_capPut max h rows

/-- … in particular a table within the limit is carried whole -/
theorem bounded_table_within_limit (max : Nat) (rows : List α) (h : rows.length ≤ max) :
    capRows max rows = rows := by
  rw [capRows, Nat.sub_eq_zero_of_le h]; rfl

theorem bounded_table_size (max : Nat) (rows : List α) : (capRows max rows).length ≤ max := by
  simp only [capRows, List.length_drop]; omega

example : capRows 3 [1, 2, 3, 4, 5] = [3, 4, 5] := by decide
example : [1, 2, 3, 4, 5].foldl (capPut 3) [] = [3, 4, 5] := by decide

/-! ### ProfilePack: the common header, then the body modelled and proved by property C08 -/

/-- header (both forms) + TxRecord behind its version byte + steps blob: every carried field of the
    transaction record (C08's `Step.profilePackBody.expect`, incl. the documented ErrorLevel defaulting),
    exact consumption.  Nothing of TxRecord is re-modelled: `Step.L.roundtrip` is composed with
    `header_roundtrip`. -/
theorem profile_roundtrip (h : Hdr) (x : Step.Rec) (rest : Bytes) (hh : h.WF)
    (hx : Step.profilePackBody.WF Step.valueRT x []) :
    readProfile (writeProfile h x ++ rest) = some ((h, Step.profilePackBody.expect x []), rest) := by
  unfold readProfile writeProfile
  rw [List.append_assoc, Layout.header_roundtrip h _ hh]
  simp only []
  rw [Step.L.roundtrip Step.valueRT _ x [] rest hx]
  rfl

/-! ### EventPack: uuid / escalation / status / otype travel inside the attribute table -/

/-- `strconv.Atoi (fmt.Sprintf "%d" v) = v` on the digit model -/
theorem decimal_text_roundtrip (v : Int) : Event.atoi (Event.itoa v) = some v := Event.atoi_itoa v

/-- folding the four fields into the table (`Write`) and taking them out again (`Read`, as it is since
    the fix for D21; `EF`/`EU` driver lines tie both to the Go code) gives back every field and the user
    attributes, in order, for every table that does not itself use the four reserved keys -/
theorem event_folding_roundtrip (e : Event.Ev) (h : Event.noReserved e.attrs) :
    Event.unfold (Event.fold e) = e := by
  rw [Event.fold_eq e h, Event.unfold_append _ _ h, Event.unfold_tail, Event.atoi_itoa, Event.atoi_itoa]
  obtain ⟨uuid, esc, status, otype, attrs⟩ := e
  by_cases hu : uuid = [] <;> cases esc <;> simp only [hu, if_true, if_false, List.append_nil] <;> rfl

/-- historical witness (D21, fixed in the code since): the reader as first found returned Status 0 for
    Status 5 (and Otype 0 for Otype 7) -/
theorem finding_D21 :
    Event.unfoldAsFound (Event.fold ⟨[], false, 5, 7, []⟩) ≠ ⟨[], false, 5, 7, []⟩ := by decide

example : Event.noReserved [([97], [98]), ([], [])] := by
  intro p hp; simp at hp; rcases hp with rfl | rfl <;> decide

/-! ### CounterPack1, historical (D27, fixed in the code since): fragments as first found / as fixed.
    The statement for the code AS IT IS is `C03Gen.agree_CounterPack1` (whole pack, generated layout with
    the meter sections filled in) + `pack_roundtrip`; the `_partial` theorems below speak of single
    sections only and are kept as the record of what was wrong. -/

/-- the POid-meter entry round-trips with the fixed writer (one section, not the whole pack): -/
theorem counter_poid_roundtrip_partial :
    agrees Counter.poidEntry.wFixed Counter.poidEntry.r = true := by decide +kernel

/-- witness: the writer as found omits the `Acts` array the reader consumes -/
theorem finding_D27_poid : agrees Counter.poidEntry.w Counter.poidEntry.r = false := by decide +kernel

/-- witness: netstat (likewise DB pool and websocket) is written but dropped by the reader as found … -/
theorem finding_D27_netstat_dropped : agrees Counter.netstat.w Counter.netstat.r = false := by decide +kernel
/-- … and round-trips with the reader restored -/
theorem counter_netstat_partial : agrees Counter.netstat.w Counter.netstat.rFixed = true := by decide +kernel

/-- witness: the DB-pool section is two maps; the reader as found consumes (and drops) only one -/
theorem finding_D27_dbnum : agrees Counter.dbnum.w Counter.dbnum.r = false := by decide +kernel
theorem counter_dbnum_partial : agrees Counter.dbnum.w Counter.dbnum.rFixed = true := by decide +kernel

/-- witness: `Extra` is written with its type tag and read without it -/
theorem finding_D27_extra_tag : agrees Counter.extra.w Counter.extra.r = false := by decide +kernel

/-! ### non-vacuity -/

def demoL : L := .hdr (.lit .u8 1 (.fld "Seq" .i64 .i64 (.fld "Name" .blob .any
  (.rep .dec "T" (.fld "k" .i32 .i32 .nil) .nil))))
def demoR : L := .hdr (.var "ver" .u8 (.fld "Seq" .i64 .i64 (.fld "Name" .blob .any
  (.rep .dec "T" (.fld "k" .i32 .i32 .nil) .nil))))

def demoX : Rec := fun k =>
  if k = "Pcode" then .int 300 else if k = "Okind" then .int 7 else if k = "Seq" then .int (-5)
  else if k = "Name" then .bytes [104, 105] else if k = "T#" then .int 2
  else if k = "T[0].k" then .int 1 else if k = "T[1].k" then .int (-1) else .int 0

example : agrees demoL demoR = true := by decide +kernel

example : demoL.write env0 "" demoX =
    [9, 2, 1, 44, 0, 0, 0, 0, 0, 0, 0, 7, 0, 0, 0, 0, 0, 0, 0, 0, 0, 0, 0, 0,
     1, 255, 255, 255, 255, 255, 255, 255, 251, 2, 104, 105, 1, 2, 0, 0, 0, 1, 255, 255, 255, 255] := by
  decide +kernel

example : (demoR.read "" env0 (demoL.write env0 "" demoX ++ [42])).map (fun (o, _, r) => (o.length, r))
    = some (10, [42]) := by decide +kernel

/-- the marker / version idiom of the CounterPack1 meters, a fixed-count loop, a struct-valued field
    and an OS-like selector, on a small instance -/
def demoW2 : L := .kfld "OS" .i16 2 (.times 2 "" (.fld "Hit" .u16 .any .nil)
  (.mrep 9 "M" (.fld "key" .i32 .i32 (.fld "Actx" .dec .i32 .nil)) (.sub "S" (.fld "a" .u8 .u8 .nil) .nil)))
def demoR2 : L := .key "OS" .i16 "os" (.times 2 "" (.fld "Hit" .u16 .any .nil)
  (.vrep "ver" "M" (.fld "key" .i32 .i32 (.ite ⟨.ge, "ver", 9⟩ (.fld "Actx" .dec .i32 .nil) .nil .nil))
    (.ite ⟨.eq, "os", 2⟩ (.sub "S" (.fld "a" .u8 .u8 .nil) .nil) .nil .nil)))
def demoX2 : Rec := fun k =>
  if k = "OS" then .int 2 else if k = "[0].Hit" then .int 65535 else if k = "[1].Hit" then .int 1
  else if k = "M?" then .int 1 else if k = "M#" then .int 1 else if k = "M[0].key" then .int (-7)
  else if k = "M[0].Actx" then .int 3 else if k = "S.a" then .int 200 else .int 0
example : agrees demoW2 demoR2 = true := by decide +kernel
example : demoW2.write env0 "" demoX2 = [0, 2, 255, 255, 0, 1, 9, 1, 1, 255, 255, 255, 249, 1, 3, 200] := by decide +kernel
example : (demoR2.read "" env0 (demoW2.write env0 "" demoX2 ++ [5])).map (fun (o, _, r) => (o.length, r))
    = some (7, [5]) := by decide +kernel

example : (keys (demoL.expect env0 "" demoX)).Nodup := by decide +kernel

/-- the well-formedness hypothesis of `pack_roundtrip` / `pack_prefix_fails` / `decode_into_used` is met
    (long header form, negative numbers, a table with rows) -/
theorem demo_wf : demoL.WF valueRT env0 "" demoX := by
  have hc : countOf "" "T" demoX = 2 := by decide +kernel
  have e1 : demoX ("" ++ "Seq") = .int (-5) := rfl
  have e2 : demoX ("" ++ "Name") = .bytes [104, 105] := rfl
  have e3 : demoX (elemPfx "" "T" 0 ++ "k") = .int 1 := rfl
  have e4 : demoX (elemPfx "" "T" 1 ++ "k") = .int (-1) := rfl
  simp only [demoL, L.WF, hc, e1, e2]
  refine ⟨by decide +kernel, ?_, ?_, ?_, ?_, ?_, ?_, fun i hi => ?_, trivial⟩
  case refine_7 =>
    obtain rfl | rfl : i = 0 ∨ i = 1 := by omega
    all_goals simp [e3, e4, Layout.Prim.wf, rngOk, Rng.ok, inRange, modulus]
  -- what is left: each field value lies in the range of its Go type
  all_goals simp [Layout.Prim.wf, rngOk, Rng.ok, inRange, modulus]
/-- … so the generic theorems have instances -/
example : ∃ E', demoR.read "" env0 (demoL.write env0 "" demoX ++ [42]) = some (demoL.expect env0 "" demoX, E', [42]) :=
  pack_roundtrip demoL demoR (by decide +kernel) env0 "" demoX [42] demo_wf
example (q s : Bytes) (hs : s ≠ []) (hq : q ++ s = demoL.write env0 "" demoX) : demoR.read "" env0 q = none :=
  pack_prefix_fails demoL demoR (by decide +kernel) (by decide +kernel) env0 "" demoX demo_wf q s hs hq

/-- a LogSinkPack content (`Content = "hi"`, `Line = -7`) meets the hypothesis of `logsink_content_roundtrip` -/
def contentX : Rec := fun k => if k = "Content" then .bytes [104, 105] else if k = "Line" then .int (-7) else .int 0
theorem contentX_wf : Hand.LogSinkContent.w.WF valueRT env0 "" contentX := by
  have e1 : contentX ("" ++ "Content") = .bytes [104, 105] := rfl
  have e2 : contentX ("" ++ "Line") = .int (-7) := rfl
  simp only [Hand.LogSinkContent.w, L.WF, e1, e2]
  refine ⟨?_, ?_, ?_, ?_, ?_, trivial⟩ <;> simp [Layout.Prim.wf, rngOk, Rng.ok, inRange, modulus]
example : Hand.LogSinkContent.w.write env0 "" contentX = [1, 2, 104, 105, 1, 249] := by decide +kernel
example : ∃ E', Hand.LogSinkContent.r.read "" env0 (Hand.LogSinkContent.w.write env0 "" contentX ++ [42])
    = some (Hand.LogSinkContent.w.expect env0 "" contentX, E', [42]) :=
  logsink_content_roundtrip env0 contentX [42] contentX_wf

example : (⟨300, 1, 7, 0, 99⟩ : Hdr).WF := by decide
example : encHeader ⟨0, 1, 0, 0, 2⟩ = [0, 0, 0, 0, 1, 0, 0, 0, 0, 0, 0, 0, 2] := by decide
example : P.run decHeader (encHeader ⟨-1, 1, 0, 5, 2⟩) = some (⟨-1, 1, 0, 5, 2⟩, []) := by decide +kernel

end C03
