/-
  C17, tie A — obligations over the facts regenerated from logger/logfile/FileLogger.go,
  logger/Logger.go and util/dateutil/DateTimeHelper.go (lean/Golib/Gen/C17.lean, written by
  xlate/c17 on every run).

  Three layers:
  * semantic obligations: the regenerated level gates, constants and entry-point shapes are
    exactly what the model (`Logger.Meth.gate`, `Meth.ln`, `Meth.rateId`, `idLen`, `cacheMax`,
    the one-minute and one-day constants) says;
  * shape obligations: the regenerated conditions and calls of `checkOk`, `process`,
    `openFile`, `clearOldLog`, `Read` equal the expressions the model was written from
    (normal form: single-definition locals inlined, other locals numbered), among them the
    presence of the containment test and of the `length <= 0` test in `Read`, the digit test
    in `clearOldLog`, and the install-before-close order in `process`.
    They break whenever the source changes one of these expressions; renaming locals or
    reordering independent statements does not change the normal form.
  * interpreted obligations (last section): the regenerated expressions of `checkOk`, of the
    `Read` window (`file == "" || length <= 0`, `size < endpos`, `if endpos < 0 { endpos = size }`,
    the `ReadAt` offset and buffer length through float64/math.Max/math.Min) and of the whole
    per-entry decision of `clearOldLog` (switch-off guards, the five skip guards with `LastIndex`,
    slice, `len != 8`, digit test, and the removal condition) are given the semantics of
    `Logger.IR.eval` and proved equal to the model (`checkOk`, `readWindow`, `candidate`, `deleted`)
    for all inputs.
-/
import Golib.Logger.RetentionLemmas
import Golib.Logger.ExprIRLemmas
import Golib.Gen.C17

namespace C17Gen
open Logger

def goName : Meth → String
  | .errorf => "Errorf" | .error => "Error" | .warnf => "Warnf" | .warn => "Warn"
  | .infof => "Infof" | .info => "Info" | .infoln => "Infoln" | .debugf => "Debugf" | .debug => "Debug"
  | .printf => "Printf" | .println => "Println" | .printlnStd => "PrintlnStd"

def allMeths : List Meth :=
  [.errorf, .error, .warnf, .warn, .infof, .info, .infoln, .debugf, .debug, .printf, .println, .printlnStd]

def const (n : String) : Option Int := Gen.C17.consts.lookup n

/-- the gate of an entry point as the source has it: `if this.conf.level > LOG_LEVEL_X { return }` -/
def gateOf (m : Meth) : Option (Option Int) :=
  match Gen.C17.gates.lookup (goName m) with
  | some ("", "") => some none
  | some (">", c) => (const c).map some
  | _ => none

theorem gen_level_gates : allMeths.all (fun m => gateOf m == some m.gate) = true := by decide +kernel

theorem gen_constants :
    const "defaultLogIDPrefixLength" = some (idLen : Int) ∧
    const "lastLog.SetMax" = some (cacheMax : Int) ∧
    const "MILLIS_PER_MINUTE" = some 60000 ∧
    const "MILLIS_PER_DAY" = some millisPerDay ∧
    const "LOG_LEVEL_ERROR" = some 3 ∧ const "LOG_LEVEL_WARN" = some 2 ∧
    const "LOG_LEVEL_INFO" = some 1 ∧ const "LOG_LEVEL_DEBUG" = some 0 := by decide +kernel

def methodFact (m : Meth) : Option (String × String) := Gen.C17.methods.lookup (goName m)

def modelFormatter (m : Meth) : String :=
  if m == .printlnStd then "" else if m.ln then "Sprintln" else "Sprintf"

def modelRateShape (m : Meth) : String :=
  match m with
  | .errorf | .error | .warnf | .warn | .infof | .info | .infoln => "truncate:defaultLogIDPrefixLength"
  | .printf | .println => "param"
  | .debugf | .debug | .printlnStd => "none"

/-- formatter (`Sprintf` / `Sprintln`, i.e. `Meth.ln`) and origin of the rate-limit id per entry point -/
theorem gen_methods : allMeths.all (fun m => methodFact m == some (modelFormatter m, modelRateShape m)) = true := by decide +kernel

/-- and the model's `rateId` is that shape -/
theorem model_rate_shape (id s : Bytes) : allMeths.all (fun m =>
    match modelRateShape m with
    | "truncate:defaultLogIDPrefixLength" => m.rateId id s == some (s.take idLen)
    | "param" => m.rateId id s == some id
    | _ => m.rateId id s == none) = true := by
  simp [allMeths, modelRateShape, Meth.rateId, truncate]

def expectedGuards : List (String × String × String) := [
  ("Debug", "return", "this.conf.level > logger.LOG_LEVEL_DEBUG"),
  ("Debugf", "return", "this.conf.level > logger.LOG_LEVEL_DEBUG"),
  ("Error", "return", "this.checkOk(stringutil.Truncate(fmt.Sprintln($1...), defaultLogIDPrefixLength), this.conf.cacheInterval) == false"),
  ("Errorf", "return", "this.checkOk(stringutil.Truncate(fmt.Sprintf($1, $2...), defaultLogIDPrefixLength), this.conf.cacheInterval) == false"),
  ("Info", "return", "this.checkOk(stringutil.Truncate(fmt.Sprintln($1...), defaultLogIDPrefixLength), this.conf.cacheInterval) == false"),
  ("Info", "return", "this.conf.level > logger.LOG_LEVEL_INFO"),
  ("Infof", "return", "this.checkOk(stringutil.Truncate(fmt.Sprintf($1, $2...), defaultLogIDPrefixLength), this.conf.cacheInterval) == false"),
  ("Infof", "return", "this.conf.level > logger.LOG_LEVEL_INFO"),
  ("Infoln", "return", "this.checkOk(stringutil.Truncate(fmt.Sprintln($1...), defaultLogIDPrefixLength), this.conf.cacheInterval) == false"),
  ("Infoln", "return", "this.conf.level > logger.LOG_LEVEL_INFO"),
  ("Read", "return", "$1 != nil || $2 == \"..\" || strings.HasPrefix($2, \"..\" + string(filepath.Separator))"),
  ("Read", "return", "$1 == \"\" || $2 <= 0"),
  ("Read", "return", "$1.Size() < $2"),
  ("Read", "set", "$1 < 0 => $1 = $2.Size()"),
  ("Read", "set-else", "($1 + $2) > $3.Size() => $1 = -1 ; else $1 += $2"),
  ("Warn", "return", "this.checkOk(stringutil.Truncate(fmt.Sprintln($1...), defaultLogIDPrefixLength), this.conf.cacheInterval) == false"),
  ("Warn", "return", "this.conf.level > logger.LOG_LEVEL_WARN"),
  ("Warnf", "return", "this.checkOk(stringutil.Truncate(fmt.Sprintf($1, $2...), defaultLogIDPrefixLength), this.conf.cacheInterval) == false"),
  ("Warnf", "return", "this.conf.level > logger.LOG_LEVEL_WARN"),
  ("checkOk", "return", "dateutil.Now() < (this.lastLog.Get($1) + int64($2) * 1000)"),
  ("clearOldLog", "continue", "!strings.HasPrefix($1.Name(), this.conf.logID + \"-\")"),
  ("clearOldLog", "continue", "$1.IsDir()"),
  ("clearOldLog", "continue", "len(($1.Name()[strings.LastIndex($1.Name(), \"-\") + 1:strings.LastIndex($1.Name(), \".\")])) != 8 || strings.IndexFunc(($1.Name()[strings.LastIndex($1.Name(), \"-\") + 1:strings.LastIndex($1.Name(), \".\")]), func{$2 < '0' || $2 > '9'}) >= 0"),
  ("clearOldLog", "continue", "strings.LastIndex($1.Name(), \"-\") < 0 || strings.LastIndex($1.Name(), \"-\") >= strings.LastIndex($1.Name(), \".\") - 1"),
  ("clearOldLog", "continue", "strings.LastIndex($1.Name(), \".\") < 0"),
  ("clearOldLog", "return", "this.conf.keepDays <= 0"),
  ("clearOldLog", "return", "this.conf.rotationEnabled == false"),
  ("println", "return", "this.checkOk($1, this.conf.cacheInterval) == false")
]

def expectedCalls : List (String × String) := [
  ("Debug", "this.myLog.Println(\"[Debug] \", fmt.Sprintln($1...))"),
  ("Debugf", "this.myLog.Println(\"[Debug] \", fmt.Sprintf($1, $2...))"),
  ("Error", "this.myLog.Println(ansi.Red(fmt.Sprintf(\"%s %s\", \"[Error]\", fmt.Sprintln($1...))))"),
  ("Errorf", "this.myLog.Println(ansi.Red(fmt.Sprintf(\"%s %s\", \"[Error]\", fmt.Sprintf($1, $2...))))"),
  ("Info", "this.myLog.Println(\"[Info] \", fmt.Sprintln($1...))"),
  ("Infof", "this.myLog.Println(\"[Info] \", fmt.Sprintf($1, $2...))"),
  ("Infoln", "this.myLog.Println(\"[Info] \", fmt.Sprintln($1...))"),
  ("NewFileLogger", "hmap.NewStringLongLinkedMap().SetMax(1000)"),
  ("Printf", "this.println($1, this.build($1, fmt.Sprintf($2, $3...)))"),
  ("Println", "this.println($1, this.build($1, fmt.Sprintln($2...)))"),
  ("PrintlnStd", "this.myLog.Println(\"WA10002\", \"println Recover\", recover())"),
  ("PrintlnStd", "this.myLog.Println($1)"),
  ("Read", "$1.ReadAt(make([]byte, int(math.Min(float64(($2.Size() - int64(math.Max(0, float64($3 - $4))))), float64($4)))), int64(math.Max(0, float64($3 - $4))))"),
  ("Read", "NewLogData(int64(math.Max(0, float64($1 - $2))), $3, $4)"),
  ("Read", "filepath.Rel(filepath.Join(this.conf.homePath, \"logs\"), filepath.Join(filepath.Join(this.conf.homePath, \"logs\"), $1))"),
  ("Read", "os.Open(filepath.Join(filepath.Join(this.conf.homePath, \"logs\"), $1))"),
  ("Warn", "this.myLog.Println(\"[Warn] \", fmt.Sprintln($1...))"),
  ("Warnf", "this.myLog.Println(\"[Warn] \", fmt.Sprintf($1, $2...))"),
  ("checkOk", "this.lastLog.Put($1, dateutil.Now())"),
  ("clearOldLog", "os.Remove(filepath.Join(filepath.Join(this.conf.homePath, \"logs\"), $1.Name()))"),
  ("clearOldLog", "this.myLog.Println(\"WA10006\", \" File Delete Error\", recover())"),
  ("openFile", "os.OpenFile(filepath.Join(this.conf.homePath, \"logs\", fmt.Sprintf(\"%s-%s-%s.log\", this.conf.logID, this.conf.oname, dateutil.YYYYMMDD(dateutil.Now()))), os.O_CREATE | os.O_WRONLY | os.O_APPEND, 0666)"),
  ("openFile", "os.OpenFile(filepath.Join(this.conf.homePath, \"logs\", fmt.Sprintf(\"%s-%s.log\", this.conf.logID, this.conf.oname)), os.O_CREATE | os.O_WRONLY | os.O_APPEND, 0666)"),
  ("openFile", "this.myLog.Println(\"\")"),
  ("openFile", "this.myLog.Println(\"## OPEN LOG FILE \", this.conf.oname, \"\", dateutil.TimeStampNow() + \" ##\")"),
  ("println", "this.myLog.Println(this.build($1, $2))")
]

def expectedReturns : List (String × String) := [
  ("build", "fmt.Sprint(\"[\", $1, \"] \", $2)"),
  ("checkOk", "false"),
  ("checkOk", "true")
]

def expectedConds : List (String × String × String) := [
  ("checkOk", "if", "$1 > 0"),
  ("checkOk", "if", "dateutil.Now() < (this.lastLog.Get($1) + int64($2) * 1000)"),
  ("clearOldLog", "remove", "dateutil.GetDateUnitNow() - dateutil.GetDateUnit(dateutil.GetYmdTime(($1.Name()[strings.LastIndex($1.Name(), \"-\") + 1:strings.LastIndex($1.Name(), \".\")]))) > int64(this.conf.keepDays)"),
  ("process", "if", "(this.lastFileRotation != this.conf.rotationEnabled) || (this.lastDataUnit != dateutil.GetDateUnitNow()) || (this.logfile == nil)"),
  ("process", "if", "dateutil.Now() > this.last + dateutil.MILLIS_PER_MINUTE"),
  ("process", "if", "recover() != nil"),
  ("process", "if", "this.logfile != nil")
]

theorem gen_guards_shape : Gen.C17.guards = expectedGuards := rfl
theorem gen_calls_shape : Gen.C17.calls = expectedCalls := rfl
theorem gen_returns_shape : Gen.C17.returns = expectedReturns := rfl
theorem gen_conds_shape : Gen.C17.conds = expectedConds := rfl

/-- rotation installs the new file before it closes the old one (fix-D35) -/
theorem gen_rotation_order : Gen.C17.processOrder = "install-then-close" := rfl

/-- `Read` tests containment and refuses non-positive lengths (fix-D34) -/
theorem gen_read_contained :
    ("Read", "return", "$1 != nil || $2 == \"..\" || strings.HasPrefix($2, \"..\" + string(filepath.Separator))") ∈ Gen.C17.guards ∧
    ("Read", "return", "$1 == \"\" || $2 <= 0") ∈ Gen.C17.guards ∧
    ("Read", "filepath.Rel(filepath.Join(this.conf.homePath, \"logs\"), filepath.Join(filepath.Join(this.conf.homePath, \"logs\"), $1))") ∈ Gen.C17.calls ∧
    ("Read", "os.Open(filepath.Join(filepath.Join(this.conf.homePath, \"logs\"), $1))") ∈ Gen.C17.calls :=
  ⟨List.mem_of_getElem? (i := 10) rfl, List.mem_of_getElem? (i := 11) rfl,
    List.mem_of_getElem? (i := 14) rfl, List.mem_of_getElem? (i := 15) rfl⟩

/-- the settings accessor, when the source has one (repair of the unsynchronised settings), is a
    read-locked copy of `this.conf`, and `SetLevel`/`ApplyConfig` then hold the write lock; on that
    basis the translator reads `this.settings().f` as `this.conf.f` -/
theorem gen_settings_accessor :
    (Gen.C17.settingsAccessor = [] ∨
     Gen.C17.settingsAccessor = ["this.confLock.RLock()", "defer this.confLock.RUnlock()", "return this.conf"]) ∧
    Gen.C17.settingsWritersLocked = true := ⟨.inr rfl, rfl⟩

open Logger.IR

/-! How the interpreted obligations that follow are computed.
The expressions of `checkOk` and `Read` name each thing once or twice and are computed whole, by
unfolding `eval` (`rfl`).  Those of `clearOldLog` repeat `.Name()` and `LastIndex` many times and
are computed bottom-up with the node lemmas of `ExprIRLemmas` and what `envRet` answers. -/

@[simp] theorem vbad_beq_true : (V.bad == V.b true) = false := rfl
@[simp] theorem vi_beq_true (n : Int) : (V.i n == V.b true) = false := rfl
@[simp] theorem vs_beq_true (n : Bytes) : (V.s n == V.b true) = false := rfl

def envCheck (c : Cache) (id : Bytes) (sec now : Int) : Env := fun n args =>
  match n, args with
  | "#p0", [] => .s id
  | "#p1", [] => .i sec
  | "dateutil.Now", [] => .i now
  | "this.lastLog.Get", [.s k] => .i (cacheGet c k)
  | _, _ => .bad

/-- the two conditions and the `Put` of `checkOk`, read with the semantics of `IR.eval`, are the
    model's `checkOk` for every cache, id, interval and time -/
theorem gen_checkOk_interp (c : Cache) (id : Bytes) (sec now : Int) :
    ∃ g s, Gen.C17.checkOkConds = [g, s] ∧
      Gen.C17.checkOkPut.map (eval (envCheck c id sec now) 0) = [.s id, .i now] ∧
      evalB (envCheck c id sec now) g = decide (sec > 0) ∧
      evalB (envCheck c id sec now) s = decide (now < cacheGet c id + sec * 1000) ∧
      checkOk c id sec now =
        if evalB (envCheck c id sec now) g then
          (if evalB (envCheck c id sec now) s then (false, c) else (true, cachePut c id now))
        else (true, c) := by
  have model : ∀ g s : Bool, g = decide (sec > 0) → s = decide (now < cacheGet c id + sec * 1000) →
      checkOk c id sec now = if g then (if s then (false, c) else (true, cachePut c id now)) else (true, c) := by
    intro g s hg hs; rw [hg, hs, checkOk]; simp only [decide_eq_true_eq]
  exact ⟨_, _, rfl, rfl, evalB_of _ rfl, evalB_of _ rfl, model _ _ (evalB_of _ rfl) (evalB_of _ rfl)⟩

def envRead (file : Bytes) (endpos length size : Int) : Env := fun n args =>
  match n, args with
  | "#p0", [] => .s file
  | "#p1", [] => .i endpos
  | "#p2", [] => .i length
  | ".Size", [_] => .i size
  | _, _ => .bad

/-- the guards `file == "" || length <= 0` and `size < endpos`, the assignment
    `if endpos < 0 { endpos = size }`, the offset and the buffer length handed to `ReadAt`
    (through `float64`, `math.Max`, `math.Min`), read with `IR.eval`, are `readWindow` for every
    size, end position and length -/
theorem gen_read_window_interp (file : Bytes) (size endpos length : Int) :
    ∃ g0 g1 g2 c rhs ty n off a1 a2,
      Gen.C17.readGuards = [g0, g1, g2] ∧ Gen.C17.readSets = [(c, .var "#p1", rhs)] ∧
      Gen.C17.readAtArgs = [.call2 "make" ty n, off] ∧ Gen.C17.readNewLogData = [off, a1, a2] ∧
      evalB (envRead file endpos length size) g0 = decide (file = [] ∨ length ≤ 0) ∧
      evalB (envRead file endpos length size) g2 = decide (size < endpos) ∧
      (let e := if evalB (envRead file endpos length size) c then
                  (match eval (envRead file endpos length size) 0 rhs with | .i v => v | _ => 0) else endpos
       ¬ size < endpos →
        ∃ st rd, eval (envRead file e length size) 0 off = .i st ∧ eval (envRead file e length size) 0 n = .i rd ∧
          readWindow size endpos length = some (st, rd)) := by
  refine ⟨_, _, _, _, _, _, _, _, _, _, rfl, rfl, rfl, rfl, ?_, evalB_of _ rfl, ?_⟩
  · exact (evalB_of _ rfl).trans (Bool.decide_or ..).symm
  · intro e hbe
    have he : e = if endpos < 0 then size else endpos := by
      show (if evalB _ _ then _ else _) = _
      rw [evalB_of (x := decide (endpos < 0)) _ rfl]
      simp only [decide_eq_true_eq]
      rfl
    refine ⟨max 0 (e - length), min (size - max 0 (e - length)) length, rfl, rfl, ?_⟩
    simp only [readWindow, hbe, if_false, he]

def envNext (e length size next n : Int) : Env := fun nm args =>
  match nm, args with
  | "#p1", [] => .i e
  | "#p2", [] => .i length
  | "#m2", [] => .i next
  | ".Size", [_] => .i size
  | "#proj0", [_] => .i n
  | _, _ => .bad

/-- `next := start + int64(n)`, then `if next+length > size { next = -1 } else { next += length }`,
    read with `IR.eval`, is the model's `nextPos` whenever `next + length` does not overflow an
    int64 (the model wraps; the code's arithmetic is the same two's-complement addition) -/
theorem gen_read_next_interp (e length size n : Int)
    (hov : -9223372036854775808 ≤ max 0 (e - length) + n + length ∧ max 0 (e - length) + n + length < 9223372036854775808) :
    ∃ v init c thenE op elseE,
      Gen.C17.readNextInit = [v, init] ∧ Gen.C17.readNext = [c, thenE, .str op, elseE] ∧ v = .var "#m2" ∧ op = "+=" ∧
      eval (envNext e length size 0 n) 0 init = .i (max 0 (e - length) + n) ∧
      (let next := max 0 (e - length) + n
       (if evalB (envNext e length size next n) c then eval (envNext e length size next n) 0 thenE
        else binop "+" (.i next) (eval (envNext e length size next n) 0 elseE)) =
         .i (nextPos size (max 0 (e - length)) n length)) := by
  refine ⟨_, _, _, _, _, _, rfl, rfl, rfl, rfl, rfl, ?_⟩
  intro next
  have hw : wrap64 (next + length) = next + length := by unfold wrap64; omega
  show (if (V.b (decide (next + length > size)) == .b true) = true then V.i (-1) else .i (next + length)) =
    .i (if wrap64 (next + length) > size then -1 else wrap64 (next + length))
  simp only [vb_beq_true, hw, decide_eq_true_eq]
  split <;> rfl

def envRet (cal : Cal) (rot : Bool) (logID name : Bytes) (keep nowUnit : Int) : Env := fun n args =>
  match n, args with
  | ".Name", [_] => .s name
  | ".IsDir", [_] => .b false
  | "this.conf.logID", [] => .s logID
  | "this.conf.rotationEnabled", [] => .b rot
  | "false", [] => .b false
  | "this.conf.keepDays", [] => .i keep
  | "dateutil.GetDateUnitNow", [] => .i nowUnit
  | "dateutil.GetYmdTime", [.s d] => .s d
  | "dateutil.GetDateUnit", [.s d] => (match cal.unitOf d with | some u => .i u | none => .bad)
  | _, _ => .bad

section
variable (cal : Cal) (rot : Bool) (logID name : Bytes) (keep nowUnit : Int) (l : Nat)

theorem envRet_eval :
    (∀ a, eval (envRet cal rot logID name keep nowUnit) l (.call1 ".Name" a) = .s name ∧
      eval (envRet cal rot logID name keep nowUnit) l (.call1 ".IsDir" a) = .b false) ∧
    eval (envRet cal rot logID name keep nowUnit) l (.var "this.conf.logID") = .s logID ∧
    eval (envRet cal rot logID name keep nowUnit) l (.var "this.conf.rotationEnabled") = .b rot ∧
    eval (envRet cal rot logID name keep nowUnit) l (.var "false") = .b false ∧
    eval (envRet cal rot logID name keep nowUnit) l (.var "this.conf.keepDays") = .i keep ∧
    eval (envRet cal rot logID name keep nowUnit) l (.call0 "dateutil.GetDateUnitNow") = .i nowUnit :=
  ⟨fun _ => ⟨rfl, rfl⟩, rfl, rfl, rfl, rfl, rfl⟩

/-- the slice that both the skip guards and the removal condition look at -/
theorem ret_date :
    eval (envRet cal rot logID name keep nowUnit) l
      (.slice (.call1 ".Name" (.var "#rv"))
        (.bin "+" (.call2 "strings.LastIndex" (.call1 ".Name" (.var "#rv")) (.str "-")) (.int 1))
        (.call2 "strings.LastIndex" (.call1 ".Name" (.var "#rv")) (.str "."))) = .s (goDate name) := by
  simp only [eval_slice, eval_node, envRet_eval, strBytes_dot, strBytes_dash, lastIndexV_one, binop_val, goDate]

/-- `GetDateUnit(GetYmdTime(a))` is the calendar's answer for the string `a` evaluates to -/
theorem ret_unit {a : E} {d : Bytes} (h : eval (envRet cal rot logID name keep nowUnit) l a = .s d) :
    eval (envRet cal rot logID name keep nowUnit) l (.call1 "dateutil.GetDateUnit" (.call1 "dateutil.GetYmdTime" a)) =
      match cal.unitOf d with | some u => .i u | none => .bad := by
  show envRet cal rot logID name keep nowUnit "dateutil.GetDateUnit"
    [envRet cal rot logID name keep nowUnit "dateutil.GetYmdTime" [eval _ l a]] = _
  rw [h]; rfl

end

/-- every test `clearOldLog` applies to a directory entry before it looks at the date
    (`IsDir`, `HasPrefix(name, logID+"-")`, the two `LastIndex` tests, the slice, `len(date) != 8`,
    the digit test), read with `IR.eval`, skips exactly the names for which the model's
    `candidate` is `none` — for every name and log id -/
theorem gen_retention_parse_interp (cal : Cal) (rot : Bool) (logID name : Bytes) (keep nowUnit : Int) :
    Gen.C17.retentionGuards.any (evalB (envRet cal rot logID name keep nowUnit)) = (candidate logID name).isNone := by
  simp only [Gen.C17.retentionGuards, List.any_cons, List.any_nil, evalB, ret_date, eval_node, binop_val, envRet_eval,
    strBytes_dot, strBytes_dash, lastIndexV_one, vb_beq_true, IR.indexFunc_nonneg, any_not_digit, Bool.or_false,
    Bool.false_or]
  exact (candidate_isNone logID name).symm

/-- the guards that switch retention off (`rotationEnabled == false`, `keepDays <= 0`) -/
theorem gen_retention_returns_interp (cal : Cal) (rot : Bool) (logID name : Bytes) (keep nowUnit : Int) :
    Gen.C17.retentionReturns.any (evalB (envRet cal rot logID name keep nowUnit)) = !retentionOn rot keep := by
  simp only [Gen.C17.retentionReturns, List.any_cons, List.any_nil, evalB, eval_node, binop_val, envRet_eval,
    vb_beq_true, Bool.or_false]
  rw [retentionOn, Bool.not_and, ← decide_not]
  simp only [Int.not_lt]
  cases rot <;> rfl

/-- the condition under which `os.Remove` is reached: its date argument is the model's date
    part, and with the calendar answering for `GetDateUnit(GetYmdTime(date))` the comparison is
    `nowUnit - unit > keepDays` (a calendar panic, recovered in the code, removes nothing) -/
theorem gen_retention_remove_interp (cal : Cal) (rot : Bool) (logID name d : Bytes) (keep nowUnit : Int)
    (hc : candidate logID name = some d) :
    ∃ r, Gen.C17.removeCond = [r] ∧
      evalB (envRet cal rot logID name keep nowUnit) r =
        (match cal.unitOf d with | some u => decide (nowUnit - u > keep) | none => false) := by
  refine ⟨_, rfl, ?_⟩
  simp only [evalB, eval_node, envRet_eval, ret_unit _ _ _ _ _ _ _ (ret_date ..), goDate_of_candidate hc]
  cases cal.unitOf d <;> simp only [binop_val, vb_beq_true] <;> rfl

/-- all of `clearOldLog`'s decision for one directory entry, interpreted: the entry is removed
    iff no switch-off guard fires, no skip guard fires and the removal condition holds — and that
    is the model's `deleted`, for every calendar, setting, time and name -/
theorem gen_retention_interp (cal : Cal) (rot : Bool) (logID name : Bytes) (keep nowUnit : Int) :
    (!(Gen.C17.retentionReturns.any (evalB (envRet cal rot logID name keep nowUnit))) &&
     !(Gen.C17.retentionGuards.any (evalB (envRet cal rot logID name keep nowUnit))) &&
     Gen.C17.removeCond.all (evalB (envRet cal rot logID name keep nowUnit))) =
    deleted cal rot logID keep nowUnit name := by
  rw [gen_retention_returns_interp, gen_retention_parse_interp, deleted_eq, Bool.not_not, Bool.and_assoc]
  cases hc : candidate logID name with
  | none => simp
  | some d =>
    obtain ⟨r, hr, hv⟩ := gen_retention_remove_interp cal rot logID name d keep nowUnit hc
    rw [hr]
    simp only [List.all_cons, List.all_nil, Bool.and_true, hv, Option.isNone_some, Bool.not_false, Bool.true_and]
    cases cal.unitOf d <;> rfl

end C17Gen
