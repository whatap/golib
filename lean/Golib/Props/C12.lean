/-
  Property C12 — plain hash maps and sets (IntIntMap, IntKeyMap, IntSet, StringSet) behave as
  mathematical maps and sets.

  Spec      `HMap.PS` / `HMap.PS.step`     (Golib/HMap/Plain.lean): a finite map (key-distinct association list whose
            order is not observable; the laws below characterise it as the function `AL.get`)
  CodeModel `HMap.PMap` / `HMap.PMap.step` (Golib/HMap/Plain.lean): bucket table + count / threshold / max, generic in
            key type, value type, **hash function** and **growth threshold**
  Wire      `HMap.PMap.toBytes` / `toObject` (Golib/HMap/Wire.lean) over the decimal codec of C01
  Tie       harness/c12 against `PS.step` run by drv_c12; regenerated descriptors (Golib/Props/C12Gen.lean).

  The simulation results are references to lemmas of Golib.HMap.*; the laws of the finite map itself are proved here.
-/
import Golib.HMap.PlainStep
import Golib.HMap.Types
import Golib.HMap.Multi
import Golib.HMap.Enum
import Golib.HMap.MultiLemmas
import Golib.HMap.PlainValue

set_option linter.unusedSectionVars false

namespace C12
open HMap Prim

variable {K V : Type} [DecidableEq K] [DecidableEq V]

/-! ### the Spec is a mathematical map -/

theorem map_get_put (l : List (K × V)) (k k' : K) (v : V) (d : PDesc K V) (hr : d.refuse k = false) (mx : Nat) :
    AL.get (PS.put d { ents := l, max := mx } k v).1.ents k' = if k = k' then some v else AL.get l k' := by
  unfold PS.put PS.putWith
  simp only [hr, Bool.false_eq_true, if_false]
  cases hg : AL.get l k with
  | some old => exact AL.get_set_of_isSome v (by rw [hg]; rfl) k'
  | none => exact AL.get_snoc v hg k'

theorem map_get_remove (l : List (K × V)) (k k' : K) :
    AL.get (AL.erase l k) k' = if k = k' then none else AL.get l k' := AL.get_erase l k k'

theorem map_size_put (l : List (K × V)) (k : K) (v : V) (d : PDesc K V) (hr : d.refuse k = false) (mx : Nat) :
    (PS.put d { ents := l, max := mx } k v).1.ents.length = if (AL.get l k).isSome then l.length else l.length + 1 := by
  unfold PS.put PS.putWith
  simp only [hr, Bool.false_eq_true, if_false]
  cases hg : AL.get l k <;> simp

/-! ### the CodeModel refines it (any hash function, any growth policy, any history) -/

theorem rel_init (hash : K → Nat) (thr : Nat → Nat) (d : PDesc K V) (cap : Nat) :
    PMap.Rel hash d (PMap.new thr cap : PMap K V) {} := PMap.Rel.new cap

/-- one operation (put / add / add-if-exist / get / contains / remove / clear / put-all / sort / size /
    enumerate): the simulation is preserved and the outputs agree (enumerations as multisets) -/
theorem plain_refine_step (hash : K → Nat) (thr : Nat → Nat) (d : PDesc K V) (m : PMap K V) (s : PS K V)
    (op : POp K V) (h : PMap.Rel hash d m s) :
    PMap.Rel hash d (PMap.step hash thr d m op).1 (PS.step d s op).1 ∧
    Out.equiv (PMap.step hash thr d m op).2 (PS.step d s op).2 :=
  PMap.plain_refine_step thr h op

/-- all finite histories from a fresh map of any capacity -/
theorem plain_refine (hash : K → Nat) (thr : Nat → Nat) (d : PDesc K V) (cap : Nat) (ops : List (POp K V)) :
    Outs.equiv (PMap.run hash thr d (PMap.new thr cap) ops).2 (PS.run d {} ops).2 :=
  (PMap.plain_refine_run thr ops (PMap.Rel.new (hash := hash) (thr := thr) (d := d) cap)).2

/-- … from any state related to a finite map (not only a fresh one): outputs agree and the simulation is kept -/
theorem plain_refine_from (hash : K → Nat) (thr : Nat → Nat) (d : PDesc K V) (m : PMap K V) (s : PS K V)
    (ops : List (POp K V)) (h : PMap.Rel hash d m s) :
    PMap.Rel hash d (PMap.run hash thr d m ops).1 (PS.run d s ops).1 ∧
    Outs.equiv (PMap.run hash thr d m ops).2 (PS.run d s ops).2 :=
  PMap.plain_refine_run thr ops h

/-- lookups and size agree in every reachable state -/
theorem lookup_and_size (hash : K → Nat) (d : PDesc K V) (m : PMap K V) (s : PS K V) (h : PMap.Rel hash d m s) :
    (∀ k, m.tab.get hash k = AL.get s.ents k) ∧ m.count = s.ents.length := ⟨h.get, h.count⟩

/-- an enumeration (buckets last → first, chains head → tail) yields every stored element exactly once -/
theorem enumerate_once (hash : K → Nat) (d : PDesc K V) (m : PMap K V) (s : PS K V) (h : PMap.Rel hash d m s) :
    m.tab.entries.Perm s.ents ∧ (m.tab.entries.map Prod.fst).Nodup ∧
    (∀ k v, (k, v) ∈ m.tab.entries ↔ m.tab.get hash k = some v) ∧ m.tab.entries.length = m.count := by
  have hp := PMap.entries_perm h
  exact ⟨hp, (PMap.enumerate_once h.tab).1, (PMap.enumerate_once h.tab).2, by rw [hp.length_eq, h.count]⟩

/-- table growth (rehash to 2n+1 buckets) changes no lookup and keeps the set of cells -/
theorem rehash_preserves (hash : K → Nat) (t : Table K V) (h : t.Inv hash) :
    (t.rehash hash).Inv hash ∧ (t.rehash hash).cap = 2 * t.cap + 1 ∧
    (∀ k, (t.rehash hash).get hash k = t.get hash k) ∧ (∀ e, e ∈ (t.rehash hash).entries ↔ e ∈ t.entries) :=
  ⟨h.rehash hash, Table.cap_rehash hash t, Table.get_rehash hash h, Table.mem_entries_rehash hash h⟩

/-- the bytes decode to the enumerated pairs (exact consumption) -/
theorem wire_decodes (es : List (Int × Int)) (r : Bytes)
    (hlen : inRange 8 (es.length : Int)) (h : ∀ e ∈ es, inRange 8 e.1 ∧ inRange 8 e.2) :
    P.run pairsFromBytes (pairsToBytes es ++ r) = some (es, r) := run_pairsFromBytes es r hlen h

/-- `ToObject(ToBytes(m))` read into a fresh map of any capacity is the same finite map:
    every lookup and the size agree (keys and values are int32, so they fit the decimal codec) -/
theorem intint_wire (hash : Int → Nat) (thr : Nat → Nat) (d : PDesc Int Int) (cap : Nat) (m : PMap Int Int)
    (h : m.tab.Inv hash)
    (hlen : inRange 8 (m.tab.entries.length : Int))
    (hr : ∀ e ∈ m.tab.entries, inRange 8 e.1 ∧ inRange 8 e.2)
    (hok : ∀ e ∈ m.tab.entries, d.refuse e.1 = false) :
    (∀ k, (PMap.toObject hash thr d (PMap.new thr cap) (PMap.toBytes m)).tab.get hash k = m.tab.get hash k) ∧
    (PMap.toObject hash thr d (PMap.new thr cap) (PMap.toBytes m)).count = m.tab.entries.length :=
  let w := PMap.intint_wire thr cap h hlen hr hok
  ⟨w.1, w.2.1⟩

/-- the enumerator object `(table, index, entry)` with its skip loop
    `for entry == nil && index > 0 { index--; entry = table[index] }`: calling HasMoreElements / Next until exhausted
    on an enumerator opened on a table that is not modified yields exactly `entries` — hence (with `enumerate_once`)
    every stored element exactly once; the key and value enumerators are its projections -/
theorem enumerator_protocol (hash : K → Nat) (d : PDesc K V) (m : PMap K V) (s : PS K V) (h : PMap.Rel hash d m s) :
    PEnum.drain m.tab m.count m.tab.openEnum = m.tab.entries ∧
    (PEnum.drain m.tab m.count m.tab.openEnum).Perm s.ents ∧
    ((PEnum.drain m.tab m.count m.tab.openEnum).map Prod.fst).Nodup := by
  have hp := PMap.entries_perm h
  have hd : PEnum.drain m.tab m.count m.tab.openEnum = m.tab.entries :=
    Table.drain_open m.tab m.count (by rw [hp.length_eq, h.count]; exact Nat.le_refl _)
  rw [hd]
  exact ⟨rfl, hp, (PMap.enumerate_once h.tab).1⟩

/-- the protocol, all three ways of driving an enumerator:
    * `Next` is defined exactly when `HasMoreElements` answers true;
    * `Next` **without** a prior `HasMoreElements` is correct too — it runs the skip loop itself: `n` bare calls yield the
      first `n` remaining elements, so `Size()` bare calls on a fresh enumerator yield the whole enumeration
      (the loops of `IntSet.ToString`, `KeyArray`, `ValueArray`);
    * `HasMoreElements` may be called any number of times between two `Next`s: it is idempotent on the enumerator's
      state and does not change what `Next` returns. -/
theorem enumerator_hasMore_next (t : Table K V) (e : PEnum K V) :
    PEnum.hasMore t e = (PEnum.next t e).isSome ∧
    (∀ n, PEnum.takeN t n e = (PEnum.remaining t e).take n) ∧
    PEnum.advance t (PEnum.advance t e) = PEnum.advance t e ∧
    PEnum.next t (PEnum.advance t e) = PEnum.next t e := by
  refine ⟨?_, fun n => PEnum.takeN_eq t n e, PEnum.advance_idem t e, by unfold PEnum.next; rw [PEnum.advance_idem]⟩
  unfold PEnum.hasMore PEnum.next
  simp only
  cases hc : (PEnum.advance t e).entry <;> simp

/-- `Size()` calls of `Next` with no `HasMoreElements` at all enumerate the map: same result as the HasMoreElements-driven loop -/
theorem enumerator_size_driven (hash : K → Nat) (d : PDesc K V) (m : PMap K V) (s : PS K V) (h : PMap.Rel hash d m s) :
    PEnum.takeN m.tab m.count m.tab.openEnum = m.tab.entries ∧
    PEnum.takeN m.tab m.count m.tab.openEnum = PEnum.drain m.tab m.count m.tab.openEnum := by
  have hp := PMap.entries_perm h
  have hl : m.tab.entries.length = m.count := by rw [hp.length_eq, h.count]
  have h1 : PEnum.takeN m.tab m.count m.tab.openEnum = m.tab.entries := by
    rw [PEnum.takeN_eq, Table.remaining_open, ← hl, List.take_length]
  exact ⟨h1, by rw [h1, Table.drain_open m.tab m.count (by omega)]⟩

/-- an enumerator in any state yields exactly what is left: the rest of the current chain, then the buckets below `index` -/
theorem enumerator_remaining (t : Table K V) (e : PEnum K V) (fuel : Nat) (h : (PEnum.remaining t e).length ≤ fuel) :
    PEnum.drain t fuel e = e.entry ++ (List.range e.index).reverse.flatMap t.bucket :=
  PEnum.drain_eq t fuel e h

/-! ### reset after growth: Clear / Sort at any table size -/

/-- **Clear in any state** (whatever the table went through — any number of growth steps, any capacity): the count is 0,
    nothing is enumerated (by the table walk and by the enumerator object), every lookup is absent, the table keeps its
    length; and from there on the container answers every history like the EMPTY finite map (with the configured bound kept).
    The first five facts need no hypothesis at all. -/
theorem clear_resets (hash : K → Nat) (thr : Nat → Nat) (d : PDesc K V) (m : PMap K V) :
    (PMap.step hash thr d m .clear).1.count = 0 ∧
    (PMap.step hash thr d m .clear).1.tab.entries = [] ∧
    (∀ fuel, PEnum.drain (PMap.step hash thr d m .clear).1.tab fuel (PMap.step hash thr d m .clear).1.tab.openEnum = []) ∧
    (∀ k, (PMap.step hash thr d m .clear).1.tab.get hash k = none) ∧
    (PMap.step hash thr d m .clear).1.tab.cap = m.tab.cap ∧
    (∀ s, PMap.Rel hash d m s → ∀ ops,
      Outs.equiv (PMap.run hash thr d (PMap.step hash thr d m .clear).1 ops).2 (PS.run d { ents := [], max := s.max } ops).2) := by
  have he : (PMap.step hash thr d m .clear).1.tab.entries = [] := by
    simp [PMap.step, PMap.clear, Table.clear, Table.entries]
  refine ⟨rfl, he, fun fuel => ?_, fun k => by simp [PMap.step, PMap.clear], by simp [PMap.step, PMap.clear],
    fun s h ops => (PMap.plain_refine_run thr ops (PMap.clear_rel h)).2⟩
  exact (Table.drain_open _ fuel (by rw [he]; exact Nat.zero_le _)).trans he

/-- `Sort` (collect, sort, clear, re-put) of a map of any size is observably the identity: the same finite map, the same size -/
theorem sort_same_map (hash : K → Nat) (thr : Nat → Nat) (d : PDesc K V) (m : PMap K V) (s : PS K V) (lt : K → K → Bool)
    (h : PMap.Rel hash d m s) :
    PMap.Rel hash d (PMap.step hash thr d m (.sort lt)).1 s ∧ (PMap.step hash thr d m (.sort lt)).1.count = m.count ∧
    (∀ k, (PMap.step hash thr d m (.sort lt)).1.tab.get hash k = m.tab.get hash k) := by
  have hs : PMap.Rel hash d (PMap.step hash thr d m (.sort lt)).1 s := PMap.sort_rel h lt
  exact ⟨hs, by rw [hs.count, h.count], fun k => by rw [hs.get, h.get]⟩

/-! ### values are opaque (any type, no equality on values) -/

omit [DecidableEq V] in
/-- **Put of a key, for a value type WITHOUT any equality**: the previous value (absent for a fresh key) is returned, the new
    value is stored, every other key keeps its value, the size grows exactly for a fresh key.  (`V` is an arbitrary type:
    functions, lists, anything — the Go `interface{}` values of any dynamic type, comparable or not.) -/
theorem put_any_value (hash : K → Nat) (thr : Nat → Nat) (d : PDesc K V) (m : PMap K V) (s : PS K V)
    (h : PMap.Rel hash d m s) (k : K) (v : V) (hr : d.refuse k = false) :
    (m.put hash thr d k v).2 = m.get hash k ∧
    (∀ k', (m.put hash thr d k v).1.get hash k' = if k = k' then some v else m.get hash k') ∧
    (m.put hash thr d k v).1.count = if (m.get hash k).isSome then m.count else m.count + 1 := by
  classical
  obtain ⟨hrel, hout⟩ := PMap.put_rel (thr := thr) h k v
  obtain ⟨l, mx⟩ := s
  have hg : ∀ k', m.tab.get hash k' = AL.get l k' := h.get
  simp only [PMap.get]
  refine ⟨?_, fun k' => ?_, ?_⟩
  · rw [hout, hg]
    unfold PS.put PS.putWith
    simp only [hr, Bool.false_eq_true, if_false]
    cases AL.get l k <;> rfl
  · rw [hrel.get k', map_get_put l k k' v d hr mx, hg]
  · rw [hrel.count, map_size_put l k v d hr mx]
    simp only [hg, h.count]

omit [DecidableEq V] in
/-- **The map never inspects a value**: relabelling every stored value by an arbitrary function `f` (injective or not, into any
    type) commutes with put, putAll, get, remove, clear and with the enumeration — so no branch of these operations can
    depend on a value or on a comparison of two values (only `ContainsValue`, which takes the comparison as a parameter, does). -/
theorem value_opaque {W : Type} (hash : K → Nat) (thr : Nat → Nat) (f : V → W) (d : PDesc K V) (d' : PDesc K W)
    (hr : ∀ k, d'.refuse k = d.refuse k) (m : PMap K V) :
    (∀ k v, (m.mapV f).put hash thr d' k (f v) = ((m.put hash thr d k v).1.mapV f, (m.put hash thr d k v).2.map f)) ∧
    (∀ l, (PMap.step hash thr d' (m.mapV f) (.putAll (l.map (cellMap f)))).1 = (PMap.step hash thr d m (.putAll l)).1.mapV f) ∧
    (∀ k, (m.mapV f).get hash k = (m.get hash k).map f) ∧
    (∀ k, (m.mapV f).remove hash k = ((m.remove hash k).1.mapV f, (m.remove hash k).2.map f)) ∧
    (m.mapV f).clear = m.clear.mapV f ∧
    (m.mapV f).tab.entries = m.tab.entries.map (cellMap f) ∧ (m.mapV f).count = m.count :=
  ⟨fun k v => PMap.put_mapV hash thr f d d' hr m k v, fun l => PMap.putAll_mapV hash thr f d d' hr l m,
   fun k => PMap.get_mapV hash f m k, fun k => PMap.remove_mapV hash f m k, PMap.clear_mapV f m,
   Table.entries_mapV f m.tab, rfl⟩

omit [DecidableEq V] in
/-- **Put of a present key rewrites its cell in place**: `put k v` on a key that is present only rewrites the value of
    its cell (`e.value = v`) — no growth, no new cell, count unchanged — and answers the previous value.  (That is also
    all `SetValue` on a live entry of `IntKeyMap` does, the entry being that cell; the plain model has no entry objects.) -/
theorem entry_setValue_is_put (hash : K → Nat) (thr : Nat → Nat) (d : PDesc K V) (m : PMap K V) (k : K) (v old : V)
    (hr : d.refuse k = false) (hp : m.tab.get hash k = some old) :
    m.put hash thr d k v = ({ m with tab := m.tab.setExisting hash k v }, some old) := by
  unfold PMap.put PMap.putWith
  simp [hr, hp]

/-- **no_aliasing.**  In a pool of live maps an operation addressed to slot `i` — including `PutAll(other)`
    and `ToObject(other.ToBytes())`, which are `putAll l` with `l` the enumeration of the source — leaves every
    other slot, the source included, exactly as it was.  (Containers are values in the model: "no shared
    storage" is the specification; tie B compares all live instances after every mutating op.) -/
theorem no_aliasing (hash : K → Nat) (thr : Nat → Nat) (d : PDesc K V) (dflt : PMap K V)
    (pool : Array (PMap K V)) (i k : Nat) (op : POp K V) (h : k ≠ i) :
    (poolStep (PMap.step hash thr d) dflt pool i op).1.getD k dflt = pool.getD k dflt :=
  poolStep_frame _ dflt pool i k op h

theorem pool_target (hash : K → Nat) (thr : Nat → Nat) (d : PDesc K V) (dflt : PMap K V)
    (pool : Array (PMap K V)) (i : Nat) (op : POp K V) (h : i < pool.size) :
    (poolStep (PMap.step hash thr d) dflt pool i op).1.getD i dflt = (PMap.step hash thr d (pool.getD i dflt) op).1 ∧
    (poolStep (PMap.step hash thr d) dflt pool i op).2 = (PMap.step hash thr d (pool.getD i dflt) op).2 :=
  poolStep_target _ dflt pool i op h

/-- `PutAll(other)` puts a permutation of the source's entries: the source's enumeration is one (tie to `enumerate_once`) -/
theorem putAll_source (hash : K → Nat) (d : PDesc K V) (src : PMap K V) (s : PS K V) (h : PMap.Rel hash d src s) :
    src.tab.entries.Perm s.ents := PMap.entries_perm h

/-- **histories over several live containers**: every interleaved history over a pool of maps answers like the pool of
    finite maps (enumerations as multisets) and keeps every slot related to its own map — `no_aliasing` lifted to `foldl step` -/
theorem pool_refine_run (hash : K → Nat) (thr : Nat → Nat) (d : PDesc K V) (dflt : PMap K V) (sdflt : PS K V)
    (ops : List (Nat × POp K V)) (pool : Array (PMap K V)) (spool : Array (PS K V))
    (h : PMap.PoolRel hash d dflt sdflt pool spool) (hops : ∀ o ∈ ops, o.1 < pool.size) :
    Outs.equiv (poolRun (PMap.step hash thr d) dflt pool ops).2 (poolRun (PS.step d) sdflt spool ops).2 ∧
    PMap.PoolRel hash d dflt sdflt (poolRun (PMap.step hash thr d) dflt pool ops).1 (poolRun (PS.step d) sdflt spool ops).1 :=
  let r := PMap.pool_refine_run thr dflt sdflt ops h hops
  ⟨r.2, r.1⟩

/-- The premise "while the structure is not being modified" is needed: an enumerator taken before a modification
    and drained after it is outside the property (here it misses the element put meanwhile; the table it captured is the old value). -/
theorem enumeration_premise_is_needed :
    let d : PDesc Int Int := { comb := fun a b => a + b, veq := fun a b => a == b }
    let m := (PMap.run (fun k : Int => k.toNat) (fun c => c) d (PMap.new (fun c => c) 7) [.put 1 10]).1
    let m' := (PMap.step (fun k : Int => k.toNat) (fun c => c) d m (.put 2 20)).1
    PEnum.drain m.tab 5 m.tab.openEnum = [(1, 10)] ∧ PEnum.drain m'.tab 5 m'.tab.openEnum = [(2, 20), (1, 10)] := by decide +kernel

/-- complete characterisation (D17): the result of `add`, for every descriptor, key and state -/
theorem add_result_exact (d : PDesc K V) (s : PS K V) (k : K) (v : V) :
    (PS.add d s k v).2 =
      if d.refuse k then none else
      match AL.get s.ents k with
      | some old => some old
      | none => if d.addFreshNew then some v else none := by
  unfold PS.add PS.putWith
  cases hr : d.refuse k with
  | true => simp
  | false =>
    simp only [Bool.false_eq_true, if_false]
    cases hg : AL.get s.ents k <;> simp

/-- … so `add` answers the previous value (like `put`) **iff** the deviation flag is off, or the key is refused, or it is present -/
theorem add_result_iff (d : PDesc K V) (s : PS K V) (k : K) (v : V) :
    (PS.add d s k v).2 = (if d.refuse k then none else AL.get s.ents k) ↔
      (d.addFreshNew = false ∨ d.refuse k = true ∨ (AL.get s.ents k).isSome) := by
  rw [add_result_exact]
  cases hr : d.refuse k with
  | true => simp
  | false =>
    simp only [Bool.false_eq_true, if_false]
    cases hg : AL.get s.ents k with
    | some old => simp
    | none =>
      cases hf : d.addFreshNew <;> simp

/-- full statement: `add` returns the previous value (absent for a fresh key), like `put`.  It holds when
    the descriptor does not have the IntIntMap deviation … -/
theorem add_result_partial (d : PDesc K V) (hreg : d.addFreshNew = false) (s : PS K V) (k : K) (v : V) :
    (PS.add d s k v).2 = if d.refuse k then none else AL.get s.ents k :=
  (add_result_iff d s k v).mpr (Or.inl hreg)

/-- … IntIntMap (D17): Add(5,7) on an empty map returns 7, a second Add(5,1) returns 7 as well (now the
    previous value), and the stored value is 8 -/
theorem finding_D17 :
    let d : PDesc Int Int := { comb := fun a b => a + b, veq := fun a b => a == b, addFreshNew := true }
    (PS.add d {} 5 7).2 = some 7 ∧ (PS.add d (PS.add d {} 5 7).1 5 1).2 = some 7 ∧
    AL.get (PS.add d (PS.add d {} 5 7).1 5 1).1.ents 5 = some 8 := by decide +kernel

/-- complete characterisation (D15): after `put k v` the key is reported as contained **iff** the descriptor is not blind
    for `k` and either does not refuse `k` or `k` was present before -/
theorem contains_after_put_iff (d : PDesc K V) (s : PS K V) (k : K) (v : V) :
    (PS.step d (PS.put d s k v).1 (.containsKey k)).2 = .bool true ↔
      d.blind k = false ∧ (d.refuse k = false ∨ (AL.get s.ents k).isSome) := by
  cases hr : d.refuse k with
  | true =>
    have hp : (PS.put d s k v).1 = s := by simp [PS.put, hr]
    rw [hp]
    simp [PS.step]
  | false =>
    obtain ⟨l, mx⟩ := s
    have := map_get_put l k k v d hr mx
    simp only [if_true] at this
    simp [PS.step, this]

/-- full statement: a key that was put is contained; it holds for regular descriptors … -/
theorem contains_after_put_partial (d : PDesc K V) (hr : ∀ k, d.refuse k = false) (hb : ∀ k, d.blind k = false)
    (s : PS K V) (k : K) (v : V) :
    (PS.step d (PS.put d s k v).1 (.containsKey k)).2 = .bool true :=
  (contains_after_put_iff d s k v).mpr ⟨hb k, Or.inl (hr k)⟩

/-- … StringSet (D15): Put("") is ignored and Contains("") answers false -/
theorem finding_D15_StringSet :
    let d : PDesc String Unit := { comb := fun _ _ => (), veq := fun _ _ => true, refuse := fun k => k == "", blind := fun k => k == "" }
    (PS.step d (PS.put d {} "" ()).1 (.containsKey "")).2 = .bool false ∧ (PS.put d {} "" ()).1.ents = [] := by
  decide +kernel

theorem four_types : plainTypes.map (·.name) = ["IntIntMap", "IntKeyMap", "IntSet", "StringSet"] := by decide +kernel

theorem irregular_types :
    (plainTypes.filter (fun t => !t.regular)).map (·.name) = ["IntIntMap", "StringSet"] := by decide +kernel

example : PMap.Rel (fun k : Int => k.toNat) ({ comb := fun a b => a + b, veq := fun a b => a == b } : PDesc Int Int)
    (PMap.new (fun c => c * 3 / 4) 0 : PMap Int Int) {} := PMap.Rel.new 0

/-- growth from capacity 1 with a constant hash (every key collides), removal, enumeration -/
example :
    (PMap.run (fun _ : Int => 3) (fun c => c / 2) ({ comb := fun a b => a + b, veq := fun a b => a == b } : PDesc Int Int) (PMap.new (fun c => c / 2) 1)
      [.put 1 10, .put 2 20, .put 3 30, .add 2 5, .remove 1, .get 2, .size, .entries]).2
      = [.none, .none, .none, .val 20, .val 10, .val 25, .nat 2, .ents [(3, 30), (2, 25)]] := by decide +kernel

/-- the plain enumerator object (index, entry) with its skip loop, drained on a table with empty buckets in between -/
example :
    let d : PDesc Int Int := { comb := fun a b => a + b, veq := fun a b => a == b }
    let m := (PMap.run (fun k : Int => k.toNat) (fun c => c) d (PMap.new (fun c => c) 7) [.put 1 10, .put 5 50, .put 8 80]).1
    PEnum.drain m.tab m.count m.tab.openEnum = [(5, 50), (8, 80), (1, 10)] ∧ m.tab.entries = [(5, 50), (8, 80), (1, 10)] ∧
    PEnum.hasMore m.tab ⟨0, []⟩ = false := by
  decide +kernel

/-- `add_result_exact` on the three kinds of key: fresh with the deviation, present, refused -/
example :
    let d : PDesc String Int := { comb := fun a b => a + b, veq := fun a b => a == b, refuse := fun k => k == "r", addFreshNew := true }
    (PS.add d {} "a" 7).2 = some 7 ∧ (PS.add d (PS.add d {} "a" 7).1 "a" 1).2 = some 7 ∧ (PS.add d {} "r" 7).2 = none := by
  decide +kernel

/-- `pool_refine_run`: its premise holds for a pool of fresh maps, and an interleaved history over two slots computes -/
example :
    let d : PDesc Int Int := { comb := fun a b => a + b, veq := fun a b => a == b }
    PMap.PoolRel (fun k : Int => k.toNat) d (PMap.new (fun c => c) 1) {}
      #[PMap.new (fun c => c) 1, PMap.new (fun c => c) 4] #[{}, {}] ∧
    (poolRun (PMap.step (fun k : Int => k.toNat) (fun c => c) d) (PMap.new (fun c => c) 1)
      #[PMap.new (fun c => c) 1, PMap.new (fun c => c) 4]
      [(0, .put 1 10), (1, .put 1 11), (0, .remove 1), (1, .get 1), (0, .size), (1, .size)]).2
      = [.none, .none, .val 10, .val 11, .nat 0, .nat 1] := by
  refine ⟨⟨rfl, fun i hi => ?_⟩, by decide⟩
  have hi' : i < 2 := hi
  match i, hi' with
  | 0, _ => exact rel_init _ _ _ 1
  | 1, _ => exact rel_init _ _ _ 4

/-- `clear_resets` after growth: 6 keys from capacity 1 (the table grows three times, to 15 buckets),
    Clear, then the map answers like a fresh one.  (The premise of `sort_same_map` is the same `Rel`; see
    `rel_init` / `plain_refine_from`.) -/
example :
    let d : PDesc Int Int := { comb := fun a b => a + b, veq := fun a b => a == b }
    let m := (PMap.run (fun k : Int => k.toNat) (fun c => c * 3 / 4) d (PMap.new (fun c => c * 3 / 4) 1)
      [.put 0 1, .put 7 1, .put 14 1, .put 21 1, .put 28 1, .put 35 1]).1
    m.tab.cap = 15 ∧ m.count = 6 ∧
    (PMap.run (fun k : Int => k.toNat) (fun c => c * 3 / 4) d (PMap.step (fun k : Int => k.toNat) (fun c => c * 3 / 4) d m .clear).1
      [.size, .isEmpty, .get 7, .put 7 3, .size, .entries]).2 = [.nat 0, .bool true, .none, .none, .nat 1, .ents [(7, 3)]] := by
  decide +kernel

/-- `put_any_value` / `value_opaque` / `entry_setValue_is_put` on values without equality: the values are FUNCTIONS `Nat → Nat` -/
example :
    let d : PDesc Int (Nat → Nat) := { comb := fun a _ => a, veq := fun _ _ => false }
    let m := (PMap.put (fun k : Int => k.toNat) (fun c => c) d (PMap.new (fun c => c) 3) 5 (fun n => n + 1)).1
    ((m.put (fun k : Int => k.toNat) (fun c => c) d 5 (fun n => n * 2)).2.map (· 10)) = some 11 ∧
    (((m.put (fun k : Int => k.toNat) (fun c => c) d 5 (fun n => n * 2)).1.get (fun k : Int => k.toNat) 5).map (· 10)) = some 20 ∧
    (m.put (fun k : Int => k.toNat) (fun c => c) d 5 (fun n => n * 2)).1.count = 1 := by
  decide +kernel

end C12
