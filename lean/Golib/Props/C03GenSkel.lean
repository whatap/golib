/-
  Property C03 — skeleton obligations for the irregular pack functions (tie A, change detection).
  Generated once by xlate/c03/mkgolden.py; hand-owned.
-/
import Golib.Packs.Skeletons
import Golib.Gen.PackLayouts

namespace C03GenSkel
open Gen.Packs

-- AbstractPack.Write / Read are not pinned as text: they are transcribed statement by statement and interpreted
-- (C03Gen.header_writer_interpreted / header_reader_interpreted, Golib/Layout/HeaderProg.lean)
theorem skel_WritePack : skel.WritePack = Packs.Skeletons.WritePack := rfl
theorem skel_ReadPack : skel.ReadPack = Packs.Skeletons.ReadPack := rfl
theorem skel_ToBytesPack : skel.ToBytesPack = Packs.Skeletons.ToBytesPack := rfl
theorem skel_LogSinkPack_GetContentBytes : skel.LogSinkPack_GetContentBytes = Packs.Skeletons.LogSinkPack_GetContentBytes := rfl
theorem skel_LogSinkPack_SetContentBytes : skel.LogSinkPack_SetContentBytes = Packs.Skeletons.LogSinkPack_SetContentBytes := rfl
theorem skel_ToBytesPackECB : skel.ToBytesPackECB = Packs.Skeletons.ToBytesPackECB := rfl
theorem skel_ToPack : skel.ToPack = Packs.Skeletons.ToPack := rfl
theorem skel_LogSinkPack_ResetTagHash : skel.LogSinkPack_ResetTagHash = Packs.Skeletons.LogSinkPack_ResetTagHash := rfl
theorem skel_toHeaderBytes : skel.toHeaderBytes = Packs.Skeletons.toHeaderBytes := rfl
theorem skel_toHeaderObject : skel.toHeaderObject = Packs.Skeletons.toHeaderObject := rfl
theorem skel_CompositePack_Write : skel.CompositePack_Write = Packs.Skeletons.CompositePack_Write := rfl
theorem skel_CompositePack_Read : skel.CompositePack_Read = Packs.Skeletons.CompositePack_Read := rfl
theorem skel_HitMapPack1_Write : skel.HitMapPack1_Write = Packs.Skeletons.HitMapPack1_Write := rfl
theorem skel_HitMapPack1_Read : skel.HitMapPack1_Read = Packs.Skeletons.HitMapPack1_Read := rfl
theorem skel_ProfilePack_Write : skel.ProfilePack_Write = Packs.Skeletons.ProfilePack_Write := rfl
theorem skel_ProfilePack_Read : skel.ProfilePack_Read = Packs.Skeletons.ProfilePack_Read := rfl
theorem skel_StatGeneralPack_Write : skel.StatGeneralPack_Write = Packs.Skeletons.StatGeneralPack_Write := rfl
theorem skel_StatGeneralPack_Read : skel.StatGeneralPack_Read = Packs.Skeletons.StatGeneralPack_Read := rfl
theorem skel_StatGeneralPack_writeTable : skel.StatGeneralPack_writeTable = Packs.Skeletons.StatGeneralPack_writeTable := rfl
theorem skel_StatGeneralPack_readTable : skel.StatGeneralPack_readTable = Packs.Skeletons.StatGeneralPack_readTable := rfl
theorem skel_StatGeneralPack_unpack : skel.StatGeneralPack_unpack = Packs.Skeletons.StatGeneralPack_unpack := rfl
theorem skel_CounterPack1_writeShortArray : skel.CounterPack1_writeShortArray = Packs.Skeletons.CounterPack1_writeShortArray := rfl
theorem skel_CounterPack1_readShortArray : skel.CounterPack1_readShortArray = Packs.Skeletons.CounterPack1_readShortArray := rfl
theorem skel_CounterPack1_ReadDropMap : skel.CounterPack1_ReadDropMap = Packs.Skeletons.CounterPack1_ReadDropMap := rfl
theorem skel_CounterPack1_readTxcallerUnknown : skel.CounterPack1_readTxcallerUnknown = Packs.Skeletons.CounterPack1_readTxcallerUnknown := rfl
theorem skel_CounterPack1_readTxcallerGroupMeter : skel.CounterPack1_readTxcallerGroupMeter = Packs.Skeletons.CounterPack1_readTxcallerGroupMeter := rfl
theorem skel_CounterPack1_readTxcallerPOidMeter : skel.CounterPack1_readTxcallerPOidMeter = Packs.Skeletons.CounterPack1_readTxcallerPOidMeter := rfl
theorem skel_CounterPack1_readTxcallerOkindMeterDeprecated : skel.CounterPack1_readTxcallerOkindMeterDeprecated = Packs.Skeletons.CounterPack1_readTxcallerOkindMeterDeprecated := rfl
theorem skel_CounterPack1_readHttpcMeter : skel.CounterPack1_readHttpcMeter = Packs.Skeletons.CounterPack1_readHttpcMeter := rfl
theorem skel_CounterPack1_readSqlMeter : skel.CounterPack1_readSqlMeter = Packs.Skeletons.CounterPack1_readSqlMeter := rfl
theorem skel_CounterPack1_readTxcallerOidMeter : skel.CounterPack1_readTxcallerOidMeter = Packs.Skeletons.CounterPack1_readTxcallerOidMeter := rfl
theorem skel_CounterPack1_writeTxcallerOther : skel.CounterPack1_writeTxcallerOther = Packs.Skeletons.CounterPack1_writeTxcallerOther := rfl
theorem skel_CounterPack1_writeTxcallerOidMeter : skel.CounterPack1_writeTxcallerOidMeter = Packs.Skeletons.CounterPack1_writeTxcallerOidMeter := rfl
theorem skel_CounterPack1_writeSqlMeter : skel.CounterPack1_writeSqlMeter = Packs.Skeletons.CounterPack1_writeSqlMeter := rfl
theorem skel_CounterPack1_writeHttpcMeter : skel.CounterPack1_writeHttpcMeter = Packs.Skeletons.CounterPack1_writeHttpcMeter := rfl
theorem skel_CounterPack1_writeTxcallerGroupMeter : skel.CounterPack1_writeTxcallerGroupMeter = Packs.Skeletons.CounterPack1_writeTxcallerGroupMeter := rfl
theorem skel_CounterPack1_writeTxcallerPOidMeter : skel.CounterPack1_writeTxcallerPOidMeter = Packs.Skeletons.CounterPack1_writeTxcallerPOidMeter := rfl
theorem skel_ReadShortArray : skel.ReadShortArray = Packs.Skeletons.ReadShortArray := rfl
theorem skel_ZipPack_SetRecords : skel.ZipPack_SetRecords = Packs.Skeletons.ZipPack_SetRecords := rfl
theorem skel_ZipPack_GetRecords : skel.ZipPack_GetRecords = Packs.Skeletons.ZipPack_GetRecords := rfl
theorem skel_LogSinkZipPack_SetRecords : skel.LogSinkZipPack_SetRecords = Packs.Skeletons.LogSinkZipPack_SetRecords := rfl
theorem skel_LogSinkZipPack_doZip : skel.LogSinkZipPack_doZip = Packs.Skeletons.LogSinkZipPack_doZip := rfl
theorem skel_LogSinkZipPack_doUnZip : skel.LogSinkZipPack_doUnZip = Packs.Skeletons.LogSinkZipPack_doUnZip := rfl
theorem skel_LogSinkZipPack_GetRecords : skel.LogSinkZipPack_GetRecords = Packs.Skeletons.LogSinkZipPack_GetRecords := rfl
theorem skel_StatTransactionPack_SetRecords : skel.StatTransactionPack_SetRecords = Packs.Skeletons.StatTransactionPack_SetRecords := rfl
theorem skel_StatTransactionPack_SetRecordsList : skel.StatTransactionPack_SetRecordsList = Packs.Skeletons.StatTransactionPack_SetRecordsList := rfl
theorem skel_StatTransactionPack_GetRecords : skel.StatTransactionPack_GetRecords = Packs.Skeletons.StatTransactionPack_GetRecords := rfl
theorem skel_StatTransactionPack1_SetRecords : skel.StatTransactionPack1_SetRecords = Packs.Skeletons.StatTransactionPack1_SetRecords := rfl
theorem skel_StatTransactionPack1_SetRecordsList : skel.StatTransactionPack1_SetRecordsList = Packs.Skeletons.StatTransactionPack1_SetRecordsList := rfl
theorem skel_StatTransactionPack1_GetRecords : skel.StatTransactionPack1_GetRecords = Packs.Skeletons.StatTransactionPack1_GetRecords := rfl
theorem skel_StatSqlPack_SetRecords : skel.StatSqlPack_SetRecords = Packs.Skeletons.StatSqlPack_SetRecords := rfl
theorem skel_StatSqlPack_SetRecordsList : skel.StatSqlPack_SetRecordsList = Packs.Skeletons.StatSqlPack_SetRecordsList := rfl
theorem skel_StatSqlPack_GetRecords : skel.StatSqlPack_GetRecords = Packs.Skeletons.StatSqlPack_GetRecords := rfl
theorem skel_StatHttpcPack_SetRecords : skel.StatHttpcPack_SetRecords = Packs.Skeletons.StatHttpcPack_SetRecords := rfl
theorem skel_StatHttpcPack_SetRecordsList : skel.StatHttpcPack_SetRecordsList = Packs.Skeletons.StatHttpcPack_SetRecordsList := rfl
theorem skel_StatHttpcPack_GetRecords : skel.StatHttpcPack_GetRecords = Packs.Skeletons.StatHttpcPack_GetRecords := rfl
theorem skel_StatErrorPack_SetRecords : skel.StatErrorPack_SetRecords = Packs.Skeletons.StatErrorPack_SetRecords := rfl
theorem skel_StatErrorPack_SetRecordsArray : skel.StatErrorPack_SetRecordsArray = Packs.Skeletons.StatErrorPack_SetRecordsArray := rfl
theorem skel_StatErrorPack_GetRecords : skel.StatErrorPack_GetRecords = Packs.Skeletons.StatErrorPack_GetRecords := rfl
theorem skel_StatServicePack_SetRecords : skel.StatServicePack_SetRecords = Packs.Skeletons.StatServicePack_SetRecords := rfl
theorem skel_StatServicePack_WriteRec : skel.StatServicePack_WriteRec = Packs.Skeletons.StatServicePack_WriteRec := rfl
theorem skel_ReadRec : skel.ReadRec = Packs.Skeletons.ReadRec := rfl
theorem skel_SMDownCheckPack_SetRecords : skel.SMDownCheckPack_SetRecords = Packs.Skeletons.SMDownCheckPack_SetRecords := rfl
theorem skel_SMDownCheckPack_GetRecords : skel.SMDownCheckPack_GetRecords = Packs.Skeletons.SMDownCheckPack_GetRecords := rfl
theorem gaps_CounterPack1_w : CounterPack1.wGaps = Packs.Skeletons.CounterPack1_wGaps := rfl
theorem gaps_CounterPack1_r : CounterPack1.rGaps = Packs.Skeletons.CounterPack1_rGaps := rfl
theorem gaps_TagCountPack_w : TagCountPack.wGaps = Packs.Skeletons.TagCountPack_wGaps := rfl
theorem gaps_TagLogPack_w : TagLogPack.wGaps = Packs.Skeletons.TagLogPack_wGaps := rfl
theorem gaps_LogSinkPack_w : LogSinkPack.wGaps = Packs.Skeletons.LogSinkPack_wGaps := rfl
theorem gaps_ParamPack_w : ParamPack.wGaps = Packs.Skeletons.ParamPack_wGaps := rfl
theorem gaps_ParamPack_r : ParamPack.rGaps = Packs.Skeletons.ParamPack_rGaps := rfl
theorem gaps_ExtensionPack_w : ExtensionPack.wGaps = Packs.Skeletons.ExtensionPack_wGaps := rfl
theorem gaps_ExtensionPack_r : ExtensionPack.rGaps = Packs.Skeletons.ExtensionPack_rGaps := rfl
theorem gaps_EventPack_w : EventPack.wGaps = Packs.Skeletons.EventPack_wGaps := rfl
theorem gaps_EventPack_r : EventPack.rGaps = Packs.Skeletons.EventPack_rGaps := rfl

end C03GenSkel
