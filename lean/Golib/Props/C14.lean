/-
  Property C14 — a HyperLogLog counter's state depends only on the set offered; merge = union.

  The proofs rest on the lemmas of Golib.HLL.*.  The model (`HLL.offerHashed`, `HLL.merge`, `HLL.getBytes`, `HLL.build`, `HLL.cardBranch`, …)
  follows /repo/util/hll/{HyperLogLog,RegisterSet}.go; it is tied to the code on every run by
  the correspondence harness `harness/c14` (driver `drv_c14`) and by the regenerated facts of
  `Golib.Gen.C14` (see Golib/Props/C14Gen.lean).

  Conventions: a hashed value is a natural below 2^32 (`HLL.Hashed`); the hash function is a
  parameter `hash : α → Nat` (its identity is C15's subject); `PrecOK p` is `2 ≤ p ≤ 30`, which
  contains the property's range `4 ≤ p ≤ 16` (`PrecOK.of_range`).

  Not a theorem (stated as such): "the estimate is within a small multiple of 1.04/√m of the true
  cardinality" is a statistical statement about a fixed hash; it is sampled by the harness.
-/
import Golib.HLL.Card
import Golib.HLL.Serial
import Golib.HLL.EstSpec
import Golib.HLL.Abstract
import Golib.HLL.Heap
import Golib.HLL.Murmur
import Golib.HLL.Hist

namespace C14
open HLL Prim

/-- `Get` after `Set`: the register written reads back the value, the other five are untouched -/
theorem packed_get_set (w i j v : Nat) (hi : i < 6) (hj : j < 6) (hv : v < 32) :
    wordGet (wordSet w i v) j = if i = j then v else wordGet w j :=
  wordGet_wordSet w i j v hv

/-- `UpdateIfGreater` = `Set (max old v)`, and its boolean says whether the register grew -/
theorem packed_update_is_max (w i v : Nat) (hi : i < 6) :
    (wordUpd w i v).1 = wordSet w i (max (wordGet w i) v) ∧
    (wordUpd w i v).2 = decide (wordGet w i < v) :=
  ⟨wordUpd_fst w i v, wordUpd_snd w i v⟩

/-- a canonical (30-bit) word is determined by its six registers -/
theorem packed_word_ext (a b : Nat) (ha : a < 1073741824) (hb : b < 1073741824)
    (h : ∀ i, i < 6 → wordGet a i = wordGet b i) : a = b := wordGet_ext 6 a b ha hb h

/-- `getSizeForCount(2^p)` words hold all `2^p` registers (and the `bits % 32 == 0` arm of the
    code is never taken for a power of two) -/
theorem sizes_ok (p : Nat) (h1 : 4 ≤ p) (h2 : p ≤ 16) :
    2 ^ p ≤ 6 * wordCount (2 ^ p) ∧ (2 ^ p / 6 ≠ 0 → 2 ^ p / 6 % 32 ≠ 0) :=
  sizes_ok_all p

/-- the table-driven `clz32` is the number of leading zeros of a 32-bit word -/
theorem clz32_correct (x : Nat) (h : x < 4294967296) : clz32 x = 32 - bitlen x :=
  HLL.clz32_correct x h

/-- `bitlen` is the number of binary digits: `2^(bitlen n − 1) ≤ n < 2^(bitlen n)` -/
theorem bitlen_spec (n : Nat) (h : 0 < n) : 2 ^ (bitlen n - 1) ≤ n ∧ n < 2 ^ bitlen n :=
  ⟨two_pow_bitlen_le n h, lt_two_pow_bitlen n⟩

/-- `idx` = the leading `p` bits of the hashed value, `rank` = number of leading zeros of the
    remaining `32 − p` bits + 1 (an all-zero rest gives `32 − p + 1`); the rank fits a register -/
theorem index_rank_spec (p h : Nat) (h1 : 4 ≤ p) (h2 : p ≤ 16) (hh : Hashed h) :
    h = idx p h * 2 ^ (32 - p) + rest p h ∧ rest p h < 2 ^ (32 - p) ∧ idx p h < 2 ^ p ∧
    rank p h = (32 - p) - bitlen (rest p h) + 1 ∧ 1 ≤ rank p h ∧ rank p h ≤ 32 - p + 1 ∧ rank p h < 32 :=
  ⟨idx_rest p h, rest_lt p h, idx_lt p h (by omega) hh, rank_spec p h (by omega) (by omega),
   rank_pos p h, by have := rank_le p h (by omega) (by omega); omega, rank_lt_32 p h (by omega) (by omega)⟩

/-- the same, read as "position of the first one-bit": `rank = t` iff the rest lies in
    `[2^(32−p−t), 2^(32−p−t+1))` -/
theorem rank_is_first_one (p h t : Nat) (h1 : 4 ≤ p) (h2 : p ≤ 16) (ht1 : 1 ≤ t) (ht2 : t ≤ 32 - p)
    (hlo : 2 ^ (32 - p - t) ≤ rest p h) (hhi : rest p h < 2 ^ (32 - p - t + 1)) : rank p h = t := by
  rw [rank_spec p h (by omega) (by omega), bitlen_unique _ _ hlo hhi]; omega

/-- each offered value updates the register selected by its leading bits to the maximum of the old
    value and its rank, leaves every other register alone, and `Offer` reports whether it grew -/
theorem offer_updates_register {α : Type} (hash : α → Nat) (p : Nat) (ws : Array Nat) (x : α) (r : Nat)
    (hp : PrecOK p) (hw : WFState p ws) (hh : Hashed (hash x)) :
    regGet (offer hash p ws x).1 r =
      (if idx p (hash x) = r then max (regGet ws r) (rank p (hash x)) else regGet ws r) ∧
    (offer hash p ws x).2 = decide (regGet ws (idx p (hash x)) < rank p (hash x)) ∧
    WFState p (offer hash p ws x).1 :=
  ⟨regGet_offerHashed p ws (hash x) r hp hw hh, offerHashed_snd p ws (hash x),
    offerHashed_wf p ws (hash x) hp hw⟩

/-- **state_is_set_fn**: register `r` of a counter that was offered `hs` is the supremum of the
    ranks of the offered values whose leading bits select `r` -/
theorem state_is_set_fn (p : Nat) (hs : List Nat) (r : Nat) (hp : PrecOK p) (hh : ∀ h ∈ hs, Hashed h) :
    regGet (stateOf p hs) r = supRank p hs r ∧
    (∀ k, supRank p hs r ≤ k ↔ ∀ h ∈ hs, idx p h = r → rank p h ≤ k) ∧
    ((supRank p hs r = 0 ∧ ∀ h ∈ hs, idx p h ≠ r) ∨ ∃ h ∈ hs, idx p h = r ∧ rank p h = supRank p hs r) :=
  ⟨regGet_stateOf p hs r hp hh, fun k => supRank_le_iff p hs r k, supRank_attained p hs r⟩

/-- … for an arbitrary well-formed start state -/
theorem state_after_offers (p : Nat) (ws : Array Nat) (hs : List Nat) (r : Nat) (hp : PrecOK p)
    (hw : WFState p ws) (hh : ∀ h ∈ hs, Hashed h) :
    regGet (offerAll p ws hs) r = max (regGet ws r) (supRank p hs r) :=
  regGet_offerAll p ws hs r hp hw hh

/-- the words (what `GetBytes` serializes) depend only on the *set* of hashed values offered -/
theorem set_determines_state (p : Nat) (ws : Array Nat) (xs ys : List Nat) (hp : PrecOK p)
    (hw : WFState p ws) (hx : ∀ h ∈ xs, Hashed h) (hy : ∀ h ∈ ys, Hashed h)
    (h : ∀ x, x ∈ xs ↔ x ∈ ys) : offerAll p ws xs = offerAll p ws ys :=
  offerAll_set p ws xs ys hp hw hx hy h

/-- the same for items offered through any hash function: same set of items ⇒ same bytes -/
theorem items_set_determines_bytes {α : Type} (hash : α → Nat) (hH : ∀ x, Hashed (hash x))
    (p : Nat) (ws : Array Nat) (xs ys : List α) (hp : PrecOK p) (hw : WFState p ws)
    (h : ∀ x, x ∈ xs ↔ x ∈ ys) :
    getBytes p (offerItems hash p ws xs) = getBytes p (offerItems hash p ws ys) :=
  congrArg (getBytes p) (offerItems_set hash hH p ws xs ys hp hw (mem_map_congr hash h))

/-- order never matters -/
theorem order_irrelevant {α : Type} (hash : α → Nat) (hH : ∀ x, Hashed (hash x))
    (p : Nat) (ws : Array Nat) (xs ys : List α) (hp : PrecOK p) (hw : WFState p ws)
    (h : xs.Perm ys) : offerItems hash p ws xs = offerItems hash p ws ys :=
  offerItems_set hash hH p ws xs ys hp hw fun _ => (h.map hash).mem_iff

/-- duplicates never matter (and the second offer of an item reports "unchanged") -/
theorem dup_irrelevant {α : Type} (hash : α → Nat) (hH : ∀ x, Hashed (hash x))
    (p : Nat) (ws : Array Nat) (x : α) (xs : List α) (hp : PrecOK p) (hw : WFState p ws) :
    offerItems hash p ws (x :: x :: xs) = offerItems hash p ws (x :: xs) ∧
    (offer hash p (offer hash p ws x).1 x).2 = false := by
  constructor
  · exact offerItems_set hash hH p ws _ _ hp hw fun v => by simp
  · unfold offer
    rw [offerHashed_snd, regGet_offerHashed p ws (hash x) _ hp hw (hH x), if_pos rfl]
    simp only [decide_eq_false_iff_not]
    omega

/-- **merge_is_union**: `a.Merge(b₁, …, bₙ)` for counters that saw `xs`, `yss[0]`, … is exactly the
    counter that saw all of them -/
theorem merge_is_union (p : Nat) (xs : List Nat) (yss : List (List Nat)) (hp : PrecOK p)
    (hx : ∀ h ∈ xs, Hashed h) (hy : ∀ ys ∈ yss, ∀ h ∈ ys, Hashed h) :
    mergeAll p (stateOf p xs) (yss.map (stateOf p)) = stateOf p (xs ++ yss.flatten) := by
  rw [mergeAll_eq_offerAll p hp _ (stateOf_wf p xs hp) yss hy, stateOf, stateOf, offerAll, offerAll, offerAll,
    List.foldl_append]

/-- register-wise: a merged register is the maximum of the two (any two register arrays of equal
    size); and the next: `AddAll(b)` on any well-formed counter = offering `b`'s items to it -/
theorem merge_registerwise (a b : Array Nat) (hs : a.size = b.size) (r : Nat) :
    regGet (merge a b) r = max (regGet a r) (regGet b r) := regGet_merge a b hs r

theorem addAll_is_offering (p : Nat) (a : Array Nat) (ys : List Nat) (hp : PrecOK p)
    (ha : WFState p a) (hy : ∀ h ∈ ys, Hashed h) : merge a (stateOf p ys) = offerAll p a ys :=
  merge_offerAll p a ys hp ha hy

/-- `RegisterSet.Merge` is commutative, associative and idempotent, a fresh register set is neutral,
    and the merge of well-formed counters is well-formed.  (That `HyperLogLog.Merge` leaves its
    inputs as they were is `inputs_untouched`.) -/
theorem merge_laws (p : Nat) (a b c : Array Nat) (ha : WFState p a) (hb : WFState p b) (hc : WFState p c) :
    merge a b = merge b a ∧ merge (merge a b) c = merge a (merge b c) ∧ merge a a = a ∧
    merge (fresh p) a = a ∧ WFState p (merge a b) :=
  ⟨merge_comm a b (by rw [ha.size, hb.size]),
   merge_assoc a b c (by rw [ha.size, hb.size]) (by rw [hb.size, hc.size]),
   merge_idem a ha.canon, merge_fresh_left p a ha, merge_wf p a b ha hb⟩

/-- **bytes_roundtrip**: `BuildHyperLogLog(GetBytes())` restores precision, word count and words,
    consuming exactly the bytes produced -/
theorem bytes_roundtrip (p : Nat) (ws : Array Nat) (r : Bytes) (hp : PrecOK p) (hw : WFState p ws) :
    P.run build (getBytes p ws ++ r) = some ((p, ws), r) :=
  run_build_getBytes_wf p ws r hp hw

/-- … hence equal bytes mean equal precision and equal words -/
theorem bytes_injective (p q : Nat) (a b : Array Nat) (hp : PrecOK p) (hq : PrecOK q)
    (ha : WFState p a) (hb : WFState q b) (h : getBytes p a = getBytes q b) : p = q ∧ a = b :=
  getBytes_injective p q a b hp hq ha hb h

theorem bytes_length (p : Nat) (ws : Array Nat) : (getBytes p ws).length = 8 + 4 * ws.size := by
  simp only [getBytes, encMany_eq_flatMap, List.length_append, beN_length, encI_length, List.length_flatMap,
    List.map_const', List.sum_replicate_nat, Array.length_toList]
  omega

/-- **estimate_is_state_fn**: `Cardinality` depends only on the multiset of register values … -/
theorem estimate_is_state_fn {α : Type} (F : Est α) (p : Nat) (a b : Array Nat)
    (h : (regs p a).Perm (regs p b)) : cardinality F p a = cardinality F p b := by
  unfold cardinality cardBranch regSum zeros
  rw [(h.map _).sum_nat, h.count_eq 0]

/-- … so counters that were offered the same set of items report the same estimate -/
theorem estimate_is_set_fn {α β : Type} (F : Est β) (hash : α → Nat) (hH : ∀ x, Hashed (hash x))
    (p : Nat) (xs ys : List α) (hp : PrecOK p) (h : ∀ x, x ∈ xs ↔ x ∈ ys) :
    cardinality F p (offerItems hash p (fresh p) xs) = cardinality F p (offerItems hash p (fresh p) ys) :=
  congrArg (cardinality F p)
    (offerItems_set hash hH p (fresh p) xs ys hp (fresh_wf p) (mem_map_congr hash h))

/-- the floating-point register sum of the Go loop is exact: every partial sum, scaled by 2^31,
    is an integer not above 2^53 (so `registerSum = regSum / 2^31` in any register order) -/
theorem register_sum_exact (p : Nat) (ws : Array Nat) (k : Nat) (h2 : p ≤ 16) :
    regSum ((regs p ws).take k) ≤ 9007199254740992 ∧ 0 < regSum (regs p ws) :=
  ⟨regSum_prefix_le p ws k (by omega), regSum_pos _ (regs_ne_nil p ws)⟩

/-- **linear_only_if_V** (the code as committed, with fix-D30 = /repo commit a79bf01): the linear-counting formula
    `m·log(m/V)` is evaluated only with `V ≠ 0`, and with no empty register the raw estimate is
    returned -/
theorem linear_only_if_V {α : Type} (F : Est α) (p : Nat) (rs : List Nat) :
    (∀ m V, cardBranch F p rs = .linear m V → V ≠ 0 ∧ V = zeros rs ∧ m = 2 ^ p) ∧
    (zeros rs = 0 → cardBranch F p rs = .raw (F.raw p (regSum rs))) ∧
    (zeros rs ≠ 0 → cardBranch F p rs = cardBranchOrig F p rs) :=
  ⟨fun m V h => ⟨(cardBranch_linear F p rs m V h).1, (cardBranch_linear F p rs m V h).2.1,
      (cardBranch_linear F p rs m V h).2.2.1⟩,
   cardBranch_no_empty F p rs, cardBranch_eq_orig F p rs⟩

/-- the code before that commit (`cardBranchOrig`): `linear_only_if_V` holds only under the extra hypothesis that some
    register is empty … -/
theorem linear_only_if_V_partial {α : Type} (F : Est α) (p : Nat) (rs : List Nat) (hV : zeros rs ≠ 0)
    (m V : Nat) (h : cardBranchOrig F p rs = .linear m V) : V ≠ 0 := by
  rw [← cardBranch_eq_orig F p rs hV] at h
  exact (cardBranch_linear F p rs m V h).1

/-- … **finding_D30**: and fails without it.  Sixteen hashed values, one per register, each of
    rank 1 (precision 4) are a reachable state with no empty register whose exact raw estimate
    0.673·16²/8 = 21.5 is below 2.5·16 = 40; whenever the floating-point comparison agrees, the
    code before the commit evaluates linear counting with `V = 0` (`log(16/0)`), the committed code
    does not. -/
theorem finding_D30 :
    regs 4 (stateOf 4 d30Hashes) = List.replicate 16 1 ∧
    zeros (regs 4 (stateOf 4 d30Hashes)) = 0 ∧
    regSum (regs 4 (stateOf 4 d30Hashes)) = 8 * 2147483648 ∧
    673 * (16 * 16) * 2 ≤ 5 * 16 * 8 * 1000 ∧
    (∀ {α : Type} (F : Est α), F.small (F.raw 4 (8 * 2147483648)) (2 ^ 4) = true →
      ¬ (∀ m V, cardBranchOrig F 4 (regs 4 (stateOf 4 d30Hashes)) = .linear m V → V ≠ 0)) ∧
    (∀ {α : Type} (F : Est α),
      cardBranch F 4 (regs 4 (stateOf 4 d30Hashes)) = .raw (F.raw 4 (8 * 2147483648))) := by
  have hz := d30_zeros
  have hs := d30_regSum
  refine ⟨d30_regs, hz, hs, by decide, ?_, ?_⟩
  · intro α F hsm hall
    have := cardBranchOrig_no_empty F 4 _ hz (by rw [hs]; exact hsm)
    exact hall _ _ this rfl
  · intro α F
    rw [cardBranch_no_empty F 4 _ hz, hs]

/-- exactly for which register counts `getSizeForCount` allocates enough words: all counts
    except those with `count/6` a non-zero multiple of 32 and `count % 6 ≠ 0` (e.g. 193), where
    `count % 6` registers have no word -/
theorem sizes_exact (c : Nat) :
    (c ≤ 6 * wordCount c ↔ (c / 6 = 0 ∨ c / 6 % 32 ≠ 0 ∨ c % 6 = 0)) ∧
    (c / 6 ≠ 0 → c / 6 % 32 = 0 → 6 * wordCount c + c % 6 = c) := by
  refine ⟨wordCount_enough c, fun h1 h2 => ?_⟩
  simp only [wordCount, h1, h2, if_false, if_true]
  omega

/-- every power of two (every precision, not only 4..16) is allocated enough words -/
theorem sizes_ok_every_precision (p : Nat) : 2 ^ p ≤ 6 * wordCount (2 ^ p) := (sizes_ok_all p).1

/-- `GetBytes()` of any reachable counter is the packing of its registers, the packing is
    injective on the registers `0 … 2^p − 1`, and it depends on nothing else -/
theorem bytes_of_state (p : Nat) (hp : PrecOK p) :
    (∀ ws, Reach p ws → getBytes p ws = bytesOfRegs p (regGet ws)) ∧
    (∀ f g : Nat → Nat, (∀ r, f r < 32) → (∀ r, g r < 32) →
      (bytesOfRegs p f = bytesOfRegs p g ↔ ∀ r, r < 2 ^ p → f r = g r)) :=
  ⟨fun ws hr => getBytes_eq_bytesOfRegs p ws hr,
   fun f g hf hg => ⟨bytesOfRegs_injective p f g hp hf hg, bytesOfRegs_congr p f g⟩⟩

/-- `Reach` holds of a fresh counter and is kept by offers and merges (an invariant of the states
    the code reaches; the converse is not claimed) -/
theorem reach_closed (p : Nat) (hp : PrecOK p) :
    Reach p (fresh p) ∧
    (∀ ws h, Reach p ws → Hashed h → Reach p (offerHashed p ws h).1) ∧
    (∀ a b, Reach p a → Reach p b → Reach p (merge a b)) :=
  ⟨fresh_reach p, fun ws h hr hh => offerHashed_reach p ws h hp hr hh, fun a b => merge_reach p a b⟩

/-- **the commuting square**: bytes after `Offer` = bytes of the abstractly updated registers;
    bytes of a merge = bytes of the register-wise maximum; bytes after offering `hs` to a fresh
    counter = bytes of the pointwise suprema -/
theorem bytes_commute (p : Nat) (hp : PrecOK p) :
    (∀ ws h, Reach p ws → Hashed h →
      getBytes p (offerHashed p ws h).1 = bytesOfRegs p (absOffer p (regGet ws) h)) ∧
    (∀ a b, Reach p a → Reach p b →
      getBytes p (merge a b) = bytesOfRegs p (fun r => max (regGet a r) (regGet b r))) ∧
    (∀ hs, (∀ h ∈ hs, Hashed h) → getBytes p (stateOf p hs) = bytesOfRegs p (supRank p hs)) :=
  ⟨fun ws h hr hh => getBytes_offerHashed p ws h hp hr hh,
   fun a b ha hb => by
    rw [getBytes_eq_bytesOfRegs p _ (merge_reach p a b ha hb)]
    exact bytesOfRegs_congr p _ _ fun r _ => regGet_merge a b (by rw [ha.wf.size, hb.wf.size]) r,
   fun hs hh => getBytes_stateOf p hs hp hh⟩

/-- `Offer` is commutative and idempotent **at the byte level**, for every precision 4..16 and
    every reachable counter -/
theorem bytes_offer_comm_idem {α : Type} (hash : α → Nat) (hH : ∀ x, Hashed (hash x)) (p : Nat)
    (h1 : 4 ≤ p) (h2 : p ≤ 16) (ws : Array Nat) (hr : Reach p ws) (x y : α) :
    getBytes p (offer hash p (offer hash p ws x).1 y).1 =
      getBytes p (offer hash p (offer hash p ws y).1 x).1 ∧
    getBytes p (offer hash p (offer hash p ws x).1 x).1 = getBytes p (offer hash p ws x).1 :=
  -- `offerItems` on a two-element list is the two offers: both laws are the set law
  have set := fun xs ys => offerItems_set hash hH p ws xs ys (PrecOK.of_range h1 h2) hr.wf
  ⟨congrArg _ (set [x, y] [y, x] fun v => by simp [or_comm]),
   congrArg _ (set [x, x] [x] fun v => by simp)⟩

/-- which branch is taken, as a function of (raw estimate, V), for any instantiation of the
    formulas: linear counting iff the raw estimate is small **and** some register is empty -/
theorem branch_function {α : Type} (F : Est α) (p : Nat) (rs : List Nat) :
    (F.small (F.raw p (regSum rs)) (2 ^ p) = true ∧ zeros rs ≠ 0 ∧
      cardBranch F p rs = .linear (2 ^ p) (zeros rs)) ∨
    ((F.small (F.raw p (regSum rs)) (2 ^ p) = false ∨ zeros rs = 0) ∧
      cardBranch F p rs = .raw (F.raw p (regSum rs))) := by
  unfold cardBranch
  cases hs : F.small (F.raw p (regSum rs)) (2 ^ p) <;> by_cases h2 : zeros rs = 0 <;> simp [hs, h2]

/-- the raw estimate `alpha·m²/Σ2^(−M[j])` over the rationals is monotone in every register
    (and so is its rounding); raising registers never adds empty registers -/
theorem raw_monotone_in_registers (p : Nat) (a b : List Nat) (h : RegsLe a b) (hb : b ≠ []) :
    rawQ p (regSum a) ≤ rawQ p (regSum b) ∧ roundQ (rawQ p (regSum a)) ≤ roundQ (rawQ p (regSum b)) ∧
    zeros b ≤ zeros a := by
  have h1 := rawQ_antitone p (regSum a) (regSum b) (regSum_pos b hb) (regSum_antitone a b h)
  exact ⟨h1, roundQ_monotone h1, zeros_antitone a b h⟩

/-- adding an item never decreases the raw estimate and never adds an empty register -/
theorem raw_monotone_under_offer (p : Nat) (ws : Array Nat) (h : Nat) (hp : PrecOK p)
    (hw : WFState p ws) (hh : Hashed h) :
    rawQ p (regSum (regs p ws)) ≤ rawQ p (regSum (regs p (offerHashed p ws h).1)) ∧
    zeros (regs p (offerHashed p ws h).1) ≤ zeros (regs p ws) := by
  have := raw_monotone_in_registers p _ _ (regs_offer_le p ws h hp hw hh) (regs_ne_nil p _)
  exact ⟨this.1, this.2.2⟩

/-- **0 items ⇒ 0** (any `ln` with `ln 1 = 0`), and **V = 0 ⇒ the raw estimate** (fix-D30) -/
theorem estimate_small_sets (ln : Rat → Rat) (hln : ln 1 = 0) (p : Nat) :
    cardinality (specEst ln) p (fresh p) = 0 ∧
    (∀ ws, zeros (regs p ws) = 0 →
      cardinality (specEst ln) p ws = roundQ (rawQ p (regSum (regs p ws)))) :=
  ⟨(cardinality_fresh ln hln p).2, fun ws h => cardinality_no_empty ln p ws h⟩

/-- D30 under the exact specification, without any assumption on the comparison: on the witness
    state the code before commit a79bf01 evaluates `ln(16/0)`; the committed code answers 22 for
    16 items -/
theorem finding_D30_exact (ln : Rat → Rat) :
    cardBranchOrig (specEst ln) 4 (regs 4 (stateOf 4 d30Hashes)) = .linear 16 0 ∧
    cardinality (specEst ln) 4 (stateOf 4 d30Hashes) = 22 := by
  have hz := d30_zeros
  have hs := d30_regSum
  constructor
  · have hsm : (specEst ln).small ((specEst ln).raw 4 (8 * 2147483648)) (2 ^ 4) = true := by
      show decide (rawQ 4 (8 * 2147483648) ≤ _) = true
      decide +kernel
    exact cardBranchOrig_no_empty (specEst ln) 4 _ hz (by rw [hs]; exact hsm)
  · rw [cardinality_no_empty ln 4 _ hz, hs]
    decide +kernel

/-- **frame condition of every operation**: in any world, an operation leaves every existing
    counter other than the receiver of `offer`/`addAll` exactly as it was (precision, words, hence
    bytes) and never removes or renumbers a counter; `new`, `merge`, `build`, `getBytes` change no
    existing counter at all — the arguments of `Merge`, the argument of `AddAll`, the source of
    `Build` are untouched, also when they are the receiver or occur several times -/
theorem inputs_untouched (w : World) (op : HOp) :
    w.length ≤ (step w op).length ∧
    (∀ k, k < w.length → target op ≠ some k →
      (step w op)[k]? = w[k]? ∧ bytesAt (step w op) k = bytesAt w k) := by
  refine ⟨stepWith_length_le rebuild w op, fun k hk hne => ⟨step_frame w op k hk hne, ?_⟩⟩
  unfold bytesAt
  rw [step_frame w op k hk hne]

/-- operations that panic in the code (different precision, unknown counter) change nothing -/
theorem failing_ops_change_nothing (w : World) (i j : Nat) (js : List Nat) (a b : Counter)
    (hi : w[i]? = some a) :
    (w[j]? = some b → a.p ≠ b.p → step w (.addAll i j) = w) ∧
    (argsOK w a.p js = false → step w (.merge i js) = w) := by
  refine ⟨fun hj hp => ?_, fun hbad => ?_⟩
  · simp only [step, stepWith, hi, hj, hp, if_false]
  · simp only [step, stepWith, hi, hbad]
    rfl

theorem histories_keep_invariant (ops : List HOp) (hops : ∀ op ∈ ops, OpOK op) : WInv (run ops) :=
  List.foldlRecOn ops step (fun _ hc => nomatch hc) fun w hw op hm => step_inv w op hw (hops op hm)

/-- **histories**: after any sequence of operations on any number of counters, every counter's
    words are the state of the items that reached it (directly or through merges/rebuilds), it is
    a reachable state, and its bytes are the packing of the pointwise suprema of those items -/
theorem history_state (ops : List HOp) (hops : ∀ op ∈ ops, OpOK op) (i : Nat) (c : Counter)
    (hc : (run ops)[i]? = some c) :
    PrecOK c.p ∧ c.ws = stateOf c.p c.items ∧ Reach c.p c.ws ∧
    getBytes c.p c.ws = bytesOfRegs c.p (supRank c.p c.items) := by
  have ci := histories_keep_invariant ops hops c (List.mem_of_getElem? hc)
  refine ⟨ci.prec, ci.state, ?_, ?_⟩ <;> rw [ci.state]
  · exact offerAll_reach c.p _ c.items ci.prec (fresh_reach c.p) ci.hashed
  · exact getBytes_stateOf c.p c.items ci.prec ci.hashed

/-- … so two counters of equal precision, in any two histories, that were reached by the same
    *set* of items have identical bytes: order, duplication and merge structure are irrelevant -/
theorem history_set_fn (ops1 ops2 : List HOp) (h1 : ∀ op ∈ ops1, OpOK op) (h2 : ∀ op ∈ ops2, OpOK op)
    (i j : Nat) (c d : Counter) (hc : (run ops1)[i]? = some c) (hd : (run ops2)[j]? = some d)
    (hp : c.p = d.p) (hset : ∀ x, x ∈ c.items ↔ x ∈ d.items) :
    getBytes c.p c.ws = getBytes d.p d.ws := by
  rw [(histories_keep_invariant ops1 h1 c (List.mem_of_getElem? hc)).ws_eq
    (histories_keep_invariant ops2 h2 d (List.mem_of_getElem? hd)) hp hset, hp]

/-- `Merge` creates a new counter reached by exactly the items of the receiver and the arguments;
    merging a counter with itself any number of times gives a copy with the same bytes -/
theorem merge_in_histories (w : World) (i : Nat) (js : List Nat) (n : Nat) (a : Counter) (hw : WInv w)
    (hi : w[i]? = some a) :
    (argsOK w a.p js = true →
      ∃ c, step w (.merge i js) = w ++ [c] ∧ c.p = a.p ∧ c.ws = stateOf c.p c.items ∧
        (∀ x, x ∈ c.items ↔ x ∈ a.items ∨ ∃ j ∈ js, ∃ b, w[j]? = some b ∧ x ∈ b.items)) ∧
    (∃ c, step w (.merge i (List.replicate n i)) = w ++ [c] ∧ getBytes c.p c.ws = getBytes a.p a.ws) := by
  have ai := hw a (List.mem_of_getElem? hi)
  have result js (hok : argsOK w a.p js = true) :
      ∃ c, (step w (.merge i js) = w ++ [c] ∧ c.p = a.p ∧ CInv c) ∧
        (∀ x, x ∈ c.items ↔ x ∈ a.items ∨ ∃ j ∈ js, ∃ b, w[j]? = some b ∧ x ∈ b.items) :=
    ⟨⟨a.p, (mergeArgs w (merge (fresh a.p) a.ws) a.items js).1,
        (mergeArgs w (merge (fresh a.p) a.ws) a.items js).2⟩,
      ⟨by simp only [step, stepWith, hi, hok, if_true], rfl, CInv.mergeArgs hw js hok ai.mergeStart⟩,
      fun x => mem_mergeArgs_items w x js _ _⟩
  refine ⟨fun hok => ?_, ?_⟩
  · obtain ⟨c, ⟨hs, hp, ci⟩, hm⟩ := result js hok
    exact ⟨c, hs, hp, ci.state, hm⟩
  have hok : argsOK w a.p (List.replicate n i) = true := by
    induction n with
    | zero => rfl
    | succ n ih => simp only [List.replicate_succ, argsOK, hi, beq_self_eq_true, Bool.true_and]; exact ih
  obtain ⟨c, ⟨hs, hp, ci⟩, hm⟩ := result _ hok
  -- the arguments are all the receiver: the new counter was reached by the receiver's items
  refine ⟨c, hs, ?_⟩
  rw [ci.ws_eq ai hp fun x => (hm x).trans ⟨?_, .inl⟩, hp]
  rintro (h | ⟨j, hj, b, hb, hx⟩)
  · exact h
  · rw [(List.mem_replicate.mp hj).2, hi] at hb; cases hb; exact hx

/-- the model of `MurmurHashLong` is a 32-bit value on every item, agrees with the implementation
    on the recorded test vectors, and therefore instantiates every "any hash" theorem above:
    with the real hash, the bytes depend only on the set of items -/
theorem real_hash (p : Nat) (ws : Array Nat) (xs ys : List Nat) (hp : PrecOK p) (hw : WFState p ws)
    (h : ∀ x, x ∈ xs ↔ x ∈ ys) :
    (∀ x, Hashed (murmurLong x)) ∧ murmurVectors.all (fun v => murmurLong v.1 == v.2) = true ∧
    getBytes p (offerItems murmurLong p ws xs) = getBytes p (offerItems murmurLong p ws ys) :=
  ⟨murmurLong_lt, by decide,
   items_set_determines_bytes murmurLong murmurLong_lt p ws xs ys hp hw h⟩

/-- the small-range test of the exact specification is a threshold on the integer register sum
    (`alpha_p·m·2^32 ≤ 5·S`), and it is monotone: offers only lower the register sum, so once the
    raw estimate has left the small range it never returns -/
theorem small_range_threshold (ln : Rat → Rat) (p S S' : Nat) (h0 : 0 < S') (h : S' ≤ S) :
    ((specEst ln).small (rawQ p S) (2 ^ p) = true ↔ alphaQ p * mQ p * 4294967296 ≤ 5 * (S : Rat)) ∧
    ((specEst ln).small (rawQ p S') (2 ^ p) = true → (specEst ln).small (rawQ p S) (2 ^ p) = true) ∧
    rawQ p S ≤ rawQ p S' :=
  ⟨small_iff_regsum ln p S (by omega),
   fun hs => by
    rw [small_iff_regsum ln p S (by omega)]
    have := (small_iff_regsum ln p S' h0).mp hs
    have hle : (S' : Rat) ≤ (S : Rat) := Rat.natCast_le_natCast.mpr h
    grind,
   rawQ_antitone p S S' h0 h⟩

/-- every array access the model totalises with a default (`getD … 0`) is in range on well-formed
    states: the word of the register `offerHashed` updates, and every word `Cardinality`/`Get`
    reads for the registers `0 … 2^p − 1` — so no theorem above holds because of a default value -/
theorem accesses_in_range (p : Nat) (ws : Array Nat) (hp : PrecOK p) (hw : WFState p ws) :
    (∀ h, Hashed h → idx p h / 6 < ws.size) ∧ (∀ r, r < 2 ^ p → r / 6 < ws.size) := by
  have hs := HLL.sizes_ok p hp
  refine ⟨fun h hh => ?_, fun r hr => ?_⟩
  · have := idx_in_range p ws h hp hw hh; omega
  · rw [hw.size]
    have : r < 6 * wordCount (2 ^ p) := Nat.lt_of_lt_of_le hr hs
    omega

/-- the code's `AddAll` guard compares `Sizeof()`; on counters of valid precision that is exactly
    the precision test of the world model (`argsOK`, `addAll`) -/
theorem size_test_is_precision_test (p q : Nat) (hp : PrecOK p) (hq : PrecOK q) (a b : Array Nat)
    (ha : WFState p a) (hb : WFState q b) : a.size = b.size ↔ p = q := by
  constructor
  · intro h
    rw [ha.size, hb.size] at h
    exact wordCount_injective p q hp.lo hq.lo h
  · intro h; subst h; rw [ha.size, hb.size]

/-- the registers of a counter hold values 0 … 33 − p, and the top value occurs: item 0 hashes to 0,
    whose tail after the index bits is all zero (so a table indexed by register value needs 34 − p
    entries) -/
theorem register_value_range (p : Nat) (hp : PrecOK p) :
    (∀ hs r, (∀ h ∈ hs, Hashed h) → regGet (stateOf p hs) r ≤ 33 - p) ∧
    murmurLong 0 = 0 ∧ murmur32 0 = 0 ∧ regGet (stateOf p [murmurLong 0]) 0 = 33 - p := by
  have hp1 := hp.lo
  have hp2 := hp.hi
  refine ⟨?_, by decide, by decide, ?_⟩
  · intro hs r hh
    rw [regGet_stateOf p hs r hp hh, supRank_le_iff]
    intro h _ _
    exact rank_le p h hp1 (by omega)
  · have h0 : murmurLong 0 = 0 := by decide
    rw [h0, regGet_stateOf p [0] 0 hp (by decide)]
    have hi : idx p 0 = 0 := by simp [idx]
    have hr : rank p 0 = 32 - p + 1 := rank_of_rest_zero p 0 hp1 (by omega) (by simp [rest])
    rw [supRank_cons, supRank_nil, if_pos hi, hr]
    omega

/-- the sum `Cardinality` computes, grouped by register value, over the values 0 … 33 − p -/
theorem register_sum_by_value (p : Nat) (hp : PrecOK p) (hs : List Nat) (hh : ∀ h ∈ hs, Hashed h) :
    regSum (regs p (stateOf p hs)) = histSum (33 - p) (regs p (stateOf p hs)) := by
  apply regSum_by_value
  intro v hv
  simp only [regs, List.mem_map] at hv
  obtain ⟨r, _, rfl⟩ := hv
  exact (register_value_range p hp).1 hs r hh

/-- … and one entry fewer is not enough: after `Offer(0)` the value 33 − p is present -/
theorem register_sum_by_value_needs_top :
    regSum (regs 4 (stateOf 4 [murmurLong 0])) ≠ histSum (32 - 4) (regs 4 (stateOf 4 [murmurLong 0])) := by
  decide +kernel

/-- `a.AddAll(a)` changes no counter's bytes (in-place merge is idempotent) -/
theorem addAll_self_noop (w : World) (i k : Nat) (hw : WInv w) :
    bytesAt (step w (.addAll i i)) k = bytesAt w k ∧ (step w (.addAll i i)).length = w.length := by
  cases hi : w[i]? with
  | none => simp [step, stepWith, hi]
  | some a =>
    have ai := hw a (List.mem_of_getElem? hi)
    have hc : merge a.ws a.ws = a.ws := merge_idem _ ai.wf.canon
    have hst : step w (.addAll i i) = w.set i ⟨a.p, a.ws, a.items ++ a.items⟩ := by
      simp [step, stepWith, hi, hc]
    rw [hst]
    refine ⟨?_, List.length_set⟩
    unfold bytesAt
    rw [List.getElem?_set]
    split
    · rename_i hk
      rw [if_pos (List.getElem?_eq_some_iff.mp hi).1, ← hk, hi]
      rfl
    · rfl

/-- every counter a history reaches — offered to, merged into, result of `Merge`, rebuilt — holds
    register values 0 … 33 − p only (so `Cardinality` meets no other value, on any of them) -/
theorem history_register_range (ops : List HOp) (hops : ∀ op ∈ ops, OpOK op) (c : Counter)
    (hc : c ∈ run ops) (r : Nat) : regGet c.ws r ≤ 33 - c.p := by
  have ci := histories_keep_invariant ops hops c hc
  rw [ci.state]
  exact (register_value_range c.p ci.prec).1 c.items r ci.hashed

/-- a history may contain `a.AddAll(a)` anywhere: the operation is defined (the model's `step` is
    total), changes no counter's bytes and creates nothing — for every world a history reaches -/
theorem addAll_self_in_histories (ops : List HOp) (hops : ∀ op ∈ ops, OpOK op) (i k : Nat) :
    bytesAt (step (run ops) (.addAll i i)) k = bytesAt (run ops) k ∧
    (step (run ops) (.addAll i i)).length = (run ops).length :=
  addAll_self_noop (run ops) i k (histories_keep_invariant ops hops)

/-! ### non-vacuity -/

example : PrecOK 4 ∧ PrecOK 10 ∧ PrecOK 16 := by decide
example : WFState 10 (stateOf 10 [123456789, 4294967295, 0]) :=
  stateOf_wf 10 _ (by decide)
example : ∀ h ∈ [123456789, 4294967295, 0], Hashed h := by decide
-- idx / rank on concrete hashed values (precision 4: 28 remaining bits)
example : idx 4 4294967295 = 15 ∧ rank 4 4294967295 = 1 := by decide
example : idx 4 0 = 0 ∧ rank 4 0 = 29 := by decide
example : idx 16 65535 = 0 ∧ rank 16 65535 = 1 := by decide
example : idx 16 65536 = 1 ∧ rank 16 65536 = 17 := by decide
example : idx 10 (5 * 4194304 + 1) = 5 ∧ rank 10 (5 * 4194304 + 1) = 22 := by decide
example : wordGet (wordSet 1073741823 3 7) 3 = 7 ∧ wordGet (wordSet 1073741823 3 7) 2 = 31 := by decide
example : wordUpd 229376 3 5 = (229376, false) ∧ wordUpd 229376 3 9 = (294912, true) := by decide
example : mergeWord 229376 (9 * 32768 + 4) = 9 * 32768 + 4 := by decide
example : wordCount (2 ^ 4) = 3 ∧ wordCount (2 ^ 10) = 171 ∧ wordCount (2 ^ 16) = 10923 := by decide
example : supRank 4 d30Hashes 7 = 1 := by decide
-- the branch logic distinguishes the two versions exactly on "no empty register, small estimate"
example : cardBranch (α := Nat) ⟨fun _ s => s, fun _ _ => true, fun m v => m + v, id⟩ 4 [1, 1, 0] = .linear 16 1 := by decide
example : cardBranch (α := Nat) ⟨fun _ s => s, fun _ _ => true, fun m v => m + v, id⟩ 4 [1, 1, 2] ≠
    cardBranchOrig ⟨fun _ s => s, fun _ _ => true, fun m v => m + v, id⟩ 4 [1, 1, 2] := by decide

example : ¬ (193 ≤ 6 * wordCount 193) ∧ 6 * wordCount 193 + 1 = 193 := by decide
example : 192 ≤ 6 * wordCount 192 ∧ 1000 ≤ 6 * wordCount 1000 := by decide
example : Reach 10 (stateOf 10 [123456789, 4294967295, 0]) :=
  offerAll_reach 10 _ _ (by decide) (fresh_reach 10) (by decide)
example : RegsLe [0, 3, 5] [1, 3, 9] := by simp [RegsLe]
example : rawQ 4 (8 * 2147483648) = 2692 / 125 ∧ roundQ (rawQ 4 (8 * 2147483648)) = 22 := by decide +kernel
example : alphaQ 4 = 673 / 1000 ∧ alphaQ 10 = 7213 / 10000 / (1 + 1079 / 1000 / 1024) := by decide +kernel
example : bytesOfRegs 4 (fun r => if r = 3 then 7 else 0) =
    [0, 0, 0, 4, 0, 0, 0, 3, 0, 3, 128, 0, 0, 0, 0, 0, 0, 0, 0, 0] := by decide +kernel

-- a history with a self-merge, the same counter twice, a failing AddAll
example : (run [.new 4, .new 5, .offer 0 4026531840, .offer 0 1, .addAll 0 1, .merge 0 [0, 0],
    .build 2, .offer 2 7]).map (fun c => (c.p, c.items)) =
    [(4, [4026531840, 1]), (5, []), (4, [4026531840, 1, 4026531840, 1, 4026531840, 1, 7]),
     (4, [4026531840, 1, 4026531840, 1, 4026531840, 1])] := by decide +kernel
example : bytesAt (run [.new 4, .offer 0 4026531840, .merge 0 [0, 0]]) 1 =
    bytesAt (run [.new 4, .offer 0 4026531840]) 0 := by decide +kernel
example : ∀ op ∈ [HOp.new 4, .offer 0 4026531840, .merge 0 [0, 0]], OpOK op := by decide
example : murmurLong 1 = 1527037976 ∧ murmur32 4294967295 = 114743869 := by decide

example : WInv (run [.new 4, .offer 0 4026531840, .new 4, .offer 1 7]) :=
  histories_keep_invariant _ (by decide)
example : argsOK (run [.new 4, .offer 0 4026531840, .new 4, .offer 1 7]) 4 [1, 0, 1] = true := by decide +kernel
example : argsOK (run [.new 4, .new 5]) 4 [1] = false := by decide +kernel
example : (run [.new 4, .new 5, .addAll 0 1]).length = 2 ∧ (run [.new 4, .new 5, .merge 0 [1]]).length = 2 := by
  decide +kernel

example : regGet (stateOf 16 [murmurLong 0]) 0 = 17 := (register_value_range 16 (by decide)).2.2.2
example : (∀ op ∈ [HOp.new 4, .offer 0 0], OpOK op) ∧ ((run [.new 4, .offer 0 0]).map (fun c => regGet c.ws 0)) = [29] := by
  exact ⟨by decide, by decide +kernel⟩
example : histSum 3 [0, 3, 3, 1] = 2 ^ 31 + 2 ^ 30 + 2 * 2 ^ 28 := by decide
example : bytesAt (step (run [.new 4, .offer 0 4026531840]) (.addAll 0 0)) 0 = bytesAt (run [.new 4, .offer 0 4026531840]) 0 :=
  (addAll_self_in_histories [.new 4, .offer 0 4026531840]
    (by decide) 0 0).1

end C14
