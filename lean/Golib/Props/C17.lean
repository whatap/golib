/-
  Property C17 — the file logger keeps lines in order, rotates by date, prunes only its own
  files, and its log-read call is contained.

  The proofs rest on the lemmas of Golib.Logger.*.  The model
  (`Logger.step`, `Logger.read`, `Logger.deleted`, …) describes logger/logfile/FileLogger.go
  with the repairs of proposed/C17 applied (fix-D34: `Read` refuses names that leave
  `<home>/logs` and non-positive lengths; fix-D35: rotation installs the new file before it
  closes the old one; fix-D44: retention only parses all-digit date parts; fix-D45: the settings
  are read under a RWMutex).  It is tied to the
  code on every run by harness/c17 (differential histories on the real logger with a frozen
  virtual clock) and by the regenerated facts of Golib.Gen.C17 (Golib/Props/C17Gen.lean).

  The calendar (`Cal`: yyyymmdd of a day unit, day unit of an 8-digit string) is a parameter:
  its correctness is property C19.

  Partial (named, not proved): atomicity of one `Write` with O_APPEND, the 10 s timer, the
  scheduler.  `rotation_keeps_all_lines` is a theorem about atomic actions (see Logger/Rotate).
-/
import Golib.Logger.RateLemmas
import Golib.Logger.Rotate
import Golib.Logger.CalRealLemmas
import Golib.Logger.CacheHMap
import Golib.Logger.Concurrent
import Golib.Logger.HistoryLemmas
import Golib.Logger.RefreshLemmas
import Golib.Logger.FilesLemmas

namespace C17
open Logger

/-- per entry point: Error*/Printf/Println always go on; Warn* iff level ≤ WARN(2);
    Info* iff level ≤ INFO(1); Debug* iff level ≤ DEBUG(0) -/
theorem level_gate (level : Int) :
    (∀ m ∈ [Meth.errorf, .error, .printf, .println, .printlnStd], m.passes level = true) ∧
    (∀ m ∈ [Meth.warnf, .warn], (m.passes level = true ↔ level ≤ 2)) ∧
    (∀ m ∈ [Meth.infof, .info, .infoln], (m.passes level = true ↔ level ≤ 1)) ∧
    (∀ m ∈ [Meth.debugf, .debug], (m.passes level = true ↔ level ≤ 0)) := by
  refine ⟨?_, ?_, ?_, ?_⟩ <;> simp [Meth.passes, Meth.gate]

/-- a call below the level does nothing at all; a call at or above it is decided by the limiter only -/
theorem gate_decides (t : Int) (m : Meth) (id msg : Bytes) (st : St) :
    ((logDecide t m id msg st).1 = .gate ↔ m.passes st.conf.level = false) ∧
    (m.passes st.conf.level = false → (logCall t m id msg st).1.dir = st.dir ∧ (logCall t m id msg st).1.cache = st.cache) := by
  rcases logDecide_cases t m id msg st with ⟨hp, hd⟩ | ⟨hp, _, hd⟩ | ⟨rid, hp, _, _, hd⟩ | ⟨rid, hp, _, _, hd⟩
  · refine ⟨by simp [hd, hp], fun _ => ?_⟩
    simp [logCall, hd, St.append_nil]
  all_goals (refine ⟨by simp [hd, hp], fun h => ?_⟩; rw [hp] at h; cases h)

/-- the id of a levelled call is the first 10 bytes of its formatted message; Printf/Println
    use the id they are given; Debug* and PrintlnStd are not limited -/
theorem rate_id (id s : Bytes) :
    (∀ m ∈ [Meth.errorf, .error, .warnf, .warn, .infof, .info, .infoln], m.rateId id s = some (s.take 10)) ∧
    (∀ m ∈ [Meth.printf, .println], m.rateId id s = some id) ∧
    (∀ m ∈ [Meth.debugf, .debug, .printlnStd], m.rateId id s = none) := by
  refine ⟨?_, ?_, ?_⟩ <;> simp [Meth.rateId, truncate, idLen]

/-- any history, any settings, eviction included: a call is suppressed by the limiter only if
    a line with the same id was written less than `interval` seconds before -/
theorem rate_only_within (cal : Cal) (st0 : St) (ops : List Op) (t : Int) (m : Meth) (id msg : Bytes)
    (h0 : st0.cache = []) (hclock : (run cal st0 ops).conf.interval * 1000 ≤ t)
    (h : (logDecide t m id msg (run cal st0 ops)).1 = .rate) :
    ∃ rid t', m.rateId id (if m.ln then msg ++ [cNl] else msg) = some rid ∧
      (rid, t') ∈ rated cal st0 ops ∧ t < t' + (run cal st0 ops).conf.interval * 1000 := by
  obtain ⟨_, rid, hr, _, hlt⟩ := (logDecide_rate_iff ..).mp h
  have hne : cacheGet (run cal st0 ops).cache rid ≠ 0 := by
    intro h0'; rw [h0'] at hlt; omega
  have hm := cacheGet_mem hne
  generalize cacheGet (run cal st0 ops).cache rid = t' at hm hlt
  rw [run_cache, h0] at hm
  rcases mem_dictAfter hm with hm | hm
  · cases hm
  · exact ⟨rid, t', hr, puts_sub_rated cal st0 ops hm, hlt⟩

/-- fresh logger, constant interval `s > 0`, fewer than 1000 calls, clock not running backwards:
    written iff no line with the same (non-empty) id was written in the previous `s` seconds -/
theorem rate_limit (s : Int) (hs : 0 < s) (st0 : St) (calls : List Call) (c : Call) (i : Bytes) (t0 : Int)
    (hc0 : st0.cache = []) (hint : st0.conf.interval = s)
    (htimes : timesFrom t0 (calls ++ [c])) (hclock : s * 1000 ≤ t0) (hcap : calls.length < cacheMax)
    (hgate : c.passesGate (runCalls st0 calls) = true) (hid : c.rid = some i) (hne : i ≠ []) :
    let W := writesAcc st0 [] calls
    ((logDecide c.t c.m c.id c.msg (runCalls st0 calls)).1 = .rate ↔ ∃ t', (i, t') ∈ W ∧ c.t < t' + s * 1000) ∧
    ((logDecide c.t c.m c.id c.msg (runCalls st0 calls)).1 = .written ↔ ¬ ∃ t', (i, t') ∈ W ∧ c.t < t' + s * 1000) := by
  have hi0 : RInv s st0 [] t0 :=
    ⟨hint, fun i _ => (by rw [hc0]), (by rw [hc0]; exact Nat.le_refl _), fun e he => (by cases he), List.Pairwise.nil⟩
  have split_times : ∀ (l : List Call) (tl : Int), timesFrom tl (l ++ [c]) → timesFrom tl l ∧ tl ≤ c.t := by
    intro l
    induction l with
    | nil => intro tl h; exact ⟨trivial, h.1⟩
    | cons x r ih =>
      intro tl h
      obtain ⟨a, b⟩ := ih x.t h.2
      exact ⟨⟨h.1, a⟩, Int.le_trans h.1 b⟩
  obtain ⟨ht1, ht2⟩ := split_times calls t0 htimes
  obtain ⟨_, hinv⟩ := rinv_run s hs calls st0 [] t0 hi0 ht1 (by simpa using hcap)
  have hct : s * 1000 ≤ c.t := by omega
  have hw := within_iff_newest (W := writesAcc st0 [] calls) (i := i) (t := c.t) (k := s * 1000) hinv.sorted hct
  unfold Call.rid at hid
  have hrate : (logDecide c.t c.m c.id c.msg (runCalls st0 calls)).1 = .rate ↔
      ∃ t', (i, t') ∈ writesAcc st0 [] calls ∧ c.t < t' + s * 1000 := by
    rw [logDecide_rate_iff, hinv.interval, hw, ← hinv.get i hne]
    refine ⟨fun ⟨_, j, hj, _, hlt⟩ => ?_, fun h => ⟨hgate, i, hid, hs, h⟩⟩
    rw [hid] at hj; cases hj; exact hlt
  exact ⟨hrate, (logDecide_written_iff hgate hid).trans (not_congr hrate)⟩

/-- interval 0 (or negative): nothing is ever suppressed -/
theorem rate_off (c : Cache) (id : Bytes) (sec now : Int) (h : sec ≤ 0) : checkOk c id sec now = (true, c) := by
  rcases checkOk_cases c id sec now with ⟨_, hc⟩ | ⟨h1, _⟩ | ⟨h1, _⟩
  · exact hc
  · omega
  · omega

theorem empty_id_never_limited (cal : Cal) (st0 : St) (ops : List Op) (t : Int) (m : Meth) (id msg : Bytes)
    (h0 : st0.cache = []) (hclock : (run cal st0 ops).conf.interval * 1000 ≤ t)
    (hid : m.rateId id (if m.ln then msg ++ [cNl] else msg) = some []) :
    (logDecide t m id msg (run cal st0 ops)).1 ≠ .rate := by
  intro h
  obtain ⟨_, rid, hr, _, hlt⟩ := (logDecide_rate_iff ..).mp h
  rw [hid] at hr
  injection hr with hr
  subst hr
  have hne : Cache.noEmpty (run cal st0 ops).cache := by
    rw [run_cache, h0]; exact dictAfter_noEmpty _ (fun e he => nomatch he)
  have : cacheGet (run cal st0 ops).cache [] = 0 :=
    Decidable.byContradiction fun hz => hne _ (cacheGet_mem hz) rfl
  rw [this] at hlt
  omega

theorem file_name (cal : Cal) (logID oname : Bytes) (u : Int) :
    fileName cal logID oname true u = logID ++ [cDash] ++ oname ++ [cDash] ++ cal.ymd u ++ asc ".log" ∧
    fileName cal logID oname false u = logID ++ [cDash] ++ oname ++ asc ".log" := ⟨rfl, rfl⟩

/-- a new logger writes to the file named for its creation day -/
theorem new_file (cal : Cal) (t0 : Int) (conf : Conf) (home : Bytes) (dir : Dir) :
    (St.new cal t0 conf home dir).cur = some (fileName cal conf.logID conf.oname conf.rotation (unit t0)) ∧
    (St.new cal t0 conf home dir).Inv cal := by
  refine ⟨?_, new_inv cal t0 conf home dir⟩
  unfold St.new
  simp only []
  rw [openFile_cur]
  rfl

/-- once the cycle has run at time `t`, the open file is the one named for the day of `t`,
    and every line of the calls that follow (until the next cycle) is appended to that file,
    whole and in call order -/
theorem rotation (cal : Cal) (t : Int) (st : St) (hi : st.Inv cal) (ops : List Op) (h : ∀ o ∈ ops, o.isCall = true) :
    let st1 := (process cal t st).1
    let name := fileName cal st.conf.logID st.conf.oname st.conf.rotation (unit t)
    st1.cur = some name ∧ (run cal st1 ops).cur = some name ∧
    (run cal st1 ops).dir = dirAppend st1.dir name (emits cal st1 ops) := by
  obtain ⟨hc, _, _, _, _⟩ := process_rotates cal t st hi
  obtain ⟨c2, d2⟩ := calls_in_order cal (process cal t st).1 ops h
  simp only [] at hc c2 d2 ⊢
  refine ⟨hc, c2.trans hc, ?_⟩
  rw [d2, St.append_eq, hc]
  rfl

/-- the invariant behind `rotation` holds after every history of a new logger -/
theorem reachable_inv (cal : Cal) (t0 : Int) (conf : Conf) (home : Bytes) (dir : Dir) (ops : List Op) :
    (run cal (St.new cal t0 conf home dir) ops).Inv cal :=
  run_inv cal _ ops (new_inv cal t0 conf home dir)

/-- between two cycles the open file receives exactly the lines of the calls that were
    neither below the level nor rate-limited, each as one whole chunk, in call order; no other
    file changes -/
theorem lines_in_order (cal : Cal) (st : St) (ops : List Op) (h : ∀ o ∈ ops, o.isCall = true)
    (n : Bytes) (f : File) (hc : st.cur = some n) (hf : dirGet st.dir n = some f) :
    dirGet (run cal st ops).dir n = some { f with recs := (emits cal st ops).reverse ++ f.recs } ∧
    (∀ g, dirGet (run cal st ops).dir n = some g → g.chunks = f.chunks ++ emits cal st ops) ∧
    (∀ m, m ≠ n → dirGet (run cal st ops).dir m = dirGet st.dir m) := by
  obtain ⟨_, d⟩ := calls_in_order cal st ops h
  rw [St.append_eq, hc] at d
  simp only [] at d
  have h1 : dirGet (run cal st ops).dir n = some { f with recs := (emits cal st ops).reverse ++ f.recs } := by
    rw [d, dirGet_dirAppend_same, hf]; rfl
  refine ⟨h1, ?_, ?_⟩
  · intro g hg
    rw [h1] at hg
    injection hg with hg
    rw [← hg]
    simp [File.chunks]
  · intro m hm
    rw [d, dirGet_dirAppend_other _ _ _ _ hm]

/-- every line is whole: it ends with a newline and is handed over in one piece -/
theorem line_whole (m : Meth) (id msg : Bytes) :
    ∃ pre, lineOf m id msg = .line (pre ++ [cNl]) := by
  unfold lineOf
  cases m <;> exact ⟨_, rfl⟩

/-- files are append-only for the logger: a cycle removes only what retention condemns and
    every other file keeps what it held -/
theorem cycle_append_only (cal : Cal) (t : Int) (st : St) (n : Bytes) (f : File) (h : (n, f) ∈ st.dir) :
    (t > st.last + 60000 ∧ deleted cal st.conf.rotation st.conf.logID st.conf.keepDays (unit t) n = true ∧
        n ∈ (process cal t st).2) ∨
    ∃ g, (n, g) ∈ (process cal t st).1.dir ∧ g.extends f := by
  by_cases hm : n ∈ (process cal t st).2
  · obtain ⟨a, _, b⟩ := (process_removed cal t st n).mp hm
    exact .inl ⟨a, b, hm⟩
  · exact .inr ((process_grows cal t st n f h hm).imp fun _ h => ⟨h.1, h.2.1⟩)

/-- removed ⇔ rotation on ∧ keep > 0 ∧ own prefix ∧ the part between the last '-' and the last
    '.' is 8 digits ∧ the calendar knows that date ∧ it is more than `keep` days old -/
theorem retention_exact (cal : Cal) (now : Int) (st : St) (n : Bytes) :
    n ∈ (clearOld cal now st).2 ↔
      (∃ f, (n, f) ∈ st.dir) ∧ st.conf.rotation = true ∧ st.conf.keepDays > 0 ∧
      (st.conf.logID ++ [cDash]) <+: n ∧
      ∃ d, datePart n = some d ∧ d.length = 8 ∧ (∀ b ∈ d, isDigit b = true) ∧
        ∃ u, cal.unitOf d = some u ∧ unit now - u > st.conf.keepDays := by
  rw [clearOld_removed, deleted_iff]

/-- the same for a whole cycle, which runs retention at most once a minute -/
theorem retention_in_cycle (cal : Cal) (t : Int) (st : St) (n : Bytes) :
    n ∈ (process cal t st).2 ↔
      t > st.last + 60000 ∧ (∃ f, (n, f) ∈ st.dir) ∧
      deleted cal st.conf.rotation st.conf.logID st.conf.keepDays (unit t) n = true :=
  process_removed cal t st n

/-- nothing without the prefix is ever removed, and it keeps its content -/
theorem retention_safe (cal : Cal) (now : Int) (st : St) (n : Bytes) (f : File) (h : (n, f) ∈ st.dir)
    (hp : ¬ (st.conf.logID ++ [cDash]) <+: n) :
    n ∉ (clearOld cal now st).2 ∧ ∃ g, (n, g) ∈ (clearOld cal now st).1.dir ∧ g.extends f ∧ (st.cur ≠ some n → g = f) := by
  have hd := not_deleted_of_no_prefix cal st.conf.rotation st.conf.logID st.conf.keepDays (unit now) n hp
  exact ⟨fun hm => Bool.false_ne_true (hd ▸ ((clearOld_removed cal now st n).mp hm).2), clearOld_grows cal now st n f h hd⟩

/-- what a pass leaves is not condemned; what it does not condemn is left with its content -/
theorem retention_survivors (cal : Cal) (now : Int) (st : St) (n : Bytes) :
    (∀ g, (n, g) ∈ (clearOld cal now st).1.dir →
        deleted cal st.conf.rotation st.conf.logID st.conf.keepDays (unit now) n = false) ∧
    (∀ f, (n, f) ∈ st.dir → deleted cal st.conf.rotation st.conf.logID st.conf.keepDays (unit now) n = false →
        ∃ g, (n, g) ∈ (clearOld cal now st).1.dir ∧ g.extends f) :=
  ⟨fun _ h => clearOld_dir_sub cal now st h,
    fun f hf hd => (clearOld_grows cal now st n f hf hd).imp fun _ h => ⟨h.1, h.2.1⟩⟩

/-- the date part, characterised: the name is `pre-d.ext` with no '.' in `ext`, no '-' in `d`
    or `ext`, and `d` not empty -/
theorem date_part_shape (name d : Bytes) :
    datePart name = some d ↔
      ∃ pre ext, name = pre ++ cDash :: (d ++ cDot :: ext) ∧ d ≠ [] ∧ cDot ∉ ext ∧ cDash ∉ d ∧ cDash ∉ ext := by
  constructor
  · exact datePart_some
  · rintro ⟨pre, ext, rfl, hd, h1, h2, h3⟩
    exact datePart_of_shape pre d ext hd h1 h2 h3

/-- 0 < length, endpos ≤ size: start = max 0 (endpos' − length) where endpos' = size for a
    negative endpos; the text is the slice of the content at `before`; its length is
    min (size − start) length -/
theorem read_window (c : Bytes) (endpos length : Int) (hl : 0 < length) (he : endpos ≤ c.length) :
    ∃ d, readEntry (.file c) endpos length = .data d ∧
      d.before = max 0 ((if endpos < 0 then (c.length : Int) else endpos) - length) ∧
      0 ≤ d.before ∧ d.before ≤ c.length ∧
      d.text = (c.drop d.before.toNat).take d.text.length ∧
      (d.text.length : Int) = min ((c.length : Int) - d.before) length ∧
      (d.text.length : Int) ≤ length ∧
      d.before + d.text.length ≤ c.length := by
  have hw : ¬ (c.length : Int) < endpos := by omega
  simp only [readEntry, readWindow, if_neg hw]
  generalize hs : max 0 ((if endpos < 0 then (c.length : Int) else endpos) - length) = start
  have h0 : 0 ≤ start := by omega
  have h1 : start ≤ c.length := by split at hs <;> omega
  generalize hn : min ((c.length : Int) - start) length = n
  have hlen : ((c.drop start.toNat).take n.toNat).length = n.toNat := by
    rw [List.length_take, List.length_drop]; omega
  have hcast : (n.toNat : Int) = n := by omega
  refine ⟨_, rfl, rfl, h0, h1, ?_, ?_, ?_, ?_⟩ <;> dsimp only <;> rw [hlen]
  · rw [hcast, hn]
  · omega
  · omega

/-- for all names, end positions and lengths: whatever `Read` returns is a contiguous slice of
    the content of the file stored under the resolved path below `<home>/logs`, at the offset
    it reports, of at most the requested length -/
theorem read_slice (home file : Bytes) (snap : Snapshot) (endpos length : Int) (d : LogData)
    (h : read home file snap endpos length = .data d) :
    ∃ rel e, resolve home file = some rel ∧ openedPath home file = logsDir home ++ rel ∧
      lookupEntry (joinSlash rel) snap = some e ∧
      match e with
      | .file c => 0 ≤ d.before ∧ d.text = (c.drop d.before.toNat).take d.text.length ∧
                   (d.text.length : Int) ≤ length ∧ d.before + d.text.length ≤ c.length
      | .dir _ => d.text = [] := by
  unfold Logger.read at h
  split at h
  · cases h
  · rename_i hc
    have hl : 0 < length := by
      have : ¬ length ≤ 0 := fun hh => hc (Or.inr hh)
      omega
    cases hr : resolve home file with
    | none => rw [hr] at h; cases h
    | some rel =>
      rw [hr] at h
      simp only [] at h
      cases hk : lookupEntry (joinSlash rel) snap with
      | none => rw [hk] at h; cases h
      | some e =>
        rw [hk] at h
        simp only [] at h
        refine ⟨rel, e, rfl, resolve_contained hr, hk, ?_⟩
        cases e with
        | file c =>
          by_cases he : endpos ≤ c.length
          · obtain ⟨d', hd, _, h0, _, hs, _, hle, hb⟩ := read_window c endpos length hl he
            rw [hd] at h
            injection h with h
            subst h
            exact ⟨h0, hs, hle, hb⟩
          · -- an end position behind the end of the file: nothing is returned
            have hw : (c.length : Int) < endpos := by omega
            simp only [readEntry, readWindow, if_pos hw] at h
            cases h
        | dir sz =>
          simp only [readEntry] at h
          split at h
          · cases h
          · split at h
            · injection h with h; rw [← h]
            · cases h

/-- the path opened is inside `<home>/logs`; a name that leaves it, an empty name and a
    non-positive length are answered with nil without opening anything -/
theorem read_contained (home file : Bytes) (snap : Snapshot) (endpos length : Int) :
    (∀ rel, resolve home file = some rel → logsDir home <+: openedPath home file) ∧
    (resolve home file = none → read home file snap endpos length = .nilQuiet) ∧
    (length ≤ 0 → read home file snap endpos length = .nilQuiet) ∧
    (file = [] → read home file snap endpos length = .nilQuiet) := by
  refine ⟨fun rel h => ⟨rel, (resolve_contained h).symm⟩, ?_, ?_, ?_⟩
  · intro h; unfold Logger.read; simp [h]
  · intro h; unfold Logger.read; simp [h]
  · intro h; unfold Logger.read; simp [h]

/-- `../x`, nested `sub/../../x`, and an absolute path are handled as the statement demands -/
example : resolve (asc "/opt/whatap") (asc "../x") = none := by decide +kernel
example : resolve (asc "/opt/whatap") (asc "sub/../../secret.txt") = none := by decide +kernel
example : resolve (asc "/opt/whatap") (asc "/etc/passwd") = some [asc "etc", asc "passwd"] := by decide +kernel
example : resolve (asc "/opt/whatap") (asc "../logs/a.log") = some [asc "a.log"] := by decide +kernel
example : resolve (asc "/opt/whatap") (asc "a.log") = some [asc "a.log"] := by decide +kernel

/-- D34 (code before fix-D34.diff): `Read` handed `openedPath home file` to `os.Open` without
    any test; for "../x" that path is not below `<home>/logs` -/
theorem finding_D34 :
    openedPath (asc "/h") (asc "../x") = [asc "h", asc "x"] ∧
    ¬ (logsDir (asc "/h") <+: openedPath (asc "/h") (asc "../x")) := by
  refine ⟨by decide, ?_⟩
  rw [← List.isPrefixOf_iff_prefix]
  decide +kernel

/-- repaired order (install the new file, then close the old one): wherever the two actions
    fall among the writes, every line is kept, whole and in order, old file first -/
theorem rotation_keeps_all_lines (init w1 w2 w3 : List Bytes) :
    let s := Rot.rrun (Rot.start init) (Rot.fixedSchedule w1 w2 w3)
    s.oldF ++ s.newF = init ++ w1 ++ w2 ++ w3 := by
  obtain ⟨h1, h2⟩ := Rot.fixed_keeps_all init w1 w2 w3
  simp only [] at h1 h2 ⊢
  rw [h1, h2]
  simp

/-- D35 (code before fix-D35.diff: close, then install): a line written between the two
    actions is in neither file -/
theorem finding_D35 :
    let s := Rot.rrun (Rot.start []) (Rot.oldSchedule [asc "a"] [asc "lost"] [asc "b"])
    asc "lost" ∉ s.oldF ++ s.newF := by
  obtain ⟨h1, h2⟩ := Rot.old_drops_between [] [asc "a"] [asc "lost"] [asc "b"]
  simp only [] at h1 h2 ⊢
  rw [h1, h2]
  decide +kernel

/-- D44 (code before fix-D44.diff: no digit test): an 8-byte non-numeric "date" reached the
    calendar lookup, where `Atoi`'s error value 0 stands for a year before 2000, i.e. day 0;
    such a file was removed -/
theorem finding_D44 (cal : Cal) (h : cal.unitOf (asc "abcdefgh") = some 0) :
    datePart (asc "whatap-boot-abcdefgh.log") = some (asc "abcdefgh") ∧
    (match cal.unitOf (asc "abcdefgh") with | some u => decide ((8835 : Int) - u > 7) | none => false) = true ∧
    candidate (asc "whatap") (asc "whatap-boot-abcdefgh.log") = none := by
  refine ⟨by decide +kernel, by rw [h]; decide, by decide +kernel⟩

/-- with the calendar of C19 (the 2000–2099 day table proved to be the Gregorian calendar), the
    logger's file for day unit `u` carries the civil date of 2000-01-01 + `u` days, as 8 digits -/
theorem real_file_name (logID oname : Bytes) (u : Nat) (h : u < 36525) :
    fileName Cal.c19 logID oname true (u : Int) =
      logID ++ [cDash] ++ oname ++ [cDash] ++ dateOfUnit u ++ asc ".log" ∧
    (dateOfUnit u).length = 8 ∧ (∀ b ∈ dateOfUnit u, isDigit b = true) ∧
    Cal.c19.unitOf (dateOfUnit u) = some (u : Int) := by
  refine ⟨?_, (dateOfUnit_digits u).1, (dateOfUnit_digits u).2, c19_unitOf_date u h⟩
  simp only [fileName, if_true, c19_ymd u h]

/-- rotation with real dates: after a cycle at any instant `t` of 2000–2099 the open file is the
    one that carries the civil date of `t` -/
theorem real_rotation (t : Int) (st : St) (hi : st.Inv Cal.c19) (hr : st.conf.rotation = true)
    (h0 : 0 ≤ unit t) (h1 : unit t < 36525) :
    (process Cal.c19 t st).1.cur =
      some (st.conf.logID ++ [cDash] ++ st.conf.oname ++ [cDash] ++ dateOfUnit (unit t).toNat ++ asc ".log") := by
  obtain ⟨hc, _⟩ := process_rotates Cal.c19 t st hi
  rw [hc, St.nameAt, hr]
  have e : unit t = ((unit t).toNat : Int) := by omega
  have hn := (real_file_name st.conf.logID st.conf.oname (unit t).toNat (by omega)).1
  rw [← e] at hn
  rw [hn]

/-- retention with real dates: the logger's own file of day `u` is removed exactly when
    retention is on and that day lies more than `keep` days before today -/
theorem real_retention (rot : Bool) (logID oname : Bytes) (keep nowUnit : Int) (u : Nat) (h : u < 36525) :
    deleted Cal.c19 rot logID keep nowUnit (fileName Cal.c19 logID oname true (u : Int)) = true ↔
      rot = true ∧ keep > 0 ∧ nowUnit - (u : Int) > keep :=
  deleted_of_candidate Cal.c19 rot logID _ _ keep nowUnit u (candidate_own logID oname u h) (c19_unitOf_date u h)

/-- `lastLog.Put` / `Get` are `HMap.S.put` (mode LAST, max 1000, empty key refused) / `AL.get`
    with null value 0 -/
theorem cache_is_dictionary (c : Cache) (k : Bytes) (v : Int) (hn : (HMap.AL.keys c).Nodup) :
    cachePut c k v = (HMap.S.put slDesc ⟨c, cacheMax⟩ .last k v).1.ents ∧
    (HMap.AL.keys (cachePut c k v)).Nodup ∧
    cacheGet c k = (HMap.AL.get c k).getD 0 :=
  ⟨cachePut_eq k v hn, cachePut_nodup k v hn, cacheGet_eq c k⟩

/-- … and, one level further down, of C09's model of the hash table with its linked list -/
theorem cache_is_linked_map {hash : Bytes → Nat} {thr : Nat → Nat} (m : HMap.LMap Bytes Int)
    (h : HMap.LMap.Inv hash slDesc m) (hm : m.max = cacheMax) (k : Bytes) (v : Int) :
    (HMap.LMap.abs hash (m.put hash thr slDesc .last k v).1).ents = cachePut (HMap.LMap.abs hash m).ents k v ∧
    (m.get hash k).getD 0 = cacheGet (HMap.LMap.abs hash m).ents k ∧
    HMap.LMap.Inv hash slDesc (m.put hash thr slDesc .last k v).1 := by
  obtain ⟨hi, _, ha⟩ := HMap.LMap.put_refines (thr := thr) h .last k v
  have hwf : (HMap.AL.keys (HMap.LMap.abs hash m).ents).Nodup := HMap.LMap.abs_WF h
  refine ⟨?_, ?_, hi⟩
  · rw [ha, cachePut_eq k v hwf]
    have : HMap.LMap.abs hash m = ⟨(HMap.LMap.abs hash m).ents, cacheMax⟩ := by
      rw [← hm]; rfl
    rw [← this]
  · rw [cacheGet_eq, HMap.LMap.abs_get h k]
    rfl

/-- which id is forgotten when: a known id keeps its place (re-logging does not renew it), a new
    id below the capacity is appended, a new id at the capacity evicts exactly the id that
    entered first; the cache never holds more than 1000 ids -/
theorem eviction_exact (c : Cache) (k : Bytes) (v : Int) (hn : (HMap.AL.keys c).Nodup) (hne : k ≠ []) :
    (k ∈ HMap.AL.keys c → cachePut c k v = HMap.AL.set c k v) ∧
    (k ∉ HMap.AL.keys c → c.length < cacheMax → cachePut c k v = c ++ [(k, v)]) ∧
    (k ∉ HMap.AL.keys c → c.length = cacheMax → cachePut c k v = c.drop 1 ++ [(k, v)]) ∧
    (c.length ≤ cacheMax → (cachePut c k v).length ≤ cacheMax) := by
  refine ⟨fun hk => put_known v hn hk hne, fun hk hl => put_new_below v hk hne hl,
    fun hk hl => put_new_full v hk hne hl, fun hl => ?_⟩
  unfold cachePut
  split
  · exact hl
  · split
    · rw [length_cacheSet]; exact hl
    · split
      · simp only [List.length_append, List.length_drop, List.length_cons, List.length_nil]
        unfold cacheMax at *
        omega
      · simp only [List.length_append, List.length_cons, List.length_nil]
        omega

/-- suppression, exactly, after ANY history of a fresh logger — any length, any settings, eviction
    included: a call is suppressed iff it passes the gate, carries a rate id `i`, the interval is
    positive, and `t < T + interval·1000` where `T` is what the dictionary, run on the history's
    `Put`s, holds for `i` (0 if nothing: never put, or forgotten) -/
theorem rate_limit_any_history (cal : Cal) (st0 : St) (ops : List Op) (t : Int) (m : Meth) (id msg : Bytes)
    (h0 : st0.cache = []) :
    let st := run cal st0 ops
    let dict := dictAfter [] (puts cal st0 ops)
    ((logDecide t m id msg st).1 = .rate ↔
      m.passes st.conf.level = true ∧ ∃ i, m.rateId id (if m.ln then msg ++ [cNl] else msg) = some i ∧
        st.conf.interval > 0 ∧ t < (HMap.AL.get dict i).getD 0 + st.conf.interval * 1000) ∧
    dict = ((puts cal st0 ops).foldl (fun (s : HMap.S Bytes Int) e => (HMap.S.put slDesc s .last e.1 e.2).1) ⟨[], cacheMax⟩).ents := by
  exact ⟨suppressed_iff cal st0 ops t m id msg h0, (dictAfter_is_hmap (puts cal st0 ops) [] List.nodup_nil).1⟩

/-- the same, as the statement reads it: after ANY history, a rate-limited call that passes the
    gate under a positive interval is written iff the table does not hold its id, or holds it
    with a time at least one interval ago -/
theorem rate_written_iff (cal : Cal) (st0 : St) (ops : List Op) (t : Int) (m : Meth) (id msg i : Bytes)
    (h0 : st0.cache = [])
    (hp : m.passes (run cal st0 ops).conf.level = true)
    (hid : m.rateId id (if m.ln then msg ++ [cNl] else msg) = some i)
    (hs : (run cal st0 ops).conf.interval > 0)
    (hclock : (run cal st0 ops).conf.interval * 1000 ≤ t) :
    let dict := dictAfter [] (puts cal st0 ops)
    (logDecide t m id msg (run cal st0 ops)).1 = .written ↔
      HMap.AL.get dict i = none ∨ ∃ T, HMap.AL.get dict i = some T ∧ T + (run cal st0 ops).conf.interval * 1000 ≤ t := by
  simp only []
  rw [logDecide_written_iff hp hid, suppressed_iff cal st0 ops t m id msg h0]
  constructor
  · intro hn
    cases hg : HMap.AL.get (dictAfter [] (puts cal st0 ops)) i with
    | none => exact .inl rfl
    | some T =>
      refine .inr ⟨T, rfl, Int.not_lt.mp fun hlt => hn ⟨hp, i, hid, hs, ?_⟩⟩
      rw [hg]; exact hlt
  · rintro (hg | ⟨T, hg, hle⟩) ⟨_, j, hj, _, hlt⟩ <;>
      (rw [hid] at hj; cases hj; rw [hg] at hlt; simp only [Option.getD_none, Option.getD_some] at hlt; omega)

/-- the table over histories of `Put`s: (1) pairwise distinct new ids ⇒ the table holds exactly
    the most recent 1000 entries (C09's closed form); (2) so 1000 new ids forget everything held
    before; (3) and not earlier: an id with `y` younger entries survives further `Put`s of other
    ids while `y` + their number stays below 1000 -/
theorem table_over_histories :
    (∀ (c : Cache) (l : List (Bytes × Int)), (HMap.AL.keys (c ++ l)).Nodup → (∀ e ∈ l, e.1 ≠ []) → c.length ≤ cacheMax →
        dictAfter c l = HMap.AL.keepLast cacheMax (c ++ l)) ∧
    (∀ (c : Cache) (l : List (Bytes × Int)), (HMap.AL.keys (c ++ l)).Nodup → (∀ e ∈ l, e.1 ≠ []) → c.length ≤ cacheMax →
        cacheMax ≤ l.length → ∀ k ∈ HMap.AL.keys c, HMap.AL.get (dictAfter c l) k = none) ∧
    (∀ (pre young : Cache) (i : Bytes) (v : Int) (ps : List (Bytes × Int)),
        (HMap.AL.keys (pre ++ (i, v) :: young)).Nodup → i ≠ [] → (∀ e ∈ ps, e.1 ≠ i) →
        (pre ++ (i, v) :: young).length ≤ cacheMax → young.length + ps.length < cacheMax →
        HMap.AL.get (dictAfter (pre ++ (i, v) :: young) ps) i = some v) := by
  refine ⟨table_after_new_ids, ?_, ?_⟩
  · intro c l hn hne hb hl k hk
    rw [table_after_new_ids c l hn hne hb]
    apply HMap.AL.get_none_iff.mpr
    unfold HMap.AL.keepLast
    have hmax : 0 < cacheMax := by decide
    by_cases hlt : cacheMax < (c ++ l).length
    · rw [if_pos ⟨hmax, hlt⟩]
      have hd : (c ++ l).length - cacheMax = c.length + (l.length - cacheMax) := by
        simp only [List.length_append]; omega
      rw [hd, ← List.drop_drop, List.drop_left]
      intro hmem
      have hsub : (HMap.AL.keys (l.drop (l.length - cacheMax))).Sublist (HMap.AL.keys l) := (List.drop_sublist _ _).map _
      have hkl : k ∈ HMap.AL.keys l := hsub.subset hmem
      rw [HMap.AL.keys_append, List.nodup_append] at hn
      exact hn.2.2 k hk k hkl rfl
    · -- then c is empty
      have : c.length = 0 := by simp only [List.length_append] at hlt; omega
      have hc : c = [] := List.length_eq_zero_iff.mp this
      rw [hc] at hk
      cases hk
  · intro pre young i v ps hn _ hps _ hroom
    rw [(dictAfter_is_hmap ps _ hn).1]
    exact HMap.S.foldl_put_resident slDesc ps hn hps (Or.inr hroom)

/-- a `Put` of an id the table holds — at ANY fill level, so also when the table is full — forgets
    nothing: the same ids in the same places, the same length, the id's own time replaced, every
    other id's time unchanged -/
theorem refresh_forgets_nothing (c : Cache) (k : Bytes) (v : Int) (hn : (HMap.AL.keys c).Nodup) (hne : k ≠ [])
    (hk : k ∈ HMap.AL.keys c) :
    HMap.AL.keys (cachePut c k v) = HMap.AL.keys c ∧ (cachePut c k v).length = c.length ∧
    cacheGet (cachePut c k v) k = v ∧ ∀ j, j ≠ k → cacheGet (cachePut c k v) j = cacheGet c j :=
  refresh_cache v hn hne hk

/-- … over histories: after ANY history of a fresh logger (table full or not), a log call whose
    rate id `i` is resident — written because its interval is over, or suppressed — leaves the table
    with the same ids in the same places, and every later call with a different id is decided
    (written / suppressed) exactly as it would have been without that call -/
theorem refresh_in_history (cal : Cal) (st0 : St) (ops : List Op) (h0 : st0.cache = [])
    (t : Int) (m : Meth) (id msg i : Bytes)
    (hid : m.rateId id (if m.ln then msg ++ [cNl] else msg) = some i)
    (hk : i ∈ HMap.AL.keys (run cal st0 ops).cache) (hne : i ≠ []) :
    let st := run cal st0 ops
    let st' := run cal st0 (ops ++ [.log t m id msg])
    HMap.AL.keys st'.cache = HMap.AL.keys st.cache ∧
    (∀ j, j ≠ i → cacheGet st'.cache j = cacheGet st.cache j) ∧
    ∀ (t' : Int) (m' : Meth) (id' msg' j : Bytes),
      m'.rateId id' (if m'.ln then msg' ++ [cNl] else msg') = some j → j ≠ i →
      (logDecide t' m' id' msg' st').1 = (logDecide t' m' id' msg' st).1 := by
  intro st st'
  have e : st' = (logCall t m id msg st).1 := by
    show run cal st0 (ops ++ [.log t m id msg]) = _
    rw [run_append]; rfl
  rw [e]
  exact refresh_step t m id msg i st (run_cache_nodup cal st0 ops h0) hid hk hne

/-- `LogLevel`: case-insensitive (ASCII) "error" ↦ 3, "info" ↦ 1, "debug" ↦ 0, and everything else —
    "warn" included — ↦ WARN(2); each value exactly for its word -/
theorem log_level_table (s : Bytes) :
    (logLevel s = 3 ↔ s.map lower = asc "error") ∧ (logLevel s = 1 ↔ s.map lower = asc "info") ∧
    (logLevel s = 0 ↔ s.map lower = asc "debug") ∧
    (logLevel s = 2 ↔ (s.map lower ≠ asc "error" ∧ s.map lower ≠ asc "info" ∧ s.map lower ≠ asc "debug")) := by
  have d1 : asc "error" ≠ asc "warn" := by decide
  have d2 : asc "error" ≠ asc "info" := by decide
  have d3 : asc "error" ≠ asc "debug" := by decide
  have d4 : asc "warn" ≠ asc "info" := by decide
  have d5 : asc "warn" ≠ asc "debug" := by decide
  have d6 : asc "info" ≠ asc "debug" := by decide
  unfold logLevel
  simp only []
  by_cases h1 : s.map lower = asc "error"
  · simp [h1, d2, d3]
  · by_cases h2 : s.map lower = asc "warn"
    · simp [h2, d1.symm, d4, d5]
    · by_cases h3 : s.map lower = asc "info"
      · simp [h3, d2.symm, d4.symm, d6]
      · by_cases h4 : s.map lower = asc "debug"
        · simp [h4, d3.symm, d5.symm, d6.symm]
        · simp [h1, h2, h3, h4]

/-- `GetLogFiles`, exactly, when no entry makes it panic: the first 100 listable entries of the
    directory in `ReadDir` order with their sizes; and whatever it returns, every listed pair is a
    regular file of the directory with its size, named `whatap-hook.log` or `logID-oname-` + exactly
    8 bytes up to the first dot -/
theorem log_files_exact (logID oname : Bytes) (ents : List DirEnt) :
    ((∀ e ∈ ents, filesVerdict logID oname e ≠ .panic) →
      logFiles logID oname ents =
        some (((ents.filter (listable logID oname)).take 100).map entPair)) ∧
    (∀ out, logFiles logID oname ents = some out → ∀ p ∈ out, ∃ e ∈ ents, p = (e.name, e.size) ∧ e.isDir = false ∧
      (e.name = hookName ∨ ((filesPrefix logID oname) <+: e.name ∧
        indexDot e.name = some ((filesPrefix logID oname).length + 8)))) := by
  refine ⟨logFiles_closed logID oname ents, ?_⟩
  intro out h p hp
  obtain ⟨e, he, hpe, hv⟩ := logFilesLoop_sound logID oname ents 0 (by decide) out h p hp
  obtain ⟨hd, x, hx, hs⟩ := (filesVerdict_list_iff ..).mp hv
  exact ⟨e, he, hpe, hd, hs.imp_right fun ⟨hpre, h8⟩ => ⟨hpre, h8 ▸ hx⟩⟩

/-- no dot in the log id and the object name ⇒ `GetLogFiles` cannot panic, whatever the directory holds -/
theorem log_files_total (logID oname : Bytes) (h1 : cDot ∉ logID) (h2 : cDot ∉ oname) (ents : List DirEnt) :
    logFiles logID oname ents = some (((ents.filter (listable logID oname)).take 100).map entPair) := by
  refine logFiles_closed logID oname ents fun e _ hp => ?_
  -- a panic needs the first dot inside the prefix
  obtain ⟨_, x, hx, _, ⟨t, ht⟩, hlt⟩ := (filesVerdict_panic_iff ..).mp hp
  have hm := indexDot_mem hx
  rw [← ht, List.take_append_of_le_length (by omega)] at hm
  exact noDot_filesPrefix h1 h2 (List.mem_of_mem_take hm)

/-- observed, outside the statement: a dot in the object name makes `GetLogFiles` panic on the
    logger's own file (`name[len(prefix)+1 : x]` with the first dot inside the prefix) -/
theorem finding_logfiles_dot :
    logFiles (asc "whatap") (asc "x.y") [⟨asc "whatap-x.y-20240310.log", false, 5⟩] = none := by decide +kernel

/-- the logger's own file of day `u` (real dates, 2000–2099) is listable, whatever its size -/
theorem log_files_own_current (logID oname : Bytes) (u : Nat) (h : u < 36525) (sz : Int)
    (h1 : cDot ∉ logID) (h2 : cDot ∉ oname) :
    filesVerdict logID oname ⟨fileName Cal.c19 logID oname true (u : Int), false, sz⟩ = .list := by
  have hy := c19_ymd u h
  apply own_file_listable Cal.c19 logID oname u sz h1 h2
  · rw [hy]; exact (dateOfUnit_digits u).1
  · rw [hy]
    intro hm
    have := (dateOfUnit_digits u).2 _ hm
    revert this
    decide

/-- every name `GetLogFiles` returns can be passed to `Read`: it resolves to itself inside
    `<home>/logs` (directory entry names are plain: no '/', not empty, not "." or ".."), so `Read`
    serves exactly that entry of the logs directory -/
theorem log_files_readable (logID oname home : Bytes) (ents : List DirEnt) (out : List (Bytes × Int))
    (h : logFiles logID oname ents = some out)
    (hplain : ∀ e ∈ ents, cSlash ∉ e.name ∧ e.name ≠ [] ∧ e.name ≠ [cDot] ∧ e.name ≠ [cDot, cDot])
    (p : Bytes × Int) (hp : p ∈ out) (snap : Snapshot) (endpos length : Int) (hl : 0 < length) :
    resolve home p.1 = some [p.1] ∧
    read home p.1 snap endpos length =
      match lookupEntry p.1 snap with
      | none => .nilOpenErr
      | some e => readEntry e endpos length := by
  obtain ⟨e, he, hpe, _⟩ := logFilesLoop_sound logID oname ents 0 (by decide) out h p hp
  obtain ⟨a, b, c, d⟩ := hplain e he
  have : p.1 = e.name := by rw [hpe]; rfl
  rw [this]
  exact ⟨resolve_plain home e.name a b c d, read_plain home e.name snap endpos length hl a b c d⟩

/-- over ANY history of a new logger, whatever else lies in the directory: a file that does not
    carry the prefix `logID-` is still there at the end with exactly the content it had -/
theorem foreign_files_untouched (cal : Cal) (t0 : Int) (conf : Conf) (home : Bytes) (dir : Dir) (ops : List Op)
    (n : Bytes) (f : File) (h : (n, f) ∈ dir) (hp : ¬ (conf.logID ++ [cDash]) <+: n) :
    (n, f) ∈ (run cal (St.new cal t0 conf home dir) ops).dir := by
  have hconf : (St.new cal t0 conf home dir).conf = conf := rfl
  obtain ⟨g, hg, _, e⟩ := openFile_grows cal t0 ⟨conf, home, [], none, t0, unit t0, conf.rotation, dir⟩ n f h trivial
  rw [e fun hn => hp (hn ▸ fileName_prefix cal _ _ _ _)] at hg
  exact run_foreign cal _ ops (new_inv cal t0 conf home dir) n f hg (hconf ▸ hp)

/-- everything any history removes carries the prefix and an 8-digit date part -/
theorem history_prunes_only_own (cal : Cal) (st : St) (ops : List Op) (n : Bytes) (h : n ∈ removedBy cal st ops) :
    (st.conf.logID ++ [cDash]) <+: n ∧ ∃ d, datePart n = some d ∧ d.length = 8 ∧ ∀ b ∈ d, isDigit b = true := by
  obtain ⟨_, _, _, hd⟩ := removedBy_deleted cal st ops n h
  obtain ⟨_, _, hp, d, hd, hl, hg, _⟩ := (deleted_iff ..).mp hd
  exact ⟨hp, d, hd, hl, hg⟩

/-- rotation at every cycle of a history: whatever came before, after a cycle at `t` and any
    calls, the open file is the one named for the day of `t` (with the log id and object name the
    logger was created with) and it has received exactly those calls' lines, in order -/
theorem rotation_in_history (cal : Cal) (st0 : St) (hi : st0.Inv cal) (pre calls : List Op) (t : Int)
    (hc : ∀ o ∈ calls, o.isCall = true) :
    let stp := run cal st0 pre
    let st1 := (process cal t stp).1
    let name := fileName cal st0.conf.logID st0.conf.oname stp.conf.rotation (unit t)
    run cal st0 (pre ++ [.proc t] ++ calls) = run cal st1 calls ∧
    (run cal st1 calls).cur = some name ∧ (run cal st1 calls).dir = dirAppend st1.dir name (emits cal st1 calls) := by
  intro stp st1 name
  have hinv := run_inv cal st0 pre hi
  obtain ⟨h1, h2, h3⟩ := rotation cal t (run cal st0 pre) hinv calls hc
  obtain ⟨hl, ho⟩ := run_conf_names cal st0 pre
  refine ⟨?_, ?_, ?_⟩
  · rw [run_append, run_append]; rfl
  · show (run cal (process cal t (run cal st0 pre)).1 calls).cur = _
    rw [h2, hl, ho]
  · show (run cal (process cal t (run cal st0 pre)).1 calls).dir = _
    rw [h3, hl, ho]

/-- for any number of writers and any schedule that closes the old handle only after the new
    file is installed: no line is lost or duplicated, each writer's lines keep their order (old
    file first), and — by the field `atomic` of `AppendFS` — each file's bytes are the bytes it
    had followed by the whole lines that reached it -/
theorem lines_in_order_concurrent (fs : Conc.AppendFS) (oldF newF : fs.F) (oldL : List Conc.Line)
    (as : List Conc.Act) (hs : Conc.Safe false as) :
    let s := Conc.crun fs (Conc.steady fs oldF newF oldL) as
    s.oldL ++ s.newL = oldL ++ Conc.writesOf as ∧
    (∀ w, (s.oldL ++ s.newL).filter (fun l => l.writer == w) =
        oldL.filter (fun l => l.writer == w) ++ (Conc.writesOf as).filter (fun l => l.writer == w)) ∧
    ∃ lo ln, s.oldL = oldL ++ lo ∧ s.newL = ln ∧
      fs.content s.oldF = fs.content oldF ++ Conc.texts lo ∧ fs.content s.newF = fs.content newF ++ Conc.texts ln := by
  have h1 := Conc.all_lines_kept fs (Conc.steady fs oldF newF oldL) as hs (Or.inr rfl) (fun _ => rfl)
  refine ⟨by simpa [Conc.steady] using h1, ?_, ?_⟩
  · intro w
    have := Conc.writer_order_kept fs (Conc.steady fs oldF newF oldL) as hs (Or.inr rfl) (fun _ => rfl) w
    simpa [Conc.steady] using this
  · obtain ⟨lo, ln, a, b, c, d⟩ := Conc.files_hold_whole_lines fs (Conc.steady fs oldF newF oldL) as
    exact ⟨lo, ln, a, by simpa [Conc.steady] using b, c, d⟩

/-- the repaired rotation, at any two positions of any schedule, obeys that discipline; the
    order before the repair does not, and loses the line written in between -/
theorem rotation_safe_concurrent (fs : Conc.AppendFS) (a b c : List Conc.Act)
    (ha : Conc.NoRot a) (hb : Conc.NoRot b) (hc : Conc.NoRot c) (oldF newF : fs.F) (l : Conc.Line) :
    Conc.Safe false (Conc.rotated a b c) ∧
    ¬ Conc.Safe false [Conc.Act.closeOld, .write l, .install] ∧
    (let s := Conc.crun fs (Conc.steady fs oldF newF []) [.closeOld, .write l, .install]
     s.oldL ++ s.newL = []) :=
  ⟨Conc.rotated_safe a b c ha hb hc, by simp [Conc.Safe], by simp [Conc.crun, Conc.cstep, Conc.steady]⟩

section Examples

def cal0 : Cal := Cal.std
def t0 : Int := 1710032400000            -- 2024-03-10 01:00:00 UTC
def st0 : St := St.new cal0 t0 (Conf.default 2 (asc "boot") (asc "whatap")) (asc "/opt/whatap")
  [(asc "whatap-boot-20240101.log", ⟨[120], []⟩), (asc "whatapx-boot-20240101.log", ⟨[120], []⟩),
   (asc "whatap-boot-abcdefgh.log", ⟨[120], []⟩), (asc "whatap-boot-20240309.log", ⟨[120], []⟩)]

example : st0.cur = some (asc "whatap-boot-20240310.log") := by decide +kernel
example : st0.cache = [] := rfl

/-- a cycle on the next day removes exactly the old own file and rotates -/
example : (process cal0 (t0 + 86400000) st0).2 = [asc "whatap-boot-20240101.log"] ∧
    (process cal0 (t0 + 86400000) st0).1.cur = some (asc "whatap-boot-20240311.log") := by decide +kernel

/-- the hypotheses of `rate_limit` are satisfiable and both outcomes occur -/
example : (logDecide (t0 + 5000) .errorf [] (asc "disk full again") (runCalls st0 [⟨t0, .errorf, [], asc "disk full now"⟩])).1 = .rate := by decide +kernel
example : (logDecide (t0 + 10000) .errorf [] (asc "disk full again") (runCalls st0 [⟨t0, .errorf, [], asc "disk full now"⟩])).1 = .written := by decide +kernel
example : timesFrom t0 ([⟨t0, .errorf, [], asc "disk full now"⟩] ++ [⟨t0 + 5000, .errorf, [], asc "disk full again"⟩]) := by
  simp [timesFrom, t0]
example : (⟨t0 + 5000, Meth.errorf, [], asc "disk full again"⟩ : Call).rid = some (asc "disk full ") := by decide +kernel

/-- a window in the middle of a file -/
example : readEntry (.file (asc "0123456789")) 7 4 = .data ⟨3, -1, asc "3456"⟩ := by decide +kernel
example : readEntry (.file (asc "0123456789")) (-1) 4 = .data ⟨6, -1, asc "6789"⟩ := by decide +kernel
/-- the window is `length` bytes from `start`, even past `endpos` when `endpos < length` -/
example : readEntry (.file (asc "0123456789")) 2 4 = .data ⟨0, 8, asc "0123"⟩ := by decide +kernel
example : readEntry (.file (asc "0123456789")) 11 4 = .nilQuiet := by decide +kernel

/-- the C19 calendar on a concrete day: unit 8835 is 2024-03-10 -/
example : dateOfUnit 8835 = asc "20240310" := by decide +kernel

/-- an instance of the OS assumption (files as byte lists) and a three-writer schedule with a rotation in the middle -/
def listFS : Conc.AppendFS := ⟨Bytes, id, fun f bs => f ++ bs, fun _ _ => rfl⟩
example : Conc.Safe false (Conc.rotated [.write ⟨0, asc "a\n"⟩, .write ⟨1, asc "b\n"⟩] [.write ⟨2, asc "c\n"⟩] [.write ⟨0, asc "d\n"⟩]) := by
  simp [Conc.rotated, Conc.Safe]

/-- a known id is replaced in place -/
example : cachePut [(asc "a", 1), (asc "b", 2)] (asc "b") 9 = [(asc "a", 1), (asc "b", 9)] := by decide +kernel

/-- hypotheses of `lines_in_order` / `foreign_files_untouched` on a reachable state: the open file exists,
    and a foreign look-alike survives a cycle that prunes an own file -/
example : (dirGet st0.dir (asc "whatap-boot-20240310.log")).isSome = true := by decide +kernel
example : (asc "whatapx-boot-20240101.log", (⟨[120], []⟩ : File)) ∈ (run cal0 st0 [.proc (t0 + 86400000)]).dir := by
  decide +kernel
example : removedBy cal0 st0 [.proc (t0 + 86400000)] = [asc "whatap-boot-20240101.log"] := by decide +kernel
/-- Go's truncating day unit before 2000-01-01 (truncation towards zero, not floor division) -/
example : unit (baseTime - 1) = 0 ∧ unit (baseTime - 86400000) = -1 ∧ unit (baseTime + 86399999) = 0 := by decide +kernel

end Examples

example : asc "b" ∈ HMap.AL.keys [(asc "a", (1 : Int)), (asc "b", 2)] ∧ (HMap.AL.keys [(asc "a", (1 : Int)), (asc "b", 2)]).Nodup := by decide +kernel
example : (asc "disk full ") ∈ HMap.AL.keys (run cal0 st0 [.log t0 .errorf [] (asc "disk full now")]).cache := by decide +kernel
example : logFiles (asc "whatap") (asc "boot")
    [⟨asc "other.log", false, 3⟩, ⟨asc "whatap-boot-2024031.log", false, 1⟩, ⟨asc "whatap-boot-20240310.log", false, 77⟩,
     ⟨asc "whatap-boot-20240311.log", true, 4096⟩, ⟨asc "whatap-boot-20240312.log.gz", false, 9⟩, ⟨asc "whatap-hook.log", false, 2⟩] =
    some [(asc "whatap-boot-20240310.log", 77), (asc "whatap-boot-20240312.log.gz", 9), (asc "whatap-hook.log", 2)] := by decide +kernel
example : cDot ∉ asc "whatap" ∧ cDot ∉ asc "boot" := by decide +kernel
example : logLevel (asc "WARN") = 2 ∧ logLevel (asc "Error") = 3 ∧ logLevel (asc "bogus") = 2 ∧ logLevel (asc "Info") = 1 ∧ logLevel [] = 2 := by decide +kernel
example : logFilePath (asc "/opt/whatap") (asc "a.log") = [asc "opt", asc "whatap", asc "opt", asc "whatap", asc "logs", asc "a.log"] := by decide +kernel

end C17
