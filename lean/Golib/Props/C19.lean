/-
  Property C19 — calendar helpers agree with the standard calendar for 2000–2099; the
  pattern-based date format is the inverse of its parser.

  Spec      Golib.Cal.Civil      closed-form proleptic Gregorian calendar (`civil`, `daysFromCivil`,
                                  `weekdayMon`), independent of any table or leap-year test;
                                  compared with Go's time package on every day of the century by
                                  harness/c19 (op C)
  CodeModel Golib.Cal.Table      DateTimeHelper.open(): the loops that build `table`/`dateTable`
            Golib.Cal.Helper     yyyymmdd, weekday, datetime, timestamp, logtime, ymdhms, hhmmss,
                                  hhmm, the unit functions, getYmdTime
            Golib.Cal.DateFormat DateFormat.format / Parse / ToInt / LPadInt
            Golib.Cal.DateFormatObj, ObjHistory   the DateFormat object whose `this.date` map
                                  survives between Parse calls; histories of calls
            Golib.Cal.Pkg        the exported surface of DateUtil.go (clock correction `delta`)
            Golib.Cal.Fmt        mk2, mk3, %02d, Itoa, Atoi
  Golib.Cal.Gregorian is the calendar by counting days; `civil` and `weekdayMon` are proved equal
  to it (`calendar_by_counting`).
  The CodeModel is tied to /repo/util/dateutil by harness/c19 (the ops of lean/Driver/C19.lean) and by the
  regenerated constants of Golib.Gen.C19 (Golib/Props/C19Gen.lean).

  Instants are milliseconds since 1970-01-01T00:00:00Z; `InCentury t` is
  2000-01-01T00:00:00.000Z ≤ t ≤ 2099-12-31T23:59:59.999Z.  An `Option` result `none` of a helper means the Go
  code panics, and the theorems show it never does inside the century; `none` of `parse` means
  Parse returned an error.
-/
import Golib.Cal.HelperProof
import Golib.Cal.YmdProof
import Golib.Cal.DateFormatProof
import Golib.Cal.TableStruct
import Golib.Cal.CivilSucc
import Golib.Cal.DateFormatObjProof
import Golib.Cal.Gregorian
import Golib.Cal.ObjHistory
import Golib.Cal.PkgProof

namespace C19
open Cal

/-- every day number has a month 1..12 and a day 1..31 -/
theorem spec_fields (z : Nat) :
    1 ≤ (civil z).m ∧ (civil z).m ≤ 12 ∧ 1 ≤ (civil z).d ∧ (civil z).d ≤ 31 := civil_fields z

/-- date ↦ day number inverts day number ↦ date, for every day (not only the century);
    so distinct days have distinct dates -/
theorem spec_inverse (z : Nat) : daysFromCivil (civil z).y (civil z).m (civil z).d = z :=
  days_civil z

theorem spec_injective (a b : Nat) (h : civil a = civil b) : a = b := by
  rw [← days_civil a, h, days_civil b]

/-- anchors: the epoch, the first and the last day of the table, a leap day, and the non-leap
    century year 2100 right after it -/
theorem spec_anchors :
    civil 0 = ⟨1970, 1, 1⟩ ∧ civil 10957 = ⟨2000, 1, 1⟩ ∧ civil 11016 = ⟨2000, 2, 29⟩ ∧
    civil 47481 = ⟨2099, 12, 31⟩ ∧ civil 47482 = ⟨2100, 1, 1⟩ ∧ civil 47540 = ⟨2100, 2, 28⟩ ∧
    civil 47541 = ⟨2100, 3, 1⟩ ∧ weekdayMon 0 = 3 ∧ weekdayMon 10957 = 5 := by decide

/-- on the century the closed-form calendar is the day-by-day calendar: each date is followed by
    the date that the textbook rule gives (month lengths 31/28/…, 29 days in February of a
    Gregorian leap year, year carry).  With the anchor `civil 10957 = 2000-01-01` this
    determines `civil` on 2000-01-01 … 2100-01-01 completely. -/
theorem spec_day_by_day (i : Nat) (h : i < 36525) :
    civil (10957 + i + 1) = nextDay (civil (10957 + i)) := (civil_day_by_day _).2.2

/-- open() applies `isYun` to the offset from 2000; on the offsets it passes (0..99) that is the
    Gregorian leap rule of the year 2000 + offset -/
theorem leap_rule_ok (y : Nat) (h : y < 100) : isYun y = isLeap (2000 + y) :=
  (isYun_eq_isLeap y).trans (congrArg isLeap (Nat.add_comm y 2000))

/-- date ↦ day number ↦ date is the identity on every date of the Gregorian calendar from 1970 on
    (with `spec_inverse` this makes `civil` a bijection between day numbers and dates) -/
theorem spec_inverse_left (y m d : Nat) (hy : 1970 ≤ y) (hv : ValidDate y m d) :
    civil (daysFromCivil y m d) = ⟨y, m, d⟩ := civil_days y m d hy hv

/-- **for every day number** (not only the century): `civil z` is a valid
    date and the next day number is the next date by the textbook rule.  With `civil 0 = 1970-01-01`
    this determines `civil` completely: the Spec *is* the proleptic Gregorian calendar. -/
theorem spec_day_by_day_all (z : Nat) :
    ValidDate (civil z).y (civil z).m (civil z).d ∧ civil (z + 1) = nextDay (civil z) :=
  ⟨(civil_day_by_day z).1, (civil_day_by_day z).2.2⟩

/-- `isYun` on the offset is the Gregorian rule of the year for **every** offset (2000 ≡ 0 mod 400) -/
theorem leap_rule_all (y : Nat) : isYun y = isLeap (y + 2000) := isYun_eq_isLeap y

/-! ## the specification: the calendar by counting days

  `gregorian z` = start at 1970-01-01 and apply the textbook next-day rule z times (month lengths,
  leap years: divisible by 4 and not by 100, or by 400); `weekdayIter z` = start at Thursday and
  step modulo 7.  This independent, obviously-right definition is what "the standard calendar" means
  here; Go's time package is only the oracle of tie B. -/

/-- the closed forms used everywhere else are the counted calendar — for ALL days (all years) -/
theorem calendar_by_counting (z : Nat) : civil z = gregorian z ∧ weekdayMon z = weekdayIter z :=
  ⟨civil_eq_gregorian z, weekdayMon_eq_iter z⟩

/-- days ↔ (y, m, d) are inverse bijections with respect to the counted calendar -/
theorem counting_inverse (z y m d : Nat) (hy : 1970 ≤ y) (hv : ValidDate y m d) :
    daysFromCivil (gregorian z).y (gregorian z).m (gregorian z).d = z ∧
    ValidDate (gregorian z).y (gregorian z).m (gregorian z).d ∧
    gregorian (daysFromCivil y m d) = ⟨y, m, d⟩ := by
  simp only [← civil_eq_gregorian]
  exact ⟨days_civil z, (civil_day_by_day z).1, civil_days y m d hy hv⟩

/-- specialised to the century where the code's table applies: the table entries and the
    date/weekday helpers, stated against the counted calendar -/
theorem helpers_agree_with_counted_calendar (t : Int) (h : InCentury t) :
    yyyymmdd t = some (specYmd (gregorian (dayOf t))) ∧ weekdayIdx t = some (weekdayIter (dayOf t)) := by
  rw [← civil_eq_gregorian, ← weekdayMon_eq_iter]
  exact ⟨yyyymmdd_eq t h, weekdayIdx_eq t h⟩

theorem table_is_counted_calendar (i : Nat) (h : i < 36525) :
    dateTable[i]? = some ⟨(gregorian (10957 + i)).y, (gregorian (10957 + i)).m, (gregorian (10957 + i)).d,
      weekdayIter (10957 + i), 946684800000 + (i : Int) * 86400000⟩ := by
  rw [← civil_eq_gregorian, ← weekdayMon_eq_iter]; exact dateTable_get i h

/-- **the algorithm of open() is the calendar, for any number of years** (induction
    over the three loops + the calendar bijection).  Running the year loop for `n`
    years from the initial state yields, in order, exactly the Spec days from 2000-01-01 up to
    (but excluding) (2000+n)-01-01 — date, weekday index and start instant. -/
theorem open_is_calendar_any_years (n : Nat) :
    ∃ len, ((yearLoop n 0 St.init).1.map List.flatten).flatten = (List.range' 0 len).map specDay ∧
      10957 + len = daysFromCivil (2000 + n) 1 1 := open_loop_is_calendar n

/-- the century instance of `open_is_calendar_any_years` -/
theorem table_is_calendar_structural : dateTable = (List.range' 0 36525).map specDay :=
  dateTable_eq


/-- **table_is_calendar**: the 36 525 entries that open() stores in `dateTable`, in order, are
    exactly the days 2000-01-01 … 2099-12-31 of the Spec calendar — year, month, day, weekday
    index and start instant (`open_is_calendar_any_years` at a hundred years) -/
theorem table_is_calendar : dateTable = (List.range' 0 36525).map specDay := table_is_calendar_structural

theorem table_entry (i : Nat) (h : i < 36525) :
    dateTable[i]? = some ⟨(civil (10957 + i)).y, (civil (10957 + i)).m, (civil (10957 + i)).d,
      weekdayMon (10957 + i), 946684800000 + (i : Int) * 86400000⟩ := dateTable_get i h

/-- the table ends there: index 36 525 is the first one that panics in Go -/
theorem table_length : dateTable.length = 36525 := dateTable_length

/-- `table[yyyy-2000][mm-1][dd-1]` is the entry of that date -/
theorem table_by_date (i : Nat) (h : i < 36525) :
    2000 ≤ (civil (10957 + i)).y ∧ (civil (10957 + i)).y ≤ 2099 ∧
    1 ≤ (civil (10957 + i)).m ∧ 1 ≤ (civil (10957 + i)).d ∧
    lookup3 table3 ((civil (10957 + i)).y - 2000) ((civil (10957 + i)).m - 1) ((civil (10957 + i)).d - 1)
      = some (specDay i) :=
  ⟨(specDay_year i h).1, (specDay_year i h).2, (civil_fields _).1, (civil_fields _).2.2.1, table3_get i h⟩

/-- **weekday_ok**: the weekday index stored for day `i` is the calendar weekday, which is
    `(i + 5) mod 7` counted from Saturday 2000-01-01 (index 5; 0 = Monday).
    The label of index 3 is spelled "Thr" by the library: a naming matter, the index agrees. -/
theorem weekday_ok (i : Nat) (h : i < 36525) :
    (dateTable[i]?).map Day.wd = some (weekdayMon (10957 + i)) ∧ weekdayMon (10957 + i) = (i + 5) % 7 := by
  refine ⟨by rw [dateTable_get i h]; rfl, ?_⟩
  simp only [weekdayMon]; omega

/-- **intra_day**: the chain of `/` and `%` computes the unique (hh, mm, ss, sss) with
    hh < 24, mm < 60, ss < 60, sss < 1000 and ms = ((hh·60 + mm)·60 + ss)·1000 + sss -/
theorem intra_day (r : Nat) (h : r < 86400000) :
    let x := hmsOf r
    x.hh < 24 ∧ x.mm < 60 ∧ x.ss < 60 ∧ x.sss < 1000 ∧
    r = x.hh * 3600000 + x.mm * 60000 + x.ss * 1000 + x.sss := by
  intro x; simp only [x, hmsOf_eq]; exact specHMS_range r h

theorem intra_day_unique (r a b c d : Nat) (hb : b < 60) (hc : c < 60) (hd : d < 1000)
    (h : r = a * 3600000 + b * 60000 + c * 1000 + d) : hmsOf r = ⟨a, b, c, d⟩ := by
  simp only [hmsOf_eq, specHMS, HMS.mk.injEq]; omega

/-- the renderers are the fixed-width decimal digits on their ranges -/
theorem pads (n : Nat) : (n < 100 → mk2 n = render2 n ∧ pad0 2 n = render2 n) ∧
    (n < 1000 → mk3 n = render3 n ∧ pad0 3 n = render3 n) ∧ (n < 10000 → pad0 4 n = render4 n) :=
  ⟨fun h => ⟨mk2_pad0 n ▸ pad0_2_eq n h, pad0_2_eq n h⟩, fun h => ⟨mk3_pad0 n ▸ pad0_3_eq n h, pad0_3_eq n h⟩,
    pad0_4_eq n⟩

/-! ## the string helpers (**formats**) — each equals the rendering of the Spec calendar date of
    `t div day` and the decomposition of `t mod day`; in particular none panics in the century -/

theorem fmt_yyyymmdd (t : Int) (h : InCentury t) : yyyymmdd t = some (specYmd (civil (dayOf t))) :=
  yyyymmdd_eq t h

theorem fmt_weekday (t : Int) (h : InCentury t) :
    weekdayIdx t = some (weekdayMon (dayOf t)) ∧ weekdayMon (dayOf t) < 7 ∧
    weekday t = some (["Mon", "Tue", "Wed", "Thr", "Fri", "Sat", "Sun"].getD (weekdayMon (dayOf t)) "") ∧
    (∀ l, weekday t = some l → l ∈ ["Mon", "Tue", "Wed", "Thr", "Fri", "Sat", "Sun"]) := by
  have hlt : weekdayMon (dayOf t) < 7 := by simp only [weekdayMon]; omega
  refine ⟨weekdayIdx_eq t h, hlt, weekday_eq t h, ?_⟩
  intro l hl
  rw [weekday_eq t h] at hl
  have : ∀ k, k < 7 → wdayLabels.getD k "" ∈ ["Mon", "Tue", "Wed", "Thr", "Fri", "Sat", "Sun"] := by decide
  cases hl
  exact this _ hlt

theorem fmt_datetime (t : Int) (h : InCentury t) :
    datetime t = some (specYmd (civil (dayOf t)) ++ ' ' :: render2 (specHMS (msOfDay t)).hh ++ ':' ::
      render2 (specHMS (msOfDay t)).mm ++ ':' :: render2 (specHMS (msOfDay t)).ss) := by
  simp only [datetime, if_neg (Int.not_lt.mpr h.1), entry_century h, dtimeOf_eq h.1, hmsOf_eq, Option.map_some,
    (specDay_dayOf h).1, pad_hms]

/-- millisecond timestamp, with the three-digit pad (the repaired code; see `finding_D40`) -/
theorem fmt_timestamp (t : Int) (h : InCentury t) :
    timestamp t = some (specYmd (civil (dayOf t)) ++ ' ' :: render2 (specHMS (msOfDay t)).hh ++ ':' ::
      render2 (specHMS (msOfDay t)).mm ++ ':' :: render2 (specHMS (msOfDay t)).ss ++ '.' ::
      render3 (specHMS (msOfDay t)).sss) := by
  rw [timestamp, timestampWith_eq t h, (pad_hms t).2.2.2]

theorem fmt_logtime (t : Int) (h : InCentury t) :
    logtime t = render2 (specHMS (msOfDay t)).hh ++ ':' :: render2 (specHMS (msOfDay t)).mm ++ ':' ::
      render2 (specHMS (msOfDay t)).ss ++ '.' :: render3 (specHMS (msOfDay t)).sss := by
  rw [logtime, logtimeWith_eq t h.1, (pad_hms t).2.2.2]

theorem fmt_ymdhms (t : Int) (h : InCentury t) :
    ymdhms t = some (specYmd (civil (dayOf t)) ++ render2 (specHMS (msOfDay t)).hh ++
      render2 (specHMS (msOfDay t)).mm ++ render2 (specHMS (msOfDay t)).ss) := by
  simp only [ymdhms, if_neg (Int.not_lt.mpr h.1), entry_century h, dtimeOf_eq h.1, hmsOf_eq, Option.map_some,
    (specDay_dayOf h).1, pad_hms]

theorem fmt_hhmmss (t : Int) (h : InCentury t) :
    hhmmss t = render2 (specHMS (msOfDay t)).hh ++ render2 (specHMS (msOfDay t)).mm ++
      render2 (specHMS (msOfDay t)).ss := hhmmss_eq t h.1

theorem fmt_hhmm (t : Int) (h : InCentury t) :
    hhmm t = render2 (specHMS (msOfDay t)).hh ++ render2 (specHMS (msOfDay t)).mm := hhmm_eq t h.1

/-- **finding_D40** — with the two-digit pad that `timestamp`/`logtime` used before fix-D40,
    5 ms after midnight is printed ".05" (which reads as 50 ms), not ".005" -/
theorem finding_D40 :
    timestampWith mk2 946684800005 = some "20000101 00:00:00.05".toList ∧
    timestampWith mk2 946684800005 ≠ some "20000101 00:00:00.005".toList ∧
    timestamp 946684800005 = some "20000101 00:00:00.005".toList := by
  have h : InCentury 946684800005 := by decide
  rw [fmt_timestamp _ h, timestampWith_eq _ h]
  decide

/-! ## unit functions (**units_step**) -/

theorem units_value (t : Int) (h : BASE_TIME ≤ t) :
    getDateUnit t = (t - BASE_TIME) / 86400000 ∧ getMinUnit t = (t - BASE_TIME) / 60000 ∧
    getFiveMinUnit t = (t - BASE_TIME) / 300000 :=
  ⟨dateUnit_eq t h, minUnit_eq t h, fiveMinUnit_eq t h⟩

/-- monotone; one step further is exactly one unit more; the value changes only at multiples
    of the step counted from the base instant -/
theorem units_step (t t' : Int) (h : BASE_TIME ≤ t) (htt : t ≤ t') :
    (getDateUnit t ≤ getDateUnit t' ∧ getDateUnit (t + 86400000) = getDateUnit t + 1 ∧
      getDateUnit (t + 1) = getDateUnit t + (if (t + 1 - BASE_TIME) % 86400000 = 0 then 1 else 0)) ∧
    (getMinUnit t ≤ getMinUnit t' ∧ getMinUnit (t + 60000) = getMinUnit t + 1 ∧
      getMinUnit (t + 1) = getMinUnit t + (if (t + 1 - BASE_TIME) % 60000 = 0 then 1 else 0)) ∧
    (getFiveMinUnit t ≤ getFiveMinUnit t' ∧ getFiveMinUnit (t + 300000) = getFiveMinUnit t + 1 ∧
      getFiveMinUnit (t + 1) = getFiveMinUnit t + (if (t + 1 - BASE_TIME) % 300000 = 0 then 1 else 0)) :=
  ⟨unit_step 86400000 (by decide) t t' h htt, unit_step 60000 (by decide) t t' h htt,
    unit_step 300000 (by decide) t t' h htt⟩

/-! ## date string → time (**ymd_inverse**) -/

theorem ymd_inverse (t : Int) (h : InCentury t) :
    (yyyymmdd t).bind getYmdTime = some (t - (t - BASE_TIME) % MILLIS_PER_DAY) := by
  rw [getYmdTime_yyyymmdd h]
  have := h.1
  simp only [BASE_TIME, MILLIS_PER_DAY, dayOf] at this ⊢
  congr 1; omega

/-! ## DateFormat: Parse ∘ format

  Full statement of the property (NOT a theorem of the code as it is — candidate defect D41):

      ∀ pat now t,  parse pat now (format pat (fieldsOf t)) = some (truncTo pat t)

  i.e. the instant truncated to the fields present in the pattern, whatever the clock shows.
  What holds: the characterisation `format_parse_now`; the property for patterns that contain
  all seven letters (`format_parse_partial`); the property if absent fields were filled with
  their least values instead of the clock (`format_parse_if_origin`); and a witness that the
  full statement fails (`finding_D41`). -/

/-- present fields come back from the text, absent ones are read from the clock.
    (`dateToMs` works on naturals, so for a clock whose year is below 1970 its truncated
    subtraction would not be Go's arithmetic; the integer model `parseObj`/`dateToMsZ` has no such
    region — `obj_format_parse` is the statement without it, `obj_fresh` the bridge for calendar fields.) -/
theorem format_parse_now (pat : List Char) (now : Fields) (t : Nat) (h : t < 2900000 * MS_DAY) :
    parse pat now (format pat (fieldsOf t)) = some (dateToMs (merge pat (fieldsOf t) now)) :=
  parse_format pat now t h

/-- **format_parse_partial** — hypothesis: every field letter occurs in the pattern (any order,
    repetitions and any literal runes in between allowed).  Then Parse ∘ format is the identity
    on instants (for all instants before the year 9909, in particular the century). -/
theorem format_parse_partial (pat : List Char) (now : Fields) (t : Nat) (h : t < 2900000 * MS_DAY)
    (hall : ∀ c ∈ ['y', 'm', 'd', 'H', 'M', 'S', 's'], c ∈ pat) :
    parse pat now (format pat (fieldsOf t)) = some t := by
  rw [parse_format pat now t h, merge_all pat _ now hall, dateToMs_fieldsOf]

/-- with least values in place of the clock the full property would hold for every pattern -/
theorem format_parse_if_origin (pat : List Char) (t : Nat) (h : t < 2900000 * MS_DAY) :
    parse pat Fields.origin (format pat (fieldsOf t)) = some (truncTo pat t) :=
  parse_format pat _ t h

/-- **finding_D41** — pattern "y-m-d", t = 2024-02-29T12:34:56.789Z, clock = 2026-09-29T00:33:54.141Z:
    the text is "2024-02-29", the parse gives 2024-02-29T00:33:54.141Z, the truncation is
    2024-02-29T00:00:00.000Z -/
theorem finding_D41 :
    format "y-m-d".toList (fieldsOf 1709210096789) = "2024-02-29".toList ∧
    parse "y-m-d".toList (fieldsOf 1790642034141) "2024-02-29".toList = some 1709166834141 ∧
    truncTo "y-m-d".toList 1709210096789 = 1709164800000 ∧
    ¬ (parse "y-m-d".toList (fieldsOf 1790642034141) (format "y-m-d".toList (fieldsOf 1709210096789))
        = some (truncTo "y-m-d".toList 1709210096789)) := by decide +kernel

/-- the statement of `format_parse_partial` quantifies over *every* pattern: letters may repeat
    ("yy" prints and reads the year twice), literal runes may be anything that is not one of the
    seven letters (digits, other letters, non-ASCII), in any position -/
example : ∀ c ∈ ['y', 'm', 'd', 'H', 'M', 'S', 's'], c ∈ "y년m월d일 H:M:S.s (y) 0Tx→m".toList := by decide
example : parse "yy-m-d H:M:S.s,s".toList Fields.origin
    (format "yy-m-d H:M:S.s,s".toList (fieldsOf 1709210096789)) = some 1709210096789 :=
  format_parse_partial _ _ _ (by decide) (by decide)

/-! ## the DateFormat object: signed fields, the map that survives between Parse calls -/

/-- `strconv.Atoi` as `ToInt` uses it: an optional sign is accepted, so a field text "-5" is -5 -/
theorem atoi_signs : atoiZ "-5".toList = some (-5) ∧ atoiZ "+7".toList = some 7 ∧ atoiZ "07".toList = some 7 ∧
    atoiZ "-".toList = none ∧ atoiZ "5-".toList = none ∧ atoiZ [] = none := by decide

/-- unsigned digit strings mean the same to the signed and the unsigned model -/
theorem atoi_unsigned (cs : List Char) (v : Nat) (h : atoiNat cs = some v) : atoiZ cs = some (v : Int) :=
  atoiZ_of_atoiNat cs v h

/-- Parse after format on an object with **any** prior map `st`: present letters from the text,
    absent letters from the map if it has them, else from the clock; afterwards the map is full -/
theorem obj_format_parse (st : PStateZ) (pat : List Char) (f now : Fields) (hf : FieldsOk f) :
    (parseObj st pat now (format pat f)).2 = some (dateToMsZ (mergeZ pat f st now)) ∧
    (parseObj st pat now (format pat f)).1.Full := parseObj_format st pat f now hf

/-- with all seven letters the identity holds on every object, fresh or reused -/
theorem obj_format_parse_all (st : PStateZ) (pat : List Char) (now : Fields) (t : Nat)
    (h1 : 365 * MS_DAY ≤ t) (h2 : t < 2900000 * MS_DAY)
    (hall : ∀ c ∈ ['y', 'm', 'd', 'H', 'M', 'S', 's'], c ∈ pat) :
    (parseObj st pat now (format pat (fieldsOf t))).2 = some (t : Int) :=
  parseObj_format_all st pat now t h2 hall

/-- a fresh object is the model of the `format_parse_*` theorems -/
theorem obj_fresh (pat : List Char) (now : Fields) (t : Nat) (h1 : 365 * MS_DAY ≤ t)
    (h2 : t < 2900000 * MS_DAY) (hn : CalFields now) :
    (parseObj {} pat now (format pat (fieldsOf t))).2 = (parse pat now (format pat (fieldsOf t))).map Int.ofNat := by
  obtain ⟨a1, a2, a3, a4⟩ := fieldsOf_date t
  obtain ⟨b1, b2, b3, b4⟩ := hn
  have b1 : 1970 ≤ now.y := Nat.le_of_succ_le b1
  rw [parseObj_fresh pat now _ _ (parseFields_format pat _ now (fieldsOf_ok' t h2)), dateToMsZ_cast,
    parse_format pat now t h2]
  · rfl
  -- the side conditions of `dateToMsZ_cast`: each merged field is the text's or the clock's
  all_goals simp only [merge]; split <;> assumption

/-- after any successful Parse the map holds all seven keys … -/
theorem obj_success_fills (st : PStateZ) (pat : List Char) (now : Fields) (inp : List Char)
    (h : (parseObj st pat now inp).2.isSome) : (parseObj st pat now inp).1.Full := by
  revert h
  fun_cases parseObj st pat now inp <;> intro h
  · exact fill_full _ _
  · cases h

/-- … and on a full map the clock is never consulted: the result is the same for any two clock
    readings (absent fields are the ones stored by the earlier call) -/
theorem obj_reuse_ignores_clock (st : PStateZ) (pat : List Char) (f now₁ now₂ : Fields) (hf : FieldsOk f)
    (hfull : st.Full) :
    (parseObj st pat now₁ (format pat f)).2 = (parseObj st pat now₂ (format pat f)).2 :=
  congrArg Prod.snd (parseObj_full_clock_free st pat now₁ now₂ _ hfull)

/-- **finding_reuse** (same family as D41) — one object, pattern "y-m-d":
    Parse("2024-02-29") at 2026-09-29T00:33:54.141Z, then Parse("2025-03-01") a day and some hours
    later (2026-09-30T00:34:04.999Z): the second result is 2025-03-01T00:33:54.141Z — the time of
    day of the *first* call's clock, neither the truncation nor the second call's clock -/
theorem finding_reuse :
    parseHistory "y-m-d".toList {} [(fieldsOf 1790642034141, "2024-02-29".toList),
      (fieldsOf 1790728444999, "2025-03-01".toList)] = [some 1709166834141, some 1740789234141] ∧
    (1740789234141 : Int) ≠ 1740787200000 ∧
    (parseObj {} "y-m-d".toList (fieldsOf 1790728444999) "2025-03-01".toList).2 = some 1740789244999 := by
  decide +kernel

/-! ## whole histories on one DateFormat object -/

/-- splitting a history: the second part runs from the map the first part left -/
theorem obj_history_append (pat : List Char) (h1 h2 : List (Fields × List Char)) (st : PStateZ) :
    parseHistory pat st (h1 ++ h2) = parseHistory pat st h1 ++ parseHistory pat (stateAfter pat st h1) h2 := by
  induction h1 generalizing st with
  | nil => rfl
  | cons c h1 ih => simp only [List.cons_append, parseHistory, stateAfter, ih]

/-- all seven letters: after ANY earlier history (arbitrary texts, failing calls included — `st` is
    arbitrary) a run of calls on format outputs returns exactly the formatted instants -/
theorem obj_history_all (pat : List Char) (hall : ∀ c ∈ ['y', 'm', 'd', 'H', 'M', 'S', 's'], c ∈ pat)
    (calls : List (Fields × Nat)) (st : PStateZ)
    (hr : ∀ c ∈ calls, 365 * MS_DAY ≤ c.2 ∧ c.2 < 2900000 * MS_DAY) :
    parseHistory pat st (calls.map fun c => (c.1, format pat (fieldsOf c.2))) =
      calls.map fun c => some (c.2 : Int) := by
  induction calls generalizing st with
  | nil => rfl
  | cons c calls ih =>
    have hc := hr c (List.mem_cons_self ..)
    simp only [List.map_cons, parseHistory]
    rw [parseObj_format_all st pat c.1 c.2 hc.2 hall, ih _ fun x hx => hr x (List.mem_cons_of_mem _ hx)]

/-- a full map (any earlier success): the call's result and the map it leaves do not depend on
    the clock, for ANY text … -/
theorem obj_full_clock_free (st : PStateZ) (pat : List Char) (now₁ now₂ : Fields) (inp : List Char)
    (h : st.Full) : parseObj st pat now₁ inp = parseObj st pat now₂ inp :=
  parseObj_full_clock_free st pat now₁ now₂ inp h

/-- … hence whole histories with the same texts and different clock readings agree call by call -/
theorem obj_history_clock_free (pat : List Char) (calls : List (Fields × Fields × List Char)) (st : PStateZ)
    (h : st.Full) :
    parseHistory pat st (calls.map fun c => (c.1, c.2.2)) = parseHistory pat st (calls.map fun c => (c.2.1, c.2.2)) := by
  induction calls generalizing st with
  | nil => rfl
  | cons c calls ih =>
    simp only [List.map_cons, parseHistory]
    rw [parseObj_full_clock_free st pat c.1 c.2.1 c.2.2 h, ih _ (parseObj_keeps_full st pat c.2.1 c.2.2 h)]

/-- the repair proposed for the reuse defect (map cleared on entry): every call of any history is a
    call on a fresh object -/
theorem obj_reset_history_fresh (pat : List Char) (calls : List (Fields × List Char)) (st : PStateZ) :
    parseHistoryReset pat st calls = calls.map fun c => (parseObj {} pat c.1 c.2).2 := by
  induction calls generalizing st with
  | nil => rfl
  | cons c calls ih => simp only [parseHistoryReset, parseObjReset, List.map_cons, ih]

/-! ## the exported functions as a state machine (DateUtil.go): frame and purity over histories -/

/-- only SetDelta / SetServerTime change the package state -/
theorem pkg_frame (clock : Int) (s : Pkg) (c : Call) (h : c.isSetter = false) : (step clock s c).1 = s := by
  cases c <;> first | rfl | (simp [Call.isSetter] at h)

/-- at any position of any history — whatever calls came before, setters included, whatever the
    clock — an instant- or string-taking helper answers what it answers alone -/
theorem pkg_history_pure (h : List (Int × Call)) (s : Pkg) (k : Nat) (clock : Int) (c : Call) (a : Ans)
    (hk : h[k]? = some (clock, c)) (hp : pureAns c = some a) : (run s h)[k]? = some a := by
  fun_induction run s h generalizing k with
  | case1 => cases hk
  | case2 s cl cx rest ih =>
    cases k with
    | zero => cases hk; rw [List.getElem?_cons_zero, step_pure clock s c a hp]
    | succ k => exact ih k hk

/-- the clock-reading variants render SystemNow() + delta, delta being what the last setter left -/
theorem pkg_now_variants (h : List (Int × Call)) (s : Pkg) (clock : Int) :
    run s (h ++ [(clock, .timeStampNow)]) = run s h ++ [.str (timestamp (clock + (pkgAfter s h).delta))] ∧
    run s (h ++ [(clock, .ymdNow)]) = run s h ++ [.str (yyyymmdd (clock + (pkgAfter s h).delta))] ∧
    run s (h ++ [(clock, .dateUnitNow)]) = run s h ++ [.int (some (getDateUnit (clock + (pkgAfter s h).delta)))] ∧
    run s (h ++ [(clock, .now)]) = run s h ++ [.int (some (clock + (pkgAfter s h).delta))] := by
  induction h generalizing s with
  | nil => exact ⟨rfl, rfl, rfl, rfl⟩
  | cons x h ih =>
    obtain ⟨a, b, c, d⟩ := ih (step x.1 s x.2).1
    simp only [List.cons_append, run, pkgAfter, a, b, c, d, and_self]

theorem pkg_setDelta (h : List (Int × Call)) (s : Pkg) (clock d : Int) :
    pkgAfter s (h ++ [(clock, .setDelta d)]) = ⟨d⟩ := by
  induction h generalizing s with
  | nil => rfl
  | cons x h ih => simp only [List.cons_append, pkgAfter, ih]

/-! ## DateFormat in a zone with constant offset (non-hour offsets included) -/

/-- format in the zone, Parse with time.Local in the same zone: identity on instants for patterns with
    all seven letters, on any object -/
theorem format_parse_fixed_offset (off : Int) (st : PStateZ) (pat : List Char) (now t : Nat)
    (h1 : 365 * (MS_DAY : Int) ≤ (t : Int) + off) (h2 : (t : Int) + off < 2900000 * (MS_DAY : Int))
    (hall : ∀ c ∈ ['y', 'm', 'd', 'H', 'M', 'S', 's'], c ∈ pat) :
    (parseObjIn off st pat now (formatIn off pat t)).2 = some (t : Int) := by
  have e : (((t : Int) + off).toNat : Int) = (t : Int) + off := Int.toNat_of_nonneg (by simp only [MS_DAY] at h1; omega)
  have g2 : ((t : Int) + off).toNat < 2900000 * MS_DAY := by simp only [MS_DAY] at h2 ⊢; omega
  unfold parseObjIn formatIn fieldsOfIn
  simp only []
  rw [parseObj_format_all st pat _ _ g2 hall, Option.map_some, e]
  congr 1; omega

/-! ## non-vacuity -/

example : InCentury 946684800000 ∧ InCentury 4102444799999 ∧ ¬ InCentury 4102444800000 := by decide
example : (1709210096789 : Nat) < 2900000 * MS_DAY := by decide
example : ∀ c ∈ ['y', 'm', 'd', 'H', 'M', 'S', 's'], c ∈ "y-m-d H:M:S.s".toList := by decide
example : format "y-m-d H:M:S.s".toList (fieldsOf 1709210096789) = "2024-02-29 12:34:56.789".toList := by
  decide +kernel
example : hmsOf 45296789 = ⟨12, 34, 56, 789⟩ := by decide
example : parseHistory "ymdHMSs".toList {} ([(fieldsOf 1790642034141, 1709210096789), (Fields.origin, 946684800005)].map
    fun c => (c.1, format "ymdHMSs".toList (fieldsOf c.2))) = [some 1709210096789, some 946684800005] := by decide +kernel
example : ∀ c ∈ [(fieldsOf 1790642034141, (1709210096789 : Nat))], 365 * MS_DAY ≤ c.2 ∧ c.2 < 2900000 * MS_DAY := by decide +kernel
example : (Call.hhmm 5).isSetter = false ∧ pureAns (.hhmm 946684800000) = some (.str (some "0000".toList)) := by decide +kernel
example : gregorian 59 = ⟨1970, 3, 1⟩ ∧ weekdayIter 4 = 0 := by decide +kernel
example : formatIn 20700000 "y-m-d H:M:S.s".toList 1709210096789 = "2024-02-29 18:19:56.789".toList := by decide +kernel
example : run ⟨0⟩ [(1000, .setDelta 946684799000), (1005, .now), (2000, .hhmm 946684800000)] =
    [.unit, .int (some 946684800005), .str (some "0000".toList)] := by decide +kernel
example : ValidDate 2024 2 29 ∧ ¬ ValidDate 2023 2 29 ∧ ¬ ValidDate 2100 2 29 := by decide
example : (365 * MS_DAY ≤ 1709210096789) ∧ CalFields (fieldsOf 1790642034141) := by decide +kernel
example : (PStateZ.fill {} (fieldsOf 1790642034141)).Full := fill_full _ _
example : FieldsOk (fieldsOf 1709210096789) := fieldsOf_ok' _ (by decide)

/-! ## the exported field primitives `LPadInt` / `ToInt`, and what a literal is -/

/-- the exported `LPadInt` on a non-negative value and width is the `pad0` the format model is built from -/
theorem lpadInt_nonneg (n w : Nat) : lpadInt (n : Int) (w : Int) = pad0 w n := by
  have h1 : itoaZ (n : Int) = itoa n := by simp [itoaZ]
  unfold lpadInt pad0
  simp only [h1]
  split
  · rename_i h
    have : w - (itoa n).length = 0 := by omega
    simp [this]
  · rename_i h
    have : ((w : Int) - ((itoa n).length : Int)).toNat = w - (itoa n).length := by omega
    rw [this]

/-- **`LPadInt` and `ToInt` are inverse on every field**: what `format` writes for a field of width 2, 3 or 4
    (`LPadInt(v, w)`, v below 10^w) is read back by `ToInt(r, w)` as `v`, leaving exactly the rest of the text —
    whatever follows (arbitrary trailing runes) -/
theorem lpad_toInt_inverse (w n : Nat) (rest : List Char)
    (h : (w = 2 ∧ n < 100) ∨ (w = 3 ∧ n < 1000) ∨ (w = 4 ∧ n < 10000)) :
    toIntZ (lpadInt (n : Int) (w : Int) ++ rest) w = some ((n : Int), rest) := by
  rw [lpadInt_nonneg]
  refine toIntZ_of_toInt _ _ _ _ ?_
  rcases h with ⟨rfl, h⟩ | ⟨rfl, h⟩ | ⟨rfl, h⟩ <;> exact toInt_pad0 _ n rest (by decide) h

/-- "patterns composed of the supported field letters and literal separators": the field letters are exactly
    y m d H M S s — -/
theorem field_letters_exactly (c : Char) :
    (letterWidth c).isSome = true ↔ c ∈ ['y', 'm', 'd', 'H', 'M', 'S', 's'] := letterWidth_isSome c

/-- — and **every other rune is a literal**, whichever it is (apostrophe, backslash, percent, digit, another letter,
    non-ASCII): `format` copies it and goes on, `Parse` (while the index is inside the text) skips one rune of the
    input and goes on, with the field map untouched.  No rune quotes, escapes or repeats anything. -/
theorem literal_rune (c : Char) (hc : c ∉ ['y', 'm', 'd', 'H', 'M', 'S', 's']) (f : Fields)
    (sz i : Nat) (pat inp : List Char) (p : PStateZ) (hi : i < sz) :
    format (c :: pat) f = c :: format pat f ∧
    parseLoopZ sz (c :: pat) i inp p = parseLoopZ sz pat (i + 1) (inp.drop 1) p := by
  have hn : letterWidth c = none := by
    rcases rune_cases c with rfl | rfl | rfl | rfl | rfl | rfl | rfl | h <;>
      first | exact absurd (by decide) hc | exact h.1
  constructor
  · simp [format, List.flatMap_cons, fmtRune, hn]
  · simp [parseLoopZ, hn, Nat.not_le.mpr hi]

/-- `LPadInt` outside the range `format` uses it in: the sign of a negative value ends up behind the padding, a text
    longer than the width is not cut, a negative width pads nothing (observations, compared by stage M) -/
example : lpadInt (-5) 3 = "0-5".toList ∧ lpadInt 12345 2 = "12345".toList ∧ lpadInt 7 (-1) = "7".toList := by decide

/-- the apostrophe, the backslash and the percent sign are literals like any other: the round trip holds with them
    between, around and after the field letters (the pattern of a quoted-literal dialect, read literally) -/
example : parse "y-m-d'T'H:M:S.s'".toList Fields.origin
    (format "y-m-d'T'H:M:S.s'".toList (fieldsOf 1709210096789)) = some 1709210096789 :=
  format_parse_partial _ _ _ (by decide) (by decide)
example : format "H'M\\S%s".toList (fieldsOf 1709210096789) = "12'34\\56%789".toList := by decide
example : toIntZ (lpadInt 45 3 ++ "rest".toList) 3 = some (45, "rest".toList) := lpad_toInt_inverse 3 45 _ (by omega)
example : 'T' ∉ ['y', 'm', 'd', 'H', 'M', 'S', 's'] ∧ '\'' ∉ ['y', 'm', 'd', 'H', 'M', 'S', 's'] := by decide

end C19
