/-
  Property C04, tie A — obligations over the allocation-site table regenerated from the Go
  sources on every run (xlate/c04 → Golib/Gen/AllocSites.lean).

  The table lists every `make(T, n)` of io, lang/** and util/hll whose size flows from a `Read*`
  result of the same function, with the `Read*` method the size comes from and whether a guard
  (`CheckCount(n, …)` / `if n > Available() { panic }`) precedes it.  The model
  (Golib.FailClosed) assumes: guarded `make`s (`A.need` before `A.alloc`), no ahead-of-read
  allocation in the two recursive containers, and a `ReadBytes` that checks before it allocates.
-/
import Golib.Gen.AllocSites
import Golib.Gen.PackLayouts
import Golib.Layout.Prefix
import Golib.Layout.ValueInst
import Golib.FailClosed.LayoutA
import Golib.Packs.Irregular
import Golib.Packs.Hand
import Golib.Props.C03Cover

namespace C04Gen
open Gen.AllocSites

/-- a count read with `ReadByte` is at most 255: the allocation is bounded by a constant -/
def smallCount (s : Site) : Bool := s.source == "ReadByte"

/-- unguarded sites recorded as known findings rather than repaired: none -/
def knownUnguarded : List String := []

/-- every listed allocation is guarded, bounded by an 8-bit count, or a listed known finding -/
theorem all_sites_guarded :
    sites.all (fun s => s.guarded || smallCount s || knownUnguarded.contains s.func) = true := by
  decide +kernel

/-- `ReadBytes` refuses a size larger than what is buffered before it allocates (D01 + D02) -/
theorem readBytes_checks_before_make : readBytesChecksBeforeMake = true := by decide +kernel

/-- the two recursive containers do not allocate from their count at all (a guard bounds one
    nesting level only; the model's linear bound needs growth with the elements decoded) -/
theorem recursive_containers_grow_lazily :
    sites.all (fun s => s.func != "value.(*ListValue).Read" && s.func != "pack.(*CompositePack).Read")
      = true := by decide +kernel

/-- the translator still recognises the decoders (the table is not vacuous) -/
theorem sites_found : 15 ≤ sites.length := by decide +kernel

/-! ## a reader holds its own input and nothing else

    The models run a decoder on exactly its input (`P.run p bs`; sub-streams: a new reader over exactly
    the blob).  On the Go side that is: the only function that stores into a reader's buffer is the
    constructor, and no reader is kept beyond one decode (no field, package variable or pool of readers).
    With these two facts the reset of `C04.pooled_history_is_per_input` is the replacing one. -/

/-- no method of `DataInputX` (and no function of package io returning one) but `NewDataInputX` stores
    into a reader's buffer, appends to it or moves its read position back -/
theorem reader_buffer_set_only_by_constructor : bufferWriters = ["io.NewDataInputX"] := by decide +kernel

/-- no reader outlives a decode: no struct field, package-level variable or type assertion (pool) of
    type `DataInputX` in io, lang/**, util/hll -/
theorem no_reader_outlives_a_decode : keptReaders = [] := by decide +kernel

/-! ## the guards, interpreted (Golib.FailClosed.SiteCheck)

    `progs` is the transcription of every function that sizes an allocation from a decoded value.
    `safe` is the dominance check; its soundness against the statement semantics `Exec` is proved
    once (`FailClosed.Sites.safe_sound`), so the `decide` below yields a statement about every
    execution of these functions. -/

open FailClosed.Sites in
theorem progs_safe : progs.all (fun p => safe p.2 []) = true := by decide +kernel

/-- the statement programs cover exactly the listed sites -/
theorem progs_cover_sites :
    sites.all (fun s => progs.any (fun p => p.1 == s.func)) = true ∧
    (progs.map (fun p => p.2.makes)).sum = sites.length := by decide +kernel

/-- **every allocation sized from the input is bounded by the input** (buffer path): in every
    execution of a listed function that is entered with at most `N` bytes available — whatever
    the decoded values, however many bytes each read consumes, however often a loop body or branch
    runs — each `make([]T, x)` / `New…Map(x)` it performs has `x ≤ max N 255` -/
theorem every_site_bounded_by_input (f : String) (p : FailClosed.Sites.Prog) (hp : (f, p) ∈ progs)
    (N : Nat) (s s' : FailClosed.Sites.St) (ha : s.avail ≤ N) (hl : s.log = [])
    (hx : FailClosed.Sites.Exec p s s') : ∀ e ∈ s'.log, e.2 ≤ max (N : Int) 255 := by
  have h := List.all_eq_true.mp progs_safe (f, p) hp
  exact (FailClosed.Sites.safe_sound N p s s' hx [] h (fun x hx => nomatch hx) ha
    (fun e he => by rw [hl] at he; cases he)).1

/-- non-vacuity: `TextPack.Read` with 100 bytes available, count 16 (16·6 ≤ 100) allocates 16 -/
example : FailClosed.Sites.Exec
    (.read "size" "ReadDecimal" (.check "size" 6 (.make "[]TextRec" "size" .done)))
    ⟨fun _ => 0, 100, []⟩ ⟨fun y => if y = "size" then 16 else 0, 99, [("[]TextRec", 16)]⟩ := by
  refine .read _ _ _ _ _ 16 99 (by intro h; exact absurd h (by decide)) (by decide) ?_
  refine .check _ _ _ _ _ (by decide) (by decide) ?_
  exact .make _ _ _ _ _ (.done _)

/-! ## count-driven loops and additive readers -/

/-- every `for i < n` loop of the decoders whose bound is a decoded value reads from the stream in its
    body (or is bounded by a one-byte count): each iteration consumes input, so the loop runs at most
    as often as there are bytes (the model's `FailClosed.elemsA_consumes`) — no count found in the
    input can make a decoder spin or allocate without consuming -/
theorem count_loops_read :
    countLoops.all (fun l => l.bodyReads || l.source == "ReadByte") = true ∧ 40 ≤ countLoops.length := by decide +kernel

/-- the `Read` methods that add to a table the object already holds instead of replacing it — the
    exact exceptions of object reuse (FailClosed.Reuse.additive_not_reset; harness:
    `reuse:read-is-additive:*`).  A new one appearing in the source breaks this obligation. -/
theorem additive_readers_exact : additiveReaders =
    ["pack.(*EventPack).Read:Attr", "pack.(*ParamPack).Read:table", "pack.(*StatRemoteIpPack).Read:IpTable",
     "pack.(*StatUserAgentPack).Read:UserAgents", "value.(*IntMapValue).Read:table",
     "value.(*MapValue).Read:table"] := by decide +kernel

/-! ## packs: prefix failure for every transcribed reader (C03's layouts) -/

open Layout Gen.Packs

theorem generated_readers_tailFree : all.all (fun t => t.2.2.tailFree) = true := C03Gen.generated_readers_tailFree

/-- whatever transcribed pack / record reader `r` (all of lang/pack that `xlate/c03` transcribes): if
    `q ++ s` is read completely and `s ≠ []`, the strict prefix `q` is refused -/
theorem generated_reader_prefix_fails (t : String × L × L) (ht : t ∈ all) (pfx : String) (e : Env)
    (q s : Bytes) (o : Out) (e' : Env) (hs : s ≠ [])
    (h : t.2.2.read pfx e (q ++ s) = some (o, e', [])) : t.2.2.read pfx e q = none :=
  read_prefix_fails t.2.2 (List.all_eq_true.mp generated_readers_tailFree t ht) pfx e q s o e' hs h

/-- … and for the layouts whose transcribed writer and reader agree (most of them; the others have
    hand-written writer layouts in C03): no strict prefix of what the *writer* emits for a
    well-formed record is accepted by the reader -/
theorem generated_pack_encoding_prefix_fails (t : String × L × L) (ht : t ∈ all)
    (ha : agrees t.2.1 t.2.2 = true) (E : Env) (pfx : String) (x : Rec)
    (hwf : t.2.1.WF valueRT E pfx x) (q s : Bytes) (hs : s ≠ [])
    (hq : q ++ s = t.2.1.write E pfx x) : t.2.2.read pfx E q = none :=
  encoding_prefix_fails valueRT t.2.1 t.2.2 ha (List.all_eq_true.mp generated_readers_tailFree t ht) E pfx x hwf q s hs hq

/-! ## packs: allocation bound for every transcribed reader, by induction on the layout IR

    `FailClosed.toA` is `Layout.L.read` with its allocations (reads byte for byte, a table as
    `CheckCount(n, 1); make(n elements of ≤ 512 bytes)`, sub-streams charged what decoding the
    blob costs).  `costOK`: only constructors the instrumented reader handles, every table element
    beginning with a read. -/

open FailClosed in
theorem generated_readers_costOK : all.all (fun t => costOK t.2.2 && decide (coef t.2.2 ≤ 8192)) = true := by
  decide +kernel

/-- the instrumented reader of every transcribed layout reads exactly what the layout reader of
    C03 reads: guards and allocations are invisible in the result -/
theorem generated_instrumented_same (t : String × L × L) (ht : t ∈ all) (F : Nat) (pfx : String)
    (e : Env) (bs : Bytes) (hF : bs.length + 2 ≤ F) :
    FailClosed.A.run (FailClosed.toA F t.2.2 pfx e) bs = (t.2.2.read pfx e bs).map FailClosed.reshape := by
  have h := List.all_eq_true.mp generated_readers_costOK t ht
  simp only [Bool.and_eq_true] at h
  exact FailClosed.run_toA F t.2.2 h.1 pfx e bs hF

/-- **alloc_bounded for every transcribed pack / record reader**: at most 8192 bytes per input
    byte (the largest `coef` is 3586 today; 8192 leaves room for regenerated layouts), on every byte string (valid, truncated or corrupted) -/
theorem generated_pack_alloc_bounded (t : String × L × L) (ht : t ∈ all) (F : Nat) (pfx : String)
    (e : Env) (bs : Bytes) :
    FailClosed.A.cost (FailClosed.toA F t.2.2 pfx e) bs ≤ 8192 * bs.length := by
  have h := List.all_eq_true.mp generated_readers_costOK t ht
  simp only [Bool.and_eq_true, decide_eq_true_eq] at h
  exact Nat.le_trans (FailClosed.cost_toA_le F t.2.2 h.1 pfx e bs) (Nat.mul_le_mul_right _ h.2)

/-- non-vacuity: TextPack's transcribed reader on a header, one record (div 7, hash 9, "A"): 534 units,
    and on the hostile count 2^31-1 the guard stops it after the 18 bytes read -/
example : FailClosed.A.cost (FailClosed.toA 1000 TextPack.r "" (fun _ => 0))
    [0,0,0,0,1,0,0,0,0,0,0,0,2, 1,1, 7, 0,0,0,9, 1,65] = 534 := by decide +kernel
example : FailClosed.A.cost (FailClosed.toA 1000 TextPack.r "" (fun _ => 0))
    [0,0,0,0,1,0,0,0,0,0,0,0,2, 4,127,255,255,255] = 18 := by decide +kernel

/-- non-vacuity (lower bounds, so that a regenerated table with more layouts does not break it) -/
theorem agreeing_layouts_count :
    30 ≤ (all.filter (fun t => agrees t.2.1 t.2.2)).length ∧ 40 ≤ all.length := by
  -- every entry but TransactionRec (covered per version) and the four whose reader fills `Count` stands in
  -- `C03Gen.covered` unchanged, so it agrees (`covered_agree`); counting those names is enough
  have hc : 30 ≤ (all.filter fun t => t.1 != "TransactionRec" && !C03Gen.countForgotten.contains t.1).length ∧
      40 ≤ all.length := by decide +kernel
  refine ⟨Nat.le_trans hc.1 ?_, hc.2⟩
  rw [← List.countP_eq_length_filter, ← List.countP_eq_length_filter]
  refine List.countP_mono_left fun t ht hk => ?_
  simp only [Bool.and_eq_true, Bool.not_eq_true'] at hk
  exact List.all_eq_true.mp C03Gen.covered_agree t (List.mem_append_right _
    (List.mem_map.mpr ⟨t, List.mem_filter.mpr ⟨ht, hk.1⟩, by rw [hk.2]; rfl⟩))

/-! ## the hand-completed reader layouts of C03 (tables the translator leaves as parameters, CounterPack1's
    sections, StatGeneralPack's cached table): `toA` handles every IR constructor, so the same
    two theorems hold for them -/

def handReaders : List (String × L) := [
  ("CounterPack1", Packs.Irregular.CounterPack1.r),
  ("StatGeneralPack", Packs.Irregular.StatGeneralPack.l),
  ("StatGeneralPack1", Packs.Irregular.StatGeneralPack1.l),
  ("StatGeneralTable", Packs.Irregular.StatGeneralTable.l),
  ("ParamPack", Packs.Hand.ParamPack.r),
  ("ExtensionPack", Packs.Hand.ExtensionPack.r),
  ("EventPack", Packs.Hand.EventPack.r)]

open FailClosed in
theorem hand_readers_costOK : handReaders.all (fun t => costOK t.2 && decide (coef t.2 ≤ 8192)) = true := by decide +kernel

theorem hand_instrumented_same (t : String × L) (ht : t ∈ handReaders) (F : Nat) (pfx : String)
    (e : Env) (bs : Bytes) (hF : bs.length + 2 ≤ F) :
    FailClosed.A.run (FailClosed.toA F t.2 pfx e) bs = (t.2.read pfx e bs).map FailClosed.reshape := by
  have h := List.all_eq_true.mp hand_readers_costOK t ht
  simp only [Bool.and_eq_true] at h
  exact FailClosed.run_toA F t.2 h.1 pfx e bs hF

theorem hand_pack_alloc_bounded (t : String × L) (ht : t ∈ handReaders) (F : Nat) (pfx : String)
    (e : Env) (bs : Bytes) : FailClosed.A.cost (FailClosed.toA F t.2 pfx e) bs ≤ 8192 * bs.length := by
  have h := List.all_eq_true.mp hand_readers_costOK t ht
  simp only [Bool.and_eq_true, decide_eq_true_eq] at h
  exact Nat.le_trans (FailClosed.cost_toA_le F t.2 h.1 pfx e bs) (Nat.mul_le_mul_right _ h.2)

end C04Gen
