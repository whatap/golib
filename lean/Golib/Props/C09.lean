/-
  Property C09 — linked hash maps / sets behave as bounded insertion-ordered dictionaries.

  Spec      `HMap.S` / `HMap.S.step`          (Golib/HMap/Spec.lean): association list with distinct keys + `max`
  CodeModel `HMap.LMap` / `HMap.LMap.step`    (Golib/HMap/Linked.lean): bucket table of hash chains + order list
            + count / threshold / max, generic in key type, value type, **hash function** and **growth threshold**
  Tie       harness/c09 (13 types × generated histories against `S.step` run by drv_c09) and the regenerated
            per-type descriptors (Golib/Props/C09Gen.lean).

  `HMap.Mode` is PUT_MODE of util/hmap/AbstractMap.go, the argument of the unexported put / add:
    `.last`        PUT_LAST         (Put, Add)
    `.forceLast`   PUT_FORCE_LAST   (PutLast, AddLast)
    `.forceFirst`  PUT_FORCE_FIRST  (PutFirst, AddFirst)
    `.first`       PUT_FIRST        (passed by no method of util/hmap)

  The refinement results are references to lemmas of Golib.HMap.*; the properties of the dictionary itself are proved here.
-/
import Golib.HMap.LinkedStep
import Golib.HMap.Types
import Golib.HMap.Multi
import Golib.HMap.Enum
import Golib.HMap.MultiLemmas
import Golib.HMap.WireLemmas
import Golib.HMap.EntryLemmas
import Golib.HMap.EntryTypes

set_option linter.unusedSectionVars false

namespace C09
open HMap

variable {K V : Type} [DecidableEq K] [DecidableEq V]

/-! ### the CodeModel refines the Spec (any hash function, any growth policy, any history) -/

/-- a freshly constructed map (any capacity; 0 is raised to 1) satisfies the invariant and is empty -/
theorem inv_init (hash : K → Nat) (thr : Nat → Nat) (d : Desc K V) (cap : Nat) :
    LMap.Inv hash d (LMap.new thr cap : LMap K V) ∧ LMap.abs hash (LMap.new thr cap : LMap K V) = {} :=
  ⟨LMap.Inv.new cap, LMap.abs_new cap⟩

/-- every operation — including table growth and the eviction loops — preserves the invariant -/
theorem inv_step (hash : K → Nat) (thr : Nat → Nat) (d : Desc K V) (m : LMap K V) (op : Op K V)
    (h : LMap.Inv hash d m) : LMap.Inv hash d (LMap.step hash thr d m op).1 :=
  (LMap.refine_step thr h op).1

/-- one operation: same output as the dictionary, and abstraction commutes -/
theorem refine_step (hash : K → Nat) (thr : Nat → Nat) (d : Desc K V) (m : LMap K V) (op : Op K V)
    (h : LMap.Inv hash d m) :
    (LMap.step hash thr d m op).2 = (S.step d (LMap.abs hash m) op).2 ∧
    LMap.abs hash (LMap.step hash thr d m op).1 = (S.step d (LMap.abs hash m) op).1 :=
  (LMap.refine_step thr h op).2

/-- all finite histories from a fresh map of any capacity: the outputs (return values, sizes, first/last,
    key / value / entry enumerations) are exactly those of the insertion-ordered dictionary -/
theorem refine_run (hash : K → Nat) (thr : Nat → Nat) (d : Desc K V) (cap : Nat) (ops : List (Op K V)) :
    (LMap.run hash thr d (LMap.new thr cap) ops).2 = (S.run d {} ops).2 :=
  LMap.refine_run_new hash thr d cap ops

/-- … from any reachable state -/
theorem refine_run_from (hash : K → Nat) (thr : Nat → Nat) (d : Desc K V) (m : LMap K V) (ops : List (Op K V))
    (h : LMap.Inv hash d m) :
    (LMap.run hash thr d m ops).2 = (S.run d (LMap.abs hash m) ops).2 ∧
    LMap.abs hash (LMap.run hash thr d m ops).1 = (S.run d (LMap.abs hash m) ops).1 :=
  (LMap.refine_run thr ops h).2

/-- enumeration lists every stored key exactly once, in the order of the dictionary -/
theorem enumerate_keys (hash : K → Nat) (d : Desc K V) (m : LMap K V) (h : LMap.Inv hash d m) :
    AL.keys (LMap.abs hash m).ents = m.order ∧ m.order.Nodup ∧ (LMap.abs hash m).ents.length = m.count :=
  ⟨LMap.abs_keys h, h.nodup, LMap.abs_length h⟩

/-! ### properties of the dictionary (inherited by the CodeModel through `refine_step`) -/

/-- keys stay distinct -/
theorem spec_wf (d : Desc K V) (s : S K V) (op : Op K V) (h : s.WF) : (S.step d s op).1.WF :=
  S.WF_step d h op

/-- lookup after put -/
theorem get_put (d : Desc K V) (s : S K V) (mode : Mode) (k : K) (v : V) (h : s.WF) (hk : d.refuse k = false) :
    AL.get (S.put d s mode k v).1.ents k = some v := by
  rw [S.put_accepted hk]
  cases hg : AL.get s.ents k with
  | some old => rw [S.putWith_present hg, AL.get_touch mode v (by rw [hg]; rfl), if_pos rfl]
  | none =>
    have hwf := S.WF_putWith h mode k fun _ => v
    rw [S.putWith_absent hg] at hwf ⊢
    exact AL.get_of_mem (e := (k, v)) hwf (by unfold AL.insertNew; split <;> simp)

/-- the bound, for `put` in any mode: with `max > 0` set it never leaves more than `max(max, previous size)` entries,
    and a map within the bound stays within it (every operation other than SetMax: `bounded_step`, `bounded_any_step`) -/
theorem bounded (d : Desc K V) (s : S K V) (mode : Mode) (k : K) (v : V) (h : s.WF) (hm : 0 < s.max) :
    (S.put d s mode k v).1.ents.length ≤ Nat.max s.max s.ents.length ∧
    (s.ents.length ≤ s.max → (S.put d s mode k v).1.ents.length ≤ s.max) :=
  ⟨(S.length_step_le d h hm (Nat.le_max_left _ _) (Nat.le_max_right _ _) (.put mode k v) (fun _ => nofun)).1,
    fun hle => (S.bounded_step d h hm hle (.put mode k v) (fun _ => nofun)).1⟩

theorem bounded_add (d : Desc K V) (s : S K V) (mode : Mode) (k : K) (v : V) (h : s.WF) (hm : 0 < s.max)
    (hle : s.ents.length ≤ s.max) : (S.add d s mode k v).1.ents.length ≤ s.max :=
  (S.bounded_step d h hm hle (.add mode k v) (fun _ => nofun)).1

/-- the bound for every operation: a map within its bound stays within it under every operation
    other than SetMax (which changes the bound itself) -/
theorem bounded_step (d : Desc K V) (s : S K V) (op : Op K V) (h : s.WF) (hm : 0 < s.max)
    (hle : s.ents.length ≤ s.max) (hop : ∀ n, op ≠ .setMax n) :
    (S.step d s op).1.ents.length ≤ s.max ∧ (S.step d s op).1.max = s.max :=
  S.bounded_step d h hm hle op hop

/-- … for whole histories of the CodeModel: once `max > 0` is set and the map holds at most `max`
    entries, no history without SetMax makes `count` exceed `max` (table growth and collisions included) -/
theorem bounded_run (hash : K → Nat) (thr : Nat → Nat) (d : Desc K V) (m : LMap K V) (ops : List (Op K V))
    (h : LMap.Inv hash d m) (hm : 0 < m.max) (hle : m.count ≤ m.max) (hops : ∀ op ∈ ops, ∀ n, op ≠ .setMax n) :
    (LMap.run hash thr d m ops).1.count ≤ m.max ∧ (LMap.run hash thr d m ops).1.max = m.max :=
  LMap.count_run_le thr ops h hm (Nat.le_refl _) hle hops

/-- the bound with **no** hypothesis on the current size (a `SetMax` below the size leaves a surplus, `setMax_keeps`):
    under a bound, no operation other than SetMax ever makes the map larger than `max(max, previous size)` — a map
    within its bound stays within it, a surplus never grows -/
theorem bounded_any_step (d : Desc K V) (s : S K V) (op : Op K V) (h : s.WF) (hm : 0 < s.max)
    (hop : ∀ n, op ≠ .setMax n) :
    (S.step d s op).1.ents.length ≤ Nat.max s.max s.ents.length ∧ (S.step d s op).1.max = s.max :=
  S.length_step_le d h hm (Nat.le_max_left _ _) (Nat.le_max_right _ _) op hop

/-- … for whole histories of the CodeModel from **any** reachable state (over its bound or not): no history without
    SetMax makes `count` exceed `max(max, count at the start)` -/
theorem bounded_any_run (hash : K → Nat) (thr : Nat → Nat) (d : Desc K V) (m : LMap K V) (ops : List (Op K V))
    (h : LMap.Inv hash d m) (hm : 0 < m.max) (hops : ∀ op ∈ ops, ∀ n, op ≠ .setMax n) :
    (LMap.run hash thr d m ops).1.count ≤ Nat.max m.max m.count ∧ (LMap.run hash thr d m ops).1.max = m.max :=
  LMap.count_run_le thr ops h hm (Nat.le_max_left _ _) (Nat.le_max_right _ _) hops

/-- no eviction when an existing key is updated: size and key set are unchanged, whatever the mode -/
theorem no_evict_on_update (d : Desc K V) (s : S K V) (mode : Mode) (k : K) (v : V) (h : s.WF)
    (hk : k ∈ AL.keys s.ents) :
    (S.put d s mode k v).1.ents.length = s.ents.length ∧
    (∀ x, x ∈ AL.keys (S.put d s mode k v).1.ents ↔ x ∈ AL.keys s.ents) := by
  cases hr : d.refuse k
  · obtain ⟨old, hold⟩ := Option.isSome_iff_exists.mp (AL.get_isSome_iff.mpr hk)
    rw [S.put_accepted hr, S.putWith_present hold]
    exact ⟨S.length_touch mode k v h hk, S.mem_keys_touch mode v hk⟩
  · rw [S.put_refused hr]; exact ⟨rfl, fun _ => Iff.rfl⟩

/-- … the same for add / add-first / add-last -/
theorem no_evict_on_update_add (d : Desc K V) (s : S K V) (mode : Mode) (k : K) (v : V) (h : s.WF)
    (hk : k ∈ AL.keys s.ents) :
    (S.add d s mode k v).1.ents.length = s.ents.length ∧
    (AL.keys (S.add d s mode k v).1.ents).Perm (AL.keys s.ents) := by
  have hlen : (S.add d s mode k v).1.ents.length = s.ents.length := by
    unfold S.add
    split
    · rfl
    · rw [S.length_putWith h]; simp [AL.get_isSome_iff.mpr hk]
  refine ⟨hlen, ?_⟩
  have hwf : (S.add d s mode k v).1.WF := by
    have := S.WF_step d h (.add mode k v); simpa [S.step] using this
  rw [List.perm_ext_iff_of_nodup hwf h]
  intro x
  unfold S.add
  split
  · exact Iff.rfl
  · obtain ⟨old, hold⟩ := Option.isSome_iff_exists.mp (AL.get_isSome_iff.mpr hk)
    unfold S.putWith
    simp only [hold]
    exact S.mem_keys_touch mode _ hk x

/-- eviction is from the end opposite to the insertion end: inserting an absent key at the back of a
    full map keeps a suffix of the old entries; inserting at the front keeps a prefix -/
theorem evict_opposite_end (d : Desc K V) (s : S K V) (k : K) (v : V)
    (hk : AL.get s.ents k = none) (hr : d.refuse k = false) :
    (S.put d s .last k v).1.ents = AL.evictFront s.ents s.max ++ [(k, v)] ∧
    (S.put d s .forceLast k v).1.ents = AL.evictFront s.ents s.max ++ [(k, v)] ∧
    (S.put d s .forceFirst k v).1.ents = (k, v) :: AL.evictBack s.ents s.max ∧
    (∃ n, AL.evictFront s.ents s.max = s.ents.drop n) ∧ (∃ n, AL.evictBack s.ents s.max = s.ents.take n) := by
  refine ⟨?_, ?_, ?_, ?_, ?_⟩
  · simp [S.put, S.putWith, hr, hk, AL.insertNew, Mode.atFront]
  · simp [S.put, S.putWith, hr, hk, AL.insertNew, Mode.atFront]
  · simp [S.put, S.putWith, hr, hk, AL.insertNew, Mode.atFront]
  · unfold AL.evictFront; split
    · exact ⟨_, rfl⟩
    · exact ⟨0, by simp⟩
  · unfold AL.evictBack; split
    · exact ⟨_, rfl⟩
    · exact ⟨s.ents.length, by simp⟩

/-- put-first / put-last place or move the entry at the stated end -/
theorem put_places_at_end (d : Desc K V) (s : S K V) (k : K) (v : V) (hr : d.refuse k = false) :
    (S.put d s .forceFirst k v).1.ents.head? = some (k, v) ∧
    (S.put d s .forceLast k v).1.ents.getLast? = some (k, v) := by
  rw [S.put_accepted hr, S.put_accepted hr]
  cases hg : AL.get s.ents k with
  | some old => rw [S.putWith_present hg, S.putWith_present hg]; simp [AL.touch]
  | none => rw [S.putWith_absent hg, S.putWith_absent hg]; simp [AL.insertNew, Mode.atFront]

/-- sorting: the result is a permutation of the entries and is ordered by the comparator on keys, for every
    comparator that is asymmetric and whose complement is transitive (every strict weak order, in
    particular `<` and `>`); the sorted sequence is then re-inserted under the bound like any puts -/
theorem sort_sorted (lt : K → K → Bool) (l : List (K × V))
    (hasym : ∀ a b : K, lt a b = true → lt b a = false)
    (htrans : ∀ a b c : K, lt b a = false → lt c b = false → lt c a = false) :
    (AL.sortEnts lt l).Perm l ∧ (AL.sortEnts lt l).Pairwise (fun a b => lt b.1 a.1 = false) := by
  refine ⟨List.mergeSort_perm _ _, ?_⟩
  have := List.pairwise_mergeSort (le := fun (a b : K × V) => !(lt b.1 a.1))
    (by
      intro a b c hab hbc
      simp only [Bool.not_eq_eq_eq_not, Bool.not_true] at hab hbc ⊢
      exact htrans a.1 b.1 c.1 hab hbc)
    (by
      intro a b
      simp only [Bool.or_eq_true, Bool.not_eq_eq_eq_not, Bool.not_true]
      cases hb : lt b.1 a.1 with
      | false => exact Or.inl rfl
      | true => exact Or.inr (hasym _ _ hb))
    l
  refine this.imp ?_
  intro a b hab
  simpa using hab

/-- with distinct keys and a total comparator the sorted order is unique: any other sorted
    permutation (whatever `sort.Sort` does internally) is the same list -/
theorem sort_unique (lt : K → K → Bool) (l l' : List (K × V)) (hn : (AL.keys l).Nodup)
    (htot : ∀ a b : K, a ≠ b → lt a b = true ∨ lt b a = true)
    (hp : l'.Perm l) (hs : l'.Pairwise (fun a b => lt b.1 a.1 = false))
    (hs0 : (AL.sortEnts lt l).Pairwise (fun a b => lt b.1 a.1 = false)) :
    l' = AL.sortEnts lt l := by
  have hperm : l'.Perm (AL.sortEnts lt l) := hp.trans (List.mergeSort_perm _ _).symm
  refine List.Perm.eq_of_pairwise (le := fun a b => lt b.1 a.1 = false) ?_ hs hs0 hperm
  intro a b ha hb hab hba
  have ha' : a ∈ l := hp.subset ha
  have hb' : b ∈ l := (List.mergeSort_perm _ _).subset hb
  by_cases e : a.1 = b.1
  · have h1 := (AL.get_eq_some_iff hn (k := a.1) (v := a.2)).mpr ha'
    have h2 := (AL.get_eq_some_iff hn (k := b.1) (v := b.2)).mpr hb'
    rw [e, h2] at h1
    have : b.2 = a.2 := by simpa using h1
    exact Prod.ext e this.symm
  · rcases htot a.1 b.1 e with h | h
    · rw [h] at hba; simp at hba
    · rw [h] at hab; simp at hab

/-! ### sets are maps to Unit -/

/-- descriptor of the linked sets -/
def setDesc (K : Type) : Desc K Unit := { comb := fun _ _ => (), veq := fun _ _ => true }

/-- LinkedSet / IntLinkedSet / StringLinkedSet are modelled as the map at `V = Unit` (Put k = put k (), Contains =
    containsKey, …): `refine_run` at that value type, for any descriptor — every history of a set answers as the
    dictionary of its keys does -/
theorem sets_are_maps (hash : K → Nat) (thr : Nat → Nat) (d : Desc K Unit) (cap : Nat) (ops : List (Op K Unit)) :
    (LMap.run hash thr d (LMap.new thr cap) ops).2 = (S.run d {} ops).2 :=
  refine_run hash thr d cap ops

/-- … and a set's entries are determined by its keys -/
theorem set_entries (hash : K → Nat) (d : Desc K Unit) (m : LMap K Unit) (h : LMap.Inv hash d m) :
    (LMap.abs hash m).ents = m.order.map (fun k => (k, ())) := by
  have hk := LMap.abs_keys h
  generalize (LMap.abs hash m).ents = l at hk
  rw [← hk]
  clear hk
  induction l with
  | nil => rfl
  | cons e t ih => obtain ⟨a, u⟩ := e; cases u; simp only [AL.keys, List.map_cons, List.map_map] at ih ⊢; rw [← ih]

/-! ### SetMax on a map that already holds more than the new bound: exact behaviour -/

/-- `SetMax(n)` itself never removes an entry (whatever `n`) -/
theorem setMax_keeps (d : Desc K V) (s : S K V) (n : Nat) :
    (S.step d s (.setMax n)).1.ents = s.ents ∧ (S.step d s (.setMax n)).1.max = n := ⟨rfl, rfl⟩

/-- … the surplus stays until the next *insertion* of an absent key, which evicts down to `n - 1` entries from
    the end opposite to the insertion end and then inserts: exactly `n` entries remain — the last `n - 1` old
    ones for put / put-last, the first `n - 1` old ones for put-first -/
theorem over_bound_insert (d : Desc K V) (s : S K V) (k : K) (v : V) (hk : AL.get s.ents k = none)
    (hr : d.refuse k = false) (hm : 0 < s.max) (hover : s.max ≤ s.ents.length) :
    (S.put d s .last k v).1.ents = s.ents.drop (s.ents.length + 1 - s.max) ++ [(k, v)] ∧
    (S.put d s .forceLast k v).1.ents = s.ents.drop (s.ents.length + 1 - s.max) ++ [(k, v)] ∧
    (S.put d s .forceFirst k v).1.ents = (k, v) :: s.ents.take (s.max - 1) ∧
    (S.put d s .last k v).1.ents.length = s.max ∧ (S.put d s .forceFirst k v).1.ents.length = s.max := by
  have e := evict_opposite_end d s k v hk hr
  have hf : AL.evictFront s.ents s.max = s.ents.drop (s.ents.length + 1 - s.max) := by
    unfold AL.evictFront; simp [hm, hover]
  have hb : AL.evictBack s.ents s.max = s.ents.take (s.max - 1) := by
    unfold AL.evictBack; simp [hm, hover]
  refine ⟨by rw [e.1, hf], by rw [e.2.1, hf], by rw [e.2.2.1, hb], ?_, ?_⟩
  · rw [e.1, hf]; simp [List.length_drop]; omega
  · rw [e.2.2.1, hb]; simp [List.length_take]; omega

/-- … while updating a present key of an over-full map evicts nothing (`no_evict_on_update` has no bound hypothesis),
    and Sort re-inserts under the bound: the last `max` entries of the sorted sequence remain -/
theorem over_bound_sort (d : Desc K V) (s : S K V) (lt : K → K → Bool) (hm : 0 < s.max) (hover : s.max < s.ents.length) :
    (S.step d s (.sort lt)).1.ents = (AL.sortEnts lt s.ents).drop (s.ents.length - s.max) ∧
    (S.step d s (.sort lt)).1.ents.length = s.max := by
  have hl : (AL.sortEnts lt s.ents).length = s.ents.length := (List.mergeSort_perm _ _).length_eq
  have : (S.step d s (.sort lt)).1.ents = (AL.sortEnts lt s.ents).drop (s.ents.length - s.max) := by
    simp only [S.step, AL.keepLast, hl, hm, hover, and_self, if_true]
  refine ⟨this, ?_⟩
  rw [this, List.length_drop, hl]; omega

/-- an enumeration taken while the map is not modified: calling HasMoreElements / Next until exhausted on a
    `Keys()` enumerator yields every stored key exactly once, in the order of the dictionary; the `Values()`
    and `Entries()` enumerators yield the values / entries of those keys in the same order -/
theorem enumerator_protocol (hash : K → Nat) (d : Desc K V) (m : LMap K V) (h : LMap.Inv hash d m) :
    LEnum.drain m.count m.openEnum = AL.keys (LMap.abs hash m).ents ∧
    (LEnum.drain m.count m.openEnum).Nodup ∧
    m.enumValues hash (LEnum.drain m.count m.openEnum) = (LMap.abs hash m).ents.map Prod.snd ∧
    m.enumEntries hash (LEnum.drain m.count m.openEnum) = (LMap.abs hash m).ents := by
  rw [LMap.drain_order h]
  refine ⟨(LMap.abs_keys h).symm, h.nodup, ?_, rfl⟩
  exact (map_snd_absL (m.tab.get hash) m.order).symm

/-- the protocol itself: `Next` is defined exactly when `HasMoreElements` answers true; `Next` without a prior
    `HasMoreElements` is correct too (`n` bare calls yield the first `n` remaining keys — the `Size()`-driven loops of
    `KeyArray`, `Sort`, `ToString`); `HasMoreElements` does not change the enumerator (it is a pure test here) -/
theorem enumerator_hasMore_next (e : LEnum K) :
    e.hasMore = e.next.isSome ∧ (∀ n, LEnum.takeN n e = e.rest.take n) := by
  refine ⟨?_, fun n => LEnum.takeN_eq n e⟩
  obtain ⟨r⟩ := e; cases r <;> rfl

/-- `Size()` bare calls of `Next` enumerate the whole map, like the HasMoreElements-driven loop -/
theorem enumerator_size_driven (hash : K → Nat) (d : Desc K V) (m : LMap K V) (h : LMap.Inv hash d m) :
    LEnum.takeN m.count m.openEnum = m.order ∧ LEnum.takeN m.count m.openEnum = LEnum.drain m.count m.openEnum := by
  have hc : m.order.length = m.count := h.count.symm
  have h1 : LEnum.takeN m.count m.openEnum = m.order := by
    rw [LEnum.takeN_eq]; show m.order.take m.count = m.order; rw [← hc, List.take_length]
  exact ⟨h1, by rw [h1, LMap.drain_order h]⟩

/-- **no_aliasing.**  In a pool of live maps an operation addressed to slot `i` leaves every other slot
    exactly as it was, whatever the operation (containers are values in the model: "no shared storage" is the
    specification; `ToObject(other.ToBytes())` is a sequence of puts of the source's entries into the
    target).  Tie B keeps 1–3 live instances per history and compares all of them after every mutating op. -/
theorem no_aliasing (hash : K → Nat) (thr : Nat → Nat) (d : Desc K V) (dflt : LMap K V)
    (pool : Array (LMap K V)) (i k : Nat) (op : Op K V) (h : k ≠ i) :
    (poolStep (LMap.step hash thr d) dflt pool i op).1.getD k dflt = pool.getD k dflt :=
  poolStep_frame _ dflt pool i k op h

/-- … and the addressed slot makes exactly the single-object step (so `refine_step` applies to it) -/
theorem pool_target (hash : K → Nat) (thr : Nat → Nat) (d : Desc K V) (dflt : LMap K V)
    (pool : Array (LMap K V)) (i : Nat) (op : Op K V) (h : i < pool.size) :
    (poolStep (LMap.step hash thr d) dflt pool i op).1.getD i dflt = (LMap.step hash thr d (pool.getD i dflt) op).1 ∧
    (poolStep (LMap.step hash thr d) dflt pool i op).2 = (LMap.step hash thr d (pool.getD i dflt) op).2 :=
  poolStep_target _ dflt pool i op h

/-- **histories over several live containers**: for every interleaved history over a pool of maps (each operation names
    its slot), the outputs are those of the pool of dictionaries and every slot still refines its own dictionary —
    the per-call frame condition (`no_aliasing`) lifted to `foldl step`. -/
theorem pool_refine_run (hash : K → Nat) (thr : Nat → Nat) (d : Desc K V) (dflt : LMap K V) (sdflt : S K V)
    (ops : List (Nat × Op K V)) (pool : Array (LMap K V)) (spool : Array (S K V))
    (h : LMap.PoolRel hash d dflt sdflt pool spool) (hops : ∀ o ∈ ops, o.1 < pool.size) :
    (poolRun (LMap.step hash thr d) dflt pool ops).2 = (poolRun (S.step d) sdflt spool ops).2 ∧
    LMap.PoolRel hash d dflt sdflt (poolRun (LMap.step hash thr d) dflt pool ops).1 (poolRun (S.step d) sdflt spool ops).1 :=
  let r := LMap.pool_refine_run thr dflt sdflt ops h hops
  ⟨r.2, r.1⟩

/-! ### serialized form (IntIntLinkedMap, LongLongLinkedMap; Int/LongFloatLinkedMap with `float := true`) -/

/-- the bytes decode to the entries in iteration order (exact consumption), for decimal and for float values -/
theorem wire_decodes (es : List (Int × Int)) (r : Bytes) (hlen : Prim.inRange 8 (es.length : Int)) :
    ((∀ e ∈ es, Prim.inRange 8 e.1 ∧ Prim.inRange 8 e.2) → P.run pairsFromBytes (pairsToBytes es ++ r) = some (es, r)) ∧
    ((∀ e ∈ es, Prim.inRange 8 e.1 ∧ 0 ≤ e.2 ∧ e.2 < 4294967296) → P.run pairsFromBytesF (pairsToBytesF es ++ r) = some (es, r)) :=
  ⟨run_pairsFromBytes es r hlen, run_pairsFromBytesF es r hlen⟩

/-- `ToObject(ToBytes(m))` into a fresh map of any capacity is the same dictionary **in the same order**
    (keys within the decimal codec's range; values decimals, or 32-bit float patterns) -/
theorem linked_wire (hash : Int → Nat) (thr : Nat → Nat) (d : Desc Int Int) (float : Bool) (cap : Nat) (m : LMap Int Int)
    (h : LMap.Inv hash d m) (hlen : Prim.inRange 8 ((m.entries hash).length : Int))
    (hr : ∀ e ∈ m.entries hash, wireOK float e) :
    LMap.Inv hash d (LMap.toObject hash thr float d (LMap.new thr cap) (LMap.toBytes hash float m)) ∧
    (LMap.abs hash (LMap.toObject hash thr float d (LMap.new thr cap) (LMap.toBytes hash float m))).ents = (LMap.abs hash m).ents :=
  LMap.linked_wire float thr cap h hlen hr

/-- The property's premise is an enumeration "taken while the structure is not being modified"; `enumerator_protocol`
    is exactly that case.  Outside the premise nothing is claimed: an enumerator taken before a modification and
    drained after it need not show the new contents (here: a key put meanwhile is missed). -/
theorem enumeration_premise_is_needed :
    let d : Desc Int Int := { comb := fun a b => a + b, veq := fun a b => a == b }
    let m := (LMap.run (fun _ : Int => 7) (fun c => c / 2) d (LMap.new (fun c => c / 2) 1) [.put .last 1 10]).1
    let e := m.openEnum
    let m' := (LMap.step (fun _ : Int => 7) (fun c => c / 2) d m (.put .last 2 20)).1
    LEnum.drain 5 e = [1] ∧ LEnum.drain 5 m'.openEnum = [1, 2] := by decide +kernel

/-! ### recorded deviations around empty string keys (D15) -/

/-- complete characterisation (D15): after `put k v` the key is reported as contained **iff** the descriptor is not
    blind for `k` and either does not refuse `k` or `k` was present before.  So the property's statement
    ("a key that was put is contained") fails exactly for the blind keys and for refused keys that are absent. -/
theorem contains_after_put_iff (d : Desc K V) (s : S K V) (mode : Mode) (k : K) (v : V) (h : s.WF) :
    (S.step d (S.put d s mode k v).1 (.containsKey k)).2 = .bool true ↔
      d.blind k = false ∧ (d.refuse k = false ∨ k ∈ AL.keys s.ents) := by
  cases hr : d.refuse k with
  | true =>
    rw [S.put_refused hr]
    simp only [S.step, Out.bool.injEq, Bool.and_eq_true, Bool.not_eq_eq_eq_not, Bool.not_true, AL.get_isSome_iff]
    constructor
    · rintro ⟨a, b⟩; exact ⟨a, Or.inr b⟩
    · rintro ⟨a, b | b⟩
      · exact absurd b (by simp)
      · exact ⟨a, b⟩
  | false =>
    have hg := get_put d s mode k v h hr
    simp [S.step, hg]

/-- full statement: a key that was put is contained.  It holds for regular descriptors … -/
theorem contains_after_put_partial (d : Desc K V) (hreg : d.regular) (s : S K V) (mode : Mode) (k : K) (v : V)
    (h : s.WF) : (S.step d (S.put d s mode k v).1 (.containsKey k)).2 = .bool true :=
  (contains_after_put_iff d s mode k v h).mpr ⟨hreg.2 k, Or.inl (hreg.1 k)⟩

/-- … StringLinkedSet (`blind ""`): Put("") stores the key, Contains("") answers false -/
theorem finding_D15_blind :
    let d : Desc String Unit := { comb := fun _ _ => (), veq := fun _ _ => true, blind := fun k => k == "" }
    (S.step d (S.put d {} .last "" ()).1 (.containsKey "")).2 = .bool false ∧
    (S.put d {} .last "" ()).1.ents = [("", ())] := by
  decide +kernel

/-- … String{Int,Long}LinkedMap (`refuse ""`): Put("", 5) is ignored -/
theorem finding_D15_refuse :
    let d : Desc String Int := { comb := fun a b => a + b, veq := fun a b => a == b, refuse := fun k => k == "" }
    (S.step d (S.put d {} .last "" 5).1 (.get "")).2 = .none ∧ (S.put d {} .last "" 5).1.ents = [] := by
  decide +kernel

/-- exactly the three types with an empty-string guard are irregular in the model -/
theorem irregular_types :
    (linkedTypes.filter (fun t => !t.regular)).map (·.name) =
      ["StringIntLinkedMap", "StringLongLinkedMap", "StringLinkedSet"] := by decide +kernel

theorem thirteen_types : linkedTypes.length = 13 ∧ (linkedTypes.map (·.name)).Nodup := by decide +kernel

/-! ### the rest of the public API: entry objects, container text, enumerators opened at an entry

`XOp` = the operations above plus: `SetValue` on a live entry object handed out by `Entries()`, `Unipoint`, an enumerator
constructed at an entry (`New<Type>Enumer`), `ValueIterator` (HasNext / Next), `ToString` / `ToFormatString`, `ToKeySet`,
entry `Equals` / `HashCode`. -/

/-- one operation of the extended API: invariant kept, same output as the dictionary (the text of `ToString` included:
    the `for i := 0; x.HasMoreElements(); i++` loop over the enumerator object yields exactly `{e₁, e₂, …}`), abstraction commutes -/
theorem refine_xstep (hash : K → Nat) (thr : Nat → Nat) (d : Desc K V) (ek : EntryKind K V) (m : LMap K V) (op : XOp K V)
    (h : LMap.Inv hash d m) :
    LMap.Inv hash d (LMap.xstep hash thr d ek m op).1 ∧
    (LMap.xstep hash thr d ek m op).2 = (S.xstep d ek (LMap.abs hash m) op).2 ∧
    LMap.abs hash (LMap.xstep hash thr d ek m op).1 = (S.xstep d ek (LMap.abs hash m) op).1 :=
  LMap.refine_xstep thr ek h op

/-- every finite history over the extended API, from a fresh map of any capacity -/
theorem refine_xrun (hash : K → Nat) (thr : Nat → Nat) (d : Desc K V) (ek : EntryKind K V) (cap : Nat) (ops : List (XOp K V)) :
    (LMap.xrun hash thr d ek (LMap.new thr cap) ops).2 = (S.xrun d ek {} ops).2 := by
  have := (LMap.refine_xrun thr ek ops (LMap.Inv.new (hash := hash) (thr := thr) (d := d) cap)).2.1
  rwa [LMap.abs_new] at this

/-- … and from any reachable state -/
theorem refine_xrun_from (hash : K → Nat) (thr : Nat → Nat) (d : Desc K V) (ek : EntryKind K V) (m : LMap K V)
    (ops : List (XOp K V)) (h : LMap.Inv hash d m) :
    LMap.Inv hash d (LMap.xrun hash thr d ek m ops).1 ∧
    (LMap.xrun hash thr d ek m ops).2 = (S.xrun d ek (LMap.abs hash m) ops).2 ∧
    LMap.abs hash (LMap.xrun hash thr d ek m ops).1 = (S.xrun d ek (LMap.abs hash m) ops).1 :=
  LMap.refine_xrun thr ek ops h

/-- `SetValue` on the entry object of a stored key writes THROUGH to the dictionary: the previous value is returned, the key
    then maps to the new value, every other key keeps its value, and the keys, their order and the size are untouched
    (frame condition) — no eviction, no relinking, whatever the bound -/
theorem entry_setValue_writes_through (s : S K V) (k : K) (v old : V) (hk : AL.get s.ents k = some old) :
    (s.entrySetValue k v).2 = some old ∧
    AL.get (s.entrySetValue k v).1.ents k = some v ∧
    (∀ k', k' ≠ k → AL.get (s.entrySetValue k v).1.ents k' = AL.get s.ents k') ∧
    AL.keys (s.entrySetValue k v).1.ents = AL.keys s.ents ∧
    (s.entrySetValue k v).1.ents.length = s.ents.length ∧ (s.entrySetValue k v).1.max = s.max := by
  unfold S.entrySetValue
  simp only [hk]
  refine ⟨by trivial, ?_, ?_, AL.keys_set _ _ _, AL.length_set _ _ _, by trivial⟩
  · rw [AL.get_set]; simp [hk]
  · intro k' hne; rw [AL.get_set]; simp [Ne.symm hne]

/-- on a stored key it is the same as `Put` (mode PUT_LAST, which does not move a present key) -/
theorem entry_setValue_is_put (d : Desc K V) (s : S K V) (k : K) (v old : V) (hk : AL.get s.ents k = some old)
    (hr : d.refuse k = false) : s.entrySetValue k v = S.put d s .last k v := by
  unfold S.entrySetValue S.put S.putWith
  simp [hk, hr, AL.touch]

/-- an entry object whose key is no longer stored has no effect on the dictionary -/
theorem entry_setValue_absent (s : S K V) (k : K) (v : V) (hk : AL.get s.ents k = none) :
    s.entrySetValue k v = (s, none) := by
  unfold S.entrySetValue; simp [hk]

/-- an enumerator constructed at the entry of `k` yields the keys from `k` on: the enumeration splits into the keys before
    `k` (none of them is `k`) and what the enumerator yields, which starts with `k` when `k` is stored -/
theorem enumFrom_suffix (d : Desc K V) (ek : EntryKind K V) (s : S K V) (k : K) :
    ∃ rest, (S.xstep d ek s (.enumFrom k)).2 = .out (.keys rest) ∧
      AL.keys s.ents = (AL.keys s.ents).takeWhile (· != k) ++ rest ∧
      k ∉ (AL.keys s.ents).takeWhile (· != k) ∧
      (k ∈ AL.keys s.ents → rest.head? = some k) := by
  exact ⟨(AL.keys s.ents).dropWhile (· != k), rfl, (List.takeWhile_append_dropWhile).symm,
    fun h => by simpa using List.all_eq_true.mp List.all_takeWhile k h, LMap.head_dropWhile_ne _ k⟩

/-- `Equals` of two entries implies equal keys; entries of one container with distinct keys are never equal -/
theorem entry_equals_key (ek : EntryKind K V) (a b : K × V) (h : ek.equals a b = true) : a.1 = b.1 := by
  unfold EntryKind.equals at h
  simp only [Bool.and_eq_true, decide_eq_true_eq] at h
  exact h.1

/-- for the key-only entry types `Equals` is exactly key equality -/
theorem entry_equals_keyOnly (ek : EntryKind K V) (hk : ek.eqValue = false) (a b : K × V) :
    ek.equals a b = decide (a.1 = b.1) := by
  unfold EntryKind.equals; simp [hk]

/-- the entry table has one row for each of the thirteen linked types, in the order of `linkedTypes`, and `Equals`
    compares the value for exactly the four int/long-keyed maps with numeric values -/
theorem entry_types :
    entryDescs.length = 13 ∧ (entryDescs.map (·.owner)) = linkedTypes.map (·.name) ∧
    ((entryDescs.filter (·.equals == "kv")).map (·.owner)
      = ["IntIntLinkedMap", "IntFloatLinkedMap", "LongFloatLinkedMap", "LongLongLinkedMap"]) := by decide +kernel

example : LMap.Inv (fun k : Int => k.toNat) (setDesc Int) (LMap.new (fun c => c * 3 / 4) 0 : LMap Int Unit) :=
  LMap.Inv.new 0

/-- a history with growth, collisions (constant hash), a bound and eviction; outputs computed by the CodeModel -/
example :
    (LMap.run (fun _ : Int => 7) (fun c => c / 2) ({ comb := fun a b => a + b, veq := fun a b => a == b } : Desc Int Int) (LMap.new (fun c => c / 2) 1)
      [.setMax 2, .put .last 1 10, .put .last 2 20, .put .forceFirst 3 30, .add .last 3 5, .entries]).2
      = [.unit, .none, .none, .none, .val 30, .ents [(3, 35), (1, 10)]] := by decide +kernel

/-- SetMax below the current size, then an insertion: `over_bound_insert`'s hypotheses hold and 5 entries become 2 -/
example :
    let d : Desc Int Int := { comb := fun a b => a + b, veq := fun a b => a == b }
    let s : S Int Int := { ents := [(1, 10), (2, 20), (3, 30), (4, 40), (5, 50)], max := 2 }
    AL.get s.ents 9 = none ∧ 0 < s.max ∧ s.max ≤ s.ents.length ∧
    (S.put d s .last 9 90).1.ents = [(5, 50), (9, 90)] ∧ (S.put d s .forceFirst 9 90).1.ents = [(9, 90), (1, 10)] := by
  decide +kernel

/-- the enumerator object drained on a concrete map (constant hash: one chain) -/
example :
    let d : Desc Int Int := { comb := fun a b => a + b, veq := fun a b => a == b }
    let m := (LMap.run (fun _ : Int => 7) (fun c => c / 2) d (LMap.new (fun c => c / 2) 1)
      [.put .last 1 10, .put .forceFirst 2 20, .put .last 3 30]).1
    LEnum.drain m.count m.openEnum = [2, 1, 3] ∧ m.enumValues (fun _ => 7) [2, 1, 3] = [20, 10, 30] := by
  decide +kernel

/-- `contains_after_put_iff` on both sides: a blind key, a refused absent key, a regular key -/
example :
    let d : Desc String Unit := { comb := fun _ _ => (), veq := fun _ _ => true, blind := fun k => k == "b", refuse := fun k => k == "r" }
    (S.step d (S.put d {} .last "b" ()).1 (.containsKey "b")).2 = .bool false ∧
    (S.step d (S.put d {} .last "r" ()).1 (.containsKey "r")).2 = .bool false ∧
    (S.step d (S.put d {} .last "x" ()).1 (.containsKey "x")).2 = .bool true := by
  decide +kernel

/-- `pool_refine_run`: its premise holds for a pool of fresh maps, and an interleaved history over two slots computes -/
example :
    let d : Desc Int Int := { comb := fun a b => a + b, veq := fun a b => a == b }
    LMap.PoolRel (fun _ : Int => 7) d (LMap.new (fun c => c / 2) 1) {}
      #[LMap.new (fun c => c / 2) 1, LMap.new (fun c => c / 2) 4] #[{}, {}] ∧
    (poolRun (LMap.step (fun _ : Int => 7) (fun c => c / 2) d) (LMap.new (fun c => c / 2) 1)
      #[LMap.new (fun c => c / 2) 1, LMap.new (fun c => c / 2) 4]
      [(0, .put .last 1 10), (1, .put .last 1 11), (0, .put .last 2 20), (1, .get 1), (0, .entries), (1, .entries)]).2
      = [.none, .none, .none, .val 11, .ents [(1, 10), (2, 20)], .ents [(1, 11)]] := by
  refine ⟨⟨rfl, fun i hi => ?_⟩, by decide +kernel⟩
  have hi' : i < 2 := hi
  match i, hi' with
  | 0, _ => exact inv_init (fun _ : Int => 7) (fun c => c / 2) _ 1
  | 1, _ => exact inv_init (fun _ : Int => 7) (fun c => c / 2) _ 4

/-- `linked_wire` on a concrete map: decimal values and float bit patterns, order kept (constant hash: one chain) -/
example :
    let d : Desc Int Int := { comb := fun a b => a + b, veq := fun a b => a == b }
    let m := (LMap.run (fun _ : Int => 7) (fun c => c / 2) d (LMap.new (fun c => c / 2) 1)
      [.put .last 300 (-1), .put .forceFirst (-2) 1065353216]).1
    (LMap.toObject (fun _ => 7) (fun c => c / 2) false d (LMap.new (fun c => c / 2) 3) (LMap.toBytes (fun _ => 7) false m)).entries (fun _ => 7)
      = [(-2, 1065353216), (300, -1)] ∧
    m.entries (fun _ => 7) = [(-2, 1065353216), (300, -1)] ∧
    (∀ e ∈ [((-2 : Int), (1065353216 : Int)), (300, -1)], wireOK false e) := by
  refine ⟨by decide +kernel, by decide +kernel, fun e he => ?_⟩
  simp only [List.mem_cons, List.mem_nil_iff, or_false] at he
  rcases he with rfl | rfl <;> exact ⟨by decide, by decide⟩

/-- `bounded_any_step` / `bounded_any_run` where they say more than `bounded_run`: a map over its bound (SetMax 2 on five
    entries) — lookups, an update, a removal and an insertion never make it larger; the insertion brings it down to the bound -/
example :
    let d : Desc Int Int := { comb := fun a b => a + b, veq := fun a b => a == b }
    let m := (LMap.run (fun _ : Int => 7) (fun c => c / 2) d (LMap.new (fun c => c / 2) 1)
      [.put .last 1 10, .put .last 2 20, .put .last 3 30, .put .last 4 40, .put .last 5 50, .setMax 2]).1
    m.count = 5 ∧ 0 < m.max ∧
    ((LMap.run (fun _ : Int => 7) (fun c => c / 2) d m [.get 1, .put .last 3 33, .size]).2 = [.val 10, .val 30, .nat 5]) ∧
    ((LMap.run (fun _ : Int => 7) (fun c => c / 2) d m [.remove 1, .size, .put .last 9 90, .size, .keys]).2
      = [.val 10, .nat 4, .none, .nat 2, .keys [5, 9]]) := by
  decide +kernel

/-- the extended API on a concrete map (constant hash: one chain): SetValue through an entry object, Unipoint-style put,
    an enumerator opened at an entry, ToKeySet, the text of ToString and ToFormatString, entry Equals / HashCode;
    `entry_setValue_writes_through`'s hypothesis holds for key 1 -/
example :
    let d : Desc Int Int := { comb := fun a b => a + b, veq := fun a b => a == b }
    let ek : EntryKind Int Int := { eqValue := true, veq := fun a b => a == b, hashCode := fun k v => u64 k ^^^ u64 v,
                                     showK := fun k => [48 + k.toNat], showV := fun v => [48 + v.toNat] }
    let m := (LMap.run (fun _ : Int => 7) (fun c => c / 2) d (LMap.new (fun c => c / 2) 1)
      [.put .last 1 5, .put .last 2 6, .put .forceFirst 3 7]).1
    AL.get (LMap.abs (fun _ => 7) m).ents 1 = some 5 ∧
    (LMap.xrun (fun _ : Int => 7) (fun c => c / 2) d ek m
      [.entrySetValue 1 9, .base .entries, .entrySetValue 4 9, .enumFrom 1, .toKeySet, .valueIterator, .toString false,
       .toString true, .entryEquals 1 2, .entryEquals 2 2, .unipoint 8 0, .base .keys]).2
      = [.out (.val 5), .out (.ents [(3, 7), (1, 9), (2, 6)]), .out .none, .out (.keys [1, 2]), .out (.keys [2, 1, 3]),
         .out (.vals [7, 9, 6]), .text [123, 51, 61, 55, 44, 32, 49, 61, 57, 44, 32, 50, 61, 54, 125],
         .text [123, 51, 61, 55, 10, 44, 32, 49, 61, 57, 10, 44, 32, 50, 61, 54, 10, 125],
         .eq false 8, .eq true 4, .out (.key 8), .out (.keys [3, 1, 2, 8])] := by
  decide +kernel

/-- the per-type reading used by the driver: decimal text, `<nil>`, the float placeholder, the three HashCode expressions -/
example :
    decBytes (-12) = [45, 49, 50] ∧
    entryHash (lt "IntIntLinkedMap" .int32 .int32 .accumulate .noCtor .all) ⟨"", "", "kv", "uint(this.key) ^ uint(this.value)", "", [], ""⟩ (-1) 1
      = 18446744073709551614 ∧
    entryHash (lt "IntKeyLinkedMap" .int32 .obj .none .guarded .all) ⟨"", "", "k", "uint(this.key ^ this.key>>32)", "", [], ""⟩ (-5) 0 = 4 ∧
    entryHash (lt "LongKeyLinkedMap" .int64 .obj .none .guarded .none) ⟨"", "", "k", "uint(this.key ^ this.key>>32)", "", [], ""⟩ 4294967298 0 = 4294967299 := by
  decide +kernel

end C09
