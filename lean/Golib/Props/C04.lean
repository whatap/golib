/-
  Property C04 — decoders fail closed: no fabricated data, bounded memory on bad input.

    (a) no read returns bytes that were not in its input, so a strict prefix of a complete
        encoding never decodes — except where the format defines the shorter message as a
        complete older version;
    (b) decoding any byte string terminates, and what it allocates is proportional to the size
        of the input, not to length or count fields found inside it.

  The general theorems are those of Golib.Basic (`P.locality`, `P.prefix_fails`) and
  Golib.FailClosed.*; here they are stated for the decoders of /repo.  The model is the *repaired* code (proposed/C04/fix-D01.diff,
  fix-D02.diff); the behaviour of the code as found is modelled too (`A.runF`, `A.costF`,
  `decVA false`) and the `finding_*` theorems are the witnesses that it violates the property.
  Tie to /repo: harness/c04 (every truncation point of generated encodings on the real decoders,
  hostile length/count/tag overwrites in a memory-limited child process) and the regenerated
  allocation-site table Golib.Gen.AllocSites (Golib/Props/C04Gen.lean).
-/
import Golib.FailClosed.ValueArms
import Golib.FailClosed.ValueACorrect
import Golib.Value.Fuel
import Golib.FailClosed.Tail
import Golib.FailClosed.Findings
import Golib.FailClosed.PackA
import Golib.FailClosed.Stream
import Golib.FailClosed.Lazy
import Golib.FailClosed.Reuse
import Golib.FailClosed.ValueStream
import Golib.FailClosed.Pooled
import Golib.FailClosed.ExtraReads
import Golib.Value.Facts
import Golib.Layout.IR
import Golib.Step.Prefix
import Golib.Step.ValueInst

namespace C04
open FailClosed Prim Value

/-! ## (a) no fabricated data -/

/-- the repaired `ReadBytes(n)`: the decoder continues only when `n` bytes are there, and what
    it is handed are exactly the next `n` bytes of the input -/
theorem read_returns_input (n : Nat) (k : Bytes → A α) (bs : Bytes) (x : α × Bytes)
    (h : A.run (.read n k) bs = some x) :
    n ≤ bs.length ∧ (bs.take n).length = n ∧ bs.take n ++ bs.drop n = bs ∧
      A.run (k (bs.take n)) (bs.drop n) = some x := by
  rw [A.run_read] at h
  split at h
  · rename_i hn
    exact ⟨hn, by rw [List.length_take]; omega, List.take_append_drop n bs, h⟩
  · simp at h

/-- locality: a successful decode depends only on the bytes it consumed (every decoder
    expressible in the decoder monad) -/
theorem locality (p : P α) (bs : Bytes) (v : α) (r : Bytes) (h : P.run p bs = some (v, r)) :
    ∃ a, bs = a ++ r ∧ ∀ c, P.run p (a ++ c) = some (v, c) := P.locality p bs v r h

/-- **prefix failure**, generic: whatever decoder `p` is, if `q ++ s` is a complete encoding
    (decodes with nothing left) and `s ≠ []`, the strict prefix `q` does not decode -/
theorem prefix_fails (p : P α) (q s : Bytes) (v : α) (hs : s ≠ [])
    (h : P.run p (q ++ s) = some (v, [])) : P.run p q = none := P.prefix_fails p q s v hs h

/-- … also for decoders with allocations and availability guards -/
theorem prefix_fails_instrumented (a : A α) (ht : A.TailFree a) (q s : Bytes) (v : α)
    (hs : s ≠ []) (h : A.run a (q ++ s) = some (v, [])) : A.run a q = none :=
  A.prefix_fails a ht q s v hs h

/-- programs of primitive reads: every truncation point of the bytes of a well-formed program -/
theorem program_prefix_fails (ops : List Op) (q s : Bytes) (h : ∀ op ∈ ops, WFOp op)
    (hs : s ≠ []) (hq : q ++ s = writeAll ops) : P.run (readAll ops) q = none := by
  apply P.prefix_fails (readAll ops) q s ops hs
  rw [hq]; simpa using Prim.program_roundtrip ops [] h

/-- values (`value.ReadValue`), any fuel -/
theorem value_prefix_fails (f : Nat) (q s : Bytes) (v : Value) (hs : s ≠ [])
    (h : decV f (q ++ s) = some (v, [])) : decV f q = none := decV_prefix_fails f q s v hs h

/-- values, fuel taken from the input (`Value.decode`) -/
theorem value_decode_prefix_fails (q s : Bytes) (v : Value) (hs : s ≠ [])
    (h : Value.decode (q ++ s) = some (v, [])) : Value.decode q = none :=
  decode_prefix_fails q s v hs h

/-- for every well-formed value (`Value.WFV`: field ranges of the Go types, lengths the format can
    represent — C02's `decode_encV` supplies the round trip), all truncation
    points of its encoding -/
theorem value_encoding_prefix_fails (v : Value) (hwf : Value.WFV v)
    (q s : Bytes) (hs : s ≠ []) (hq : q ++ s = encV v) : Value.decode q = none :=
  decode_prefix_fails q s v hs (by rw [hq]; simpa using Value.decode_encV v [] hwf)

/-- the instrumented decoders decode exactly what the shared models decode: allocation order
    and availability guards are invisible in the result -/
theorem instrumented_value_same (fx : Bool) (f : Nat) (bs : Bytes) :
    A.run (decVA fx f) bs = decV f bs := run_decVA fx f bs

theorem instrumented_program_same (g : Bool) (ops : List Op) (bs : Bytes) :
    A.run (readAllA g ops) bs = P.run (readAll ops) bs := by
  unfold readAllA
  rw [run_readAllAcc]
  cases P.run (readAll ops) bs with
  | none => rfl
  | some y => obtain ⟨vs, r'⟩ := y; simp

/-- the repair of `ReadBytes` removes no behaviour: whatever the repaired reader decodes the
    reader as found decodes identically -/
theorem repair_preserves (a : A α) (bs : Bytes) (x : α × Bytes) (h : A.run a bs = some x) :
    A.runF a bs false = some x := by
  fun_induction A.run a bs with
  | case1 v bs => exact h                                   -- pure
  | case2 | case4 | case7 => cases h                         -- fail; read, need refused: `run` gave nothing
  | case3 n k bs hn ih =>                                    -- read with the `n` bytes there: no padding happens
    have hl := (hasAtLeast_iff n bs).mp hn
    simp only [A.runF]
    by_cases h0 : n = 0
    · subst h0; simp only [List.take_zero, List.drop_zero] at ih
      simp only [beq_self_eq_true, if_true]; exact ih h
    · have hne : bs ≠ [] := by intro hh; subst hh; exact h0 (Nat.le_zero.mp hl)
      have hpad : pad n bs = bs.take n := by
        unfold pad; rw [Nat.sub_eq_zero_of_le hl]; simp
      simp only [beq_iff_eq, h0, if_false, List.isEmpty_iff, hne, hn, hpad, Bool.not_true, Bool.or_false]
      exact ih h
  | case5 u rest bs ih => exact ih h                         -- alloc
  -- need passed; avail0 at the end of the input, and before it (`over` is still false)
  | case6 n rest bs hn ih => simp only [A.runF, hn, Bool.not_false, Bool.and_self, if_true]; exact ih h
  | case8 e t bs hb ih => simp only [A.runF, Bool.not_false, Bool.true_and, hb, if_true]; exact ih h
  | case9 e t bs hb ih => simp only [A.runF, Bool.not_false, Bool.true_and, hb]; exact ih h

/-! ### the documented exception: tails guarded by `Available() == 0` (SMBasePack.Extra) -/

/-- a complete older-version message decodes to the older-version object -/
theorem older_version_ok (a : A α) (old : α → β) (t : α → A β) (q : Bytes) (x : α)
    (h : A.run a q = some (x, [])) : A.run (A.withTail a old t) q = some (old x, []) := by
  unfold A.withTail
  rw [A.run_bind, h]; rfl

/-- … and that is the only strict prefix of a newer-version message that decodes -/
theorem older_version_only (a : A α) (old : α → β) (t : α → A β)
    (ha : A.TailFree a) (ht : ∀ x, A.TailFree (t x))
    (q s : Bytes) (v v' : β) (r' : Bytes) (hs : s ≠ [])
    (hfull : A.run (A.withTail a old t) (q ++ s) = some (v, []))
    (hq : A.run (A.withTail a old t) q = some (v', r')) :
    r' = [] ∧ ∃ x, A.run a q = some (x, []) ∧ v' = old x :=
  A.older_version_only a old t ha ht q s v v' r' hs hfull hq

/-! ## (b) termination and bounded allocation -/

/-- the decoders are total functions (structural recursion on the syntax / on the fuel); the
    fuel of the value decoder only bounds the recursion: more fuel never changes a result -/
theorem value_fuel_mono (f g : Nat) (hfg : f ≤ g) (bs : Bytes) (x : Value × Bytes)
    (h : decV f bs = some x) : decV g bs = some x := decV_fuel_mono f g hfg bs x h

/-- the fuel is never the reason for a failure: whatever fuel makes the value decoder succeed,
    `Value.decode` (fuel = input length + 1) succeeds with the same result.  So the recursion
    depth and the number of productive loop iterations are bounded by the input length, and
    `Value.decode bs = none` stands for a panic of the Go decoder, never for "ran out of steps" -/
theorem value_decode_complete (f : Nat) (bs : Bytes) (x : Value × Bytes)
    (h : decV f bs = some x) : Value.decode bs = some x := decode_complete f bs x h

theorem value_fuel_irrelevant (f g : Nat) (bs : Bytes) (hf : bs.length < f) (hg : bs.length < g) :
    decV f bs = decV g bs := decV_fuel_irrelevant f g bs hf hg

/-- every byte the repaired `ReadBytes` allocates is a byte it consumed: a decoder that only
    reads allocates exactly what it consumed when it succeeds, at most the input when it fails -/
theorem reads_allocate_what_they_consume (p : P α) (bs : Bytes) :
    match P.run p bs with
    | some (_, r) => A.cost (A.ofP p) bs + r.length = bs.length
    | none => A.cost (A.ofP p) bs ≤ bs.length := A.cost_ofP p bs

/-- **alloc_bounded**, generic: a decoder built from paid parts allocates at most `c` units per
    input byte, on every input -/
theorem alloc_bounded {c s : Nat} {a : A α} (h : Paid c s a) (bs : Bytes) :
    A.cost a bs ≤ c * bs.length := h.bounded bs

/-- a guarded `make`: `if N > Available() { panic }; make(u bytes); body` is paid when
    `u ≤ d·N` and a successful body consumes at least `N` bytes -/
theorem guarded_make_paid {c0 d s : Nat} (N u : Nat) (body : A α) (hb : Paid c0 s body)
    (hu : u ≤ d * N)
    (hcons : ∀ bs v r, A.run body bs = some (v, r) → r.length + N ≤ bs.length) :
    Paid (c0 + d) s (.need N (.alloc u body)) := paid_need_alloc N u body hb hu hcons

/-- programs of primitive reads (repaired array readers): ≤ 17 bytes per input byte, for all
    byte strings -/
theorem alloc_bounded_programs (ops : List Op) (bs : Bytes) :
    A.cost (readAllA true ops) bs ≤ 17 * bs.length := (paid_readAllAcc ops []).bounded bs

/-- `value.ReadValue` (repaired): ≤ 1280 bytes per input byte (1088 of them: the bucket table every map value is
    constructed with), for all byte strings and
    whatever the nesting -/
theorem alloc_bounded_values (f : Nat) (bs : Bytes) :
    A.cost (decVA true f) bs ≤ 1280 * bs.length := (paid_decVA f).bounded bs

/-- `pack.TextPack.Read` (repaired: `CheckCount(size, 6)` before `make([]TextRec, size)`), the
    shape shared by the SM packs, `ReadDecimalArray*` and `BuildHyperLogLog`: ≤ 5 bytes per input
    byte on every input -/
theorem alloc_bounded_textPack (bs : Bytes) : A.cost (textPackA true) bs ≤ 5 * bs.length :=
  paid_textPackA.bounded bs

/-- the guard is invisible in the result -/
theorem textPack_guard_invisible (bs : Bytes) :
    A.run (textPackA true) bs = A.run (textPackA false) bs := by
  unfold textPackA
  rw [A.run_bind, A.run_bind]
  cases A.run (A.ofP headerP) bs with
  | none => rfl
  | some x =>
    obtain ⟨_, r⟩ := x
    simp only
    rw [A.run_bind, A.run_bind]
    cases A.run (A.ofP decDecimal) r with
    | none => rfl
    | some y =>
      obtain ⟨n, r1⟩ := y
      simp only
      split
      · rfl
      · rw [run_arrBody true 6 24 textRec textRec_consumes, run_arrBody false 6 24 textRec textRec_consumes]

/-- every strict prefix fails -/
theorem textPack_prefix_fails (q s : Bytes) (v : List (Nat × Int × Bytes)) (hs : s ≠ [])
    (h : A.run (textPackA true) (q ++ s) = some (v, [])) : A.run (textPackA true) q = none :=
  A.prefix_fails _ (tailFree_textPackA true) q s v hs h

/-! ## steps and service records (C08's transcribed layouts)

    `step.ReadStep` / `service.ToObject` over the registered layouts is a program of the decoder
    monad (`Step.readOneP`, proved equal to the reader C08 verifies), so the generic theorems
    apply to it as they are. -/

/-- a strict prefix of one registered step never decodes -/
theorem step_prefix_fails (s : Step.Item) (h : s.ok Step.valueRT Step.stepTable) (q a : Bytes)
    (ha : a ≠ []) (hq : q ++ a = s.bytes) : Step.readOne Step.stepTable q = none :=
  Step.tagged_prefix_fails Step.valueRT Step.stepTable (by decide) s h q a ha hq

/-- … nor of a service record -/
theorem service_prefix_fails (s : Step.Item) (h : s.ok Step.valueRT Step.serviceTable) (q a : Bytes)
    (ha : a ≠ []) (hq : q ++ a = s.bytes) : Step.readOne Step.serviceTable q = none :=
  Step.tagged_prefix_fails Step.valueRT Step.serviceTable (by decide) s h q a ha hq

/-- a truncated `ToBytesStep` stream read until the input is used up fails or yields a strict
    prefix of the steps — never a fabricated step -/
theorem steps_stream_prefix (ss : List Step.Item) (h : ∀ s ∈ ss, s.ok Step.valueRT Step.stepTable)
    (q a : Bytes) (ha : a ≠ []) (hq : q ++ a = Step.toBytesStep ss) :
    Step.readAll Step.stepTable q = none ∨
      ∃ k, k < ss.length ∧ Step.readAll Step.stepTable q = some ((ss.take k).map Step.Item.expected) :=
  Step.stream_prefix Step.valueRT Step.stepTable (by decide) ss h q a ha hq

/-- reading a step allocates through `ReadBytes` exactly what it consumes, never more than the input.
    `_partial`: the bound counts what `ReadBytes` allocates; the int array a step may carry
    (`ReadIntArray`, a guarded `make` of 4·n bytes) is bounded by `alloc_bounded_programs`' array reader, not here -/
theorem alloc_bounded_steps_partial (bs : Bytes) :
    A.cost (A.ofP (Step.readOneP Step.stepTable)) bs ≤ 1 * bs.length :=
  (paid_ofP0 (c := 1) _ (Nat.le_refl 1)).bounded bs

theorem step_reader_is_program (bs : Bytes) :
    A.run (A.ofP (Step.readOneP Step.stepTable)) bs = Step.readOne Step.stepTable bs := by
  rw [A.run_ofP]; exact Step.readOneP_run Step.stepTable (by decide) bs

/-! ## the stream input path (`io.NewDataInputNet`): fragmentation-independence

    A connection hands the bytes over in fragments of its own choosing (`Conn` = the fragments still
    to come); `ReadBytes(n)` loops over `Read` until `n` bytes are there and panics when the
    connection ends first (`readN`).  -/

/-- decoding over ANY fragmentation is decoding the concatenation: same outcome, same value, and
    what is left of the connection is what is left of the bytes -/
theorem stream_fragmentation_independent (p : P α) (c : Conn) :
    match runC p c with
    | some (v, c') => P.run p c.bytes = some (v, c'.bytes)
    | none => P.run p c.bytes = none := by
  split
  · next h => exact runC_some p c _ _ h
  · next h => exact runC_none p c h

theorem stream_same_for_same_bytes (p : P α) (c d : Conn) (h : c.bytes = d.bytes) :
    (runC p c).map (fun x => (x.1, x.2.bytes)) = (runC p d).map (fun x => (x.1, x.2.bytes)) := by
  rw [runC_eq, runC_eq, h]

/-- a connection that ends before the end of a complete encoding makes the decoder fail,
    whatever the fragments -/
theorem stream_cut_fails (p : P α) (c : Conn) (s : Bytes) (v : α) (hs : s ≠ [])
    (h : P.run p (c.bytes ++ s) = some (v, [])) : runC p c = none := stream_prefix_fails p c s v hs h

/-- … and the complete encoding decodes over every fragmentation -/
theorem stream_complete_decodes (p : P α) (c : Conn) (v : α) (h : P.run p c.bytes = some (v, [])) :
    ∃ c', runC p c = some (v, c') ∧ c'.bytes = [] := by
  obtain ⟨x, hx, he⟩ := Option.map_eq_some_iff.mp ((runC_eq p c).trans h)
  exact ⟨x.2, by rw [hx, ← (Prod.mk.inj he).1], (Prod.mk.inj he).2⟩

/-- `value.ReadValue` on a connection (`CheckCount` is a no-op there, so the unguarded decoder runs;
    it is a program of the decoder monad): over any fragmentation it does what `Value.decV` does on
    the concatenated bytes, and a connection that ends mid-value makes it fail -/
theorem stream_value (f : Nat) (c : Conn) :
    match runC (valueP f) c with
    | some (v, c') => decV f c.bytes = some (v, c'.bytes)
    | none => decV f c.bytes = none := by
  split
  · next h => rw [← run_valueP]; exact runC_some _ c _ _ h
  · next h => rw [← run_valueP]; exact runC_none _ c h

theorem stream_value_cut_fails (f : Nat) (c : Conn) (s : Bytes) (v : Value) (hs : s ≠ [])
    (h : decV f (c.bytes ++ s) = some (v, [])) : runC (valueP f) c = none :=
  stream_prefix_fails (valueP f) c s v hs (by rw [run_valueP]; exact h)

/-- instances: programs of primitive reads and registered steps over a connection -/
theorem stream_program_cut_fails (ops : List Op) (c : Conn) (s : Bytes) (h : ∀ op ∈ ops, WFOp op)
    (hs : s ≠ []) (hq : c.bytes ++ s = writeAll ops) : runC (readAll ops) c = none := by
  apply stream_prefix_fails (readAll ops) c s ops hs
  rw [hq]; simpa using Prim.program_roundtrip ops [] h

theorem stream_step_cut_fails (st : Step.Item) (h : st.ok Step.valueRT Step.stepTable) (c : Conn)
    (a : Bytes) (ha : a ≠ []) (hq : c.bytes ++ a = st.bytes) :
    runC (Step.readOneP Step.stepTable) c = none := by
  have h1 := Step.tagged_prefix_fails Step.valueRT Step.stepTable (by decide) st h c.bytes a ha hq
  rw [← Step.readOneP_run Step.stepTable (by decide)] at h1
  exact Option.map_eq_none_iff.mp ((runC_eq _ c).trans h1)

/-! ## two-phase (lazy) decoding: fail-closed on every later look at the same object

    `StatGeneralPack` decodes its table on first use (`unpack`, Golib.FailClosed.Lazy): the encoded
    bytes are dropped only after the whole table decoded. -/

/-- a failed lazy decode fails again on the next access … -/
theorem lazy_error_sticky {T C : Type} (parse : Bytes → List C × Bool) (put : T → C → T)
    (s s' : Lazy.Obj T) (h : Lazy.unpack parse put s = .err s') :
    (Lazy.unpack parse put s').failed = true := Lazy.unpack_error_sticky parse put s s' h

/-- … and on every later one -/
theorem lazy_error_forever {T C : Type} (parse : Bytes → List C × Bool) (put : T → C → T) (n : Nat)
    (s s' : Lazy.Obj T) (h : Lazy.unpack parse put s = .err s') :
    (Lazy.accessN parse put n s').failed = true := by
  induction n generalizing s s' with
  | zero => exact Lazy.unpack_error_sticky parse put s s' h
  | succ n ih =>
    simp only [Lazy.accessN]
    have hs := Lazy.unpack_error_sticky parse put s s' h
    cases hr : Lazy.unpack parse put s' with
    | ok x => rw [hr] at hs; simp [Lazy.Res.failed] at hs
    | err x => exact ih s' x hr

/-- the failed decode is idempotent on the state (keyed table: putting the same columns again changes nothing) -/
theorem lazy_error_stable {T C : Type} (parse : Bytes → List C × Bool) (put : T → C → T)
    (hput : ∀ t cols, Lazy.putAll put (Lazy.putAll put t cols) cols = Lazy.putAll put t cols)
    (s s' : Lazy.Obj T) (h : Lazy.unpack parse put s = .err s') :
    Lazy.unpack parse put s' = .err s' := by
  obtain ⟨h1, h2, rfl⟩ := Lazy.unpack_error_raw parse put s s' h
  simp only [Lazy.unpack, h1, h2, Bool.false_eq_true, if_false, hput]

/-- after a failed access `Write` emits exactly the undecoded bytes it would have emitted before, and
    `IsEmpty()` is false: the damaged table is never re-encoded as something else -/
theorem lazy_write_after_error {T C : Type} (parse : Bytes → List C × Bool) (put : T → C → T)
    (enc : T → Bytes) (empty : T → Bool) (s s' : Lazy.Obj T) (h : Lazy.unpack parse put s = .err s') :
    Lazy.write enc s' = s.raw ∧ Lazy.isEmpty empty s' = false := by
  obtain ⟨h1, -, rfl⟩ := Lazy.unpack_error_raw parse put s s' h
  simp only [Lazy.write, Lazy.isEmpty, h1, Bool.false_eq_true, if_false, Bool.false_and, and_self]

theorem lazy_ok_idempotent {T C : Type} (parse : Bytes → List C × Bool) (put : T → C → T)
    (s s' : Lazy.Obj T) (h : Lazy.unpack parse put s = .ok s') :
    Lazy.unpack parse put s' = .ok s' := by
  unfold Lazy.unpack at h
  split at h
  · cases h; unfold Lazy.unpack; rename_i he; rw [if_pos he]
  · simp only at h
    split at h
    · cases h; unfold Lazy.unpack; simp
    · cases h

/-- **fail-closed over histories, for every two-phase decoder** (caching like StatGeneralPack's table
    or decoding afresh on every access like the `GetRecords` of ZipPack / LogSinkZipPack / Stat*Pack):
    if the bytes an object keeps do not decode, then in every sequence of accesses, writes and
    emptiness tests on that object every access fails, every write emits exactly the kept bytes and
    `IsEmpty()` is false -/
theorem lazy_history_fail_closed {T C : Type} (S : Lazy.Spec T C) (ops : List Lazy.Op) (s : Lazy.Obj T)
    (hne : s.raw ≠ []) (hbad : (S.parse s.raw).2 = false) :
    Lazy.runOps S s ops = ops.map (Lazy.brokenObs s.raw) := by
  induction ops generalizing s with
  | nil => rfl
  | cons op ops ih =>
    obtain ⟨h1, h2⟩ := Lazy.step_broken S s op hne hbad
    simp only [Lazy.runOps, List.map_cons]
    rw [h1, ih _ (by rw [h2]; exact hne) (by rw [h2]; exact hbad), h2]

/-- frame: no history changes the kept bytes; a non-caching accessor changes nothing at all -/
theorem lazy_history_keeps_bytes {T C : Type} (S : Lazy.Spec T C) (ops : List Lazy.Op) (s : Lazy.Obj T)
    (hne : s.raw ≠ []) (hbad : (S.parse s.raw).2 = false) : (Lazy.finalObj S s ops).raw = s.raw := by
  induction ops generalizing s with
  | nil => rfl
  | cons op ops ih =>
    have h2 := (Lazy.step_broken S s op hne hbad).2
    simp only [Lazy.finalObj]
    rw [ih _ (by rw [h2]; exact hne) (by rw [h2]; exact hbad), h2]

theorem lazy_stateless_frame {T C : Type} (S : Lazy.Spec T C) (hc : S.cache = false) (s : Lazy.Obj T)
    (op : Lazy.Op) : (Lazy.step S s op).1 = s := Lazy.stateless_step_frame S hc s op

/-! ### object reuse -/

/-- a reader whose successful `Read` determines the object from the input alone: after ANY history of
    earlier `Read`s into the same object (failed or successful) a valid `Read` gives what a fresh
    decode gives -/
theorem reuse_after_any_history {S O : Type} (rd : Reuse.Reader S) (obs : S → O) (h : Reuse.Resets rd obs)
    (fresh : S) (hist : List Bytes) (good : Bytes) (hgood : (rd fresh good).2 = true) :
    (rd (Reuse.readAll rd fresh hist) good).2 = true ∧
      obs (rd (Reuse.readAll rd fresh hist) good).1 = obs (rd fresh good).1 :=
  Reuse.reuse_history rd obs h fresh hist good hgood

/-- instance: every reader seen through the fields its layout assigns (`Layout.L.read`'s result) resets,
    whatever a failed `Read` left behind (`junk`).  This is what the theorem side says about reuse for
    the transcribed readers; that the Go objects hold nothing else that survives a `Read` (unassigned
    fields, tables that are `Put` into) rests on tie B (reuse sweep) and tie A (`additive_readers_exact`) -/
theorem reuse_layout_readers (l : Layout.L) (pfx : String) (e : Layout.Env)
    (junk : Option Layout.Out → Bytes → Option Layout.Out) (hist : List Bytes) (good : Bytes)
    (hgood : (l.read pfx e good).isSome = true) :
    let rd := Reuse.fieldReader (fun bs => (l.read pfx e bs).map (·.1)) junk
    (rd (Reuse.readAll rd none hist) good).2 = true ∧
      (rd (Reuse.readAll rd none hist) good).1 = (rd none good).1 := by
  intro rd
  have h := Reuse.reuse_history rd id (Reuse.fieldReader_resets _ junk) none hist good (by
    show (Reuse.fieldReader _ junk none good).2 = true
    unfold Reuse.fieldReader
    cases hr : l.read pfx e good with
    | none => rw [hr] at hgood; simp at hgood
    | some o => simp [hr])
  exact h

/-- a non-caching two-phase decoder (`GetRecords`) whose kept bytes do not decode, empty or not:
    every access of every history fails -/
theorem lazy_stateless_access_fails {T C : Type} (S : Lazy.Spec T C) (hc : S.cache = false)
    (ops : List Lazy.Op) (s : Lazy.Obj T) (hbad : (S.parse s.raw).2 = false) :
    ∀ i : Nat, ops[i]? = some Lazy.Op.access → (Lazy.runOps S s ops)[i]? = some Lazy.Obs.failed := by
  induction ops generalizing s with
  | nil => intro i h; simp at h
  | cons op ops ih =>
    intro i h
    cases i with
    | zero =>
      simp only [List.getElem?_cons_zero, Option.some.injEq] at h
      subst h
      simp only [Lazy.runOps, List.getElem?_cons_zero, Lazy.step, hc, Bool.and_false, Bool.false_eq_true,
        if_false, hbad]
    | succ i =>
      simp only [List.getElem?_cons_succ] at h
      simp only [Lazy.runOps, List.getElem?_cons_succ, Lazy.stateless_step_frame S hc s op]
      exact ih s hbad i h

/-- the readers that `Put` into the table the object already holds are not of that kind (they are
    listed exactly by `C04Gen.additive_readers_exact`) -/
theorem reuse_additive_exception : ¬ Reuse.Resets Reuse.putReader id := Reuse.additive_not_reset

example : Reuse.Resets Reuse.assignReader id := Reuse.assignReader_resets

/-! ### the fixed-width readers no writer reaches (`ReadShortLittle`, `ReadUnsignedShortLittle`,
    `ReadIntLittle`, `ReadUintLittle`, `ReadUnsignedInt`, `ReadUShort`, `ReadDecimalLen(sz)`) -/

/-- one such read fails exactly when fewer bytes than its width are there; otherwise it consumes
    exactly its width and its value is a function of those bytes -/
theorem extra_read_exact (k : Extra.K) (bs : Bytes) :
    P.run (Extra.rd k) bs =
      if Extra.width k ≤ bs.length then
        some (Extra.val k (bs.take (Extra.width k)), bs.drop (Extra.width k)) else none :=
  Extra.run_rd k bs

/-- programs of them: rejected iff the input is shorter than the sum of the widths (so every strict
    prefix of an input of exactly that length is rejected), else exactly that many bytes consumed -/
theorem extra_program_exact (ks : List Extra.K) (bs : Bytes) :
    P.run (Extra.rdAll ks) bs =
      if Extra.total ks ≤ bs.length then some (Extra.vals ks bs, bs.drop (Extra.total ks)) else none :=
  Extra.run_rdAll ks bs

theorem extra_program_prefix_fails (ks : List Extra.K) (bs : Bytes) (h : bs.length < Extra.total ks) :
    P.run (Extra.rdAll ks) bs = none := by
  rw [Extra.run_rdAll, if_neg (by omega)]

/-- … and what follows the program's bytes is neither read nor changes the values -/
theorem extra_program_trailing (ks : List Extra.K) (bs r : Bytes) (h : bs.length = Extra.total ks) :
    P.run (Extra.rdAll ks) (bs ++ r) = (P.run (Extra.rdAll ks) bs).map (fun x => (x.1, x.2 ++ r)) := by
  have h1 : P.run (Extra.rdAll ks) bs = some (Extra.vals ks bs, bs.drop (Extra.total ks)) := by
    rw [Extra.run_rdAll, if_pos (by omega)]
  rw [P.run_stable _ bs r _ _ h1, h1]; rfl

example : P.run (Extra.rdAll [.shortLE, .uint, .decLen 1, .decLen 0, .decLen 7])
    [1, 255, 255, 255, 255, 255, 128, 0, 0, 0, 0, 0, 0, 0, 1, 9] = some ([-255, 4294967295, -128, 0, 1], [9]) := by
  decide
example : ([1, 2, 3] : Bytes).length < Extra.total [.intLE] := by decide

/-! ### one reader kept for several decodes (pooled / re-pointed sub-stream readers)

    "No read returns bytes that were not present in its input" for a SEQUENCE of decodes in one
    process.  A decoder that opens a sub-stream builds a new reader over exactly the blob
    (`io.NewDataInputX(din.ReadBlob())`): the replacing reset.  Tie A: `C04Gen.reader_buffer_set_only_by_constructor`
    (no function of package io but the constructor stores into a reader's buffer), tie B: the
    `after` stage (harness/c04/after.go), driver `PH` / `PHV`. -/

/-- with a replacing reset every decode of every history — whatever the reader held at the start,
    wherever the failed decodes before it stopped (`junk` arbitrary) — is the decode of its own input -/
theorem pooled_history_is_per_input (p : P α) (junk : Bytes → Bytes) (st : Bytes) (inputs : List Bytes) :
    Pooled.runHist Pooled.replace p junk st inputs = Pooled.perInput p inputs :=
  Pooled.replace_history_any_start p junk st inputs

/-- prefix failure at any position of any history: after whatever inputs, failed or not, a strict
    prefix of a complete encoding is rejected (nothing an earlier decode left behind completes it) -/
theorem pooled_prefix_fails_in_history (p : P α) (junk : Bytes → Bytes) (st : Bytes)
    (before after : List Bytes) (q s : Bytes) (v : α) (hs : s ≠ [])
    (h : P.run p (q ++ s) = some (v, [])) :
    (Pooled.runHist Pooled.replace p junk st (before ++ q :: after))[before.length]? = some none := by
  rw [Pooled.replace_history_any_start]
  unfold Pooled.perInput
  rw [List.map_append, List.map_cons]
  rw [List.getElem?_append_right (by simp)]
  simp only [List.length_map, Nat.sub_self, List.getElem?_cons_zero]
  rw [P.prefix_fails p q s v hs h]
  rfl

/-- values: the history of `value.ReadValue` decodes through a kept reader is `Value.decV` per input -/
theorem pooled_value_history (f : Nat) (junk : Bytes → Bytes) (st : Bytes) (inputs : List Bytes) :
    Pooled.runHist Pooled.replace (valueP f) junk st inputs =
      inputs.map (fun inp => (Value.decV f inp).map Prod.fst) := by
  rw [Pooled.replace_history_any_start]
  unfold Pooled.perInput
  congr 1
  funext inp
  rw [run_valueP]

/-- an appending reset (`buffer.Write(buf)` "because the previous message was read to its end") is
    right exactly for histories of complete encodings … -/
theorem pooled_append_ok_when_drained (p : P α) (junk : Bytes → Bytes) (inputs : List Bytes)
    (h : ∀ inp ∈ inputs, ∃ v, P.run p inp = some (v, [])) :
    Pooled.runHist Pooled.appendReset p junk [] inputs = Pooled.perInput p inputs := by
  induction inputs with
  | nil => rfl
  | cons inp more ih =>
    obtain ⟨v, hv⟩ := h inp (by simp)
    have hm : ∀ i ∈ more, ∃ v, P.run p i = some (v, []) := fun i hi => h i (by simp [hi])
    simp only [Pooled.runHist, Pooled.perInput, List.map_cons, Pooled.step, Pooled.appendReset, List.nil_append, hv]
    have := ih hm
    unfold Pooled.perInput at this
    rw [this]
    rfl

/-- … and not fail-closed otherwise: a rejected 5-byte input, then a 3-byte input, decode to a long
    made of both (the seeded change C04-r7-3; replayed by the `after` stage's class).  The repaired
    `ReadBytes` checks before it reads, so the 5 rejected bytes stay in the buffer: `junk = id` -/
theorem finding_appending_reset :
    Pooled.runHist Pooled.appendReset Pooled.readLong id [] [[1, 2, 3, 4, 5], [6, 7, 8]]
        = [none, some 0x0102030405060708] ∧
    Pooled.perInput Pooled.readLong [[1, 2, 3, 4, 5], [6, 7, 8]] = [none, none] := by
  constructor <;> decide

example : Pooled.runHist Pooled.replace Pooled.readLong id [9, 9] [[1, 2, 3, 4, 5], [6, 7, 8], [0, 0, 0, 0, 0, 0, 1, 2]]
    = [none, none, some 258] := by decide
example : ∀ inp ∈ [[0, 0, 0, 0, 0, 0, 1, 2], [0, 0, 0, 0, 0, 0, 0, 7]], ∃ v, P.run Pooled.readLong inp = some (v, []) := by
  intro inp h
  simp at h
  rcases h with h | h <;> subst h
  · exact ⟨258, by decide⟩
  · exact ⟨7, by decide⟩
example : P.run Pooled.readLong ([0, 0, 0] ++ [0, 0, 0, 1, 2]) = some (258, []) := by decide

/-- the other order (bytes dropped before decoding) is not fail-closed: second access accepts the
    partial table, `Write` re-encodes it -/
theorem finding_drop_before_decode :
    let s0 : Lazy.Obj (List Nat) := ⟨[1, 2, 255, 3], []⟩
    let put := fun (t : List Nat) (c : Nat) => t ++ [c]
    (Lazy.unpackDropFirst Lazy.toyParse put s0).failed = true ∧
    (Lazy.unpackDropFirst Lazy.toyParse put (Lazy.unpackDropFirst Lazy.toyParse put s0).obj).failed = false ∧
    (Lazy.unpackDropFirst Lazy.toyParse put (Lazy.unpackDropFirst Lazy.toyParse put s0).obj).obj.table = [1, 2] ∧
    Lazy.write id (Lazy.unpackDropFirst Lazy.toyParse put s0).obj = [1, 2] := Lazy.dropFirst_not_fail_closed

/-! ## the code as found violates both halves (witnesses; the same inputs are replayed on the
    Go side by harness/c04) -/

/-- D01: with `ReadBytes` as found prefix failure is false: `01 02 03` is a strict prefix of
    the encoding `01 02 03 00 00 00 00 00` of a long, and decodes (to the same number) -/
theorem finding_D01 :
    ¬ (∀ (p : P Int) (q s : Bytes) (v : Int), s ≠ [] →
        A.runF (A.ofP p) (q ++ s) false = some (v, []) → A.runF (A.ofP p) q false = none) := by
  intro h
  exact absurd (h (rdI 8) [1, 2, 3] [0, 0, 0, 0, 0] 72623842526232576 (by decide) (by decide +kernel))
    (by decide +kernel)

/-- D02 (`ReadBytes`): 2 GiB allocated for the 5-byte input `fe 7f ff ff ff` -/
theorem finding_D02_readBytes :
    ¬ A.costF (A.ofP decBlob) [254, 127, 255, 255, 255] false ≤ 1000000 * 5 := by
  decide +kernel

/-- D02 (`ListValue.Read`): 32 GiB requested for the 6-byte input `46 04 7f ff ff ff` -/
theorem finding_D02_list :
    ¬ A.costF (decVA false 7) [70, 4, 127, 255, 255, 255] false ≤ 1000000 * 6 := by
  decide +kernel

/-- D02 (`TextPack.Read`): 48 GiB requested for an 18-byte pack body -/
theorem finding_D02_textPack :
    ¬ A.cost (textPackA false) [0, 0, 0, 0, 1, 0, 0, 0, 0, 0, 0, 0, 2, 4, 127, 255, 255, 255]
        ≤ 1000000 * 18 := by
  decide +kernel

/-- D02 (array readers): 512 KiB of string headers for the 3-byte input `49 7f ff`, also with
    the repaired `ReadBytes` as long as the count is not compared with `Available()` -/
theorem finding_D02_array :
    ¬ A.cost (decVA false 3) [73, 127, 255] ≤ 1280 * 3 := by
  decide +kernel

/-! ## non-vacuity -/

/-- a value over a connection in three fragments; cut after two of them it fails -/
example : (runC (valueP 5) [[70, 1], [1, 21, 0], [0, 0, 9]]).isSome = true := by decide +kernel
example : (runC (valueP 5) [[70, 1], [1, 21, 0]]).isNone = true := by decide +kernel
example : Value.WFV (.list [.int 5, .text [104, 105]]) := by decide


/-- a long read from a connection that delivers 3 + 1 + 4 bytes, and from one cut after 5 bytes -/
example : runC (rdI 8) [[0, 0, 0], [0], [0, 0, 1, 2]] = some (258, []) := by decide +kernel
example : runC (rdI 8) [[0, 0, 0], [0, 0]] = none := by decide +kernel
example : runC (readAll [.short 0, .blob []]) [[0], [7, 2, 9], [], [9, 5]] =
    some ([.short 7, .blob [9, 9]], [[5]]) := by decide +kernel


/-- a nested value: its encoding decodes completely, so the prefix theorems apply to it -/
example : (Value.decode (encV (.list [.int 5, .text [104, 105], .map [([107], .ai [1, -2])]]))).map
    (fun p => p.2) = some [] := by decide +kernel

example : (encV (.list [.int 5, .text [104, 105], .map [([107], .ai [1, -2])]])).length = 28 := by
  decide +kernel

/-- every strict prefix of that encoding fails -/
example : (List.range 28).all (fun n =>
    (Value.decode ((encV (.list [.int 5, .text [104, 105], .map [([107], .ai [1, -2])]])).take n)).isNone)
    = true := by decide +kernel

/-- the allocation bound is not vacuous: the repaired decoder does allocate (slots, entries, array) -/
example : A.cost (decVA true 29)
    (encV (.list [.int 5, .text [104, 105], .map [([107], .ai [1, -2])]])) = 1700 := by decide +kernel

example : Paid 17 0 (readAllA true [.textArr [], .intArr [], .blob []]) := paid_readAllAcc _ _

end C04
