/-
  Property C18 — file configuration tracks the file, notifies observers and writes back safely.

  The statements of the property, each proved here from the lemmas of Golib.Conf.*.
  The model describes FileConfig / DefaultFileParser *with the proposed fixes applied*
  (proposed/C18/fix-D36 … fix-D39b, fix-D44 … fix-D46; the numbers D44–D46 are C18's own: D44 a malformed
  file ends the process through `properties.MustLoadFile`, D45 `ReadLine` hands over a long line in pieces,
  D46 the observers are not told when the file disappears); for every defect of the unchanged code there is a
  `finding_*` witness theorem about the model of the unchanged code, and the same input is a
  replay of the correspondence harness `harness/c18` on the Go side.

  Tied to /repo/config/conffile by the harness (tie B) and by the regenerated facts of
  Golib.Gen.C18 (tie A, obligations in Golib/Props/C18Gen.lean).
  Trusted / compared only: the third-party `properties` parser (its lexer is modelled in
  Golib.Conf.Lex and compared with the library on every run), `${…}` expansion (outside the
  model), strconv.ParseFloat (getFloat's parser is a parameter here).
-/
import Golib.Conf.IntSetLemmas
import Golib.Conf.Tracks
import Golib.Conf.FSLemmas
import Golib.Conf.Locks
import Golib.Conf.WriteMerge
import Golib.Conf.ObsHist
import Golib.Conf.FSDur
import Golib.Conf.FSFault
import Golib.Conf.SysHist
import Golib.Conf.KeyFull
import Golib.Conf.LiftLines
import Golib.Conf.OwnWrite
import Golib.Conf.Api

namespace C18
open Conf

/-- absent key (and no environment variable of that name), or an empty value: the default -/
theorem getter_default_absent {α : Type} (parse : Str → Option α) (m env : KV) (k : Str) (d : α)
    (h : getValue m env k = []) : getParsed parse m env k d = d := by
  simp [getParsed, h]

/-- malformed value: the default -/
theorem getter_default_malformed {α : Type} (parse : Str → Option α) (m env : KV) (k : Str) (d : α)
    (h : parse (getValue m env k) = none) : getParsed parse m env k d = d := by
  unfold getParsed
  simp only [h, Option.getD_none]
  split <;> rfl

/-- well-formed value: the parsed value, whatever the default -/
theorem getter_parsed {α : Type} (parse : Str → Option α) (m env : KV) (k : Str) (d a : α)
    (hne : getValue m env k ≠ []) (h : parse (getValue m env k) = some a) :
    getParsed parse m env k d = a := by
  have he : (getValue m env k).isEmpty = false := by
    cases hv : getValue m env k with
    | nil => exact absurd hv hne
    | cons _ _ => rfl
  simp [getParsed, he, h]

/-- getFloat has the same decision structure (strconv.ParseFloat(·, 32) is the parameter; the
    harness plugs in strconv itself): absent/empty → default, unparsable → default, else the value -/
theorem getFloat_decision {F : Type} (pf : Str → Option F) (m env : KV) (k : Str) (d : F) :
    (getValue m env k = [] → getFloat pf m env k d = d) ∧
    (pf (getValue m env k) = none → getFloat pf m env k d = d) ∧
    (∀ a, getValue m env k ≠ [] → pf (getValue m env k) = some a → getFloat pf m env k d = a) :=
  ⟨getter_default_absent pf m env k d, getter_default_malformed pf m env k d,
   fun a hne h => getter_parsed pf m env k d a hne h⟩

example : getFloat (fun s => if s = "1.5".toList then some (3 : Nat) else none)
    [("k".toList, " 1.5 ".toList)] [] "k".toList 0 = 3 := by decide

/-- the hash-set getters hash every trimmed token of the value (or of the default), in order,
    whatever the hash function -/
theorem hashset_spec (hash : Str → Int) (m env : KV) (k d deli : Str) :
    getHashSet hash m env k d deli =
      (tokenizer (getValueDef m env k d) deli).map (fun x => hash (trimSpace x)) ∧
    (getHashSet hash m env k d deli).length = (tokenizer (getValueDef m env k d) deli).length := by
  simp [getHashSet, hashTokens]

example : hashTokens [("k".toList, "a, b ,,c".toList)] [] "k".toList [] ",".toList
    = ["a".toList, "b".toList, "c".toList] := by decide
example : hashTokens [] [] "k".toList [] ",".toList = [[]] := by decide      -- Tokenizer("") = [""]

/-- **Typed getters, one equation**: a getter answers the parse of the visible value, else the
    default — for every parser that rejects the empty string (ParseInt, ParseBool and
    strconv.ParseFloat all do; for ParseFloat this is the stated assumption on the parameter) -/
theorem getter_eq_parse_or_default {α : Type} (parse : Str → Option α) (hempty : parse [] = none)
    (m env : KV) (k : Str) (d : α) :
    getParsed parse m env k d = (parse (getValue m env k)).getD d := by
  unfold getParsed
  cases hv : getValue m env k with
  | nil => simp [hempty]
  | cons c r => simp

theorem getInt_eq (m env : KV) (k : Str) (d : Int) :
    getInt m env k d = (parseInt 32 (getValue m env k)).getD (wrap32 d) :=
  getter_eq_parse_or_default (parseInt 32) (by decide) m env k (wrap32 d)

theorem getLong_eq (m env : KV) (k : Str) (d : Int) :
    getLong m env k d = (parseInt 64 (getValue m env k)).getD d :=
  getter_eq_parse_or_default (parseInt 64) (by decide) m env k d

theorem getBoolean_eq (m env : KV) (k : Str) (d : Bool) :
    getBoolean m env k d = (parseBool (getValue m env k)).getD d :=
  getter_eq_parse_or_default parseBool (by decide) m env k d

theorem getFloat_eq {F : Type} (pf : Str → Option F) (hempty : pf [] = none) (m env : KV) (k : Str) (d : F) :
    getFloat pf m env k d = (pf (getValue m env k)).getD d :=
  getter_eq_parse_or_default pf hempty m env k d

/-- … and the visible value is the file's value, trimmed, after any load (`apply_merge`), so the
    getters read the file: e.g. for GetInt after a reload that loaded `props` -/
theorem getInt_after_load (c : Cfg) (f : FileSt) (props : KV) (k v : Str) (d : Int) (env : KV)
    (hne : c.last ≠ verFull f) (hp : parseProps f.text = .ok props) (hkv : (k, v) ∈ readMap props) :
    getInt (reload verFull c (some f)).1.m env k d = (parseInt 32 (trimSpace v)).getD (wrap32 d) := by
  have hl := reload_reflects verFull c f hne props hp k v hkv
  rw [getInt_eq]
  simp [getValue, hl]

/-- a key present in the map shadows the environment and is trimmed; an absent key falls back
    to the environment -/
theorem getValue_spec (m env : KV) (k : Str) :
    getValue m env k = match lookup m k with
      | some v => trimSpace v
      | none => (lookup env k).getD [] := rfl

/-- the integer getters accept exactly the decimal integers of their width
    (`ParseInt(Itoa v) = v`, and nothing outside the range) -/
theorem parseInt_roundtrip (bits : Nat) (v : Int)
    (hlo : -(2 ^ (bits - 1) : Nat) ≤ v) (hhi : v < (2 ^ (bits - 1) : Nat)) :
    parseInt bits (showInt v) = some v := Conf.parseInt_showInt bits v hlo hhi

theorem parseInt_in_range (bits : Nat) (s : Str) (v : Int) (h : parseInt bits s = some v) :
    -(2 ^ (bits - 1) : Nat) ≤ v ∧ v < (2 ^ (bits - 1) : Nat) := by
  unfold parseInt at h
  have hC : 0 < 2 ^ (bits - 1) := Nat.pow_pos (by decide)
  generalize 2 ^ (bits - 1) = C at *
  -- three sign cases, each: digits or not, in range or not; only "digits, in range" answers
  split at h <;> split at h <;> (try split at h) <;> simp at h <;> omega

example : getInt [("k".toList, " 42 ".toList)] [] "k".toList 7 = 42 := by decide
example : getInt [("k".toList, "4x".toList)] [] "k".toList 7 = 7 := by decide
example : getInt [] [] "k".toList 4294967301 = 5 := by decide        -- int32(def)
example : getBoolean [("k".toList, "T".toList)] [] "k".toList false = true := by decide
example : getLong [] [("k".toList, "-9223372036854775808".toList)] "k".toList 0 = -9223372036854775808 := by decide

/-- the integer set is the parsed integers of the tokens, in order -/
theorem intset_spec (m env : KV) (k d deli : Str) :
    getIntSet m env k d deli =
      (tokenizer (getValueDef m env k d) deli).filterMap (fun x => (parseInt 64 (trimSpace x)).map wrap32) := rfl

example : getIntSet [("k".toList, "1, 2 ,x,3".toList)] [] "k".toList [] ",".toList = [1, 2, 3] := by decide

/-- a list of 32-bit integers written as "v1,v2,…" (Itoa, comma) reads back exactly -/
theorem intset_roundtrip (m env : KV) (k d : Str) (vs : List Int) (hne : vs ≠ [])
    (hr : ∀ v ∈ vs, -2147483648 ≤ v ∧ v < 2147483648)
    (hl : lookup m k = some (joinWith ',' (vs.map showInt))) :
    getIntSet m env k d [','] = vs := by
  rw [getIntSet_joinWith m env k d vs hne (fun v hv => by have := hr v hv; omega) hl]
  exact (List.map_congr_left fun v hv => by have := hr v hv; show wrap32 v = v; unfold wrap32; omega).trans (List.map_id _)

/-- D38: the unchanged code (`err != nil` where `err == nil` is meant) drops every valid
    integer and keeps a 0 for every token that is not one -/
theorem finding_D38 :
    getIntSetD38 [("k".toList, "1, 2 ,x,3".toList)] [] "k".toList [] ",".toList = [0] := by decide

/-- reload does nothing exactly when the remembered version equals the file's version -/
theorem reload_decision (c : Cfg) (f : FileSt) :
    (reload verFull c (some f)).2 = .same ↔ c.last = verFull f := by
  refine ⟨fun h => Classical.byContradiction fun hne => ?_, fun h => by rw [reload_same verFull c f h]⟩
  cases hp : parseProps f.text with
  | ok props => rw [reload_ok verFull c f props hne hp] at h; cases h
  | malformed => rw [reload_malformed verFull c f hne hp] at h; cases h
  | expansion => rw [reload_expansion verFull c f hne hp] at h; cases h

/-- after a load every non-empty key=value of the file is visible through the map (hence
    through every getter), other keys keep their values, and the observers ran once -/
theorem apply_merge (c : Cfg) (f : FileSt) (props : KV)
    (hne : c.last ≠ verFull f) (hp : parseProps f.text = .ok props) :
    let c' := (reload verFull c (some f)).1
    (reload verFull c (some f)).2 = .loaded ∧ c'.notified = c.notified + 1 ∧ c'.last = verFull f ∧
    (∀ k v, (k, v) ∈ readMap props → lookup c'.m k = some v ∧ ∀ env, getValue c'.m env k = trimSpace v) ∧
    (∀ k, (∀ v, (k, v) ∉ readMap props) → lookup c'.m k = lookup c.m k) := by
  intro c'
  obtain ⟨h1, h2, h3, h4⟩ := reload_loaded verFull c f props hne hp
  refine ⟨h1, h2, h3, ?_, ?_⟩
  · intro k v hkv
    have : lookup c'.m k = some v := reload_reflects verFull c f hne props hp k v hkv
    exact ⟨this, fun env => by simp [getValue, this]⟩
  · intro k hk
    show lookup (reload verFull c (some f)).1.m k = lookup c.m k
    rw [h4]
    exact lookup_applyMerge_skip c.m _ k (fun p hp _ e => hk p.2 (by rw [← e]; exact hp))

/-- observers: a notification round adds one call to every target that is registered at that moment and
    has a counter, and to nobody else — whether it was registered before the configuration was created,
    after it, or between two reloads; a target replaced under its name is no longer called.  Every target
    entered through `Obs.add` has a counter (`Obs.WF`, kept by every step: `wf_step`); `observers_history`
    is the statement without the side condition. -/
theorem observers_notified (o : Obs) (id : Nat) :
    (o.run).count id =
      if o.registered id && o.counts.any (fun p => p.1 == id) then o.count id + 1 else o.count id :=
  count_map_bump o o.registered id

example :
    let o := ((Obs.empty.add ['a'] 1).run.add ['b'] 2).run.add ['a'] 3 |>.run
    (o.count 1, o.count 2, o.count 3) = (2, 2, 1) := by decide

/-- observers over arbitrary histories of registrations, replacements and rounds, including a
    registration made from inside a callback (`runReg`, with the unspecified "visited in that
    very round" flag): every target is called exactly once per round at which it is registered -/
theorem observers_history (ops : List ObsOp) (id : Nat) :
    (Obs.empty.exec ops).count id = callsSpec [] ops id := by
  have := exec_count Obs.empty ops id (fun _ hp => nomatch hp)
  simpa [Obs.count, Obs.empty] using this

/-- the tolerance of the harness, stated: a target registered from inside a callback is called 0
    or 1 times in the round of its registration (the flag) and exactly once in every later round
    while it stays registered -/
theorem reentrant_registration (o : Obs) (n : Str) (i : Nat) (v : Bool) (ops : List ObsOp) (h : o.WF)
    (hfresh : o.registered i = false) :
    ((o.step (.runReg n i v)).exec ops).count i =
      o.count i + (if v then 1 else 0) + callsSpec (regPut o.reg n i) ops i := by
  have := exec_count o (.runReg n i v :: ops) i h
  simp only [Obs.exec, List.foldl_cons, callsSpec] at this ⊢
  rw [this]
  have hr : regHas o.reg i = false := hfresh
  simp [hr]; omega

example :
    (Obs.empty.exec [.add ['p'] 1, .runReg ['c'] 2 false, .run, .add ['c'] 3, .run]).counts
      = [(1, 3), (2, 1), (3, 1)] := by decide

/-- **Notification clause over histories**: for every history of edits, deletions, reloads and
    registrations (either reset policy), each observer target has been called exactly once for
    every reload that loaded a new version of the file (resp. reset the map, with fix-D46) while
    the target was registered, and never otherwise: a reload that finds the same stamp, no file or
    a malformed file calls nobody and leaves the map alone (`reload_leaves_alone`) -/
theorem notifications_history (nr : Bool) (ops : List SysOp) (id : Nat) :
    ((Sys.init.run nr ops).obs).count id = callsSpec [] (project nr Sys.init ops) id := by
  rw [sys_obs]
  exact observers_history _ id

/-- histories may contain observers that panic in their callback (`SysOp.reloadPanic`: reload
    recovers the panic; only the targets visited before it — Go's map order decides which — were
    called for that change): `notifications_history` covers them, and a failing observer changes
    neither the registry nor anybody's future — the next complete round calls every registered
    target exactly once -/
theorem panicking_observer_does_not_silence (o : Obs) (visited : List Nat) (id : Nat) (h : o.WF)
    (hr : o.registered id = true) :
    ((o.runPartial visited).run).count id = (o.runPartial visited).count id + 1 ∧
    (o.runPartial visited).reg = o.reg := by
  refine ⟨?_, rfl⟩
  have hr' : (o.runPartial visited).registered id = true := hr
  exact (count_round (o.runPartial visited) (o.runPartial visited).registered id (wf_map_bump o _ h) (fun e => e)).trans
    (by rw [hr']; rfl)

example :
    let f1 : FileSt := ⟨1700000000000000000, ['k', '=', '2', '\n']⟩
    let f2 : FileSt := ⟨1700000001000000000, ['k', '=', '3', '\n']⟩
    (Sys.init.run true [.addObs ['a'] 1, .addObs ['b'] 2, .edit f1, .reloadPanic [2], .edit f2, .reload]).obs.counts
      = [(1, 1), (2, 2)] := by decide

/-- … and the configuration's own count of notification rounds is exactly the number of reloads
    of the history that notified (loaded a new version; with fix-D46 also: reset to the defaults) -/
theorem notification_rounds (nr : Bool) (ops : List SysOp) :
    (Sys.init.run nr ops).cfg.notified = roundsOf (project nr Sys.init ops) := by
  have := notified_is_rounds nr Sys.init ops
  simpa [Sys.init, Cfg.init] using this

theorem reload_leaves_alone (c : Cfg) (file : Option FileSt)
    (h1 : (reload verFull c file).2 ≠ .loaded) (h2 : (reload verFull c file).2 ≠ .reset) :
    (reload verFull c file).1.m = c.m ∧ (reload verFull c file).1.notified = c.notified := by
  revert h1 h2
  exact reload_cases verFull c file (fun r => r.2 ≠ .loaded → r.2 ≠ .reset → r.1.m = c.m ∧ r.1.notified = c.notified)
    (fun _ _ _ => ⟨rfl, rfl⟩) (fun _ _ h => absurd rfl h) (fun _ _ => ⟨rfl, rfl⟩) (fun _ _ _ => ⟨rfl, rfl⟩)
    (fun _ _ _ => ⟨rfl, rfl⟩) (fun _ _ h _ => absurd rfl h)

example :
    let f1 : FileSt := ⟨1700000000000000000, ['k', '=', '2', '\n']⟩
    let f2 : FileSt := ⟨1700000001000000000, ['k', '=', '3', '\n']⟩
    (Sys.init.run false [.addObs ['a'] 1, .edit f1, .reload, .reload, .addObs ['b'] 2, .edit f2, .reload,
       .delete, .reload, .reload]).obs.counts = [(1, 2), (2, 1)] := by decide

/-- known finding `reload:reset-not-notified`: when the file disappears the map changes (back to
    the defaults) but the code before fix-D46 (`run false`) does not run the observers; the code
    (`run true`, FileConfig.go:201-204) does -/
theorem finding_reset_not_notified :
    let f1 : FileSt := ⟨1700000000000000000, ['k', '=', '2', '\n']⟩
    let ops : List SysOp := [.addObs ['a'] 1, .edit f1, .reload, .delete, .reload]
    lookup (Sys.init.run false ops).cfg.m ['k'] = none ∧ lookup (Sys.init.run false [.addObs ['a'] 1, .edit f1, .reload]).cfg.m ['k'] = some ['2'] ∧
    (Sys.init.run false ops).obs.counts = [(1, 1)] ∧ (Sys.init.run true ops).obs.counts = [(1, 2)] := by
  intro f1 ops
  refine ⟨?_, by decide, by decide, by decide⟩
  have h : (Sys.init.run false ops).cfg.m = _ :=
    map_after_delete_reload false Sys.init [.addObs ['a'] 1, .edit f1, .reload] (by decide) (by decide)
  rw [h]; exact lookup_defaults_k []

/-- for all histories of external edits, deletions and reloads: once the file stops changing
    (state `f`), one more reload makes every key=value of it visible.
    Assumptions about the world, not about the code: two states of the file that reload cannot
    tell apart (same mtime in ns and same size) have the same content, and no file carries
    the sentinel times -1 / 0. -/
theorem tracks (ops : List HOp) (f : FileSt)
    (hinj : VerInj verFull (filesOf ops)) (hreal : VerReal verFull (filesOf ops))
    (hcur : (runH verFull (Cfg.init, none) ops).2 = some f) :
    Reflects (runH verFull (Cfg.init, none) (ops ++ [.reload])).1 f.text :=
  tracks_after_reload verFull ops f hinj hreal hcur

/-- non-vacuity: two edits 0.3 s apart within one second, then a reload -/
example :
    lookup (runH verFull (Cfg.init, none)
      [.edit ⟨1700000000100000000, ['k', '=', '2', '\n']⟩, .reload,
       .edit ⟨1700000000400000000, ['k', '=', '3', '\n']⟩, .reload]).1.m ['k'] = some ['3'] := by decide

/-- the version stamp reload compares is exactly (mtime in ns, size in bytes) -/
theorem version_stamp (f : FileSt) : verFull f = (f.mtimeNs, (utf8Len f.text : Int)) := rfl

/-- known finding `reload:same-stamp-edit` (the residue of D37 on file systems with coarse
    timestamps, and of `cp -p`/restore with an identical mtime): an edit that changes neither the
    size nor the mtime violates `VerInj` and is never loaded — no stat-based watcher can see it -/
theorem finding_same_stamp :
    let f1 : FileSt := ⟨1700000000000000000, ['k', '=', '2', '\n']⟩
    let f2 : FileSt := ⟨1700000000000000000, ['k', '=', '3', '\n']⟩
    verFull f1 = verFull f2 ∧ ¬ VerInj verFull [f1, f2] ∧
    lookup (runH verFull (Cfg.init, none) [.edit f1, .reload, .edit f2, .reload]).1.m ['k'] = some ['2'] := by
  refine ⟨by decide, ?_, by decide⟩
  intro h
  have := h ⟨1700000000000000000, ['k', '=', '2', '\n']⟩ (by simp)
    ⟨1700000000000000000, ['k', '=', '3', '\n']⟩ (by simp) (by decide)
  revert this; decide

/-- an external edit that lands in the middle of a reload (after reload took the stamp and read the
    file): because the remembered stamp is the one taken *before* the read, the next reload loads it -/
theorem edit_during_reload_recovered (c : Cfg) (f1 f2 : FileSt) (props : KV)
    (hv : verFull f1 ≠ verFull f2) (hp : parseProps f2.text = .ok props) :
    let c1 := reloadRacing false c f1 f2
    (reload verFull c1 (some f2)).2 = .loaded ∧
    (reload verFull c1 (some f2)).1.notified = c1.notified + 1 ∧
    Reflects (reload verFull c1 (some f2)).1 f2.text := by
  intro c1
  have hne : c1.last ≠ verFull f2 := by
    rw [show c1.last = verFull f1 from reload_last verFull c f1]; exact hv
  exact reload_changed verFull c1 f2 props hne hp

/-- … whereas a stamp taken by a fresh stat after the read belongs to the new content while the map
    holds the old one: every later reload answers "same" -/
theorem finding_stamp_after_read :
    let f1 : FileSt := ⟨1700000000000000000, ['k', '=', '2', '\n']⟩
    let f2 : FileSt := ⟨1700000005000000000, ['k', '=', '3', '3', '\n']⟩
    let c1 := reloadRacing true Cfg.init f1 f2
    (reload verFull c1 (some f2)).2 = .same ∧ lookup (reload verFull c1 (some f2)).1.m ['k'] = some ['2'] ∧
    lookup (reload verFull (reloadRacing false Cfg.init f1 f2) (some f2)).1.m ['k'] = some ['3', '3'] := by decide

/-- the file goes away, a reload notices it (defaults), the file comes back — with any stamp, even
    the very one it had before (rename back, `cp -p`, `tar x`, `rsync -t`): it is loaded.  The
    remembered time 0 written by the reset is what guarantees the difference. -/
theorem restored_file_is_loaded (c : Cfg) (f : FileSt) (props : KV)
    (h1 : c.last.1 ≠ -1) (h0 : c.last.1 ≠ 0) (hf : f.mtimeNs ≠ 0) (hp : parseProps f.text = .ok props) :
    let c1 := (reload verFull c none).1
    (reload verFull c1 (some f)).2 = .loaded ∧ Reflects (reload verFull c1 (some f)).1 f.text := by
  intro c1
  have hne : c1.last ≠ verFull f := by
    intro e
    have : c1.last.1 = 0 := congrArg (·.1.last.1) (reload_none_reset verFull c h1 h0)
    exact hf (by rw [← this, e]; rfl)
  exact ⟨(reload_changed verFull c1 f props hne hp).1, (reload_changed verFull c1 f props hne hp).2.2⟩

example :
    let f : FileSt := ⟨1700000000000000000, ['k', '=', '2', '\n']⟩
    lookup (runH verFull (Cfg.init, none) [.edit f, .reload, .delete, .reload, .edit f, .reload]).1.m ['k'] = some ['2'] := by
  intro f
  exact (restored_file_is_loaded (reload verFull Cfg.init (some f)).1 f [(['k'], ['2'])]
    (by decide) (by decide) (by decide) (by decide)).2 [(['k'], ['2'])] (by decide) ['k'] ['2'] (by decide)

/-- … whereas a reset that keeps the remembered stamp (file-missing tracked by a separate flag)
    answers "same" when the file returns with its old stamp: the defaults stay for ever -/
theorem finding_reset_keeps_stamp :
    let f : FileSt := ⟨1700000000000000000, ['k', '=', '2', '\n']⟩
    let c := (reload verFull Cfg.init (some f)).1
    (reload verFull (resetKeepingStamp c) (some f)).2 = .same ∧
    lookup (reload verFull (resetKeepingStamp c) (some f)).1.m ['k'] = none := by
  intro f c
  have hl : (resetKeepingStamp c).last = verFull f := reload_last verFull Cfg.init f
  rw [reload_same verFull _ f hl, resetKeepingStamp_m]
  exact ⟨rfl, lookup_defaults_k []⟩

/-- whatever reload finds in the file — also an unparsable intermediate version (half-written file,
    bad escape, malformed `${`) — is remembered by its stamp — so when the file then disappears the
    configuration goes back to the defaults (and, with the observers told about resets, notifies) -/
theorem gone_after_failed_parse (c : Cfg) (f : FileSt) (h1 : f.mtimeNs ≠ -1) (h0 : f.mtimeNs ≠ 0) :
    let c1 := (reload verFull c (some f)).1
    c1.last = verFull f ∧ (reloadN true verFull c1 none).2 = .reset ∧
    (reloadN true verFull c1 none).1.notified = c1.notified + 1 := by
  intro c1
  have hl : c1.last = verFull f := reload_last verFull c f
  have hr := reload_none_reset verFull c1 (by rw [hl]; exact h1) (by rw [hl]; exact h0)
  refine ⟨hl, ?_, ?_⟩ <;> simp only [reloadN, hr] <;> rfl

example :
    let f1 : FileSt := ⟨1700000000000000000, ['k', '=', '2', '\n']⟩
    let bad : FileSt := ⟨1700000001000000000, ['=', 'v', '\n']⟩
    let s := Sys.init.run true [.addObs ['a'] 1, .edit f1, .reload, .edit bad, .reload, .delete, .reload]
    lookup s.cfg.m ['k'] = none ∧ lookup s.cfg.m "enabled".toList = some "true".toList ∧ s.obs.counts = [(1, 2)] := by
  intro f1 bad s
  have h : s.cfg.m = _ := map_after_delete_reload true Sys.init
    [.addObs ['a'] 1, .edit f1, .reload, .edit bad, .reload] (by decide) (by decide)
  rw [h]
  exact ⟨lookup_defaults_k [],
    lookup_mergeAll_mem [] defaults _ _ keysNodup_defaults (List.mem_map_of_mem (.head _)), by decide⟩

/-- … whereas "forgetting" the stamp after a failed parse by writing the never-loaded sentinel −1
    makes the later disappearance of the file invisible: no reset, no notification -/
theorem finding_forgotten_stamp_is_never_loaded :
    let f1 : FileSt := ⟨1700000000000000000, ['k', '=', '2', '\n']⟩
    let c := (reload verFull Cfg.init (some f1)).1
    (reloadN true verFull { c with last := (-1, c.last.2) } none).2 = .nofile ∧
    lookup (reloadN true verFull { c with last := (-1, c.last.2) } none).1.m ['k'] = some ['2'] := by decide

/-- D37: the unchanged code compares whole seconds — the same history leaves the first value -/
theorem finding_D37 :
    lookup (runH verSec (Cfg.init, none)
      [.edit ⟨1700000000100000000, ['k', '=', '2', '\n']⟩, .reload,
       .edit ⟨1700000000400000000, ['k', '=', '3', '\n']⟩, .reload]).1.m ['k'] = some ['2'] := by decide

/-- with every store of `apply` under `mu.Lock()` and every read section under `mu.RLock()`
    (the lock facts of Golib.Gen.C18), a reader sees the complete old map or the complete new
    map, for every schedule -/
theorem no_torn_read (old : KV) (ops : List WOp) (reads : List Str) (sched : List Who)
    (hdone : (runM true old ops reads sched).r = .done) :
    (runM true old ops reads sched).obs = reads.map (lookup old) ∨
    (runM true old ops reads sched).obs = reads.map (lookup (storeAll old ops)) := by
  have h := (linv_run old ops reads sched).2.1
  rw [hdone] at h
  exact h

/-- in particular for `apply` (a sequence of stores) and for the reset when the file disappeared
    (replace the map by an empty one, then store the defaults — one critical section) -/
example (old kvs : KV) (reads : List Str) (sched : List Who) (h : (runM true old (storesOf kvs) reads sched).r = .done) :=
  no_torn_read old (storesOf kvs) reads sched h
example (old : KV) (reads : List Str) (sched : List Who) (h : (runM true old (.clear :: storesOf defaults) reads sched).r = .done) :=
  no_torn_read old (.clear :: storesOf defaults) reads sched h

/-- D36: without the lock there is a schedule on which one read section sees key a of the old
    version and key b of the new one (the Go runtime usually aborts the process first) -/
theorem finding_D36 :
    let old : KV := [(['a'], ['1']), (['b'], ['1'])]
    let kvs : List WOp := storesOf [(['a'], ['2']), (['b'], ['2'])]
    let reads : List Str := [['a'], ['b']]
    let s := runM false old kvs reads [.reader, .reader, .writer, .writer, .writer, .reader, .reader]
    s.r = .done ∧ s.obs = [some ['1'], some ['2']] ∧
    s.obs ≠ reads.map (lookup old) ∧ s.obs ≠ reads.map (lookup (storeAll old kvs)) := by decide

/-- the reset split over two critical sections (empty the map; release; refill): a reader that
    runs in the gap sees an empty configuration — a key that is `true` in the old map and in the
    defaults reads as absent.  Each section alone satisfies `no_torn_read`; the pair does not give
    old-or-new. -/
theorem finding_reset_gap :
    let old : KV := [(['e'], ['t'])]
    let dflt : KV := [(['e'], ['t'])]
    let reads : List Str := [['e']]
    let s := runM true old [.clear] reads [.writer, .writer, .writer, .reader, .reader, .reader]
    s.w = .done ∧ s.r = .done ∧ s.obs = [none] ∧
    s.obs ≠ reads.map (lookup old) ∧ s.obs ≠ reads.map (lookup (storeAll old (.clear :: storesOf dflt))) := by decide

/-- **which file**: `$WHATAP_CONFIG_HOME` beats the WithHomePath option, which beats `$WHATAP_HOME`, which
    beats "."; the name is `$WHATAP_CONFIG` or "whatap.conf" (GetConfFile joins the two) -/
theorem conf_file_precedence (homeOpt envHome envConfHome envConfName : Str) :
    (envConfHome ≠ [] → (confFileParts homeOpt envHome envConfHome envConfName).1 = envConfHome) ∧
    (envConfHome = [] → homeOpt ≠ [] → (confFileParts homeOpt envHome envConfHome envConfName).1 = homeOpt) ∧
    (envConfHome = [] → homeOpt = [] → envHome ≠ [] → (confFileParts homeOpt envHome envConfHome envConfName).1 = envHome) ∧
    (envConfHome = [] → homeOpt = [] → envHome = [] → (confFileParts homeOpt envHome envConfHome envConfName).1 = ['.']) ∧
    (confFileParts homeOpt envHome envConfHome envConfName).2 = (if envConfName = [] then "whatap.conf".toList else envConfName) := by
  refine ⟨?_, ?_, ?_, ?_, ?_⟩
  · intro h
    cases envConfHome with
    | nil => exact absurd rfl h
    | cons a b => rfl
  · intro h1 h2; subst h1
    cases homeOpt with
    | nil => exact absurd rfl h2
    | cons a b => rfl
  · intro h1 h2 h3; subst h1; subst h2
    cases envHome with
    | nil => exact absurd rfl h3
    | cons a b => rfl
  · intro h1 h2 h3; subst h1; subst h2; subst h3; rfl
  · cases envConfName with
    | nil => rfl
    | cons a b => rfl

/-- **ApplyConfig(map)** stores every entry — empty values included — and nothing else changes: an
    assigned key reads back through GetValue (trimmed, never the environment), any other key answers as
    before; the remembered stamp and the notification count stay -/
theorem applyConfig_spec (c : Cfg) (kvs env : KV) (hn : KeysNodup kvs) :
    (∀ k v, (k, v) ∈ kvs → getValue (applyConfig c kvs).m env k = trimSpace v) ∧
    (∀ k, (∀ p ∈ kvs, p.1 ≠ k) → getValue (applyConfig c kvs).m env k = getValue c.m env k) ∧
    (applyConfig c kvs).last = c.last ∧ (applyConfig c kvs).notified = c.notified := by
  refine ⟨?_, ?_, rfl, rfl⟩
  · intro k v h
    simp [getValue, applyConfig, lookup_mergeAll_mem c.m kvs k v hn h]
  · intro k h
    simp [getValue, applyConfig, lookup_mergeAll_skip c.m kvs k h]

example : getValue (applyConfig ⟨[(['a'], ['1'])], (5, 3), 2⟩ [(['a'], []), (['b'], [' ', 'x'])]).m [(['a'], ['e'])] ['a'] = [] := by decide

/-- **ApplyDefault** is ApplyConfig of the defaults table: every default key reads its default, every
    other key is untouched -/
theorem applyDefault_spec (c : Cfg) (env : KV) :
    (∀ k v, (k, v) ∈ defaults → getValue (applyDefault c).m env k = trimSpace v) ∧
    (∀ k, (∀ p ∈ defaults, p.1 ≠ k) → getValue (applyDefault c).m env k = getValue c.m env k) :=
  ⟨(applyConfig_spec c defaults env keysNodup_defaults).1, (applyConfig_spec c defaults env keysNodup_defaults).2.1⟩

/-- **String() / ToString()** list every entry of the map as `key=value` with the value as stored -/
theorem string_lists_every_entry (m : KV) (k v : Str) (h : lookup m k = some v) :
    (k ++ '=' :: v) ∈ showLines m ∧ (showLines m).length = m.length :=
  ⟨List.mem_map.mpr ⟨(k, v), mem_of_lookup m k v h, rfl⟩, by simp [showLines]⟩

/-- **InArray**: membership up to `strings.TrimSpace` on both sides -/
theorem inArray_spec (s : Str) (list : List Str) :
    inArray s list = true ↔ ∃ it ∈ list, trimSpace it = trimSpace s := by
  unfold inArray
  simp only [List.any_eq_true, beq_iff_eq]
  constructor
  · rintro ⟨it, h, e⟩; exact ⟨it, h, e.symm⟩
  · rintro ⟨it, h, e⟩; exact ⟨it, h, e.symm⟩

example : inArray [' ', 'a'] [['b'], ['a', '\n']] = true ∧ inArray ['a'] [['A'], ['a', ' ', 'b']] = false := by decide

/-- **GetStringArray**: nothing for an empty value-or-default, else the tokens (cut at any delimiter
    character, empty tokens dropped), each trimmed -/
theorem getStringArray_spec (m env : KV) (k d deli : Str) :
    getStringArray m env k d deli =
      if (getValueDef m env k d).isEmpty then [] else (tokenizer (getValueDef m env k d) deli).map trimSpace := rfl

example : getStringArray [(['k'], " a, b ;;c ".toList)] [] ['k'] [] ",;".toList = [['a'], ['b'], ['c']] := by decide

/-- SetValues changes the file only: the in-memory map, the remembered stamp and the observer registry
    stay as they are (the written values become visible through the next reload, not before) -/
theorem setvalues_changes_the_file_only (keep : Bool) (pre suf : Str) (excl : List Str) (s : Sys) (now : Int) (kvs : KV) :
    (s.setValues keep pre suf excl now kvs).cfg = s.cfg ∧ (s.setValues keep pre suf excl now kvs).obs = s.obs := by
  unfold Sys.setValues
  split
  · exact ⟨rfl, rfl⟩
  · split <;> exact ⟨rfl, rfl⟩

/-- **own write is loaded**: a reload has looked at the file `f`; the object writes `text` back — a new
    file, stamped with the clock time `now` of the write — and the clock is not at `f`'s modification
    time; the next reload loads it, notifies, and every key=value of `text` is visible — whether or not
    the write changed the size of the file (same-length replacement, lengths that cancel out, …) -/
theorem own_write_is_loaded (c : Cfg) (f : FileSt) (now : Int) (text : Str) (props : KV)
    (hnow : now ≠ f.mtimeNs) (hp : parseProps text = .ok props) :
    let c1 := (reload verFull c (some f)).1
    let f' := writeBackFile false now f text
    (reload verFull c1 (some f')).2 = .loaded ∧
    (reload verFull c1 (some f')).1.notified = c1.notified + 1 ∧
    Reflects (reload verFull c1 (some f')).1 text :=
  own_write_loaded c f now text props hnow hp

/-- non-vacuity: `trace_rate=10` loaded, `25` written 50 ms later (same size), reload: 25 -/
example :
    let f : FileSt := ⟨1700000000000000000, "# s\ntrace_rate=10\n".toList⟩
    let c1 := (reload verFull Cfg.init (some f)).1
    lookup (reload verFull c1 (some (writeBackFile false 1700000000050000000 f "# s\ntrace_rate=25\n".toList))).1.m
      "trace_rate".toList = some "25".toList := by decide

/-- **written values read back through the getters** (write-back merge + reload, end to end): a
    well-formed file, loaded at any earlier point; assignments `M` (well-formed keys and values, no key
    twice) written by `DefaultFileParser.Write` at a clock time different from the file's modification
    time; one reload: `GetValue` of every assigned non-blank key answers the assigned value (trimmed) -/
theorem written_value_read_back (infos : List LineInfo) (M : KV) (hwf : WFprops infos) (hM : PropsWF M)
    (hn : KeysNodup M) (k v : Str) (hkv : (k, v) ∈ M) (hv : isBlankVal v = false)
    (c : Cfg) (env : KV) (mt now : Int) (hnow : now ≠ mt)
    (out : WriteOut) (hw : writeModel true (textOf infos) M = some out) (hx : parseProps out.text ≠ .expansion) :
    let f : FileSt := ⟨mt, textOf infos⟩
    let c1 := (reload verFull c (some f)).1
    getValue (reload verFull c1 (some (writeBackFile false now f out.text))).1.m env k = trimSpace v := by
  intro f c1
  obtain ⟨out', hw', outPairs, hlex, hvis⟩ := writeModel_merge infos M hwf hM
  rw [hw] at hw'
  cases hw'
  have hp := parseProps_of_lex out.text outPairs hlex hx
  have hk : k ≠ [] := (hM (k, v) hkv).1.ne_nil
  have hl1 : lookup (setAll (buildProps (pairsOf infos)) M) k = some v :=
    lookup_setAll_mem _ M k v hn hkv hk
  have hl2 : lookup (readMap (buildProps outPairs)) k = some v := by
    rw [hvis k]; simp [visible, hl1, hv]
  have hmem := mem_of_lookup _ k v hl2
  have := (own_write_loaded c f now out.text (buildProps outPairs) hnow hp).2.2
  have hl3 := this (buildProps outPairs) hp k v hmem
  simp only [getValue]
  rw [hl3]

/-- the same after an **arbitrary history** of the whole system (edits, deletions, reloads,
    registrations, panicking observers): the file exists, a reload runs, the object writes back
    (SetValues with prefix / suffix / exclusions) at a clock time different from the file's modification
    time, a reload runs: the file is the written one, the configuration reflects it, exactly one more
    notification round ran over the registry as it was -/
theorem own_write_after_any_history (nr : Bool) (ops : List SysOp) (f : FileSt) (now : Int)
    (pre suf : Str) (excl : List Str) (kvs : KV) (out : WriteOut) (props : KV)
    (hf : (Sys.init.run nr ops).file = some f)
    (hs : setValuesModel true pre suf excl f.text kvs = some out)
    (hp : parseProps out.text = .ok props) (hnow : now ≠ f.mtimeNs) :
    let s1 := (Sys.init.run nr ops).step nr .reload
    let s2 := (s1.setValues false pre suf excl now kvs).step nr .reload
    s2.file = some (writeBackFile false now f out.text) ∧
    Reflects s2.cfg out.text ∧ s2.cfg.notified = s1.cfg.notified + 1 ∧ s2.obs = s1.obs.run :=
  own_write_from_state nr (Sys.init.run nr ops) f now pre suf excl kvs out props hf hs hp hnow

/-- non-vacuity: edit, reload, registration, same-length SetValues under a prefix, reload -/
example :
    let f : FileSt := ⟨1700000000000000000, "p.rate=10\n".toList⟩
    let s1 := (Sys.init.run true [.edit f, .reload, .addObs "o".toList 1]).step true .reload
    let s2 := (s1.setValues false "p.".toList [] [] 1700000000050000000 [("rate".toList, "25".toList)]).step true .reload
    lookup s2.cfg.m "p.rate".toList = some "25".toList ∧ s2.obs.counts = [(1, 1)] := by decide

/-- … whereas a write-back that carries the modification time of the replaced file over to the
    replacement (`os.Chtimes(tmp, st.ModTime(), …)` before the rename) hides every size-preserving
    write from reload: the answer is "same", the getters keep the old value for ever, nobody is told -/
theorem finding_stamp_carried_over :
    let f : FileSt := ⟨1700000000000000000, "# s\ntrace_rate=10\n".toList⟩
    let c1 := (reload verFull Cfg.init (some f)).1
    let f' := writeBackFile true 1700000000050000000 f "# s\ntrace_rate=25\n".toList
    (reload verFull c1 (some f')).2 = .same ∧
    lookup (reload verFull c1 (some f')).1.m "trace_rate".toList = some "10".toList ∧
    (reload verFull c1 (some f')).1.notified = c1.notified := by decide

/-- **Write-back merge** (the part of the property the code satisfies; full statement: for *all*
    keys and values of the properties syntax — see `finding_value_escape`, `finding_key_escape`).
    For a file made of well-formed lines (comment/blank lines, and `key = value` lines whose key
    needs no escape) and assignments `M` with well-formed keys and values, the text produced by
    DefaultFileParser.Write parses, and reading it back gives exactly the merged map
    (`file ⊕ M`, blank values meaning "delete"). -/
theorem writeback_merge_partial (infos : List LineInfo) (M : KV) (hwf : WFprops infos) (hM : PropsWF M) :
    ∃ out, writeModel true (textOf infos) M = some out ∧
      ∃ outPairs, lexPairs out.text = some outPairs ∧
        ∀ key, lookup (readMap (buildProps outPairs)) key =
               visible (setAll (buildProps (pairsOf infos)) M) key :=
  writeModel_merge infos M hwf hM

/-- the merged map: an assigned key has the assigned value, every other key the file's value -/
theorem merged_map (props M : KV) (hn : KeysNodup M) :
    (∀ k v, (k, v) ∈ M → k ≠ [] → lookup (setAll props M) k = some v) ∧
    (∀ k, (∀ p ∈ M, p.1 ≠ k) → lookup (setAll props M) k = lookup props k) :=
  ⟨fun k v hm hk => lookup_setAll_mem props M k v hn hm hk, fun k h => lookup_setAll_skip props M k h⟩

/-- comment lines, blank lines and their positions survive; the remaining key=value lines keep
    their order and carry the merged value; new keys are appended after them -/
theorem writeback_layout (infos : List LineInfo) (M : KV) (hwf : WFprops infos) :
    let props := setAll (buildProps (pairsOf infos)) M
    (writeLines true props (infos.map (·.1))).text = textOf (outInfos props infos) ∧
    ((outInfos props infos).filter (fun li => li.2.isNone)).map (·.1) =
      (infos.filter (fun li => li.2.isNone)).map (·.1) ∧
    pairsOf (outInfos props infos) =
      ((pairsOf infos).filterMap (fun p =>
        if isBlankVal ((lookup props p.1).getD []) then none else some (p.1, (lookup props p.1).getD [])))
      ++ pairsOf (appendedInfos props ((pairsOf infos).map (·.1))) :=
  ⟨writeLines_wf _ infos hwf, skipLines_preserved _ infos, kv_order_preserved _ infos⟩

/-- what a write-back produces is again a well-formed file (so the theorem applies to the next
    write-back as well: files maintained through SetValues stay inside the class) -/
theorem writeback_closed (infos : List LineInfo) (M : KV) (hwf : WFprops infos) (hM : PropsWF M) :
    WFprops (outInfos (setAll (buildProps (pairsOf infos)) M) infos) :=
  outInfos_wf _ infos hwf
    (propsWF_setAll _ M (propsWF_buildProps infos hwf) hM)

example : (setValuesModel true ['p', '.'] [] [['x']] ['#', 'c', '\n', 'p', '.', 'a', '=', '1', '\n']
      [(['a'], ['2']), (['x'], ['9']), (['b'], ['3'])]).map (·.text)
    = some ['#', 'c', '\n', 'p', '.', 'a', '=', '2', '\n', 'p', '.', 'b', '=', '3', '\n'] := by decide

/-- the same through FileConfig.SetValues (exclusions, prefix, suffix) -/
theorem setvalues_merge_partial (pre suf : Str) (excl : List Str) (infos : List LineInfo) (kvs : KV)
    (hwf : WFprops infos)
    (hkv : ∀ kv ∈ kvs, ∀ k', finalKey pre suf excl kv.1 = some k' → WFkey k' ∧ (kv.2 = [] ∨ WFval kv.2)) :
    ∃ tmp out, setValuesModel true pre suf excl (textOf infos) kvs = some out ∧
      writeModel true (textOf infos) tmp = some out ∧
      ∃ outPairs, lexPairs out.text = some outPairs ∧
        ∀ key, lookup (readMap (buildProps outPairs)) key =
               visible (setAll (buildProps (pairsOf infos)) tmp) key := by
  let tmp0 := readMap (buildProps (pairsOf infos))
  let f := fun (t : KV) (kv : Str × Str) =>
      match finalKey pre suf excl kv.1 with
      | some k => put t k kv.2
      | none => t
  have htmp : PropsWF (kvs.foldl f tmp0) :=
    List.foldlRecOn (motive := PropsWF) kvs f (propsWF_filter _ _ (propsWF_buildProps infos hwf)) fun t ht kv hkvm => by
      simp only [f]
      cases hfk : finalKey pre suf excl kv.1 with
      | none => exact ht
      | some k' => exact propsWF_put t k' kv.2 ht (hkv kv hkvm k' hfk).1 (hkv kv hkvm k' hfk).2
  obtain ⟨out, ho, rest⟩ := writeModel_merge infos (kvs.foldl f tmp0) hwf htmp
  refine ⟨kvs.foldl f tmp0, out, ?_, ho, rest⟩
  simp only [setValuesModel, lexPairs_textOf infos hwf]
  exact ho

/-- **The grammar**: every key (non-empty) and every value — any characters — is expressible: the
    canonical rendering (escapes `\ `, `\:`, `\=`, `\\`, `\#`, `\!`, `\t`, `\n`, `\r`, `\f`) is read back
    exactly, line by line and for whole files: parse ∘ render = id -/
theorem parse_render_roundtrip (pairs : KV) (h : ∀ p ∈ pairs, p.1 ≠ []) :
    lexPairs (renderFileFull pairs) = some pairs := by
  simp [lexPairs, lexRun_renderFileFull pairs [] h, finish]

example : lexPairs (renderFileFull [(['a', ' ', '='], ['\t', 'x', '\n', '\\']), (['#'], [])])
    = some [(['a', ' ', '='], ['\t', 'x', '\n', '\\']), (['#'], [])] := by decide

/-- **Which values survive a write-back** (complete characterisation behind the known finding
    `writeback:value-escape`): the line Write renders for (k, v) is read back as exactly (k, v)
    iff v has no line break, no two adjacent backslashes and no leading blank; in general what
    comes back (up to the first line break) is `collapseBs (dropWhile blank v)` -/
theorem value_preserved_iff (k v : Str) (hk : WFkey k) :
    lexPairs (renderKV k v ++ ['\n']) = some [(k, v)] ↔ ValuePreserved v := by
  constructor
  · intro h
    have hh := value_readback_first k v _ hk h
    simp only [List.head?_cons, Option.some.injEq, Prod.mk.injEq, true_and] at hh
    -- cutting at a line break, dropping blanks and collapsing only shorten: all three leave `v` as it is
    have hpre := List.takeWhile_prefix (l := v) (fun c => !isEOL c)
    have hsuf := List.dropWhile_suffix (l := v.takeWhile (fun c => !isEOL c)) isWs
    have hlen := collapseBs_length ((v.takeWhile (fun c => !isEOL c)).dropWhile isWs)
    have h1 : v.takeWhile (fun c => !isEOL c) = v := hpre.eq_of_length (by
      have := hpre.length_le; have := hsuf.length_le; have := congrArg List.length hh; omega)
    rw [h1] at hsuf hh
    have h2 : v.dropWhile isWs = v := hsuf.eq_of_length (by
      have := hsuf.length_le; have := congrArg List.length hh; rw [h1] at hlen; omega)
    rw [h2] at hh
    obtain ⟨a, _, _, ht, _, ha, _⟩ := span_split (fun c => !isEOL c) v
    exact ⟨fun c hc => by simpa using ha c (ht ▸ h1.symm ▸ hc), (collapseBs_eq_iff v).mp hh.symm,
      (dropWhile_isWs_eq_iff v).mp h2⟩
  · intro ⟨hv, hadj, hhead⟩
    simp [lexPairs, value_readback k v '\n' [] hk (by decide) hv, finish,
      (dropWhile_isWs_eq_iff v).mpr hhead, collapseBs_id v hadj]

theorem value_read_back_as (k v : Str) (out : KV) (hk : WFkey k) (hv : ∀ c ∈ v, isEOL c = false) :
    lexRun ⟨.bk, out⟩ (renderKV k v ++ ['\n']) = ⟨.bk, (k, collapseBs (v.dropWhile isWs)) :: out⟩ :=
  value_readback k v '\n' out hk (by decide) hv

/-- `WFval` of the write-back theorem is exactly "preserved and not blank" -/
theorem wfval_iff (v : Str) : WFval v ↔ ValuePreserved v ∧ isBlankVal v = false := by
  constructor
  · intro ⟨h1, h2, h3, h4⟩
    exact ⟨⟨h2, h3, Or.inr h4⟩, h1⟩
  · intro ⟨⟨h2, h3, h4⟩, h1⟩
    refine ⟨h1, h2, h3, ?_⟩
    rcases h4 with h4 | h4
    · subst h4; simp [isBlankVal, trimSpace, trimBy, trimRightBy, trimLeftBy] at h1
    · exact h4

theorem key_cut_at_separator (a rest : Str) (e : Char) (l : KV) (ha : WFkey a) (he : isEndOfKey e = true)
    (h : lexPairs (a ++ e :: rest) = some l) : ∃ v tl, l = (a, v) :: tl :=
  first_key_cut a rest e l ha he h

example : lexPairs (renderKV ['d', ' ', 'e'] ['5'] ++ ['\n']) = some [(['d'], ['e', '=', '5'])] := by decide

/-- **Which keys survive a write-back** (behind `writeback:key-escape`): keys are written
    unescaped and only when they start with `[0-9A-Za-z_]` (`appendedLines`); a key without a
    backslash is read back from its line iff none of its characters ends a key, otherwise the item
    comes back under the strictly shorter prefix before the first such character.  (Keys containing
    a backslash: never preserved, `key_preserved_iff_full`.) -/
theorem key_preserved_iff (k v : Str) (hw : isWordStart k = true) (hbs : ∀ c ∈ k, c ≠ '\\') (hv : WFval v) :
    lexPairs (renderKV k v ++ ['\n']) = some [(k, v)] ↔ ∀ c ∈ k, plainKeyChar c = true := by
  constructor
  · intro h
    have e : renderKV k v ++ ['\n'] = k ++ '=' :: (escValue v ++ ['\n']) := by simp [renderKV]
    obtain ⟨v', tl, hl⟩ := key_readback k _ _ hw hbs (e ▸ h)
    have hk : k = k.takeWhile plainKeyChar := (Prod.mk.inj (List.cons.inj hl).1).1
    obtain ⟨a, _, _, ht, _, hpa, _⟩ := span_split plainKeyChar k
    exact fun c hc => hpa c (ht ▸ hk ▸ hc)
  · intro hall
    simp [lexPairs, lexRun_renderKV k v [] ⟨hw, hall⟩ hv, finish]

/-- keys with a backslash (written unescaped, so the lexer sees an escape): if the first
    character that is not plain is a backslash and the character after it — the next character of
    the key, or the line's '=' when the backslash ends the key — is neither another backslash nor
    'u', the key is not preserved.  A special case of `key_preserved_iff_full`, which needs none of
    the conditions on `c`; the two shapes excluded here are shown by example below. -/
theorem key_with_backslash_not_preserved (a b v : Str) (c : Char) (ha : WFkey a)
    (hc1 : c ≠ '\\') (hc2 : c ≠ 'u')
    (hnext : (b ++ '=' :: escValue v ++ ['\n']).head? = some c) :
    lexPairs (renderKV (a ++ '\\' :: b) v ++ ['\n']) ≠ some [(a ++ '\\' :: b, v)] := by
  have hw : isWordStart (a ++ '\\' :: b) = true := by
    cases a with
    | nil => exact absurd ha.1 (by decide)
    | cons x r => exact ha.1
  have e : renderKV (a ++ '\\' :: b) v ++ ['\n'] = (a ++ '\\' :: b) ++ '=' :: (escValue v ++ ['\n']) := by
    simp [renderKV]
  rw [e]
  exact key_with_bs_never_first _ _ v [] hw (by simp)

example : lexPairs (renderKV ['a', '\\', 'b'] ['1'] ++ ['\n']) = some [(['a', 'b'], ['1'])] := by decide
example : lexPairs (renderKV ['a', '\\'] ['1'] ++ ['\n']) = some [(['a', '=', '1'], [])] := by decide
/-- two shapes by example: `a\\b` comes back as `a\b`, `a\u0041` as `aA` -/
example : lexPairs (renderKV ['a', '\\', '\\', 'b'] ['1'] ++ ['\n']) = some [(['a', '\\', 'b'], ['1'])] := by decide
example : lexPairs (renderKV ['a', '\\', 'u', '0', '0', '4', '1'] ['1'] ++ ['\n']) = some [(['a', 'A'], ['1'])] := by decide

/-- **Which keys survive a write-back — complete**: a key that starts with a word character
    (others are never written) is read back from its rendered line iff every character is plain
    (no blank, tab, form feed, line end, ':', '=', backslash).  A key containing a backslash is
    never read back under its own name, whatever follows the backslash
    (`Conf.key_with_bs_never_first`: the lexed key is shorter than the consumed text, or has one
    '=' more than the written key). -/
theorem key_preserved_iff_full (k v : Str) (hw : isWordStart k = true) (hv : WFval v) :
    lexPairs (renderKV k v ++ ['\n']) = some [(k, v)] ↔ ∀ c ∈ k, plainKeyChar c = true := by
  by_cases hbs : '\\' ∈ k
  · constructor
    · intro h
      have e : renderKV k v ++ ['\n'] = k ++ '=' :: (escValue v ++ ['\n']) := by simp [renderKV]
      rw [e] at h
      exact absurd h (key_with_bs_never_first k _ v [] hw hbs)
    · intro hall
      have hp := hall '\\' hbs
      have : plainKeyChar '\\' = false := by decide
      rw [this] at hp; cases hp
  · exact key_preserved_iff k v hw (fun c hc e => hbs (e ▸ hc)) hv

/-- the well-formed class contains the full value grammar: any spelling of the value that the
    lexer reads as a preserved value (escapes, blanks around '='), empty values, comments starting
    with '#' or '!' after blanks -/
theorem wellformed_lines_full (k pv cs w : Str) (c : Char) (a b : Nat) (hk : WFkey k)
    (hpv : pv = [] ∨ WFval pv) (hw : ∀ x ∈ w, isWs x = true) (hc : isCommentStart c = true) (hcs : NoBreak cs) :
    KVLine (k ++ blanks a ++ '=' :: (blanks b ++ renderValFull pv)) k pv ∧
    KVLine (k ++ blanks a ++ '=' :: blanks b) k [] ∧
    SkipLine (w ++ c :: cs) :=
  ⟨kvline_full_spelling k pv a b hk hpv, empty_value_kvline k a b hk, comment_skipline w cs c hw hc hcs⟩

/-- a hand-written line with `\t` and `\u00e9` escapes in the value is in the class -/
example : KVLine ['k', ' ', '=', ' ', 'a', '\\', 't', 'b', '\\', 'u', '0', '0', 'e', '9'] ['k'] ['a', '\t', 'b', 'é'] := by
  have := kvline_of_raw ['k'] [' ', 'a', '\\', 't', 'b', '\\', 'u', '0', '0', 'e', '9'] ['a', '\t', 'b', 'é'] 1
    ⟨by decide, by decide⟩ (Or.inr ⟨by decide, by decide, by simp [NoAdjBs], by decide⟩)
    (by unfold NoBreak; decide) (fun out => rfl)
  simpa [blanks] using this

/-- known finding `writeback:line-shape`: a key=value line without '=' (':' or blank separator)
    is copied as it is and its key appended again; assigning works (the later line wins) but
    deleting the key does not, and every write-back adds another copy -/
theorem finding_line_shape :
    let text : Str := ['k', ':', ' ', 'v', '\n']
    (writeModel true text [(['k'], [])]).map (·.text) = some text ∧
    (writeModel true text [(['k'], ['w'])]).map (·.text) = some ['k', ':', ' ', 'v', '\n', 'k', '=', 'w', '\n'] ∧
    (writeModel true ['k', ':', ' ', 'v', '\n', 'k', '=', 'w', '\n'] []).map (·.text)
      = some ['k', ':', ' ', 'v', '\n', 'k', '=', 'w', '\n'] := by decide

/-- non-vacuity of the hypotheses: a comment containing '=' twice, a blank line and a rendered
    key=value line are well-formed lines -/
example : WFprops [(['#', 'x', '=', '1', '=', '2'], none), ([], none),
                   (renderKV ['k'] ['v', ' ', 'w'], some (['k'], ['v', ' ', 'w']))] := by
  intro li hli
  simp only [List.mem_cons, List.not_mem_nil, or_false] at hli
  rcases hli with h | h | h
  · subst h; exact hash_comment_skipline _ (by unfold NoBreak; decide)
  · subst h; exact empty_skipline
  · subst h
    exact renderKV_kvline _ _ ⟨by decide, by decide⟩ ⟨by decide, by decide, by simp [NoAdjBs], by decide⟩

/-- non-vacuity of `written_value_read_back`: the file above, loaded at time 5; `k=9` and `n=t ` written at
    time 6; after the reload GetValue("n") is the written value, trimmed -/
example :
    let infos : List LineInfo := [(['#', 'x', '=', '1', '=', '2'], none), ([], none),
                   (renderKV ['k'] ['v', ' ', 'w'], some (['k'], ['v', ' ', 'w']))]
    let f : FileSt := ⟨5, textOf infos⟩
    getValue (reload verFull (reload verFull Cfg.init (some f)).1
      (some (writeBackFile false 6 f (WriteOut.text ⟨[['#', 'x', '=', '1', '=', '2'], [], ['k', '=', '9']], [['n', '=', 't', ' ']]⟩)))).1.m
      [] ['n'] = ['t'] := by
  intro infos f
  have hwf : WFprops infos := by
    intro li hli
    simp only [infos, List.mem_cons, List.not_mem_nil, or_false] at hli
    rcases hli with h | h | h
    · subst h; exact hash_comment_skipline _ (by unfold NoBreak; decide)
    · subst h; exact empty_skipline
    · subst h
      exact renderKV_kvline _ _ ⟨by decide, by decide⟩ ⟨by decide, by decide, by simp [NoAdjBs], by decide⟩
  have hM : PropsWF [(['k'], ['9']), (['n'], ['t', ' '])] := by
    intro p hp
    simp only [List.mem_cons, List.not_mem_nil, or_false] at hp
    rcases hp with h | h <;> subst h
    · exact ⟨⟨by decide, by decide⟩, Or.inr ⟨by decide, by decide, by simp [NoAdjBs], by decide⟩⟩
    · exact ⟨⟨by decide, by decide⟩, Or.inr ⟨by decide, by decide, by simp [NoAdjBs], by decide⟩⟩
  exact written_value_read_back infos _ hwf hM (by unfold KeysNodup; decide) ['n'] ['t', ' '] (by simp) (by decide)
    Cfg.init [] 5 6 (by decide) _ (by decide) (by decide)

/-- the usual hand-written shape `key = value` (any number of blanks around '=') is a
    well-formed line, as are `#…` comments (whatever they contain) and empty lines -/
theorem wellformed_lines (k v cs : Str) (a b : Nat) (hk : WFkey k) (hv : WFval v) (hc : NoBreak cs) :
    KVLine (k ++ blanks a ++ '=' :: (blanks b ++ escValue v)) k v ∧ SkipLine ('#' :: cs) ∧ SkipLine [] :=
  ⟨spaced_kvline k v a b hk hv, hash_comment_skipline cs hc, empty_skipline⟩

example : writeModel true ['#', 'x', '=', '1', '=', '2', '\n', 'k', '=', '1', '\n'] [(['k'], ['9']), (['n'], ['v'])]
    = some ⟨[['#', 'x', '=', '1', '=', '2'], ['k', '=', '9']], [['n', '=', 'v']]⟩ := by decide

/-- D39 (second half): the unchanged code treats a comment line containing '=' as a key=value
    line: the text after a second '=' is cut off -/
theorem finding_D39_comment :
    writeModel false ['#', 'x', '=', '1', '=', '2', '\n', 'k', '=', '1', '\n'] [(['k'], ['9'])]
      = some ⟨[['#', 'x', '=', '1'], ['k', '=', '9']], []⟩ := by decide

/-- known finding `writeback:value-escape`: a value with two adjacent backslashes is not
    `WFval`, and indeed does not survive a write-back that does not even touch its key:
    the file `w=a\\\\b` (value `a\\b`) is rewritten as `w=a\\b` (value `a\b`) -/
theorem finding_value_escape :
    let text : Str := ['w', '=', 'a', '\\', '\\', '\\', '\\', 'b', '\n']
    (lexPairs text = some [(['w'], ['a', '\\', '\\', 'b'])]) ∧
    ((writeModel true text [(['k'], ['1'])]).map (·.text) =
       some ['w', '=', 'a', '\\', '\\', 'b', '\n', 'k', '=', '1', '\n']) ∧
    (lexPairs ['w', '=', 'a', '\\', '\\', 'b', '\n', 'k', '=', '1', '\n'] =
       some [(['w'], ['a', '\\', 'b']), (['k'], ['1'])]) ∧
    ¬ WFval ['a', '\\', '\\', 'b'] := by
  refine ⟨by decide, by decide, by decide, ?_⟩
  intro h; exact h.2.2.1

/-- known finding `writeback:key-escape`: a key that needs an escape is not `WFkey`; any
    write-back loses it: the file `d\ e=5` (key "d e") becomes `d e=5` (key "d", value "e=5") -/
theorem finding_key_escape :
    let text : Str := ['d', '\\', ' ', 'e', '=', '5', '\n']
    (lexPairs text = some [(['d', ' ', 'e'], ['5'])]) ∧
    ((writeModel true text [(['k'], ['1'])]).map (·.text) =
       some ['d', ' ', 'e', '=', '5', '\n', 'k', '=', '1', '\n']) ∧
    (lexPairs ['d', ' ', 'e', '=', '5', '\n', 'k', '=', '1', '\n'] =
       some [(['d'], ['e', '=', '5']), (['k'], ['1'])]) ∧
    ¬ WFkey ['d', ' ', 'e'] := by
  refine ⟨by decide, by decide, by decide, ?_⟩
  intro h
  have := h.2 ' ' (by simp)
  revert this; decide

/-- with the temp-file protocol (create in the same directory, write, sync, close, rename) the
    configuration file holds the complete old or the complete new content at every point at
    which the process can stop, and the new content at the end -/
theorem crash_atomic (old new : Str) :
    (∀ s ∈ crashStates new atomicSeq ⟨some old, none⟩, visibleOK old new s) ∧
    (atomicSeq.foldl (execKind new) ⟨some old, none⟩).target = some new :=
  ⟨atomicSeq_visible old new none, atomicSeq_final old new none⟩

/-- **Power loss** (durability model: volatile/durable content per inode, volatile/durable
    directory entry; un-synced data and an un-synced rename may or may not survive): with the
    code's sequence [close, createTemp, chmod, write, sync, close, rename] the configuration path
    holds the complete old or the complete new content whatever survives, at every point; once
    the sequence has run every process sees the new content.  The fsync is what makes this true:
    without it the file can come back empty (`noSyncSeq`). -/
theorem crash_atomic_durable (old new : Str) :
    (∀ s ∈ dstates new atomicSeq (DFS.init old), ∀ c ∈ outcomes s, c = old ∨ c = new) ∧
    (let s := atomicSeq.foldl (dexec new) (DFS.init old)
     (s.ino s.dirVol).vol = new ∧ ∀ c ∈ outcomes s, c = old ∨ c = new) :=
  ⟨atomicSeq_durable old new,
   by simp [atomicSeq, dexec, DFS.init, DFS.resolve, DFS.setIno, DFS.ino, outcomes, inodeOutcomes]⟩

theorem finding_rename_without_sync (old new : Str) (hn : new ≠ []) :
    ∃ s ∈ dstates new noSyncSeq (DFS.init old), ([] : Str) ∈ outcomes s := by
  refine ⟨noSyncSeq.foldl (dexec new) (DFS.init old), ?_, ?_⟩
  · simp [noSyncSeq, dstates, dexec, DFS.init, DFS.resolve, DFS.setIno, DFS.ino]
  · have : ¬ ([] : Str) = new := fun e => hn e.symm
    simp [noSyncSeq, dexec, DFS.init, DFS.resolve, DFS.setIno, DFS.ino, outcomes, inodeOutcomes, this, prefixes_nil_mem]

theorem finding_D39_trunc_durable (old new : Str) :
    ∃ s ∈ dstates new truncSeq (DFS.init old), ([] : Str) ∈ outcomes s := by
  refine ⟨dexec new (DFS.init old) (.openTrunc .target), ?_, ?_⟩
  · simp [truncSeq, dstates, dexec, DFS.init, DFS.resolve, DFS.setIno, DFS.ino, prefixes_nil_mem]
  · simp only [dexec, DFS.init, DFS.resolve, DFS.setIno, DFS.ino, outcomes, inodeOutcomes]
    by_cases h : old = []
    · simp [h]
    · simp [h, prefixes]

example : ((dstates ['b'] atomicSeq (DFS.init ['a'])).flatMap outcomes).eraseDups = [['a'], ['b']] := by decide

/-- **Write faults**: CreateTemp, WriteString (after any number of characters), Sync, Close or
    Rename may fail in any combination: afterwards the configuration file holds the complete new
    content and Write returned nil, or the complete old content and Write returned the error; no
    temporary file stays behind -/
theorem write_faults_safe (ft : Faults) (old new : Str) :
    let r := storeProtocol true ft old new
    ((r.1.target = some new ∧ r.2 = false) ∨ (r.1.target = some old ∧ r.2 = true)) ∧ r.1.temp = none := by
  obtain ⟨c, w, s, cl, rn⟩ := ft
  cases c <;> cases w <;> cases s <;> cases cl <;> cases rn <;> simp [storeProtocol]

/-- … which needs the error of WriteString/Sync to reach the test that guards the rename: with
    that error lost, a write failing after n characters installs those n characters and reports
    success -/
theorem finding_write_error_lost (old new : Str) (n : Nat) :
    storeProtocol false ⟨false, some n, false, false, false⟩ old new = (⟨some (new.take n), none⟩, false) := by
  simp [storeProtocol]

example : (storeProtocol true ⟨false, some 2, false, false, false⟩ ['o', 'l', 'd'] ['n', 'e', 'w']) = (⟨some ['o', 'l', 'd'], none⟩, true) := by decide

/-- **Crash, then continue**: whatever an interrupted earlier write left in the temporary file
    (`leftover`, any content, any length), the next write-back starts from a fresh temporary file:
    old-or-new at every stop point and the complete new content at the end -/
theorem crash_then_continue (old new : Str) (leftover : Option Str) :
    (∀ s ∈ crashStates new atomicSeq ⟨some old, leftover⟩, visibleOK old new s) ∧
    (atomicSeq.foldl (execKind new) ⟨some old, leftover⟩).target = some new :=
  ⟨atomicSeq_visible old new leftover, atomicSeq_final old new leftover⟩

/-- D39 (first half): open with O_TRUNC, then write — there is a stop point at which the file
    is empty, and one for every proper prefix of the new content -/
theorem finding_D39_trunc (old new : Str) (ho : old ≠ []) (hn : new ≠ []) :
    ∃ s ∈ crashStates new truncSeq ⟨some old, none⟩, ¬ visibleOK old new s := by
  refine ⟨⟨some [], none⟩, truncSeq_shows_prefix old new [] none (prefixes_nil_mem new), ?_⟩
  intro h
  rcases h with h | h
  · exact ho (by simpa using h.symm)
  · exact hn (by simpa using h.symm)

example : ∃ s ∈ crashStates ['a', '=', '2'] truncSeq ⟨some ['a', '=', '1'], none⟩, s.target = some ['a'] :=
  ⟨⟨some ['a'], none⟩, truncSeq_shows_prefix _ _ ['a'] none (by decide), rfl⟩

end C18
