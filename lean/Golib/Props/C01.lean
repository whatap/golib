/-
  Property C01 — primitive stream codec is lossless, canonical and big-endian.

  The statements of the property over the model of Golib.Prim.*; what the library needs for
  itself is proved there and referred to, the rest is proved here.
  The model (`Prim.writeOp`, `Prim.readOp`, …) is tied to /repo/io by the
  correspondence harness `harness/c01` and by the regenerated facts of
  `Golib.Gen.C01` (see Golib/Props/C01Gen.lean).
-/
import Golib.Prim.Extra
import Golib.Prim.Stream
import Golib.Prim.Api

namespace C01
open Prim

/-- every fixed-width signed field: `w` bytes, big-endian two's complement, round trip -/
theorem be_roundtrip (w : Nat) (v : Int) (h : inRange w v) : decI w (encI w v) = v :=
  decI_encI w v h

/-- the encoding is exactly `w` bytes, each a byte -/
theorem be_bytes (w : Nat) (v : Int) : WFB (encI w v) ∧ (encI w v).length = w :=
  ⟨encI_WFB w v, encI_length w v⟩

/-- the encoding is canonical: any `w` bytes are the encoding of the value they decode to -/
theorem be_canonical (bs : Bytes) (h : WFB bs) : encI bs.length (decI bs.length bs) = bs := by
  unfold decI encI
  rw [toU_ofU _ _ (unbeN_lt bs h)]
  exact beN_unbeN bs h

/-- big-endian: the first byte is the most significant (value = Σ bᵢ·256^(w-1-i)) -/
theorem be_most_significant_first (b : Nat) (bs : Bytes) :
    unbeN (b :: bs) = b * 256 ^ bs.length + unbeN bs := rfl

theorem decimal_roundtrip (v : Int) (r : Bytes) (h : inRange 8 v) :
    P.run decDecimal (encDecimal v ++ r) = some (v, r) := run_decDecimal v r h

/-- the decimal uses the shortest of its 0/1/2/3/4/5/8-byte forms that holds the value -/
theorem decimal_shortest (v : Int) (h : inRange 8 v) :
    (encDecimal v).length = 1 + leastClass v ∧ (encDecimal v).headD 0 = leastClass v ∧
    fits (leastClass v) v ∧
    ∀ c ∈ [0, 1, 2, 3, 4, 5, 8], c < leastClass v → ¬ fits c v :=
  ⟨encDecimal_length v, encDecimal_head v, leastClass_fits v h,
    fun c hc hlt hf => Nat.not_le_of_gt hlt (leastClass_le_of_fits v c hc hf)⟩

theorem blob_roundtrip (bs r : Bytes) (h : bs.length < 2147483648) :
    P.run decBlob (encBlob bs ++ r) = some (bs, r) := run_decBlob bs r h

theorem blob_prefix_len (bs : Bytes) :
    (encBlob bs).length =
      bs.length + (if bs.length ≤ 253 then 1 else if bs.length ≤ 65535 then 3 else 5) := by
  refine encBlob_cases (motive := fun e => e.length = bs.length + _) bs
    (fun h0 => ?_) (fun _ h1 => ?_) (fun h1 h2 => ?_) fun h2 => ?_
  · rw [h0]; rfl
  · rw [if_pos h1]; rfl
  · rw [if_neg h1, if_pos h2, List.length_cons, List.length_append, beN_length]; omega
  · rw [if_neg (by omega), if_neg h2, List.length_cons, List.length_append, encI_length]; omega

theorem op_roundtrip (op : Op) (r : Bytes) (h : WFOp op) :
    P.run (readOp op) (writeOp op ++ r) = some (op, r) := Prim.op_roundtrip op r h

/-- any program of mixed writes is read back identically, in order, consuming exactly
    the bytes produced -/
theorem program_roundtrip (ops : List Op) (h : ∀ op ∈ ops, WFOp op) :
    P.run (readAll ops) (writeAll ops) = some (ops, []) := by
  have := Prim.program_roundtrip ops [] h
  simpa using this

/-- … and whatever follows the program's bytes is left untouched -/
theorem program_roundtrip_rest (ops : List Op) (r : Bytes) (h : ∀ op ∈ ops, WFOp op) :
    P.run (readAll ops) (writeAll ops ++ r) = some (ops, r) := Prim.program_roundtrip ops r h

/-- the stream's reported size equals the number of bytes produced -/
theorem size_is_length (ops : List Op) :
    (Writer.exec ops).buf = writeAll ops ∧ (Writer.exec ops).written = (writeAll ops).length := by
  have h := Writer.exec_spec ops
  exact ⟨h.1, h.1 ▸ h.2⟩

/-- floats travel as the big-endian form of their IEEE-754 bit pattern, so every NaN
    payload survives -/
theorem float_bits (b : Nat) (r : Bytes) (h : b < 4294967296) :
    writeOp (.float b) = beN 4 b ∧ P.run (readOp (.float 0)) (writeOp (.float b) ++ r) = some (.float b, r) :=
  ⟨rfl, Prim.op_roundtrip (.float b) r h⟩

theorem double_bits (b : Nat) (r : Bytes) (h : b < 18446744073709551616) :
    writeOp (.double b) = beN 8 b ∧ P.run (readOp (.double 0)) (writeOp (.double b) ++ r) = some (.double b, r) :=
  ⟨rfl, Prim.op_roundtrip (.double b) r h⟩

/-- the little-endian read helpers decode the byte-reversed layout of the same widths -/
theorem little_endian_signed (w : Nat) (v : Int) (r : Bytes) (h : inRange w v) :
    P.run (rdILittle w) ((encI w v).reverse ++ r) = some (v, r) := by
  rw [run_rdILittle_bytes w _ r (by rw [List.length_reverse, encI_length]), decILittle_reverse_encI w v h]

theorem little_endian_unsigned (w n : Nat) (r : Bytes) (h : n < 256 ^ w) :
    P.run (rdULittle w) ((beN w n).reverse ++ r) = some (n, r) := by
  rw [run_rdULittle_bytes w _ r (by rw [List.length_reverse, beN_length]), unleN, List.reverse_reverse,
    unbeN_beN_of_lt w n h]

/-- the error side is not totalised away: an array longer than the signed 16-bit count can
    represent is rejected by the reader -/
theorem array_too_long_rejected {α : Type} (enc : α → Bytes) (dec : P α) (xs : List α) (r : Bytes)
    (h1 : 32767 < xs.length) (h2 : xs.length ≤ 65535) :
    P.run (decArr dec) (encArr enc xs ++ r) = none := decArr_too_long enc dec xs r h1 h2

/-- a strict prefix of a program's bytes never reads back (from `P.prefix_fails`) -/
theorem program_prefix_fails (ops : List Op) (q s : Bytes) (h : ∀ op ∈ ops, WFOp op)
    (hs : s ≠ []) (hq : q ++ s = writeAll ops) : P.run (readAll ops) q = none :=
  P.prefix_fails (readAll ops) q s ops hs (by rw [hq]; exact program_roundtrip ops h)

/-- `ReadUnsignedShort` / `ReadUnsignedInt` over a signed write return the two's-complement pattern -/
theorem unsigned_read_of_signed_write (w : Nat) (v : Int) (r : Bytes) :
    P.run (rdU w) (encI w v ++ r) = some (toU w v, r) := run_rdU w (toU w v) r (toU_lt w v)

/-- `ReadByte` followed by `ReadDecimalLen(b)` is `ReadDecimal` (the pack header relies on it) -/
theorem decimal_two_step (bs : Bytes) :
    P.run decDecimal bs = P.run (P.bind (rdU 1) (fun b => decDecimalLen b)) bs := by
  unfold decDecimal rdU
  simp only [P.bind]
  cases bs with
  | nil => simp [P.run_read]
  | cons b r =>
    rw [P.run_read1, P.run_read1]
    simp [unbeN]

theorem int_bytes_limit_roundtrip (max : Nat) (bs r : Bytes) (h : bs.length ≤ max) (hm : max < 2147483648) :
    P.run (decBytes32Limit max) (encBytes32 bs ++ r) = some (bs, r) :=
  reads_counted (g := fun n => n < 0 ∨ (max : Int) < n)
    (fun r => run_rdI 4 _ r ((inRange_4 _).mpr (by omega))) (by omega) (run_rdBytes bs) r

theorem int_bytes_limit_rejects (max : Nat) (bs r : Bytes) (h : max < bs.length) (hl : bs.length < 2147483648) :
    P.run (decBytes32Limit max) (encBytes32 bs ++ r) = none := by
  unfold decBytes32Limit encBytes32
  rw [List.append_assoc, P.run_bind_some _ _ _ _ _ (run_rdI 4 (bs.length : Int) (bs ++ r)
      ((inRange_4 _).mpr (by omega))), if_pos (by omega)]
  rfl

theorem decimal_array_roundtrip (xs : List Int) (r : Bytes) (hl : xs.length < 2147483648)
    (h : ∀ x ∈ xs, inRange 8 x) : P.run decDecArr (encDecArr xs ++ r) = some (xs, r) :=
  run_decDecArr xs r hl h

theorem decimal_array_int_roundtrip (xs : List Int) (r : Bytes) (hl : xs.length < 2147483648)
    (h : ∀ x ∈ xs, inRange 4 x) : P.run decDecArrInt (encDecArr xs ++ r) = some (xs, r) := by
  have h8 : ∀ x ∈ xs, inRange 8 x := fun x hx => inRange_mono (by decide) (h x hx)
  rw [decDecArrInt, P.run_map_some _ (run_decDecArr xs r hl h8),
    List.map_congr_left fun x hx => narrow32_id x (h x hx), List.map_id']

/-- `WriteHeader` turns whatever was written into the int-length payload of a frame
    `[src, ver] ++ be8 pcode ++ be8 licenseHash ++ be4 |payload| ++ payload`, and `Size()` is again the
    number of bytes in the buffer -/
theorem header_layout (w : Writer) (src ver : Nat) (pcode lic : Int) :
    (w.header src ver pcode lic).buf =
      writeAll [.byte src, .byte ver, .long pcode, .long lic, .intBytes w.buf] ∧
    (w.header src ver pcode lic).written = (w.header src ver pcode lic).buf.length :=
  Writer.header_eq w src ver pcode lic ▸ Writer.exec_spec _

theorem secure_header_layout (w : Writer) (src ver : Nat) (pcode oid key : Int) :
    (w.secureHeader src ver pcode oid key).buf =
      writeAll [.byte src, .byte ver, .long pcode, .int oid, .int key, .intBytes w.buf] ∧
    (w.secureHeader src ver pcode oid key).written = (w.secureHeader src ver pcode oid key).buf.length :=
  Writer.secureHeader_eq w src ver pcode oid key ▸ Writer.exec_spec _

/-- `Write(b, off, sz)` appends exactly the window `b[off : off+sz]` and adds `sz` to `Size()` -/
theorem write_window (w : Writer) (b : Bytes) (off sz : Nat) (h : off + sz ≤ b.length) :
    (w.window b off sz).buf = w.buf ++ (b.drop off).take sz ∧
    (w.window b off sz).written = w.written + sz := Writer.window_spec w b off sz h

theorem header_roundtrip (w : Writer) (src ver : Nat) (pcode lic : Int) (r : Bytes)
    (hs : src < 256) (hv : ver < 256) (hp : inRange 8 pcode) (hl : inRange 8 lic)
    (hb : w.buf.length < 2147483648) :
    P.run (readAll [.byte 0, .byte 0, .long 0, .long 0, .intBytes []])
      ((w.header src ver pcode lic).buf ++ r) =
      some ([.byte src, .byte ver, .long pcode, .long lic, .intBytes w.buf], r) :=
  Prim.header_roundtrip w src ver pcode lic r hs hv hp hl hb

/-! ### the connection-backed input (NewDataInputNet): fragmentation is invisible -/

/-- the loop of `ReadBytes` on a connection returns exactly the next `n` bytes of the stream and
    leaves the rest of the stream to arrive, however the stream is cut into reads (a read may
    return any number of bytes from 0 to what is asked for) -/
theorem conn_read_bytes (n : Nat) (fs : List Bytes) (h : n ≤ fs.flatten.length) :
    ∃ r, Prim.Stream.readN n fs = some (fs.flatten.take n, r) ∧ r.flatten = fs.flatten.drop n :=
  Prim.Stream.readN_some n fs h

/-- … and reports the read error when the stream ends first -/
theorem conn_read_bytes_eof (n : Nat) (fs : List Bytes) (h : fs.flatten.length < n) :
    Prim.Stream.readN n fs = none := Prim.Stream.readN_none n fs h

/-- every decoder over a connection is the same decoder over the concatenated bytes -/
theorem conn_decoder_is_flat_decoder {α : Type} (p : P α) (fs : List Bytes) :
    (P.runC p fs).map (fun x => (x.1, x.2.flatten)) = P.run p fs.flatten := P.runC_iff p fs

/-- any program of mixed writes, delivered over a connection in fragments of any sizes (a field
    may be split over any number of fragments), is read back identically and in order, and what
    is left to arrive is exactly what followed the program's bytes -/
theorem program_roundtrip_stream (ops : List Op) (fs : List Bytes) (rest : Bytes)
    (h : ∀ op ∈ ops, WFOp op) (hf : fs.flatten = writeAll ops ++ rest) :
    ∃ r, P.runC (readAll ops) fs = some (ops, r) ∧ r.flatten = rest :=
  P.runC_of_run (readAll ops) fs ops rest (by rw [hf]; exact Prim.program_roundtrip ops rest h)

/-- a connection that ends inside the program's bytes makes the read fail (never a short value) -/
theorem program_stream_truncated_fails (ops : List Op) (fs : List Bytes) (s : Bytes)
    (h : ∀ op ∈ ops, WFOp op) (hs : s ≠ []) (hq : fs.flatten ++ s = writeAll ops) :
    P.runC (readAll ops) fs = none :=
  P.runC_none_of_run (readAll ops) fs (program_prefix_fails ops fs.flatten s h hs hq)

/-- lossless in the strongest sense: two programs of the same reads whose bytes (followed by
    anything) are equal are the same program followed by the same thing — no two values of a type
    share an encoding, and no encoding is a prefix of another -/
theorem encode_injective (ops₁ ops₂ : List Op) (r₁ r₂ : Bytes)
    (h₁ : ∀ op ∈ ops₁, WFOp op) (h₂ : ∀ op ∈ ops₂, WFOp op)
    (hk : readAll ops₁ = readAll ops₂) (he : writeAll ops₁ ++ r₁ = writeAll ops₂ ++ r₂) :
    ops₁ = ops₂ ∧ r₁ = r₂ :=
  Reads.inj (fun r => Prim.program_roundtrip ops₁ r h₁) (hk ▸ fun r => Prim.program_roundtrip ops₂ r h₂) he

/-- `Available()` after a program was read is what followed the program: consumed + available =
    size, for *every* decoder and every input on which it succeeds -/
theorem available_is_rest {α : Type} (p : P α) (bs : Bytes) (v : α) (r : Bytes)
    (h : P.run p bs = some (v, r)) : ∃ consumed, bs = consumed ++ r ∧ r.length = bs.length - consumed.length := by
  obtain ⟨a, ha, _⟩ := P.locality p bs v r h
  exact ⟨a, ha, by rw [ha]; simp⟩

/-- the decimal's length byte names the least class and nothing else: iff -/
theorem decimal_length_iff (v : Int) (c : Nat) :
    (encDecimal v).length = 1 + c ↔ c = leastClass v := by
  rw [encDecimal_length]; omega

/-- `ReadBytes(sz)`: succeeds exactly when `0 ≤ sz ≤ available`, returns exactly the next `sz`
    bytes and leaves exactly the rest (iff; the size is signed in the Go code) -/
theorem read_bytes_iff (sz : Int) (bs out r : Bytes) :
    P.run (rdBytesI sz) bs = some (out, r) ↔
      0 ≤ sz ∧ sz ≤ (bs.length : Int) ∧ out = bs.take sz.toNat ∧ r = bs.drop sz.toNat := by
  unfold rdBytesI
  by_cases h : sz < 0
  · rw [if_pos h]; exact ⟨nofun, fun h' => absurd h'.1 (by omega)⟩
  rw [if_neg h, rdBytes, P.run_read]
  by_cases hn : sz.toNat ≤ bs.length
  · rw [if_pos hn, P.run_pure, Option.some.injEq, Prod.mk.injEq]
    exact ⟨fun h' => ⟨by omega, by omega, h'.1.symm, h'.2.symm⟩, fun h' => ⟨h'.2.2.1.symm, h'.2.2.2.symm⟩⟩
  · rw [if_neg hn]; exact ⟨nofun, fun h' => absurd h'.2.1 (by omega)⟩

/-- `WriteBytes(b)` then `ReadBytes(len b)` is the identity, whatever follows -/
theorem raw_bytes_roundtrip (b r : Bytes) :
    P.run (rdBytesI b.length) (b ++ r) = some (b, r) := by
  rw [read_bytes_iff]
  refine ⟨by omega, by rw [List.length_append]; omega, by simp, by simp⟩

/-- `CheckCount(count, minBytes)` passes exactly when `count` elements of `minBytes` bytes fit -/
theorem check_count_iff (count : Int) (mb avail : Nat) (hmb : 1 ≤ mb) :
    checkCount count mb avail = true ↔ 0 ≤ count ∧ count.toNat * mb ≤ avail :=
  checkCount_iff count mb avail hmb

/-- **the guard is invisible.**  On every input — well formed, truncated or garbage — each typed
    array read *with* its `CheckCount` (as the Go code runs it on a byte slice) is the model's
    array read without it: the guard rejects only what the element reads would reject anyway.
    So `op_roundtrip`/`program_roundtrip` speak about the guarded code as well. -/
theorem check_count_invisible (bs : Bytes) :
    runArrGuarded (rdI 2) 2 bs = P.run (decArr (rdI 2)) bs ∧
    runArrGuarded (rdI 4) 4 bs = P.run (decArr (rdI 4)) bs ∧
    runArrGuarded (rdI 8) 8 bs = P.run (decArr (rdI 8)) bs ∧
    runArrGuarded (rdU 4) 4 bs = P.run (decArr (rdU 4)) bs ∧
    runArrGuarded (rdU 8) 8 bs = P.run (decArr (rdU 8)) bs ∧
    runArrGuarded decBlob 1 bs = P.run (decArr decBlob) bs ∧
    runDecArrGuarded bs = P.run decDecArr bs :=
  ⟨runArrGuarded_eq _ 2 (by omega) (consumes_rdI 2) bs, runArrGuarded_eq _ 4 (by omega) (consumes_rdI 4) bs,
   runArrGuarded_eq _ 8 (by omega) (consumes_rdI 8) bs, runArrGuarded_eq _ 4 (by omega) (consumes_rdU 4) bs,
   runArrGuarded_eq _ 8 (by omega) (consumes_rdU 8) bs, runArrGuarded_eq _ 1 (by omega) consumes_decBlob bs,
   by
    unfold runDecArrGuarded decDecArr
    rw [P.run_bind]
    cases P.run decDecimal bs with
    | none => rfl
    | some p => exact guard_invisible decDecimal 1 (Nat.le_refl 1) consumes_decDecimal p.1 p.2⟩

/-- a guarded array read of what the array writer produced returns the array (the guard never
    rejects a well-formed array) -/
theorem guarded_array_roundtrip (xs : List Int) (r : Bytes) (hl : xs.length ≤ 32767)
    (h : ∀ x ∈ xs, inRange 4 x) :
    runArrGuarded (rdI 4) 4 (encArr (encI 4) xs ++ r) = some (xs, r) := by
  rw [(check_count_invisible _).2.1]
  exact run_decArr _ _ _ (run_rdI 4) xs r hl h

/-- `ToX(buf, pos)`: a field embedded at any offset reads as the field itself (signed, unsigned,
    little-endian), whatever stands before and behind it -/
theorem field_at_offset (w : Nat) (v : Int) (pre suf : Bytes) (h : inRange w v) :
    fieldI w (pre ++ encI w v ++ suf) pre.length = some v ∧
    fieldU w (pre ++ encI w v ++ suf) pre.length = some (toU w v) ∧
    fieldILittle w (pre ++ (encI w v).reverse ++ suf) pre.length = some v := by
  have e1 := getAt_embedded pre (encI w v) suf
  have e2 := getAt_embedded pre (encI w v).reverse suf
  rw [encI_length] at e1
  rw [List.length_reverse, encI_length] at e2
  refine ⟨?_, ?_, ?_⟩
  · simp only [fieldI, e1, Option.map_some, decI_encI w v h]
  · simp only [fieldU, e1, Option.map_some]
    congr 1
    exact unbeN_beN_of_lt w (toU w v) (toU_lt w v)
  · simp only [fieldILittle, e2, Option.map_some, decILittle_reverse_encI w v h]

/-- `ToBool(buf, pos)` reads back what `SetBytesBool`/`ToBytesBool` packed at that offset (it is
    `byte != 0`; `ReadBool` on a stream is `byte == 1`; the writers emit only 0 and 1) -/
theorem bool_field (b : Bool) (pre suf : Bytes) :
    fieldBool (pre ++ encBool b ++ suf) pre.length = some b := by
  have e := getAt_embedded pre (encBool b) suf
  have l : (encBool b).length = 1 := rfl
  rw [l] at e
  simp only [fieldBool, e, Option.map_some]
  cases b <;> rfl

/-- `Get(buf, pos, sz)` is the window, and fails exactly when the window leaves the buffer -/
theorem get_window (buf : Bytes) (pos sz : Nat) :
    (getAt buf pos sz = none ↔ buf.length < pos + sz) ∧
    (∀ out, getAt buf pos sz = some out → out = (buf.drop pos).take sz ∧ out.length = sz) := by
  unfold getAt
  by_cases h : pos + sz ≤ buf.length
  · rw [if_pos h]
    exact ⟨⟨nofun, fun h' => absurd h (by omega)⟩, fun out e => by
      cases e; exact ⟨rfl, by rw [List.length_take, List.length_drop]; omega⟩⟩
  · rw [if_neg h]
    exact ⟨⟨fun _ => by omega, fun _ => rfl⟩, nofun⟩

/-- `SetBytesX(buf, off, v)`: the buffer keeps its length, the field reads back as `v` at `off`, and
    every byte before and behind the field is untouched (frame condition) -/
theorem set_bytes_frame (w : Nat) (v : Int) (buf out : Bytes) (off : Nat) (hv : inRange w v)
    (h : setAt buf off (encI w v) = some out) :
    out.length = buf.length ∧ fieldI w out off = some v ∧
    out.take off = buf.take off ∧ out.drop (off + w) = buf.drop (off + w) := by
  have s := setAt_spec buf off (encI w v) out h
  rw [encI_length] at s
  exact ⟨s.1, by simp [fieldI, s.2.1, decI_encI w v hv], s.2.2.1, s.2.2.2⟩

/-- … and it fails (index out of range) exactly when the field does not fit -/
theorem set_bytes_fails_iff (buf : Bytes) (off : Nat) (bs : Bytes) :
    setAt buf off bs = none ↔ buf.length < off + bs.length := by
  unfold setAt
  by_cases h : off + bs.length ≤ buf.length
  · rw [if_pos h]; exact ⟨nofun, fun h' => absurd h (by omega)⟩
  · rw [if_neg h]; exact ⟨fun _ => by omega, fun _ => rfl⟩

/-- **every history of one output stream** — typed writes, `WriteBytes`, `Write(b,off,sz)` and the
    three frame headers in any order and any number — refines the abstract specification
    `foldl specStep`: the buffer is the specified byte string and `Size()` is its length after
    every step (a header wraps what was written so far, and writing goes on behind it) -/
theorem writer_history (h : List WStep) (hs : ∀ s ∈ h, s.ok) :
    (h.foldl Writer.step Writer.empty).buf = h.foldl specStep [] ∧
    (h.foldl Writer.step Writer.empty).written = (h.foldl Writer.step Writer.empty).buf.length :=
  Writer.history_spec h Writer.empty hs rfl

/-! non-vacuity: concrete non-trivial programs meet the hypotheses -/
example : (∀ s ∈ [WStep.op (.decimal 300), .window [1, 2, 3, 4] 1 2, .header 7 1 5 (-1), .bytes [9]], s.ok) ∧
    ([WStep.op (.decimal 300), .window [1, 2, 3, 4] 1 2, .header 7 1 5 (-1), .bytes [9]].foldl specStep []).length = 28 := by
  constructor
  · intro s h
    simp only [List.mem_cons, List.mem_nil_iff, or_false] at h
    rcases h with rfl | rfl | rfl | rfl <;> simp [WStep.ok]
  · decide
example : readAll [Op.int 5, .text [1]] = readAll [Op.int (-7), .text []] := rfl
example : checkCount 3 4 12 = true ∧ checkCount 3 4 11 = false ∧ checkCount (-1) 4 100 = false ∧
    checkCount 5 0 5 = true := by decide
-- a count that the guard rejects, and the unguarded read fails on the same bytes
example : runArrGuarded (rdI 4) 4 [0, 2, 0, 0, 0, 1, 0, 0] = none ∧
    P.run (decArr (rdI 4)) [0, 2, 0, 0, 0, 1, 0, 0] = none := by decide
example : setAt [9, 9, 9, 9, 9] 1 (encI 2 (-2)) = some [9, 255, 254, 9, 9] := by decide
example : fieldI 3 [7, 255, 255, 254, 7] 1 = some (-2) ∧ fieldI 3 [7, 255, 255] 1 = none := by decide
example : P.run (rdBytesI (-1)) [1, 2] = none ∧ P.run (rdBytesI 3) [1, 2] = none ∧
    P.run (rdBytesI 2) [1, 2, 3] = some ([1, 2], [3]) := by decide

example : ∀ op ∈ [Op.decimal (-129), .blob [1, 2, 3], .shortArr [1, -2], .text []],
    WFOp op := by
  intro op h
  simp only [List.mem_cons, List.mem_nil_iff, or_false] at h
  rcases h with rfl | rfl | rfl | rfl <;> simp [WFOp, inRange_8, inRange_2]

example : WFOp (.blob (List.replicate 254 7)) := by
  show (List.replicate 254 7).length < 2147483648
  rw [List.length_replicate]; decide

example : encDecimal (-129) = [2, 255, 127] := by decide
example : encDecimal 8388608 = [4, 0, 128, 0, 0] := by decide
example : (encBlob (List.replicate 254 7)).take 3 = [255, 0, 254] := by decide +kernel
example : P.run decDecimal [1, 255] = some (-1, []) := by decide
-- a decimal split over three reads, one of them empty, with a byte of the next message behind it
example : P.runC decDecimal [[2], [], [255], [127, 9]] = some (-129, [[9]]) := by decide
example : P.runC decDecimal [[2], [255]] = none := by decide

end C01
