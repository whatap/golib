/-
  Property C07 — UDP tracer packs: writer and reader agree for every type and protocol version;
  the pool leaves no residue; Process() leaves no password.

  The theorems are stated here in the terms of the property; the longer proofs are in Golib.Udp.*
  and referred to by name.
  The CodeModel (`Udp.<Type>.layout`, `Udp.<Type> : PackT`, `Udp.maskDbc`, …) is tied to
  /repo/lang/pack/udp, util/paramtext and util/stringutil
    * by the regenerated transcription of every Write / Read / Clear / constructor / pool switch
      (Golib/Gen/UdpLayouts.lean, obligations in Golib/Props/C07Gen.lean), and
    * by the correspondence harness harness/c07 (driver drv_c07).

  The model describes /repo as committed; the `finding_*` theorems describe, on concrete inputs, the
  code before the `fix:` commits for D19, D20, D51, D52 (diffs in proposed/C07).  Two quirks are
  kept as known findings: UdpTxMessagePack caps Hash/Desc, UdpRelayPack's length is not on the wire.
-/
import Golib.Udp.Pool
import Golib.Udp.Mask
import Golib.Udp.WFB
import Golib.Udp.Gates
import Golib.Udp.ProcessThm
import Golib.Udp.Route
import Golib.Udp.Restore

namespace C07
open Udp Udp.Layout Prim

/-! ### writer and reader agree, for every version

`ver : Int` is universally quantified: every gate (10101 … 10110, 20102, 20104, 30102, 30103,
50100, 50101 and the family thresholds) is covered at once.  `x` is the pack written, `st` the
receiving pack (from the pool), `r` whatever follows on the wire.  `post` is the receiving pack
with every carried field overwritten by what the wire carried; the reader consumes exactly the
writer's bytes. -/

/-- the generic statement, for every pack type of the model -/
theorem udp_roundtrip (t : PackT) (ver : Int) (x st : Rec) (r : Bytes) (h : WF t.layout ver x st) :
    P.run (read t.layout ver st) (write t.layout ver x ++ r) = some (post t.layout ver x st, r) :=
  roundtrip t.layout ver x st r h

theorem udp_roundtrip_UdpTxStartPack (ver : Int) (x st : Rec) (r : Bytes) (h : WF UdpTxStartPack.layout ver x st) :
    P.run (read UdpTxStartPack.layout ver st) (write UdpTxStartPack.layout ver x ++ r) =
      some (post UdpTxStartPack.layout ver x st, r) := roundtrip _ ver x st r h
theorem udp_roundtrip_UdpTxEndPack (ver : Int) (x st : Rec) (r : Bytes) (h : WF UdpTxEndPack.layout ver x st) :
    P.run (read UdpTxEndPack.layout ver st) (write UdpTxEndPack.layout ver x ++ r) =
      some (post UdpTxEndPack.layout ver x st, r) := roundtrip _ ver x st r h
theorem udp_roundtrip_UdpTxStartEndPack (ver : Int) (x st : Rec) (r : Bytes) (h : WF UdpTxStartEndPack.layout ver x st) :
    P.run (read UdpTxStartEndPack.layout ver st) (write UdpTxStartEndPack.layout ver x ++ r) =
      some (post UdpTxStartEndPack.layout ver x st, r) := roundtrip _ ver x st r h
theorem udp_roundtrip_UdpTxSqlPack (ver : Int) (x st : Rec) (r : Bytes) (h : WF UdpTxSqlPack.layout ver x st) :
    P.run (read UdpTxSqlPack.layout ver st) (write UdpTxSqlPack.layout ver x ++ r) =
      some (post UdpTxSqlPack.layout ver x st, r) := roundtrip _ ver x st r h
theorem udp_roundtrip_UdpTxSqlParamPack (ver : Int) (x st : Rec) (r : Bytes) (h : WF UdpTxSqlParamPack.layout ver x st) :
    P.run (read UdpTxSqlParamPack.layout ver st) (write UdpTxSqlParamPack.layout ver x ++ r) =
      some (post UdpTxSqlParamPack.layout ver x st, r) := roundtrip _ ver x st r h
theorem udp_roundtrip_UdpTxDbcPack (ver : Int) (x st : Rec) (r : Bytes) (h : WF UdpTxDbcPack.layout ver x st) :
    P.run (read UdpTxDbcPack.layout ver st) (write UdpTxDbcPack.layout ver x ++ r) =
      some (post UdpTxDbcPack.layout ver x st, r) := roundtrip _ ver x st r h
theorem udp_roundtrip_UdpTxHttpcPack (ver : Int) (x st : Rec) (r : Bytes) (h : WF UdpTxHttpcPack.layout ver x st) :
    P.run (read UdpTxHttpcPack.layout ver st) (write UdpTxHttpcPack.layout ver x ++ r) =
      some (post UdpTxHttpcPack.layout ver x st, r) := roundtrip _ ver x st r h
theorem udp_roundtrip_UdpTxErrorPack (ver : Int) (x st : Rec) (r : Bytes) (h : WF UdpTxErrorPack.layout ver x st) :
    P.run (read UdpTxErrorPack.layout ver st) (write UdpTxErrorPack.layout ver x ++ r) =
      some (post UdpTxErrorPack.layout ver x st, r) := roundtrip _ ver x st r h
/-- UdpTxMessagePack: `post` cuts Hash at 2048 and Desc at 32768 bytes (known finding
    `UdpTxMessagePack:cap`: these are not transaction-start caps; see `caps_documented_partial`) -/
theorem udp_roundtrip_UdpTxMessagePack_partial (ver : Int) (x st : Rec) (r : Bytes) (h : WF UdpTxMessagePack.layout ver x st) :
    P.run (read UdpTxMessagePack.layout ver st) (write UdpTxMessagePack.layout ver x ++ r) =
      some (post UdpTxMessagePack.layout ver x st, r) := roundtrip _ ver x st r h
theorem udp_roundtrip_UdpTxSecureMessagePack (ver : Int) (x st : Rec) (r : Bytes) (h : WF UdpTxSecureMessagePack.layout ver x st) :
    P.run (read UdpTxSecureMessagePack.layout ver st) (write UdpTxSecureMessagePack.layout ver x ++ r) =
      some (post UdpTxSecureMessagePack.layout ver x st, r) := roundtrip _ ver x st r h
theorem udp_roundtrip_UdpTxMethodPack (ver : Int) (x st : Rec) (r : Bytes) (h : WF UdpTxMethodPack.layout ver x st) :
    P.run (read UdpTxMethodPack.layout ver st) (write UdpTxMethodPack.layout ver x ++ r) =
      some (post UdpTxMethodPack.layout ver x st, r) := roundtrip _ ver x st r h
theorem udp_roundtrip_UdpTxResultSetPack (ver : Int) (x st : Rec) (r : Bytes) (h : WF UdpTxResultSetPack.layout ver x st) :
    P.run (read UdpTxResultSetPack.layout ver st) (write UdpTxResultSetPack.layout ver x ++ r) =
      some (post UdpTxResultSetPack.layout ver x st, r) := roundtrip _ ver x st r h
theorem udp_roundtrip_UdpTxParamPack (ver : Int) (x st : Rec) (r : Bytes) (h : WF UdpTxParamPack.layout ver x st) :
    P.run (read UdpTxParamPack.layout ver st) (write UdpTxParamPack.layout ver x ++ r) =
      some (post UdpTxParamPack.layout ver x st, r) := roundtrip _ ver x st r h
theorem udp_roundtrip_UdpActiveStackPack1 (ver : Int) (x st : Rec) (r : Bytes) (h : WF UdpActiveStackPack1.layout ver x st) :
    P.run (read UdpActiveStackPack1.layout ver st) (write UdpActiveStackPack1.layout ver x ++ r) =
      some (post UdpActiveStackPack1.layout ver x st, r) := roundtrip _ ver x st r h
theorem udp_roundtrip_UdpActiveStackPack (ver : Int) (x st : Rec) (r : Bytes) (h : WF UdpActiveStackPack.layout ver x st) :
    P.run (read UdpActiveStackPack.layout ver st) (write UdpActiveStackPack.layout ver x ++ r) =
      some (post UdpActiveStackPack.layout ver x st, r) := roundtrip _ ver x st r h
/-- UdpActiveStatsPack: the wire field is Data, which the writer first sets to the comma-joined
    ActiveStats; `post` holds that text in Data -/
theorem udp_roundtrip_UdpActiveStatsPack (ver : Int) (x st : Rec) (r : Bytes) (h : WF UdpActiveStatsPack.layout ver x st) :
    P.run (read UdpActiveStatsPack.layout ver st) (write UdpActiveStatsPack.layout ver x ++ r) =
      some (post UdpActiveStatsPack.layout ver x st, r) := roundtrip _ ver x st r h
theorem udp_roundtrip_UdpDBConPoolPack (ver : Int) (x st : Rec) (r : Bytes) (h : WF UdpDBConPoolPack.layout ver x st) :
    P.run (read UdpDBConPoolPack.layout ver st) (write UdpDBConPoolPack.layout ver x ++ r) =
      some (post UdpDBConPoolPack.layout ver x st, r) := roundtrip _ ver x st r h
theorem udp_roundtrip_UdpConfigPack (ver : Int) (x st : Rec) (r : Bytes) (h : WF UdpConfigPack.layout ver x st) :
    P.run (read UdpConfigPack.layout ver st) (write UdpConfigPack.layout ver x ++ r) =
      some (post UdpConfigPack.layout ver x st, r) := roundtrip _ ver x st r h

/-- UdpRelayPack — full statement: *reading what was written restores Data*.  The payload length is
    not on the wire: the reader takes `st "Len"` bytes.  Proved under the visible hypothesis (inside
    `WF`) that the receiver's `Len` equals the payload length; `ToPack` has no way to establish it
    (known finding `UdpRelayPack:Data:ToPack`, witness `finding_relay_len`). -/
theorem udp_roundtrip_UdpRelayPack_partial (ver : Int) (x st : Rec) (r : Bytes)
    (h : (∃ b, x "Data" = .str b ∧ st "Len" = .int b.length)) :
    P.run (read UdpRelayPack.layout ver st) (write UdpRelayPack.layout ver x ++ r) =
      some (st.set "Data" (.str (x "Data").asStr), r) :=
  roundtrip UdpRelayPack.layout ver x st r ⟨h, trivial⟩

/-- witness: a pack from the pool has Len = 0; a 3-byte payload is not restored and not consumed -/
theorem finding_relay_len :
    let x : Rec := Rec.ofList [("Data", .str [1, 2, 3])] (fun _ => .null)
    let st : Rec := UdpRelayPack.clearedRec
    (P.run (read UdpRelayPack.layout 50100 st) (write UdpRelayPack.layout 50100 x)).map
        (fun (q, rest) => (q "Data", rest)) = some (.str [], [1, 2, 3]) := by decide +kernel

/-- finitely many versions represent all: for every version there is one among `0` and
    `g-1, g, g+1` (g a version constant of the type's layout) at which writer, reader, the pack after
    reading and the carried fields are the same — the versions the correspondence harness runs -/
theorem version_coverage (t : PackT) (v : Int) :
    ∃ r ∈ versionReps t.layout,
      (∀ x, write t.layout v x = write t.layout r x) ∧ (∀ st, read t.layout v st = read t.layout r st) ∧
      (∀ x st, post t.layout v x st = post t.layout r x st) ∧ carried t.layout v = carried t.layout r :=
  Layout.version_coverage t.layout v

/-- a well-formed UdpTxEndPack at the newest Go version, into a cleared pack -/
def exEnd : Rec := Rec.ofList
  [("Txid", .int (-5)), ("Time", .int 1700000000000), ("Elapsed", .int 12), ("Cpu", .int 0), ("Mem", .int 7),
   ("Pid", .int 4242), ("ThreadId", .int 9), ("Host", .str [104]), ("Uri", .str [47, 97]), ("Mtid", .int (-9000000000)),
   ("Mdepth", .int 3), ("McallerTxid", .int 0), ("McallerPcode", .int 12345), ("McallerSpec", .str []),
   ("McallerUrl", .str [49]), ("McallerPoidKey", .str []), ("Status", .int 404), ("McallerStepId", .int (-1)),
   ("XTraceId", .str [120])] (fun _ => .null)

theorem consts_first : ∀ t ∈ allPacks, constsFirst t.layout = true := by decide +kernel

theorem no_setJoin : ∀ t ∈ allPacks, t.name = "UdpActiveStatsPack" ∨ noSetJoin t.layout = true := by decide +kernel

/-- **every carried field is restored** — the clause itself, field by field: for every pack type (other than
    UdpActiveStatsPack, whose wire field is the joined text: `process_active_stats`), every version, every
    well-formed pack `x` and every receiving pack, each field the wire carries at that version holds after the
    read exactly `carry c (x f)`: the written value, or its first `cap` bytes where the writer caps it
    (`caps_documented_partial` lists the caps); the relay payload holds the written bytes -/
theorem udp_restores (t : PackT) (ht : t ∈ allPacks) (hn : t.name ≠ "UdpActiveStatsPack") (ver : Int) (x st : Rec)
    (h : WF t.layout ver x st) :
    ∀ f ∈ carried t.layout ver,
      (∃ p c, lastOf t.layout ver f = some (.xfer p c) ∧ post t.layout ver x st f = carry c (x f)) ∨
      (lastOf t.layout ver f = some .raw ∧ post t.layout ver x st f = .str (x f).asStr) := by
  intro f hf
  have hj : noSetJoin t.layout = true := (no_setJoin t ht).resolve_left hn
  obtain ⟨a, hl, ha⟩ := carried_lastOf t.layout (consts_first t ht) ver f hf
  have hp := post_lastOf t.layout hj ver x st f
  rw [hl] at hp ⊢
  cases a with
  | xfer p c => exact .inl ⟨p, c, rfl, hp.trans (carry_spec p c (x f) (WF_lastOf t.layout hj ver x st f p c h hl))⟩
  | const v => exact absurd rfl (ha v)
  | raw => exact .inr ⟨rfl, hp⟩

/-- non-vacuity: the example pack, field by field -/
example : ∀ f ∈ carried UdpTxEndPack.layout 50101,
    post UdpTxEndPack.layout 50101 exEnd UdpTxEndPack.clearedRec f = exEnd f := by decide +kernel

/-- a strict prefix of what any writer produced is never accepted by its reader -/
theorem udp_prefix_fails (t : PackT) (ver : Int) (x st : Rec) (q s : Bytes) (h : WF t.layout ver x st)
    (hs : s ≠ []) (hq : q ++ s = write t.layout ver x) : P.run (read t.layout ver st) q = none :=
  prefix_fails t.layout ver x st q s h hs hq

/-- a field the reader does not assign at that version keeps the receiving pack's value -/
theorem udp_untouched (t : PackT) (ver : Int) (x st : Rec) (f : String) (h : f ∉ assigned t.layout ver) :
    post t.layout ver x st f = st f := post_unassigned t.layout ver x st f h

/-- every transfer carries the field itself, its documented cap, or the re-parsed number -/
theorem transfer_carries (p : Fmt) (c : Conv) (v : Val) (h : wfFld p c v) :
    convR c (convW c v) = carry c v := carry_spec p c v h

/-! ### numbers as text -/

/-- ParseInt32 / ParseInt64 of ParseStringZeroToEmpty: lossless within the field's width -/
theorem numtext_roundtrip (w : Nat) (v : Int) (h : inRange w v) : parseIntW w (zeroToEmpty v) = v :=
  Udp.numtext_roundtrip w v h

/-- every number-as-text transfer of the model uses the parser of the field's own width
    (int32 ↦ ParseInt32, int64 ↦ ParseInt64): (type, field, bytes) -/
theorem numtext_widths :
    ∀ t ∈ allPacks, ∀ fw ∈ t.layout.numTexts,
      (t.fields.lookup fw.1 = some "int32" ∧ fw.2 = 4) ∨ (t.fields.lookup fw.1 = some "int64" ∧ fw.2 = 8) := by
  decide +kernel

/-- D19, the writer before the fix: `string(this.Fetch)` is the UTF-8 form of the code point, so at
    Python ≥ 20102 a Fetch of 5 is written as the byte 5 and read back as 0 -/
theorem finding_D19 :
    let x : Rec := Rec.ofList [("Fetch", .int 5), ("Dbc", .str []), ("Sql", .str []), ("Txid", .int 0),
      ("Time", .int 0), ("Elapsed", .int 0), ("Cpu", .int 0), ("Mem", .int 0), ("Pid", .int 0),
      ("ThreadId", .int 0)] (fun _ => .null)
    (P.run (read UdpTxSqlPack.layout 20102 UdpTxSqlPack.clearedRec) (write UdpTxSqlPack.layoutD19 20102 x)).map
        (fun (q, rest) => (q "Fetch", rest)) = some (.int 0, []) := by decide +kernel

/-! ### caps -/

/-- full statement: *the only caps are the documented transaction-start caps*
    (`modelCaps = documentedCaps`).  The code also caps UdpTxMessagePack.Hash / Desc; proved with
    those two listed (known finding `UdpTxMessagePack:cap`). -/
theorem caps_documented_partial : modelCaps = documentedCaps ++ extraCaps := by decide +kernel

theorem finding_msg_cap : ¬ (∀ c ∈ modelCaps, c ∈ documentedCaps) := fun h =>
  absurd (h ("UdpTxMessagePack", "Hash", 2048) (by rw [caps_documented_partial]; decide)) (by decide)

/-- a capped field is carried as its first `cap` bytes, any other text field unchanged -/
theorem cap_carries (n : Nat) (b : Bytes) : carry (.trunc n) (.str b) = .str (b.take n) := rfl

/-! ### Clear() and the pool -/

/-- every struct field (embedded header included) is assigned by Clear(), for every pack type -/
theorem clear_total : ∀ t ∈ allPacks, t.clearTotal = true := by decide +kernel

theorem clear_total_UdpRelayPack : UdpRelayPack.clearTotal = true := clear_total _ (by simp [allPacks])
theorem clear_total_UdpConfigPack : UdpConfigPack.clearTotal = true := clear_total _ (by simp [allPacks])

/-- D20, the Clear() before the fix of UdpRelayPack / UdpConfigPack: Data / MapData are not assigned -/
theorem finding_D20 :
    ({ UdpRelayPack with clear := hdrClear false ++ [Z "RelayType", Z "Len"] } : PackT).clearTotal = false ∧
    ({ UdpConfigPack with clear := hdrClear false ++ [S "Data"] } : PackT).clearTotal = false := by decide +kernel

/-- after Clear() every field is a constant of its type, whatever the pack held before -/
theorem clear_const (t : PackT) (ht : t ∈ allPacks) (p : Rec) (f : String) (hf : f ∈ t.fieldNames) :
    t.clearOp p f = t.clearedRec f := t.clear_const (clear_total t ht) p f hf

/-- for every history of CreatePack / ClosePack (and drops by the runtime) over a pool, with
    arbitrary packs being released, every pack handed out by CreatePack is — on every struct field —
    either the Clear() constants or the constructor constants with `Ver` set: nothing depends on a
    previous use -/
theorem pool_no_residue (t : PackT) (ht : t ∈ allPacks) (evs : List PoolEv) :
    ∀ vq ∈ (runPool t evs []).2,
      (∀ f ∈ t.fieldNames, vq.2 f = (t.clearedRec.set "Ver" (.int vq.1)) f) ∨
      (∀ f ∈ t.fieldNames, vq.2 f = (t.freshRec.set "Ver" (.int vq.1)) f) :=
  runPool_spec t (clear_total t ht) evs [] (by intro o ho; cases ho)

/-- the type ↔ pool tables of the model are a bijection: distinct types, distinct codes, distinct pools -/
theorem pool_tables_model :
    (allPacks.map (·.name)).Nodup ∧ (allPacks.map (·.code)).Nodup ∧ (allPacks.map (·.pool)).Nodup := by
  decide +kernel

/-! ### masking -/

/-- Exactly which strings are covered: `renderFlat t rest` = tokens `key=value` joined by blanks (32)
    or semicolons (59) in any mixture, where every key and every value (`PlainTok`)
      * contains no blank, no `;`, no `=`, and
      * neither begins nor ends with a white-space character in the sense of `strings.TrimSpace`
        (U+0009–000D, U+0020, U+0085, U+00A0, U+1680, U+2000–200A, U+2028, U+2029, U+202F, U+205F, U+3000);
    everything else is allowed: arbitrary UTF-8, invalid bytes, white space other than the blank in
    the middle, empty keys, empty values, any number of tokens, repeated keys.
    For every such string and every version of a family whose Process() masks (Go `> 50000`,
    PHP `≤ 20000`), no token of the result has the key `password` with a value other than `#`.
    (Without the two conditions the statement is false: `"foo password =secret"` ↦ `"foo password=secret"`.) -/
theorem mask_password (ver : Int) (t : Tok) (rest : List (Nat × Tok)) (ht : PlainTok t)
    (hrest : ∀ cu ∈ rest, (cu.1 = 32 ∨ cu.1 = 59) ∧ PlainTok cu.2) (hv : masksAt ver = true) :
    leakFree (processDbc ver (renderFlat t rest)) := Udp.mask_password ver t rest ht hrest hv

/-- the families: every Go version 501xx and every PHP version 101xx masks -/
theorem mask_families (ver : Int) (h : (50100 ≤ ver ∧ ver ≤ 50199) ∨ (10100 ≤ ver ∧ ver ≤ 10199)) :
    masksAt ver = true := by
  unfold masksAt
  simp only [Bool.or_eq_true, decide_eq_true_eq]
  omega

/-! ### Process(): the derived fields of every pack type

`PackT.process` (Golib.Udp.Process) models `Process()` of all 19 types as a list of derivations
(targets, fields read, family gate, function); `none` = the call panics.  It is compared with the
implementation field by field (driver op `Q`, harness stage `proc`). -/

/-- Process() changes nothing but its derived fields (the wire fields other than Dbc / Sql stay) -/
theorem process_only_targets (t : PackT) (ver : Int) (st st' : Rec) (f : String)
    (h : t.process ver st = some st') (hf : f ∉ processTargets t) : st' f = st f := by
  apply runDerivs_other (derivsOf t.name) ver st st' f _ h
  intro d hd hm
  exact hf (List.mem_flatMap.mpr ⟨d, hd, hm⟩)

/-- Process() of every pack type other than UdpActiveStackPack never panics, at any version, on any pack -/
theorem process_total (t : PackT) (ht : t ∈ allPacks) (hn : t.name ≠ "UdpActiveStackPack") (ver : Int) (st : Rec) :
    (t.process ver st).isSome = true := Udp.process_total t ht hn ver st

/-- UdpActiveStackPack.Process() panics exactly when Data has fewer than three ", "-separated parts
    (totality of decoders is C04's subject; recorded here because it bounds what ToPack can be fed) -/
theorem process_activeStack_panics (ver : Int) (st : Rec) :
    (UdpActiveStackPack.process ver st).isSome = decide (3 ≤ (splitCommaSp (st "Data").asStr).length) := by
  rw [process_eq UdpActiveStackPack derivs_ActiveStack]
  simp only [runDerivs, Deriv.apply, dActiveStack, always, if_true, List.map]
  rcases hs : splitCommaSp (st "Data").asStr with _ | ⟨a, _ | ⟨b, _ | ⟨c, r⟩⟩⟩ <;> simp

/-- Dbc after Process() of an SQL / SQL-param / DB-connection pack is `processDbc ver Dbc`, for every version -/
theorem process_dbc (t : PackT) (ht : t = UdpTxSqlPack ∨ t = UdpTxSqlParamPack ∨ t = UdpTxDbcPack)
    (ver : Int) (st : Rec) (hd : ∃ b, st "Dbc" = .str b) :
    ∃ st', t.process ver st = some st' ∧ st' "Dbc" = .str (processDbc ver (st "Dbc").asStr) :=
  Udp.process_dbc t ht ver st hd

/-- **Process() never leaves a password value**: for the three pack types that carry a connection
    string, every version of a masking family (Go, PHP) and every connection string of the grammar,
    the pack after Process() has no token `password=<value other than #>` in Dbc -/
theorem process_no_password (t : PackT) (ht : t = UdpTxSqlPack ∨ t = UdpTxSqlParamPack ∨ t = UdpTxDbcPack)
    (ver : Int) (st : Rec) (tok : Tok) (rest : List (Nat × Tok)) (htok : PlainTok tok)
    (hrest : ∀ cu ∈ rest, (cu.1 = 32 ∨ cu.1 = 59) ∧ PlainTok cu.2) (hv : masksAt ver = true)
    (hd : st "Dbc" = .str (renderFlat tok rest)) :
    ∃ st', t.process ver st = some st' ∧ ∃ b, st' "Dbc" = .str b ∧ leakFree b := by
  obtain ⟨st', hp, hdbc⟩ := process_dbc t ht ver st ⟨_, hd⟩
  refine ⟨st', hp, _, hdbc, ?_⟩
  rw [hd]; exact mask_password ver tok rest htok hrest hv

/-- the caller's URL hash (sent as decimal text in McallerUrl) is restored by Process() wherever the
    code parses it: Go, .NET ≥ 30102, Python, PHP ≥ 10102 -/
theorem process_caller_hash (ver : Int) (st : Rec) (v : Int) (hv : inRange 4 v) (ha : endHashActive ver = true)
    (hu : st "McallerUrl" = .str (showInt v)) :
    ∃ st', UdpTxEndPack.process ver st = some st' ∧ st' "McallerUrlHash" = .int v := by
  have hsome := process_total UdpTxEndPack (by simp [allPacks]) (by decide) ver st
  cases hp : UdpTxEndPack.process ver st with
  | none => rw [hp] at hsome; cases hsome
  | some st' =>
    refine ⟨st', rfl, ?_⟩
    rw [process_eq UdpTxEndPack derivs_End] at hp; simp only [runDerivs] at hp
    cases h1 : dServiceUrlIfBoth.apply ver st with
    | none => rw [h1] at hp; simp at hp
    | some s1 =>
      rw [h1] at hp; simp only [] at hp
      have hk : s1 "McallerUrl" = st "McallerUrl" :=
        runDerivs_other [dServiceUrlIfBoth] ver st s1 "McallerUrl"
          (by intro d hd; simp at hd; subst hd; decide) (by simp [runDerivs, h1])
      simp only [Deriv.apply, dCallerHash, ha, if_true, List.map, hk, hu, Val.asStr,
        parseIntGo_showInt 4 v hv, assignAll] at hp
      simp at hp; subst hp; simp [Rec.set]

/-- five int16 activity counters come back from Process() of UdpActiveStatsPack (with
    `udp_roundtrip_UdpActiveStatsPack`: Write ↦ Read ↦ Process restores ActiveStats) -/
theorem process_active_stats (ver : Int) (st : Rec) (xs : List Int) (hl : xs.length = 5)
    (hx : ∀ x ∈ xs, inRange 2 x) (hd : st "Data" = .str (joinInts 44 xs)) :
    ∃ st', UdpActiveStatsPack.process ver st = some st' ∧ st' "ActiveStats" = .ints xs := by
  have hsplit : splitOn 44 (joinInts 44 xs) = xs.map showInt := by
    unfold joinInts
    rw [joinBytes_eq_joinOn]
    apply splitOn_joinOn 44 _ (by cases xs <;> simp_all)
    intro b hb
    obtain ⟨v, _, rfl⟩ := List.mem_map.mp hb
    exact showInt_no_comma v
  refine ⟨st.set "ActiveStats" (.ints xs), ?_, by simp [Rec.set]⟩
  rw [process_eq UdpActiveStatsPack derivs_ActiveStats]
  simp only [runDerivs, Deriv.apply, dActiveStats, always, if_true,
    List.map, hd, Val.asStr, hsplit, List.length_map, hl, assignAll]
  simp only [List.map_map]
  congr 3
  have : xs.map ((fun p => match parseIntGo 4 p with | (v, true) => wrapI 2 v | _ => 0) ∘ showInt) = xs.map id := by
    apply List.map_congr_left
    intro x hxm
    have h2 := hx x hxm
    have h4 : inRange 4 x := by rw [inRange_2] at h2; rw [inRange_4]; omega
    simp only [Function.comp, parseIntGo_showInt 4 x h4, wrapI_id 2 x h2, id]
  exact this.trans (List.map_id xs)

/-- Process() of every type reads struct fields only -/
theorem process_reads_fields : ∀ t ∈ allPacks, readsInFields t = true := by decide +kernel

/-- **no residue through Process()** (the harness stage `pool2`): in any CreatePack / ClosePack
    history with arbitrary released packs (filled, decoded into, processed any number of times), a
    handed-out pack that is then used — decode a writer's bytes or assign fields, then Process() —
    ends, on every struct field (derived fields included), exactly as a never-used pack (Clear()
    constants or constructor constants) put to the same use; both panic or neither -/
theorem pool_process_no_residue (t : PackT) (ht : t ∈ allPacks) (evs : List PoolEv) (u : Use) :
    ∀ vq ∈ (runPool t evs []).2,
      (match u.run t vq.1 vq.2, u.run t vq.1 (t.clearedRec.set "Ver" (.int vq.1)) with
        | none, none => True
        | some a, some b => ∀ f ∈ t.fieldNames, a f = b f
        | _, _ => False) ∨
      (match u.run t vq.1 vq.2, u.run t vq.1 (t.freshRec.set "Ver" (.int vq.1)) with
        | none, none => True
        | some a, some b => ∀ f ∈ t.fieldNames, a f = b f
        | _, _ => False) :=
  Udp.pool_process_no_residue t (clear_total t ht) (process_reads_fields t ht) evs u

/-! ### pools of several types at once (the harness stage `route`) -/

/-- every type has its own pool, by `pool_tables_model` -/
theorem model_routing_inj :
    ∀ t ∈ allPacks, ∀ u ∈ allPacks, modelRouting.createPool t.name = modelRouting.createPool u.name → t.name = u.name :=
  (routing_of_pool modelRouting allPacks pool_tables_model.2.2 fun t ht =>
    ⟨modelRouting_createPool t pool_tables_model.1 ht, modelRouting_createPool t pool_tables_model.1 ht⟩).2

/-- **pool routing**: for any routing of types to pools in which ClosePack and CreatePack name the same
    pool for every type and no two types share a pool (the regenerated switch tables satisfy this:
    `C07Gen.gen_routing_same`, `gen_routing_inj`), every history of CreatePack / ClosePack / drops over
    all pools — any interleaving of types, arbitrary released packs — runs without a type-assertion
    panic, and every pack handed out for type B is a never-used B on all of B's struct fields -/
theorem route_clean (R : Routing) (types : List PackT) (hn : (types.map (·.name)).Nodup)
    (hsame : ∀ t ∈ types, R.closePool t.name = R.createPool t.name)
    (hinj : ∀ t ∈ types, ∀ u ∈ types, R.createPool t.name = R.createPool u.name → t.name = u.name)
    (hclr : ∀ t ∈ types, t.clearTotal = true) (evs : List MEv) (hev : ∀ e ∈ evs, evTypeIn types e) :
    ∃ outs, runM R evs (fun _ => []) = some outs ∧ ∀ out ∈ outs, out.1 ∈ types ∧ CleanOut out :=
  Udp.route_clean R types hn hsame hinj hclr evs hev

/-- the model's instance: all 19 types, each with its own pool -/
theorem route_clean_model (evs : List MEv) (hev : ∀ e ∈ evs, evTypeIn allPacks e) :
    ∃ outs, runM modelRouting evs (fun _ => []) = some outs ∧ ∀ out ∈ outs, out.1 ∈ allPacks ∧ CleanOut out :=
  Udp.route_clean modelRouting allPacks pool_tables_model.1 (fun _ _ => rfl) model_routing_inj clear_total evs hev

/-- … and whatever the pack is used for next (decode or fill, then Process()) ends as on a never-used pack -/
theorem route_use_clean (out : PackT × Int × Rec) (hc : CleanOut out) (hr : readsInFields out.1 = true) (u : Use) :
    (match u.run out.1 out.2.1 out.2.2, u.run out.1 out.2.1 (out.1.clearedRec.set "Ver" (.int out.2.1)) with
      | none, none => True
      | some a, some b => ∀ f ∈ out.1.fieldNames, a f = b f
      | _, _ => False) ∨
    (match u.run out.1 out.2.1 out.2.2, u.run out.1 out.2.1 (out.1.freshRec.set "Ver" (.int out.2.1)) with
      | none, none => True
      | some a, some b => ∀ f ∈ out.1.fieldNames, a f = b f
      | _, _ => False) := Udp.route_use_clean out hc hr u

/-- the hypothesis is needed: with ACTIVE_STACK filed into the ACTIVE_STACK_1 pool, releasing an
    active-stack pack and then asking for an ACTIVE_STACK_1 pack panics (type assertion) -/
theorem finding_misrouting :
    runM misRouting [.close UdpActiveStackPack (fun _ => .null), .create UdpActiveStackPack1 (some 0) 50100]
      (fun _ => []) = none := by decide +kernel

/-- a history over three types: release a message pack and an end pack, create in another order -/
example : (runM modelRouting
    [.close UdpTxMessagePack (Rec.ofList [("Hash", .str [1])] (fun _ => .null)),
     .close UdpTxEndPack (Rec.ofList [("Host", .str [2])] (fun _ => .null)),
     .create UdpTxEndPack (some 0) 50100, .create UdpTxSqlPack (some 0) 10101, .create UdpTxMessagePack (some 0) 7]
    (fun _ => [])).map (fun outs => outs.map fun o => (o.1.name, o.2.2 "Host", o.2.2 "Hash", o.2.2 "Ver")) =
    some [("UdpTxEndPack", .str [], .null, .int 50100), ("UdpTxSqlPack", .null, .null, .int 10101),
          ("UdpTxMessagePack", .null, .str [], .int 7)] := by decide +kernel

example : processTargets UdpTxEndPack = ["ServiceURL", "McallerUrlHash"] := by decide +kernel
example : processTargets UdpTxErrorPack = [] := by decide +kernel
example : endHashActive 30101 = false ∧ endHashActive 30102 = true ∧ endHashActive 40001 = false ∧ endHashActive 10101 = false := by
  decide +kernel
/-- an end pack with a numeric caller URL and no host: hash set, ServiceURL untouched -/
example : (UdpTxEndPack.process 50100 (Rec.ofList [("Host", .str []), ("Uri", .str [47]), ("McallerUrl", .str [49, 50])]
    UdpTxEndPack.clearedRec)).map (fun s => (s "McallerUrlHash", s "ServiceURL")) = some (.int 12, .null) := by decide +kernel

/-! ### non-vacuity and concrete instances -/

/-- "user=u;password=secret host=h" -/
example : processDbc 50100 (renderFlat ([117, 115, 101, 114], [117])
    [(59, (kwPassword, [115, 101, 99])), (32, ([104], [49]))])
    = [117, 115, 101, 114, 61, 117, 59] ++ kwPassword ++ [61, 35] := by decide +kernel

example : PlainTok (kwPassword, [115, 101, 99]) := by unfold PlainTok; decide +kernel
/-- `€é` (E2 82 AC C3 A9) is a plain value although it starts with a byte that can begin a white-space character -/
example : Plain [226, 130, 172, 195, 169] := by decide +kernel
/-- a value that starts with U+00A0 is not -/
example : ¬ Plain [194, 160, 120] := by decide +kernel

example : WF UdpTxEndPack.layout 50101 exEnd UdpTxEndPack.clearedRec :=
  WF_of_wfB _ _ _ _ (by decide +kernel)

example : carried UdpTxEndPack.layout 50101 =
    ["Txid", "Time", "Elapsed", "Cpu", "Mem", "Pid", "ThreadId", "Host", "Uri", "Mtid", "Mdepth", "McallerTxid",
     "McallerPcode", "McallerSpec", "McallerUrl", "McallerPoidKey", "Status", "McallerStepId", "XTraceId"] := by decide +kernel
example : carried UdpTxEndPack.layout 50100 =
    ["Txid", "Time", "Elapsed", "Cpu", "Mem", "Pid", "ThreadId", "Host", "Uri", "Mtid", "Mdepth", "McallerTxid",
     "McallerPcode", "McallerSpec", "McallerUrl", "McallerPoidKey", "Status"] := by decide +kernel
example : carried UdpTxEndPack.layout 10101 = ["Txid", "Time", "Elapsed", "Cpu", "Mem", "Pid"] := by decide +kernel
example : carried UdpTxEndPack.layout 40001 = ["Txid", "Time", "Elapsed", "Cpu", "Mem", "Pid", "ThreadId"] := by decide +kernel
example : carried UdpTxSqlPack.layout 20102 =
    ["Txid", "Time", "Elapsed", "Cpu", "Mem", "Pid", "ThreadId", "Dbc", "Sql", "Fetch"] := by decide +kernel
example : carried UdpTxSqlPack.layout 20101 =
    ["Txid", "Time", "Elapsed", "Cpu", "Mem", "Pid", "ThreadId", "Dbc", "Sql"] := by decide +kernel

example : (versionReps UdpTxSqlPack.layout).eraseDups =
    [0, 49999, 50000, 50001, 39999, 40000, 40001, 29999, 30000, 30001, 19999, 20000, 20001, 10100, 10101, 10102,
     10103, 10104, 10105, 10108, 10109, 10110, 20101, 20102, 20103, 10106] := by decide +kernel

/-- the round trip of the example restores the written values -/
example : (post UdpTxEndPack.layout 50101 exEnd UdpTxEndPack.clearedRec) "Mtid" = .int (-9000000000) ∧
    (post UdpTxEndPack.layout 50101 exEnd UdpTxEndPack.clearedRec) "Status" = .int 404 ∧
    (post UdpTxEndPack.layout 50101 exEnd UdpTxEndPack.clearedRec) "Index" = .int (-1) := by decide +kernel

example : zeroToEmpty (-9000000000) = [45, 57, 48, 48, 48, 48, 48, 48, 48, 48, 48] := by decide +kernel
example : parseIntW 4 [50, 49, 52, 55, 52, 56, 51, 54, 52, 56] = 0 := by decide +kernel   -- "2147483648" overflows int32

/-- a pool history: release a used relay pack, acquire twice -/
example : ((runPool UdpRelayPack
      [.close (Rec.ofList [("Data", .str [1, 2, 3]), ("Len", .int 3)] (fun _ => .null)),
       .create (some 0) 50100, .create (some 0) 10101] []).2.map fun vq => (vq.2 "Data", vq.2 "Len", vq.2 "Ver"))
    = [(.null, .int 0, .int 50100), (.null, .int 0, .int 10101)] := by decide +kernel

end C07
