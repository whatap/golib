/-
  Property C13 — obligations over the facts regenerated from the source on every run
  (Golib.Gen.C13, written by xlate/c13: tie A).

  For each of the five list types: the capacity policy transcribed from `ensure` is one of the
  policies the refinement theorems quantify over (`Growth.OK`: the new capacity is at least the
  requested one and never reaches "too big size" below `BOUND` elements), the nil-table branch
  takes the larger of the default capacity and the request, the guards of get/set are
  `i >= size`, AddAll reads its bound once, the wire form is a 24-bit count followed by the
  element codec the model uses for that type, and the type codes agree with
  StatGeneralPack.create and CompareChild's dispatch.
-/
import Golib.Gen.C13
import Golib.Lists.Typed
import Golib.Lists.Sort
import Golib.Gen.Locks
import Golib.Conc.LockFacts
import Golib.Lists.Table

namespace C13Gen
open Lists

structure TypeFacts where
  nilCap : Nat → Nat
  newSize : Nat → Nat → Nat
  maxSize : Nat
  dcap : Nat
  getPanics : Int → Int → Int → Bool
  setPanics : Int → Int → Int → Bool
  addAllBound : String
  wire : List String
  typeCode : Nat

/-- what the CodeModel assumes of one list type -/
structure Agrees (f : TypeFacts) (elemW elemR : String) (code : Nat) : Prop where
  growth_ok : (Growth.mk f.newSize f.dcap f.maxSize).OK
  nil_max : ∀ m, f.nilCap m = max f.dcap m
  get_guard : ∀ i size len, f.getPanics i size len = decide (i ≥ size)
  set_guard : ∀ i size len, f.setPanics i size len = decide (i ≥ size)
  hoisted : f.addAllBound = "hoisted"
  wire : f.wire = ["WriteInt3", elemW, "ReadInt3", elemR]
  code : f.typeCode = code

def intList : TypeFacts := ⟨Gen.C13.IntList.nilCap, Gen.C13.IntList.newSize, Gen.C13.IntList.maxSize,
  Gen.C13.IntList.dcap, Gen.C13.IntList.getPanics, Gen.C13.IntList.setPanics,
  Gen.C13.IntList.addAllBound, Gen.C13.IntList.wire, Gen.C13.IntList.typeCode⟩
def longList : TypeFacts := ⟨Gen.C13.LongList.nilCap, Gen.C13.LongList.newSize, Gen.C13.LongList.maxSize,
  Gen.C13.LongList.dcap, Gen.C13.LongList.getPanics, Gen.C13.LongList.setPanics,
  Gen.C13.LongList.addAllBound, Gen.C13.LongList.wire, Gen.C13.LongList.typeCode⟩
def floatList : TypeFacts := ⟨Gen.C13.FloatList.nilCap, Gen.C13.FloatList.newSize, Gen.C13.FloatList.maxSize,
  Gen.C13.FloatList.dcap, Gen.C13.FloatList.getPanics, Gen.C13.FloatList.setPanics,
  Gen.C13.FloatList.addAllBound, Gen.C13.FloatList.wire, Gen.C13.FloatList.typeCode⟩
def doubleList : TypeFacts := ⟨Gen.C13.DoubleList.nilCap, Gen.C13.DoubleList.newSize, Gen.C13.DoubleList.maxSize,
  Gen.C13.DoubleList.dcap, Gen.C13.DoubleList.getPanics, Gen.C13.DoubleList.setPanics,
  Gen.C13.DoubleList.addAllBound, Gen.C13.DoubleList.wire, Gen.C13.DoubleList.typeCode⟩
def stringList : TypeFacts := ⟨Gen.C13.StringList.nilCap, Gen.C13.StringList.newSize, Gen.C13.StringList.maxSize,
  Gen.C13.StringList.dcap, Gen.C13.StringList.getPanics, Gen.C13.StringList.setPanics,
  Gen.C13.StringList.addAllBound, Gen.C13.StringList.wire, Gen.C13.StringList.typeCode⟩

/-- a proof script for `Agrees` that does not mention the shape of the growth rule, only what the
    refinement needs of it; the five types of the source go through `agrees_of` -/
macro "agrees_tac" f:ident ns:ident nc:ident mx:ident dc:ident gp:ident sp:ident : tactic => `(tactic|
  (refine ⟨⟨?_, ?_, ?_⟩, ?_, ?_, ?_, ?_, ?_, ?_⟩
   · intro old m
     simp only [$f:ident, $ns:ident]
     split <;> omega
   · intro old m h1 h2
     simp only [$f:ident, $ns:ident, $mx:ident]
     unfold TL.BOUND at h2
     split <;> omega
   · simp only [$f:ident, $dc:ident, TL.BOUND]; decide
   · intro m; simp only [$f:ident, $nc:ident, $dc:ident]
   · intro i size len; simp only [$f:ident, $gp:ident]
   · intro i size len; simp only [$f:ident, $sp:ident]
   · decide
   · decide
   · decide))

/-- what has to be read off the transcribed facts of one list type: its capacity policy is `OK`
    (whatever its shape), and the remaining fields are the model's -/
theorem agrees_of {f : TypeFacts} {w r : String} {c : Nat}
    (hg : (Growth.mk f.newSize f.dcap f.maxSize).OK) (hn : f.nilCap = fun m => max f.dcap m)
    (hget : f.getPanics = fun i size _ => decide (i ≥ size))
    (hset : f.setPanics = fun i size _ => decide (i ≥ size))
    (hh : f.addAllBound = "hoisted") (hw : f.wire = ["WriteInt3", w, "ReadInt3", r])
    (hc : f.typeCode = c) : Agrees f w r c :=
  ⟨hg, congrFun hn, fun _ _ _ => by rw [hget], fun _ _ _ => by rw [hset], hh, hw, hc⟩

theorem intList_agrees : Agrees intList "WriteDecimal" "ReadDecimal" 1 :=
  agrees_of Growth.go_ok rfl rfl rfl rfl rfl rfl

theorem longList_agrees : Agrees longList "WriteDecimal" "ReadDecimal" 2 :=
  agrees_of Growth.go_ok rfl rfl rfl rfl rfl rfl

theorem floatList_agrees : Agrees floatList "WriteFloat" "ReadFloat" 3 :=
  agrees_of Growth.go_ok rfl rfl rfl rfl rfl rfl

theorem doubleList_agrees : Agrees doubleList "WriteDouble" "ReadDouble" 4 :=
  agrees_of Growth.go_ok rfl rfl rfl rfl rfl rfl

theorem stringList_agrees : Agrees stringList "WriteText" "ReadText" 5 :=
  agrees_of Growth.go_ok rfl rfl rfl rfl rfl rfl

/-- the constants the model names -/
theorem constants : Gen.C13.ANYLIST_DEFAULT_CAPACITY = DEFAULT_CAPACITY ∧
    Gen.C13.ANYLIST_MAX_SIZE = MAX_SIZE ∧
    [Gen.C13.ANYLIST_INT, Gen.C13.ANYLIST_LONG, Gen.C13.ANYLIST_FLOAT, Gen.C13.ANYLIST_DOUBLE,
     Gen.C13.ANYLIST_STRING] = [1, 2, 3, 4, 5] := by decide

/-- CompareChild dispatches as the model's `childDispatch`: strings as strings, int/long children exactly
    (fix-D43), the rest through float64 -/
theorem compareChild_dispatch : Gen.C13.compareChild =
    [(["ANYLIST_STRING"], "CompareToString", "GetString"),
     (["ANYLIST_INT", "ANYLIST_LONG"], "CompareToLong", "GetLong"),
     ([], "CompareToDouble", "GetDouble")] := by decide

/-- StatGeneralPack.create builds, for the code a list's GetType returns, a list of that type -/
theorem create_inverts_getType : Gen.C13.create =
    [(1, "NewIntListDefault"), (2, "NewLongListDefault"), (3, "NewFloatListDefault"),
     (4, "NewDoubleListDefault"), (0, "NewStringListDefault")] := by decide

/-- the type code of the list a constructor of util/list builds -/
def tyOfCtor (c : String) : Nat :=
  if c = "NewIntListDefault" then 1 else if c = "NewLongListDefault" then 2
  else if c = "NewFloatListDefault" then 3 else if c = "NewDoubleListDefault" then 4
  else if c = "NewStringListDefault" then 5 else 0

/-- **create, interpreted.**  `StatGeneralPack.create`, compiled from its switch statement, builds for
    EVERY type byte a list whose type is the one the model's `Table.create` gives (unknown codes →
    StringList) -/
theorem create_is_model (t : Nat) : tyOfCtor (Gen.C13.createF t) = (Lists.Table.create t).ty := by
  simp only [Gen.C13.createF, Lists.Table.create]
  by_cases h1 : t = 1
  · subst h1; decide
  by_cases h2 : t = 2
  · subst h2; decide
  by_cases h3 : t = 3
  · subst h3; decide
  by_cases h4 : t = 4
  · subst h4; decide
  simp [h1, h2, h3, h4, tyOfCtor]

/-! ### interpreted comparator code

  The closures of Sorting / SortingAnyList, `CompareChild` and `compare.CompareToX` are compiled
  from the Go statements (if/else, switch, assignments, returns) into Lean functions and proved
  equal, for all inputs, to the functions the theorems of C13 are about. -/

open Lists.Sort

/-- the closure of `Sorting` is the model's `lessOneC`, for every comparison function and values -/
theorem sorting_closures_are_model {α : Type} (cmp : α → α → Int) (asc : Bool) (v1 v2 : α) :
    Gen.C13.IntList.sortingLess cmp asc v1 v2 = lessOneC cmp asc v1 v2 ∧
    Gen.C13.LongList.sortingLess cmp asc v1 v2 = lessOneC cmp asc v1 v2 ∧
    Gen.C13.FloatList.sortingLess cmp asc v1 v2 = lessOneC cmp asc v1 v2 ∧
    Gen.C13.DoubleList.sortingLess cmp asc v1 v2 = lessOneC cmp asc v1 v2 ∧
    Gen.C13.StringList.sortingLess cmp asc v1 v2 = lessOneC cmp asc v1 v2 := by
  refine ⟨?_, ?_, ?_, ?_, ?_⟩ <;>
    simp only [Gen.C13.IntList.sortingLess, Gen.C13.LongList.sortingLess,
      Gen.C13.FloatList.sortingLess, Gen.C13.DoubleList.sortingLess,
      Gen.C13.StringList.sortingLess, lessOneC] <;>
    cases asc <;> simp <;> (try split) <;> simp_all

/-- the closure of `SortingAnyList` is the model's `lessTwoC` -/
theorem sortingAny_closures_are_model {α : Type} (cmp : α → α → Int) (asc : Bool)
    (cc : Nat → Nat → Int) (k1 : Nat) (v1 : α) (k2 : Nat) (v2 : α) :
    Gen.C13.IntList.sortingAnyLess cmp asc cc k1 v1 k2 v2 = lessTwoC cmp asc cc k1 v1 k2 v2 ∧
    Gen.C13.LongList.sortingAnyLess cmp asc cc k1 v1 k2 v2 = lessTwoC cmp asc cc k1 v1 k2 v2 ∧
    Gen.C13.FloatList.sortingAnyLess cmp asc cc k1 v1 k2 v2 = lessTwoC cmp asc cc k1 v1 k2 v2 ∧
    Gen.C13.DoubleList.sortingAnyLess cmp asc cc k1 v1 k2 v2 = lessTwoC cmp asc cc k1 v1 k2 v2 ∧
    Gen.C13.StringList.sortingAnyLess cmp asc cc k1 v1 k2 v2 = lessTwoC cmp asc cc k1 v1 k2 v2 := by
  refine ⟨?_, ?_, ?_, ?_, ?_⟩ <;>
    simp only [Gen.C13.IntList.sortingAnyLess, Gen.C13.LongList.sortingAnyLess,
      Gen.C13.FloatList.sortingAnyLess, Gen.C13.DoubleList.sortingAnyLess,
      Gen.C13.StringList.sortingAnyLess, lessTwoC] <;>
    cases asc <;> simp <;> (repeat' split) <;> simp_all

/-- each list type calls the comparison of its own element type, in both closures -/
theorem closures_call_own_compare :
    Gen.C13.IntList.compareFns = ["CompareToInt", "CompareToInt"] ∧
    Gen.C13.LongList.compareFns = ["CompareToLong", "CompareToLong"] ∧
    Gen.C13.FloatList.compareFns = ["CompareToFloat", "CompareToFloat"] ∧
    Gen.C13.DoubleList.compareFns = ["CompareToDouble", "CompareToDouble"] ∧
    Gen.C13.StringList.compareFns = ["CompareToString", "CompareToString"] := by decide

/-- `compare.CompareToInt/Long/Float/Double` are the model's `cmp3`: with `l == r` read as
    `l ≤ r ∧ r ≤ l` and `l > r` as `¬ l ≤ r` (true of Go's integers and of NaN-free floats) -/
theorem compare_fns_are_cmp3 {α : Type} (le : α → α → Bool) (l r : α) :
    Gen.C13.CompareToInt (fun a b => le a b && le b a) (fun a b => !le a b) l r = cmp3 le l r ∧
    Gen.C13.CompareToLong (fun a b => le a b && le b a) (fun a b => !le a b) l r = cmp3 le l r ∧
    Gen.C13.CompareToFloat (fun a b => le a b && le b a) (fun a b => !le a b) l r = cmp3 le l r ∧
    Gen.C13.CompareToDouble (fun a b => le a b && le b a) (fun a b => !le a b) l r = cmp3 le l r ∧
    Gen.C13.CompareToString_isStringsCompare = true := by
  refine ⟨?_, ?_, ?_, ?_, by decide⟩ <;>
    simp only [Gen.C13.CompareToInt, Gen.C13.CompareToLong, Gen.C13.CompareToFloat,
      Gen.C13.CompareToDouble, cmp3] <;>
    cases le l r <;> cases le r l <;> simp

/-- what `CompareChild` is in the model: pick (comparison, getter) by the child's type code —
    strings as strings, int/long exactly, the rest through float64 — and read it in the
    direction `ord` -/
def childDispatch (ty : Nat) (ord : Bool) (c : String → String → Nat → Nat → Int) (i1 i2 : Nat) : Int :=
  let fg : String × String :=
    if ty = 5 then ("CompareToString", "GetString")
    else if ty = 1 ∨ ty = 2 then ("CompareToLong", "GetLong")
    else ("CompareToDouble", "GetDouble")
  if ord then c fg.1 fg.2 i1 i2 else c fg.1 fg.2 i2 i1

/-- the compiled `CompareChild` equals that dispatch for every type code, direction, pair of
    indices and every meaning of the comparison calls -/
theorem compareChild_is_dispatch (ty : Nat) (ord : Bool) (c : String → String → Nat → Nat → Int)
    (i1 i2 : Nat) : Gen.C13.compareChildF ty ord c i1 i2 = childDispatch ty ord c i1 i2 := by
  simp only [Gen.C13.compareChildF, childDispatch]
  by_cases h5 : ty = 5
  · simp only [if_pos h5]
  · by_cases h12 : ty = 1 ∨ ty = 2
    · simp only [if_neg h5, if_pos h12]
    · simp only [if_neg h5, if_neg h12]

/-- … and the dispatch, with the comparison calls given their meaning (`cmp3` of the child's order
    on the child's elements), is the model's `compareChild` -/
theorem dispatch_is_model_compareChild {β : Type} (cle : β → β → Bool) (child : Nat → β)
    (ty : Nat) (ord : Bool) (i1 i2 : Nat) :
    childDispatch ty ord (fun _ _ a b => cmp3 cle (child a) (child b)) i1 i2 =
      compareChild cle child ord i1 i2 := by
  simp only [childDispatch, compareChild]

example : childDispatch 2 false (fun f g a b => if f = "CompareToLong" ∧ g = "GetLong" then (a : Int) - b else 99) 3 5 = 2 := by
  decide

/-! ### LinkedList: every public mutator runs under the list's lock

  Facts regenerated from util/list/LinkedList.go by `xlate/c10` (C10's translator, run by this
  check too): a method is `atomicOrDelegates` when it takes `o.lock` as its first statement, releases
  it by `defer`, touches no shared field outside the lock — or touches nothing itself and only
  delegates to one method that does.  This is what makes the code an instance of the mutex-object
  machine of `Lists.Linked.locked_conservation`.  One obligation per method, so that a failure
  names the method. -/

open LockFacts Gen.Locks in
theorem linkedlist_Add_locked : atomicOrDelegates LinkedList.facts "Add" = true := by decide
open LockFacts Gen.Locks in
theorem linkedlist_AddFirst_locked : atomicOrDelegates LinkedList.facts "AddFirst" = true := by decide
open LockFacts Gen.Locks in
theorem linkedlist_AddLast_locked : atomicOrDelegates LinkedList.facts "AddLast" = true := by decide
open LockFacts Gen.Locks in
theorem linkedlist_PutBefore_locked : atomicOrDelegates LinkedList.facts "PutBefore" = true := by decide
open LockFacts Gen.Locks in
theorem linkedlist_Remove_locked : atomicOrDelegates LinkedList.facts "Remove" = true := by decide
open LockFacts Gen.Locks in
theorem linkedlist_RemoveFirst_locked : atomicOrDelegates LinkedList.facts "RemoveFirst" = true := by decide
open LockFacts Gen.Locks in
theorem linkedlist_RemoveLast_locked : atomicOrDelegates LinkedList.facts "RemoveLast" = true := by decide
open LockFacts Gen.Locks in
theorem linkedlist_Clear_locked : atomicOrDelegates LinkedList.facts "Clear" = true := by decide

open LockFacts Gen.Locks in
theorem linkedlist_ToArray_locked : atomicOrDelegates LinkedList.facts "ToArray" = true := by decide

open LockFacts Gen.Locks in
/-- … and these are ALL the exported methods that (transitively) write anything (ToArray writes only
    the slice it returns): a new public mutator changes this list and needs its own obligation -/
theorem linkedlist_mutators_listed :
    ((LinkedList.facts.methods.filter
        (fun M => M.exported && mutatesWithin LinkedList.facts LinkedList.facts.fuel M.name)).map (·.name)) =
      ["Add", "AddFirst", "AddLast", "Clear", "PutBefore", "Remove", "RemoveFirst", "RemoveLast", "ToArray"] := by
  decide

open LockFacts Gen.Locks in
/-- the lock is released on every path (Lock first, `defer Unlock`), and no method re-enters it -/
theorem linkedlist_lock_pattern : noSelfDeadlock LinkedList.facts = true := by decide

end C13Gen
