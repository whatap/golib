/-
  Property C02, tie A — the facts `xlate/c02` regenerates from lang/value on every run
  (Golib/Gen/C02.lean) are the ones the model was written against: the type codes, factory and
  `Write` / `Read` calls of Golib/Value/Codes.lean, the stream-method skeletons of
  Golib/Value/ApiTable.lean, and the `guards` / `stateRefs` facts (no-op guards, no package state written).

  A changed type-code constant, a reordered / retargeted arm of `CreateValue`, a `GetValueType`
  returning another constant, or a `Write` / `Read` body calling other stream methods changes the
  generated data, and the corresponding equation below no longer checks.
-/
import Golib.Gen.C02
import Golib.Value.Codes
import Golib.Value.ApiTable

namespace C02Gen
open Value

/-- the 21 type-code constants of Value.go -/
theorem consts_agree : Gen.C02.consts = constTable := by decide

/-- the `CreateValue` switch: every case label creates the type the model decodes under that code -/
theorem factory_agrees : Gen.C02.factory = factoryTable := by decide

/-- per type: its `GetValueType` constant and the stream calls of its `Write` / `Read` bodies -/
theorem types_agree : Gen.C02.types = typeTable := by decide

/-- `WriteValue` writes the tag byte then the body; `ReadValue` reads the tag, creates, reads -/
theorem write_read_value_agree :
    Gen.C02.writeValue = writeValueCalls ∧ Gen.C02.readValue = readValueCalls := by decide

/-- hence, read off the *generated* tables: every implemented type is written under the code the
    model uses, and that code creates the same type again; the codes are pairwise distinct -/
theorem source_codes_roundtrip :
    ∀ c ∈ Ctor.all,
      ((Gen.C02.types.find? (fun e => e.1 == c.typeName)).bind (fun e =>
          (Gen.C02.consts.find? (fun k => k.1 == e.2.1)).map (·.2))) = some c.code ∧
      ((Gen.C02.consts.find? (fun k => k.2 == c.code)).bind (fun k =>
          (Gen.C02.factory.find? (fun e => e.1 == k.1)).map (·.2))) = some c.typeName := by
  -- the generated tables are the hand-written ones (`types_agree`, `consts_agree`, `factory_agrees`:
  -- these are what fails when a code, a `GetValueType` or an arm of `CreateValue` changes in the
  -- source), and over those the two look-ups are `code_matches_source`, `factory_matches_source`
  intro c hc
  rw [types_agree, consts_agree, factory_agrees]
  refine ⟨(code_matches_source c hc) ▸ ?_, (factory_matches_source c hc) ▸ ?_⟩
  · unfold codeBySource; cases typeTable.find? _ <;> rfl
  · unfold typeBySource; cases constTable.find? _ <;> rfl

/-- the only calls left out of the skeletons are the availability guard `CheckCount` (reads
    nothing; rejects only counts that the remaining bytes cannot satisfy, on which decoding fails
    anyway — the model's decoders fail there too), and only inside `Read` bodies -/
theorem guards_are_noops :
    Gen.C02.guards.all (fun g => g.2.1 == "Read" && g.2.2.all (· == "CheckCount")) = true := by decide

/-- **the codec keeps no state between calls.**  `value_roundtrip` is a statement about one call;
    that it describes *every* call of a process — whatever was decoded or encoded before, failed
    or not, on whichever goroutine — needs the code to have no package-level mutable state.
    Regenerated fact: no function of lang/value, io, util/hmap, util/hash writes (assigns,
    increments, appends to, takes the address of) a package-level variable … -/
theorem no_package_state_written : Gen.C02.stateRefs.all (fun r => r.2.2.1 == "r") = true := by decide

/-- … and in lang/value and io the only package-level variable is the shared `NULL_VALUE`, read by
    its constructor only: no intern table, scratch buffer or counter exists that a `Read` / `Write`
    could consult (the harness's decode-history, failed-decode and concurrent stages look for the
    behaviour; this looks for the mechanism) -/
theorem codec_has_no_hidden_state :
    Gen.C02.pkgVars.filter (fun p => p.1 == "lang/value" || p.1 == "io") = codecPkgVars ∧
    Gen.C02.stateRefs.filter (fun r => r.1 == "lang/value" || r.1 == "io") = codecStateRefs := by decide

/-- the exported wrappers, typed look-ups and map-only entry points modelled in Golib/Value/Api.lean: the calls
    and type-code tests of every body are the ones the model makes — the constructor a wrapper stores
    (`PutLong` / `AddLong`: DecimalValue, `PutString` / `AddString`: TextValue, `NewList`: ListValue) and the
    constant a typed look-up tests (`GetLong`: VALUE_DECIMAL, `GetFloat`: VALUE_FLOAT …) are read off the model
    (`storedM`, `testedM`), `PutAll` enumerates the other map and Puts, `WriteMapValue` / `IntMapValue.WriteValue`
    are tag byte + body like `WriteValue`, `ReadMapValue` reads one byte and compares it with the map's code -/
theorem api_skeletons_agree : Gen.C02.apiCalls = apiTable := by decide

/-- what `storedM` / `testedM` read off the model, spelled out (so that a change of the model is seen here) -/
theorem api_model_choices :
    storedM (.putLong [] 0) = "NewDecimalValue" ∧ storedM (.putString [] []) = "NewTextValue" ∧
    storedM (.newList []) = "NewListValue" ∧ storedL (.addLong 0) = "NewDecimalValue" ∧
    testedM .getLong = ["==VALUE_DECIMAL"] ∧ testedM .getFloat = ["==VALUE_FLOAT"] ∧
    testedM .getString = ["==VALUE_TEXT"] ∧ testedM .getBool = ["==VALUE_BOOLEAN"] ∧
    testedL .getString = ["==VALUE_TEXT"] ∧ testedL .getBool = ["==VALUE_BOOLEAN"] := by decide

theorem source_codes_distinct : (Gen.C02.consts.map (·.2)).Nodup := by decide

end C02Gen
