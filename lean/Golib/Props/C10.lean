/-
  Property C10 — shared collections are linearizable, race-free and never self-deadlock.

  The proof core is the generic *mutex object* machine (Golib/Conc/Mutex.lean): threads are
  natural numbers (any number of goroutines), a schedule is an arbitrary list of micro-actions
  (any interleaving), and the body of an operation is split into `load` (take a snapshot of the
  shared state) and `store` (write back the result of the sequential `step`), so that atomicity is
  a *consequence* of holding the lock, not an assumption.  The theorems hold for every sequential
  object `step : σ → Op → σ × Ret`; below they are instantiated with the sequential specs of the
  hash maps/sets, the linked list and the request queues (Golib/Conc/SeqSpec.lean).

  What justifies using this machine for a given Go method is the regenerated lock table
  (Golib/Gen/Locks.lean, obligations in Golib/Props/C10Gen.lean): the method takes the instance
  lock first thing, releases it by `defer`, touches shared fields only in between, and never
  reaches a method that takes the lock again.  The Go memory model and `sync.Mutex` are assumptions
  (a release happens-before the next acquire; the mutex is not re-entrant).
-/
import Golib.Conc.WellNested
import Golib.Conc.Racy
import Golib.Conc.Lockset
import Golib.Conc.SeqSpecThms
import Golib.Conc.Instances
import Golib.HMap.LinkedStep
import Golib.Conc.Deadlock
import Golib.Conc.Callback
import Golib.Conc.WholeOps

namespace C10
open Conc

variable {σ Op Ret : Type} (step : σ → Op → σ × Ret)

/-- **mutex_linearizable.**  For every number of threads, every program and every schedule: in the
    state reached, the event log is well nested per thread (each linearization point lies between
    the operation's invocation and its response, and the response carries the value computed at
    the linearization point), the values are those of the sequential object replayed in
    linearization order, and the shared state is the result of that replay. -/
theorem mutex_linearizable (init : σ) (sched : List (Act Op)) (s : St σ Op Ret)
    (h : runActs step (initSt init) sched = some s) :
    wn s.log ∧ retsOk step init s.log ∧ s.sh = seqState step init s.log :=
  Conc.mutex_linearizable step init sched s h

/-- the same in Herlihy–Wing form: the chronological list of linearization points is a legal
    sequential history of the object and the shared state is its final state -/
theorem mutex_herlihy_wing (init : σ) (sched : List (Act Op)) (s : St σ Op Ret)
    (h : runActs step (initSt init) sched = some s) :
    wn s.log ∧ legal step (linOps s.log) init ∧ s.sh = runOps step (linOps s.log) init :=
  Conc.mutex_herlihy_wing step init sched s h

/-- every response is explained by a linearization point of the same thread, same operation, same
    value, that lies after the matching invocation (history oldest first) -/
theorem response_matches_linearization (init : σ) (sched : List (Act Op)) (s : St σ Op Ret)
    (h : runActs step (initSt init) sched = some s)
    (p q : List (Ev Op Ret)) (t : Nat) (op : Op) (r : Ret)
    (hh : s.log.reverse = p ++ .ret t op r :: q) :
    ∃ c b a, p = c ++ .inv t op :: (b ++ .lin t op r :: a) ∧
      (∀ e ∈ b, evThread e ≠ t) ∧ (∀ e ∈ a, evThread e ≠ t) := by
  have hw := (mutex_linearizable step init sched s h).1
  have hl : s.log = q.reverse ++ .ret t op r :: p.reverse := by
    have := congrArg List.reverse hh
    simpa using this
  rw [hl] at hw
  obtain ⟨a, b, c, hp, ha, hb⟩ := complete_ret_matches_lin _ _ t op r hw
  refine ⟨c.reverse, b.reverse, a.reverse, ?_, ?_, ?_⟩
  · have := congrArg List.reverse hp
    simpa using this
  · intro e he; exact hb e (List.mem_reverse.1 he)
  · intro e he; exact ha e (List.mem_reverse.1 he)

/-- real-time order is respected: if operation 1 returned before operation 2 was invoked, then
    operation 1 stands before operation 2 in the sequential witness -/
theorem realtime_order_respected (init : σ) (sched : List (Act Op)) (s : St σ Op Ret)
    (h : runActs step (initSt init) sched = some s)
    (p m n' n : List (Ev Op Ret)) (t1 t2 : Nat) (op1 op2 op2' : Op) (r1 r2 : Ret)
    (hh : s.log.reverse =
      p ++ .ret t1 op1 r1 :: (m ++ .inv t2 op2 :: (n' ++ .lin t2 op2' r2 :: n)))
    (hn' : ∀ e ∈ n', evThread e ≠ t2) :
    op2' = op2 ∧
    ∃ b a, p = b ++ .lin t1 op1 r1 :: a ∧ (∀ e ∈ a, evThread e ≠ t1) ∧
      ∃ xs ys zs, linOps s.log = xs ++ (t1, op1, r1) :: ys ++ (t2, op2, r2) :: zs ∧
        xs = linOps b.reverse ∧
        ys = linOps a.reverse ++ linOps m.reverse ++ linOps n'.reverse ∧
        zs = linOps n.reverse := by
  have hw := (mutex_linearizable step init sched s h).1
  have hl : s.log = (n.reverse ++ .lin t2 op2' r2 :: n'.reverse) ++ .inv t2 op2 ::
      (m.reverse ++ .ret t1 op1 r1 :: p.reverse) := by
    have := congrArg List.reverse hh
    simpa using this
  rw [hl] at hw
  obtain ⟨hop, a, b, hp, ha, hlin⟩ := realtime_order _ _ _ _ t1 t2 op1 op2 op2' r1 r2 hw
    (fun e he => hn' e (List.mem_reverse.1 he))
  refine ⟨hop, b.reverse, a.reverse, ?_, ?_, ?_⟩
  · have := congrArg List.reverse hp
    simpa using this
  · intro e he; exact ha e (List.mem_reverse.1 he)
  · exact ⟨_, _, _, by rw [hl, hlin], by simp, by simp, rfl⟩

/-- at most one thread is between `Lock()` and `Unlock()` -/
theorem mutual_exclusion (init : σ) (sched : List (Act Op)) (s : St σ Op Ret)
    (h : runActs step (initSt init) sched = some s) (t u : Nat)
    (ht : inCS (s.ph t)) (hu : inCS (s.ph u)) : t = u :=
  Conc.mutual_exclusion step init sched s h t u ht hu

/-- **mutex_no_corruption.**  A structure invariant of the sequential object holds in every
    reachable state of the concurrent machine, and of every snapshot a thread is working on. -/
theorem mutex_no_corruption (init : σ) (I : σ → Prop) (h0 : I init)
    (hs : ∀ v op, I v → I (step v op).1) (sched : List (Act Op)) (s : St σ Op Ret)
    (h : runActs step (initSt init) sched = some s) :
    I s.sh ∧ ∀ t op v, s.ph t = .loaded op v → I v := by
  have hI := reachable_inv step init sched s h
  have hsh : I s.sh := by rw [hI.seq]; exact seqState_inv step I init h0 hs s.log
  refine ⟨hsh, ?_⟩
  intro t op v hph
  rw [← hI.fresh t op v hph]; exact hsh

/-- **lockset_race_free.**  If two accesses by different threads are both made while holding the
    instance lock, the first thread's release and the second thread's acquire lie between them —
    the happens-before edge that orders them in the Go memory model: no data race. -/
theorem lockset_race_free (pre mid post : List Lockset.E) (t u : Nat) (w w' : Bool) (htu : t ≠ u)
    (h0 : Lockset.holderAfter none pre = some (some t))
    (h1 : Lockset.holderAfter none (pre ++ [Lockset.E.acc t w] ++ mid) = some (some u)) :
    ∃ m1 m2 m3, mid = m1 ++ [Lockset.E.rel t] ++ m2 ++ [Lockset.E.acq u] ++ m3 :=
  Lockset.lockset_race_free pre mid post t u w w' htu h0 h1

open LockFacts in
/-- **no_self_deadlock is sound.**  For every lock table `T` (regenerated from the source): if the
    decidable judgement `noSelfDeadlock T` holds, then in the call-graph machine `runs` no method
    entered without the lock, to any call depth, ever tries to take the non re-entrant lock while it
    holds it.  (C10Gen applies this to the twenty regenerated tables: `C10Gen.deadlock_free`.) -/
theorem no_self_deadlock_sound (T : TypeFacts) (h : noSelfDeadlock T = true) :
    ∀ n m, runs T n false m = true :=
  noSelfDeadlock_sound T h

open LockFacts in
/-- … and the judgement is not vacuous: a direct re-lock is a deadlock of the machine -/
theorem relock_is_a_deadlock (T : TypeFacts) (M C : Method) (c : String) (hmem : M ∈ T.methods)
    (hf : T.find M.name = some M) (ha : M.acquires = true) (hc : c ∈ M.callsHeld)
    (hC : T.find c = some C) (hCa : C.acquires = true) : runs T 2 false M.name = false :=
  relock_reaches_deadlock T M C c hmem hf ha hc hC hCa

open LockFacts in
/-- no lock order between two instances of one type: if `nestFree T` holds, no execution ever holds or
    requests both instances' locks, and a thread that never does cannot be part of a wait cycle -/
theorem no_lock_order_deadlock (T : TypeFacts) (h : nestFree T = true) :
    (∀ n m, nests T n false false m = false) ∧
    (∀ w1 w2 : Wait, (w1.holds = none ∨ w1.wants = none) → ¬ cycle2 w1 w2) :=
  ⟨nestFree_sound T h, fun w1 w2 h1 => no_cycle_without_nesting w1 w2 h1⟩

/-- **callback_window_exclusive.**  `Put`/`PutForce` invoke the user's callback while holding the lock,
    between taking the snapshot and storing the result (phase `loaded`).  For every reachable state in
    which thread `t` is there and every schedule segment of other threads' actions — whatever the other
    goroutines try: Put, Get, Clear, Size … — the shared state is unchanged, still equal to `t`'s
    snapshot, `t` is still in its callback, and *no operation has been linearized*: nothing of another
    thread takes effect in the middle of the operation (what the harness's `callbackReentrancy` measures). -/
theorem callback_window_exclusive (init : σ) (pre : List (Act Op)) (s s' : St σ Op Ret)
    (hs : runActs step (initSt init) pre = some s) (t : Nat) (op : Op) (v : σ)
    (hcb : s.ph t = .loaded op v) (others : List (Act Op)) (ho : ∀ a ∈ others, a.actor ≠ t)
    (hr : runActs step s others = some s') :
    s'.sh = s.sh ∧ s'.ph t = .loaded op v ∧ linOps s'.log = linOps s.log ∧ s'.sh = v :=
  Conc.callback_window_exclusive step init pre s s' hs t op v hcb others ho hr

/-- the same for the whole critical section (from `Lock()` to `Unlock()`) -/
theorem critical_section_exclusive (init : σ) (pre : List (Act Op)) (s s' : St σ Op Ret)
    (hs : runActs step (initSt init) pre = some s) (t : Nat) (hcs : inCS (s.ph t))
    (others : List (Act Op)) (ho : ∀ a ∈ others, a.actor ≠ t) (hr : runActs step s others = some s') :
    s'.sh = s.sh ∧ s'.holder = some t ∧ s'.ph t = s.ph t ∧ linOps s'.log = linOps s.log :=
  Conc.foreign_run_in_cs step init s s' (Conc.reachable_inv step init pre s hs) t hcs others ho hr

/-- **finding (documented hazard, not a defect of the collections): a callback that calls the queue from
    its own goroutine never gets the lock** — the mutex is not re-entrant, the holder waits for its own
    callback: a self-deadlock.  (The harness therefore lets *another* goroutine do the call.) -/
theorem finding_callback_reentry_never_acquires (init : σ) (pre : List (Act Op)) (s s' : St σ Op Ret)
    (hs : runActs step (initSt init) pre = some s) (t : Nat) (hcs : inCS (s.ph t))
    (others : List (Act Op)) (ho : ∀ a ∈ others, a.actor ≠ t) (hr : runActs step s others = some s')
    (u : Nat) : next step s' (.acq u) = none :=
  Conc.finding_callback_reentry_never_acquires step init pre s s' hs t hcs others ho hr u

/-- results already handed out never change: the history only grows (for the Go code: a returned slice
    must not be memory the object keeps using — `C10Gen.slice_results_fresh`) -/
theorem returned_results_are_final (s s' : St σ Op Ret) (sched : List (Act Op))
    (hr : runActs step s sched = some s') : ∃ l, s'.log = l ++ s.log :=
  Conc.returned_results_are_final step s s' sched hr

/-- non-vacuity: thread 1 sits in its callback (snapshot taken) while thread 2 invokes a put and tries to lock -/
example :
    (runActs SeqSpec.mstep (initSt []) [.inv 1 (.put 1 2), .acq 1, .load 1, .inv 2 (.put 3 4)]).map
      (fun s => (s.sh, linOps s.log)) = some ([], []) ∧
    (runActs SeqSpec.mstep (initSt []) [.inv 1 (.put 1 2), .acq 1, .load 1, .inv 2 (.put 3 4), .acq 2]).isNone = true := by
  constructor <;> rfl

/-! ### whole-structure operations never disturb the point operations

  Sort (and every read-only traversal) leaves the *content* — the key → value pairs — unchanged; it is not a
  point operation and need not even be compared as one, but the point operations must stay linearizable in
  its presence.  For any object, any content equivalence `E` respected by the point operations and any set
  `N` of content-neutral operations: the neutral operations can be erased from the linearization. -/

/-- **neutral_ops_never_disturb_point_ops.**  For every schedule of the mutex machine: the shared state is
    content-equal (`E`) to the sequential replay of the point operations *alone* in linearization order, and
    every point operation returned what it returns in that replay. -/
theorem neutral_ops_never_disturb_point_ops (I : σ → Prop) (E : σ → σ → Prop) (N : Op → Bool)
    (hI : ∀ s op, I s → I (step s op).1)
    (hN : ∀ s s' op, I s → I s' → E s s' → N op = true → E (step s op).1 s')
    (hC : ∀ s s' op, I s → I s' → E s s' → N op = false →
      E (step s op).1 (step s' op).1 ∧ (step s op).2 = (step s' op).2)
    (init : σ) (h0 : I init) (hE0 : E init init) (sched : List (Act Op)) (s : St σ Op Ret)
    (h : runActs step (initSt init) sched = some s) :
    E s.sh (runOps step (pointOps N (linOps s.log)) init) ∧ legal step (pointOps N (linOps s.log)) init := by
  obtain ⟨_, h2, h3⟩ := mutex_herlihy_wing step init sched s h
  -- the replay with and the replay without the neutral operations stay content-equal, both inside `I`
  obtain ⟨i1, _, _, i2⟩ := legal_transfers_erasing step step (fun s s' => I s ∧ I s' ∧ E s s') (· = ·) N
    (fun c a op ⟨ic, ia, e⟩ hn => ⟨hI c op ic, ia, hN c a op ic ia e hn⟩)
    (fun c a op ⟨ic, ia, e⟩ hn =>
      ⟨⟨hI c op ic, hI a op ia, (hC c a op ic ia e hn).1⟩, (hC c a op ic ia e hn).2⟩)
    _ init init ⟨h0, h0, hE0⟩ h2
  rw [h3]
  exact ⟨runAbs_eq step (pointOps N (linOps s.log)) init ▸ i2, (legalAbs_eq step _ _).1 i1⟩

/-- **sort_never_disturbs_point_ops** (the hypotheses above discharged for the dictionary): whatever Sorts,
    under whatever comparators, run concurrently with put / get / contains / remove / size / isEmpty / clear,
    the dictionary holds exactly the entries of the replay of the point operations alone and each of them
    returned what it returns there — no completed put is lost, no removed key comes back. -/
theorem sort_never_disturbs_point_ops (sched : List (Act SeqSpec.WOp)) (s : St SeqSpec.MSt SeqSpec.WOp SeqSpec.Fact)
    (h : runActs SeqSpec.wstep (initSt []) sched = some s) :
    s.sh.Perm (runOps SeqSpec.wstep (pointOps SeqSpec.isSort (linOps s.log)) []) ∧
      legal SeqSpec.wstep (pointOps SeqSpec.isSort (linOps s.log)) [] :=
  neutral_ops_never_disturb_point_ops SeqSpec.wstep SeqSpec.keysNodup List.Perm SeqSpec.isSort SeqSpec.wstep_keysNodup
    SeqSpec.wstep_sort_neutral SeqSpec.wstep_congr [] SeqSpec.keysNodup_nil .nil sched s h

/-- non-vacuity: a put overlaps a Sort (descending); the Sort is linearized first, the put survives it -/
example :
    (runActs SeqSpec.wstep (initSt [])
      [.inv 1 (.put 1 10), .acq 1, .load 1, .store 1, .rel 1, .ret 1,
       .inv 1 (.sort (fun a b => decide (b ≤ a))), .inv 2 (.put 2 20), .acq 1, .load 1, .store 1, .rel 1,
       .acq 2, .load 2, .store 2, .rel 2, .ret 2, .ret 1]).map
        (fun s => (s.sh, (pointOps SeqSpec.isSort (linOps s.log)).map (fun x => x.1))) =
    some ([(1, 10), (2, 20)], [1, 2]) := by rfl

/-- **finding (counter-model: Sort made of two critical sections).**  `snap` and `rebuild` are each a
    properly locked operation: the schedule is accepted, nothing races, nothing deadlocks, every obligation
    about single operations holds — and the put of key 9 that completed between them is gone although no
    remove or clear ever ran.  (Tie A: `C10Gen.writers_single_critical_section` rejects this shape; tie B:
    `wholeMutators` puts a point operation between the two sections.) -/
theorem split_sort_undoes_completed_put :
    ∃ s, runActs SeqSpec.sstep (initSt [(2, 20), (1, 10)]) SeqSpec.splitSortSchedule = some s ∧
      s.sh = [(1, 10), (2, 20)] ∧ SeqSpec.lookup 9 s.sh = 0 ∧
      (linOps s.log).map (fun x => x.1) = [1, 2, 1] ∧
      (∃ l, linOps s.log = [(1, .snap, .ents [(2, 20), (1, 10)]), (2, .pt (.put 9 90), .fact (.val 0)), l]) :=
  ⟨_, rfl, rfl, rfl, rfl, _, rfl⟩

/-- with the atomic Sort that interleaving is not a schedule: while goroutine 1 is inside Sort the put of
    goroutine 2 cannot take the lock -/
theorem atomic_sort_excludes_that_schedule (lt : Nat → Nat → Bool) :
    runActs SeqSpec.wstep (initSt [(2, 20), (1, 10)])
      [.inv 1 (.sort lt), .acq 1, .load 1, .inv 2 (.put 9 90), .acq 2] = none :=
  rfl

/-! ### what goes wrong without the lock (the model of a method that forgets it — D18) -/

/-- a body that reads and writes without the lock loses an update: two increments, final state 1 -/
theorem finding_unlocked_body_loses_update :
    ∃ s, runActsRacy ctr (initSt 0) sched = some s ∧ s.sh = 1 ∧ seqState ctr 0 s.log = 2 := by
  obtain ⟨s, hs, h⟩ := Option.map_eq_some_iff.1 sched_runs
  exact ⟨s, hs, (Prod.mk.inj h).1, by rw [(Prod.mk.inj h).2]; rfl⟩

/-- … and the history it produces has no sequential explanation -/
theorem finding_unlocked_body_not_linearizable :
    ∃ s, runActsRacy ctr (initSt 0) sched = some s ∧ ¬ retsOk ctr 0 s.log :=
  Conc.lost_update_not_linearizable

/-- the same interleaving is impossible once the body is bracketed by the lock -/
theorem locked_body_excludes_that_schedule :
    runActs ctr (initSt 0) [.inv 0 (), .inv 1 (), .acq 0, .acq 1] = none := rfl

/-- an access made without the lock is not ordered with a locked one -/
theorem finding_unlocked_access_unordered :
    Lockset.holderAfter none [.acq 0, .acc 0 true, .acc 1 false, .rel 0] = some none ∧
    Lockset.holderAfter none [.acq 0] = some (some 0) ∧
    Lockset.holderAfter none [.acq 0, .acc 0 true] ≠ some (some 1) := by decide

open SeqSpec

/-- the mutex object over the small insertion-ordered dictionary `SeqSpec.mstep` (an association list over
    `Nat`; put / get / contains / remove / removeFirst / removeLast / size / isEmpty / clear): every
    concurrent history is linearizable.  The statement mentions no type of util/hmap: that a point operation
    of its 17 map and set types is one such critical section is `C10Gen.point_ops_atomic_<T>`, and what the
    bucket-level CodeModel computes there is `linked_maps_linearizable_wrt_dictionary` /
    `plain_maps_linearizable_wrt_map` below. -/
theorem dict_linearizable (sched : List (Act MOp)) (s : St MSt MOp Fact)
    (h : runActs mstep (initSt []) sched = some s) :
    wn s.log ∧ legal mstep (linOps s.log) [] ∧ s.sh = runOps mstep (linOps s.log) [] :=
  Conc.mutex_herlihy_wing mstep [] sched s h

/-- … and never corrupts the structure: keys stay distinct in every reachable state -/
theorem dict_no_corruption (sched : List (Act MOp)) (s : St MSt MOp Fact)
    (h : runActs mstep (initSt []) sched = some s) :
    keysNodup s.sh ∧ ∀ t op v, s.ph t = .loaded op v → keysNodup v :=
  mutex_no_corruption mstep [] keysNodup keysNodup_nil (fun v op hv => mstep_keysNodup v op hv) sched s h

/-- the same over the small deque `SeqSpec.dstep` (what util/list/LinkedList.go is used as; for its pointer-level
    CodeModel see `linked_list_linearizable_wrt_deque` below) -/
theorem deque_linearizable (sched : List (Act DOp)) (s : St (List Nat) DOp Fact)
    (h : runActs dstep (initSt []) sched = some s) :
    wn s.log ∧ legal dstep (linOps s.log) [] ∧ s.sh = runOps dstep (linOps s.log) [] :=
  Conc.mutex_herlihy_wing dstep [] sched s h

/-- the request queue's non-blocking operations (enqueue, forced enqueue, dequeue-no-wait, size,
    clear, capacity) for every initial capacity; the blocking `Get` is treated in C11 -/
theorem queue_linearizable (cap : Int) (sched : List (Act Queue.Op)) (s : St Queue.Q Queue.Op Queue.Ret)
    (h : runActs qstep (initSt ⟨[], cap⟩) sched = some s) :
    wn s.log ∧ legal qstep (linOps s.log) ⟨[], cap⟩ ∧ s.sh = runOps qstep (linOps s.log) ⟨[], cap⟩ :=
  Conc.mutex_herlihy_wing qstep ⟨[], cap⟩ sched s h

theorem double_queue_linearizable (c1 c2 : Int) (sched : List (Act Queue.DOp))
    (s : St Queue.DQ Queue.DOp Queue.Ret)
    (h : runActs dqstep (initSt ⟨⟨[], c1⟩, ⟨[], c2⟩⟩) sched = some s) :
    wn s.log ∧ legal dqstep (linOps s.log) ⟨⟨[], c1⟩, ⟨[], c2⟩⟩ ∧
      s.sh = runOps dqstep (linOps s.log) ⟨⟨[], c1⟩, ⟨[], c2⟩⟩ :=
  Conc.mutex_herlihy_wing dqstep ⟨⟨[], c1⟩, ⟨[], c2⟩⟩ sched s h

/-! ### the concrete CodeModels: linearizable with respect to their *Specs*

  The instances above use small abstract objects.  The following three use the CodeModels that C09,
  C12 and C13 tie to the Go code (bucket arrays with hash chains and an order list; the doubly linked
  pointer heap) with their full operation sets, and conclude linearizability with respect to the
  *Spec* (insertion-ordered dictionary, functional map, deque) through the refinement theorems of
  those properties — for every hash function, growth policy, type descriptor, initial capacity,
  number of threads and schedule. -/

section concrete
open HMap

variable {K V : Type} [DecidableEq K] [DecidableEq V]

/-- **linked hash maps / sets (13 types, C09 CodeModel, all operations incl. put modes, eviction, GetLRU,
    sort, enumerations): every concurrent history is linearizable w.r.t. the insertion-ordered
    dictionary Spec**, and the shared structure always satisfies the structure invariant and
    abstracts to the Spec state reached by the linearization. -/
theorem linked_maps_linearizable_wrt_dictionary (hash : K → Nat) (thr : Nat → Nat) (d : Desc K V) (cap : Nat)
    (sched : List (Act (HMap.Op K V))) (s : St (LMap K V) (HMap.Op K V) (Out K V))
    (h : runActs (LMap.step hash thr d) (initSt (LMap.new thr cap)) sched = some s) :
    wn s.log ∧ legal (S.step d) (linOps s.log) {} ∧
      LMap.Inv hash d s.sh ∧ LMap.abs hash s.sh = runOps (S.step d) (linOps s.log) {} := by
  obtain ⟨h1, h2, h3⟩ := Conc.mutex_refines _ _ (LMap.Rel hash d) (· = ·) (fun _ _ op h => h.step thr op) _ {}
    (LMap.rel_iff.2 ⟨LMap.Inv.new cap, LMap.abs_new cap⟩) sched s h
  exact ⟨h1, (Conc.legalAbs_eq _ _ _).1 h2, h3.inv, by rw [h3.abs_eq, Conc.runAbs_eq]⟩

/-- plain hash maps / sets (C12 CodeModel): linearizable w.r.t. the functional-map Spec, outputs equal
    up to the order of enumerations -/
theorem plain_maps_linearizable_wrt_map (hash : K → Nat) (thr : Nat → Nat) (d : PDesc K V) (cap : Nat)
    (sched : List (Act (POp K V))) (s : St (PMap K V) (POp K V) (Out K V))
    (h : runActs (PMap.step hash thr d) (initSt (PMap.new thr cap)) sched = some s) :
    wn s.log ∧ legalAbs (PS.step d) Out.equiv (linOps s.log) {} ∧
      PMap.Rel hash d s.sh (runAbs (PS.step d) (linOps s.log) {}) :=
  Conc.mutex_refines _ _ _ _ (Inst.plain_simulates hash thr d) _ _ (PMap.Rel.new cap) sched s h

end concrete

/-- the linked list (C13 CodeModel: nodes in a heap with prev/next pointers, all operations incl.
    entity removal and PutBefore): linearizable w.r.t. the deque Spec -/
theorem linked_list_linearizable_wrt_deque (sched : List (Act Lists.Linked.Op))
    (s : St Lists.Linked.LL Lists.Linked.Op Lists.Linked.Out)
    (h : runActs Inst.llStep (initSt Lists.Linked.LL.empty) sched = some s) :
    wn s.log ∧ legal Inst.llSpec (linOps s.log) [] ∧
      Inst.ListRel s.sh (runOps Inst.llSpec (linOps s.log) []) := by
  obtain ⟨h1, h2, h3⟩ := Conc.mutex_refines _ _ _ _ Inst.list_simulates _ _ Inst.list_init sched s h
  exact ⟨h1, (Conc.legalAbs_eq _ _ _).1 h2, by rw [← Conc.runAbs_eq]; exact h3⟩

/-- the generic transfer used above, for any refinement proved elsewhere -/
theorem linearizability_transfers_along_refinement {σc σa Op' RetC RetA : Type}
    (stepC : σc → Op' → σc × RetC) (stepA : σa → Op' → σa × RetA)
    (R : σc → σa → Prop) (Q : RetC → RetA → Prop) (hsim : Simulates stepC stepA R Q)
    (c0 : σc) (a0 : σa) (h0 : R c0 a0) (sched : List (Act Op')) (s : St σc Op' RetC)
    (hs : runActs stepC (initSt c0) sched = some s) :
    wn s.log ∧ legalAbs stepA Q (linOps s.log) a0 ∧ R s.sh (runAbs stepA (linOps s.log) a0) :=
  Conc.mutex_refines stepC stepA R Q hsim c0 a0 h0 sched s hs

def exDesc : HMap.Desc Nat Nat := { comb := (· + ·), veq := (· == ·) }

/-- a put and a GetLRU overlap on the bucket-array model; the GetLRU is linearized first and misses -/
example :
    (runActs (HMap.LMap.step (fun k => k) (fun n => n * 3 / 4) exDesc) (initSt (HMap.LMap.new (fun n => n * 3 / 4) 3))
      [.inv 1 (.put .last 7 1), .inv 2 (.getLRU 7), .acq 2, .load 2, .store 2, .rel 2,
       .acq 1, .load 1, .store 1, .rel 1, .ret 1, .ret 2]).map
        (fun s => (linOps s.log).map (fun x => (x.1, x.2.2))) =
    some [(2, .none), (1, .none)] := by rfl

/-- an AddLast and a RemoveFirst overlap on the pointer-heap model of the linked list -/
example :
    (runActs Inst.llStep (initSt Lists.Linked.LL.empty)
      [.inv 1 (.addLast 5), .inv 2 .removeFirst, .acq 1, .load 1, .store 1, .rel 1,
       .acq 2, .load 2, .store 2, .rel 2, .ret 2, .ret 1]).map
        (fun s => (linOps s.log).map (fun x => (x.1, x.2.2))) =
    some [(1, .unit), (2, .val 5)] := by rfl

example :
    (runActs mstep (initSt []) [.inv 1 (.put 1 2), .inv 2 (.get 1), .acq 2, .load 2, .store 2, .rel 2,
      .acq 1, .load 1, .store 1, .rel 1, .ret 1, .ret 2]).map (fun s => (s.sh, linOps s.log)) =
    some ([(1, 2)], [(2, .get 1, .val 0), (1, .put 1 2, .val 0)]) := by rfl

end C10
