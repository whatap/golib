/-
  C12, tie A — obligations over the per-type facts regenerated from /repo/util/hmap/<Type>.go
  (lean/Golib/Gen/C12.lean, written by xlate/c09 on every run): key / value kind, the `add` operator
  (`+=` vs `=`), the growth rule 2n+1, the end evicted per put mode, the capacity-0 constructor guard,
  the bounds of the `ContainsValue` scan, the empty-key guards, the result of `Add` on a fresh key.

  Each theorem says: the descriptor extracted from the source is the descriptor the CodeModel (and the
  driver session of that type) is configured with — or, for a type with a recorded deviation (known
  finding D15 / D17), that descriptor with the deviation repaired.  Finite data; where a table is
  keyed by the type's name the comparison is left to the kernel (`decide +kernel`): the elaborator's evaluator is
  slow on string literals.
-/
import Golib.HMap.Types
import Golib.Gen.C12
import Golib.Gen.C12IR
import Golib.HMap.IR
import Golib.HMap.PlainStep

set_option linter.unusedSectionVars false

namespace C12Gen
open HMap

theorem IntIntMap_desc : ∃ m, findType plainTypes "IntIntMap" = some m ∧ (Gen.C12.IntIntMap = m ∨ Gen.C12.IntIntMap = m.repaired) := by
  decide +kernel

theorem IntKeyMap_desc : ∃ m, findType plainTypes "IntKeyMap" = some m ∧ (Gen.C12.IntKeyMap = m ∨ Gen.C12.IntKeyMap = m.repaired) := by
  decide +kernel

theorem IntSet_desc : ∃ m, findType plainTypes "IntSet" = some m ∧ (Gen.C12.IntSet = m ∨ Gen.C12.IntSet = m.repaired) := by
  decide +kernel

theorem StringSet_desc : ∃ m, findType plainTypes "StringSet" = some m ∧ (Gen.C12.StringSet = m ∨ Gen.C12.StringSet = m.repaired) := by
  decide +kernel

/-- the whole table, in order (a type with a recorded deviation may also appear in its repaired form) -/
theorem types_match :
    (Gen.C12.types.map (·.name) = plainTypes.map (·.name)) ∧
    (Gen.C12.types.zip plainTypes).all (fun p => decide (p.1 = p.2) || decide (p.1 = p.2.repaired)) = true := by decide +kernel


/-! ### interpreted tie A: the transcribed statements of put / add / addIfExist / unipoint / remove / rehash, run with the
    semantics of `Golib.HMap.IR`, are the CodeModel's steps — for every state, key, value, mode, hash function and
    threshold function.  (`Gen.C12IR.*` is regenerated from the Go source on every run.) -/

section interpreted
open HMap.IR
variable {K V : Type} [DecidableEq K] [DecidableEq V]

/-- IntIntMap.put -/
theorem IntIntMap_put_interp (d : Desc K V) (hash : K → Nat) (thr : Nat → Nat) (pm : PMap K V) (k : K) (v : V) :
    runP d hash thr Gen.C12IR.IntIntMap_put pm k v = expectPutP d hash thr (putShape "IntIntMap") pm k v :=
  put_plain_interp d hash thr (by decide +kernel) pm k v

/-- IntIntMap.add (fresh key: `return value`, the D17 deviation, is part of the shape) -/
theorem IntIntMap_add_interp (d : Desc K V) (hash : K → Nat) (thr : Nat → Nat) (pm : PMap K V) (k : K) (v : V) :
    runP d hash thr Gen.C12IR.IntIntMap_add pm k v = expectPutP d hash thr (addShape "IntIntMap") pm k v :=
  put_plain_interp d hash thr (by decide +kernel) pm k v

/-- IntIntMap.addIfExist -/
theorem IntIntMap_addIfExist_interp (pd : PDesc K V) (hash : K → Nat) (thr : Nat → Nat) (pm : PMap K V) (k : K) (v : V) :
    runP pd.toDesc hash thr Gen.C12IR.IntIntMap_addIfExist pm k v =
      ((pm.addIfExist hash pd k v).1, some (if (pm.tab.get hash k).isSome then Ret.cur else Ret.zero)) :=
  canonAddIfExist_correct hash thr .cur .zero pd pm k v

/-- IntKeyMap.Put -/
theorem IntKeyMap_put_interp (d : Desc K V) (hash : K → Nat) (thr : Nat → Nat) (pm : PMap K V) (k : K) (v : V) :
    runP d hash thr Gen.C12IR.IntKeyMap_put pm k v = expectPutP d hash thr (putShape "IntKeyMap") pm k v :=
  put_plain_interp d hash thr (by decide +kernel) pm k v

/-- IntSet.put -/
theorem IntSet_put_interp {K : Type} [DecidableEq K] (d : Desc K Unit) (hash : K → Nat) (thr : Nat → Nat) (pm : PMap K Unit) (k : K) :
    runP d hash thr Gen.C12IR.IntSet_put pm k () = expectPutP d hash thr (putShape "IntSet") pm k () :=
  put_plainSet_interp d hash thr (by decide +kernel) pm k

/-- StringSet.unipoint (Put and Unipoint call it), with its empty-key guard -/
theorem StringSet_put_interp {K : Type} [DecidableEq K] (d : Desc K Unit) (hash : K → Nat) (thr : Nat → Nat) (pm : PMap K Unit) (k : K) :
    runP d hash thr Gen.C12IR.StringSet_put pm k () = expectPutP d hash thr (putShape "StringSet") pm k () :=
  put_plainSet_interp d hash thr (by decide +kernel) pm k

/-- IntIntMap.remove -/
theorem IntIntMap_remove_interp (d : Desc K V) (hash : K → Nat) (thr : Nat → Nat) (pm : PMap K V) (k : K) (v : V) :
    runP d hash thr Gen.C12IR.IntIntMap_remove pm k v = expectRemoveP d hash (removeShape "IntIntMap") pm k :=
  remove_plain_interp d hash thr (by decide +kernel) pm k v

/-- IntIntMap.rehash (the plain maps' `grow` installs exactly this table and threshold) -/
theorem IntIntMap_rehash_interp (hash : K → Nat) (thr : Nat → Nat) (pm : PMap K V) :
    toP (interpRehash hash thr Gen.C12IR.IntIntMap_rehash (ofP pm)) =
      { pm with tab := pm.tab.rehash hash, threshold := thr (pm.tab.rehash hash).cap } :=
  rehash_plain_correct hash thr pm

/-- IntKeyMap.remove -/
theorem IntKeyMap_remove_interp (d : Desc K V) (hash : K → Nat) (thr : Nat → Nat) (pm : PMap K V) (k : K) (v : V) :
    runP d hash thr Gen.C12IR.IntKeyMap_remove pm k v = expectRemoveP d hash (removeShape "IntKeyMap") pm k :=
  remove_plain_interp d hash thr (by decide +kernel) pm k v

/-- IntKeyMap.rehash (the plain maps' `grow` installs exactly this table and threshold) -/
theorem IntKeyMap_rehash_interp (hash : K → Nat) (thr : Nat → Nat) (pm : PMap K V) :
    toP (interpRehash hash thr Gen.C12IR.IntKeyMap_rehash (ofP pm)) =
      { pm with tab := pm.tab.rehash hash, threshold := thr (pm.tab.rehash hash).cap } :=
  rehash_plain_correct hash thr pm

/-- IntSet.remove -/
theorem IntSet_remove_interp (d : Desc K V) (hash : K → Nat) (thr : Nat → Nat) (pm : PMap K V) (k : K) (v : V) :
    runP d hash thr Gen.C12IR.IntSet_remove pm k v = expectRemoveP d hash (removeShape "IntSet") pm k :=
  remove_plain_interp d hash thr (by decide +kernel) pm k v

/-- IntSet.rehash (the plain maps' `grow` installs exactly this table and threshold) -/
theorem IntSet_rehash_interp (hash : K → Nat) (thr : Nat → Nat) (pm : PMap K V) :
    toP (interpRehash hash thr Gen.C12IR.IntSet_rehash (ofP pm)) =
      { pm with tab := pm.tab.rehash hash, threshold := thr (pm.tab.rehash hash).cap } :=
  rehash_plain_correct hash thr pm

/-- StringSet.remove -/
theorem StringSet_remove_interp (d : Desc K V) (hash : K → Nat) (thr : Nat → Nat) (pm : PMap K V) (k : K) (v : V) :
    runP d hash thr Gen.C12IR.StringSet_remove pm k v = expectRemoveP d hash (removeShape "StringSet") pm k :=
  remove_plain_interp d hash thr (by decide +kernel) pm k v

/-- StringSet.rehash (the plain maps' `grow` installs exactly this table and threshold) -/
theorem StringSet_rehash_interp (hash : K → Nat) (thr : Nat → Nat) (pm : PMap K V) :
    toP (interpRehash hash thr Gen.C12IR.StringSet_rehash (ofP pm)) =
      { pm with tab := pm.tab.rehash hash, threshold := thr (pm.tab.rehash hash).cap } :=
  rehash_plain_correct hash thr pm

/-- the transcribed `IntIntMap.add` on a fresh and on a present key (D17 visible in the returned token) -/
example :
    let d : Desc Int Int := { comb := fun a b => a + b, veq := fun a b => a == b }
    let p0 : PMap Int Int := PMap.new (fun c => c) 3
    let r1 := runP d (fun k => k.toNat) (fun c => c) Gen.C12IR.IntIntMap_add p0 5 7
    let r2 := runP d (fun k => k.toNat) (fun c => c) Gen.C12IR.IntIntMap_add r1.1 5 1
    r1.2 = some Ret.value ∧ r2.2 = some Ret.old ∧ r2.1.tab.get (fun k => k.toNat) 5 = some 8 := by
  decide

end interpreted


/-! ### interpreted tie A, second part: Get / ContainsKey / Contains / clear / ContainsValue / Sort / ToBytes / ToObject -/

section interpreted2
open HMap.IR
variable {K V : Type} [DecidableEq K] [DecidableEq V]

/-- IntIntMap.Get -/
theorem IntIntMap_get_interp (d : Desc K V) (hash : K → Nat) (thr : Nat → Nat) (pm : PMap K V) (k : K) (v : V) :
    runP d hash thr Gen.C12IR.IntIntMap_get pm k v = (pm, some (if (pm.tab.get hash k).isSome then Ret.cur else Ret.absent)) :=
  canonLookup_plain_correct d hash thr none .cur .absent pm k v

/-- IntIntMap.ContainsValue -/
theorem IntIntMap_cv_interp (pd : PDesc K V) (hash : K → Nat) (thr : Nat → Nat) (pm : PMap K V) (v : V) :
    interpCV pd.toDesc Gen.C12IR.IntIntMap_cv (ofP pm) v = (PMap.step hash thr pd pm (.containsValue v)).2.isTrue :=
  (interpCV_plain_correct hash thr pd pm v).1

/-- IntKeyMap.Get -/
theorem IntKeyMap_get_interp (d : Desc K V) (hash : K → Nat) (thr : Nat → Nat) (pm : PMap K V) (k : K) (v : V) :
    runP d hash thr Gen.C12IR.IntKeyMap_get pm k v = (pm, some (if (pm.tab.get hash k).isSome then Ret.cur else Ret.absent)) :=
  canonLookup_plain_correct d hash thr none .cur .absent pm k v

/-- IntKeyMap.ContainsValue -/
theorem IntKeyMap_cv_interp (pd : PDesc K V) (hash : K → Nat) (thr : Nat → Nat) (pm : PMap K V) (v : V) :
    interpCV pd.toDesc Gen.C12IR.IntKeyMap_cv (ofP pm) v = (PMap.step hash thr pd pm (.containsValue v)).2.isTrue :=
  (interpCV_plain_correct hash thr pd pm v).1

/-- IntIntMap.ContainsKey (behind the empty-key guard where the source has one; the guard tests the *blind* predicate) -/
theorem IntIntMap_contains_interp (d : Desc K V) (hash : K → Nat) (thr : Nat → Nat) (pm : PMap K V) (k : K) (v : V) :
    (guardHead Gen.C12IR.IntIntMap_contains = none ∨ guardHead Gen.C12IR.IntIntMap_contains = some Ret.boolF) ∧
    runP { d with refuse := d.blind } hash thr Gen.C12IR.IntIntMap_contains pm k v =
      (pm, some (match guardHead Gen.C12IR.IntIntMap_contains with
                 | some r => if d.blind k then r else if (pm.tab.get hash k).isSome then Ret.boolT else Ret.boolF
                 | none => if (pm.tab.get hash k).isSome then Ret.boolT else Ret.boolF)) :=
  ⟨by decide, canonLookup_plain_correct { d with refuse := d.blind } hash thr (guardHead Gen.C12IR.IntIntMap_contains) .boolT .boolF pm k v⟩

/-- IntIntMap.clear (IntIntMap returns at once when empty) -/
theorem IntIntMap_clear_interp (d : Desc K V) (hash : K → Nat) (thr : Nat → Nat) (pm : PMap K V) (k : K) (v : V) :
    ∃ early, toP (run d hash thr .last k v Gen.C12IR.IntIntMap_clear (ofP pm)).1 = (if early = true ∧ pm.count = 0 then pm else pm.clear) :=
  clearP_interp d hash thr (by decide) pm k v

/-- IntKeyMap.ContainsKey (behind the empty-key guard where the source has one; the guard tests the *blind* predicate) -/
theorem IntKeyMap_contains_interp (d : Desc K V) (hash : K → Nat) (thr : Nat → Nat) (pm : PMap K V) (k : K) (v : V) :
    (guardHead Gen.C12IR.IntKeyMap_contains = none ∨ guardHead Gen.C12IR.IntKeyMap_contains = some Ret.boolF) ∧
    runP { d with refuse := d.blind } hash thr Gen.C12IR.IntKeyMap_contains pm k v =
      (pm, some (match guardHead Gen.C12IR.IntKeyMap_contains with
                 | some r => if d.blind k then r else if (pm.tab.get hash k).isSome then Ret.boolT else Ret.boolF
                 | none => if (pm.tab.get hash k).isSome then Ret.boolT else Ret.boolF)) :=
  ⟨by decide, canonLookup_plain_correct { d with refuse := d.blind } hash thr (guardHead Gen.C12IR.IntKeyMap_contains) .boolT .boolF pm k v⟩

/-- IntKeyMap.clear (IntIntMap returns at once when empty) -/
theorem IntKeyMap_clear_interp (d : Desc K V) (hash : K → Nat) (thr : Nat → Nat) (pm : PMap K V) (k : K) (v : V) :
    ∃ early, toP (run d hash thr .last k v Gen.C12IR.IntKeyMap_clear (ofP pm)).1 = (if early = true ∧ pm.count = 0 then pm else pm.clear) :=
  clearP_interp d hash thr (by decide) pm k v

/-- IntSet.Contains (behind the empty-key guard where the source has one; the guard tests the *blind* predicate) -/
theorem IntSet_contains_interp (d : Desc K V) (hash : K → Nat) (thr : Nat → Nat) (pm : PMap K V) (k : K) (v : V) :
    (guardHead Gen.C12IR.IntSet_contains = none ∨ guardHead Gen.C12IR.IntSet_contains = some Ret.boolF) ∧
    runP { d with refuse := d.blind } hash thr Gen.C12IR.IntSet_contains pm k v =
      (pm, some (match guardHead Gen.C12IR.IntSet_contains with
                 | some r => if d.blind k then r else if (pm.tab.get hash k).isSome then Ret.boolT else Ret.boolF
                 | none => if (pm.tab.get hash k).isSome then Ret.boolT else Ret.boolF)) :=
  ⟨by decide, canonLookup_plain_correct { d with refuse := d.blind } hash thr (guardHead Gen.C12IR.IntSet_contains) .boolT .boolF pm k v⟩

/-- IntSet.clear (IntIntMap returns at once when empty) -/
theorem IntSet_clear_interp (d : Desc K V) (hash : K → Nat) (thr : Nat → Nat) (pm : PMap K V) (k : K) (v : V) :
    ∃ early, toP (run d hash thr .last k v Gen.C12IR.IntSet_clear (ofP pm)).1 = (if early = true ∧ pm.count = 0 then pm else pm.clear) :=
  clearP_interp d hash thr (by decide) pm k v

/-- StringSet.Contains (behind the empty-key guard where the source has one; the guard tests the *blind* predicate) -/
theorem StringSet_contains_interp (d : Desc K V) (hash : K → Nat) (thr : Nat → Nat) (pm : PMap K V) (k : K) (v : V) :
    (guardHead Gen.C12IR.StringSet_contains = none ∨ guardHead Gen.C12IR.StringSet_contains = some Ret.boolF) ∧
    runP { d with refuse := d.blind } hash thr Gen.C12IR.StringSet_contains pm k v =
      (pm, some (match guardHead Gen.C12IR.StringSet_contains with
                 | some r => if d.blind k then r else if (pm.tab.get hash k).isSome then Ret.boolT else Ret.boolF
                 | none => if (pm.tab.get hash k).isSome then Ret.boolT else Ret.boolF)) :=
  ⟨by decide, canonLookup_plain_correct { d with refuse := d.blind } hash thr (guardHead Gen.C12IR.StringSet_contains) .boolT .boolF pm k v⟩

/-- StringSet.clear (IntIntMap returns at once when empty) -/
theorem StringSet_clear_interp (d : Desc K V) (hash : K → Nat) (thr : Nat → Nat) (pm : PMap K V) (k : K) (v : V) :
    ∃ early, toP (run d hash thr .last k v Gen.C12IR.StringSet_clear (ofP pm)).1 = (if early = true ∧ pm.count = 0 then pm else pm.clear) :=
  clearP_interp d hash thr (by decide) pm k v

/-- the two accepted forms of `clear` (with / without the early return on an empty map: the `∃ early` of the
    `_clear_interp` theorems) are the same operation: whichever the source has, the result simulates the map model's
    `clear` (an empty map that is left alone already has only empty buckets) -/
theorem clear_either_form (pd : PDesc K V) (hash : K → Nat) (thr : Nat → Nat) (pm : PMap K V) (s : PS K V)
    (h : PMap.Rel hash pd pm s) (early : Bool) :
    PMap.Rel hash pd (if early = true ∧ pm.count = 0 then pm else pm.clear) (PS.step pd s .clear).1 := by
  by_cases hc : early = true ∧ pm.count = 0
  · rw [if_pos hc]
    have he : s.ents = [] := List.eq_nil_of_length_eq_zero (by rw [← h.count]; exact hc.2)
    have hs : (PS.step pd s .clear).1 = s := by
      obtain ⟨ents, mx⟩ := s
      simp only at he; subst he; rfl
    rw [hs]; exact h
  · rw [if_neg hc]
    exact (PMap.plain_refine_step thr h .clear).1

/-- IntIntMap.Sort -/
theorem IntIntMap_sort_interp (pd : PDesc K V) (hash : K → Nat) (thr : Nat → Nat) (pm : PMap K V) (lt : K → K → Bool) :
    interpSortP hash thr pd Gen.C12IR.IntIntMap_sort pm lt = pm.sort hash thr pd lt :=
  rfl

/-- IntIntMap.ToBytes / ToObject: the stream calls are the wire model's codec -/
theorem IntIntMap_wire_interp (pm : PMap Int Int) :
    interpToBytes Gen.C12IR.IntIntMap_toBytes pm.tab.entries = PMap.toBytes pm ∧
    interpReader Gen.C12IR.IntIntMap_toObject = pairsFromBytes ∧ Gen.C12IR.IntIntMap_toObject.puts = true := by
  refine ⟨?_, ?_, by decide⟩
  · rw [show Gen.C12IR.IntIntMap_toBytes = canonWire false from by decide, interpToBytes_correct]; rfl
  · rw [show Gen.C12IR.IntIntMap_toObject = canonWire false from by decide, interpReader_correct]; rfl


/-- IntIntMap.SetMax: every statement of the method is `this.max = max; return this` — the model's `setMax` (the bound is
    only read by IsFull) -/
theorem IntIntMap_setMax_interp (dp : PDesc K V) (hash : K → Nat) (thr : Nat → Nat) (pm : PMap K V) (n : Nat) :
    (runC n Gen.C12IR.IntIntMap_setMax (ofP pm)).map toP = some (PMap.step hash thr dp pm (.setMax n)).1 :=
  rfl

/-- IntIntMap.Size / IsEmpty / IsFull -/
theorem IntIntMap_size_interp (dp : PDesc K V) (hash : K → Nat) (thr : Nat → Nat) (pm : PMap K V) :
    runA hash Gen.C12IR.IntIntMap_size (ofP pm) = some (PMap.step hash thr dp pm .size).2 ∧
    runA hash Gen.C12IR.IntIntMap_isEmpty (ofP pm) = some (PMap.step hash thr dp pm .isEmpty).2 ∧
    runA hash Gen.C12IR.IntIntMap_isFull (ofP pm) = some (PMap.step hash thr dp pm .isFull).2 :=
  canonSizeP_correct hash thr dp pm

/-- IntKeyMap.Size -/
theorem IntKeyMap_size_interp (dp : PDesc K V) (hash : K → Nat) (thr : Nat → Nat) (pm : PMap K V) :
    runA hash Gen.C12IR.IntKeyMap_size (ofP pm) = some (PMap.step hash thr dp pm .size).2 :=
  (canonSizeP_correct hash thr dp pm).1

/-- IntSet.Size -/
theorem IntSet_size_interp (dp : PDesc K V) (hash : K → Nat) (thr : Nat → Nat) (pm : PMap K V) :
    runA hash Gen.C12IR.IntSet_size (ofP pm) = some (PMap.step hash thr dp pm .size).2 :=
  (canonSizeP_correct hash thr dp pm).1

/-- StringSet.Size -/
theorem StringSet_size_interp (dp : PDesc K V) (hash : K → Nat) (thr : Nat → Nat) (pm : PMap K V) :
    runA hash Gen.C12IR.StringSet_size (ofP pm) = some (PMap.step hash thr dp pm .size).2 :=
  (canonSizeP_correct hash thr dp pm).1


/-! ### enumerator objects: every HasMoreElements / Next* method, statement by statement (the skip loop is a `for`) -/

/-- the enumerator object of IntIntMap: `HasMoreElements` is `PEnum.hasMore`, each `Next*` is `PEnum.next` — both run the skip loop
    `for this.entry == nil && this.index > 0 { this.index--; this.entry = this.table[this.index] }` first -/
theorem IntIntMap_enum_interp (t : Table K V) (e : PEnum K V) :
    Gen.C12IR.IntIntMap_enumHasMore ≠ [] ∧ Gen.C12IR.IntIntMap_enumNext ≠ [] ∧
    (∀ l ∈ Gen.C12IR.IntIntMap_enumHasMore, runEP t l e = some (PEnum.advance t e, .hasMore (PEnum.hasMore t e))) ∧
    (∀ l ∈ Gen.C12IR.IntIntMap_enumNext, runEP t l e =
      match PEnum.next t e with
      | some (c, e') => some (e', .elem c)
      | none => some (PEnum.advance t e, .exhausted)) := by
  refine ⟨by decide, by decide, fun l hl => ?_, fun l hl => ?_⟩
  · rw [(by decide : ∀ l ∈ Gen.C12IR.IntIntMap_enumHasMore, l = canonHasMoreP) l hl]; exact canonHasMoreP_correct t e
  · rw [(by decide : ∀ l ∈ Gen.C12IR.IntIntMap_enumNext, l = canonNextP) l hl]; exact canonNextP_correct t e

/-- the enumerator object of IntKeyMap: `HasMoreElements` is `PEnum.hasMore`, each `Next*` is `PEnum.next` — both run the skip loop
    `for this.entry == nil && this.index > 0 { this.index--; this.entry = this.table[this.index] }` first -/
theorem IntKeyMap_enum_interp (t : Table K V) (e : PEnum K V) :
    Gen.C12IR.IntKeyMap_enumHasMore ≠ [] ∧ Gen.C12IR.IntKeyMap_enumNext ≠ [] ∧
    (∀ l ∈ Gen.C12IR.IntKeyMap_enumHasMore, runEP t l e = some (PEnum.advance t e, .hasMore (PEnum.hasMore t e))) ∧
    (∀ l ∈ Gen.C12IR.IntKeyMap_enumNext, runEP t l e =
      match PEnum.next t e with
      | some (c, e') => some (e', .elem c)
      | none => some (PEnum.advance t e, .exhausted)) := by
  refine ⟨by decide, by decide, fun l hl => ?_, fun l hl => ?_⟩
  · rw [(by decide : ∀ l ∈ Gen.C12IR.IntKeyMap_enumHasMore, l = canonHasMoreP) l hl]; exact canonHasMoreP_correct t e
  · rw [(by decide : ∀ l ∈ Gen.C12IR.IntKeyMap_enumNext, l = canonNextP) l hl]; exact canonNextP_correct t e

/-- the enumerator object of IntSet: `HasMoreElements` is `PEnum.hasMore`, each `Next*` is `PEnum.next` — both run the skip loop
    `for this.entry == nil && this.index > 0 { this.index--; this.entry = this.table[this.index] }` first -/
theorem IntSet_enum_interp (t : Table K V) (e : PEnum K V) :
    Gen.C12IR.IntSet_enumHasMore ≠ [] ∧ Gen.C12IR.IntSet_enumNext ≠ [] ∧
    (∀ l ∈ Gen.C12IR.IntSet_enumHasMore, runEP t l e = some (PEnum.advance t e, .hasMore (PEnum.hasMore t e))) ∧
    (∀ l ∈ Gen.C12IR.IntSet_enumNext, runEP t l e =
      match PEnum.next t e with
      | some (c, e') => some (e', .elem c)
      | none => some (PEnum.advance t e, .exhausted)) := by
  refine ⟨by decide, by decide, fun l hl => ?_, fun l hl => ?_⟩
  · rw [(by decide : ∀ l ∈ Gen.C12IR.IntSet_enumHasMore, l = canonHasMoreP) l hl]; exact canonHasMoreP_correct t e
  · rw [(by decide : ∀ l ∈ Gen.C12IR.IntSet_enumNext, l = canonNextP) l hl]; exact canonNextP_correct t e

/-- the enumerator object of StringSet: `HasMoreElements` is `PEnum.hasMore`, each `Next*` is `PEnum.next` — both run the skip loop
    `for this.entry == nil && this.index > 0 { this.index--; this.entry = this.table[this.index] }` first -/
theorem StringSet_enum_interp (t : Table K V) (e : PEnum K V) :
    Gen.C12IR.StringSet_enumHasMore ≠ [] ∧ Gen.C12IR.StringSet_enumNext ≠ [] ∧
    (∀ l ∈ Gen.C12IR.StringSet_enumHasMore, runEP t l e = some (PEnum.advance t e, .hasMore (PEnum.hasMore t e))) ∧
    (∀ l ∈ Gen.C12IR.StringSet_enumNext, runEP t l e =
      match PEnum.next t e with
      | some (c, e') => some (e', .elem c)
      | none => some (PEnum.advance t e, .exhausted)) := by
  refine ⟨by decide, by decide, fun l hl => ?_, fun l hl => ?_⟩
  · rw [(by decide : ∀ l ∈ Gen.C12IR.StringSet_enumHasMore, l = canonHasMoreP) l hl]; exact canonHasMoreP_correct t e
  · rw [(by decide : ∀ l ∈ Gen.C12IR.StringSet_enumNext, l = canonNextP) l hl]; exact canonNextP_correct t e

end interpreted2

end C12Gen
