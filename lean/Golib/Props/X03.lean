/-
  X03 — the UDP client's datagram batching (net/udp/UcpClient.go, net/UdpClient.go); extension check, no
  property is anchored here.  Model: Golib.Ext.UdpClient; proofs: Golib.Ext.UdpClientLemmas.

  Evident laws (stated at full strength, then what the code that exists satisfies):
   L1  every pack accepted by Send/SendRelay is emitted in exactly one datagram, in acceptance order, never
       split, never duplicated.
       FAILS in four ways (witnesses below): Shutdown leaves the buffer behind; a full channel drops after 5 s;
       a frame above the UDP maximum is refused by the socket; a re-opened client sends on a closed channel.
       `emitted_is_accepted_partial` proves L1 for every history in which none of these happened
       (no shutdown/reopen, `lost = []`) — together with L2 and L3.
   L2  every datagram is a concatenation of whole frames which the receiver-side header parser decodes back
       (`frame_roundtrip`, `datagram_roundtrip`), so parse (emitted) = accepted.
   L3  a datagram exceeds the limit only if it is one single frame (`emitted_is_accepted_partial`, last part).
   L4  counters: packCount = number of sendByBuffer calls on every history (`packCount_eq`); on histories without
       shutdown / reopen chanCount = datagrams handed to the channel, sendCount = datagrams written + refused
       (`chanCount_eq`, `sendCount_eq`; a re-opened client counts a send that panics on the closed channel).
-/
import Golib.Ext.UdpClientLemmas

namespace X03
open Ext.Udp

/-- L2, one frame: type(1) ver(4) len(4) body, read back by the header parser, whatever follows -/
theorem frame_roundtrip (f : Frame) (h : f.wf) (r : Bytes) :
    P.run decFrame (encFrame f ++ r) = some (f, r) := run_decFrame f h r

/-- L2, one datagram: a concatenation of frames parses into exactly these frames -/
theorem datagram_roundtrip (fs : List Frame) (h : ∀ f ∈ fs, f.wf) :
    parseDatagram (encFrames fs) = some fs := by
  unfold parseDatagram
  apply parseFuel_encFrames fs h
  rw [encFrames_length]; exact length_le_size fs

/-- the byte-level machine refines the frame-level spec "FIFO of frames cut into datagrams of at most
    `limit` bytes" for every history of sends (flushed or not), nil sends, timer flushes and process steps:
    what was handed to the channel is the spec's datagrams, the buffer is the spec's open datagram -/
theorem refines_cut (cfg : Cfg) (ops : List Op) (hp : ∀ op ∈ ops, op.plain = true) :
    (run cfg ops).offered.reverse = ((spec cfg.limit ops).done.reverse).map encFrames ∧
    (run cfg ops).buf = encFrames (spec cfg.limit ops).cur := by
  refine ⟨?_, (run_live cfg ops hp).rel.buf⟩
  rw [(run_live cfg ops hp).rel.offered, List.map_reverse]

/-- the spec itself: cutting never reorders, loses or duplicates a frame, never makes an empty datagram,
    and exceeds the limit only with a single frame -/
theorem cut_laws (l : Nat) (ops : List Op) :
    (spec l ops).done.reverse.flatten ++ (spec l ops).cur = accepted ops ∧
    (∀ g ∈ (spec l ops).done, g ≠ []) ∧
    (∀ g ∈ (spec l ops).done, size g ≤ l ∨ g.length = 1) :=
  ⟨spec_flatten l ops, fun g hg => ((spec_good l ops).1 g hg).1, fun g hg => ((spec_good l ops).1 g hg).2⟩

/-- nothing dropped ⇒ wire followed by channel is exactly what was handed over, in order — for EVERY history
    (shutdown, reopen and closed-channel panics included) -/
theorem conservation (cfg : Cfg) (ops : List Op) (h : (run cfg ops).lost = []) :
    (run cfg ops).wire.reverse ++ (run cfg ops).chan = (run cfg ops).offered.reverse :=
  ((keeps_foldl cfg ops {}).inv (fun _ => rfl) h).symm

/-- L1 + L2 + L3 under the narrowest hypotheses: no shutdown / reopen in the history and nothing dropped.
    The datagrams (written, then waiting) are `groups.map encFrames` for a partition `groups ++ [pending]` of
    the accepted frames in acceptance order; each parses back to its group; the buffer holds `pending`;
    no group is empty; a group above the limit is a single frame. -/
theorem emitted_is_accepted_partial (cfg : Cfg) (ops : List Op) (hp : ∀ op ∈ ops, op.plain = true)
    (hwf : ∀ f ∈ accepted ops, f.wf) (hl : (run cfg ops).lost = []) :
    ∃ (groups : List (List Frame)) (pending : List Frame),
      groups.flatten ++ pending = accepted ops ∧
      (run cfg ops).wire.reverse ++ (run cfg ops).chan = groups.map encFrames ∧
      ((run cfg ops).wire.reverse ++ (run cfg ops).chan).map parseDatagram = groups.map some ∧
      (run cfg ops).buf = encFrames pending ∧
      (∀ g ∈ groups, g ≠ [] ∧ (size g ≤ cfg.limit ∨ g.length = 1)) := by
  refine ⟨(spec cfg.limit ops).done.reverse, (spec cfg.limit ops).cur, spec_flatten _ _, ?_, ?_,
    (run_live cfg ops hp).rel.buf, ?_⟩
  · rw [conservation cfg ops hl, (run_live cfg ops hp).rel.offered, List.map_reverse]
  · rw [conservation cfg ops hl, (run_live cfg ops hp).rel.offered, ← List.map_reverse, List.map_map]
    apply List.map_congr_left
    intro g hg
    simp only [Function.comp]
    apply datagram_roundtrip
    intro f hf
    apply hwf
    rw [← spec_flatten cfg.limit ops]
    exact List.mem_append_left _ (List.mem_flatten.mpr ⟨g, hg, hf⟩)
  · exact fun g hg => (spec_good _ _).1 g (List.mem_reverse.mp hg)

/-- the wire only grows at its newest end: a datagram once written is never changed or withdrawn -/
theorem wire_monotone (cfg : Cfg) (s : St) (op : Op) : s.wire <:+ (step cfg s op).wire :=
  (keeps_step cfg s op).wire

/-- L4 -/
theorem packCount_eq (cfg : Cfg) (ops : List Op) : (run cfg ops).packCount = nSends ops :=
  (keeps_foldl cfg ops {}).packCount.trans (Nat.zero_add _)
theorem chanCount_eq (cfg : Cfg) (ops : List Op) (hp : ∀ op ∈ ops, op.plain = true) :
    (run cfg ops).chanCount = (run cfg ops).offered.length := (run_live cfg ops hp).chanCount
theorem sendCount_eq (cfg : Cfg) (ops : List Op) (hp : ∀ op ∈ ops, op.plain = true) :
    (run cfg ops).sendCount = (run cfg ops).wire.length + (run cfg ops).errCount :=
  (run_live cfg ops hp).sendCount

/-! ### witnesses (a client with limit 30, channel capacity 1, UDP maximum 40) -/

def tiny : Cfg := ⟨30, 1, 40⟩
def fA : Frame := ⟨1, 50100, [1, 2, 3]⟩
def fB : Frame := ⟨2, 50100, [4, 5, 6]⟩
def fBig : Frame := ⟨3, 1, List.replicate 32 7⟩

/-- the hypotheses of `emitted_is_accepted_partial` are satisfiable on a history that cuts -/
example : (∀ op ∈ [Op.send fA false, .send fB false, .send fA false, .proc, .tick, .proc], op.plain = true) ∧
    (run tiny [.send fA false, .send fB false, .send fA false, .proc, .tick, .proc]).lost = [] ∧
    (run tiny [.send fA false, .send fB false, .send fA false, .proc, .tick, .proc]).wire =
      [encFrame fA, encFrames [fA, fB]] := by decide

/-- L1 fails: Shutdown writes what waits in the channel but not the buffer; the second pack is never sent
    (nothing is counted as lost either: the frame just stays in the buffer of a closed client) -/
theorem finding_shutdown_loses_buffer :
    (run tiny [.send fA true, .send fB false, .shutdown]).wire = [encFrame fA] ∧
    (run tiny [.send fA true, .send fB false, .shutdown]).buf = encFrame fB ∧
    (run tiny [.send fA true, .send fB false, .shutdown]).isOpen = false ∧
    (run tiny [.send fA true, .send fB false, .shutdown, .send fA true, .tick, .proc]).wire = [encFrame fA] := by
  decide

/-- L1 fails: the channel is full and nobody drains it within 5 s: the datagram is dropped, chanCount counts it -/
theorem finding_full_channel_drops :
    (run tiny [.send fA true, .send fB true, .proc, .proc]).wire = [encFrame fA] ∧
    (run tiny [.send fA true, .send fB true, .proc, .proc]).lost = [encFrame fB] ∧
    (run tiny [.send fA true, .send fB true, .proc, .proc]).chanCount = 2 := by decide

/-- L1 fails: a frame above the UDP maximum travels alone and the socket refuses it -/
theorem finding_oversize_dropped :
    (run tiny [.send fBig true, .proc]).wire = [] ∧ (run tiny [.send fBig true, .proc]).errCount = 1 ∧
    (run tiny [.send fBig true, .proc]).lost = [encFrame fBig] := by decide

/-- L1 fails: ApplyConfig re-opens a shut client over its closed channel; a flushed send resets the buffer
    and panics (recovered): the pack is gone and the client stays "open" -/
theorem finding_reopen_closed_channel :
    (run tiny [.shutdown, .reopen, .send fA true, .proc]).wire = [] ∧
    (run tiny [.shutdown, .reopen, .send fA true, .proc]).buf = [] ∧
    (run tiny [.shutdown, .reopen, .send fA true, .proc]).isOpen = true ∧
    (run tiny [.shutdown, .reopen, .send fA true, .proc]).lost = [encFrame fA] := by decide

end X03
