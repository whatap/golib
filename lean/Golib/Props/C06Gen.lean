/-
  Property C06, tie A — what xlate/c06 re-extracted from net/oneway/OneWayTcpClient.go on this run
  (Golib/Gen/C06.lean) is what the CodeModel assumes.

  Three layers.
  * Facts (`Gen.C06.facts`): call sequences, lock placement, error paths, queue consumers,
    goroutines, license choice — compared with `Tcp.assumed` by `decide`.
  * Programs (`Gen.C06.progs`): the *statements* of sendDirect, send, process() and ApplyConfig,
    transcribed into `Tcp.Stmt`.  They are given a semantics (`Tcp.interpSender`, `Tcp.interpProc`:
    the transcribed code is executed against an environment and yields model actions) and proved
    to produce, for every environment / thread / send id / frame length, exactly the model's own
    per-call programs `directActs` / `procActs` — the action lists the driver replays on the
    harness's observations and the recovery theorems run on the machine.  The lock flags of the
    model configuration are computed from the same programs (`Progs.cfg`), and the C06 theorems
    are instantiated at that configuration.

  * Bodies (`Gen.C06.bodies`): makeData's license expression and header constants, SendFlush's
    branch on `UseQueue` (and `Send` = `SendFlush(…, false, …)`), the statements of Connect() and
    Close() — each given a semantics and proved equal, for all inputs, to what the model does
    (`effLicense`, the entry point by mode, `connectNew` under the guard `conn = none`, `conn := none`).

  If sendDirect stops taking the lock first, unlocks before Flush, closes on the wrong error path,
  if process() connects or sends outside the lock, if ApplyConfig re-dials outside it, if send()
  stops re-arming the deadline, if another goroutine starts taking from the queue, if makeData
  picks the license differently — the generated data changes and an obligation here stops checking.
-/
import Golib.Gen.C06
import Golib.Props.C06
import Golib.Tcp.Refine

namespace C06Gen
open Tcp

/-- the source has exactly the shape the model was written against -/
theorem facts_match : Gen.C06.facts = Tcp.assumed := by decide

/-- sendDirect: Lock first, Unlock deferred, makeData / send / Flush under the lock -/
theorem source_send_locked : Gen.C06.facts.sendLocked = true := by decide

/-- process() calls Connect only between Lock and Unlock of the send lock (fails on the code as found: D42) -/
theorem source_process_connect_locked : Gen.C06.facts.processConnectLocked = true := by decide

/-- one consumer goroutine: the only `go` statement starts process(), which takes from the queue -/
theorem source_single_consumer :
    Gen.C06.facts.goroutines = ["process"] ∧ "process" ∈ Gen.C06.facts.queueConsumers := by decide

/-- the queue starts no goroutine of its own (a helper left waiting in `Get` would be a second consumer
    that nobody sends for), and nothing resets a buffered writer: bufio's sticky error is what makes a
    connection final after a failed write (`C06.dead_connection_is_final`) -/
theorem source_queue_has_no_helper_and_no_writer_reset :
    Gen.C06.facts.queueGoStmts = 0 ∧
    Call.bufReset ∉ Gen.C06.facts.flush ++ Gen.C06.facts.send ++ Gen.C06.facts.sendDirect ++ Gen.C06.facts.process ++
      Gen.C06.facts.connect ++ Gen.C06.facts.close ++ Gen.C06.facts.applyConfig := by decide

/-! ### interpreted obligations -/

/-- the transcribed sendDirect (with the transcribed send()), executed against any environment,
    performs exactly the model's program of a direct send -/
theorem source_sendDirect_is_model (env : Env) (t sid len : Nat) :
    interpSender Gen.C06.progs.send Gen.C06.progs.sendDirect env t sid len = some (directActs env t sid len) := by
  obtain ⟨a, b, c, d, e⟩ := env
  cases a <;> cases b <;> cases c <;> cases d <;> cases e <;> rfl

/-- the transcribed body of process() for a queue item performs exactly the model's program -/
theorem source_process_is_model (env : Env) (len : Nat) :
    interpProc Gen.C06.progs.send Gen.C06.progs.procItem env len = some (procActs env len) := by
  obtain ⟨a, b, c, d, e⟩ := env
  cases a <;> cases b <;> cases c <;> cases d <;> cases e <;> rfl

/-- the model configuration computed from the transcribed programs: everything under the send lock
    (sendDirect; process()'s Connect and its sends; ApplyConfig's Close/Connect), deadline re-armed
    before every write.  (`procLocked` / `acLocked` fail on the code before fix-D70.) -/
theorem source_cfg (q : Bool) :
    (Gen.C06.progs.cfg q).useQueue = q ∧ (Gen.C06.progs.cfg q).sendLocked = true ∧ (Gen.C06.progs.cfg q).bgLocked = true ∧
    (Gen.C06.progs.cfg q).procLocked = true ∧ (Gen.C06.progs.cfg q).acLocked = true ∧ (Gen.C06.progs.cfg q).rearm = true := by
  cases q <;> decide

/-- send()'s deferred recover() assigns the named result `err`: a recovered panic is reported, not
    turned into "sent" (fails on the code before fix-D71) -/
theorem source_recover_reports (q : Bool) : (Gen.C06.progs.cfg q).recoverReports = true := by
  cases q <;> decide

/-! ### the remaining bodies, interpreted -/

/-- makeData hashes the per-send license when it is non-empty and the client's otherwise — for every
    pair of licenses the transcribed expression evaluates to the model's `effLicense` -/
theorem source_license_is_model (ov dflt : Bytes) : Gen.C06.bodies.license.eval ov dflt = effLicense ov dflt := by
  by_cases h : ov = [] <;> simp [Gen.C06.bodies, LicExpr.eval, effLicense, h]

/-- … the header constants are the ones `mkFrame` writes (byte 0 = 10, byte 1 = 0) -/
theorem source_header_is_model (pcode hash : Int) (payload : Bytes) :
    (mkFrame pcode hash payload).take 2 = [Gen.C06.bodies.headerSrc, Gen.C06.bodies.headerVer] := by
  simp [mkFrame, Gen.C06.bodies]

/-- SendFlush: in queue mode every call is a `Queue.Put` whose result decides nil / "Enqueue Failed",
    in direct mode every call is `sendDirect` — whatever the `flush` argument; `Send` is
    `SendFlush(…, false, …)`.  (The model's `enqueue`/`enqueueFail` need `useQueue = true`,
    `lockSend` needs `useQueue = false`.) -/
theorem source_entry_is_model (q f : Bool) :
    interpEntry Gen.C06.bodies.sendFlush q f = some (if q then .enq else .direct) ∧
    Gen.C06.bodies.sendIsSendFlushFalse = true := by
  cases q <;> cases f <;> decide

/-- Connect(): nothing when a connection is set; otherwise dial and, on success, assign a new connection
    and a *new* buffered writer on it — the model's `connectNew` under the guard `conn = none` -/
theorem source_connect_is_model (ok : Bool) (c w : Option Nat) (n : Nat) :
    interpConn Gen.C06.bodies.connect ok (c, w, n) = modelConnect ok (c, w, n) := by
  cases c <;> cases ok <;> rfl

/-- Close(): `conn = nil`, the writer stays — the model's `close` / `extClose` / `reconfClose` -/
theorem source_close_is_model (ok : Bool) (c w : Option Nat) (n : Nat) :
    interpConn Gen.C06.bodies.close ok (c, w, n) = modelClose (c, w, n) := by
  cases c <;> rfl

/-- what `expand` replays for a direct send is the interpretation of the source -/
theorem source_expand_direct (cfg : Cfg) (lenOf : Nat → Nat) (s : St) (t : Nat) (o : Outcome) :
    some (expand cfg lenOf s (.direct t o)) =
      interpSender Gen.C06.progs.send Gen.C06.progs.sendDirect (envOf s o) t s.nsid (lenOf s.nsid) := by
  rw [source_sendDirect_is_model, expand_direct]

/-- … and the interpreted successful send is a schedule of the machine from every reachable state with
    the sender idle, the lock free and a clean writer: the code's actions are actions the model admits -/
theorem source_send_admitted (bytesOf : Nat → Bytes) (hne : ∀ sid, bytesOf sid ≠ []) (s : St)
    (hr : Reach (Gen.C06.progs.cfg false) bytesOf s) (t : Nat) (ht : t ≠ 0) (hidle : s.pc t = .idle)
    (hlock : s.lock = none) (hclean : s.conn = none ∨ ∃ w, s.wr = some w ∧ s.err.get w = false) :
    ∃ dial acts s', interpSender Gen.C06.progs.send Gen.C06.progs.sendDirect (Env.good dial) t s.nsid
        (bytesOf s.nsid).length = some acts ∧
      run (Gen.C06.progs.cfg false) bytesOf acts s = some s' ∧ (s.nsid, true) ∈ s'.results := by
  obtain ⟨hq, hl, _, _, _, hra⟩ := source_cfg false
  obtain ⟨dial, s', h1, h2⟩ := directActs_ok_admitted (Gen.C06.progs.cfg false) bytesOf hl hra hq
    hne s hr t ht hidle hlock hclean
  exact ⟨dial, _, s', source_sendDirect_is_model _ _ _ _, h1, h2⟩

/-! ### the theorems of Props/C06 at the configuration read off the source -/

abbrev srcCfg (useQueue : Bool) : Cfg := Gen.C06.progs.cfg useQueue

theorem source_frames_whole (q : Bool) (bytesOf : Nat → Bytes) (s : St)
    (hr : Reach (srcCfg q) bytesOf s) (c : Nat) :
    WholeThenTail bytesOf (s.log.get c) (s.delivered c) :=
  C06.frames_whole_delivered _ bytesOf (source_cfg _).2.1 s hr c

theorem source_order_once (q : Bool) (bytesOf : Nat → Bytes) (s : St)
    (hr : Reach (srcCfg q) bytesOf s) :
    (flatLogs s).Pairwise (· < ·) ∧ (flatLogs s).Sublist s.handed :=
  let h := C06.order_once _ bytesOf (source_cfg _).2.1 s hr
  ⟨h.1, h.2.2.2⟩

theorem source_healthy_no_loss (q : Bool) (bytesOf : Nat → Bytes) (acts : List Act) (s : St)
    (hh : Healthy acts) (h : run (srcCfg q) bytesOf acts init = some s) : NothingLost bytesOf s :=
  C06.healthy_no_loss _ bytesOf (source_cfg q).2.1 (source_cfg q).2.2.1 (source_cfg q).2.2.2.2.1
    (source_cfg q).2.2.2.1 (source_recover_reports q) acts s hh h

/-- fault histories at the configuration of the source: whole frames, at most once, in order -/
theorem source_fault_histories (bytesOf : Nat → Bytes) (es : List HEv) (s : St)
    (h : runHist (srcCfg false) bytesOf es init = some s) :
    ∃ k : Nat → Nat,
      (∀ c, ∃ tail, s.delivered c = concatF bytesOf ((s.log.get c).take (k c)) ++ tail ∧
          (tail = [] ∨ ∃ sid, (s.log.get c)[k c]? = some sid ∧ tail <+: bytesOf sid ∧ tail ≠ bytesOf sid)) ∧
      (wholeFrames s k).Pairwise (· < ·) ∧ (wholeFrames s k).Sublist s.handed :=
  C06.fault_histories _ bytesOf (source_cfg false).2.1 es s h

/-- Close() racing sends at the configuration of the source: nothing accepted is lost -/
theorem source_close_race_no_loss (q : Bool) (bytesOf : Nat → Bytes) (pre post : List Act) (t : Nat) (s : St)
    (hh : Healthy pre) (hh' : Healthy post) (h : run (srcCfg q) bytesOf (pre ++ .extClose t :: post) init = some s) :
    NothingLost bytesOf s :=
  C06.close_race_no_loss _ bytesOf (source_cfg q).2.1 (source_cfg q).2.2.1 (source_cfg q).2.2.2.2.1
    (source_cfg q).2.2.2.1 (source_recover_reports q) pre post t s hh hh' h

theorem source_queue_drains (bytesOf : Nat → Bytes) (hne : ∀ sid, bytesOf sid ≠ []) (s : St)
    (hr : Reach (srcCfg true) bytesOf s) (hp : s.pc 0 = .idle) (hlk : s.lock = none) :
    ∃ acts s', run (srcCfg true) bytesOf acts s = some s' ∧ (∀ a ∈ acts, a.isFault = false) ∧ s'.queue = [] ∧
      (∀ sid ∈ s.queue, ∃ w, Whole bytesOf s' w sid) := by
  obtain ⟨acts, s', h1, h2, h3, _, h5, _⟩ := C06.queue_drains (srcCfg true) bytesOf (source_cfg true).2.1
    (source_cfg true).2.2.2.2.2 (source_cfg true).1 hne s hr hp (fun _ => hlk)
  exact ⟨acts, s', h1, h2, h3, h5⟩

/-! ### Connect()'s loop over the server list, interpreted -/

/-- the transcribed loop — the dial stands in `for _, host := range this.Servers`, gets `Timeout` for every
    server, goes on to the next server on failure and returns at the first success — is the model's
    `connectList`, for every Timeout, every server list and every starting time.  (A deadline computed
    once before the loop is transcribed as `.shared`: this obligation stops checking, see
    `C06.finding_sharedBudget`.) -/
theorem source_dial_is_model (T : Nat) (servers : List Srv) (now : Nat) :
    interpDial Gen.C06.dialLoop T servers now = connectList T servers now 0 :=
  interp_is_model _ (by decide) (by decide) (by decide) (by decide) T servers now

/-- … so the client of this source reaches a live collector behind any number of dead ones -/
theorem source_reaches_live_behind_dead (T : Nat) (pre post : List Srv) (s : Srv) (now : Nat)
    (hpre : ∀ x ∈ pre, x.live T = false) (hs : s.live T = true) :
    (interpDial Gen.C06.dialLoop T (pre ++ s :: post) now).1 = some pre.length := by
  rw [source_dial_is_model]; exact C06.live_behind_dead_is_reached T pre post s now hpre hs

example : interpDial Gen.C06.dialLoop 400 [.gone, .refused, .up 0, .up 0] 0 = (some 2, 400) := by decide

end C06Gen
