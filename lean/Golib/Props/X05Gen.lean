/-
  Golib.Props.X05Gen — obligations about Golib/Gen/X05.lean (regenerated by xlate/x05 from the Go source on every run).

  * skeleton pins: for every modelled function the calls, literals and operator tokens the source has NOW are the
    ones the model was transcribed from (a changed pad character, offset, multiplier, comparison, library function,
    added/removed call or statement fails exactly the theorem of that function);
  * ansi / exception: for all inputs the models are the generic `%s` substitution instantiated with the REGENERATED
    format strings, constants and argument lists.
-/
import Golib.Gen.X05
import Golib.Ext.StrUtil

namespace X05Gen
open Gen.X05 Ext.StrUtil

def pick (n : String) : Option Skel := skels.find? (fun s => s.name == n)

/-! ### skeleton pins -/

/-- nothing else is listed (the translator lists exactly the modelled functions) -/
theorem skel_names : skels.map (·.name) = ["Tokenizer", "FirstWord", "LastWord", "TrimEmpty", "TruncateRune", "Split", "Substring", "SubstringN", "ToPair", "LPad", "RPad", "padding", "IsNotEmpty", "LPadInt", "CutLastString", "StringInSlice", "EscapeSpace", "NullTermToStrings", "Contains", "TrimAllSpace", "Concat", "ParseMapSASToString", "InArray", "InArrayCaseSensitive", "linuxPattern", "ToLong", "TopFloat"] := rfl

/-- The names are compared once, here; each function's theorem then only reads its entry off the table. -/
theorem pick_at (i : Nat) {n : String} {s : Skel} (h : skels[i]? = some s) (hn : s.name = n) :
    pick n = some s :=
  hn ▸ Golib.find?_key Skel.name skels (by rw [skel_names]; decide +kernel) s (List.mem_of_getElem? h)

/-- transcribed as Ext.StrUtil.tokenizer: strings.FieldsFunc over []rune(delim) -/
theorem skel_Tokenizer : pick "Tokenizer" = some
  ⟨"Tokenizer",
    ["[]rune", "len", "strings.FieldsFunc"],
    ["\"\"", "\"\"", "0"],
    ["||", "==", "==", "return", "<", "++", "==", "[]", "return", "return", "return"]⟩ := pick_at 0 rfl rfl

/-- transcribed as Ext.StrUtil.firstWord -/
theorem skel_FirstWord : pick "FirstWord" = some
  ⟨"FirstWord",
    ["Tokenizer", "len", "strings.TrimSpace"],
    ["\"\"", "\"\"", "1", "0", "\"\""],
    ["||", "==", "==", "return", ">=", "return", "[]", "return"]⟩ := pick_at 1 rfl rfl

/-- transcribed as Ext.StrUtil.lastWord -/
theorem skel_LastWord : pick "LastWord" = some
  ⟨"LastWord",
    ["Tokenizer", "len", "strings.TrimSpace", "len"],
    ["\"\"", "\"\"", "1", "1", "\"\""],
    ["||", "==", "==", "return", ">=", "return", "[]", "-", "return"]⟩ := pick_at 2 rfl rfl

/-- transcribed as Ext.StrUtil.trimEmpty -/
theorem skel_TrimEmpty : pick "TrimEmpty" = some
  ⟨"TrimEmpty",
    ["strings.TrimSpace"],
    ["\"\""],
    ["==", "return", "return"]⟩ := pick_at 3 rfl rfl

/-- transcribed as Ext.StrUtil.truncateRune: `i < sz` on the range index -/
theorem skel_TruncateRune : pick "TruncateRune" = some
  ⟨"TruncateRune",
    ["NewStringBuffer", "sb.Append", "string", "sb.ToString"],
    ["\"\""],
    ["==", "return", "<", "return"]⟩ := pick_at 4 rfl rfl

/-- transcribed as Ext.Str.split -/
theorem skel_Split : pick "Split" = some
  ⟨"Split",
    ["strings.Split"],
    [],
    ["return"]⟩ := pick_at 5 rfl rfl

/-- transcribed as Ext.StrUtil.substringBody -/
theorem skel_Substring : pick "Substring" = some
  ⟨"Substring",
    ["*ast.FuncLit", "recover", "strings.Index", "strings.ToLower", "strings.ToLower", "len", "strings.Index", "strings.ToLower", "strings.ToLower", "len", "len", "strings.TrimSpace"],
    ["0", "0", "0", "\"\"", "\"\"", "0"],
    ["!=", "<", "return", "+=", "!=", "[:]", "<", "+", "return", "[:]"]⟩ := pick_at 6 rfl rfl

/-- transcribed as Ext.StrUtil.substringNLoop -/
theorem skel_SubstringN : pick "SubstringN" = some
  ⟨"SubstringN",
    ["*ast.FuncLit", "recover", "make", "strings.Index", "strings.ToLower", "strings.ToLower", "strings.Index", "strings.ToLower", "strings.ToLower", "len", "strings.Index", "strings.ToLower", "strings.ToLower", "len", "len", "strings.TrimSpace", "append", "len", "len"],
    ["0", "0", "0", "0", "0", "0", "0", "\"\"", "0", "1"],
    ["!=", ">=", "[:]", "<", "break", "+=", "!=", "[:]", "+", "<", "+", "[:]", "+", "+", "+", "+", "++", "&&", "!=", "u-", ">=", "break", ">=", "break", "return"]⟩ := pick_at 7 rfl rfl

/-- transcribed as Ext.StrUtil.toPair: Index of the lowered texts, `!= -1`, s[0:pos], s[pos+len(sep):], two TrimSpace -/
theorem skel_ToPair : pick "ToPair" = some
  ⟨"ToPair",
    ["strings.Index", "strings.ToLower", "strings.ToLower", "len", "strings.TrimSpace", "strings.TrimSpace"],
    ["0", "1", "0", "\"\"", "\"\""],
    ["!=", "u-", "[:]", "[:]", "+", "return"]⟩ := pick_at 8 rfl rfl

/-- transcribed as Ext.StrUtil.lpad: pad character " ", `slen >= n`, padding(n-slen)+str -/
theorem skel_LPad : pick "LPad" = some
  ⟨"LPad",
    ["padding", "len", "padding"],
    ["\"\"", "\" \"", "\" \""],
    ["==", "return", ">=", "return", "return", "+", "-"]⟩ := pick_at 9 rfl rfl

/-- transcribed as Ext.StrUtil.rpad -/
theorem skel_RPad : pick "RPad" = some
  ⟨"RPad",
    ["padding", "len", "padding"],
    ["\"\"", "\" \"", "\" \""],
    ["==", "return", ">=", "return", "return", "+", "-"]⟩ := pick_at 10 rfl rfl

/-- transcribed as Ext.StrUtil.padding: the loop `i < n` from 0 -/
theorem skel_padding : pick "padding" = some
  ⟨"padding",
    ["buf.WriteString", "buf.String"],
    ["0"],
    ["<", "++", "return"]⟩ := pick_at 11 rfl rfl

/-- transcribed as Ext.StrUtil.isNotEmpty -/
theorem skel_IsNotEmpty : pick "IsNotEmpty" = some
  ⟨"IsNotEmpty",
    [],
    ["\"\""],
    ["==", "return", "return"]⟩ := pick_at 12 rfl rfl

/-- transcribed as Ext.StrUtil.lpadInt: `%d`, pad "0", `len(ret) > size` -/
theorem skel_LPadInt : pick "LPadInt" = some
  ⟨"LPadInt",
    ["fmt.Sprintf", "len", "padding", "len"],
    ["\"%d\"", "\"0\""],
    [">", "return", "return", "+", "-"]⟩ := pick_at 13 rfl rfl

/-- transcribed as Ext.StrUtil.cutLast: strings.LastIndex, `x >= 0`, `x+1` -/
theorem skel_CutLastString : pick "CutLastString" = some
  ⟨"CutLastString",
    ["strings.LastIndex"],
    ["0", "1"],
    [">=", "return", "[:]", "+", "return"]⟩ := pick_at 14 rfl rfl

/-- transcribed as Ext.StrUtil.stringInSlice -/
theorem skel_StringInSlice : pick "StringInSlice" = some
  ⟨"StringInSlice",
    [],
    [],
    ["==", "return", "return"]⟩ := pick_at 15 rfl rfl

/-- transcribed as Ext.StrUtil.escapeSpace: m[1:], ParseInt(b, 8, 32), `%c`, Replace(…, -1) -/
theorem skel_EscapeSpace : pick "EscapeSpace" = some
  ⟨"EscapeSpace",
    ["linuxPattern.FindAllString", "strconv.ParseInt", "fmt.Sprintf", "strings.Replace"],
    ["1", "1", "8", "32", "\"%c\"", "1"],
    ["u-", "[:]", "==", "u-", "return"]⟩ := pick_at 16 rfl rfl

/-- transcribed as Ext.StrUtil.nullTermF -/
theorem skel_NullTermToStrings : pick "NullTermToStrings" = some
  ⟨"NullTermToStrings",
    ["bytes.IndexByte", "byte", "append", "string", "byte"],
    ["0", "1", "0", "1", "0", "0"],
    ["==", "u-", "break", "[:]", "[:]", "+", "==", "[]", "break", "return"]⟩ := pick_at 17 rfl rfl

/-- transcribed as Ext.StrUtil.contains -/
theorem skel_Contains : pick "Contains" = some
  ⟨"Contains",
    [],
    [],
    ["==", "return", "return"]⟩ := pick_at 18 rfl rfl

/-- transcribed as Ext.StrUtil.trimAllSpace -/
theorem skel_TrimAllSpace : pick "TrimAllSpace" = some
  ⟨"TrimAllSpace",
    ["bufio.NewReader", "strings.NewReader", "rd.ReadRune", "unicode.IsSpace", "buf.WriteRune", "buf.String"],
    [],
    ["==", "u!", "break", "return"]⟩ := pick_at 19 rfl rfl

/-- transcribed as Ext.StrUtil.concat (base 10; the float cases are not modelled) -/
theorem skel_Concat : pick "Concat" = some
  ⟨"Concat",
    ["b.WriteString", "strconv.FormatInt", "int64", "b.WriteString", "strconv.FormatInt", "int64", "b.WriteString", "strconv.FormatInt", "b.WriteString", "strconv.FormatUint", "uint64", "b.WriteString", "strconv.FormatUint", "uint64", "b.WriteString", "strconv.FormatUint", "b.WriteString", "strconv.FormatFloat", "float64", "b.WriteString", "strconv.FormatFloat", "b.WriteString", "b.String"],
    ["10", "10", "10", "10", "10", "10", "'f'", "2", "64", "'f'", "2", "64"],
    ["return"]⟩ := pick_at 20 rfl rfl

/-- transcribed as Ext.StrUtil.mapSAS: `idx > maxCount` with no `idx++` anywhere (no `++` token) -/
theorem skel_ParseMapSASToString : pick "ParseMapSASToString" = some
  ⟨"ParseMapSASToString",
    ["NewStringBuffer", "len", "sb.Append().Append", "sb.Append", "Truncate", "len", "sb.AppendLine", "Truncate", "sb.ToString", "sb.Clear"],
    ["0", "0", "\"=\"", "0", "0"],
    ["&&", "!=", ">", ">", "break", ">", "[]", "return"]⟩ := pick_at 21 rfl rfl

/-- transcribed as Ext.StrUtil.inArray -/
theorem skel_InArray : pick "InArray" = some
  ⟨"InArray",
    ["strings.ToUpper", "strings.TrimSpace", "strings.ToUpper", "strings.TrimSpace"],
    [],
    ["==", "return", "return"]⟩ := pick_at 22 rfl rfl

/-- transcribed as Ext.StrUtil.inArrayCS -/
theorem skel_InArrayCaseSensitive : pick "InArrayCaseSensitive" = some
  ⟨"InArrayCaseSensitive",
    ["strings.TrimSpace", "strings.TrimSpace"],
    [],
    ["==", "return", "return"]⟩ := pick_at 23 rfl rfl

/-- transcribed as Ext.StrUtil.findEsc: the pattern \\[0-9]{3} -/
theorem skel_linuxPattern : pick "linuxPattern" = some
  ⟨"linuxPattern", [], ["regexp.MustCompile \\\\[0-9]{3}"], []⟩ := pick_at 24 rfl rfl

/-- transcribed as Ext.StrUtil.toLongF: multiplier 31, start 0 -/
theorem skel_ToLong : pick "ToLong" = some
  ⟨"ToLong",
    ["int64", "len", "int64"],
    ["0", "\"\"", "0", "31"],
    ["!=", "<", "++", "+", "*", "[]", "return"]⟩ := pick_at 25 rfl rfl

/-- transcribed as Ext.StrUtil.topBy: `src > top` -/
theorem skel_TopFloat : pick "TopFloat" = some
  ⟨"TopFloat",
    [],
    [],
    [">", "return", "return"]⟩ := pick_at 26 rfl rfl

/-! ### ansi colours: the model is the regenerated Sprintf -/

/-- `fmt.Sprintf(format, args...)` for a format of literal bytes and `%s` verbs only -/
def fmtS : List Nat → List Bytes → Bytes
  | 37 :: 115 :: r, a :: as => a ++ fmtS r as
  | c :: r, as => c :: fmtS r as
  | [], _ => []

def Colour.fn : Colour → String
  | .red => "Red" | .yellow => "Yellow" | .green => "Green" | .cyan => "Cyan" | .blue => "Blue"

def resolve (s : Bytes) (a : String) : Option Bytes := if a == "s" then some s else ansiConsts.lookup a

def colourGen (c : Colour) (s : Bytes) : Option Bytes :=
  match colourFns.lookup (Colour.fn c) with
  | some (fmt, args) => (args.mapM (resolve s)).map (fmtS fmt)
  | none => none

/-- for every colour and text: the model is Sprintf of the regenerated format over the regenerated constants -/
theorem colour_tied (c : Colour) (s : Bytes) : colourGen c s = some (colour c s) := by
  cases c <;> rfl

/-- `enable` is only ever assigned `true` (the `enable == false` branch is dead), and exactly five colour functions exist -/
theorem colour_enable : enableAssigned = ["true"] ∧ colourFns.map (·.1) = ["Red", "Yellow", "Green", "Cyan", "Blue"] := ⟨rfl, rfl⟩

/-! ### exception.Error: the model is the regenerated format over the regenerated field order -/

def posOf (p : String) : List String → Option Nat
  | [] => none
  | x :: xs => if x == p then some 0 else (posOf p xs).map (· + 1)

/-- the value of a field of NewCustomException(args…): through the regenerated assignments and parameter list -/
def fieldVal (args : List Bytes) (f : String) : Option Bytes :=
  match newExceptionAssigns.lookup f with
  | some p => match posOf p newExceptionParams with
    | some i => args[i]?
    | none => none
  | none => none

def errorGen (args : List Bytes) : Option Bytes := (errorFields.mapM (fieldVal args)).map (fmtS errorFormat)

theorem errorText_tied (t msg stack esc : Bytes) : errorGen [t, msg, stack, esc] = some (errorText t msg stack esc) := by
  simp [errorGen, errorFields, fieldVal, newExceptionAssigns, newExceptionParams, List.lookup, posOf, errorFormat, fmtS,
    errorText, sName, sMessage, sEsc, sStack]

end X05Gen
