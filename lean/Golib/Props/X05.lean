/-
  Golib.Props.X05 — extension check X05: the string utilities of util/stringutil/StringUtil.go that no property
  speaks about, uuidutil.ToLong, percentutil.TopFloat, exception.CustomException.Error and the ansi colours.
  Models: Golib.Ext.StrUtil (over Golib.Ext.StrLib / StrLib2).  Byte strings as Go indexes them; where the code
  decodes UTF-8 the model works on Go's rune chunks.  `…_partial` = the evident law under the narrowest hypothesis
  that makes it true of the code that exists; `finding_*` = a concrete witness where it fails (replayed on the Go
  code by harness/x05).
-/
import Golib.Ext.StrUtilLemmas

namespace X05
open Ext.Str Ext.StrUtil

/-! ## padding: LPad / RPad / LPadInt -/

/-- the padded text has exactly `max(len(s), n)` bytes (any `n`, negative included) -/
theorem lpad_length (s : Bytes) (n : Int) : (lpad s n).length = max s.length n.toNat := by
  rw [lpad_eq, List.length_append, List.length_replicate, Nat.sub_add_eq_max, Nat.max_comm]

theorem rpad_length (s : Bytes) (n : Int) : (rpad s n).length = max s.length n.toNat := by
  rw [rpad_eq, List.length_append, List.length_replicate, Nat.add_comm, Nat.sub_add_eq_max, Nat.max_comm]

/-- LPad only adds blanks in front: the text is a suffix of the result -/
theorem lpad_suffix (s : Bytes) (n : Int) : ∃ k, lpad s n = List.replicate k 32 ++ s := ⟨_, lpad_eq s n⟩

/-- RPad only adds blanks behind: the text is a prefix of the result -/
theorem rpad_prefix (s : Bytes) (n : Int) : ∃ k, rpad s n = s ++ List.replicate k 32 := ⟨_, rpad_eq s n⟩

theorem lpad_idem (s : Bytes) (n : Int) : lpad (lpad s n) n = lpad s n := by
  rw [lpad_eq (lpad s n), lpad_length, Nat.sub_eq_zero_of_le (Nat.le_max_right ..)]; rfl

theorem rpad_idem (s : Bytes) (n : Int) : rpad (rpad s n) n = rpad s n := by
  rw [rpad_eq (rpad s n), rpad_length, Nat.sub_eq_zero_of_le (Nat.le_max_right ..)]
  exact List.append_nil _

theorem lpadInt_length (v size : Int) : (lpadInt v size).length = max (itoa v).length size.toNat := by
  rw [lpadInt_eq, List.length_append, List.length_replicate, Nat.sub_add_eq_max, Nat.max_comm]

/-- law "LPadInt writes v with leading zeros": true for v ≥ 0 (the result is zeros followed by the digits) -/
theorem lpadInt_partial (v size : Int) (hv : 0 ≤ v) : ∃ k, lpadInt v size = List.replicate k 48 ++ natDigits v.natAbs := by
  have e : itoa v = natDigits v.natAbs := by simp [itoa]; omega
  exact ⟨_, e ▸ lpadInt_eq v size⟩

/-- … and false for a negative v: the zeros go in front of the sign and the text is no number any more.
    `LPadInt(-5, 4) = "00-5"`, which strconv.Atoi rejects. -/
theorem finding_lpadInt_negative : lpadInt (-5) 4 = [48, 48, 45, 53] ∧ (atoi [48, 48, 45, 53]).2 = false := by
  constructor <;> decide +kernel

example : lpadInt 5 4 = [48, 48, 48, 53] ∧ atoi [48, 48, 48, 53] = (5, true) := by constructor <;> decide +kernel

/-! ## CutLastString -/

/-- law "the part behind the last delimiter": holds for a one-byte delimiter -/
theorem cutLast_partial (c : Nat) (a r : Bytes) (h : c ∉ r) : cutLast (a ++ c :: r) [c] = some r := by
  unfold cutLast
  rw [lastIndexOf_single c a r h]
  simp [sliceFrom]

theorem cutLast_absent (c : Nat) (s : Bytes) (h : c ∉ s) : cutLast s [c] = some s := by
  unfold cutLast; rw [lastIndexOf_absent c s h]

/-- a longer delimiter leaves all but its first byte in the result: `CutLastString("a::b", "::") = ":b"` -/
theorem finding_cutLast_multibyte : cutLast [97, 58, 58, 98] [58, 58] = some [58, 98] := by decide +kernel

/-- with an empty delimiter LastIndex is len(s) and `s[len(s)+1:]` panics — for every text -/
theorem finding_cutLast_empty_delim (s : Bytes) : cutLast s [] = none := by
  unfold cutLast; rw [lastIndexOf_nil]; simp [sliceFrom]

example : cutLast [97, 46, 98, 46, 99] [46] = some [99] := cutLast_partial 46 [97, 46, 98] [99] (by decide +kernel)

/-! ## ToPair / Substring / SubstringN -/

/-- law "key and value around the first separator (ASCII case-insensitive), trimmed": holds for ASCII text -/
theorem toPair_partial (s sep : Bytes) (pos : Nat) (hs : Ascii s) (hp : Ascii sep)
    (h : indexOf (sep.map lowerB) (s.map lowerB) = some pos) :
    toPair s sep = some (trimSpace (s.take pos), trimSpace (s.drop (pos + sep.length))) ∧
    s.map lowerB = (s.take pos).map lowerB ++ sep.map lowerB ++ (s.drop (pos + sep.length)).map lowerB := by
  have hb := indexOf_bound h
  simp only [List.length_map] at hb
  constructor
  · unfold toPair
    rw [toLower_ascii s hs, toLower_ascii sep hp, h]
    have h1 : slice s 0 pos = some (s.take pos) := by simp [slice]; omega
    have h2 : sliceFrom s (pos + sep.length) = some (s.drop (pos + sep.length)) := by simp [sliceFrom]; omega
    simp [h1, h2]
  · have := indexOf_some h
    simpa [List.map_take, List.map_drop] using this

theorem toPair_absent (s sep : Bytes) (h : indexOf (toLower sep) (toLower s) = none) : toPair s sep = some ([], []) := by
  unfold toPair; rw [h]

example : toPair [75, 61, 32, 118] [61] = some ([75], [118]) := by decide +kernel

/-- the offset is found in the lowered text and applied to the text itself; strings.ToLower rewrites an ill-formed
    byte to U+FFFD (3 bytes), so behind such a byte the cut is 2 bytes late: `ToPair("\xff=ab", "=") = ("\xff=a", "")` -/
theorem finding_toPair_lowered_index : toPair [0xff, 61, 97, 98] [61] = some ([0xff, 61, 97], []) := by decide +kernel

/-- … and the late cut can fall outside the text: `ToPair("\xff\xff=", "=")` panics (no recover in ToPair) -/
theorem finding_toPair_panics : toPair [0xff, 0xff, 61] [61] = none := by decide +kernel

/-- law "the trimmed text between the first `from` and the next `to` (ASCII case-insensitive)": holds for ASCII text -/
theorem substring_partial (s frm to : Bytes) (p q : Nat) (hs : Ascii s) (hf : Ascii frm) (ht : Ascii to) (hne : to ≠ [])
    (h1 : indexOf (frm.map lowerB) (s.map lowerB) = some p)
    (h2 : indexOf (to.map lowerB) ((s.drop (p + frm.length)).map lowerB) = some q) :
    substring s frm to = trimSpace ((s.take (p + frm.length + q)).drop (p + frm.length)) := by
  have b1 := indexOf_bound h1
  have b2 := indexOf_bound h2
  simp only [List.length_map, List.length_drop] at b1 b2
  have e : to.isEmpty = false := by cases to <;> simp at hne ⊢
  have h3 : sliceFrom s (p + frm.length) = some (s.drop (p + frm.length)) := by simp [sliceFrom]; omega
  have h4 : slice s (p + frm.length) (p + frm.length + q) = some ((s.take (p + frm.length + q)).drop (p + frm.length)) := by
    simp [slice]; omega
  unfold substring substringBody
  rw [toLower_ascii s hs, toLower_ascii frm hf, h1]
  simp only [e, h3, Bool.false_eq_true, if_false]
  rw [toLower_ascii to ht, toLower_ascii _ (ascii_drop s _ hs), h2]
  simp [h4]

theorem substring_absent (s frm to : Bytes) (h : indexOf (toLower frm) (toLower s) = none) : substring s frm to = [] := by
  simp [substring, substringBody, h]

example : substring [97, 61, 32, 49, 59, 98] [65, 61] [59] = [49] := by decide +kernel

/-- SubstringN("a=1;a=2;", "a=", ";", -1) = ["1", "2"] … -/
theorem substringN_terminated :
    substringN [97, 61, 49, 59, 97, 61, 50, 59] [97, 61] [59] (-1) = [[49], [50]] := by decide +kernel

/-- … but without the last terminator the second round slices `s[lastPos+pos : lastPos+len(s)]`, panics, and the
    recover returns nil: every field is lost, the first one too.  SubstringN("a=1;a=2", "a=", ";", -1) = nil -/
theorem finding_substringN_unterminated :
    substringN [97, 61, 49, 59, 97, 61, 50] [97, 61] [59] (-1) = [] := by decide +kernel

/-! ## Split / Join -/

/-- join ∘ split = id for every non-empty separator -/
theorem join_split (s sep : Bytes) (h : sep ≠ []) : join sep (split s sep) = s := by
  unfold split
  have : sep.isEmpty = false := by cases sep <;> simp at h ⊢
  simp only [this]
  exact join_splitF sep _ s

/-- with the empty separator the pieces are the UTF-8 sequences of the text and concatenate to it -/
theorem split_empty_concat (s : Bytes) : (split s []).flatten = s := by
  have := chunks_raw s
  simpa [split, List.flatMap] using this

/-- replacing `old` by itself changes nothing -/
theorem replaceAll_self (s old : Bytes) : replaceAll s old old = s := join_splitF old _ s

example : split [97, 44, 98, 44] [44] = [[97], [98], []] := by decide +kernel

/-! ## Tokenizer / FirstWord / LastWord -/

/-- the tokens, concatenated, are the text without its delimiter runes -/
theorem tokenizer_concat (src delim : Bytes) (h1 : src ≠ []) (h2 : delim ≠ []) :
    (tokenizer src delim).flatten = rawOf ((chunks src).filter (fun k => !isDelim delim k)) := by
  rw [tokenizer_eq h1 h2]; exact fields_flatten _ _

/-- no token is empty -/
theorem tokenizer_nonempty (src delim : Bytes) (h1 : src ≠ []) (h2 : delim ≠ []) :
    ∀ t ∈ tokenizer src delim, t ≠ [] := by
  simp only [tokenizer_eq h1 h2, fields]
  intro t ht
  simp only [List.mem_map, List.mem_filter] at ht
  obtain ⟨g, ⟨hg, hne⟩, rfl⟩ := ht
  cases g with
  | nil => simp at hne
  | cons k g =>
    have hk : k ∈ chunks src := groups_mem_sub _ _ _ hg k (by simp)
    have := chunksF_raw_ne _ _ k hk
    simp [rawOf]
    intro hr; exact absurd hr this

/-- every token is a run of runes none of which is a delimiter rune -/
theorem tokenizer_no_delim (src delim : Bytes) (h1 : src ≠ []) (h2 : delim ≠ []) :
    ∀ t ∈ tokenizer src delim, ∃ g, t = rawOf g ∧ ∀ k ∈ g, isDelim delim k = false := by
  simp only [tokenizer_eq h1 h2, fields]
  intro t ht
  simp only [List.mem_map, List.mem_filter] at ht
  obtain ⟨g, ⟨hg, _⟩, rfl⟩ := ht
  exact ⟨g, rfl, groups_no_delim _ _ g hg⟩

/-- with an empty delimiter (or text) nothing is cut — and FirstWord/LastWord then do not trim either -/
theorem tokenizer_empty_delim (src : Bytes) : tokenizer src [] = [src] ∧ firstWord src [] = src ∧ lastWord src [] = src := by
  simp [tokenizer, firstWord, lastWord]

example : tokenizer [44, 97, 44, 44, 98, 99, 44] [44] = [[97], [98, 99]] := by decide +kernel
example : firstWord [32, 97, 44, 98] [44] = [97] ∧ lastWord [32, 97, 44, 98, 32] [44] = [98] := by constructor <;> decide +kernel
/-- a text of delimiters only has no token at all, the empty text has one -/
example : tokenizer [44] [44] = [] ∧ tokenizer [] [44] = [[]] := by constructor <;> decide +kernel
/-- an ill-formed byte in the text is the rune U+FFFD and is cut by a U+FFFD delimiter -/
example : tokenizer [97, 0xff, 98] [0xEF, 0xBF, 0xBD] = [[97], [98]] := by decide +kernel

/-! ## TrimEmpty / TrimAllSpace / TruncateRune -/

theorem trimEmpty_eq (s : Bytes) : trimEmpty s = trimSpace s := by
  unfold trimEmpty; split
  · rename_i h; have : s = [] := by simpa using h
    subst this; decide
  · rfl

/-- law "the text without its white space": holds on ASCII text -/
theorem trimAllSpace_partial (s : Bytes) (h : Ascii s) : trimAllSpace s = s.filter (fun b => !asciiSpace b) := by
  unfold trimAllSpace
  rw [chunks_ascii s h]
  clear h
  induction s with
  | nil => rfl
  | cons b r ih =>
    simp only [List.map_cons, List.filter_cons, isSpaceChunk_mk1]
    by_cases hb : asciiSpace b <;> simp [hb, mk1] at ih ⊢ <;> exact ih

/-- an ill-formed byte is not dropped and not kept: it is rewritten to U+FFFD. `TrimAllSpace("\xff") = "\xef\xbf\xbd"` -/
theorem finding_trimAllSpace_rewrites : trimAllSpace [0xff] = [0xEF, 0xBF, 0xBD] := by decide +kernel

example : trimAllSpace [32, 97, 0xE3, 0x80, 0x80, 9, 98, 0xC2, 0xA0] = [97, 98] := by decide +kernel

/-- law "the first sz characters": holds on ASCII text, where TruncateRune is Truncate -/
theorem truncateRune_partial (s : Bytes) (sz : Nat) (h : Ascii s) : truncateRune s sz = s.take sz := by
  unfold truncateRune
  rw [chunks_ascii s h]
  simpa using truncate_offsets sz s 0

/-- `for i, ch := range str` yields BYTE offsets: "한글" cut at 2 keeps one character (not two), and "한" cut at 1
    keeps the whole 3-byte character (more than 1 byte) -/
theorem finding_truncateRune_byte_offsets :
    truncateRune [0xED, 0x95, 0x9C, 0xEA, 0xB8, 0x80] 2 = [0xED, 0x95, 0x9C] ∧
    truncateRune [0xED, 0x95, 0x9C] 1 = [0xED, 0x95, 0x9C] := by constructor <;> decide +kernel

/-! ## membership tests -/

theorem stringInSlice_iff (a : Bytes) (l : List Bytes) : stringInSlice a l = true ↔ a ∈ l := by
  simp only [stringInSlice, List.any_eq_true, beq_iff_eq]
  constructor
  · rintro ⟨x, hx, rfl⟩; exact hx
  · intro h; exact ⟨a, h, rfl⟩

theorem contains_eq (a : Bytes) (l : List Bytes) : contains l a = stringInSlice a l := rfl

theorem inArrayCS_iff (s : Bytes) (l : List Bytes) : inArrayCS s l = true ↔ trimSpace s ∈ l.map trimSpace := by
  simp only [inArrayCS, List.any_eq_true, beq_iff_eq, List.mem_map]
  constructor <;> (rintro ⟨x, hx, e⟩; exact ⟨x, hx, e.symm⟩)

theorem inArray_iff (s : Bytes) (l : List Bytes) :
    inArray s l = true ↔ toUpper (trimSpace s) ∈ l.map (fun it => toUpper (trimSpace it)) := by
  simp only [inArray, List.any_eq_true, beq_iff_eq, List.mem_map]
  constructor <;> (rintro ⟨x, hx, e⟩; exact ⟨x, hx, e.symm⟩)

/-- the case-sensitive test implies the case-insensitive one -/
theorem inArrayCS_inArray (s : Bytes) (l : List Bytes) (h : inArrayCS s l = true) : inArray s l = true := by
  simp only [inArrayCS, inArray, List.any_eq_true, beq_iff_eq] at h ⊢
  obtain ⟨x, hx, e⟩ := h
  exact ⟨x, hx, by rw [e]⟩

example : inArray [32, 97] [[65], [98]] = true ∧ inArrayCS [32, 97] [[65], [98]] = false := by constructor <;> decide +kernel

/-! ## NullTermToStrings -/

/-- parser/printer inverse: non-empty NUL-free records, each followed by one NUL, then a second NUL -/
theorem nullTerm_records (x : Bytes) (xs : List Bytes) (tail : Bytes) (h : ∀ y ∈ x :: xs, y ≠ [] ∧ 0 ∉ y) :
    nullTerm (nulEnc (x :: xs) ++ 0 :: tail) = some (x :: xs) := by
  unfold nullTerm
  have hl := nulEnc_length (x :: xs)
  have := nullTermF_records xs x [] tail ((nulEnc (x :: xs) ++ 0 :: tail).length + 1) h (by
    simp only [List.length_append, List.length_cons] at hl ⊢; omega)
  simpa using this

theorem nullTerm_no_nul (b : Bytes) (h : 0 ∉ b) : nullTerm b = some [] := by
  simp [nullTerm, nullTermF, indexByte_eq, indexOf_absent 0 [] b h]

/-- a buffer that ends right behind a single terminator: `b[0]` is read from the empty rest, index out of range -/
theorem finding_nullTerm_single_terminator : nullTerm [97, 0] = none := by decide +kernel

example : nullTerm [97, 0, 98, 99, 0, 0, 7] = some [[97], [98, 99]] :=
  nullTerm_records [97] [[98, 99]] [7] (by decide +kernel)

/-! ## EscapeSpace -/

theorem findEsc_none (s : Bytes) (h : 92 ∉ s) : findEsc s = [] := by
  fun_induction findEsc s with
  | case1 c d1 d2 d3 r hc ih => exact absurd (by simp [hc.1]) h
  | case2 c d1 d2 d3 r hc ih => exact ih (fun e => h (List.mem_cons_of_mem _ e))
  | case3 => rfl

/-- a text without a backslash is returned unchanged -/
theorem escapeSpace_plain (s : Bytes) (h : 92 ∉ s) : escapeSpace s = s := by
  simp [escapeSpace, findEsc_none s h]

/-- `a\040b` → `a b`;  `\099` is no octal number and stays -/
theorem escapeSpace_examples : escapeSpace [97, 92, 48, 52, 48, 98] = [97, 32, 98] ∧
    escapeSpace [92, 48, 57, 57] = [92, 48, 57, 57] := by
  constructor
  · simp [escapeSpace, findEsc, isDigit]; decide
  · simp [escapeSpace, findEsc, isDigit]

/-! ## Concat, ParseMapSASToString -/

theorem concat_append (a b : List Item) : concat (a ++ b) = concat a ++ concat b := by
  simp [concat]

example : concat [.str [97], .int (-5), .int 18446744073709551615] =
    [97, 45, 53] ++ [49, 56, 52, 52, 54, 55, 52, 52, 48, 55, 51, 55, 48, 57, 53, 53, 49, 54, 49, 53] := by decide +kernel

/-- `idx` is never incremented: the result does not depend on a non-negative maxCount (three entries, maxCount 0,
    three lines) -/
theorem finding_mapSAS_maxCount_ignored (m : List (Bytes × Option Bytes)) (c c' : Int) (ksz vsz : Nat)
    (h : 0 ≤ c) (h' : 0 ≤ c') : mapSAS m c ksz vsz = mapSAS m c' ksz vsz := by
  have h1 : ¬ c < 0 := by omega
  have h2 : ¬ c' < 0 := by omega
  simp [mapSAS, h1, h2]

theorem mapSAS_negative (m : List (Bytes × Option Bytes)) (c : Int) (ksz vsz : Nat) (h : c < 0) :
    mapSAS m c ksz vsz = [] := by simp [mapSAS, h]

theorem mapSAS_length_le (m : List (Bytes × Option Bytes)) (c : Int) (ksz vsz : Nat) :
    (mapSAS m c ksz vsz).length ≤ m.length * (ksz + vsz + 2) := by
  unfold mapSAS
  split
  · simp
  induction m with
  | nil => simp
  | cons e m ih =>
    obtain ⟨k, v⟩ := e
    have h1 : (truncate k ksz).length ≤ ksz := by simp [truncate]; omega
    rw [List.flatMap_cons, List.length_append, List.length_cons, Nat.succ_mul]
    cases v with
    | none => simp only [List.length_append, List.length_cons, List.length_nil]; omega
    | some v0 =>
      have h2 : (truncate v0 vsz).length ≤ vsz := by simp [truncate]; omega
      simp only [List.length_append, List.length_cons, List.length_nil]; omega

example : mapSAS [([97, 98], some [99, 100]), ([101], none)] 0 1 1 = [97, 61, 99, 10, 101, 61] := by decide +kernel

/-! ## uuidutil.ToLong -/

/-- the int64 loop is the polynomial Σ 31^(n-1-i)·s[i], wrapped once (the same function as stringutil.HashCode) -/
theorem toLong_poly (s : Bytes) : toLong s = wrap64 (polyF s 0) := by
  have := toLongF_poly s 0
  simpa [toLong, wrap64] using this

theorem toLong_range (s : Bytes) : -9223372036854775808 ≤ toLong s ∧ toLong s ≤ 9223372036854775807 := by
  rw [toLong_poly]; unfold wrap64; omega

example : toLong [] = 0 ∧ toLong [97, 98] = 3105 := by constructor <;> decide +kernel

/-! ## percentutil.TopFloat -/

/-- whatever the comparison answers (NaN included), the result is one of the two arguments -/
theorem topBy_mem {α : Type} (gt : α → α → Bool) (a b : α) : topBy gt a b = a ∨ topBy gt a b = b := by
  unfold topBy; split <;> simp

/-- over a total order it is the minimum -/
theorem topBy_min (a b : Int) : topBy (fun x y => decide (x > y)) a b = min a b := by
  unfold topBy; simp only [decide_eq_true_eq]; split <;> omega

theorem topBy_idem (a b : Int) :
    topBy (fun x y => decide (x > y)) (topBy (fun x y => decide (x > y)) a b) b = topBy (fun x y => decide (x > y)) a b := by
  simp only [topBy_min]; omega

/-! ## exception.Error, ansi colours -/

theorem errorText_length (t msg stack esc : Bytes) :
    (errorText t msg stack esc).length = 29 + t.length + msg.length + stack.length + esc.length := by
  simp only [errorText, List.length_append]
  rw [show sName.length = 5 from rfl, show sMessage.length = 10 from rfl, show sEsc.length = 6 from rfl,
    show sStack.length = 8 from rfl]
  omega

/-- the text begins with "name:" followed by the class name -/
theorem errorText_prefix (t msg stack esc : Bytes) : ∃ r, errorText t msg stack esc = sName ++ t ++ r :=
  ⟨sMessage ++ msg ++ sEsc ++ esc ++ sStack ++ stack, by simp [errorText]⟩

theorem colour_length (c : Colour) (s : Bytes) : (colour c s).length = s.length + 9 := by
  simp [colour, ansiCode, ansiReset]

/-- the colour and the text can be read back -/
theorem colour_injective (c c' : Colour) (s s' : Bytes) (h : colour c s = colour c' s') : c = c' ∧ s = s' := by
  have hd : c.digit = c'.digit → c = c' := by
    cases c <;> cases c' <;> first | exact fun _ => rfl | exact fun e => absurd e (by decide +kernel)
  simp only [colour, ansiCode, List.cons_append, List.nil_append, List.cons.injEq, true_and,
    List.append_cancel_right_eq] at h
  exact ⟨hd h.1, h.2⟩

example : colour .red [97] = [27, 91, 51, 49, 109, 97, 27, 91, 48, 109] := by decide +kernel

end X05
