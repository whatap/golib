/-
  Property C11 — request queues are bounded FIFOs that lose, duplicate or strand nothing.

  The proofs rest on Golib/Queue/Thms.lean (sequential model), Golib/Conc/Cond.lean (monitor object =
  mutex object + wait set, any number of threads, any schedule) and Golib/Queue/Conc.lean (the queue as
  a monitor object).

  Model: Golib/Queue/Seq.lean and Golib/Queue/Fixed.lean — state `(items, cap)`, elements are naturals
  with 0 = Go's `nil`; each operation yields the return value and the events it caused (accepted / failed /
  overflowed / delivered / cleared / swallowed).  It is tied to util/queue/*.go by the differential harness
  `harness/c11` and by the regenerated facts of Golib/Props/C11Gen.lean (capacity test expression,
  Broadcast on every put path, Wait inside the `for size <= 0` loop under the lock).

  Two models, which differ in GetTimeout only (`repaired_model_differs_only_in_timed_get`).
  `stepF` / `dstepF` (Golib/Queue/Fixed.lean) is the code as committed in /repo: GetTimeout polls with
  `poll() (v, taken)` (util/queue/RequestQueue.go, RequestDoubleQueue.go) and hands a nil element out like
  Get / GetNoWait; the theorems `…_repaired`, the several-consumers model (Queue/TimedMany.lean) and the
  queue over the linked list (Queue/OverLinked.lean) are stated for it.  `step` / `dstep` (Seq.lean) is
  the code before that repair, the loop of the known finding `RequestQueue.GetTimeout:nil-element-swallowed`
  (status fixed; see `finding_nil_element_swallowed`): it treats a `nil` *element* as "nothing yet", pops it
  and keeps polling — a nil element is delivered to nobody.  A timed get of `step` is the GetNoWait that
  `stepF` makes of it unless the head of the queue is a nil element (`Queue.step_getTimeout_nil`,
  `Queue.step_getTimeout_cons_ne`); the harness probes the implementation and compares with `stepF`
  (driver lines `QF` / `DQF`) when a nil element is handed out, with `step` (`Q` / `DQ`) otherwise.  Every theorem about `step` is stated for all elements; the only thing it can
  ever swallow is nil (`only_nil_is_ever_swallowed`).
-/
import Golib.Queue.Thms
import Golib.Queue.Conc
import Golib.Queue.Fair
import Golib.Queue.Timed
import Golib.Queue.Findings
import Golib.Queue.Composite
import Golib.Queue.Fixed
import Golib.Queue.TimedMany
import Golib.Queue.OverLinked
import Golib.Conc.Callback
import Golib.Conc.SeqSpec

namespace C11
open Queue

/-! ### sequential: every history of put / putForce / get / getNoWait / getTimeout / clear /
    setCapacity / size, every capacity (≤ 0 = unbounded) -/

/-- **fifo.**  Everything leaves the queue from the front, in the order accepted: the initial
    content followed by the accepted elements *is* the sequence of elements that left (delivered,
    evicted, cleared, swallowed — in the order they left) followed by what is still queued. -/
theorem fifo (q : Q) (ops : List Op) :
    q.items ++ acceptedOf (run q ops).2.2 = leftOf (run q ops).2.2 ++ (run q ops).1.items :=
  run_fifo q ops

/-- delivered elements appear in acceptance order -/
theorem delivered_in_acceptance_order (q : Q) (ops : List Op) :
    (deliveredOf (run q ops).2.2).Sublist (q.items ++ acceptedOf (run q ops).2.2) :=
  fifo_order q ops

/-- **put_full.**  A plain put on a full queue is refused: returns false, hands the element to the
    failure callback, leaves the state unchanged. -/
theorem put_full (q : Q) (x : Nat) (hc : q.cap > 0) (hs : (q.size : Int) ≥ q.cap) :
    step q (.put x) = (q, .bool false, [.failed x]) :=
  Queue.put_full q x hc hs

theorem put_accepts_when_room (q : Q) (x : Nat) (h : q.cap ≤ 0 ∨ (q.size : Int) < q.cap) :
    step q (.put x) = ({ q with items := q.items ++ [x] }, .bool true, [.accepted x]) :=
  put_room q x h

/-- **putforce_full.**  A forced put on a full queue evicts the oldest elements (a non-empty prefix),
    hands each to the overflow callback in order, appends the element, returns false, and leaves
    exactly `cap` elements. -/
theorem putforce_full (q : Q) (x : Nat) (hc : q.cap > 0) (hs : (q.size : Int) ≥ q.cap) :
    ∃ ev rest, q.items = ev ++ rest ∧
      step q (.putForce x) =
        ({ q with items := rest ++ [x] }, .bool false, ev.map .overflowed ++ [.accepted x]) ∧
      ((rest.length : Int) + 1 = q.cap) ∧ ev ≠ [] :=
  putForce_full q x hc hs

/-- **bounded.**  With a positive capacity no operation lets the queue grow beyond
    `max cap (size before)`; a forced put always ends within the capacity; along a history without
    capacity changes the bound holds throughout. -/
theorem bounded (q : Q) (op : Op) (h : (step q op).1.cap > 0) :
    ((step q op).1.size : Int) ≤ max (q.size : Int) (step q op).1.cap :=
  bounded_step q op h

theorem bounded_after_putforce (q : Q) (x : Nat) (h : q.cap > 0) :
    ((step q (.putForce x)).1.size : Int) ≤ q.cap :=
  putForce_bounded q x h

theorem bounded_history (q : Q) (ops : List Op) (hc : q.cap > 0)
    (hno : ∀ op ∈ ops, ∀ c, op ≠ .setCapacity c) :
    ((run q ops).1.size : Int) ≤ max (q.size : Int) q.cap ∧ (run q ops).1.cap = q.cap := by
  induction ops generalizing q with
  | nil => exact ⟨Int.le_max_left _ _, rfl⟩
  | cons op ops ih =>
    have hcap := step_cap q op (hno op List.mem_cons_self)
    have hb := bounded_step q op (hcap ▸ hc)
    have := ih (step q op).1 (hcap ▸ hc) fun o ho => hno o (List.mem_cons_of_mem _ ho)
    rw [hcap] at hb this
    exact ⟨Int.le_trans this.1 (Int.max_le.mpr ⟨hb, Int.le_max_right _ _⟩), this.2⟩

/-- **conservation.**  accepted = delivered ⊎ evicted ⊎ cleared ⊎ swallowed ⊎ still queued. -/
theorem conservation (q : Q) (ops : List Op) :
    (q.items ++ acceptedOf (run q ops).2.2).Perm
      (deliveredOf (run q ops).2.2 ++ overflowedOf (run q ops).2.2 ++ clearedOf (run q ops).2.2 ++
        swallowedOf (run q ops).2.2 ++ (run q ops).1.items) :=
  Queue.conservation q ops

/-- the full statement of the property has no `swallowed` term; it holds whenever no nil element is
    involved, because only nil is ever swallowed … -/
theorem only_nil_is_ever_swallowed (q : Q) (ops : List Op) :
    ∀ x ∈ swallowedOf (run q ops).2.2, x = 0 :=
  run_swallowed_nil q ops

/-- … and without evictions, clears and swallowed nils delivery is exact, as lists -/
theorem conservation_partial (q : Q) (ops : List Op) (h1 : overflowedOf (run q ops).2.2 = [])
    (h2 : clearedOf (run q ops).2.2 = []) (h3 : swallowedOf (run q ops).2.2 = []) :
    q.items ++ acceptedOf (run q ops).2.2 = deliveredOf (run q ops).2.2 ++ (run q ops).1.items := by
  rw [run_fifo, leftOf_eq_deliveredOf _ h1 h2 h3]

/-- known finding `RequestQueue.GetTimeout:nil-element-swallowed` (the loop before the repair, `step`):
    queue [nil, 5], a timed get returns 5; the nil element was consumed and reported to nobody. -/
theorem finding_nil_element_swallowed :
    (step ⟨[0, 5], 0⟩ (.getTimeout 3)).2 = (.val 5, [.swallowed 0, .delivered 5]) :=
  rfl

/-- **double_priority.**  The double queue serves its first queue whenever it is non-empty … -/
theorem double_priority (d : DQ) (x : Nat) (r : List Nat) (h : d.q1.items = x :: r) :
    dstep d .get = ({ d with q1 := { d.q1 with items := r } }, .val x, [(1, .delivered x)]) ∧
    dstep d .getNoWait =
      ({ d with q1 := { d.q1 with items := r } }, .val x, [(1, .delivered x)]) :=
  Queue.double_priority d x r h

/-- … and an element of the second queue is handed out by get / getNoWait only if the first is empty -/
theorem double_second_only_if_first_empty (d : DQ) (op : DOp) (hop : op = .get ∨ op = .getNoWait)
    (x : Nat)
    (h : (2, Ev.delivered x) ∈ (dstep d op).2.2 ∨ (2, Ev.swallowed x) ∈ (dstep d op).2.2) :
    d.q1.items = [] :=
  Queue.double_second_only_if_first_empty d op hop x h

/-- for the timed get the same holds up to nil elements (same known finding): -/
theorem double_priority_timed_partial (d : DQ) (k : Nat) (x : Nat)
    (h : (2, Ev.delivered x) ∈ (dstep d (.getTimeout k)).2.2 ∨
         (2, Ev.swallowed x) ∈ (dstep d (.getTimeout k)).2.2) :
    ∀ y ∈ d.q1.items, y = 0 :=
  h.elim (dGetTimeoutLoop_second (k + 1) d _) (dGetTimeoutLoop_second (k + 1) d _)

theorem finding_double_timed_get_skips_nil :
    (dstep ⟨⟨[0], 2⟩, ⟨[5], 2⟩⟩ (.getTimeout 3)).2 =
      (.val 5, [(1, .swallowed 0), (2, .delivered 5)]) :=
  rfl

/-- both queues of the double queue are FIFOs that lose nothing -/
theorem double_fifo (d : DQ) (ops : List DOp) :
    d.q1.items ++ acceptedOf (untag 1 (drun d ops).2.2) =
      leftOf (untag 1 (drun d ops).2.2) ++ (drun d ops).1.q1.items ∧
    d.q2.items ++ acceptedOf (untag 2 (drun d ops).2.2) =
      leftOf (untag 2 (drun d ops).2.2) ++ (drun d ops).1.q2.items := by
  show DFifo d (drun d ops).1 (drun d ops).2.2
  induction ops generalizing d with
  | nil => exact .refl d
  | cons op ops ih => exact (dstep_fifo d op).trans (ih _)

/-- **timed_get.**  Over an abstract clock (any readings): the timed get returns empty-handed only
    at a reading `t` with `t − start ≥ timeout`, after a poll that found nothing. -/
theorem timed_get (start timeout : Int) (ticks : List Tick) (t : Int)
    (h : timedGet (start + timeout) ticks = some (.timedOut t)) :
    t - start ≥ timeout ∧ ∃ tk ∈ ticks, tk.now = t ∧ tk.polled = 0 := by
  have := Queue.timed_get (start + timeout) ticks t h
  exact ⟨by omega, this.2⟩

/-! ### the timed get as the polling loop it is: polls of GetNoWait interleaved with the operations of
    other threads, over an abstract clock (`timedGetQ`; `Round.others` = what other threads did to the
    queue before this poll, `Round.now` = the clock read after the sleep that follows an empty-handed
    poll) -/

/-- **lower bound with the queue in the loop**: empty-handed only at a clock reading `t` with
    `t − start ≥ timeout`, and then nothing was delivered -/
theorem timed_get_polling_lower_bound (start timeout : Int) (q : Q) (rounds : List Round) (q' : Q)
    (t : Int) (evs : List Ev)
    (h : timedGetQ (start + timeout) q rounds = (q', some (.timedOut t), evs)) :
    t - start ≥ timeout ∧ deliveredOf evs = [] := by
  have := timedGetQ_timedOut _ q rounds q' t evs h
  exact ⟨by omega, this.2.1⟩

/-- **upper side: it returns an element if one arrives and the thread polls.**  After any prefix of
    rounds in which every poll came back empty-handed before the deadline, if the queue — after what
    the other threads did — has a non-nil head `x` at the next poll, the call returns `x`, removes
    exactly `x`, and `delivered x` is its last event. -/
theorem timed_get_returns_arrival (timeto : Int) (q : Q) (pre : List Round) (r : Round)
    (post : List Round) (qm : Q) (e : List Ev) (x : Nat) (xs : List Nat)
    (hpre : afterRounds timeto q pre = some (qm, e))
    (hhead : (run qm r.others).1.items = x :: xs) (hx : x ≠ 0) :
    timedGetQ timeto q (pre ++ r :: post) =
      ({ (run qm r.others).1 with items := xs }, some (.got x), e ++ [.delivered x]) :=
  timedGetQ_returns_arrival timeto q pre r post qm e x xs hpre hhead hx

/-- the environment-level model characterised completely -/
theorem timed_get_got_iff (timeto : Int) (ticks : List Tick) (x : Nat) :
    timedGet timeto ticks = some (.got x) ↔
      ∃ pre tk post, ticks = pre ++ tk :: post ∧ tk.polled = x ∧ x ≠ 0 ∧
        ∀ p ∈ pre, p.polled = 0 ∧ timeto - p.now > 0 := by
  constructor
  · intro h
    rcases timedGet_decomp timeto ticks with
      ⟨hr, _⟩ | ⟨pre, tk, post, heq, hpre, ⟨hp, hr⟩ | ⟨_, _, hr⟩⟩ <;> cases hr.symm.trans h
    exact ⟨pre, tk, post, heq, rfl, hp, hpre⟩
  · rintro ⟨pre, tk, post, rfl, rfl, hx0, hpre⟩
    rw [timedGet_append_idle timeto pre _ hpre, timedGet, if_pos hx0]

theorem timed_get_returns_what_it_polled (timeto : Int) (ticks : List Tick) (x : Nat)
    (h : timedGet timeto ticks = some (.got x)) : x ≠ 0 ∧ ∃ tk ∈ ticks, tk.polled = x := by
  obtain ⟨pre, tk, post, rfl, hx, hx0, _⟩ := (timed_get_got_iff timeto ticks x).mp h
  exact ⟨hx0, tk, List.mem_append_right _ List.mem_cons_self, hx⟩

theorem timed_get_timed_out_iff (timeto : Int) (ticks : List Tick) (t : Int) :
    timedGet timeto ticks = some (.timedOut t) ↔
      ∃ pre tk post, ticks = pre ++ tk :: post ∧ tk.polled = 0 ∧ tk.now = t ∧ timeto - t ≤ 0 ∧
        ∀ p ∈ pre, p.polled = 0 ∧ timeto - p.now > 0 :=
  timedGet_timedOut_iff timeto ticks t

/-- the sequential operation `getTimeout k` *is* the polling loop with nobody else around and the
    deadline passing at the (k+1)-th clock reading: this ties the model's `extraPolls` to the clock -/
theorem timed_get_alone_is_the_sequential_op (timeto : Int) (q : Q) (pre : List Round) (r : Round)
    (post : List Round)
    (hpre : ∀ p ∈ pre, p.others = [] ∧ timeto - p.now > 0)
    (hr : r.others = [] ∧ timeto - r.now ≤ 0) :
    timedGetQ timeto q (pre ++ r :: post) =
      ({ q with items := (getTimeoutLoop (pre.length + 1) q.items).1 },
       some (resOf r.now (getTimeoutLoop (pre.length + 1) q.items).2.1),
       (getTimeoutLoop (pre.length + 1) q.items).2.2) :=
  timedGetQ_no_others timeto q pre r post hpre hr

/-- closed form of the timed get's loop: with `z` leading nil elements it swallows `min polls z` of
    them and then returns the first non-nil element, if the polls reach it -/
theorem nil_swallowing_closed_form (n : Nat) (items : List Nat) :
    getTimeoutLoop n items =
      if n ≤ (items.takeWhile (· = 0)).length then
        (items.drop n, 0, List.replicate n (.swallowed 0))
      else
        match items.drop (items.takeWhile (· = 0)).length with
        | [] => ([], 0, List.replicate (items.takeWhile (· = 0)).length (.swallowed 0))
        | x :: r =>
          (r, x, List.replicate (items.takeWhile (· = 0)).length (.swallowed 0) ++ [.delivered x]) :=
  getTimeoutLoop_closed n items

/-- **`RequestQueue.GetTimeout:nil-element-swallowed`, iff**: a timed get loses an element exactly
    when the head of the queue is a nil element, and it loses exactly `min polls (leading nils)` -/
theorem nil_element_swallowed_iff (q : Q) (k : Nat) :
    (swallowedOf (step q (.getTimeout k)).2.2 ≠ [] ↔ q.items.head? = some 0) ∧
    (swallowedOf (step q (.getTimeout k)).2.2).length = min (k + 1) (q.items.takeWhile (· = 0)).length :=
  ⟨swallows_iff q k, swallowed_count q k⟩

/-- the full conservation law of the property (no `swallowed` term) for every history in which no
    nil element is put -/
theorem conservation_without_nil_elements (q : Q) (ops : List Op) (hq : 0 ∉ q.items)
    (hops : ∀ op ∈ ops, op ≠ .put 0 ∧ op ≠ .putForce 0) :
    (q.items ++ acceptedOf (run q ops).2.2).Perm
      (deliveredOf (run q ops).2.2 ++ overflowedOf (run q ops).2.2 ++ clearedOf (run q ops).2.2 ++
        (run q ops).1.items) := by
  have h := Queue.conservation q ops
  rwa [run_no_nil_no_swallow q ops hq hops, List.append_nil] at h

/-- **`RequestDoubleQueue.GetTimeout:nil-element-swallowed`, iff**: the timed get of the double queue
    serves the second queue although the first is not empty exactly when the first queue holds only
    nil elements and the polls that remain after swallowing them (and the leading nils of the second
    queue) reach a non-nil element of the second queue -/
theorem double_timed_get_serves_second_iff (d : DQ) (k : Nat) :
    (d.q1.items ≠ [] ∧ ∃ x, (2, Ev.delivered x) ∈ (dstep d (.getTimeout k)).2.2) ↔
      (d.q1.items ≠ [] ∧ (∀ y ∈ d.q1.items, y = 0) ∧
        ∃ x, x ≠ 0 ∧ ∃ pre post, d.q2.items = pre ++ x :: post ∧ (∀ y ∈ pre, y = 0) ∧
          d.q1.items.length + pre.length < k + 1) :=
  and_congr_right fun _ =>
    (exists_congr (dGetTimeoutLoop_second_delivered_iff (k + 1) d)).trans exists_and_left

/-- … while Get / GetNoWait hand out an element of the second queue iff the first is empty and that
    element is the head of the second -/
theorem double_get_serves_second_iff (d : DQ) (op : DOp) (hop : op = .get ∨ op = .getNoWait) (x : Nat) :
    (2, Ev.delivered x) ∈ (dstep d op).2.2 ↔ d.q1.items = [] ∧ d.q2.items.head? = some x :=
  double_second_get_iff d op hop x

example : (timedGetQ 100 ⟨[], 2⟩ [⟨[], 40⟩, ⟨[.put 7], 80⟩, ⟨[], 120⟩]).2.1 = some (.got 7) := by decide
example : (timedGetQ 100 ⟨[], 2⟩ [⟨[], 40⟩, ⟨[.put 7, .get], 80⟩, ⟨[], 120⟩]).2.1 = some (.timedOut 120) := by decide

/-! ### the code as committed (`stepF`: /repo carries the repair proposed/C11/fix-KF-nil-element-swallowed.diff):
    the exceptions disappear -/

theorem fifo_repaired (q : Q) (ops : List Op) :
    q.items ++ acceptedOf (runF q ops).2.2 = leftOf (runF q ops).2.2 ++ (runF q ops).1.items :=
  runF_fifo q ops

/-- the repaired timed get hands a nil element out like any other: conservation without a `swallowed`
    term, for all elements and histories (`runF` = the model with the repaired GetTimeout) -/
theorem conservation_repaired (q : Q) (ops : List Op) :
    (q.items ++ acceptedOf (runF q ops).2.2).Perm
      (deliveredOf (runF q ops).2.2 ++ overflowedOf (runF q ops).2.2 ++ clearedOf (runF q ops).2.2 ++
        (runF q ops).1.items) := by
  have h := (runF_fifo q ops).conservation
  rwa [runF_swallowed, List.append_nil] at h

/-- the repaired model `stepF` — the code as committed in /repo (the harness compares with it) — differs
    from `step`, the code before the repair, in the timed get only, where it is a single GetNoWait; so every
    per-operation theorem above about put / putForce / get / getNoWait / clear / setCapacity / size holds
    for it verbatim, and `fifo_repaired` / `conservation_repaired` are the history-level statements -/
theorem repaired_model_differs_only_in_timed_get (q : Q) (op : Op) :
    ((∀ k, op ≠ .getTimeout k) → stepF q op = step q op) ∧
    (∀ k, stepF q (.getTimeout k) = step q .getNoWait) :=
  ⟨fun h => by
    cases op with
    | getTimeout k => exact absurd rfl (h k)
    | _ => rfl,
   fun k => stepF_eq q _⟩

/-- … and the double queue's timed get serves the second queue only if the first is empty -/
theorem double_priority_timed_repaired (d : DQ) (k : Nat) (x : Nat)
    (h : (2, Ev.delivered x) ∈ (dstepF d (.getTimeout k)).2.2) : d.q1.items = [] :=
  Queue.double_second_only_if_first_empty d .getNoWait (.inr rfl) x (.inl h)

/-! ### the double queue's composite operations (Size, Clear over two lists) under the outer lock -/

/-- under the queue's lock, Clear is exactly its two halves one after the other, and Size adds two sizes
    read from one and the same state; that nothing of another thread falls between the halves, for every
    schedule, is `composite_body_is_exclusive` below; that every method holds the lock is
    `C11Gen.RequestDoubleQueue_<Method>_locked` -/
theorem composite_ops_are_their_halves (d : DQ) :
    (dstep d .clear).1 = microRun d [.clear1, .clear2] ∧
    (dstep d .size).2.1 = .int (d.q1.size + d.q2.size) ∧ (dstep d .size).1 = d :=
  ⟨rfl, rfl, rfl⟩

open Conc in
/-- for every schedule: while a thread is inside the body of an operation on the double queue (between
    `Lock()` and `Unlock()` of the outer lock), no step of any other thread changes either list, acquires
    the lock or linearizes — the halves of a composite operation see one state -/
theorem composite_body_is_exclusive (c1 c2 : Int) (pre : List (Act DOp)) (s s' : St DQ DOp Ret)
    (hs : runActs SeqSpec.dqstep (initSt ⟨⟨[], c1⟩, ⟨[], c2⟩⟩) pre = some s) (t : Nat) (hcs : inCS (s.ph t))
    (others : List (Act DOp)) (ho : ∀ a ∈ others, a.actor ≠ t)
    (hr : runActs SeqSpec.dqstep s others = some s') :
    s'.sh = s.sh ∧ s'.holder = some t ∧ s'.ph t = s.ph t ∧ linOps s'.log = linOps s.log :=
  foreign_run_in_cs SeqSpec.dqstep _ s s' (reachable_inv SeqSpec.dqstep _ pre s hs) t hcs others ho hr

/-- non-vacuity: a thread inside `Clear` (lock taken, snapshot read) while another has invoked `Put1` -/
example :
    (Conc.runActs SeqSpec.dqstep (Conc.initSt ⟨⟨[], 2⟩, ⟨[], 2⟩⟩)
      [.inv 1 .clear, .acq 1, .load 1, .inv 2 (.put1 7)]).map (fun s => (s.holder, Conc.linOps s.log)) =
    some (some 1, []) := by rfl

/-- **what the outer lock is for**: done as two separately locked halves (each list still protected by its
    own mutex — no data race, no sequential difference) Clear is not atomic: `clear1 ; put1 b ; put2 c ;
    clear2` leaves `b`, put first, in list 1 while `c`, put later, is gone; no atomic Clear before, between
    or after the two puts does that … -/
theorem finding_two_step_clear_not_atomic :
    let d : DQ := ⟨⟨[], 0⟩, ⟨[], 0⟩⟩
    microRun d [.clear1, .put1 7, .put2 8, .clear2] = ⟨⟨[7], 0⟩, ⟨[], 0⟩⟩ ∧
    microRun d [.clear1, .put1 7, .put2 8, .clear2] ∉ atomicClearOutcomes d 7 8 := by decide

/-- … and Size can report a number of elements the queue never held: list 1 holds one element, Size reads
    1, another thread takes it and puts one into list 2, Size reads 1 again and answers 2 -/
theorem finding_two_step_size_not_atomic :
    let d0 : DQ := ⟨⟨[5], 0⟩, ⟨[], 0⟩⟩
    let d1 := microRun d0 [.take, .put2 6]
    d0.q1.size + d1.q2.size = 2 ∧
    (d0.q1.size + d0.q2.size = 1) ∧ ((micro d0 .take).q1.size + (micro d0 .take).q2.size = 0) ∧
    (d1.q1.size + d1.q2.size = 1) := by decide

/-! ### concurrent: the queue as a monitor object — any number of producers and consumers, any
    schedule, consumers that block before the first producer arrives included -/

open Conc.Cond in
/-- the monitor machine is linearizable for every sequential object and broadcast table -/
theorem monitor_linearizable {σ Op' Ret' : Type} (step' : σ → Op' → Option (σ × Ret'))
    (bc : Op' → Bool) (init : σ) (sched : List (Act Op')) (s : St σ Op' Ret')
    (h : runActs step' bc (initSt init) sched = some s) :
    Conc.wn s.log ∧ retsOk step' init s.log ∧ s.sh = seqState step' init s.log :=
  Conc.Cond.monitor_linearizable step' bc init sched s h

/-- **no_lost_wakeup.**  In every reachable state a thread sits in the wait set only if it is a
    `get` and the queue is empty — at every instant, since this is an invariant.  (It rests on:
    Wait releases the lock and joins the wait set atomically; every operation that can make the
    queue non-empty broadcasts — `queue_H`, tied to the source by C11Gen.) -/
theorem no_lost_wakeup (q0 : Q) (sched : List (Conc.Cond.Act Op)) (s : Conc.Cond.St Q Op CRet)
    (h : Conc.Cond.runActs cstep qbcast (Conc.Cond.initSt q0) sched = some s) (t : Nat) (op : Op)
    (hw : s.ph t = .waiting op) : op = .get ∧ s.sh.items = [] :=
  (cstep_none_iff _ _).1 (Conc.Cond.no_lost_wakeup cstep qbcast queue_H q0 sched s h t op hw)

/-- the producer that makes the queue non-empty moves every waiting consumer out of the wait set -/
theorem put_wakes_waiters (s s1 : Conc.Cond.St Q Op CRet) (t u : Nat) (op' : Op)
    (hw : s.ph t = .waiting .get) (hl : s.ph u = .locked op') (hb : qbcast op' = true)
    (hn : Conc.Cond.next cstep qbcast s (.body u) = some s1) : s1.ph t = .woken .get := by
  have hs : cstep s.sh op' = some (step s.sh op') :=
    if_neg fun h => by rw [h.1] at hb; exact nomatch hb
  exact (Conc.Cond.woken_by_enabler cstep qbcast s s1 t u .get op' _ _ hw hl hs hb hn).1

/-- **a blocked get returns as soon as an element is available and it is scheduled**: with the lock
    free and a non-empty queue, the consumer's next four steps succeed and return the head. -/
theorem blocked_get_returns (q0 : Q) (sched : List (Conc.Cond.Act Op)) (s : Conc.Cond.St Q Op CRet)
    (h : Conc.Cond.runActs cstep qbcast (Conc.Cond.initSt q0) sched = some s) (t : Nat)
    (x : Nat) (rest : List Nat)
    (hp : s.ph t = .invoked .get ∨ s.ph t = .woken .get) (hfree : s.holder = none)
    (hi : s.sh.items = x :: rest) :
    ∃ s', Conc.Cond.runActs cstep qbcast s [.acq t, .body t, .rel t, .ret t] = some s' ∧
      s'.sh = { s.sh with items := rest } ∧
      s'.log = .ret t .get (.val x, [.delivered x]) :: .lin t .get (.val x, [.delivered x]) :: s.log ∧
      s'.ph t = .idle :=
  have ⟨s', h1, h2, h3, h4, _⟩ :=
    Conc.Cond.op_completes cstep qbcast s t .get _ _ hp hfree (cstep_get_cons s.sh x rest hi)
  ⟨s', h1, h2, h3, h4⟩

/-! ### progress under explicit fairness — infinite executions, any number of producers and
    consumers, an adversarial scheduler that is only (weakly / strongly) fair to thread `t`

  `IsExec st acts`: an infinite execution of the monitor machine; `WF a`: an action that stays enabled
  forever from some point on is eventually taken; `SF a`: an action that is enabled again and again
  is eventually taken. -/

open Conc.Cond in
/-- **blocked_get_returns under weak fairness.**  Thread `t` is in a `get` (about to lock, or woken
    from the wait set); as long as it has not got the lock, the lock is free and the queue is
    non-empty whenever one looks.  With weak fairness of t's own four actions it returns an element. -/
theorem fair_blocked_get_returns {st : Nat → St Q Op CRet} {acts : Nat → Act Op}
    (hE : IsExec cstep qbcast st acts) (q0 : Q) (h0 : Reach q0 st) (t : Nat)
    (hwa : WF cstep qbcast st acts (.acq t)) (hwb : WF cstep qbcast st acts (.body t))
    (hwr : WF cstep qbcast st acts (.rel t)) (hwt : WF cstep qbcast st acts (.ret t))
    (i : Nat) (hp : (st i).ph t = .invoked .get ∨ (st i).ph t = .woken .get)
    (hG : ∀ j, i ≤ j → ((st j).ph t = .invoked .get ∨ (st j).ph t = .woken .get) →
      (st j).holder = none ∧ (st j).sh.items ≠ []) :
    ∃ j, i < j ∧ ∃ x l, (st j).log = .ret t .get (.val x, [.delivered x]) :: l ∧
      (st j).ph t = .idle := by
  obtain ⟨j, h1, h2, r, l, h3, a, k, v', _, _, _, _, _, _, g7, _⟩ :=
    fair_get_returns_lin hE q0 h0 t .get hwa hwb hwr hwt i hp
      (fun j hj hw => ⟨(hG j hj hw).1, (cstep_get_isSome _).2 (hG j hj hw).2⟩)
  obtain ⟨x, _, _, _, rfl⟩ := cstep_get_some _ _ _ g7
  exact ⟨j, h1, x, l, h3, h2⟩

open Conc.Cond in
/-- **… with a contended lock (strong fairness of the acquisition).**  Other producers and consumers
    may take the lock in between; it suffices that the lock is free again and again and that the queue
    is non-empty whenever `t` wants the lock and finds it free.  The element returned is the head of
    the queue at the moment `t` got the lock. -/
theorem fair_blocked_get_returns_contended {st : Nat → St Q Op CRet} {acts : Nat → Act Op}
    (hE : IsExec cstep qbcast st acts) (q0 : Q) (h0 : Reach q0 st) (t : Nat)
    (hsa : SF cstep qbcast st acts (.acq t)) (hwb : WF cstep qbcast st acts (.body t))
    (hwr : WF cstep qbcast st acts (.rel t)) (hwt : WF cstep qbcast st acts (.ret t))
    (i : Nat) (hp : (st i).ph t = .invoked .get ∨ (st i).ph t = .woken .get)
    (hfree : ∀ j, i ≤ j → ((st j).ph t = .invoked .get ∨ (st j).ph t = .woken .get) →
      ∃ k, j ≤ k ∧ (st k).holder = none)
    (hG : ∀ j, i ≤ j → ((st j).ph t = .invoked .get ∨ (st j).ph t = .woken .get) →
      (st j).holder = none → (st j).sh.items ≠ []) :
    ∃ j, i < j ∧ ∃ x l, (st j).log = .ret t .get (.val x, [.delivered x]) :: l ∧
      (st j).ph t = .idle ∧
      ∃ a k rest, i ≤ a ∧ a < k ∧ k < j ∧ acts a = .acq t ∧ acts k = .body t ∧
        (st k).sh = (st a).sh ∧ (st a).sh.items = x :: rest ∧
        (st (k + 1)).sh = { (st a).sh with items := rest } := by
  obtain ⟨j, h1, h2, r, l, h3, a, k, v', g1, g2, g3, g4, g5, g6, g7, g8⟩ :=
    sfair_get_returns hE q0 h0 t .get hsa hwb hwr hwt i hp hfree
      (fun j hj hw hf => (cstep_get_isSome _).2 (hG j hj hw hf))
  obtain ⟨x, rest, e1, e2, rfl⟩ := cstep_get_some _ _ _ g7
  refine ⟨j, h1, x, l, h3, h2, a, k, rest, g1, g2, g3, g4, g5, g6, by rw [← g6]; exact e1, ?_⟩
  rw [g8, e2, g6]

open Conc.Cond in
/-- **no lost wake-up along an execution.**  A consumer that is in the wait set at `i` has been moved
    out of it (is `woken`) at the latest at the first moment the queue is non-empty — and it was a
    `get` waiting on an empty queue. -/
theorem waiter_leaves_wait_set {st : Nat → St Q Op CRet} {acts : Nat → Act Op}
    (hE : IsExec cstep qbcast st acts) (q0 : Q) (h0 : Reach q0 st) (t : Nat) (op : Op)
    (i k : Nat) (hik : i ≤ k) (hw : (st i).ph t = .waiting op) (hq : (st k).sh.items ≠ []) :
    op = .get ∧ (st i).sh.items = [] ∧
    ∃ j, i < j ∧ j ≤ k ∧ (st j).ph t = .woken op ∧
      ∀ m, i ≤ m → m < j → (st m).ph t = .waiting op := by
  have hb := (cstep_none_iff _ _).1 ((exec_cinv hE queue_H q0 h0 i).blocked t op hw)
  exact ⟨hb.1, hb.2, waiting_wakes hE queue_H q0 h0 t op i k hik hw
    (cstep_isSome_of_nonempty _ op hq)⟩

open Conc.Cond in
/-- waiter + contention: a consumer blocked before any producer arrived returns an element once the
    queue becomes non-empty, under the hypotheses of `fair_blocked_get_returns_contended` -/
theorem fair_waiting_get_returns {st : Nat → St Q Op CRet} {acts : Nat → Act Op}
    (hE : IsExec cstep qbcast st acts) (q0 : Q) (h0 : Reach q0 st) (t : Nat)
    (hsa : SF cstep qbcast st acts (.acq t)) (hwb : WF cstep qbcast st acts (.body t))
    (hwr : WF cstep qbcast st acts (.rel t)) (hwt : WF cstep qbcast st acts (.ret t))
    (i k : Nat) (hik : i ≤ k) (hw : (st i).ph t = .waiting .get) (hq : (st k).sh.items ≠ [])
    (hfree : ∀ j, i ≤ j → ((st j).ph t = .invoked .get ∨ (st j).ph t = .woken .get) →
      ∃ k, j ≤ k ∧ (st k).holder = none)
    (hG : ∀ j, i ≤ j → ((st j).ph t = .invoked .get ∨ (st j).ph t = .woken .get) →
      (st j).holder = none → (st j).sh.items ≠ []) :
    ∃ j, i < j ∧ ∃ x l, (st j).log = .ret t .get (.val x, [.delivered x]) :: l ∧
      (st j).ph t = .idle := by
  obtain ⟨_, _, w, hiw, _, hww, _⟩ := waiter_leaves_wait_set hE q0 h0 t .get i k hik hw hq
  obtain ⟨j, h1, x, l, h2, h3, _⟩ := fair_blocked_get_returns_contended hE q0 h0 t hsa hwb hwr hwt w
    (Or.inr hww) (fun j hj => hfree j (by omega)) (fun j hj => hG j (by omega))
  exact ⟨j, by omega, x, l, h2, h3⟩

open Conc.Cond in
/-- the fairness hypotheses are satisfiable (an explicit infinite execution: a producer puts, the
    consumer gets, forever) -/
theorem fairness_hypotheses_satisfiable :
    ∃ (st : Nat → St Q Op CRet) (acts : Nat → Act Op),
      IsExec cstep qbcast st acts ∧ Reach demoQ st ∧
      WF cstep qbcast st acts (.acq 0) ∧ WF cstep qbcast st acts (.body 0) ∧
      WF cstep qbcast st acts (.rel 0) ∧ WF cstep qbcast st acts (.ret 0) ∧
      (st 6).ph 0 = .invoked .get ∧
      ∀ j, ((st j).ph 0 = .invoked .get ∨ (st j).ph 0 = .woken .get) →
        (st j).holder = none ∧ (st j).sh.items ≠ [] := by
  obtain ⟨st, acts, hE, h0, a, b, c, d, hp, hG⟩ :=
    pingpong_fair_exec cstep qbcast demoQ ⟨[7], 2⟩ (.put 7) .get (.bool true, [.accepted 7])
      (.val 7, [.delivered 7]) (by decide) (by decide)
  exact ⟨st, acts, hE, h0, a, b, c, d, hp,
    fun j hj => ⟨(hG j hj).1, (cstep_get_isSome _).1 (hG j hj).2⟩⟩

section
open Conc.Cond

example : ∃ (st : Nat → St Q Op CRet) (acts : Nat → Act Op), IsExec cstep qbcast st acts ∧
    ∃ j, 6 < j ∧ ∃ x l, (st j).log = .ret 0 .get (.val x, [.delivered x]) :: l ∧
      (st j).ph 0 = .idle := by
  obtain ⟨st, acts, hE, h0, a, b, c, d, hp, hG⟩ := fairness_hypotheses_satisfiable
  exact ⟨st, acts, hE,
    fair_blocked_get_returns hE demoQ h0 0 a b c d 6 (Or.inl hp) (fun j _ h => hG j h)⟩

end

/-- what goes wrong without the broadcast: a consumer waits although the queue holds an element -/
theorem finding_lost_wakeup_without_broadcast : ¬ Conc.Cond.NoEnable cstep (fun _ => false) := by
  intro H
  have := H ⟨[], 0⟩ (.put 7) ⟨[7], 0⟩ (.bool true, [.accepted 7]) (by decide) rfl .get (by decide)
  revert this
  decide

/-- the concurrent execution *is* a sequential history in linearization order -/
theorem concurrent_is_sequential (q0 : Q) (sched : List (Conc.Cond.Act Op)) (s : Conc.Cond.St Q Op CRet)
    (h : Conc.Cond.runActs cstep qbcast (Conc.Cond.initSt q0) sched = some s) :
    (run q0 (opsOf (Conc.linOps s.log))).1 = s.sh ∧
    (run q0 (opsOf (Conc.linOps s.log))).2.2 = evsOf (Conc.linOps s.log) ∧
    (run q0 (opsOf (Conc.linOps s.log))).2.1 = retsOf (Conc.linOps s.log) :=
  conc_run q0 sched s h

/-- **exactly_once.**  Every accepted element is delivered to exactly one consumer, or reported
    evicted, or cleared, or (nil only) swallowed, or still queued — as multisets. -/
theorem exactly_once (q0 : Q) (sched : List (Conc.Cond.Act Op)) (s : Conc.Cond.St Q Op CRet)
    (h : Conc.Cond.runActs cstep qbcast (Conc.Cond.initSt q0) sched = some s) :
    (q0.items ++ acceptedOf (evsOf (Conc.linOps s.log))).Perm
      (deliveredOf (evsOf (Conc.linOps s.log)) ++ overflowedOf (evsOf (Conc.linOps s.log)) ++
        clearedOf (evsOf (Conc.linOps s.log)) ++ swallowedOf (evsOf (Conc.linOps s.log)) ++
        s.sh.items) :=
  Queue.exactly_once q0 sched s h

/-- **per_producer_order.**  For every producer (any predicate on elements): the elements it had
    accepted are delivered in the order they were accepted … -/
theorem per_producer_order (q0 : Q) (sched : List (Conc.Cond.Act Op)) (s : Conc.Cond.St Q Op CRet)
    (h : Conc.Cond.runActs cstep qbcast (Conc.Cond.initSt q0) sched = some s) (p : Nat → Bool) :
    ((deliveredOf (evsOf (Conc.linOps s.log))).filter p).Sublist
      ((q0.items ++ acceptedOf (evsOf (Conc.linOps s.log))).filter p) :=
  (Fifo.order (conc_fifo q0 sched s h)).filter p

/-- … and acceptance order extends each thread's program order: a thread's operations appear in the
    linearization in the order it invoked them (plus at most one pending operation) -/
theorem program_order (q0 : Q) (sched : List (Conc.Cond.Act Op)) (s : Conc.Cond.St Q Op CRet)
    (h : Conc.Cond.runActs cstep qbcast (Conc.Cond.initSt q0) sched = some s) (t : Nat) :
    (Conc.Cond.invsN t s.log).reverse =
      ((Conc.linOps s.log).filter (fun x => x.1 == t)).map (fun x => x.2.1) ++
        Conc.Cond.pendOf (Conc.Cond.absPh (s.ph t)) := by
  rw [Conc.Cond.phase_agrees_with_log cstep qbcast q0 sched s h t]
  exact Conc.Cond.program_order_wn s.log t
    (Conc.Cond.monitor_linearizable cstep qbcast q0 sched s h).1

/-! ### several timed gets on one queue at once (`Queue/TimedMany.lean`; driver line `TM`)

  A history = operations of other threads (`other op`, linearized) and turns of the timed consumers'
  polling loops (`poll i now`), in any order, with any clock readings; each consumer has its own deadline.
  The poll is the repaired one (`poll() (v, taken)`: the code as committed in /repo). -/

/-- **a timed get returns empty-handed only after *its own* timeout**, whatever the other consumers of
    the queue and the producers do: the call of consumer `j`, running at the start, has ended with
    `timedOut t` ⇒ `t` is at or after `j`'s deadline, it ended in a turn of `j` itself, the queue was empty
    in that turn and the call was still running until then -/
theorem timed_gets_each_by_its_own_deadline (s : MSt) (es : List MEv) (j : Nat) (t : Int)
    (h0 : s.res j = none) (h : (mrun s es).1.res j = some (.timedOut t)) :
    ∃ d pre post, s.timeto j = some d ∧ d - t ≤ 0 ∧ es = pre ++ MEv.poll j t :: post ∧
      (mrun s pre).1.q.items = [] ∧ (mrun s pre).1.res j = none := by
  obtain ⟨now, pre, post, hes, hn, hm⟩ := mrun_ended s es j _ h0 h
  rcases mstep_poll_res _ j now _ hn hm with ⟨_, _, _, hr⟩ | ⟨hq, hr, d, hd, hdn⟩ <;> cases hr
  exact ⟨d, pre, post, mrun_timeto s pre j ▸ hd, hdn, hes, hq, hn⟩

/-- nothing but a turn of its own loop ends a timed get: not another consumer reaching its deadline, not
    an element that another consumer took, not a put, a refused put, a Clear (one event) … -/
theorem timed_get_not_ended_by_others (s : MSt) (e : MEv) (j : Nat) (h : ∀ now, e ≠ .poll j now) :
    (mstep s e).1.res j = s.res j :=
  mstep_frame s e j h

/-- … (whole histories in which the consumer has no turn) -/
theorem timed_get_not_ended_by_others_history (s : MSt) (es : List MEv) (j : Nat)
    (h : ∀ now, MEv.poll j now ∉ es) : (mrun s es).1.res j = s.res j := by
  induction es generalizing s with
  | nil => rfl
  | cons e es ih =>
    simp only [mrun]
    rw [ih _ (fun now hm => h now (List.mem_cons_of_mem _ hm))]
    exact mstep_frame s e j (fun now hh => h now (hh ▸ List.mem_cons_self))

/-- a timed get that came back with an element took the head of the queue in a turn of its own -/
theorem timed_gets_got_the_head (s : MSt) (es : List MEv) (j : Nat) (x : Nat)
    (h0 : s.res j = none) (h : (mrun s es).1.res j = some (.got x)) :
    ∃ now pre post r, es = pre ++ MEv.poll j now :: post ∧ (mrun s pre).1.q.items = x :: r ∧
      (mrun s pre).1.res j = none := by
  obtain ⟨now, pre, post, hes, hn, hm⟩ := mrun_ended s es j _ h0 h
  rcases mstep_poll_res _ j now _ hn hm with ⟨y, xs, hq, hr⟩ | ⟨_, hr, _⟩ <;> cases hr
  exact ⟨now, pre, post, xs, hes, hq, hn⟩

/-- an element taken in a turn goes to exactly that consumer: one `delivered` event, the head leaves the
    queue, that consumer's call ends with it, every other consumer's call is untouched -/
theorem timed_gets_deliver_to_exactly_one (s : MSt) (i : Nat) (now : Int) (x : Nat)
    (h : Ev.delivered x ∈ (mstep s (.poll i now)).2) :
    (mstep s (.poll i now)).2 = [.delivered x] ∧ (mstep s (.poll i now)).1.res i = some (.got x) ∧
    s.res i = none ∧ (∃ r, s.q.items = x :: r ∧ (mstep s (.poll i now)).1.q.items = r) ∧
    ∀ j, j ≠ i → (mstep s (.poll i now)).1.res j = s.res j := by
  have hfr := fun j (hj : j ≠ i) =>
    mstep_frame s (.poll i now) j fun n hh => hj (MEv.poll.inj hh).1.symm
  rcases mstep_poll s i now with h1 | ⟨c, r, q', ev, hc, h0, h1, h2⟩ <;> rw [h1] at h hfr ⊢
  · exact nomatch h
  · rcases h2 with ⟨y, xs, hq, rfl, rfl, rfl⟩ | ⟨_, _, _, _, rfl⟩
    · cases List.mem_singleton.mp h
      exact ⟨rfl, (MSt.res_set s _ i i c _ hc).trans (if_pos rfl), by rw [MSt.res, hc]; exact h0,
        ⟨xs, hq, rfl⟩, hfr⟩
    · exact nomatch h

/-- the queue content and the events of a history with any number of timed consumers are those of a
    sequential history of the (repaired) queue model — the turns that found an element are its `GetNoWait`s —
    hence FIFO as the exact list equation and conservation without exception hold for it -/
theorem timed_gets_refine_sequential (s : MSt) (es : List MEv) :
    ∃ ops : List Op, ops.length ≤ es.length ∧
      (mrun s es).1.q = (runF s.q ops).1 ∧ (mrun s es).2 = (runF s.q ops).2.2 :=
  mrun_sequential s es

theorem timed_gets_fifo_and_conservation (s : MSt) (es : List MEv) :
    s.q.items ++ acceptedOf (mrun s es).2 = leftOf (mrun s es).2 ++ (mrun s es).1.q.items ∧
    (s.q.items ++ acceptedOf (mrun s es).2).Perm
      (deliveredOf (mrun s es).2 ++ overflowedOf (mrun s es).2 ++ clearedOf (mrun s es).2 ++
        (mrun s es).1.q.items) := by
  obtain ⟨ops, _, hq, he⟩ := mrun_sequential s es
  rw [hq, he]
  exact ⟨fifo_repaired s.q ops, conservation_repaired s.q ops⟩

/-- deadlines 200 and 1500, no producer — the second call is still running after the first timed out;
    two consumers and one element — the loser is still running, and times out only at its own deadline
    (a GetTimeout woken by any Broadcast, seeded/C11-r7-3, answers otherwise on both) -/
example : ((mrun (MSt.start ⟨[], 10⟩ [200, 1500]) [.poll 0 66, .poll 1 500, .poll 0 201, .poll 1 834]).1.cs.map (·.res)) =
    [some (.timedOut 201), none] := by decide
example : ((mrun (MSt.start ⟨[], 10⟩ [1200, 1200]) [.poll 0 400, .poll 1 400, .other (.put 7), .poll 1 0, .poll 0 900,
    .poll 0 1201]).1.cs.map (·.res)) = [some (.timedOut 1201), some (.got 7)] := by decide
example : (MSt.start ⟨[], 10⟩ [200, 1500]).res 1 = none := by decide

/-! ### the queue over the pointer-level doubly linked list (`Queue/OverLinked.lean`; driver line `QL`)

  `stepL` is RequestQueue written the way the Go methods are — `Size()`, `Add`, `RemoveFirst`, `Clear` of
  C13's CodeModel of util/list/LinkedList.go (nodes in a heap, first/last/prev/next pointers, a size
  counter) — instead of on a plain list.  -/

/-- one operation from any well-formed list: same return value, same events, well-formed list holding the
    abstract content afterwards -/
theorem queue_over_linked_list_step (ql : QL) (q : Q) (op : Op) (h : RefL ql q) :
    (stepL ql op).2 = (stepF q op).2 ∧ RefL (stepL ql op).1 (stepF q op).1 :=
  stepL_refines ql q op h

/-- **every history** of `NewRequestQueue(cap)` over the linked list returns and reports what the abstract
    queue does; the list stays well-formed and holds exactly the abstract content -/
theorem queue_over_linked_list_refines (cap : Int) (ops : List Op) :
    (runL (QL.new cap) ops).2 = (runF ⟨[], cap⟩ ops).2 ∧
    RefL (runL (QL.new cap) ops).1 (runF ⟨[], cap⟩ ops).1 :=
  runL_refines _ _ ops (RefL.new cap)

/-- hence FIFO (exact list equation) and conservation for the queue over the linked list: the content
    `items` is what the well-formed list holds at the end -/
theorem fifo_and_conservation_over_linked_list (cap : Int) (ops : List Op) :
    ∃ items ids, Lists.Linked.Rep (runL (QL.new cap) ops).1.list ids (items.map encE) ∧
      acceptedOf (runL (QL.new cap) ops).2.2 = leftOf (runL (QL.new cap) ops).2.2 ++ items ∧
      (acceptedOf (runL (QL.new cap) ops).2.2).Perm
        (deliveredOf (runL (QL.new cap) ops).2.2 ++ overflowedOf (runL (QL.new cap) ops).2.2 ++
          clearedOf (runL (QL.new cap) ops).2.2 ++ items) := by
  obtain ⟨h1, _, ids, h2⟩ := runL_refines (QL.new cap) ⟨[], cap⟩ ops (RefL.new cap)
  have e : (runL (QL.new cap) ops).2.2 = (runF ⟨[], cap⟩ ops).2.2 := by rw [h1]
  refine ⟨_, ids, h2, ?_, ?_⟩
  · rw [e]; simpa using fifo_repaired ⟨[], cap⟩ ops
  · rw [e]; simpa using conservation_repaired ⟨[], cap⟩ ops

example : (runL (QL.new 2) [.put 1, .put 2, .put 3, .putForce 4, .get, .getNoWait, .getTimeout 0]).2.1 =
    [.bool true, .bool true, .bool false, .bool false, .val 2, .val 4, .val 0] := by decide

/-- the capacity is changed by `SetCapacity` and by nothing else, and `GetCapacity` returns it -/
theorem capacity_changed_only_by_setCapacity (q : Q) (op : Op) :
    ((stepF q op).1.cap = match op with | .setCapacity c => c | _ => q.cap) ∧
    (stepF q .getCapacity).2.1 = .int q.cap := by
  refine ⟨?_, rfl⟩
  rw [stepF_eq]
  cases op <;> simp only [unTimed, step] <;> (try split) <;> rfl

/-- the double queue's observers (`Size1`, `Size2`, `GetCapacity1`, `GetCapacity2`, `Size`) change nothing, cause
    no event and return the size / capacity of the list they name (`Size`: the sum, read from one state) -/
theorem double_observers_are_pure (d : DQ) :
    dstep d .size1 = (d, .int d.q1.size, []) ∧ dstep d .size2 = (d, .int d.q2.size, []) ∧
    dstep d .getCapacity1 = (d, .int d.q1.cap, []) ∧ dstep d .getCapacity2 = (d, .int d.q2.cap, []) ∧
    dstep d .size = (d, .int (d.q1.size + d.q2.size), []) :=
  ⟨rfl, rfl, rfl, rfl, rfl⟩

example : (run ⟨[], 2⟩ [.put 1, .put 2, .put 3, .putForce 4, .get, .getNoWait, .getNoWait]).2 =
    ([.bool true, .bool true, .bool false, .bool false, .val 2, .val 4, .val 0],
     [.accepted 1, .accepted 2, .failed 3, .overflowed 1, .accepted 4, .delivered 2, .delivered 4]) := by
  decide

example : timedGet (100 + 50) [⟨0, 120⟩, ⟨0, 140⟩, ⟨0, 151⟩] = some (.timedOut 151) := by decide

end C11
