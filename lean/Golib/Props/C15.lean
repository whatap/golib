/-
  Props.C15 — hashes and identifier encodings are the stated pure functions and bijections.

  Every function below is a Lean function of its arguments only, so purity ("the value for a given
  input never changes") holds by construction for the model; the definitions in `Golib.Hash.*` are the
  identities the correspondence harness compares the Go return values with on every run.

  CodeModels: Golib/Hash/{Crc,Murmur,Hexa32,BitIp,Strconv}.lean (transcriptions of the Go code).
  Specs:      `Hash.crc32` (bit-by-bit CRC-32/IEEE), `Murmur.Ref.murmurHash2`, `Murmur.Ref.murmurHash64A`
              (the published algorithms), the identity function for the round trips.
-/
import Golib.Hash.CrcProofs
import Golib.Hash.MurmurProofs
import Golib.Hash.Hexa32Proofs
import Golib.Hash.BitIpProofs
import Golib.Hash.IpProofs

namespace C15

/-- the 256 table entries are the CRC-32 table: entry `i` is eight shift/xor steps of `i` with the
    reflected IEEE polynomial 0xEDB88320 -/
theorem crc_table : Hash.table = (List.range 256).map Hash.crcEntry := Hash.table_eq_entries

/-- `Hash(bs)` is CRC-32 (IEEE) of `bs`, for every byte string: the table-driven loop equals the
    bit-by-bit definition (xor-linearity of the shift register), read as an `int32` -/
theorem hash_is_crc32 (bs : Bytes) (h : WFB bs) : Hash.hash bs = Hash.toI32 (Hash.crc32 bs) := by
  unfold Hash.hash; rw [Hash.hashU_eq_crc32 bs h]

/-- per-byte form of the same fact, for every register value -/
theorem crc_step (c b : Nat) (hb : b < 256) : Hash.crcStep c b = Hash.crc32Step c b := Hash.crcStep_eq c b hb

/-- the string form hashes the string's bytes -/
theorem hashstr (s : Bytes) : Hash.hashStr s = Hash.hash s := rfl

/-- the two 64-bit v2 implementations agree on every input, nil and empty included -/
theorem hash64v2_agree (o : Option Bytes) : Hash.hash64v2 o = Hash.hash64V2 o := Hash.hash64v2_agree o

/-- `GetLongHash` is `Hash64v2` of the bytes (0 on the empty string either way) -/
theorem getLongHash_eq (s : Bytes) : Hash.getLongHash s = Hash.hash64v2 (some s) := by
  unfold Hash.getLongHash
  cases s with
  | nil => rfl
  | cons b bs => rfl

example : Hash.hash [104, 101, 108, 108, 111, 32, 119, 111, 114, 108, 100] = 222957957 := by decide +kernel
example : Hash.toI32 (Hash.crc32 [104, 101, 108, 108, 111, 32, 119, 111, 114, 108, 100]) = 222957957 := by decide +kernel
example : Hash.hash64v2 (some [104, 101, 108, 108, 111, 32, 119, 111, 114, 108, 100]) = -2739238572885903238 := by
  decide +kernel
example : WFB [104, 101, 108, 108, 111] := by decide

/-- **full characterisation** of `MurmurHashByteSeed`: it is the published MurmurHash2 of the input whose
    last `len % 4` bytes are reversed (the Go code indexes the tail from the end) -/
theorem murmur32_is_ref_on_swapped_tail (data : Bytes) (seed : Nat) (hw : WFB data) :
    Murmur.murmur32 data seed = Murmur.Ref.murmurHash2 (Murmur.swapTail data) seed :=
  Murmur.murmur32_eq_ref_swapTail data seed hw

/-- The property as stated is `∀ data seed, murmur32 data seed = murmurHash2 data seed`; it fails on the
    unchanged code (`finding_murmur_tail`).  What holds: equality whenever at most one byte is left over. -/
theorem murmur_ref_partial (data : Bytes) (seed : Nat) (hw : WFB data) (hl : data.length % 4 ≤ 1) :
    Murmur.murmur32 data seed = Murmur.Ref.murmurHash2 data seed := by
  rw [Murmur.murmur32_eq_ref_swapTail data seed hw]
  have ⟨e, _, ht⟩ := Murmur.split_blocks data
  unfold Murmur.swapTail
  -- a tail of at most one byte is its own reverse
  have : (data.drop (data.length / 4 * 4)).reverse = data.drop (data.length / 4 * 4) := by
    generalize data.drop (data.length / 4 * 4) = t at ht
    rcases t with _ | ⟨a, _ | ⟨b, r⟩⟩
    · rfl
    · rfl
    · simp at ht; omega
  simp only [this]
  rw [← e]

/-- witness: on the two bytes 01 02 with the default seed the Go function returns 2681676510, the published
    algorithm 2783606710 -/
theorem finding_murmur_tail :
    ¬ (Murmur.murmurByte [1, 2] = Murmur.Ref.murmurHash2 [1, 2] Murmur.defaultSeed) := by decide +kernel

/-- … and it is exactly the value of the reversed tail -/
theorem finding_murmur_tail_value :
    Murmur.murmurByte [1, 2] = 2681676510 ∧ Murmur.Ref.murmurHash2 [1, 2] Murmur.defaultSeed = 2783606710
    ∧ Murmur.Ref.murmurHash2 [2, 1] Murmur.defaultSeed = 2681676510 := by decide +kernel

/-- the stream-lib *Java* port (the file the Go code names as its source) has the same tail order but
    sign-extends tail bytes; on a tail byte ≥ 0x80 the Go value differs from that one too -/
theorem finding_murmur_vs_java_port :
    Murmur.murmurByte [1, 2] = Murmur.Ref.javaMurmur32 [1, 2] Murmur.defaultSeed
    ∧ ¬ (Murmur.murmurByte [128] = Murmur.Ref.javaMurmur32 [128] Murmur.defaultSeed) := by decide +kernel

/-- narrowing of the same finding against the *Java* reference: whenever the left-over bytes are all below 0x80
    (every ASCII input) the Go function **is** the stream-lib Java function; the witness above (byte 0x80) shows the
    hypothesis cannot be dropped -/
theorem murmur_java_partial (data : Bytes) (seed : Nat) (hw : WFB data)
    (h7 : ∀ b ∈ data.drop (data.length / 4 * 4), b < 128) :
    Murmur.murmur32 data seed = Murmur.Ref.javaMurmur32 data seed := by
  have ⟨e, hB, ht⟩ := Murmur.split_blocks data
  have := Murmur.murmur32_blocks_java (data.take (data.length / 4 * 4)) (data.drop (data.length / 4 * 4)) seed _ hB
    (by omega) (by rw [← e]; exact hw) h7
  rw [← e] at this
  exact this

example : ∀ b ∈ ([104, 105, 33] : Bytes).drop (([104, 105, 33] : Bytes).length / 4 * 4), b < 128 := by decide

/-- `MurmurHashLong(d)` is MurmurHash2 of the eight little-endian bytes of `d` with seed 8 -/
theorem murmurLong_ref (d : Nat) (hd : d < 18446744073709551616) :
    Murmur.murmurLong d = Murmur.Ref.murmurHash2 (Murmur.Ref.bytes8 d) 8 := Murmur.murmurLong_ref d hd

/-- `MurmurHash(o uint32) = MurmurHashLong(uint64(o))`: MurmurHash2 of the four little-endian bytes of `o` followed by four
    zero bytes, seed 8 -/
theorem murmurU32_ref (o : Nat) (ho : o < 4294967296) :
    Murmur.murmurU32 o = Murmur.Ref.murmurHash2 (Murmur.Ref.bytes8 o) 8 := by
  unfold Murmur.murmurU32
  rw [Nat.mod_eq_of_lt ho]
  exact Murmur.murmurLong_ref o (by omega)

example : Murmur.Ref.bytes8 4294967295 = [255, 255, 255, 255, 0, 0, 0, 0] := by decide +kernel

/-- `murmurHashLong` / `MurmurHashLongByte` is MurmurHash64A, for every byte string and seed -/
theorem murmur64_ref (data : Bytes) (seed : Nat) (hw : WFB data) :
    Murmur.murmur64 data seed = Murmur.Ref.murmurHash64A data seed := Murmur.murmur64_eq_ref data seed hw

/-- **hashing a prefix of a larger buffer**: `MurmurHashLongByte(buf, n)` with `n ≤ len(buf)` is MurmurHash64A of the first
    `n` bytes, whatever follows them in the caller's buffer (arbitrary trailing bytes) -/
theorem murmurLongByte_prefix (data rest : Bytes) (hw : WFB data) :
    Murmur.murmurLongByte (data ++ rest) data.length = Murmur.Ref.murmurHash64A data Murmur.defaultSeed := by
  unfold Murmur.murmurLongByte
  rw [List.take_left]
  exact Murmur.murmur64_eq_ref data _ hw

/-- … so the value is independent of the bytes behind the hashed region (no hypothesis on them, not even `< 256`) -/
theorem murmurLongByte_frame (data rest rest' : Bytes) :
    Murmur.murmurLongByte (data ++ rest) data.length = Murmur.murmurLongByte (data ++ rest') data.length := by
  unfold Murmur.murmurLongByte
  rw [List.take_left, List.take_left]

/-- only the first `length` bytes are read (here `length = 3 = len`, the rest of the backing array differs) -/
example : Murmur.murmurLongByte [1, 2, 3] 3 = Murmur.murmurLongByte ([1, 2, 3] ++ [9, 9, 9, 9, 9, 9, 9]) 3 :=
  murmurLongByte_frame [1, 2, 3] [] _
example : WFB ([1, 2, 3] : Bytes) := by decide

example : Murmur.murmurByte [1, 2, 3, 4, 5] = Murmur.Ref.murmurHash2 [1, 2, 3, 4, 5] Murmur.defaultSeed := by decide +kernel
example : ([1, 2, 3, 4, 5] : Bytes).length % 4 ≤ 1 := by decide

def i64 (n : Int) : Prop := Hexa32.minInt64 ≤ n ∧ n ≤ Hexa32.maxInt64

/-- decoding the encoding of any 64-bit integer returns it — including −2^63 and ±(2^63−1) -/
theorem hexa_roundtrip (n : Int) (h : i64 n) : Hexa32.toLong32 (Hexa32.toString32 n) = n :=
  Hexa32.toLong32_toString32 n h.1 h.2

/-- hence the encoding is injective on int64 -/
theorem hexa_injective (a b : Int) (ha : i64 a) (hb : i64 b)
    (h : Hexa32.toString32 a = Hexa32.toString32 b) : a = b := by
  rw [← hexa_roundtrip a ha, ← hexa_roundtrip b hb, h]

/-- **bijection, both directions**: `ToString32 ∘ ToLong32` fixes a text **iff** the text is the encoding of some 64-bit
    integer — the encoder's image is exactly the set of texts that survive decode-then-encode, and on it the two functions
    are mutual inverses (no text outside the image is fixed: `ToLong32` is total and stays inside int64, `toLong32_range`) -/
theorem hexa_text_fixed_iff (t : List Char) :
    Hexa32.toString32 (Hexa32.toLong32 t) = t ↔ ∃ n, i64 n ∧ Hexa32.toString32 n = t := by
  constructor
  · intro h
    exact ⟨Hexa32.toLong32 t, Hexa32.toLong32_range t, h⟩
  · rintro ⟨n, hn, rfl⟩
    rw [hexa_roundtrip n hn]

example : ∃ n, i64 n ∧ Hexa32.toString32 n = "x10".toList := ⟨32, by unfold i64; decide, by decide +kernel⟩
/-- a text outside the image: the leading zero is not canonical, decoding accepts it, re-encoding drops it -/
example : Hexa32.toString32 (Hexa32.toLong32 "x010".toList) = "x10".toList := by decide +kernel

/-- documented forms: 0..9 ↦ the decimal digit -/
theorem hexa_form_digit : ∀ k : Fin 10, Hexa32.toString32 (k.val : Int) = [Char.ofNat (48 + k.val)] := by
  decide +kernel
/-- ≥ 10 ↦ `x` followed by the base-32 digits -/
theorem hexa_form_plus (n : Int) (h : 10 ≤ n) : Hexa32.toString32 n = 'x' :: Hexa32.toStr n := by
  unfold Hexa32.toString32
  simp only [show ¬ n < 0 by omega, show ¬ n < 10 by omega, if_false]
/-- < 0 ↦ `z` followed by the base-32 digits of the magnitude -/
theorem hexa_form_minus (n : Int) (h : n < 0) (hm : n ≠ Hexa32.minInt64) :
    Hexa32.toString32 n = 'z' :: Hexa32.toStr (-n) := by
  unfold Hexa32.toString32
  simp only [h, hm, if_true, if_false]
/-- −2^63 ↦ the special text -/
theorem hexa_form_min : Hexa32.toString32 Hexa32.minInt64 = "z8000000000000".toList := by decide +kernel

/-- **canonical form** (the encoding is the stated function, not just an invertible one): after the prefix the
    text is exactly the radix-32 numeral of the magnitude (`Hexa32.refDigits`, positional notation written
    independently of the Go loop): every digit in `0-9a-v`, no leading zero (hence minimal length) -/
theorem hexa_canonical (n : Int) (h : i64 n) :
    (10 ≤ n → Hexa32.toString32 n = 'x' :: Hexa32.refDigits n.toNat)
    ∧ (n < 0 → n ≠ Hexa32.minInt64 → Hexa32.toString32 n = 'z' :: Hexa32.refDigits (-n).toNat)
    ∧ (∀ m : Nat, ∀ c ∈ Hexa32.refDigits m, c ∈ Hexa32.digits.take 32)
    ∧ (∀ m : Nat, 0 < m → ∃ c rest, Hexa32.refDigits m = c :: rest ∧ c ≠ '0') := by
  refine ⟨fun h10 => ?_, fun hneg hmin => ?_, Hexa32.refDigits_alphabet, Hexa32.refDigits_head⟩
  · rw [hexa_form_plus n h10, Hexa32.toStr_canonical n (by omega)]
  · rw [hexa_form_minus n hneg hmin, Hexa32.toStr_canonical (-n) (by omega)]

example : Hexa32.refDigits 32 = "10".toList ∧ Hexa32.refDigits 1024 = "100".toList := by decide +kernel

example : Hexa32.toString32 (-743752992412427445) = "zkkincvom0p5l".toList := by decide +kernel
example : i64 Hexa32.minInt64 ∧ i64 Hexa32.maxInt64 := by unfold i64; decide

open BitUtil in
/-- 64-bit compose/split: the halves come back, and splitting then composing is the identity -/
theorem compose_split_64 :
    (∀ h l, isI32 h → isI32 l → getHigh64 (composite64 h l) = h ∧ getLow64 (composite64 h l) = l)
    ∧ (∀ k, isI64 k → composite64 (getHigh64 k) (getLow64 k) = k) := by
  unfold isI32 isI64 getHigh64 getLow64 composite64 wrap64 wrap32
  refine ⟨fun h l hh hl => ⟨?_, ?_⟩, fun k hk => ?_⟩ <;> omega

open BitUtil in
theorem compose_split_32 :
    (∀ h l, isI16 h → isI16 l → getHigh32 (composite32 h l) = h ∧ getLow32 (composite32 h l) = l)
    ∧ (∀ k, isI32 k → composite32 (getHigh32 k) (getLow32 k) = k) := by
  unfold isI16 isI32 getHigh32 getLow32 composite32 wrap32 wrap16
  refine ⟨fun h l hh hl => ⟨?_, ?_⟩, fun k hk => ?_⟩ <;> omega

open BitUtil in
theorem compose_split_16 :
    (∀ h l, isU8 h → isU8 l → getHigh16 (composite16 h l) = h ∧ getLow16 (composite16 h l) = l)
    ∧ (∀ k, isI16 k → composite16 (getHigh16 k) (getLow16 k) = k) := by
  unfold isU8 isI16 getHigh16 getLow16 composite16 wrap16
  refine ⟨fun h l hh hl => ⟨?_, ?_⟩, fun k hk => ?_⟩ <;> omega

open BitUtil in
/-- setting one half replaces it and leaves the other -/
theorem set_high_low (s v : Int) (hs : isI64 s) (hv : isI32 v) :
    getHigh64 (setHigh64 s v) = v ∧ getLow64 (setHigh64 s v) = getLow64 s
    ∧ getLow64 (setLow64 s v) = v ∧ getHigh64 (setLow64 s v) = getHigh64 s := by
  unfold isI64 isI32 at *
  unfold getHigh64 getLow64 setHigh64 setLow64 wrap64 wrap32
  refine ⟨?_, ?_, ?_, ?_⟩ <;> omega

example : BitUtil.isI32 (-2147483648) ∧ BitUtil.isI64 (-9223372036854775808) ∧ BitUtil.isU8 255 := by
  unfold BitUtil.isI32 BitUtil.isI64 BitUtil.isU8; decide

/-- text ∘ bytes, bytes ∘ text and int ∘ bytes are mutual inverses on all addresses -/
theorem ip_roundtrips :
    (∀ a b c d : Nat, a < 256 → b < 256 → c < 256 → d < 256 →
        (IpUtil.toString [a, b, c, d]).map IpUtil.toBytes = some [a, b, c, d])
    ∧ (∀ s, IpUtil.canonical s → IpUtil.toString (IpUtil.toBytes s) = some s)
    ∧ (∀ i, BitUtil.isI32 i → IpUtil.toInt (IpUtil.toBytesFrInt i) = some i)
    ∧ (∀ a b c d : Nat, a < 256 → b < 256 → c < 256 → d < 256 →
        (IpUtil.toInt [a, b, c, d]).map IpUtil.toBytesFrInt = some [a, b, c, d])
    ∧ (∀ i, (IpUtil.toStringFrInt i).map IpUtil.toBytes = some (IpUtil.toBytesFrInt i)) :=
  ⟨IpUtil.toBytes_toString, IpUtil.toString_toBytes, IpUtil.toInt_toBytesFrInt, IpUtil.toBytesFrInt_toInt,
   IpUtil.toStringFrInt_roundtrip⟩

theorem octet_roundtrip : ∀ n : Fin 256, IpUtil.octet (Strconv.itoaNat n.val) = n.val := IpUtil.octet_itoa

example : IpUtil.toString [127, 0, 0, 1] = some "127.0.0.1".toList := by decide +kernel
example : IpUtil.canonical "127.0.0.1".toList := ⟨127, 0, 0, 1, by decide, by decide, by decide, by decide, by decide +kernel⟩

/-- `ToBytes` is total: four bytes for every text -/
theorem ip_toBytes_total (s : List Char) : (IpUtil.toBytes s).length = 4 ∧ WFB (IpUtil.toBytes s) :=
  IpUtil.toBytes_wf s

/-- **which texts `ToBytes` accepts and what it makes of them**: a text of exactly four dot-separated parts
    gives one byte per part — the part parsed as `strconv.Atoi` does (optional sign, decimal digits only,
    within int64) and reduced mod 256, or 0 if it does not parse; every other text gives 0.0.0.0.
    So leading `+`/`-`, leading zeros and values outside 0..255 are accepted (and wrapped), garbage parts
    count as 0. -/
theorem ip_toBytes_any_text :
    (∀ a b c d : List Char, (∀ x ∈ a, x ≠ '.') → (∀ x ∈ b, x ≠ '.') → (∀ x ∈ c, x ≠ '.') → (∀ x ∈ d, x ≠ '.') →
        IpUtil.toBytes (a ++ '.' :: (b ++ '.' :: (c ++ '.' :: d)))
          = [IpUtil.octet a, IpUtil.octet b, IpUtil.octet c, IpUtil.octet d])
    ∧ (∀ s, (Strconv.splitOn '.' s).length ≠ 4 → IpUtil.toBytes s = [0, 0, 0, 0])
    ∧ (∀ p v, Strconv.atoi p = some v → IpUtil.octet p = (v % 256).toNat)
    ∧ (∀ p, Strconv.atoi p = none → IpUtil.octet p = 0) := by
  open IpUtil in
  refine ⟨fun a b c d ha hb hc hd => ?_, fun s h => ?_, fun p v h => ?_, fun p h => ?_⟩
  · have hne : (a ++ '.' :: (b ++ '.' :: (c ++ '.' :: d))).isEmpty = false := by cases a <;> simp
    simp only [toBytes, hne, Bool.false_eq_true, if_false, splitOn_append _ _ _ ha, splitOn_append _ _ _ hb,
      splitOn_append _ _ _ hc, splitOn_nosep _ _ hd]
  · unfold toBytes
    split
    · rfl
    · split
      · rename_i a b c d hq; rw [hq] at h; simp at h
      · rfl
  · unfold octet; rw [h]
  · unfold octet; rw [h]

/-- concrete non-canonical texts -/
theorem ip_noncanonical_examples :
    IpUtil.toBytes "+1.01.256.-1".toList = [1, 1, 0, 255]
    ∧ IpUtil.toBytes "1.2.3".toList = [0, 0, 0, 0] ∧ IpUtil.toBytes "1.2.3.4.5".toList = [0, 0, 0, 0]
    ∧ IpUtil.toBytes "a.b.c.d".toList = [0, 0, 0, 0] ∧ IpUtil.toBytes " 1.2.3.4".toList = [0, 2, 3, 4]
    ∧ IpUtil.toBytes "99999999999999999999.1.1.1".toList = [0, 1, 1, 1]
    ∧ IpUtil.toBytes "-9223372036854775808.0.0.300".toList = [0, 0, 0, 44] := by decide +kernel

/-- **`ToString ∘ ToBytes` fixes a text iff it is a canonical dotted quad**, and canonicity is the decidable
    syntactic condition "four parts, each the decimal numeral of a value ≤ 255" -/
theorem ip_text_fixed_iff (s : List Char) :
    (IpUtil.toString (IpUtil.toBytes s) = some s ↔ IpUtil.canonical s)
    ∧ (IpUtil.canonical s ↔ IpUtil.isCanonical s = true) := by
  open IpUtil Strconv in
  refine ⟨⟨fun h => ?_, toString_toBytes s⟩, ?_, fun h => ?_⟩
  · have ⟨hl, hw⟩ := toBytes_wf s
    generalize toBytes s = bs at h hl hw
    rcases bs with _ | ⟨a, _ | ⟨b, _ | ⟨c, _ | ⟨d, _ | ⟨e, r⟩⟩⟩⟩⟩ <;> simp at hl
    have ⟨h0, hw⟩ := WFB_cons.mp hw
    have ⟨h1, hw⟩ := WFB_cons.mp hw
    have ⟨h2, hw⟩ := WFB_cons.mp hw
    have ⟨h3, hw⟩ := WFB_cons.mp hw
    simp only [IpUtil.toString, Option.some.injEq] at h
    exact ⟨a, b, c, d, h0, h1, h2, h3, h.symm⟩
  · rintro ⟨a, b, c, d, ha, hb, hc, hd, rfl⟩
    unfold isCanonical
    rw [splitOn_dotted a b c d ha hb hc hd]
    simp [canonPart, octet_itoa' ha, octet_itoa' hb, octet_itoa' hc, octet_itoa' hd]
  · -- four canonical parts: the text is its parts joined by dots, each part the numeral of its octet
    unfold isCanonical at h
    split at h
    · rename_i a b c d hq
      simp only [Bool.and_eq_true, canonPart, decide_eq_true_eq] at h
      obtain ⟨⟨⟨h1, h2⟩, h3⟩, h4⟩ := h
      refine ⟨octet a, octet b, octet c, octet d, octet_lt a, octet_lt b, octet_lt c, octet_lt d, ?_⟩
      have := joinDots_splitOn s
      rw [hq] at this
      simp only [joinDots] at this
      unfold dotted
      rw [h1, h2, h3, h4]
      exact this.symm
    · simp at h

/-- the dotted text of an int32 parses back to that int32 -/
theorem ip_text_int_roundtrip (i : Int) (hi : BitUtil.isI32 i) :
    (IpUtil.toStringFrInt i).map (fun s => IpUtil.toInt (IpUtil.toBytes s)) = some (some i) := by
  have h := IpUtil.toStringFrInt_roundtrip i
  cases hs : IpUtil.toStringFrInt i with
  | none => rw [hs] at h; simp at h
  | some s =>
    rw [hs] at h
    simp only [Option.map_some, Option.some.injEq] at h ⊢
    rw [h, IpUtil.toInt_toBytesFrInt i hi]

theorem ip_toString_injective (a b c d a' b' c' d' : Nat) (ha : a < 256) (hb : b < 256) (hc : c < 256) (hd : d < 256)
    (ha' : a' < 256) (hb' : b' < 256) (hc' : c' < 256) (hd' : d' < 256)
    (h : IpUtil.toString [a, b, c, d] = IpUtil.toString [a', b', c', d']) : [a, b, c, d] = [a', b', c', d'] := by
  have e1 := IpUtil.toBytes_toString a b c d ha hb hc hd
  rw [h, IpUtil.toBytes_toString a' b' c' d' ha' hb' hc' hd'] at e1
  exact (Option.some.inj e1).symm

/-- **`IsOK` is exactly the domain of the conversions**: whatever `ToBytes` (any text) and `ToBytesFrInt` (any int) return
    satisfies it, and every slice that satisfies it comes back from its text and from its int;
    `IsNotLocal` on such a slice says that the first octet is not 127 -/
theorem ip_isOK :
    (∀ s, IpUtil.isOK (IpUtil.toBytes s) = true) ∧ (∀ i, IpUtil.isOK (IpUtil.toBytesFrInt i) = true)
    ∧ (∀ ip, WFB ip → IpUtil.isOK ip = true →
        (IpUtil.toString ip).map IpUtil.toBytes = some ip ∧ (IpUtil.toInt ip).map IpUtil.toBytesFrInt = some ip)
    ∧ (∀ ip, IpUtil.isNotLocal ip = true ↔ IpUtil.isOK ip = true ∧ ip.head? ≠ some 127) := by
  refine ⟨fun s => ?_, fun i => ?_, fun ip hw h => ?_, fun ip => ?_⟩
  · simp [IpUtil.isOK, (IpUtil.toBytes_wf s).1]
  · simp [IpUtil.isOK, (IpUtil.toBytesFrInt_wf i).1]
  · match ip, hw, h with
    | [a, b, c, d], hw, _ =>
      have ha : a < 256 := hw a (by simp)
      have hb : b < 256 := hw b (by simp)
      have hc : c < 256 := hw c (by simp)
      have hd : d < 256 := hw d (by simp)
      exact ⟨IpUtil.toBytes_toString a b c d ha hb hc hd, IpUtil.toBytesFrInt_toInt a b c d ha hb hc hd⟩
  · cases ip with
    | nil => simp [IpUtil.isNotLocal, IpUtil.isOK]
    | cons a t => simp [IpUtil.isNotLocal, IpUtil.isOK]

example : IpUtil.isOK [127, 0, 0, 1] = true ∧ IpUtil.isNotLocal [127, 0, 0, 1] = false
    ∧ IpUtil.isNotLocal [10, 0, 0, 1] = true ∧ IpUtil.isOK [1, 2, 3] = false ∧ IpUtil.isOK [] = false := by decide

example : IpUtil.isCanonical "10.0.0.255".toList = true ∧ IpUtil.isCanonical "10.0.0.256".toList = false
    ∧ IpUtil.isCanonical "010.0.0.1".toList = false := by decide +kernel

/-- the definition as a recurrence: `HashCode("") = 0`, `HashCode(s + b) = 31·HashCode(s) + b` in int64 -/
theorem hashCode_recurrence (s : Bytes) (b : Nat) :
    StrHash.hashCode [] = 0 ∧ StrHash.hashCode (s ++ [b]) = BitUtil.wrap64 (31 * StrHash.hashCode s + (b : Int)) := by
  constructor
  · rfl
  · unfold StrHash.hashCode; rw [List.foldl_append]; rfl

example : StrHash.hashCode [104, 105] = 3329 := by decide +kernel

/-- `int32(HashCode(s))` is Java's `String.hashCode` recurrence in 32-bit arithmetic -/
theorem hashCode_java (s : Bytes) : BitUtil.wrap32 (StrHash.hashCode s) = StrHash.javaHashCode s := by
  open BitUtil in
  -- the two folds stay congruent mod 2^32
  unfold StrHash.hashCode StrHash.javaHashCode
  exact List.foldl_rel (r := fun a b => wrap32 a = b) rfl
    (fun c _ a b h => by subst h; unfold wrap32 wrap64; omega)

end C15
