/-
  C01, tie A — obligations over the facts regenerated from io/DataOutputX.go and
  io/DataInputX.go (lean/Golib/Gen/C01.lean, written by xlate/c01 on every run).

  Three layers:
  * `*_shape` theorems: the regenerated tables equal the canonical tables below (`rfl`, or
    evaluation of the lookups by the kernel).
    They break whenever the source changes shape.
  * semantic theorems: the canonical tables, read with the semantics of Go's integer
    conversions and shifts (`evalPut`, `evalGet`: trusted transcription semantics), compute
    exactly the model's `beN` / `decI` / `decILittle`.  Proved once, for all byte values.
  * interpreted theorems (`*_chain`, `readers_interpreted`, `writers_interpreted`, `array_*_interpreted`,
    `header_interpreted`, `len_prefixed_interpreted`): the regenerated call sequences of the stream
    methods, run with a semantics given here, compute the model's codec of that method.
-/
import Golib.Prim.Extra
import Golib.Prim.GetSem
import Golib.Prim.Api
import Golib.Gen.C01

namespace C01Gen
open Prim

/-! ### writers: `buf[i] = byte(v >> s)` -/

/-- semantics of a put table on the two's-complement pattern `u` of the argument -/
def evalPut (shifts : List (Nat × Nat)) (u : Nat) : Bytes := shifts.map (fun p => u / 2 ^ p.2 % 256)

def shiftsBE : Nat → List (Nat × Nat)
  | 0 => []
  | w+1 => (shiftsBE w).map (fun p => (p.1 + 1, p.2)) |> fun t => (0, 8 * w) :: t

theorem evalPut_shiftsBE (w u : Nat) : evalPut (shiftsBE w) u = beN w u := by
  induction w with
  | zero => rfl
  | succ w ih =>
    simp only [shiftsBE, evalPut, List.map_cons, List.map_map, beN]
    have hf : (fun p : Nat × Nat => u / 2 ^ p.2 % 256) ∘ (fun p : Nat × Nat => (p.1 + 1, p.2))
        = (fun p : Nat × Nat => u / 2 ^ p.2 % 256) := by funext p; rfl
    have ih' : List.map (fun p : Nat × Nat => u / 2 ^ p.2 % 256) (shiftsBE w) = beN w u := ih
    rw [hf, ih', Nat.pow_mul]

/-! The put tables are evaluated on the two's-complement pattern `toU W v`.  That this is what Go's
    `byte(v >> s)` computes for a *signed* `v` (arithmetic shift, then truncation) is proved, not assumed: -/

/-- Go's `byte(v >> s)` on a signed `v` held in `W` bytes (arithmetic shift = floor division,
    conversion to byte = mod 256) is the byte at bit offset `s` of the two's-complement pattern -/
theorem put_byte_signed (W s : Nat) (v : Int) (hs : s + 8 ≤ 8 * W) :
    ((v / (2 : Int) ^ s) % 256).toNat = toU W v / 2 ^ s % 256 := by
  have hd : (2 : Int) ^ s * 256 ∣ modulus W := by
    have : 2 ^ s * 256 ∣ 256 ^ W := by
      rw [show 256 = 2 ^ 8 from rfl, ← Nat.pow_add, ← Nat.pow_mul]; exact Nat.pow_dvd_pow 2 hs
    exact Int.natCast_dvd_natCast.mpr this
  have hp : (0 : Int) < 2 ^ s := Int.pow_pos (by decide)
  apply Int.ofNat_inj.mp
  rw [Int.toNat_of_nonneg (Int.emod_nonneg _ (by decide)), Int.natCast_emod, Int.natCast_ediv,
    natCast_toU, Int.natCast_pow]
  show v / 2 ^ s % 256 = v % modulus W / 2 ^ s % 256
  -- both sides are the byte at `2^s` of a number cut off at `2^s * 256`, which divides the modulus
  rw [← emod_mul_ediv_self v hp (by decide), ← emod_mul_ediv_self (v % modulus W) hp (by decide),
    Int.emod_emod_of_dvd _ hd]

/-- the shift table of width `w`, evaluated on the two's-complement pattern of `v`, is `encI w v` (that the
    pattern's byte at offset `s` is Go's `byte(v >> s)` on the signed `v` is `put_byte_signed`) -/
theorem put_table_signed (w : Nat) (v : Int) :
    evalPut (shiftsBE w) (toU w v) = encI w v := evalPut_shiftsBE w (toU w v)

def lookup {α : Type} (tbl : List (String × α)) (k : String) : Option α :=
  (tbl.find? (fun p => p.1 == k)).map (·.2)

def putExpected : List (String × Option (List (Nat × Nat))) :=
  [("ToBytesShort", some (shiftsBE 2)), ("ToBytesUShort", some (shiftsBE 2)), ("SetBytesShort", some (shiftsBE 2)),
   ("ToBytesInt3", some (shiftsBE 3)), ("SetBytesInt3", some (shiftsBE 3)),
   ("ToBytesInt", some (shiftsBE 4)), ("SetBytesInt", some (shiftsBE 4)),
   ("ToBytesLong5", some (shiftsBE 5)), ("SetBytesLong5", some (shiftsBE 5)),
   ("ToBytesLong", some (shiftsBE 8)), ("SetBytesLong", some (shiftsBE 8))]

/-- every ToBytesX / SetBytesX writes the big-endian shift table of its width, in index order -/
theorem put_shape : putExpected.all (fun e => lookup Gen.C01.putShifts e.1 == some e.2) = true := by
  decide +kernel

def getExpected : List (String × Option (List (Nat × Nat × Bool) × Nat)) :=
  [("ToShort", some (termsBE 2, 0)), ("ToUShort", some (termsBE 2, 0)), ("ToUshort", some (termsBE 2, 0)),
   ("ToInt3", some ([(0, 24, false), (1, 16, false), (2, 8, false)], 8)),
   ("ToInt", some (termsBE 4, 0)), ("ToUint", some (termsBE 4, 0)),
   ("ToLong5", some ([(0, 32, true), (1, 24, false), (2, 16, false), (3, 8, false), (4, 0, false)], 0)),
   ("ToLong", some (termsBE 8, 0)), ("ToLong6", some (termsBE 6, 0)),
   ("ToShortLittle", some (termsLE 2, 0)), ("ToUshortLittle", some (termsLE 2, 0)),
   ("ToIntLittle", some (termsLE 4, 0)), ("ToUintLittle", some (termsLE 4, 0)),
   ("ToLongLittle", some (termsLE 8, 0)), ("ToUlongLittle", some (termsLE 8, 0))]

theorem get_shape : getExpected.all (fun e => lookup Gen.C01.getTerms e.1 == some e.2) = true := by
  decide +kernel

/-! the helpers of every width at once: the big-endian (little-endian) table of `w` summands, summed
    in a `w`-byte result type, is the model's reading of the `w` bytes -/

section
variable {bs : Bytes} (w : Nat) (h : WFB bs) (hl : bs.length = w)
include h hl

theorem get_be_signed : evalGet w true (termsBE w) 0 bs = decI w bs := by
  subst hl; exact evalGet_of_lt (rawSum_termsBE bs) (unbeN_lt bs h) true

theorem get_be_unsigned : evalGet w false (termsBE w) 0 bs = (unbeN bs : Nat) := by
  subst hl; exact evalGet_of_lt (rawSum_termsBE bs) (unbeN_lt bs h) false

theorem get_le_signed : evalGet w true (termsLE w) 0 bs = decILittle w bs := by
  subst hl; exact evalGet_of_lt (rawSum_termsLE bs) (unleN_lt bs h) true

theorem get_le_unsigned : evalGet w false (termsLE w) 0 bs = (unleN bs : Nat) := by
  subst hl; exact evalGet_of_lt (rawSum_termsLE bs) (unleN_lt bs h) false
end

section sem
variable (b0 b1 b2 b3 b4 b5 b6 b7 : Nat)

theorem get_int3 (h0 : b0 < 256) (h1 : b1 < 256) (h2 : b2 < 256) :
    evalGet 4 true [(0, 24, false), (1, 16, false), (2, 8, false)] 8 [b0, b1, b2] = decI 3 [b0, b1, b2] := by
  have hn : unbeN [b0, b1, b2] < 256 ^ 3 := unbeN_lt _ (WFB_cons.mpr ⟨h0, wfb2 h1 h2⟩)
  have hraw : rawSum [b0, b1, b2] [(0, 24, false), (1, 16, false), (2, 8, false)] =
      ((unbeN [b0, b1, b2] * 256 : Nat) : Int) :=
    ((rawSum_scale _ (termsBE 3) 8).trans (congrArg (· * 2 ^ 8) (rawSum_termsBE [b0, b1, b2]))).trans
      (Int.natCast_mul _ 256).symm
  rw [evalGet_eq, if_pos rfl, hraw, toU_of_lt 4 (unbeN [b0, b1, b2] * 256) (by omega)]
  exact ofU_shift 3 _

/-- `ToLong5` sign-extends the first byte instead of narrowing: the sum is already the signed
    five-byte value, and the narrowing to int64 is idle -/
theorem get_long5 (h0 : b0 < 256) (h1 : b1 < 256) (h2 : b2 < 256) (h3 : b3 < 256) (h4 : b4 < 256) :
    evalGet 8 true [(0, 32, true), (1, 24, false), (2, 16, false), (3, 8, false), (4, 0, false)] 0
      [b0, b1, b2, b3, b4] = decI 5 [b0, b1, b2, b3, b4] := by
  have hraw : rawSum [b0, b1, b2, b3, b4] [(0, 32, true), (1, 24, false), (2, 16, false), (3, 8, false), (4, 0, false)] =
      sext8 b0 * 2 ^ 32 + (unbeN [b1, b2, b3, b4] : Nat) := by
    have e : [(0, 32, true), (1, 24, false), (2, 16, false), (3, 8, false), (4, 0, false)] =
        (0, 32, true) :: (termsBE [b1, b2, b3, b4].length).map (fun t => (t.1 + 1, t.2.1, t.2.2)) := rfl
    rw [e, rawSum, rawSum_tail, rawSum_termsBE, if_pos rfl]
    rfl
  rw [evalGet_eq, if_pos rfl, hraw, sext8_top b0 _ h0 (unbeN_lt _ (wfb4 h1 h2 h3 h4))]
  exact (Int.ediv_one _).trans (ofU_toU 8 _ (inRange_mono (by decide)
    (ofU_inRange 5 _ (unbeN_lt [b0, b1, b2, b3, b4] (WFB_cons.mpr ⟨h0, wfb4 h1 h2 h3 h4⟩)))))

/-- `ToLong6` (used by no stream method; exported for six-byte fields): the *unsigned* value of
    six bytes in an int64 — it cannot go negative -/
theorem get_long6 (h0 : b0 < 256) (h1 : b1 < 256) (h2 : b2 < 256) (h3 : b3 < 256) (h4 : b4 < 256)
    (h5 : b5 < 256) :
    evalGet 8 true (termsBE 6) 0 [b0, b1, b2, b3, b4, b5] = (unbeN [b0, b1, b2, b3, b4, b5] : Nat) := by
  have hn : unbeN [b0, b1, b2, b3, b4, b5] < 256 ^ 6 := unbeN_lt _ (wfb6 h0 h1 h2 h3 h4 h5)
  refine (evalGet_of_lt (rawSum_termsBE _) (Nat.lt_trans hn (by decide)) true).trans ?_
  rw [if_pos rfl, ofU, if_pos (by rw [modulus_8]; omega)]

theorem get_long_little (h0 : b0 < 256) (h1 : b1 < 256) (h2 : b2 < 256) (h3 : b3 < 256)
    (h4 : b4 < 256) (h5 : b5 < 256) (h6 : b6 < 256) (h7 : b7 < 256) :
    evalGet 8 true (termsLE 8) 0 [b0, b1, b2, b3, b4, b5, b6, b7] = decILittle 8 [b0, b1, b2, b3, b4, b5, b6, b7] :=
  get_le_signed 8 (wfb8 h0 h1 h2 h3 h4 h5 h6 h7) rfl

theorem get_ulong_little (h0 : b0 < 256) (h1 : b1 < 256) (h2 : b2 < 256) (h3 : b3 < 256)
    (h4 : b4 < 256) (h5 : b5 < 256) (h6 : b6 < 256) (h7 : b7 < 256) :
    evalGet 8 false (termsLE 8) 0 [b0, b1, b2, b3, b4, b5, b6, b7] = (unleN [b0, b1, b2, b3, b4, b5, b6, b7] : Nat) :=
  get_le_unsigned 8 (wfb8 h0 h1 h2 h3 h4 h5 h6 h7) rfl
end sem

/-- the model's `encDecimal` case table: (lo, hi, length byte, payload width) -/
def decimalCases : List (Int × Int × Nat × Nat) :=
  [(0, 0, 0, 0), (-128, 127, 1, 1), (-32768, 32767, 2, 2), (-8388608, 8388607, 3, 3),
   (-2147483648, 2147483647, 4, 4), (-549755813888, 549755813887, 5, 5),
   (-9223372036854775808, 9223372036854775807, 8, 8)]

/-- first-match evaluation of a decimal case table: length byte, then the value in the payload width -/
def encDecimalTbl (v : Int) : List (Int × Int × Nat × Nat) → Bytes
  | [] => []
  | (lo, hi, lb, w) :: rest => if lo ≤ v ∧ v ≤ hi then lb :: encI w v else encDecimalTbl v rest

theorem encDecimal_is_table (v : Int) (h : inRange 8 v) : encDecimal v = encDecimalTbl v decimalCases := by
  by_cases h0 : v = 0
  · subst h0; rfl
  · unfold encDecimal
    simp only [encDecimalTbl, decimalCases, if_neg h0, if_neg (show ¬(0 ≤ v ∧ v ≤ 0) by omega),
      if_pos ((inRange_8 v).mp h)]

theorem decimal_shape :
    Gen.C01.decimalW = decimalCases ∧
    Gen.C01.decimalR = ([(0, 0), (1, 1), (2, 2), (3, 3), (4, 4), (5, 5)], 8) := ⟨rfl, rfl⟩

theorem blob_shape :
    Gen.C01.blobW = ([253, 65535], [(255, 2), (254, 4)]) ∧
    Gen.C01.blobR = ([(255, "u16"), (254, "i32"), (0, "empty")], "self") := ⟨rfl, rfl⟩

/-! the blob tables, interpreted: the regenerated thresholds/markers *are* the model's `encBlob`,
    and the regenerated case list of `ReadBlob` *is* the model's `decBlob`, for all inputs -/

/-- semantics of `blobW`: thresholds of the `sz <=` chain, (marker, width of the length field) -/
def encBlobTbl (t : List Nat × List (Nat × Nat)) (bs : Bytes) : Bytes :=
  match t with
  | ([t1, t2], [(m1, w1), (m2, w2)]) =>
    if bs.length = 0 then [0]
    else if bs.length ≤ t1 then bs.length :: bs
    else if bs.length ≤ t2 then m1 :: (beN w1 bs.length ++ bs)
    else m2 :: (beN w2 bs.length ++ bs)
  | _ => []

theorem encBlob_is_table (bs : Bytes) (h : bs.length < 2147483648) :
    encBlob bs = encBlobTbl Gen.C01.blobW bs := by
  rw [blob_shape.1]
  unfold encBlob encBlobTbl
  simp only [encI_of_lt 4 bs.length (Nat.lt_trans h (by decide))]

/-- semantics of the length-reading tags of `blobR` -/
def lenReader (n : Nat) (tag : String) : P Bytes :=
  if tag = "u16" then P.bind (rdU 2) (fun k => rdBytes k)
  else if tag = "i32" then P.bind (rdI 4) (fun k => if k < 0 then .fail else rdBytes k.toNat)
  else if tag = "empty" then .pure []
  else if tag = "self" then rdBytes n
  else .fail

def decBlobTbl (t : List (Nat × String) × String) : P Bytes :=
  .read 1 (fun b =>
    match t.1.find? (fun p => p.1 == b.headD 0) with
    | some p => lenReader (b.headD 0) p.2
    | none => lenReader (b.headD 0) t.2)

theorem decBlob_is_table : decBlob = decBlobTbl Gen.C01.blobR := by
  rw [blob_shape.2]
  unfold decBlob decBlobTbl
  congr 1
  funext b
  generalize b.headD 0 = n
  split
  · rfl
  · rfl
  · rfl
  · rename_i h255 h254 h0
    rw [List.find?_cons_of_neg (by simpa using Ne.symm h255),
      List.find?_cons_of_neg (by simpa using Ne.symm h254), List.find?_cons_of_neg (by simpa using Ne.symm h0)]
    simp [lenReader]

theorem arrays_shape :
    Gen.C01.arrays = [
      ("ReadDoubleArray", ["ReadShort", "ReadDouble"]), ("ReadFloatArray", ["ReadShort", "ReadFloat"]),
      ("ReadIntArray", ["ReadShort", "ReadInt"]), ("ReadLongArray", ["ReadShort", "ReadLong"]),
      ("ReadShortArray", ["ReadShort", "ReadShort"]), ("ReadTextArray", ["ReadShort", "ReadText"]),
      ("WriteDoubleArray", ["WriteShort", "WriteShort", "WriteDouble"]),
      ("WriteFloatArray", ["WriteShort", "WriteShort", "WriteFloat"]),
      ("WriteIntArray", ["WriteShort", "WriteShort", "WriteInt"]),
      ("WriteLongArray", ["WriteShort", "WriteShort", "WriteLong"]),
      ("WriteShortArray", ["WriteShort", "WriteShort", "WriteShort"]),
      ("WriteTextArray", ["WriteShort", "WriteShort", "WriteText"])] := rfl

theorem written_shape :
    Gen.C01.written = [("WriteBytes", ["+=len(b)"]), ("WriteByte", ["++"]), ("Write", ["+=sz"])] := rfl

/-- `ReadDecimalLen` has the same case table as `ReadDecimal` plus an explicit 8 arm -/
theorem decimalLen_shape :
    Gen.C01.decimalLenR = ([(0, 0), (1, 1), (2, 2), (3, 3), (4, 4), (5, 5), (8, 8)], 8) := rfl

/-- the payload width a length byte `n` selects in a (length byte, width) table, `dflt` if none matches -/
def decDecimalLenTbl (n : Nat) (tbl : List (Nat × Nat)) (dflt : Nat) : Nat :=
  match tbl.find? (fun p => p.1 == n) with
  | some p => p.2
  | none => dflt

theorem decDecimalLen_is_table (n : Nat) :
    decDecimalLen n =
      (match decDecimalLenTbl n Gen.C01.decimalLenR.1 Gen.C01.decimalLenR.2 with
       | 0 => P.pure 0
       | w => rdI w) := by
  rw [decimalLen_shape]
  unfold decDecimalLen decDecimalLenTbl
  match n with
  | 0 | 1 | 2 | 3 | 4 | 5 | 8 => rfl
  | 6 | 7 => rfl
  | n + 9 => simp [List.find?]

/-- `ReadDecimal`'s regenerated case list, interpreted, is the model's `decDecimal` -/
theorem decDecimal_is_table :
    decDecimal = .read 1 (fun b =>
      match decDecimalLenTbl (b.headD 0) Gen.C01.decimalR.1 Gen.C01.decimalR.2 with
      | 0 => P.pure 0
      | w => rdI w) := by
  rw [decimal_shape.2]
  unfold decDecimal
  congr 1
  funext b
  generalize b.headD 0 = n
  unfold decDecimalLen decDecimalLenTbl
  match n with
  | 0 | 1 | 2 | 3 | 4 | 5 => rfl
  | 6 | 7 | 8 => rfl
  | n + 9 => simp [List.find?]

/-- frame headers: reset buffer and counter, then source, version, project code, (hash | oid, key),
    and the old buffer as int-length bytes — the call sequence `Writer.header` / `secureHeader` models -/
theorem header_calls_shape :
    lookup Gen.C01.callSeqs "WriteHeader" =
      some ["buffer.Bytes", "buffer.Reset", "written=0", "WriteByte", "WriteByte", "WriteLong", "WriteLong", "WriteIntBytes"] ∧
    lookup Gen.C01.callSeqs "WriteOneWayHeader" = lookup Gen.C01.callSeqs "WriteHeader" ∧
    lookup Gen.C01.callSeqs "WriteSecureHeader" =
      some ["buffer.Bytes", "buffer.Reset", "written=0", "WriteByte", "WriteByte", "WriteLong", "WriteInt", "WriteInt", "WriteIntBytes"] := by
  decide +kernel

theorem composite_calls_shape :
    lookup Gen.C01.callSeqs "WriteIntBytes" = some ["WriteInt", "WriteInt", "WriteBytes"] ∧
    lookup Gen.C01.callSeqs "WriteShortBytes" = some ["WriteShort", "WriteShort", "WriteBytes"] ∧
    lookup Gen.C01.callSeqs "ReadIntBytes" = some ["ReadInt", "ReadBytes"] ∧
    lookup Gen.C01.callSeqs "ReadIntBytesLimit" = some ["ReadInt", "ReadBytes"] ∧
    lookup Gen.C01.callSeqs "ReadShortBytes" = some ["ReadShort", "ReadBytes"] ∧
    lookup Gen.C01.callSeqs "ReadDecimalArray" = some ["ReadDecimal", "CheckCount", "ReadDecimal"] ∧
    lookup Gen.C01.callSeqs "ReadDecimalArrayInt" = some ["ReadDecimal", "CheckCount", "ReadDecimal"] ∧
    lookup Gen.C01.callSeqs "ReadTextShortLength" = some ["ReadUShort", "ReadBytes"] := by
  decide +kernel

/-- every fixed-width reader asks `ReadBytes` for exactly the width of its field and hands the bytes
    to the conversion whose meaning is proved above (`get_*`); the model's `readOp` reads the same
    widths (`rdI w` / `rdU w` / `rdILittle w` / `rdULittle w`) -/
theorem prim_readers_shape :
    Gen.C01.primReaders =
      [("ReadBool", some (1, "b[0] == 1")), ("ReadByte", some (1, "b[0]")),
       ("ReadDouble", some (8, "ToDouble(b, 0)")), ("ReadFloat", some (4, "ToFloat(b, 0)")),
       ("ReadInt", some (4, "ToInt(b, 0)")), ("ReadInt3", some (3, "ToInt3(b, 0)")),
       ("ReadIntLittle", some (4, "ToIntLittle(b, 0)")), ("ReadLong", some (8, "ToLong(b, 0)")),
       ("ReadLong5", some (5, "ToLong5(b, 0)")), ("ReadShort", some (2, "ToShort(b, 0)")),
       ("ReadShortLittle", some (2, "ToShortLittle(b, 0)")), ("ReadUShort", some (2, "ToUShort(b, 0)")),
       ("ReadUintLittle", some (4, "ToUintLittle(b, 0)")), ("ReadUnsignedInt", some (4, "ToUint(b, 0)")),
       ("ReadUnsignedShort", some (2, "uint16(ToShort(b, 0))")),
       ("ReadUnsignedShortLittle", some (2, "uint16(ToUshortLittle(b, 0))"))] := rfl

/-- every fixed-width writer hands `WriteBytes` the bytes of the packing function of its own width
    (whose shifts are `put_shape`) -/
theorem prim_writers_shape :
    Gen.C01.primWriters =
      [("WriteBool", some "ToBytesBool(b)"), ("WriteDouble", some "ToBytesDouble(b)"),
       ("WriteFloat", some "ToBytesFloat(b)"), ("WriteInt", some "ToBytesInt(b)"),
       ("WriteInt3", some "ToBytesInt3(b)"), ("WriteLong", some "ToBytesLong(b)"),
       ("WriteLong5", some "ToBytesLong5(b)"), ("WriteShort", some "ToBytesShort(b)"),
       ("WriteUShort", some "ToBytesUShort(b)")] := rfl

/-! ### `ReadBytes`: the buffer guard and the connection loop

  The statements of `ReadBytes` as the model reads them: on a byte slice, a size that is negative
  or larger than what is left fails before anything is allocated (`P.run`'s `hasAtLeast` test); on a
  connection, `conn.Read(buff[until:])` is repeated, `left -= n; until += n`, until nothing is
  left, and an error of the connection fails the read — `Prim.Stream.readN`
  (`Prim.Stream.readN_is_loop`).  Golden text: a rewrite of this function has to be re-tied here. -/
theorem readBytes_shape :
    Gen.C01.readBytes =
      ["if in.tcp == nil && (sz < 0 || int(sz) > in.buffer.Len()) {", "panic", "}",
       "in.offset += sz",
       "buff := make([]byte, sz)",
       "if in.tcp != nil {",
       "nbytesleft := int(sz)",
       "nbytesuntilnow := 0",
       "for nbytesleft > 0 {",
       "nbytethistime, err := in.tcp.Read(buff[nbytesuntilnow:])",
       "if err != nil {", "panic", "}",
       "nbytesleft -= nbytethistime",
       "nbytesuntilnow += nbytethistime",
       "}",
       "} else {",
       "if _, err := in.buffer.Read(buff); err != nil {", "panic", "return nil", "}",
       "}",
       "return buff"] := rfl

/-! ### the fixed-width stream readers, interpreted end to end

  `prim_readers_shape` says which helper a `ReadX` hands its bytes to; `get_shape` + `get_*` say what
  the helper computes.  Here the two regenerated tables are composed and given one semantics
  (`readerSem` / `readerValue`), and the composition is proved to be the model's `readOp` for all bytes. -/

/-- Go result type of each conversion helper, (bytes, signed) — transcribed from the signatures -/
def convSig : List (String × (Nat × Bool)) :=
  [("ToShort", (2, true)), ("ToUShort", (2, false)), ("ToInt3", (4, true)), ("ToInt", (4, true)),
   ("ToUint", (4, false)), ("ToLong5", (8, true)), ("ToLong", (8, true)),
   ("ToShortLittle", (2, true)), ("ToUshortLittle", (2, false)), ("ToIntLittle", (4, true)),
   ("ToUintLittle", (4, false))]

/-- the forms of a reader's return expression: the helper applied to the bytes read, and the width
    of an outer unsigned conversion (`uint16(…)`) if there is one -/
def exprForms : List (String × (String × Option Nat)) :=
  [("ToShort(b, 0)", ("ToShort", none)), ("ToUShort(b, 0)", ("ToUShort", none)),
   ("ToInt3(b, 0)", ("ToInt3", none)), ("ToInt(b, 0)", ("ToInt", none)), ("ToUint(b, 0)", ("ToUint", none)),
   ("ToLong5(b, 0)", ("ToLong5", none)), ("ToLong(b, 0)", ("ToLong", none)),
   ("ToShortLittle(b, 0)", ("ToShortLittle", none)), ("ToIntLittle(b, 0)", ("ToIntLittle", none)),
   ("ToUintLittle(b, 0)", ("ToUintLittle", none)),
   ("uint16(ToShort(b, 0))", ("ToShort", some 2)),
   ("uint16(ToUshortLittle(b, 0))", ("ToUshortLittle", some 2))]

structure ReaderData where
  rw : Nat
  signed : Bool
  terms : List (Nat × Nat × Bool)
  shr : Nat
  wrap : Option Nat
deriving DecidableEq

/-- one entry of the regenerated `primReaders`, resolved through `exprForms`, the regenerated
    `getTerms` and `convSig`: bytes asked of `ReadBytes`, and (result width, signed, summands, final
    shift, outer unsigned conversion) -/
def readerSem (name : String) : Option (Nat × ReaderData) :=
  match lookup Gen.C01.primReaders name with
  | some (some (w, expr)) =>
    match lookup exprForms expr with
    | some (conv, wrap) =>
      match lookup Gen.C01.getTerms conv, lookup convSig conv with
      | some (some (terms, shr)), some (rw, sg) => some (w, ⟨rw, sg, terms, shr, wrap⟩)
      | _, _ => none
    | none => none
  | _ => none

/-- the value a reader returns for the bytes `ReadBytes` gave it -/
def readerValue (d : ReaderData) (bs : Bytes) : Int :=
  let f := evalGet d.rw d.signed d.terms d.shr bs
  match d.wrap with
  | none => f
  | some k => f % modulus k

theorem readers_interpreted :
    readerSem "ReadShort" = some (2, ⟨2, true, termsBE 2, 0, none⟩) ∧
    readerSem "ReadUShort" = some (2, ⟨2, false, termsBE 2, 0, none⟩) ∧
    readerSem "ReadUnsignedShort" = some (2, ⟨2, true, termsBE 2, 0, some 2⟩) ∧
    readerSem "ReadInt3" = some (3, ⟨4, true, [(0, 24, false), (1, 16, false), (2, 8, false)], 8, none⟩) ∧
    readerSem "ReadInt" = some (4, ⟨4, true, termsBE 4, 0, none⟩) ∧
    readerSem "ReadUnsignedInt" = some (4, ⟨4, false, termsBE 4, 0, none⟩) ∧
    readerSem "ReadLong5" = some (5, ⟨8, true, [(0, 32, true), (1, 24, false), (2, 16, false), (3, 8, false), (4, 0, false)], 0, none⟩) ∧
    readerSem "ReadLong" = some (8, ⟨8, true, termsBE 8, 0, none⟩) ∧
    readerSem "ReadShortLittle" = some (2, ⟨2, true, termsLE 2, 0, none⟩) ∧
    readerSem "ReadUnsignedShortLittle" = some (2, ⟨2, false, termsLE 2, 0, some 2⟩) ∧
    readerSem "ReadIntLittle" = some (4, ⟨4, true, termsLE 4, 0, none⟩) ∧
    readerSem "ReadUintLittle" = some (4, ⟨4, false, termsLE 4, 0, none⟩) := by
  decide +kernel

theorem readerValue_none (rw : Nat) (sg : Bool) (terms : List (Nat × Nat × Bool)) (shr : Nat) (bs : Bytes) :
    readerValue ⟨rw, sg, terms, shr, none⟩ bs = evalGet rw sg terms shr bs := rfl

/-- an outer `uintN(…)` conversion reads the two's-complement pattern of the helper's result -/
theorem readerValue_some (rw : Nat) (sg : Bool) (terms : List (Nat × Nat × Bool)) (shr k : Nat) (bs : Bytes) :
    readerValue ⟨rw, sg, terms, shr, some k⟩ bs = (toU k (evalGet rw sg terms shr bs) : Nat) :=
  (natCast_toU k _).symm

section chain
variable (b0 b1 b2 b3 b4 b5 b6 b7 : Nat) (r : Bytes)

/-- `ReadShort`, from the regenerated tables to the model: for all bytes -/
theorem read_short_chain (h0 : b0 < 256) (h1 : b1 < 256) :
    ∃ d, readerSem "ReadShort" = some (2, d) ∧
      P.run (readOp (.short 0)) ([b0, b1] ++ r) = some (.short (readerValue d [b0, b1]), r) :=
  ⟨_, readers_interpreted.1, by
    rw [readerValue_none, get_be_signed 2 (wfb2 h0 h1) rfl]
    exact P.run_map_some _ (run_rdI_bytes 2 [b0, b1] r rfl)⟩

theorem read_ushort_chain (h0 : b0 < 256) (h1 : b1 < 256) :
    ∃ d, readerSem "ReadUShort" = some (2, d) ∧
      P.run (readOp (.ushort 0)) ([b0, b1] ++ r) = some (.ushort (readerValue d [b0, b1]).toNat, r) :=
  ⟨_, readers_interpreted.2.1, by
    rw [readerValue_none, get_be_unsigned 2 (wfb2 h0 h1) rfl, Int.toNat_natCast]
    exact P.run_map_some _ (run_rdU_bytes 2 [b0, b1] r rfl)⟩

/-- `ReadUnsignedShort` is `uint16(ToShort(b, 0))`: the signed value wrapped back to 16 bits is the
    unsigned reading -/
theorem read_unsigned_short_chain (h0 : b0 < 256) (h1 : b1 < 256) :
    ∃ d, readerSem "ReadUnsignedShort" = some (2, d) ∧
      P.run (rdU 2) ([b0, b1] ++ r) = some ((readerValue d [b0, b1]).toNat, r) :=
  ⟨_, readers_interpreted.2.2.1, by
    rw [readerValue_some, Int.toNat_natCast, get_be_signed 2 (wfb2 h0 h1) rfl, decI,
      toU_ofU 2 _ (unbeN_lt _ (wfb2 h0 h1))]
    exact run_rdU_bytes 2 [b0, b1] r rfl⟩

theorem read_int3_chain (h0 : b0 < 256) (h1 : b1 < 256) (h2 : b2 < 256) :
    ∃ d, readerSem "ReadInt3" = some (3, d) ∧
      P.run (readOp (.int3 0)) ([b0, b1, b2] ++ r) = some (.int3 (readerValue d [b0, b1, b2]), r) :=
  ⟨_, readers_interpreted.2.2.2.1, by
    rw [readerValue_none, get_int3 b0 b1 b2 h0 h1 h2]
    exact P.run_map_some _ (run_rdI_bytes 3 [b0, b1, b2] r rfl)⟩

theorem read_int_chain (h0 : b0 < 256) (h1 : b1 < 256) (h2 : b2 < 256) (h3 : b3 < 256) :
    ∃ d, readerSem "ReadInt" = some (4, d) ∧
      P.run (readOp (.int 0)) ([b0, b1, b2, b3] ++ r) = some (.int (readerValue d [b0, b1, b2, b3]), r) :=
  ⟨_, readers_interpreted.2.2.2.2.1, by
    rw [readerValue_none, get_be_signed 4 (wfb4 h0 h1 h2 h3) rfl]
    exact P.run_map_some _ (run_rdI_bytes 4 [b0, b1, b2, b3] r rfl)⟩

theorem read_unsigned_int_chain (h0 : b0 < 256) (h1 : b1 < 256) (h2 : b2 < 256) (h3 : b3 < 256) :
    ∃ d, readerSem "ReadUnsignedInt" = some (4, d) ∧
      P.run (rdU 4) ([b0, b1, b2, b3] ++ r) = some ((readerValue d [b0, b1, b2, b3]).toNat, r) :=
  ⟨_, readers_interpreted.2.2.2.2.2.1, by
    rw [readerValue_none, get_be_unsigned 4 (wfb4 h0 h1 h2 h3) rfl, Int.toNat_natCast]
    exact run_rdU_bytes 4 [b0, b1, b2, b3] r rfl⟩

theorem read_long5_chain (h0 : b0 < 256) (h1 : b1 < 256) (h2 : b2 < 256) (h3 : b3 < 256) (h4 : b4 < 256) :
    ∃ d, readerSem "ReadLong5" = some (5, d) ∧
      P.run (readOp (.long5 0)) ([b0, b1, b2, b3, b4] ++ r) =
        some (.long5 (readerValue d [b0, b1, b2, b3, b4]), r) :=
  ⟨_, readers_interpreted.2.2.2.2.2.2.1, by
    rw [readerValue_none, get_long5 b0 b1 b2 b3 b4 h0 h1 h2 h3 h4]
    exact P.run_map_some _ (run_rdI_bytes 5 [b0, b1, b2, b3, b4] r rfl)⟩

theorem read_long_chain (h0 : b0 < 256) (h1 : b1 < 256) (h2 : b2 < 256) (h3 : b3 < 256)
    (h4 : b4 < 256) (h5 : b5 < 256) (h6 : b6 < 256) (h7 : b7 < 256) :
    ∃ d, readerSem "ReadLong" = some (8, d) ∧
      P.run (readOp (.long 0)) ([b0, b1, b2, b3, b4, b5, b6, b7] ++ r) =
        some (.long (readerValue d [b0, b1, b2, b3, b4, b5, b6, b7]), r) :=
  ⟨_, readers_interpreted.2.2.2.2.2.2.2.1, by
    rw [readerValue_none, get_be_signed 8 (wfb8 h0 h1 h2 h3 h4 h5 h6 h7) rfl]
    exact P.run_map_some _ (run_rdI_bytes 8 [b0, b1, b2, b3, b4, b5, b6, b7] r rfl)⟩

theorem read_short_little_chain (h0 : b0 < 256) (h1 : b1 < 256) :
    ∃ d, readerSem "ReadShortLittle" = some (2, d) ∧
      P.run (rdILittle 2) ([b0, b1] ++ r) = some (readerValue d [b0, b1], r) :=
  ⟨_, readers_interpreted.2.2.2.2.2.2.2.2.1, by
    rw [readerValue_none, get_le_signed 2 (wfb2 h0 h1) rfl]
    exact run_rdILittle_bytes 2 [b0, b1] r rfl⟩

theorem read_unsigned_short_little_chain (h0 : b0 < 256) (h1 : b1 < 256) :
    ∃ d, readerSem "ReadUnsignedShortLittle" = some (2, d) ∧
      P.run (rdULittle 2) ([b0, b1] ++ r) = some ((readerValue d [b0, b1]).toNat, r) :=
  ⟨_, readers_interpreted.2.2.2.2.2.2.2.2.2.1, by
    rw [readerValue_some, Int.toNat_natCast, get_le_unsigned 2 (wfb2 h0 h1) rfl,
      toU_of_lt 2 _ (unleN_lt _ (wfb2 h0 h1))]
    exact run_rdULittle_bytes 2 [b0, b1] r rfl⟩

theorem read_int_little_chain (h0 : b0 < 256) (h1 : b1 < 256) (h2 : b2 < 256) (h3 : b3 < 256) :
    ∃ d, readerSem "ReadIntLittle" = some (4, d) ∧
      P.run (rdILittle 4) ([b0, b1, b2, b3] ++ r) = some (readerValue d [b0, b1, b2, b3], r) :=
  ⟨_, readers_interpreted.2.2.2.2.2.2.2.2.2.2.1, by
    rw [readerValue_none, get_le_signed 4 (wfb4 h0 h1 h2 h3) rfl]
    exact run_rdILittle_bytes 4 [b0, b1, b2, b3] r rfl⟩

theorem read_uint_little_chain (h0 : b0 < 256) (h1 : b1 < 256) (h2 : b2 < 256) (h3 : b3 < 256) :
    ∃ d, readerSem "ReadUintLittle" = some (4, d) ∧
      P.run (rdULittle 4) ([b0, b1, b2, b3] ++ r) = some ((readerValue d [b0, b1, b2, b3]).toNat, r) :=
  ⟨_, readers_interpreted.2.2.2.2.2.2.2.2.2.2.2, by
    rw [readerValue_none, get_le_unsigned 4 (wfb4 h0 h1 h2 h3) rfl, Int.toNat_natCast]
    exact run_rdULittle_bytes 4 [b0, b1, b2, b3] r rfl⟩
end chain

-- non-vacuity: the chain computes concrete values from the regenerated tables.  The look-ups are those
-- of `readers_interpreted` (which is what fails when a reader or its helper changes); only the value
-- of the interpreted entry on concrete bytes is evaluated here
example : (readerSem "ReadInt3").map (fun p => readerValue p.2 [255, 255, 254]) = some (-2) := by
  rw [readers_interpreted.2.2.2.1]; decide
example : (readerSem "ReadUnsignedShort").map (fun p => readerValue p.2 [255, 254]) = some 65534 := by
  rw [readers_interpreted.2.2.1]; decide

/-! ### the fixed-width stream writers, interpreted end to end (`prim_writers_shape` ∘ `put_shape`) -/

/-- the forms of the expression a fixed-width writer hands to `WriteBytes` -/
def writerForms : List (String × String) :=
  [("ToBytesShort(b)", "ToBytesShort"), ("ToBytesUShort(b)", "ToBytesUShort"), ("ToBytesInt3(b)", "ToBytesInt3"),
   ("ToBytesInt(b)", "ToBytesInt"), ("ToBytesLong5(b)", "ToBytesLong5"), ("ToBytesLong(b)", "ToBytesLong")]

/-- one entry of the regenerated `primWriters`, resolved to the regenerated shift table of the helper it calls -/
def writerSem (name : String) : Option (List (Nat × Nat)) :=
  match lookup Gen.C01.primWriters name with
  | some (some expr) =>
    match lookup writerForms expr with
    | some helper =>
      match lookup Gen.C01.putShifts helper with
      | some (some t) => some t
      | _ => none
    | none => none
  | _ => none

theorem writers_interpreted :
    writerSem "WriteShort" = some (shiftsBE 2) ∧ writerSem "WriteUShort" = some (shiftsBE 2) ∧
    writerSem "WriteInt3" = some (shiftsBE 3) ∧ writerSem "WriteInt" = some (shiftsBE 4) ∧
    writerSem "WriteLong5" = some (shiftsBE 5) ∧ writerSem "WriteLong" = some (shiftsBE 8) := by
  decide +kernel

/-- from the regenerated tables to the model's `writeOp`, for all values: the bytes a fixed-width
    writer appends are the regenerated shift table of its helper evaluated on the two's-complement
    pattern of the argument (which is what Go's `byte(v >> s)` computes: `put_byte_signed`) -/
theorem write_chain (v : Int) (n : Nat) :
    (∃ t, writerSem "WriteShort" = some t ∧ writeOp (.short v) = evalPut t (toU 2 v)) ∧
    (∃ t, writerSem "WriteUShort" = some t ∧ writeOp (.ushort n) = evalPut t n) ∧
    (∃ t, writerSem "WriteInt3" = some t ∧ writeOp (.int3 v) = evalPut t (toU 3 v)) ∧
    (∃ t, writerSem "WriteInt" = some t ∧ writeOp (.int v) = evalPut t (toU 4 v)) ∧
    (∃ t, writerSem "WriteLong5" = some t ∧ writeOp (.long5 v) = evalPut t (toU 5 v)) ∧
    (∃ t, writerSem "WriteLong" = some t ∧ writeOp (.long v) = evalPut t (toU 8 v)) :=
  ⟨⟨_, writers_interpreted.1, (put_table_signed 2 v).symm⟩,
   ⟨_, writers_interpreted.2.1, (evalPut_shiftsBE 2 n).symm⟩,
   ⟨_, writers_interpreted.2.2.1, (put_table_signed 3 v).symm⟩,
   ⟨_, writers_interpreted.2.2.2.1, (put_table_signed 4 v).symm⟩,
   ⟨_, writers_interpreted.2.2.2.2.1, (put_table_signed 5 v).symm⟩,
   ⟨_, writers_interpreted.2.2.2.2.2, (put_table_signed 8 v).symm⟩⟩

-- the look-up is that of `writers_interpreted`; the shift table is evaluated on a concrete value
example : (writerSem "WriteInt3").map (fun t => evalPut t (toU 3 (-2))) = some [255, 255, 254] := by
  rw [writers_interpreted.2.2.1]; decide

/-! ### the array readers, interpreted (`Gen.C01.arrayReaders`)

  The translator recognises the whole body of a `Read*Array`: count reader, `if sz == 0` shortcut,
  `CheckCount(sz, minBytes)`, `make`, the element loop.  Which reader reads the count and the
  elements is golden (`array_readers_names`); the shortcut and the guard constant are *interpreted*:
  `Prim.arrSemG` runs the structure with whatever constants were regenerated, and it is the model's
  decoder on every input as long as the guard does not ask for more bytes per element than an
  element has (`array_guards_sound`, evaluated on the regenerated constants) — so a harmless change
  of a guard constant keeps the obligation, a harmful one breaks it. -/

def guardOf (name : String) : Nat :=
  match lookup Gen.C01.arrayReaders name with
  | some (some t) => t.2.2.1
  | _ => 0
def zeroOf (name : String) : Bool :=
  match lookup Gen.C01.arrayReaders name with
  | some (some t) => t.2.1
  | _ => false

theorem array_readers_names :
    (Gen.C01.arrayReaders.map (fun e => (e.1, e.2.map (fun t => (t.1, t.2.2.2.1, t.2.2.2.2)))) ==
      [("ReadDecimalArray", some ("ReadDecimal", "ReadDecimal", "")),
       ("ReadDecimalArrayInt", some ("ReadDecimal", "ReadDecimal", "int32")),
       ("ReadDoubleArray", some ("ReadShort", "ReadDouble", "")), ("ReadFloatArray", some ("ReadShort", "ReadFloat", "")),
       ("ReadIntArray", some ("ReadShort", "ReadInt", "")), ("ReadLongArray", some ("ReadShort", "ReadLong", "")),
       ("ReadShortArray", some ("ReadShort", "ReadShort", "")), ("ReadTextArray", some ("ReadShort", "ReadText", ""))]) = true := by
  decide +kernel

/-- no guard asks for more bytes per element than the element's reader consumes -/
theorem array_guards_sound :
    guardOf "ReadShortArray" ≤ 2 ∧ guardOf "ReadIntArray" ≤ 4 ∧ guardOf "ReadLongArray" ≤ 8 ∧
    guardOf "ReadFloatArray" ≤ 4 ∧ guardOf "ReadDoubleArray" ≤ 8 ∧ guardOf "ReadTextArray" ≤ 1 ∧
    guardOf "ReadDecimalArray" ≤ 1 ∧ guardOf "ReadDecimalArrayInt" ≤ 1 := by
  decide +kernel

/-- every array read, run as its regenerated structure says (shortcut, guard constant), is the
    model's array decoder — for all inputs, well formed or not -/
theorem array_readers_interpreted (bs : Bytes) :
    arrSemG (rdI 2) (zeroOf "ReadShortArray") (guardOf "ReadShortArray") (rdI 2) bs = P.run (decArr (rdI 2)) bs ∧
    arrSemG (rdI 2) (zeroOf "ReadIntArray") (guardOf "ReadIntArray") (rdI 4) bs = P.run (decArr (rdI 4)) bs ∧
    arrSemG (rdI 2) (zeroOf "ReadLongArray") (guardOf "ReadLongArray") (rdI 8) bs = P.run (decArr (rdI 8)) bs ∧
    arrSemG (rdI 2) (zeroOf "ReadFloatArray") (guardOf "ReadFloatArray") (rdU 4) bs = P.run (decArr (rdU 4)) bs ∧
    arrSemG (rdI 2) (zeroOf "ReadDoubleArray") (guardOf "ReadDoubleArray") (rdU 8) bs = P.run (decArr (rdU 8)) bs ∧
    arrSemG (rdI 2) (zeroOf "ReadTextArray") (guardOf "ReadTextArray") decBlob bs = P.run (decArr decBlob) bs ∧
    arrSemG decDecimal (zeroOf "ReadDecimalArray") (guardOf "ReadDecimalArray") decDecimal bs = P.run decDecArr bs ∧
    (arrSemG decDecimal (zeroOf "ReadDecimalArrayInt") (guardOf "ReadDecimalArrayInt") decDecimal bs).map
        (fun p => (p.1.map narrow32, p.2)) = P.run decDecArrInt bs :=
  have g := array_guards_sound
  ⟨arrSemG_eq _ _ 2 (consumes_rdI 2) _ _ g.1 bs, arrSemG_eq _ _ 4 (consumes_rdI 4) _ _ g.2.1 bs,
   arrSemG_eq _ _ 8 (consumes_rdI 8) _ _ g.2.2.1 bs, arrSemG_eq _ _ 4 (consumes_rdU 4) _ _ g.2.2.2.1 bs,
   arrSemG_eq _ _ 8 (consumes_rdU 8) _ _ g.2.2.2.2.1 bs, arrSemG_eq _ _ 1 consumes_decBlob _ _ g.2.2.2.2.2.1 bs,
   arrSemG_eq _ _ 1 consumes_decDecimal _ _ g.2.2.2.2.2.2.1 bs,
   by rw [arrSemG_eq _ _ 1 consumes_decDecimal _ _ g.2.2.2.2.2.2.2 bs]; exact (P.run_map _ _ bs).symm⟩

-- non-vacuity: the entries exist and were recognised (no constant is named here: a harmless change of one must not break anything)
example : Gen.C01.arrayReaders.all (fun e => e.2.isSome) = true ∧ 1 ≤ guardOf "ReadLongArray" := by decide +kernel

/-! ### the frame-header writers, interpreted (`header_calls_shape` given a semantics)

  The regenerated call sequence of a header writer is *run*: every call name is a step on the
  stream state (buffer, counter, the saved payload) and takes its arguments in source order.  The
  result is the model's `Writer.header` / `Writer.secureHeader` for all arguments and all streams. -/

inductive HArg where
  | n (v : Nat)
  | i (v : Int)

structure HState where
  w : Writer
  saved : Bytes
  args : List HArg

/-- one call of a header writer's body; arguments are consumed in order -/
def runCall (st : HState) (c : String) : Option HState :=
  if c = "buffer.Bytes" then some { st with saved := st.w.buf }
  else if c = "buffer.Reset" then some { st with w := ⟨[], st.w.written⟩ }
  else if c = "written=0" then some { st with w := ⟨st.w.rev, 0⟩ }
  else if c = "WriteByte" then
    match st.args with
    | .n v :: t => some { st with w := st.w.put [v], args := t }
    | _ => none
  else if c = "WriteLong" then
    match st.args with
    | .i v :: t => some { st with w := st.w.put (encI 8 v), args := t }
    | _ => none
  else if c = "WriteInt" then
    match st.args with
    | .i v :: t => some { st with w := st.w.put (encI 4 v), args := t }
    | _ => none
  else if c = "WriteIntBytes" then some { st with w := st.w.op (.intBytes st.saved) }
  else none

def runCalls : List String → HState → Option HState
  | [], st => some st
  | c :: cs, st =>
    match runCall st c with
    | some st' => runCalls cs st'
    | none => none

/-- a header writer, run as its regenerated call sequence says; every argument must be used -/
def headerSem (name : String) (w : Writer) (args : List HArg) : Option Writer :=
  match lookup Gen.C01.callSeqs name with
  | some cs =>
    match runCalls cs ⟨w, [], args⟩ with
    | some st => if st.args.isEmpty then some st.w else none
    | none => none
  | none => none

theorem header_interpreted (w : Writer) (src ver : Nat) (pcode lic : Int) :
    headerSem "WriteHeader" w [.n src, .n ver, .i pcode, .i lic] = some (w.header src ver pcode lic) ∧
    headerSem "WriteOneWayHeader" w [.n src, .n ver, .i pcode, .i lic] = some (w.header src ver pcode lic) := by
  have h := header_calls_shape
  have h1 : headerSem "WriteHeader" w [.n src, .n ver, .i pcode, .i lic] = some (w.header src ver pcode lic) := by
    simp only [headerSem, h.1]
    rfl
  -- the one-way header has the same call sequence, so it need not be run again
  exact ⟨h1, by rw [← h1]; simp only [headerSem, h.2.1]⟩

theorem secure_header_interpreted (w : Writer) (src ver : Nat) (pcode oid key : Int) :
    headerSem "WriteSecureHeader" w [.n src, .n ver, .i pcode, .i oid, .i key] =
      some (w.secureHeader src ver pcode oid key) := by
  simp only [headerSem, header_calls_shape.2.2]
  rfl

/-! ### the array writers, interpreted (`Gen.C01.arrayWriters`)

  The translator recognises the whole body of a `Write*Array`:
  `if v == nil { out.WriteShort(lit) } else { sz := len(v); out.WriteShort(int16(sz)); for … { out.WriteX(v[i]) } }`.
  Which writers are called is golden (`array_writers_names`); the literal of the nil branch is
  interpreted: the structure, run with the regenerated literal, is the model's `encArr` — and so a
  nil array and an empty one are the same bytes ("nil and empty … are the same value on the wire"). -/

/-- the array writer as its structure says: `none` is a nil slice -/
def arrWSemG (nilLit : Nat) (enc : α → Bytes) : Option (List α) → Bytes
  | none => encI 2 nilLit
  | some xs => encI 2 xs.length ++ encMany enc xs

def nilLitOf (name : String) : Nat :=
  match lookup Gen.C01.arrayWriters name with
  | some (some t) => t.2.1
  | _ => 1

theorem arrWSemG_eq (enc : α → Bytes) (v : Option (List α)) :
    arrWSemG 0 enc v = encArr enc (v.getD []) := by
  cases v with
  | none => simp [arrWSemG, encArr, encMany]
  | some xs => rfl

theorem array_writers_names :
    (Gen.C01.arrayWriters.map (fun e => (e.1, e.2.map (fun t => (t.1, t.2.2.1, t.2.2.2.1, t.2.2.2.2)))) ==
      [("WriteDoubleArray", some ("WriteShort", "WriteShort", "int16", "WriteDouble")),
       ("WriteFloatArray", some ("WriteShort", "WriteShort", "int16", "WriteFloat")),
       ("WriteIntArray", some ("WriteShort", "WriteShort", "int16", "WriteInt")),
       ("WriteLongArray", some ("WriteShort", "WriteShort", "int16", "WriteLong")),
       ("WriteShortArray", some ("WriteShort", "WriteShort", "int16", "WriteShort")),
       ("WriteTextArray", some ("WriteShort", "WriteShort", "int16", "WriteText"))]) = true := by
  decide +kernel

theorem array_writers_nil_literal :
    nilLitOf "WriteShortArray" = 0 ∧ nilLitOf "WriteIntArray" = 0 ∧ nilLitOf "WriteLongArray" = 0 ∧
    nilLitOf "WriteFloatArray" = 0 ∧ nilLitOf "WriteDoubleArray" = 0 ∧ nilLitOf "WriteTextArray" = 0 := by
  decide +kernel

/-- every array writer, run as its regenerated structure says, emits the model's `writeOp` of the
    array op — nil and empty alike -/
theorem array_writers_interpreted (is : Option (List Int)) (ns : Option (List Nat)) (ts : Option (List Bytes)) :
    arrWSemG (nilLitOf "WriteShortArray") (encI 2) is = writeOp (.shortArr (is.getD [])) ∧
    arrWSemG (nilLitOf "WriteIntArray") (encI 4) is = writeOp (.intArr (is.getD [])) ∧
    arrWSemG (nilLitOf "WriteLongArray") (encI 8) is = writeOp (.longArr (is.getD [])) ∧
    arrWSemG (nilLitOf "WriteFloatArray") (beN 4) ns = writeOp (.floatArr (ns.getD [])) ∧
    arrWSemG (nilLitOf "WriteDoubleArray") (beN 8) ns = writeOp (.doubleArr (ns.getD [])) ∧
    arrWSemG (nilLitOf "WriteTextArray") encBlob ts = writeOp (.textArr (ts.getD [])) := by
  have g := array_writers_nil_literal
  rw [g.1, g.2.1, g.2.2.1, g.2.2.2.1, g.2.2.2.2.1, g.2.2.2.2.2]
  exact ⟨arrWSemG_eq _ _, arrWSemG_eq _ _, arrWSemG_eq _ _, arrWSemG_eq _ _, arrWSemG_eq _ _, arrWSemG_eq _ _⟩

/-- nil and empty arrays are the same value on the wire -/
theorem nil_is_empty_array (enc : α → Bytes) : arrWSemG 0 enc none = arrWSemG 0 enc (some []) := by
  rw [arrWSemG_eq, arrWSemG_eq]; rfl

/-! ### the length-prefixed byte-string writers, interpreted (`Gen.C01.lenPrefixed`)

  `if b == nil || len(b) == 0 { out.WriteX(lit) } else { out.WriteX(conv(len(b))); out.WriteBytes(b) }`
  (for `WriteTextShortLength`: `if v == "" …`, `b := []byte(v)`).  The writers called are golden; the
  literal of the nil/empty branch is interpreted. -/

/-- the writer as its structure says, with a `w`-byte length field: `none` is nil -/
def lpSem (w nilLit : Nat) : Option Bytes → Bytes
  | none => encI w nilLit
  | some bs => if bs.length = 0 then encI w nilLit else encI w bs.length ++ bs

def lpLitOf (name : String) : Nat :=
  match lookup Gen.C01.lenPrefixed name with
  | some (some t) => t.2.1
  | _ => 1

theorem len_prefixed_names :
    (Gen.C01.lenPrefixed.map (fun e => (e.1, e.2.map (fun t => (t.1, t.2.2.1, t.2.2.2)))) ==
      [("WriteIntBytes", some ("WriteInt", "WriteInt", "int32")),
       ("WriteShortBytes", some ("WriteShort", "WriteShort", "int16")),
       ("WriteTextShortLength", some ("WriteShort", "WriteShort", "int16"))]) = true := by
  decide +kernel

theorem len_prefixed_nil_literal :
    lpLitOf "WriteIntBytes" = 0 ∧ lpLitOf "WriteShortBytes" = 0 ∧ lpLitOf "WriteTextShortLength" = 0 := by
  decide +kernel

/-- run as their regenerated structure says, the three writers emit the model's `writeOp` — for nil,
    empty and every other byte string the length field can represent -/
theorem len_prefixed_interpreted (v : Option Bytes) (h16 : (v.getD []).length ≤ 65535) :
    lpSem 4 (lpLitOf "WriteIntBytes") v = writeOp (.intBytes (v.getD [])) ∧
    lpSem 2 (lpLitOf "WriteShortBytes") v = writeOp (.shortBytes (v.getD [])) ∧
    lpSem 2 (lpLitOf "WriteTextShortLength") v = writeOp (.textShort (v.getD [])) := by
  have g := len_prefixed_nil_literal
  rw [g.1, g.2.1, g.2.2]
  cases v with
  | none => exact ⟨rfl, rfl, rfl⟩
  | some bs =>
    simp only [Option.getD_some] at h16
    have e2 : encI 2 (bs.length : Int) = beN 2 bs.length := encI_of_lt 2 bs.length (by omega)
    by_cases h0 : bs.length = 0
    · have : bs = [] := List.eq_nil_of_length_eq_zero h0
      subst this
      exact ⟨rfl, rfl, rfl⟩
    · simp only [lpSem, h0, if_false, Option.getD_some, writeOp, encBytes32, encBytes16, e2]
      exact ⟨trivial, trivial, trivial⟩

/-- nil and empty byte strings are the same value on the wire -/
theorem nil_is_empty_bytes (w : Nat) : lpSem w 0 none = lpSem w 0 (some []) := rfl

end C01Gen
