/-
  X03Gen — obligations tying the model Golib.Ext.UdpClient to what xlate/x03 re-reads from the Go source on
  every run (Golib/Gen/X03.lean): constants, the frame writes, the decision skeleton of sendByBuffer /
  sendBuffer / sendUDP / Shutdown / process, the goroutines GetUdpClient starts.
-/
import Golib.Ext.UdpClientLemmas
import Golib.Gen.X03

namespace X03Gen
open Ext.Udp

def lookup (k : String) (xs : List (String × Nat)) : Option Nat := (xs.find? (·.1 == k)).map (·.2)

/-- the constants the model's two configurations use are the source's -/
theorem ucp_consts :
    lookup "UDP_PACKET_BUFFER_CHUNKED_LIMIT" Gen.X03.Ucp.consts = some cfgUcp.limit ∧
    lookup "UDP_PACKET_CHANNEL_MAX" Gen.X03.Ucp.consts = some cfgUcp.chanCap := by decide +kernel
theorem old_consts :
    lookup "UDP_PACKET_BUFFER_CHUNKED_LIMIT" Gen.X03.Old.consts = some cfgOld.limit ∧
    lookup "UDP_PACKET_CHANNEL_MAX" Gen.X03.Old.consts = some cfgOld.chanCap := by decide +kernel

/-- a frame is built by exactly the three writes `encFrame` models, in this order, in both files -/
theorem frame_writes :
    Gen.X03.Ucp.frameWrites =
      ["out.WriteByte(sendData.Type)", "out.WriteInt(sendData.Ver)", "out.WriteIntBytes(sendData.Data)"] ∧
    Gen.X03.Old.frameWrites = Gen.X03.Ucp.frameWrites := ⟨rfl, rfl⟩

/-- the header positions the receiver uses (HEADER_TYPE_POS, VER_POS, LEN_POS, HEADER_SIZE) are where
    `encFrame` puts type, version, length and body — for every frame -/
theorem header_layout (f : Frame) (tp vp lp hs : Nat)
    (h : lookup "UDP_PACKET_HEADER_TYPE_POS" Gen.X03.Ucp.consts = some tp ∧
         lookup "UDP_PACKET_HEADER_VER_POS" Gen.X03.Ucp.consts = some vp ∧
         lookup "UDP_PACKET_HEADER_LEN_POS" Gen.X03.Ucp.consts = some lp ∧
         lookup "UDP_PACKET_HEADER_SIZE" Gen.X03.Ucp.consts = some hs) :
    ((encFrame f).drop tp).take 1 = [f.typ] ∧ ((encFrame f).drop vp).take 4 = Prim.encI 4 f.ver ∧
    ((encFrame f).drop lp).take 4 = Prim.encI 4 f.body.length ∧ (encFrame f).drop hs = f.body ∧
    hs = frameLen ⟨0, 0, []⟩ := by
  have e0 : lookup "UDP_PACKET_HEADER_TYPE_POS" Gen.X03.Ucp.consts = some 0 := by decide +kernel
  have e1 : lookup "UDP_PACKET_HEADER_VER_POS" Gen.X03.Ucp.consts = some 1 := by decide +kernel
  have e5 : lookup "UDP_PACKET_HEADER_LEN_POS" Gen.X03.Ucp.consts = some 5 := by decide +kernel
  have e9 : lookup "UDP_PACKET_HEADER_SIZE" Gen.X03.Ucp.consts = some 9 := by decide +kernel
  obtain ⟨a, b, c, d⟩ := h
  rw [e0] at a; rw [e1] at b; rw [e5] at c; rw [e9] at d
  cases a; cases b; cases c; cases d
  obtain ⟨l0, l1, l5, l9⟩ := encFrame_layout f
  exact ⟨l0, l1, l5, l9, rfl⟩
theorem old_header_consts : ∀ k ∈ ["UDP_PACKET_HEADER_TYPE_POS", "UDP_PACKET_HEADER_VER_POS",
    "UDP_PACKET_HEADER_LEN_POS", "UDP_PACKET_HEADER_SIZE"],
    lookup k Gen.X03.Old.consts = lookup k Gen.X03.Ucp.consts := by decide +kernel

/-- sendByBuffer's decisions, in order, with the state-changing calls of each branch:
      not open → return;  nil → return                                   (`send`: `!s.isOpen`; `Op.sendNil`)
      buffer non-empty ∧ buffer + frame > LIMIT → count, channel send, THEN Reset     (`send`: `over`)
      write error → Close, count                                         (bytes.Buffer.Write never fails: not modelled)
      buffer non-empty ∧ Flush → count, Reset, THEN channel send          (`send`: `flush`)
    The order Reset / channel send is what decides the state after a closed-channel panic. -/
theorem sendByBuffer_skeleton :
    Gen.X03.Ucp.sendByBufferIfs =
      [("!this.isOpen()", []),
       ("sendData == nil", []),
       ("this.buffer.Len() > 0 && this.buffer.Len()+len(sendBytes) > UDP_PACKET_BUFFER_CHUNKED_LIMIT",
          ["this.AddCount", "chan<- this.sendCh", "time.After", "this.buffer.Reset"]),
       ("err != nil", ["this.Close", "this.AddCount"]),
       ("this.buffer.Len() > 0 && sendData.Flush",
          ["this.AddCount", "this.buffer.Reset", "chan<- this.sendCh", "time.After"])] ∧
    Gen.X03.Old.sendByBufferIfs = Gen.X03.Ucp.sendByBufferIfs := ⟨rfl, rfl⟩

/-- sendBuffer (`tick`): buffer non-empty → Reset, channel send, count;  sendUDP: not open → error;
    process (`proc`): sendUDP, then count (with an error on failure);
    Shutdown (`shutdown`): udp != nil → close(channel), sendUDP for what is left, Close, udp.Close — no buffer flush -/
theorem other_skeletons :
    Gen.X03.Ucp.sendBufferIfs =
      [("this.buffer.Len() > 0", ["this.buffer.Reset", "chan<- this.sendCh", "time.After", "this.AddCount"])] ∧
    Gen.X03.Ucp.sendUDPIfs = [("this.isOpen() == false", [])] ∧
    Gen.X03.Ucp.processCalls = ["this.sendUDP", "this.AddCount", "this.AddCount"] ∧
    Gen.X03.Ucp.ShutdownIfs = [("this.udp != nil", ["close", "this.sendUDP", "this.Close", "this.udp.Close"])] ∧
    Gen.X03.Old.sendBufferIfs = Gen.X03.Ucp.sendBufferIfs ∧ Gen.X03.Old.sendUDPIfs = Gen.X03.Ucp.sendUDPIfs ∧
    Gen.X03.Old.processCalls = Gen.X03.Ucp.processCalls ∧ Gen.X03.Old.ShutdownIfs = Gen.X03.Ucp.ShutdownIfs :=
  ⟨rfl, rfl, rfl, rfl, rfl, rfl, rfl, rfl⟩

/-- finding (source level): net/udp GetUdpClient does not start processRemain — no timer flush — while the
    older client does; and it assigns the singleton twice, the second time a bare new(UdpClient) (nil conf) -/
theorem ucp_goroutines : Gen.X03.Ucp.goroutines = ["func-literal", "udpClient.receive", "udpClient.process"] :=
  rfl
theorem old_goroutines : Gen.X03.Old.goroutines =
    ["func-literal", "udpClient.receive", "udpClient.process", "udpClient.processRemain"] := rfl
theorem finding_singleton_overwritten :
    Gen.X03.Ucp.singletonAssigns = ["newUdpClient(opts...)", "new(UdpClient)"] ∧
    Gen.X03.Old.singletonAssigns = ["new(UdpClient)"] := ⟨rfl, rfl⟩

end X03Gen
