/-
  Golib.Udp.GoIR — a small interpreted IR for the string-handling Go functions tied by C07
  (util/paramtext/ParamKV.go; stringutil.Truncate / ParseInt32 / ParseInt64 / ParseStringZeroToEmpty).

  `xlate/c07` transcribes those function bodies *syntactically* into this IR (expressions,
  assignments, if / else, `for … range`, the counting `for`, return); the IR has a semantics in
  Lean (structural on the syntax; library calls are the byte-list functions of Golib.Udp.ParamKV /
  NumText), and Golib/Props/C07Go.lean proves that the transcribed functions compute the
  hand-written CodeModel *for all inputs*.  An edit of the Go source changes the transcription and
  the proof no longer applies.

  Variables and receiver fields are numbered by the translator (a table is emitted as a comment).
-/
import Golib.Udp.ParamKV
import Golib.Udp.NumText
import Golib.Udp.Process
import Golib.Udp.GoSimp

namespace Udp.Go
open Prim

inductive V where
  | str (b : Bytes)
  | int (n : Int)
  | bool (b : Bool)
  | strs (l : List Bytes)
  | map (m : List (Bytes × Bytes))
  | nil
  | pair (a b : V)
  | ints (l : List Int)
deriving Repr, Inhabited, DecidableEq

/-- library functions and conversions -/
inductive BI where
  | len | split | trimSpace | equalFold | toLower | index | makeMap | newObj
  | parseInt | sprintfD | toInt32 | toInt64 | bufString | mapGet | mapHas
  | makeStrs | itoa | toInt | join | mkKV
deriving DecidableEq, Repr

inductive Op where
  | add | sub | eq | ne | lt | le | and | or
deriving DecidableEq, Repr

mutual
inductive E where
  | var (i : Nat)
  | fld (i : Nat)
  | str (b : Bytes)
  | int (n : Int)
  | nil
  | bi (f : BI) (args : Es)
  | call (f : Nat) (args : Es)
  | slice (e lo hi : E)          -- e[lo:hi]
  | sliceFrom (e lo : E)         -- e[lo:]
  | bin (op : Op) (a b : E)
inductive Es where
  | nil
  | cons (e : E) (r : Es)
end

inductive L where
  | var (i : Nat) | fld (i : Nat) | blank

mutual
inductive S where
  | assign (l : L) (e : E)
  | assign2 (l1 l2 : L) (e : E)                       -- k, v := f(…) / r, err := ParseInt(…) / _, ok := m[k]
  | mapSet (m : L) (k v : E)                          -- m[k] = v
  | bufWrite (b : Nat) (e : E)                        -- b.WriteString(e)
  | idxSet (l : L) (i e : E)                          -- l[i] = e   (a []string)
  | forRangeI (iv vv : L) (e : E) (body : Ss)         -- for i, v := range e   (e an integer slice)
  | ifS (c : E) (t e : Ss)
  | forRange (iv vv : L) (e : E) (body : Ss)          -- for i, v := range e
  | forCount (i : Nat) (init cond bound : E) (body : Ss)   -- for i := init; cond; i++   (at most bound+1 rounds)
  | ret (e : E)
  | ret2 (a b : E)
  | unknown
inductive Ss where
  | nil
  | cons (s : S) (r : Ss)
end

/-- a function: number of parameters (variables 0 … n-1) and body -/
structure Fn where
  params : Nat
  body : Ss

abbrev Store := Nat → V
def upd (s : Store) (i : Nat) (v : V) : Store := fun j => if j = i then v else s j

@[simp] theorem upd_same (s : Store) (i : Nat) (v : V) : upd s i v i = v := by simp [upd]
theorem upd_other (s : Store) (i j : Nat) (v : V) (h : j ≠ i) : upd s i v j = s j := by simp [upd, h]

theorem upd_self (loc : Store) (i : Nat) (v : V) (h : loc i = v) : upd loc i v = loc := by
  funext j; unfold upd; split
  · rename_i e; rw [e, h]
  · rfl

theorem upd_upd (s : Store) (i : Nat) (a b : V) : upd (upd s i a) i b = upd s i b := by
  funext j; simp only [upd]; split <;> rfl

/-- semantics of already interpreted functions: arguments, receiver fields ↦ result -/
abbrev FEnv := Nat → List V → Store → Option V

/-- ASCII case folding -/
def foldByte (b : Nat) : Nat := if 65 ≤ b ∧ b ≤ 90 then b + 32 else b

/-- `strings.EqualFold` on ASCII text: exact when one side contains no letter (only use: the
    separator `=`, `C07Go.foldByte_eq61`) -/
def equalFoldA (a b : Bytes) : Bool := a.map foldByte == b.map foldByte

/-- `strings.Index(s, sep)`; -1 when absent -/
def indexOf (sep : Bytes) : Bytes → Nat → Int
  | [], k => if sep.isEmpty then k else -1
  | x :: xs, k => if sep.isPrefixOf (x :: xs) then k else indexOf sep xs (k + 1)

def mapPutV (m : List (Bytes × Bytes)) (k v : Bytes) : List (Bytes × Bytes) :=
  if m.any (fun e => e.1 == k) then m.map (fun e => if e.1 == k then (k, v) else e) else m ++ [(k, v)]

def mapGetV (m : List (Bytes × Bytes)) (k : Bytes) : Bytes :=
  match m.find? (fun e => e.1 == k) with
  | some e => e.2
  | none => []

/-- the entry for `k'` after `m[k] = v`: replacing in place keeps every key where it was -/
theorem find_put (m : List (Bytes × Bytes)) (k v k' : Bytes) :
    (mapPutV m k v).find? (fun e => e.1 == k') = if k' = k then some (k, v) else m.find? (fun e => e.1 == k') := by
  have hf : ∀ e : Bytes × Bytes, ((if (e.1 == k) = true then (k, v) else e).1 == k') = (e.1 == k') := by
    intro e; by_cases he : e.1 = k <;> simp [he]
  unfold mapPutV
  rw [← List.isSome_find?]
  cases hm : m.find? (fun e => e.1 == k) with
  | none =>
    simp only [Option.isSome_none, Bool.false_eq_true, if_false, List.find?_append]
    by_cases hk : k' = k
    · subst hk; simp [hm]
    · have : ¬ k = k' := fun h => hk h.symm
      simp [hk, this]
  | some e0 =>
    simp only [Option.isSome_some, if_true, List.find?_map, Function.comp_def, hf]
    by_cases hk : k' = k
    · subst hk
      have : e0.1 = k' := by simpa using List.find?_some hm
      simp [hm, this]
    · cases hm' : m.find? (fun e => e.1 == k') with
      | none => simp [hk]
      | some e =>
        have he : e.1 = k' := by simpa using List.find?_some hm'
        simp [hk, he]

theorem mapGet_put (m : List (Bytes × Bytes)) (k v k' : Bytes) :
    mapGetV (mapPutV m k v) k' = if k' = k then v else mapGetV m k' := by
  unfold mapGetV; rw [find_put]; by_cases hk : k' = k <;> simp only [hk, if_true, if_false]

theorem mapAny_put (m : List (Bytes × Bytes)) (k v k' : Bytes) :
    (mapPutV m k v).any (fun e => e.1 == k') = (m.any (fun e => e.1 == k') || k == k') := by
  rw [← List.isSome_find?, ← List.isSome_find?, find_put]
  by_cases hk : k' = k
  · simp [hk]
  · have : ¬ k = k' := fun h => hk h.symm
    simp [hk, this]

def biApply : BI → List V → Option V
  | .len, [.str b] => some (.int b.length)
  | .len, [.strs l] => some (.int l.length)
  | .len, [.ints l] => some (.int l.length)
  | .makeStrs, [.int n] => if 0 ≤ n then some (.strs (List.replicate n.toNat [])) else none
  | .itoa, [.int v] => some (.str (showInt v))
  | .toInt, [.int v] => some (.int v)
  | .join, [.strs l, .str [c]] => some (.str (joinOn c l))
  | .mkKV, [a, b, c] => some (.pair a (.pair b c))     -- the arguments of NewParamKVSeperate, kept for ToStringStr
  | .split, [.str s, .str [c]] => some (.strs (splitOn c s))
  | .trimSpace, [.str s] => some (.str (trim s))
  | .equalFold, [.str a, .str b] => some (.bool (equalFoldA a b))
  | .toLower, [.str a] => some (.str (a.map foldByte))
  | .index, [.str s, .str sep] => some (.int (indexOf sep s 0))
  | .makeMap, [] => some (.map [])
  | .newObj, [] => some .nil
  | .parseInt, [.str s, .int 10, .int bits] =>
      let r := parseIntGo (bits / 8).toNat s
      some (.pair (.int r.1) (if r.2 then .nil else .bool false))   -- (value, err): err is nil or an error object
  | .sprintfD, [.int v] => some (.str (showInt v))
  | .toInt32, [.int v] => some (.int (wrapI 4 v))
  | .toInt64, [.int v] => some (.int (wrapI 8 v))
  | .bufString, [.str b] => some (.str b)
  | .mapGet, [.map m, .str k] => some (.str (mapGetV m k))
  | .mapHas, [.map m, .str k] => some (.pair (.str (mapGetV m k)) (.bool (m.any fun e => e.1 == k)))
  | _, _ => none

def vEq : V → V → Option Bool
  | .str a, .str b => some (a == b)
  | .int a, .int b => some (a == b)
  | .bool a, .bool b => some (a == b)
  | .nil, .nil => some true
  | .strs _, .nil => some false      -- a slice produced by Split is never nil
  | .nil, .strs _ => some false
  | .map _, .nil => some false
  | .bool _, .nil => some false      -- an error object is not nil
  | .nil, .bool _ => some false
  | _, _ => none

def binApply : Op → V → V → Option V
  | .add, .int a, .int b => some (.int (a + b))
  | .add, .str a, .str b => some (.str (a ++ b))
  | .sub, .int a, .int b => some (.int (a - b))
  | .lt, .int a, .int b => some (.bool (decide (a < b)))
  | .le, .int a, .int b => some (.bool (decide (a ≤ b)))
  | .and, .bool a, .bool b => some (.bool (a && b))
  | .or, .bool a, .bool b => some (.bool (a || b))
  | .eq, a, b => (vEq a b).map .bool
  | .ne, a, b => (vEq a b).map (fun r => .bool (!r))
  | _, _, _ => none

/-- `s[lo:hi]`; out-of-range bounds panic -/
def sliceV (s : Bytes) (lo hi : Int) : Option V :=
  if 0 ≤ lo ∧ lo ≤ hi ∧ hi ≤ s.length then some (.str ((s.drop lo.toNat).take (hi.toNat - lo.toNat))) else none

theorem sliceV_eq (s : Bytes) (lo hi : Int) (h : 0 ≤ lo ∧ lo ≤ hi ∧ hi ≤ s.length) :
    sliceV s lo hi = some (.str ((s.drop lo.toNat).take (hi.toNat - lo.toNat))) := if_pos h

mutual
def evalE (fe : FEnv) (loc fld : Store) : E → Option V
  | .var i => some (loc i)
  | .fld i => some (fld i)
  | .str b => some (.str b)
  | .int n => some (.int n)
  | .nil => some .nil
  | .bi f args =>
    match evalEs fe loc fld args with
    | some vs => biApply f vs
    | none => none
  | .call f args =>
    match evalEs fe loc fld args with
    | some vs => fe f vs fld
    | none => none
  | .slice e lo hi =>
    match evalE fe loc fld e, evalE fe loc fld lo, evalE fe loc fld hi with
    | some (.str s), some (.int a), some (.int b) => sliceV s a b
    | _, _, _ => none
  | .sliceFrom e lo =>
    match evalE fe loc fld e, evalE fe loc fld lo with
    | some (.str s), some (.int a) => sliceV s a s.length
    | _, _ => none
  | .bin op a b =>
    match evalE fe loc fld a, evalE fe loc fld b with
    | some x, some y => binApply op x y
    | _, _ => none
def evalEs (fe : FEnv) (loc fld : Store) : Es → Option (List V)
  | .nil => some []
  | .cons e r =>
    match evalE fe loc fld e, evalEs fe loc fld r with
    | some v, some vs => some (v :: vs)
    | _, _ => none
end

structure St where
  loc : Store
  fld : Store

inductive R where
  | norm (st : St)
  | ret (v : V) (fld : Store)
  | fail

def setL (l : L) (v : V) (st : St) : St :=
  match l with
  | .var i => { st with loc := upd st.loc i v }
  | .fld i => { st with fld := upd st.fld i v }
  | .blank => st

def getL (l : L) (st : St) : V :=
  match l with
  | .var i => st.loc i
  | .fld i => st.fld i
  | .blank => .nil

/-- `for i, v := range xs` with early exit -/
def loopRange (body : Nat → Bytes → St → R) : List Bytes → Nat → St → R
  | [], _, st => .norm st
  | x :: xs, k, st =>
    match body k x st with
    | .norm st' => loopRange body xs (k + 1) st'
    | r => r

/-- the same over an integer slice -/
def loopRangeI (body : Nat → Int → St → R) : List Int → Nat → St → R
  | [], _, st => .norm st
  | x :: xs, k, st =>
    match body k x st with
    | .norm st' => loopRangeI body xs (k + 1) st'
    | r => r

/-- `for i := …; cond; i++` with early exit; `fuel` rounds at most -/
def loopCount (i : Nat) (cond : St → Option Bool) (body : St → R) : Nat → St → R
  | 0, _ => .fail
  | fuel + 1, st =>
    match cond st with
    | some true =>
      match body st with
      | .norm st' =>
        match st'.loc i with
        | .int k => loopCount i cond body fuel { st' with loc := upd st'.loc i (.int (k + 1)) }
        | _ => .fail
      | r => r
    | some false => .norm st
    | none => .fail

mutual
def execS (fe : FEnv) : S → St → R
  | .assign l e, st =>
    match evalE fe st.loc st.fld e with
    | some v => .norm (setL l v st)
    | none => .fail
  | .assign2 l1 l2 e, st =>
    match evalE fe st.loc st.fld e with
    | some (.pair a b) => .norm (setL l2 b (setL l1 a st))
    | _ => .fail
  | .mapSet m k v, st =>
    match getL m st, evalE fe st.loc st.fld k, evalE fe st.loc st.fld v with
    | .map mm, some (.str kk), some (.str vv) => .norm (setL m (.map (mapPutV mm kk vv)) st)
    | _, _, _ => .fail
  | .bufWrite b e, st =>
    match st.loc b, evalE fe st.loc st.fld e with
    | .str cur, some (.str x) => .norm { st with loc := upd st.loc b (.str (cur ++ x)) }
    | _, _ => .fail
  | .idxSet l i e, st =>
    match getL l st, evalE fe st.loc st.fld i, evalE fe st.loc st.fld e with
    | .strs xs, some (.int k), some (.str v) =>
      if 0 ≤ k ∧ k < xs.length then .norm (setL l (.strs (xs.set k.toNat v)) st) else .fail
    | _, _, _ => .fail
  | .forRangeI iv vv e body, st =>
    match evalE fe st.loc st.fld e with
    | some (.ints xs) =>
      loopRangeI (fun k x s => execSs fe body (setL vv (.int x) (setL iv (.int k) s))) xs 0 st
    | _ => .fail
  | .ifS c t e, st =>
    match evalE fe st.loc st.fld c with
    | some (.bool true) => execSs fe t st
    | some (.bool false) => execSs fe e st
    | _ => .fail
  | .forRange iv vv e body, st =>
    match evalE fe st.loc st.fld e with
    | some (.strs xs) =>
      loopRange (fun k x s => execSs fe body (setL vv (.str x) (setL iv (.int k) s))) xs 0 st
    | _ => .fail
  | .forCount i init cond bound body, st =>
    match evalE fe st.loc st.fld init, evalE fe st.loc st.fld bound with
    | some (.int a), some (.int b) =>
      loopCount i (fun s => match evalE fe s.loc s.fld cond with | some (.bool c) => some c | _ => none)
        (fun s => execSs fe body s) (b.toNat + 2) { st with loc := upd st.loc i (.int a) }
    | _, _ => .fail
  | .ret e, st =>
    match evalE fe st.loc st.fld e with
    | some v => .ret v st.fld
    | none => .fail
  | .ret2 a b, st =>
    match evalE fe st.loc st.fld a, evalE fe st.loc st.fld b with
    | some x, some y => .ret (.pair x y) st.fld
    | _, _ => .fail
  | .unknown, _ => .fail
def execSs (fe : FEnv) : Ss → St → R
  | .nil, st => .norm st
  | .cons s r, st =>
    match execS fe s st with
    | .norm st' => execSs fe r st'
    | res => res
end

/-! ### named unfolding lemmas

The proofs about transcribed functions (Golib/Props/C07Go.lean) unfold the interpreter with these
lemmas; loops stay folded (`condFn`, `bodyFn`, `rangeFn`) until they are applied to a concrete state. -/

def condFn (fe : FEnv) (cond : E) : St → Option Bool :=
  fun s => match evalE fe s.loc s.fld cond with | some (.bool c) => some c | _ => none
def bodyFn (fe : FEnv) (body : Ss) : St → R := fun s => execSs fe body s
def rangeFn (fe : FEnv) (iv vv : L) (body : Ss) : Nat → Bytes → St → R :=
  fun k x s => execSs fe body (setL vv (.str x) (setL iv (.int k) s))

theorem execS_assign (fe : FEnv) (l : L) (e : E) (st : St) :
    execS fe (.assign l e) st = match evalE fe st.loc st.fld e with
      | some v => .norm (setL l v st) | none => .fail := by simp only [execS]
theorem execS_assign2 (fe : FEnv) (l1 l2 : L) (e : E) (st : St) :
    execS fe (.assign2 l1 l2 e) st = match evalE fe st.loc st.fld e with
      | some (.pair a b) => .norm (setL l2 b (setL l1 a st)) | _ => .fail := by simp only [execS]
theorem execS_mapSet (fe : FEnv) (m : L) (k v : E) (st : St) :
    execS fe (.mapSet m k v) st = match getL m st, evalE fe st.loc st.fld k, evalE fe st.loc st.fld v with
      | .map mm, some (.str kk), some (.str vv) => .norm (setL m (.map (mapPutV mm kk vv)) st)
      | _, _, _ => .fail := by simp only [execS]
theorem execS_bufWrite (fe : FEnv) (b : Nat) (e : E) (st : St) :
    execS fe (.bufWrite b e) st = match st.loc b, evalE fe st.loc st.fld e with
      | .str cur, some (.str x) => .norm { st with loc := upd st.loc b (.str (cur ++ x)) }
      | _, _ => .fail := by simp only [execS]
theorem execS_if (fe : FEnv) (c : E) (t e : Ss) (st : St) :
    execS fe (.ifS c t e) st = match evalE fe st.loc st.fld c with
      | some (.bool true) => execSs fe t st
      | some (.bool false) => execSs fe e st
      | _ => .fail := by simp only [execS]
theorem execS_forRange (fe : FEnv) (iv vv : L) (e : E) (body : Ss) (st : St) :
    execS fe (.forRange iv vv e body) st = match evalE fe st.loc st.fld e with
      | some (.strs xs) => loopRange (rangeFn fe iv vv body) xs 0 st
      | _ => .fail := by simp only [execS]; rfl
theorem execS_forCount (fe : FEnv) (i : Nat) (init cond bound : E) (body : Ss) (st : St) :
    execS fe (.forCount i init cond bound body) st =
      match evalE fe st.loc st.fld init, evalE fe st.loc st.fld bound with
      | some (.int a), some (.int b) =>
        loopCount i (condFn fe cond) (bodyFn fe body) (b.toNat + 2) { st with loc := upd st.loc i (.int a) }
      | _, _ => .fail := by simp only [execS]; rfl
def rangeFnI (fe : FEnv) (iv vv : L) (body : Ss) : Nat → Int → St → R :=
  fun k x s => execSs fe body (setL vv (.int x) (setL iv (.int k) s))
theorem execS_idxSet (fe : FEnv) (l : L) (i e : E) (st : St) :
    execS fe (.idxSet l i e) st = match getL l st, evalE fe st.loc st.fld i, evalE fe st.loc st.fld e with
      | .strs xs, some (.int k), some (.str v) =>
        if 0 ≤ k ∧ k < xs.length then .norm (setL l (.strs (xs.set k.toNat v)) st) else .fail
      | _, _, _ => .fail := by simp only [execS]
theorem execS_forRangeI (fe : FEnv) (iv vv : L) (e : E) (body : Ss) (st : St) :
    execS fe (.forRangeI iv vv e body) st = match evalE fe st.loc st.fld e with
      | some (.ints xs) => loopRangeI (rangeFnI fe iv vv body) xs 0 st
      | _ => .fail := by simp only [execS]; rfl
theorem execS_ret (fe : FEnv) (e : E) (st : St) :
    execS fe (.ret e) st = match evalE fe st.loc st.fld e with
      | some v => .ret v st.fld | none => .fail := by simp only [execS]
theorem execS_ret2 (fe : FEnv) (a b : E) (st : St) :
    execS fe (.ret2 a b) st = match evalE fe st.loc st.fld a, evalE fe st.loc st.fld b with
      | some x, some y => .ret (.pair x y) st.fld | _, _ => .fail := by simp only [execS]
theorem execSs_nil (fe : FEnv) (st : St) : execSs fe .nil st = .norm st := by simp only [execSs]
theorem execSs_cons (fe : FEnv) (s : S) (r : Ss) (st : St) :
    execSs fe (.cons s r) st = match execS fe s st with
      | .norm st' => execSs fe r st' | res => res := by simp only [execSs]

/-- parameters are the first locals; the other locals start as the empty string (Go zero value
    of the named results and of `var buffer bytes.Buffer`) -/
def initLoc : List V → Store
  | [] => fun _ => .str []
  | v :: vs => fun j => if j = 0 then v else initLoc vs (j - 1)

/-- run a function: result value and receiver fields after the call -/
def runFn (fe : FEnv) (f : Fn) (args : List V) (fld : Store) : Option (V × Store) :=
  if args.length = f.params then
    match execSs fe f.body { loc := initLoc args, fld := fld } with
    | .ret v fld' => some (v, fld')
    | .norm st => some (.nil, st.fld)
    | .fail => none
  else none

/-- the function environment of a program whose functions only call functions listed before them -/
def mkFEnv : List Fn → FEnv
  | [] => fun _ _ _ => none
  | f :: fs => fun i args fld =>
    if i = fs.length then (runFn (mkFEnv fs) f args fld).map (·.1) else mkFEnv fs i args fld

attribute [udp_go] execSs_nil execSs_cons execS_assign execS_assign2 execS_mapSet execS_bufWrite execS_if execS_idxSet
  execS_forRange execS_forRangeI execS_forCount execS_ret execS_ret2 evalE evalEs biApply binApply vEq setL getL initLoc runFn

theorem mkFEnv_head (f : Fn) (fs : List Fn) (args : List V) (fld : Store) :
    mkFEnv (f :: fs) fs.length args fld = (runFn (mkFEnv fs) f args fld).map (·.1) := by simp [mkFEnv]

/-- functions are numbered from the end of the program: what stands in front does not change a number's meaning -/
theorem mkFEnv_append (pre : List Fn) {fs : List Fn} {i : Nat} (h : i < fs.length) :
    mkFEnv (pre ++ fs) i = mkFEnv fs i := by
  induction pre with
  | nil => rfl
  | cons f pre ih =>
    funext args fld
    have : i ≠ (pre ++ fs).length := by rw [List.length_append]; omega
    simp only [List.cons_append, mkFEnv, this, if_false, ih]

/-- function number `fs.length` is the one with `fs` behind it, run in the environment of `fs` -/
theorem mkFEnv_at (pre : List Fn) (f : Fn) (fs : List Fn) (args : List V) (fld : Store) :
    mkFEnv (pre ++ f :: fs) fs.length args fld = (runFn (mkFEnv fs) f args fld).map (·.1) := by
  rw [mkFEnv_append pre (by simp), mkFEnv_head]

end Udp.Go
