/-
  Golib.Udp.Process — CodeModel of `Process()` of every UDP pack type.

  `Process()` computes *derived* fields from the fields `Read` filled in.  Every pack's Process is a
  list of derivations: target fields, the fields it reads, the versions (agent families) in which it
  runs, and a function of the values read.  A derivation may leave a target unchanged (Go: `if err
  == nil { … }`) and — UdpActiveStackPack only — may panic (index out of range).

  Values of derived fields:  *urlutil.URL ↦ `.str url` (the string handed to `NewURL`; the URL's
  own parsing is `util/urlutil`, outside this property) or `.null`;  *pack.ParamPack ↦
  `.ints [Id, Response]` (its clock reading is not modelled);  []string and map[string]string ↦
  `.strs` (the map as `k=v` entries in insertion order).
-/
import Golib.Udp.Packs
import Golib.Udp.ParamKV

namespace Udp
open Prim

/-! ### library functions met in the Process bodies -/

/-- `strconv.ParseInt(s, 10, 8*w)`: value and `err == nil`; a range error yields the nearest bound -/
def parseIntGo (w : Nat) (s : Bytes) : Int × Bool :=
  match parseInt? s with
  | none => (0, false)
  | some v =>
    if inRange w v then (v, true)
    else (if v < 0 then -(modulus w / 2) else modulus w / 2 - 1, false)

theorem parseIntGo_ok (w : Nat) (s : Bytes) :
    parseIntW w s = if (parseIntGo w s).2 then (parseIntGo w s).1 else 0 := by
  unfold parseIntW parseIntGo
  cases parseInt? s with
  | none => rfl
  | some v => simp only []; split <;> simp

/-- Go's integer conversion to a `w`-byte signed type (wraps) -/
def wrapI (w : Nat) (v : Int) : Int := ofU w (toU w v)

theorem wrapI_id (w : Nat) (v : Int) (h : inRange w v) : wrapI w v = v := ofU_toU w v h

theorem joinBytes_eq_joinOn (c : Nat) (xs : List Bytes) : joinBytes c xs = joinOn c xs := by
  induction xs with
  | nil => rfl
  | cons x r ih =>
    cases r with
    | nil => rfl
    | cons y r' => simp only [joinBytes, joinOn, ih]

/-- `strconv.ParseBool` -/
def parseBool? (s : Bytes) : Option Bool :=
  if s = [49] ∨ s = [116] ∨ s = [84] ∨ s = [116, 114, 117, 101] ∨ s = [84, 82, 85, 69] ∨ s = [84, 114, 117, 101] then some true
  else if s = [48] ∨ s = [102] ∨ s = [70] ∨ s = [102, 97, 108, 115, 101] ∨ s = [70, 65, 76, 83, 69] ∨ s = [70, 97, 108, 115, 101] then some false
  else none

/-- `strings.Split(s, sep)` for the two-byte separator `", "` -/
def splitCommaSp : Bytes → List Bytes
  | [] => [[]]
  | 44 :: 32 :: r => [] :: splitCommaSp r
  | x :: r =>
    match splitCommaSp r with
    | [] => [[x]]
    | h :: t => (x :: h) :: t

/-- the lines `bufio.Scanner` yields: split at `\n`, a final empty line dropped, one trailing `\r`
    dropped from each -/
def scanLines (s : Bytes) : List Bytes :=
  let ls := splitOn 10 s
  let ls := if ls.getLast? = some [] then ls.dropLast else ls
  ls.map fun l => if l.getLast? = some 13 then l.dropLast else l

/-- `m[k] = v` on a map kept as `k=v` entries in insertion order -/
def mapPut (m : List Bytes) (k v : Bytes) : List Bytes :=
  if m.any (fun e => e.takeWhile (· != 61) == k) then
    m.map fun e => if e.takeWhile (· != 61) == k then k ++ 61 :: v else e
  else m ++ [k ++ 61 :: v]

def Val.asStrs : Val → List Bytes
  | .strs xs => xs
  | _ => []

structure Deriv where
  targets : List String
  reads : List String
  active : Int → Bool
  f : List Val → Option (List (Option Val))   -- none: panic; per target none: unchanged

def assignAll : List String → List (Option Val) → Rec → Rec
  | t :: ts, some v :: vs, st => assignAll ts vs (st.set t v)
  | _ :: ts, none :: vs, st => assignAll ts vs st
  | _, _, st => st

def Deriv.apply (d : Deriv) (ver : Int) (st : Rec) : Option Rec :=
  if d.active ver then
    match d.f (d.reads.map st) with
    | none => none
    | some outs => some (assignAll d.targets outs st)
  else some st

def runDerivs : List Deriv → Int → Rec → Option Rec
  | [], _, st => some st
  | d :: ds, ver, st =>
    match d.apply ver st with
    | none => none
    | some st' => runDerivs ds ver st'

def always : Int → Bool := fun _ => true
def famGo (v : Int) : Bool := decide (v > 50000)
def famNet (v : Int) : Bool := decide (v > 30000) && !decide (v > 40000)
def famPy (v : Int) : Bool := decide (v > 20000) && !decide (v > 30000)
def famPhp (v : Int) : Bool := !decide (v > 20000)

def slash : Bytes := [47]
def tooLongPrefix : Bytes :=
  [91, 81, 85, 69, 82, 89, 32, 84, 79, 79, 32, 76, 79, 78, 71, 93, 13, 10]   -- "[QUERY TOO LONG]\r\n"

/-- `NewURL(Host + Uri)` or `NewURL(Host + "/" + Uri)` -/
def serviceUrl (host uri : Bytes) : Bytes :=
  if uri.head? = some 47 then host ++ uri else host ++ 47 :: uri

def dServiceUrlAlways : Deriv where
  targets := ["ServiceURL"]; reads := ["Host", "Uri"]; active := always
  f := fun vs => match vs with
    | [h, u] => some [some (.str (serviceUrl h.asStr u.asStr))]
    | _ => some [none]

def dServiceUrlIfBoth : Deriv where
  targets := ["ServiceURL"]; reads := ["Host", "Uri"]; active := always
  f := fun vs => match vs with
    | [h, u] => if h.asStr ≠ [] ∧ u.asStr ≠ [] then some [some (.str (serviceUrl h.asStr u.asStr))] else some [none]
    | _ => some [none]

def dRefererUrl : Deriv where
  targets := ["RefererURL"]; reads := ["Ref"]; active := always
  f := fun vs => match vs with
    | [r] => some [some (.str r.asStr)]
    | _ => some [none]

def dIsStatic : Deriv where
  targets := ["IsStatic"]; reads := ["IsStaticContents"]; active := always
  f := fun vs => match vs with
    | [c] => if c.asStr = [] then some [some (.bool false)]
             else match parseBool? c.asStr with
               | some b => some [some (.bool b)]
               | none => some [none]
    | _ => some [none]

def dCallerHash (active : Int → Bool) : Deriv where
  targets := ["McallerUrlHash"]; reads := ["McallerUrl"]; active := active
  f := fun vs => match vs with
    | [u] => match parseIntGo 4 u.asStr with
      | (v, true) => some [some (.int v)]
      | _ => some [none]
    | _ => some [none]

def masksAtB (v : Int) : Bool := masksAt v

def dMaskDbc : Deriv where
  targets := ["Dbc"]; reads := ["Dbc"]; active := masksAtB
  f := fun vs => match vs with
    | [d] => some [some (.str (maskDbc d.asStr))]
    | _ => some [none]

def dSqlTooLong : Deriv where
  targets := ["Sql"]; reads := ["Sql"]; active := masksAtB
  f := fun vs => match vs with
    | [q] => if q.asStr.length ≥ 32768 then some [some (.str (tooLongPrefix ++ q.asStr))] else some [none]
    | _ => some [none]

def dHttpcUrl : Deriv where
  targets := ["HttpcURL"]; reads := ["Url"]; active := always
  f := fun vs => match vs with
    | [u] => some [some (.str u.asStr)]
    | _ => some [none]

/-- `strconv.Atoi` result used without looking at the error (64-bit int) -/
def atoiVal (s : Bytes) : Int := (parseIntGo 8 s).1

def dParam : Deriv where
  targets := ["ParamPack", "StrDatas"]; reads := ["ParamId", "ParamResponse", "Data"]; active := always
  f := fun vs => match vs with
    | [i, r, d] => some [some (.ints [wrapI 4 (atoiVal i.asStr), atoiVal r.asStr]),
                         some (.strs (splitCommaSp d.asStr))]
    | _ => some [none, none]

def dActiveStack : Deriv where
  targets := ["TxId", "Stack"]; reads := ["Data"]; active := always
  f := fun vs => match vs with
    | [d] => match splitCommaSp d.asStr with
      | _ :: tx :: stack :: _ =>
        some [(match parseIntGo 8 tx with | (v, true) => some (.int v) | _ => none), some (.str stack)]
      | _ => none      -- strDatas[1] / strDatas[2]: index out of range
    | _ => some [none, none]

def dActiveStats : Deriv where
  targets := ["ActiveStats"]; reads := ["Data"]; active := always
  f := fun vs => match vs with
    | [d] =>
      let parts := splitOn 44 d.asStr
      if parts.length = 5 then
        some [some (.ints (parts.map fun p => match parseIntGo 4 p with | (v, true) => wrapI 2 v | _ => 0))]
      else some [none]
    | _ => some [none]

/-- the last `pid|url|act|inact` entry with exactly four words -/
def lastConn (d : Bytes) : Option (List Bytes) :=
  ((splitOn 44 d).map (splitOn 124)).reverse.find? (fun ws => ws.length == 4)

def dDbConPool : Deriv where
  targets := ["Pid", "Url", "ActCnt", "InactCnt"]; reads := ["Data"]; active := always
  f := fun vs => match vs with
    | [d] => match lastConn d.asStr with
      | some [p, u, a, i] =>
        some [some (.int (parseIntGo 4 p).1), some (.str u), some (.int (parseIntGo 4 a).1), some (.int (parseIntGo 4 i).1)]
      | _ => some [none, none, none, none]
    | _ => some [none, none, none, none]

def dConfig : Deriv where
  targets := ["MapData"]; reads := ["Data", "MapData"]; active := always
  f := fun vs => match vs with
    | [d, m] =>
      some [some (.strs ((scanLines d.asStr).foldl (fun acc line =>
        if line.contains 61 then mapPut acc (line.takeWhile (· != 61)) ((line.dropWhile (· != 61)).drop 1) else acc)
        m.asStrs))]
    | _ => some [none]

def endHashActive (v : Int) : Bool :=
  famGo v || (famNet v && decide (v ≥ 30102)) || famPy v || (famPhp v && decide (v ≥ 10102))
def startEndHashActive (v : Int) : Bool :=
  famGo v || famPy v || (famPhp v && decide (v ≥ 10102))

/-- the derivations of each pack type's Process(), in statement order -/
def derivsOf (name : String) : List Deriv :=
  if name = "UdpTxStartPack" then [dServiceUrlAlways, dRefererUrl, dIsStatic]
  else if name = "UdpTxEndPack" then [dServiceUrlIfBoth, dCallerHash endHashActive]
  else if name = "UdpTxStartEndPack" then [dServiceUrlAlways, dRefererUrl, dIsStatic, dCallerHash startEndHashActive]
  else if name = "UdpTxSqlPack" ∨ name = "UdpTxSqlParamPack" then [dMaskDbc, dSqlTooLong]
  else if name = "UdpTxDbcPack" then [dMaskDbc]
  else if name = "UdpTxHttpcPack" then [dHttpcUrl]
  else if name = "UdpTxParamPack" then [dParam]
  else if name = "UdpActiveStackPack" then [dActiveStack]
  else if name = "UdpActiveStatsPack" then [dActiveStats]
  else if name = "UdpDBConPoolPack" then [dDbConPool]
  else if name = "UdpConfigPack" then [dConfig]
  else []

/-- `p.Process()`; `none` = the call panics -/
def PackT.process (t : PackT) (ver : Int) (st : Rec) : Option Rec := runDerivs (derivsOf t.name) ver st

theorem assignAll_other (ts : List String) (vs : List (Option Val)) (st : Rec) (f : String)
    (h : f ∉ ts) : assignAll ts vs st f = st f := by
  fun_induction assignAll ts vs st with
  | case1 t ts v vs st ih =>
    simp only [List.mem_cons, not_or] at h
    rw [ih h.2]; simp [Rec.set, h.1]
  | case2 t ts vs st ih => exact ih (fun hm => h (List.mem_cons_of_mem _ hm))
  | case3 => rfl

/-- a field that is no target of any derivation is not changed by Process() -/
theorem runDerivs_other (ds : List Deriv) (ver : Int) (st st' : Rec) (f : String)
    (h : ∀ d ∈ ds, f ∉ d.targets) (hr : runDerivs ds ver st = some st') : st' f = st f := by
  fun_induction runDerivs ds ver st with
  | case1 => cases hr; rfl
  | case2 => cases hr
  | case3 d ds ver st s1 ha ih =>
    rw [ih (fun d' hd' => h d' (by simp [hd'])) hr]
    unfold Deriv.apply at ha
    split at ha
    · split at ha
      · cases ha
      · injection ha with ha; rw [← ha]; exact assignAll_other _ _ _ _ (h d (by simp))
    · injection ha with ha; rw [ha]

theorem assignAll_congr (ts : List String) (vs : List (Option Val)) (s1 s2 : Rec) (L : List String)
    (h : ∀ f ∈ L, s1 f = s2 f) : ∀ f ∈ L, assignAll ts vs s1 f = assignAll ts vs s2 f := by
  fun_induction assignAll ts vs s1 generalizing s2 with
  | case1 t ts v vs s1 ih => rw [assignAll]; exact ih _ (Rec.set_congr h t v)
  | case2 t ts vs s1 ih => rw [assignAll]; exact ih s2 h
  | case3 ts vs s1 h1 h2 => rw [assignAll.eq_3 _ _ _ h1 h2]; exact h

/-- two packs that agree on the fields `L` (containing everything the derivations read) are
    processed alike: both panic, or the results agree on `L` -/
theorem runDerivs_congr (ds : List Deriv) (ver : Int) (s1 s2 : Rec) (L : List String)
    (hreads : ∀ d ∈ ds, ∀ r ∈ d.reads, r ∈ L) (h : ∀ f ∈ L, s1 f = s2 f) :
    match runDerivs ds ver s1, runDerivs ds ver s2 with
    | none, none => True
    | some a, some b => ∀ f ∈ L, a f = b f
    | _, _ => False := by
  induction ds generalizing s1 s2 with
  | nil => simpa [runDerivs] using h
  | cons d ds ih =>
    simp only [runDerivs]
    have hmap : d.reads.map s1 = d.reads.map s2 := by
      apply List.map_congr_left
      intro r hr; exact h r (hreads d (by simp) r hr)
    unfold Deriv.apply
    rw [hmap]
    cases hact : d.active ver
    · simp only [Bool.false_eq_true, if_false]
      exact ih _ _ (fun d' hd' => hreads d' (by simp [hd'])) h
    · simp only [if_true]
      cases hf : d.f (d.reads.map s2) with
      | none => trivial
      | some outs =>
        simp only []
        exact ih _ _ (fun d' hd' => hreads d' (by simp [hd'])) (assignAll_congr _ _ _ _ L h)

end Udp
