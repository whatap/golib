/-
  Golib.Udp.Restore — "reading what was written restores every field that version carries", field by field.

  `post` is a fold over the layout; this file says what it holds for each field: `lastOf l ver f` is the
  last thing the reader does to field `f` at version `ver` (a transfer with its format and conversion, a
  constant, the raw payload) or `none` (untouched), and `post_lastOf` evaluates `post` accordingly.  For a
  well-formed pack the value of a transferred field is `carry c (x f)`: the written value itself, or its
  documented cap.
-/
import Golib.Udp.Layout

namespace Udp
open Prim
namespace Layout

inductive Last where
  | xfer (p : Fmt) (c : Conv)
  | const (v : Val)
  | raw
deriving DecidableEq, Repr

def lastOf : Layout → Int → String → Option Last
  | .nil, _, _ => none
  | .fld nm p c rest, ver, f =>
    match lastOf rest ver f with
    | some a => some a
    | none => if f = nm then some (.xfer p c) else none
  | .ite c t e rest, ver, f =>
    match lastOf rest ver f with
    | some a => some a
    | none => if c.eval ver then lastOf t ver f else lastOf e ver f
  | .setC nm v rest, ver, f =>
    match lastOf rest ver f with
    | some a => some a
    | none => if f = nm then some (.const v) else none
  | .setJoin _ _ rest, ver, f => lastOf rest ver f
  | .rawLen nm _ rest, ver, f =>
    match lastOf rest ver f with
    | some a => some a
    | none => if f = nm then some .raw else none
  | .unknown _, _, _ => none

def noSetJoin : Layout → Bool
  | .nil => true
  | .fld _ _ _ rest => noSetJoin rest
  | .ite _ t e rest => noSetJoin t && noSetJoin e && noSetJoin rest
  | .setC _ _ rest => noSetJoin rest
  | .setJoin _ _ _ => false
  | .rawLen _ _ rest => noSetJoin rest
  | .unknown _ => true

/-! `lastOf` looks at the rest first: at every item it is `(lastOf rest ver f).or …` -/

theorem lastOf_fld (nm : String) (p : Fmt) (c : Conv) (rest : Layout) (ver : Int) (f : String) :
    lastOf (.fld nm p c rest) ver f = (lastOf rest ver f).or (if f = nm then some (.xfer p c) else none) := by
  simp only [lastOf]; cases lastOf rest ver f <;> rfl

theorem lastOf_ite (c : Cond) (t e rest : Layout) (ver : Int) (f : String) :
    lastOf (.ite c t e rest) ver f = (lastOf rest ver f).or (if c.eval ver then lastOf t ver f else lastOf e ver f) := by
  simp only [lastOf]; cases lastOf rest ver f <;> rfl

theorem lastOf_setC (nm : String) (v : Val) (rest : Layout) (ver : Int) (f : String) :
    lastOf (.setC nm v rest) ver f = (lastOf rest ver f).or (if f = nm then some (.const v) else none) := by
  simp only [lastOf]; cases lastOf rest ver f <;> rfl

theorem lastOf_rawLen (nm ln : String) (rest : Layout) (ver : Int) (f : String) :
    lastOf (.rawLen nm ln rest) ver f = (lastOf rest ver f).or (if f = nm then some .raw else none) := by
  simp only [lastOf]; cases lastOf rest ver f <;> rfl

theorem lastOf_none_unassigned (l : Layout) (ver : Int) (f : String) (h : lastOf l ver f = none) :
    f ∉ assigned l ver := by
  induction l with
  | nil => simp [assigned]
  | fld nm p c rest ih =>
    simp only [lastOf_fld, Option.or_eq_none_iff, ite_eq_right_iff, reduceCtorEq, imp_false] at h
    simp only [assigned, List.mem_cons, not_or]; exact ⟨h.2, ih h.1⟩
  | ite c t e rest iht ihe ihr =>
    rw [lastOf_ite, Option.or_eq_none_iff] at h
    simp only [assigned, List.mem_append, not_or]
    refine ⟨?_, ihr h.1⟩
    have h2 := h.2
    split at h2
    · rename_i hc; rw [if_pos hc]; exact iht h2
    · rename_i hc; rw [if_neg hc]; exact ihe h2
  | setC nm v rest ih =>
    simp only [lastOf_setC, Option.or_eq_none_iff, ite_eq_right_iff, reduceCtorEq, imp_false] at h
    simp only [assigned, List.mem_cons, not_or]; exact ⟨h.2, ih h.1⟩
  | setJoin nm src rest ih => exact ih h
  | rawLen nm ln rest ih =>
    simp only [lastOf_rawLen, Option.or_eq_none_iff, ite_eq_right_iff, reduceCtorEq, imp_false] at h
    simp only [assigned, List.mem_cons, not_or]; exact ⟨h.2, ih h.1⟩
  | unknown why => simp [assigned]

/-- what the receiving pack holds for field `f` after reading what `x` wrote -/
def expect (x st : Rec) (f : String) : Option Last → Val
  | some (.xfer _ c) => convR c (convW c (x f))
  | some (.const v) => v
  | some .raw => .str (x f).asStr
  | none => st f

/-- `expect` at a single item: the rest decides, or else the item itself -/
theorem expect_or (x st : Rec) (f nm : String) (w : Val) (o : Option Last) (a : Last)
    (ha : f = nm → expect x st f (some a) = w) :
    expect x (st.set nm w) f o = expect x st f (o.or (if f = nm then some a else none)) := by
  cases o with
  | some b => cases b <;> rfl
  | none =>
    simp only [Option.none_or, expect, Rec.set]
    split
    · rename_i he; exact (ha he).symm
    · rfl

theorem post_lastOf (l : Layout) (hj : noSetJoin l = true) (ver : Int) (x st : Rec) (f : String) :
    post l ver x st f = expect x st f (lastOf l ver f) := by
  induction l generalizing st with
  | nil => rfl
  | fld nm p c rest ih => rw [post, ih hj, lastOf_fld]; exact expect_or x st f nm _ _ _ (by rintro rfl; rfl)
  | ite c t e rest iht ihe ihr =>
    simp only [noSetJoin, Bool.and_eq_true] at hj
    rw [post, ihr hj.2, lastOf_ite]
    cases lastOf rest ver f with
    | some a => cases a <;> rfl
    | none =>
      rw [Option.none_or]
      split
      · exact iht hj.1.1 st
      · exact ihe hj.1.2 st
  | setC nm v rest ih => rw [post, ih hj, lastOf_setC]; exact expect_or x st f nm _ _ _ (by rintro rfl; rfl)
  | setJoin nm src rest ih => cases hj
  | rawLen nm ln rest ih => rw [post, ih hj, lastOf_rawLen]; exact expect_or x st f nm _ _ _ (by rintro rfl; rfl)
  | unknown why => rfl

/-- a well-formed pack is well-formed at the last transfer of each field -/
theorem WF_lastOf (l : Layout) (hj : noSetJoin l = true) (ver : Int) (x st : Rec) (f : String) (p : Fmt) (c : Conv)
    (h : WF l ver x st) (hl : lastOf l ver f = some (.xfer p c)) : wfFld p c (x f) := by
  induction l generalizing st with
  | nil => cases hl
  | fld nm p' c' rest ih =>
    rw [lastOf_fld, Option.or_eq_some_iff] at hl
    rcases hl with hl | ⟨_, hl⟩
    · exact ih hj _ h.2 hl
    · split at hl
      · rename_i he; cases hl; exact he ▸ h.1
      · cases hl
  | ite cd t e rest iht ihe ihr =>
    simp only [noSetJoin, Bool.and_eq_true] at hj
    rw [lastOf_ite, Option.or_eq_some_iff] at hl
    obtain ⟨h1, h2⟩ := h
    rcases hl with hl | ⟨_, hl⟩
    · exact ihr hj.2 _ h2 hl
    · split at hl
      · rename_i hc; rw [if_pos hc] at h1; exact iht hj.1.1 st h1 hl
      · rename_i hc; rw [if_neg hc] at h1; exact ihe hj.1.2 st h1 hl
  | setC nm v rest ih =>
    rw [lastOf_setC, Option.or_eq_some_iff] at hl
    rcases hl with hl | ⟨_, hl⟩
    · exact ih hj _ h hl
    · split at hl <;> cases hl
  | setJoin nm src rest ih => cases hj
  | rawLen nm ln rest ih =>
    rw [lastOf_rawLen, Option.or_eq_some_iff] at hl
    rcases hl with hl | ⟨_, hl⟩
    · exact ih hj _ h.2 hl
    · split at hl <;> cases hl
  | unknown why => cases hl

/-! ### a carried field ends as what the wire carried -/

/-- the fields some path of the layout assigns a constant to -/
def constNames : Layout → List String
  | .nil => []
  | .fld _ _ _ rest => constNames rest
  | .ite _ t e rest => constNames t ++ constNames e ++ constNames rest
  | .setC nm _ rest => nm :: constNames rest
  | .setJoin _ _ rest => constNames rest
  | .rawLen _ _ rest => constNames rest
  | .unknown _ => []

theorem lastOf_const_mem (l : Layout) (ver : Int) (f : String) (v : Val) (h : lastOf l ver f = some (.const v)) :
    f ∈ constNames l := by
  induction l with
  | nil => cases h
  | fld nm p c rest ih =>
    rw [lastOf_fld, Option.or_eq_some_iff] at h
    rcases h with h | ⟨_, h⟩
    · exact ih h
    · split at h <;> cases h
  | ite c t e rest iht ihe ihr =>
    rw [lastOf_ite, Option.or_eq_some_iff] at h
    simp only [constNames, List.mem_append]
    rcases h with h | ⟨_, h⟩
    · exact Or.inr (ihr h)
    · split at h
      · exact Or.inl (Or.inl (iht h))
      · exact Or.inl (Or.inr (ihe h))
  | setC nm w rest ih =>
    rw [lastOf_setC, Option.or_eq_some_iff] at h
    simp only [constNames, List.mem_cons]
    rcases h with h | ⟨_, h⟩
    · exact Or.inr (ih h)
    · split at h
      · rename_i he; exact Or.inl he
      · cases h
  | setJoin nm src rest ih => exact ih h
  | rawLen nm ln rest ih =>
    rw [lastOf_rawLen, Option.or_eq_some_iff] at h
    rcases h with h | ⟨_, h⟩
    · exact ih h
    · split at h <;> cases h
  | unknown why => cases h

/-- no constant is assigned to a field after its transfer, and none at all after a gate: a condition on
    the text of a layout, the same for every version, under which a carried field ends as what the wire
    carried (`carried_lastOf`).  The header's `Index` / `Parent` are reset *before* the gates that read them. -/
def constsFirst : Layout → Bool
  | .nil => true
  | .fld nm _ _ rest => !(constNames rest).contains nm && constsFirst rest
  | .ite _ t e rest => constsFirst t && constsFirst e && (constNames rest).isEmpty && constsFirst rest
  | .setC _ _ rest => constsFirst rest
  | .setJoin _ _ rest => constsFirst rest
  | .rawLen nm _ rest => !(constNames rest).contains nm && constsFirst rest
  | .unknown _ => true

/-- the last thing the reader does to a carried field is to take it from the wire -/
theorem carried_lastOf (l : Layout) (hc : constsFirst l = true) (ver : Int) (f : String) (hf : f ∈ carried l ver) :
    ∃ a, lastOf l ver f = some a ∧ ∀ v, a ≠ .const v := by
  induction l with
  | nil => cases hf
  | fld nm p c rest ih =>
    simp only [constsFirst, Bool.and_eq_true, Bool.not_eq_true', List.contains_eq_mem, decide_eq_false_iff_not] at hc
    rw [lastOf_fld]
    rcases List.mem_cons.mp hf with rfl | hf
    · cases hr : lastOf rest ver f with
      | none => exact ⟨.xfer p c, by rw [Option.none_or, if_pos rfl], fun v hv => by cases hv⟩
      | some a => exact ⟨a, rfl, fun v hv => hc.1 (lastOf_const_mem rest ver f v (hv ▸ hr))⟩
    · obtain ⟨a, ha, hac⟩ := ih hc.2 hf
      exact ⟨a, by rw [ha]; rfl, hac⟩
  | ite c t e rest iht ihe ihr =>
    simp only [constsFirst, Bool.and_eq_true, List.isEmpty_iff] at hc
    obtain ⟨⟨⟨hct, hce⟩, hn⟩, hcr⟩ := hc
    rw [lastOf_ite]
    rcases List.mem_append.mp hf with hf | hf
    · cases hr : lastOf rest ver f with
      | some a => cases a with
        | const v => have := lastOf_const_mem rest ver f v hr; rw [hn] at this; cases this
        | xfer p c' => exact ⟨_, rfl, fun v hv => by cases hv⟩
        | raw => exact ⟨_, rfl, fun v hv => by cases hv⟩
      | none =>
        rw [Option.none_or]
        split
        · rename_i h; rw [if_pos h] at hf; exact iht hct hf
        · rename_i h; rw [if_neg h] at hf; exact ihe hce hf
    · obtain ⟨a, ha, hac⟩ := ihr hcr hf
      exact ⟨a, by rw [ha]; rfl, hac⟩
  | setC nm w rest ih =>
    obtain ⟨a, ha, hac⟩ := ih hc hf
    exact ⟨a, by rw [lastOf_setC, ha]; rfl, hac⟩
  | setJoin nm src rest ih => exact ih hc hf
  | rawLen nm ln rest ih =>
    simp only [constsFirst, Bool.and_eq_true, Bool.not_eq_true', List.contains_eq_mem, decide_eq_false_iff_not] at hc
    rw [lastOf_rawLen]
    rcases List.mem_cons.mp hf with rfl | hf
    · cases hr : lastOf rest ver f with
      | none => exact ⟨.raw, by rw [Option.none_or, if_pos rfl], fun v hv => by cases hv⟩
      | some a => exact ⟨a, rfl, fun v hv => hc.1 (lastOf_const_mem rest ver f v (hv ▸ hr))⟩
    · obtain ⟨a, ha, hac⟩ := ih hc.2 hf
      exact ⟨a, by rw [ha]; rfl, hac⟩
  | unknown why => cases hf

end Layout
end Udp
