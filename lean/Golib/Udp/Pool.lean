/-
  Golib.Udp.Pool — CreatePack / ClosePack over sync.Pool: no residue.

  `sync.Pool` is modelled by what its contract allows: `Get` hands back *any* object that was `Put`
  and not handed out since, or a new one from `New`; it may also drop pooled objects at any time.
  `ClosePack p` runs `p.Clear()` and puts `p`; `CreatePack t ver` gets an object and sets `Ver`.
  A history is any sequence of these events; the packs released are arbitrary (whatever the user
  did with them while they were out).

  (Not modelled: a caller that keeps using a pack after `ClosePack` — aliasing of live objects.)
-/
import Golib.Udp.Packs

namespace Udp

/-- applying a list of assignments: a field that is assigned ends up with a value that does not
    depend on the record the assignments were applied to -/
theorem ofList_indep (as : List (String × Val)) (p q : Rec) (f : String)
    (h : f ∈ as.map (·.1)) : Rec.ofList as p f = Rec.ofList as q f := by
  induction as generalizing p q with
  | nil => simp at h
  | cons a as ih =>
    simp only [Rec.ofList, List.foldl_cons]
    by_cases hf : f ∈ as.map (·.1)
    · exact ih _ _ hf
    · have hfa : f = a.1 := by
        simp only [List.map_cons, List.mem_cons] at h
        rcases h with h | h
        · exact h
        · exact absurd h hf
      have key : ∀ (r : Rec), Rec.ofList as r f = r f := by
        intro r
        clear ih h
        induction as generalizing r with
        | nil => rfl
        | cons b bs ihb =>
          simp only [List.map_cons, List.mem_cons, not_or] at hf
          simp only [Rec.ofList, List.foldl_cons]
          have := ihb hf.2 (r.set b.1 b.2)
          simp only [Rec.ofList] at this
          rw [this]; simp [Rec.set, hf.1]
      have e1 := key (p.set a.1 a.2)
      have e2 := key (q.set a.1 a.2)
      simp only [Rec.ofList] at e1 e2
      rw [e1, e2]; simp [Rec.set, hfa]

namespace PackT

/-- after `Clear()` every struct field holds the constant of the Clear table, whatever the pack
    held before -/
theorem clear_const (t : PackT) (h : t.clearTotal = true) (p : Rec) (f : String)
    (hf : f ∈ t.fieldNames) : t.clearOp p f = t.clearedRec f := by
  unfold clearOp clearedRec
  apply ofList_indep
  unfold clearTotal at h
  rw [List.all_eq_true] at h
  have := h f hf
  simpa [List.contains_iff_mem] using this

end PackT

/-- Clear() and the constructor of every pack type assign struct fields of that type only -/
theorem clear_in_fields : ∀ t ∈ allPacks, t.clear.all (fun a => t.fieldNames.contains a.1) = true := by decide +kernel
theorem fresh_in_fields : ∀ t ∈ allPacks, t.fresh.all (fun a => t.fieldNames.contains a.1) = true := by decide +kernel

inductive PoolEv where
  | close (p : Rec)                        -- ClosePack(p): p.Clear(); pool.Put(p)
  | create (pick : Option Nat) (ver : Int) -- CreatePack: Get (the runtime picks a pooled object or New), set Ver
  | drop (i : Nat)                         -- the runtime drops a pooled object (GC)

/-- run a history; returns the pool and the packs handed out by the `create` events, in order -/
def runPool (t : PackT) : List PoolEv → List Rec → List Rec × List (Int × Rec)
  | [], pool => (pool, [])
  | .close p :: evs, pool => runPool t evs (t.clearOp p :: pool)
  | .drop i :: evs, pool => runPool t evs (pool.eraseIdx i)
  | .create pick ver :: evs, pool =>
    let (obj, pool') :=
      match pick with
      | some i => if h : i < pool.length then (pool[i], pool.eraseIdx i) else (t.freshRec, pool)
      | none => (t.freshRec, pool)
    let (pl, outs) := runPool t evs pool'
    (pl, (ver, obj.set "Ver" (.int ver)) :: outs)

/-- every pooled object agrees with the Clear constants on the struct fields -/
def PoolInv (t : PackT) (pool : List Rec) : Prop :=
  ∀ o ∈ pool, ∀ f ∈ t.fieldNames, o f = t.clearedRec f

theorem runPool_spec (t : PackT) (h : t.clearTotal = true) (evs : List PoolEv) (pool : List Rec)
    (hinv : PoolInv t pool) :
    ∀ vq ∈ (runPool t evs pool).2,
      (∀ f ∈ t.fieldNames, vq.2 f = (t.clearedRec.set "Ver" (.int vq.1)) f) ∨
      (∀ f ∈ t.fieldNames, vq.2 f = (t.freshRec.set "Ver" (.int vq.1)) f) := by
  induction evs generalizing pool with
  | nil => intro vq hvq; simp [runPool] at hvq
  | cons ev evs ih =>
    cases ev with
    | close p =>
      simp only [runPool]
      apply ih
      intro o ho f hf
      rcases List.mem_cons.mp ho with rfl | ho
      · exact t.clear_const h p f hf
      · exact hinv o ho f hf
    | drop i =>
      simp only [runPool]
      apply ih
      intro o ho f hf
      exact hinv o (List.mem_of_mem_eraseIdx ho) f hf
    | create pick ver =>
      simp only [runPool]
      intro vq hvq
      have hcases : ∀ (obj : Rec) (pool' : List Rec),
          ((∀ f ∈ t.fieldNames, obj f = t.clearedRec f) ∨ obj = t.freshRec) → PoolInv t pool' →
          vq ∈ ((runPool t evs pool').1, (ver, obj.set "Ver" (.int ver)) :: (runPool t evs pool').2).2 →
          (∀ f ∈ t.fieldNames, vq.2 f = (t.clearedRec.set "Ver" (.int vq.1)) f) ∨
          (∀ f ∈ t.fieldNames, vq.2 f = (t.freshRec.set "Ver" (.int vq.1)) f) := by
        intro obj pool' hobj hinv' hmem
        rcases List.mem_cons.mp hmem with rfl | hmem
        · rcases hobj with hobj | rfl
          · exact .inl (Rec.set_congr hobj "Ver" (.int ver))
          · right; intro f _; rfl
        · exact ih pool' hinv' vq hmem
      cases pick with
      | none => exact hcases _ _ (Or.inr rfl) hinv hvq
      | some i =>
        by_cases hi : i < pool.length
        · simp only [hi, dite_true] at hvq
          refine hcases _ _ (Or.inl ?_) ?_ hvq
          · exact hinv _ (List.getElem_mem hi)
          · intro o ho f hf
            exact hinv o (List.mem_of_mem_eraseIdx ho) f hf
        · simp only [hi, dite_false] at hvq
          exact hcases _ _ (Or.inr rfl) hinv hvq

end Udp
