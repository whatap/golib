/-
  Golib.Udp.MaskExact — what the masking writes, exactly.

  `mask_password` (Golib.Udp.Mask) is token-level: no token of the result has the key `password`
  with a value other than `#`.  A rewriting that damages the *key* instead of replacing the value
  (`password=word` ↦ `pass#=word`: the value found by searching the token for its text) satisfies
  that statement and still keeps the password.  The statements here say what the result *is*:

    maskPass_exact      one ParamKV pass (`NewParamKVSeperate(s, sep, "=").ToStringStr(key, val)`) over
                        `sep`-joined plain tokens rewrites every token to `key=value'` where `value'` is
                        `val` for the key asked for and the value of the last token with that key otherwise;
                        tokens with an empty key are copied
    maskDbc_uniform     both passes of `Process()` over a string with one kind of separator: the same,
                        with `password` / `#`
  and with pairwise distinct keys (`substTok_nodup`) every token other than `password=…` is unchanged
  (`C07.mask_exact_distinct`).
-/
import Golib.Udp.Mask

namespace Udp

/-- the value of the last token of `toks` with key `k` (`kvMap[k]` after the constructor) -/
def lastValOf (k : Bytes) (toks : List Tok) : Bytes :=
  match toks.reverse.find? (fun u => u.1 == k) with
  | some u => u.2
  | none => []

/-- the token `ToStringStr(key, val)` writes in the place of `t` -/
def substTok (key val : Bytes) (toks : List Tok) (t : Tok) : Tok :=
  if t.1 = [] then t else (t.1, if t.1 = key then val else lastValOf t.1 toks)

theorem find_render (k : Bytes) (l : List Tok) (hl : ∀ u ∈ l, PlainTok u) :
    (l.map render).find? (fun t => keyOf t == k) = (l.find? (fun u => u.1 == k)).map render := by
  induction l with
  | nil => rfl
  | cons u r ih =>
    have hu := hl u (by simp)
    simp only [List.map_cons, List.find?_cons, keyOf_render u hu]
    cases h : u.1 == k
    · simpa using ih (fun v hv => hl v (by simp [hv]))
    · simp

theorem lookupLast_render (k : Bytes) (toks : List Tok) (h : ∀ u ∈ toks, PlainTok u) :
    lookupLast k (toks.map render) = lastValOf k toks := by
  unfold lookupLast lastValOf
  rw [← List.map_reverse, find_render k toks.reverse (fun u hu => h u (List.mem_reverse.mp hu))]
  cases hf : toks.reverse.find? (fun u => u.1 == k) with
  | none => rfl
  | some u =>
    have hm := List.mem_reverse.mp (List.mem_of_find?_eq_some hf)
    simp [valOf_render u (h u hm)]

theorem lastValOf_spec (k : Bytes) (toks : List Tok) :
    (∃ u ∈ toks, u.1 = k ∧ lastValOf k toks = u.2) ∨ ((∀ u ∈ toks, u.1 ≠ k) ∧ lastValOf k toks = []) := by
  unfold lastValOf
  cases hf : toks.reverse.find? (fun u => u.1 == k) with
  | none =>
    right
    refine ⟨?_, rfl⟩
    intro u hu hk
    have := List.find?_eq_none.mp hf u (List.mem_reverse.mpr hu)
    simp [hk] at this
  | some u =>
    left
    exact ⟨u, List.mem_reverse.mp (List.mem_of_find?_eq_some hf), by simpa using List.find?_some hf, rfl⟩

theorem plain_nil : Plain [] := ⟨by simp, by simp, by simp, clean_nil⟩

theorem lastValOf_plain (k : Bytes) (toks : List Tok) (h : ∀ u ∈ toks, PlainTok u) : Plain (lastValOf k toks) := by
  rcases lastValOf_spec k toks with ⟨u, hu, _, he⟩ | ⟨_, he⟩
  · rw [he]; exact (h u hu).2
  · rw [he]; exact plain_nil

theorem substTok_plain (key val : Bytes) (hval : Plain val) (toks : List Tok) (h : ∀ u ∈ toks, PlainTok u)
    (t : Tok) (ht : PlainTok t) : PlainTok (substTok key val toks t) := by
  unfold substTok
  by_cases h0 : t.1 = []
  · rw [if_pos h0]; exact ht
  · rw [if_neg h0]
    refine ⟨ht.1, ?_⟩
    by_cases hk : t.1 = key
    · simpa [hk] using hval
    · simpa [hk] using lastValOf_plain t.1 toks h

theorem substTok_key (key val : Bytes) (toks : List Tok) (t : Tok) : (substTok key val toks t).1 = t.1 := by
  unfold substTok; split <;> rfl

/-- **one ParamKV pass, exactly**: over `c`-joined plain tokens (`c` blank or semicolon),
    `NewParamKVSeperate(s, c, "=").ToStringStr(key, val)` writes, token by token, `substTok` -/
theorem maskPass_exact (c : Nat) (hc : c = 32 ∨ c = 59) (key val : Bytes) (toks : List Tok) (hne : toks ≠ [])
    (h : ∀ u ∈ toks, PlainTok u) :
    maskPass c key val (renderGrp c toks) = renderGrp c (toks.map (substTok key val toks)) := by
  rw [maskPass_eq, splitOn_renderGrp c hc toks hne h]
  unfold renderGrp
  rw [List.map_map, List.map_map]
  congr 1
  apply List.map_congr_left
  intro t ht
  have hp := h t ht
  simp only [Function.comp, rebuild, keyOf_render t hp, substTok]
  by_cases h0 : t.1 = []
  · simp [h0]
  · have hne0 : t.1.isEmpty = false := by simpa using h0
    rw [if_neg h0]
    simp only [hne0, Bool.false_eq_true, if_false, render]
    by_cases hk : t.1 = key
    · simp [hk]
    · have hb : (t.1 == key) = false := by simpa using hk
      simp only [hb, Bool.false_eq_true, if_false, if_neg hk]
      rw [lookupLast_render t.1 toks h]

/-- a pass with the *other* separator sees the whole string as one token and, unless its first key
    is the key asked for, writes it back unchanged (given that `TrimSpace` leaves its value text alone) -/
theorem maskPass_whole (c d : Nat) (hcd : c ≠ d) (hc : c = 32 ∨ c = 59) (key val : Bytes)
    (t : Tok) (r : List Tok) (h : ∀ u ∈ t :: r, PlainTok u) (hk : t.1 ≠ key)
    (htrim : trim (valStr d t r) = valStr d t r) :
    maskPass c key val (renderGrp d (t :: r)) = renderGrp d (t :: r) := by
  have hsep : sepByte c = true ∧ c ≠ 61 := by rcases hc with rfl | rfl <;> decide
  have hno : c ∉ renderGrp d (t :: r) := renderGrp_nomem d c (t :: r) h hsep.1 hsep.2 hcd
  have ht := h t (by simp)
  rw [maskPass_eq, splitOn_nosep c _ hno]
  simp only [List.map_cons, List.map_nil, joinOn, rebuild, keyOf_grp d t r ht]
  by_cases h0 : t.1 = []
  · simp [h0]
  · have hne0 : t.1.isEmpty = false := by simpa using h0
    have hb : (t.1 == key) = false := by simpa using hk
    simp only [hne0, Bool.false_eq_true, if_false, hb]
    have hl : lookupLast t.1 [renderGrp d (t :: r)] = valStr d t r := by
      simp [lookupLast, keyOf_grp d t r ht, valOf_grp d t r ht, htrim]
    rw [hl, renderGrp_kv]

theorem renderGrp_ne_nil (d : Nat) (t : Tok) (r : List Tok) : (renderGrp d (t :: r)).isEmpty = false := by
  rw [renderGrp_kv]; cases t.1 <;> rfl

/-- **both passes of `Process()`, exactly, on a string with one kind of separator**: tokens
    `t :: r` joined by blanks (or by semicolons), first key not `password`: the result is the same
    tokens with every `password` value replaced by `#` and every other keyed token carrying the value
    of the last token with its key (Go map semantics).  (Blank-joined: the tokens with the first
    token's key have non-empty values — otherwise `TrimSpace` glues `k= b=1` to `k=b=1`.) -/
theorem maskDbc_uniform (c : Nat) (hc : c = 32 ∨ c = 59) (t : Tok) (r : List Tok) (h : ∀ u ∈ t :: r, PlainTok u)
    (hk : t.1 ≠ kwPassword) (hfirst : c = 32 → ∀ u ∈ t :: r, u.1 = t.1 → u.2 ≠ []) :
    maskDbc (renderGrp c (t :: r)) = renderGrp c ((t :: r).map (substTok kwPassword kwHash (t :: r))) := by
  unfold maskDbc
  rw [renderGrp_ne_nil]
  simp only [Bool.false_eq_true, if_false]
  have ht := h t (by simp)
  have hr : ∀ u ∈ r, PlainTok u := fun u hu => h u (by simp [hu])
  rcases hc with rfl | rfl
  · -- blanks: pass 1 rewrites the tokens, pass 2 sees one token
    rw [maskPass_exact 32 (Or.inl rfl) _ _ (t :: r) (by simp) h]
    have hp' : ∀ u ∈ (t :: r).map (substTok kwPassword kwHash (t :: r)), PlainTok u := by
      intro u hu
      obtain ⟨v, hv, rfl⟩ := List.mem_map.mp hu
      exact substTok_plain _ _ kwHash_plain _ h v (h v hv)
    simp only [List.map_cons] at hp' ⊢
    apply maskPass_whole 59 32 (by decide) (Or.inr rfl) _ _ _ _ hp'
    · rw [substTok_key]; exact hk
    · rw [trim_valStr32 _ _ (hp' _ (by simp)) (fun u hu => hp' u (by simp [hu]))]
      have : ¬ ((substTok kwPassword kwHash (t :: r) t).2 = [] ∧ r.map (substTok kwPassword kwHash (t :: r)) ≠ []) := by
        intro hh
        have h2 := hh.1
        unfold substTok at h2
        by_cases h0 : t.1 = []
        · rw [if_pos h0] at h2
          exact hfirst rfl t (by simp) rfl h2
        · rw [if_neg h0] at h2
          simp only [if_neg hk] at h2
          rcases lastValOf_spec t.1 (t :: r) with ⟨u, hu, huk, he⟩ | ⟨hno, _⟩
          · exact hfirst rfl u hu huk (by rw [← he]; exact h2)
          · exact hno t (by simp) rfl
      rw [if_neg this]
  · -- semicolons: pass 1 sees one token, pass 2 rewrites the tokens
    rw [maskPass_whole 32 59 (by decide) (Or.inl rfl) _ _ t r h hk (trim_valStr59 t r ht hr)]
    exact maskPass_exact 59 (Or.inr rfl) _ _ (t :: r) (by simp) h

theorem lastValOf_nodup (toks : List Tok) (hn : (toks.map (·.1)).Nodup) (t : Tok) (ht : t ∈ toks) :
    lastValOf t.1 toks = t.2 := by
  have key : toks.reverse.find? (fun u => u.1 == t.1) = some t := by
    induction toks with
    | nil => cases ht
    | cons u r ih =>
      simp only [List.map_cons, List.nodup_cons] at hn
      rw [List.reverse_cons, List.find?_append]
      rcases List.mem_cons.mp ht with rfl | htr
      · have : r.reverse.find? (fun u => u.1 == t.1) = none := by
          apply List.find?_eq_none.mpr
          intro v hv
          have hv' := List.mem_reverse.mp hv
          simp only [beq_iff_eq, ne_eq]
          intro he
          exact hn.1 (List.mem_map.mpr ⟨v, hv', he⟩)
        rw [this]; simp
      · rw [ih hn.2 htr]; rfl
  unfold lastValOf; rw [key]

/-- with pairwise distinct keys the rewriting touches the token of the key and nothing else -/
theorem substTok_nodup (key val : Bytes) (toks : List Tok) (hn : (toks.map (·.1)).Nodup) (t : Tok) (ht : t ∈ toks)
    (hkey : key ≠ []) :
    substTok key val toks t = if t.1 = key then (key, val) else t := by
  unfold substTok
  by_cases h0 : t.1 = []
  · have : t.1 ≠ key := by rw [h0]; exact fun e => hkey e.symm
    rw [if_pos h0, if_neg this]
  · rw [if_neg h0]
    by_cases hk : t.1 = key
    · simp [hk]
    · rw [if_neg hk, if_neg hk, lastValOf_nodup toks hn t ht]

/-- the masked form of one token -/
def maskTok (t : Tok) : Tok := if t.1 = kwPassword then (kwPassword, kwHash) else t

end Udp
