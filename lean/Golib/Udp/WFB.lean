/-
  Golib.Udp.WFB — a decidable form of `Layout.WF`, for concrete instances (non-vacuity examples,
  witnesses of findings).
-/
import Golib.Udp.Layout

namespace Udp
open Prim

def wfFldB : Fmt → Conv → Val → Bool
  | .i32, .id, .int n => decide (inRange 4 n)
  | .i64, .id, .int n => decide (inRange 8 n)
  | .text16, .id, .str b => decide (b.length ≤ 65535)
  | .text16, .trunc n, .str b => decide ((b.take n).length ≤ 65535)
  | .text16, .numText w, .int n => decide (inRange w n) && (w == 4 || w == 8)
  | .text16, .rune, .int _ => true
  | _, _, _ => false

theorem wfFld_of_B (p : Fmt) (c : Conv) (v : Val) (h : wfFldB p c v = true) : Layout.wfFld p c v := by
  unfold wfFldB at h
  split at h
  · exact ⟨_, rfl, of_decide_eq_true h⟩
  · exact ⟨_, rfl, of_decide_eq_true h⟩
  · exact ⟨_, rfl, of_decide_eq_true h⟩
  · exact ⟨_, rfl, of_decide_eq_true h⟩
  · simp only [Bool.and_eq_true, Bool.or_eq_true, decide_eq_true_eq, beq_iff_eq] at h
    exact ⟨_, rfl, h.1, h.2⟩
  · exact ⟨_, rfl⟩
  · cases h

namespace Layout

def wfB : Layout → Int → Rec → Rec → Bool
  | .nil, _, _, _ => true
  | .fld nm p c rest, ver, x, st =>
      wfFldB p c (x nm) && wfB rest ver x (st.set nm (convR c (convW c (x nm))))
  | .ite c t e rest, ver, x, st =>
      (if c.eval ver then wfB t ver x st else wfB e ver x st) &&
      wfB rest ver x (if c.eval ver then post t ver x st else post e ver x st)
  | .setC nm v rest, ver, x, st => wfB rest ver x (st.set nm v)
  | .setJoin nm src rest, ver, x, st => wfB rest ver (x.set nm (.str (joinInts 44 (x src).asInts))) st
  | .rawLen nm ln rest, ver, x, st =>
      (match x nm, st ln with
        | .str b, .int n => decide (n = b.length)
        | _, _ => false) && wfB rest ver x (st.set nm (.str (x nm).asStr))
  | .unknown _, _, _, _ => false

theorem WF_of_wfB (l : Layout) (ver : Int) (x st : Rec) (h : wfB l ver x st = true) : WF l ver x st := by
  induction l generalizing x st with
  | nil => trivial
  | fld nm p c rest ih =>
    simp only [wfB, Bool.and_eq_true] at h
    exact ⟨wfFld_of_B p c _ h.1, ih _ _ h.2⟩
  | ite c t e rest iht ihe ihr =>
    simp only [wfB, Bool.and_eq_true] at h
    refine ⟨?_, ihr _ _ h.2⟩
    cases hc : c.eval ver
    · simp only [hc, Bool.false_eq_true, if_false] at h ⊢; exact ihe _ _ h.1
    · simp only [hc, if_true] at h ⊢; exact iht _ _ h.1
  | setC nm v rest ih => exact ih _ _ h
  | setJoin nm src rest ih => exact ih _ _ h
  | rawLen nm ln rest ih =>
    simp only [wfB, Bool.and_eq_true] at h
    refine ⟨?_, ih _ _ h.2⟩
    have h1 := h.1
    split at h1
    · rename_i b n hx hs
      simp only [decide_eq_true_eq] at h1
      exact ⟨b, hx, by rw [hs, h1]⟩
    · cases h1
  | unknown why => simp [wfB] at h

end Layout
end Udp
