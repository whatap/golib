/-
  Golib.Udp.Packs — CodeModel of the 19 UDP tracer pack types of lang/pack/udp.

  One merged layout per type (what `Write` emits and what `Read` takes back, version gate by
  version gate, as the code has them), the struct fields, the assignments of `Clear()` and of the
  constructor, the type code.  The model describes /repo as committed, with the fixes
  (D19: UdpTxSqlPack.Fetch travels as number text; D20: Relay/Config `Clear` reset Data/MapData;
  D51: UdpTxResultSetPack is poolable), and keeps the quirks recorded as known findings
  (UdpTxMessagePack caps; UdpRelayPack's length is not on the wire).

  Tie A: `xlate/c07` regenerates `Write`, `Read`, `Clear`, constructors and the pool switches from
  the source; Golib/Props/C07Gen.lean compares them with this file.
-/
import Golib.Udp.Layout

namespace Udp
open Layout

/-! ### combinators (notation only) -/

/-- text field -/
abbrev T (nm : String) (rest : Layout) : Layout := .fld nm .text16 .id rest
/-- text field capped by the writer -/
abbrev Tc (nm : String) (cap : Nat) (rest : Layout) : Layout := .fld nm .text16 (.trunc cap) rest
/-- int32 / int64 field carried as decimal text (zero as empty) -/
abbrev N4 (nm : String) (rest : Layout) : Layout := .fld nm .text16 (.numText 4) rest
abbrev N8 (nm : String) (rest : Layout) : Layout := .fld nm .text16 (.numText 8) rest
/-- binary int32 / int64 -/
abbrev I4 (nm : String) (rest : Layout) : Layout := .fld nm .i32 .id rest
abbrev I8 (nm : String) (rest : Layout) : Layout := .fld nm .i64 .id rest
/-- `if this.Ver >= n { body }` -/
abbrev since (n : Int) (body : Layout) (rest : Layout) : Layout := .ite (.verGe n) body .nil rest
/-- the agent-family ladder `if Ver > 50000 {go} else if > 40000 {batch} else if > 30000 {net}
    else if > 20000 {py} else {php}` -/
abbrev fam (go batch net py php : Layout) (rest : Layout) : Layout :=
  .ite (.verGt 50000) go (.ite (.verGt 40000) batch (.ite (.verGt 30000) net
    (.ite (.verGt 20000) py php .nil) .nil) .nil) rest

/-! ### AbstractPack header -/

def pidTid : Layout := I4 "Pid" <| I8 "ThreadId" <| .nil

/-- AbstractPack.Write / Read, followed by the pack's own fields -/
def hdr (rest : Layout) : Layout :=
  I8 "Txid" <| I8 "Time" <| I4 "Elapsed" <| I8 "Cpu" <| I8 "Mem" <|
  fam pidTid pidTid pidTid pidTid
    (.setC "Index" (.int (-1)) <| .setC "Parent" (.int (-1)) <|     -- reader: reset before the gates
     since 10101 (I4 "Pid" .nil) <|
     since 10104 (I8 "ThreadId" .nil) <|
     since 10109 (I4 "Index" <| I4 "Parent" <| .nil) <| .nil) <|
  rest

def err3 : Layout := T "ErrorType" <| T "ErrorMessage" <| T "Stack" <| .nil

/-! ### the pack layouts -/

def UdpTxStartPack.layout : Layout :=
  hdr <|
  Tc "Host" 2048 <| Tc "Uri" 2048 <| Tc "Ipaddr" 256 <| Tc "UAgent" 2048 <| Tc "Ref" 2048 <| Tc "WClientId" 2048 <|
  fam (Tc "HttpMethod" 256 .nil)
      .nil
      (T "IsStaticContents" .nil)
      (T "IsStaticContents" <| since 20104 (Tc "HttpMethod" 256 .nil) <| .nil)
      (since 10103 (Tc "HttpMethod" 256 .nil) <| .nil) <|
  .nil

/-- Mtid … McallerPoidKey as the Go / Python / PHP branches have them -/
def mcallerFull (rest : Layout) : Layout :=
  N8 "Mtid" <| N4 "Mdepth" <| N8 "McallerTxid" <| N8 "McallerPcode" <|
  T "McallerSpec" <| T "McallerUrl" <| T "McallerPoidKey" <| rest

def phpCounters : Layout :=
  N8 "PeakMem" <| N4 "ElapsedUserCPUTime" <| N4 "ElapsedSystemCPUTime" <| N4 "EFuncCount" <|
  N4 "ProfEFuncCount" <| N4 "IFuncCount" <| N4 "ProfIFuncCount" <| .nil

def UdpTxEndPack.layout : Layout :=
  hdr <|
  fam (T "Host" <| T "Uri" <| mcallerFull <|
         since 50100 (N4 "Status" .nil) <|
         since 50101 (N8 "McallerStepId" <| T "XTraceId" <| .nil) <| .nil)
      .nil
      (T "Host" <| T "Uri" <| N8 "Mtid" <| N4 "Mdepth" <| N8 "McallerTxid" <|
         since 30102 (N8 "McallerPcode" <| T "McallerSpec" <| T "McallerUrl" <| T "McallerPoidKey" <| .nil) <|
         since 30103 (N4 "Status" <| N8 "McallerStepId" <| T "XTraceId" <| .nil) <| .nil)
      (T "Host" <| T "Uri" <| mcallerFull <|
         since 20104 (N4 "Status" .nil) <| .nil)
      (since 10102 (T "Host" <| T "Uri" <| mcallerFull .nil) <|
       since 10107 (N4 "Status" .nil) <|
       since 10108 (N8 "McallerStepId" <| T "XTraceId" <| .nil) <|
       since 10110 phpCounters <| .nil) <|
  .nil

def UdpTxStartEndPack.layout : Layout :=
  hdr <|
  T "Host" <| T "Uri" <| T "Ipaddr" <| T "UAgent" <| T "Ref" <| T "WClientId" <|
  fam (T "HttpMethod" <| mcallerFull <|
         since 50100 (N4 "Status" .nil) <|
         since 50101 (N8 "McallerStepId" <| T "XTraceId" <| .nil) <| .nil)
      .nil
      (T "IsStaticContents" <| N8 "Mtid" <| N4 "Mdepth" <| N8 "Mcaller" <| .nil)
      (T "IsStaticContents" <| mcallerFull .nil)
      (T "HttpMethod" <| mcallerFull <|
         since 10107 (N4 "Status" .nil) <|
         since 10108 (N8 "McallerStepId" <| T "XTraceId" <| .nil) <|
         since 10110 phpCounters <| .nil) <|
  .nil

/-- D19, fixed in /repo: Python ≥ 20102 carries Fetch as number text (before the fix: `.rune`) -/
def UdpTxSqlPack.layout : Layout :=
  hdr <| T "Dbc" <| T "Sql" <|
  fam err3 .nil err3 (since 20102 (N4 "Fetch" .nil) <| .nil) (since 10105 err3 <| .nil) <| .nil

/-- before the fix for D19: `dout.WriteTextShortLength(string(this.Fetch))` -/
def UdpTxSqlPack.layoutD19 : Layout :=
  hdr <| T "Dbc" <| T "Sql" <|
  fam err3 .nil err3 (since 20102 (.fld "Fetch" .text16 .rune .nil) <| .nil) (since 10105 err3 <| .nil) <| .nil

def UdpTxSqlParamPack.layout : Layout :=
  hdr <| T "Dbc" <| T "Sql" <| T "Param" <| T "ErrorType" <| T "ErrorMessage" <| T "Stack" <| .nil

def UdpTxDbcPack.layout : Layout :=
  hdr <| T "Dbc" <|
  fam err3 .nil err3 .nil (since 10105 err3 <| .nil) <| .nil

def stepErr : Layout := N8 "StepId" <| err3

def UdpTxHttpcPack.layout : Layout :=
  hdr <| T "Url" <|
  fam stepErr .nil stepErr (N8 "StepId" .nil)
      (.ite (.verGe 10105) stepErr (.ite (.verGe 10102) (N8 "StepId" .nil) .nil .nil) .nil) <|
  .nil

def UdpTxErrorPack.layout : Layout :=
  hdr <| T "ErrorType" <| T "ErrorMessage" <|
  fam .nil .nil (T "Stack" .nil) (T "Stack" .nil) .nil <| .nil

/-- known finding: Hash and Desc are capped by the writer although they are not transaction-start fields -/
def UdpTxMessagePack.layout : Layout :=
  hdr <| Tc "Hash" 2048 <| T "Value" <| Tc "Desc" 32768 <| .nil

def UdpTxSecureMessagePack.layout : Layout :=
  hdr <| T "Hash" <| T "Value" <| T "Desc" <| .nil

def UdpTxMethodPack.layout : Layout :=
  hdr <| T "Method" <| T "Stack" <| .nil

def UdpTxResultSetPack.layout : Layout :=
  hdr <| T "Dbc" <| T "Sql" <| N4 "Fetch" <| .nil

def UdpActiveStackPack1.layout : Layout :=
  hdr <| T "Stack" <| .nil

/-- the remaining packs do not write the header -/
def UdpTxParamPack.layout : Layout :=
  T "ParamId" <| T "ParamResponse" <| T "Data" <| .nil

def UdpActiveStackPack.layout : Layout := T "Data" .nil
def UdpDBConPoolPack.layout : Layout := T "Data" .nil
def UdpConfigPack.layout : Layout := T "Data" .nil

/-- Write first assigns `Data = ArrayInt16ToString(ActiveStats, ",")`, then sends Data -/
def UdpActiveStatsPack.layout : Layout := .setJoin "Data" "ActiveStats" <| T "Data" .nil

/-- known finding: the payload length `Len` is not on the wire; the reader takes `Len` bytes -/
def UdpRelayPack.layout : Layout := .rawLen "Data" "Len" .nil

/-! ### struct fields, Clear(), constructors, type codes -/

def hdrFields : List (String × String) :=
  [("Ver", "int32"), ("Txid", "int64"), ("Time", "int64"), ("Elapsed", "int32"), ("Cpu", "int64"),
   ("Mem", "int64"), ("Pid", "int32"), ("ThreadId", "int64"), ("Index", "int32"), ("Parent", "int32"),
   ("Flush", "bool")]

/-- AbstractPack.Clear() followed by `this.AbstractPack.Flush = flush` -/
def hdrClear (flush : Bool) : List (String × Val) :=
  [("Ver", .int 50100), ("Txid", .int 0), ("Time", .int 0), ("Elapsed", .int 0), ("Cpu", .int 0),
   ("Mem", .int 0), ("Pid", .int 0), ("ThreadId", .int 0), ("Index", .int (-1)), ("Parent", .int (-1)),
   ("Flush", .bool false), ("Flush", .bool flush)]

def S (nm : String) : String × Val := (nm, .str [])
def Z (nm : String) : String × Val := (nm, .int 0)
def Nl (nm : String) : String × Val := (nm, .null)

structure PackT where
  name : String
  code : Nat
  layout : Layout
  fields : List (String × String)      -- struct fields with their Go types, header first
  clear : List (String × Val)          -- assignments of Clear(), in order
  fresh : List (String × Val)          -- assignments of the constructor (after `new`)
  pool : String                        -- the sync.Pool CreatePack / ClosePack use for it

def str (nm : String) : String × String := (nm, "string")
def i32 (nm : String) : String × String := (nm, "int32")
def i64 (nm : String) : String × String := (nm, "int64")

def startOwn : List (String × String) :=
  [str "Host", str "Uri", str "Ipaddr", str "UAgent", str "Ref", str "WClientId", str "HttpMethod",
   str "IsStaticContents"]
def endOwn : List (String × String) :=
  [i64 "Mtid", i32 "Mdepth", i64 "Mcaller", i64 "McallerTxid", i64 "McallerPcode", str "McallerSpec",
   str "McallerUrl", str "McallerPoidKey", i32 "Status", i64 "McallerStepId", str "XTraceId",
   i64 "PeakMem", i32 "ElapsedUserCPUTime", i32 "ElapsedSystemCPUTime", i32 "EFuncCount",
   i32 "ProfEFuncCount", i32 "IFuncCount", i32 "ProfIFuncCount"]
def startClear : List (String × Val) :=
  [S "Host", S "Uri", S "Ipaddr", S "UAgent", S "Ref", S "WClientId", S "HttpMethod", S "IsStaticContents"]
def endClear : List (String × Val) :=
  [Z "Mtid", Z "Mdepth", Z "Mcaller", Z "McallerTxid", Z "McallerPcode", S "McallerSpec", S "McallerUrl",
   S "McallerPoidKey", Z "Status", Z "McallerStepId", S "XTraceId", Z "PeakMem", Z "ElapsedUserCPUTime",
   Z "ElapsedSystemCPUTime", Z "EFuncCount", Z "ProfEFuncCount", Z "IFuncCount", Z "ProfIFuncCount"]

def newOf (flush : Bool) : List (String × Val) := [("Ver", .int 50100), ("Flush", .bool flush)]

def UdpTxStartPack : PackT where
  name := "UdpTxStartPack"; code := 1; layout := UdpTxStartPack.layout; pool := "udpStartPool"
  fields := hdrFields ++ startOwn ++ [("ServiceURL", "*urlutil.URL"), ("RefererURL", "*urlutil.URL"), ("IsStatic", "bool")]
  clear := hdrClear true ++ startClear ++ [Nl "ServiceURL", Nl "RefererURL", ("IsStatic", .bool false)]
  fresh := newOf true

def UdpTxEndPack : PackT where
  name := "UdpTxEndPack"; code := 255; layout := UdpTxEndPack.layout; pool := "udpEndPool"
  fields := hdrFields ++ [str "Host", str "Uri"] ++ endOwn ++ [("ServiceURL", "*urlutil.URL"), i32 "McallerUrlHash"]
  clear := hdrClear true ++ [S "Host", S "Uri"] ++ endClear ++ [Nl "ServiceURL", Z "McallerUrlHash"]
  fresh := newOf true

def UdpTxStartEndPack : PackT where
  name := "UdpTxStartEndPack"; code := 254; layout := UdpTxStartEndPack.layout; pool := "udpStartEndPool"
  fields := hdrFields ++ startOwn ++ endOwn ++
    [("ServiceURL", "*urlutil.URL"), ("RefererURL", "*urlutil.URL"), ("IsStatic", "bool"), i32 "McallerUrlHash"]
  clear := hdrClear true ++ startClear ++ endClear ++
    [Nl "ServiceURL", Nl "RefererURL", ("IsStatic", .bool false), Z "McallerUrlHash"]
  fresh := newOf true

def UdpTxSqlPack : PackT where
  name := "UdpTxSqlPack"; code := 4; layout := UdpTxSqlPack.layout; pool := "udpSqlPool"
  fields := hdrFields ++ [str "Dbc", str "Sql", str "ErrorType", str "ErrorMessage", str "Stack", i32 "Fetch"]
  clear := hdrClear false ++ [S "Dbc", S "Sql", S "ErrorType", S "ErrorMessage", S "Stack", Z "Fetch"]
  fresh := newOf false

def UdpTxSqlParamPack : PackT where
  name := "UdpTxSqlParamPack"; code := 14; layout := UdpTxSqlParamPack.layout; pool := "udpSqlParamPool"
  fields := hdrFields ++ [str "Dbc", str "Sql", str "Param", str "ErrorType", str "ErrorMessage", str "Stack"]
  clear := hdrClear false ++ [S "Dbc", S "Sql", S "Param", S "ErrorType", S "ErrorMessage", S "Stack"]
  fresh := newOf false

def UdpTxDbcPack : PackT where
  name := "UdpTxDbcPack"; code := 2; layout := UdpTxDbcPack.layout; pool := "udpDbcPool"
  fields := hdrFields ++ [str "Dbc", str "ErrorType", str "ErrorMessage", str "Stack"]
  clear := hdrClear false ++ [S "Dbc", S "ErrorType", S "ErrorMessage", S "Stack"]
  fresh := newOf false

def UdpTxHttpcPack : PackT where
  name := "UdpTxHttpcPack"; code := 7; layout := UdpTxHttpcPack.layout; pool := "udpHttpcPool"
  fields := hdrFields ++ [str "Url", i64 "StepId", str "ErrorType", str "ErrorMessage", str "Stack", ("HttpcURL", "*urlutil.URL")]
  clear := hdrClear false ++ [S "Url", Z "StepId", S "ErrorType", S "ErrorMessage", S "Stack", Nl "HttpcURL"]
  fresh := newOf false

def UdpTxErrorPack : PackT where
  name := "UdpTxErrorPack"; code := 10; layout := UdpTxErrorPack.layout; pool := "udpErrorPool"
  fields := hdrFields ++ [str "ErrorType", str "ErrorMessage", str "Stack"]
  clear := hdrClear false ++ [S "ErrorType", S "ErrorMessage", S "Stack"]
  fresh := newOf false

def UdpTxMessagePack : PackT where
  name := "UdpTxMessagePack"; code := 11; layout := UdpTxMessagePack.layout; pool := "udpMessagePool"
  fields := hdrFields ++ [str "Hash", str "Value", str "Desc"]
  clear := hdrClear false ++ [S "Hash", S "Value", S "Desc"]
  fresh := newOf false

def UdpTxSecureMessagePack : PackT where
  name := "UdpTxSecureMessagePack"; code := 13; layout := UdpTxSecureMessagePack.layout; pool := "udpSecureMessagePool"
  fields := hdrFields ++ [str "Hash", str "Value", str "Desc"]
  clear := hdrClear false ++ [S "Hash", S "Value", S "Desc"]
  fresh := newOf false

def UdpTxMethodPack : PackT where
  name := "UdpTxMethodPack"; code := 12; layout := UdpTxMethodPack.layout; pool := "udpMethodPool"
  fields := hdrFields ++ [str "Method", str "Stack"]
  clear := hdrClear false ++ [S "Method", S "Stack"]
  fresh := newOf false

/-- D51, fixed in /repo: before the fix there was no pool and no CreatePack / ClosePack case for this type -/
def UdpTxResultSetPack : PackT where
  name := "UdpTxResultSetPack"; code := 15; layout := UdpTxResultSetPack.layout; pool := "udpResultSetPool"
  fields := hdrFields ++ [str "Dbc", str "Sql", i32 "Fetch"]
  clear := hdrClear false ++ [S "Dbc", S "Sql", Z "Fetch"]
  fresh := newOf false

def UdpTxParamPack : PackT where
  name := "UdpTxParamPack"; code := 30; layout := UdpTxParamPack.layout; pool := "udpTxParamPool"
  fields := hdrFields ++ [str "ParamId", str "ParamResponse", str "Data", ("StrDatas", "[]string"), ("ParamPack", "*pack.ParamPack")]
  clear := hdrClear false ++ [S "ParamId", S "ParamResponse", S "Data", Nl "StrDatas", Nl "ParamPack"]
  fresh := newOf false

def UdpActiveStackPack1 : PackT where
  name := "UdpActiveStackPack1"; code := 39; layout := UdpActiveStackPack1.layout; pool := "udpActiveStack1Pool"
  fields := hdrFields ++ [str "Stack"]
  clear := hdrClear false ++ [S "Stack"]
  fresh := newOf false

def UdpActiveStackPack : PackT where
  name := "UdpActiveStackPack"; code := 40; layout := UdpActiveStackPack.layout; pool := "udpActiveStackPool"
  fields := hdrFields ++ [str "Data", i64 "TxId", str "Stack"]
  clear := hdrClear false ++ [S "Data", Z "TxId", S "Stack"]
  fresh := newOf false

def UdpActiveStatsPack : PackT where
  name := "UdpActiveStatsPack"; code := 41; layout := UdpActiveStatsPack.layout; pool := "udpActiveStatsPool"
  fields := hdrFields ++ [str "Data", ("ActiveStats", "[]int16")]
  clear := hdrClear false ++ [S "Data", Nl "ActiveStats"]
  fresh := newOf false

/-- its own `Pid` shadows the header's, which therefore appears qualified -/
def UdpDBConPoolPack : PackT where
  name := "UdpDBConPoolPack"; code := 42; layout := UdpDBConPoolPack.layout; pool := "udpDBConPool"
  fields := (hdrFields.map fun (n, t) => (if n = "Pid" then "AbstractPack.Pid" else n, t)) ++
    [str "Data", i32 "Pid", str "Url", i32 "ActCnt", i32 "InactCnt"]
  clear := ((hdrClear false).map fun (n, v) => (if n = "Pid" then "AbstractPack.Pid" else n, v)) ++
    [S "Data", Z "Pid", S "Url", Z "ActCnt", Z "InactCnt"]
  fresh := newOf false

/-- D20, fixed in /repo: `Clear` also resets `MapData` (to a fresh empty map; `Process` writes into it) -/
def UdpConfigPack : PackT where
  name := "UdpConfigPack"; code := 230; layout := UdpConfigPack.layout; pool := "udpConfigPool"
  fields := hdrFields ++ [str "Data", ("MapData", "map[string]string")]
  clear := hdrClear false ++ [S "Data", ("MapData", .strs [])]
  fresh := newOf true ++ [("MapData", .strs [])]

/-- D20, fixed in /repo: `Clear` also resets `Data` -/
def UdpRelayPack : PackT where
  name := "UdpRelayPack"; code := 244; layout := UdpRelayPack.layout; pool := "udpRelayPool"
  fields := hdrFields ++ [("RelayType", "int16"), i32 "Len", ("Data", "[]byte")]
  clear := hdrClear false ++ [Z "RelayType", Z "Len", Nl "Data"]
  fresh := newOf false

def allPacks : List PackT :=
  [UdpTxStartPack, UdpTxEndPack, UdpTxStartEndPack, UdpTxSqlPack, UdpTxSqlParamPack, UdpTxDbcPack,
   UdpTxHttpcPack, UdpTxErrorPack, UdpTxMessagePack, UdpTxSecureMessagePack, UdpTxMethodPack,
   UdpTxResultSetPack, UdpTxParamPack, UdpActiveStackPack1, UdpActiveStackPack, UdpActiveStatsPack,
   UdpDBConPoolPack, UdpConfigPack, UdpRelayPack]

def findPack (name : String) : Option PackT := allPacks.find? (fun t => t.name == name)

/-! ### Clear() and the constructor as functions on packs -/

/-- Go zero value of a field of the given type -/
def zeroOf (typ : String) : Val :=
  if typ = "string" then .str []
  else if typ = "bool" then .bool false
  else if typ = "int16" ∨ typ = "int32" ∨ typ = "int64" ∨ typ = "uint8" ∨ typ = "int" then .int 0
  else .null

namespace PackT

def fieldNames (t : PackT) : List String := t.fields.map (·.1)

/-- `p.Clear()` -/
def clearOp (t : PackT) (p : Rec) : Rec := Rec.ofList t.clear p

/-- `NewT()` -/
def freshRec (t : PackT) : Rec :=
  Rec.ofList t.fresh (Rec.ofList (t.fields.map fun (n, ty) => (n, zeroOf ty)) (fun _ => .null))

/-- the constant a field holds after `Clear()` -/
def clearedRec (t : PackT) : Rec := Rec.ofList t.clear (fun _ => .null)

/-- every struct field is assigned by `Clear()` -/
def clearTotal (t : PackT) : Bool := t.fieldNames.all (fun f => (t.clear.map (·.1)).contains f)

end PackT

/-- the documented caps: the transaction-start fields (HTTP_*_MAX_SIZE constants of UdpPack.go) -/
def documentedCaps : List (String × String × Nat) :=
  [("UdpTxStartPack", "Host", 2048), ("UdpTxStartPack", "Uri", 2048), ("UdpTxStartPack", "Ipaddr", 256),
   ("UdpTxStartPack", "UAgent", 2048), ("UdpTxStartPack", "Ref", 2048), ("UdpTxStartPack", "WClientId", 2048),
   ("UdpTxStartPack", "HttpMethod", 256)]

/-- caps found outside the transaction-start fields (known finding) -/
def extraCaps : List (String × String × Nat) :=
  [("UdpTxMessagePack", "Hash", 2048), ("UdpTxMessagePack", "Desc", 32768)]

/-- all (type, field, cap) of the model's layouts, duplicates removed -/
def modelCaps : List (String × String × Nat) :=
  (allPacks.flatMap fun t => (t.layout.caps.map fun (f, n) => (t.name, f, n))).eraseDups

end Udp
