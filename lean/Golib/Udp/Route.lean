/-
  Golib.Udp.Route — CreatePack / ClosePack over the pools of SEVERAL pack types at once.

  The two switches of UdpPack.go route a pack type to a `sync.Pool`: `ClosePack` files the cleared
  pack into the pool its switch names for `p.GetPackType()`, `CreatePack` takes an object out of
  the pool its switch names for the requested type and asserts the type (`.(*UdpTxSqlPack)`): an
  object of another type makes the assertion panic.  `Routing` holds the two maps (type name ↦ pool
  variable) as data — they are regenerated from the source by tie A.

  A pooled object is tagged with the type that was filed; `sync.Pool` hands back any object of the
  pool or a new one and may drop objects (its contract).  A history interleaves events of any
  types; the packs being released are arbitrary.

  Theorem `route_clean`: if both switches name the same pool for every type and no two types share
  a pool, then in every history no CreatePack panics and every pack handed out for type B is, on
  all of B's struct fields, B's Clear() constants or B's constructor constants (with Ver set) —
  whatever was released before, of whatever types.
-/
import Golib.Udp.ProcessThm

namespace Udp

structure Routing where
  closePool : String → String
  createPool : String → String

abbrev Pools := String → List (String × Rec)

def Pools.put (ps : Pools) (pool : String) (o : String × Rec) : Pools :=
  fun q => if q = pool then o :: ps q else ps q
def Pools.setPool (ps : Pools) (pool : String) (l : List (String × Rec)) : Pools :=
  fun q => if q = pool then l else ps q

inductive MEv where
  | close (t : PackT) (p : Rec)
  | create (t : PackT) (pick : Option Nat) (ver : Int)
  | drop (pool : String) (i : Nat)

/-- run a history; `none` = a CreatePack met an object of another type in its pool (type-assertion
    panic); otherwise the packs handed out, in order, with the type and version asked for -/
def runM (R : Routing) : List MEv → Pools → Option (List (PackT × Int × Rec))
  | [], _ => some []
  | .close t p :: evs, ps => runM R evs (ps.put (R.closePool t.name) (t.name, t.clearOp p))
  | .drop pool i :: evs, ps => runM R evs (ps.setPool pool ((ps pool).eraseIdx i))
  | .create t pick ver :: evs, ps =>
    let pool := R.createPool t.name
    let taken : Option (Option (String × Rec) × Pools) :=
      match pick with
      | some i =>
        if h : i < (ps pool).length then some (some (ps pool)[i], ps.setPool pool ((ps pool).eraseIdx i))
        else some (none, ps)
      | none => some (none, ps)
    match taken with
    | some (some (tag, o), ps') =>
      if tag = t.name then (runM R evs ps').map ((t, ver, o.set "Ver" (.int ver)) :: ·) else none
    | some (none, ps') => (runM R evs ps').map ((t, ver, t.freshRec.set "Ver" (.int ver)) :: ·)
    | none => none

/-- a pooled object of pool `P` was filed for a type routed to `P` and carries that type's Clear() constants -/
def PoolsInv (R : Routing) (types : List PackT) (ps : Pools) : Prop :=
  ∀ P, ∀ o ∈ ps P, ∃ t ∈ types, t.name = o.1 ∧ R.createPool t.name = P ∧
    ∀ f ∈ t.fieldNames, o.2 f = t.clearedRec f

/-- the pack handed out is a never-used pack of its type -/
def CleanOut (out : PackT × Int × Rec) : Prop :=
  (∀ f ∈ out.1.fieldNames, out.2.2 f = (out.1.clearedRec.set "Ver" (.int out.2.1)) f) ∨
  (∀ f ∈ out.1.fieldNames, out.2.2 f = (out.1.freshRec.set "Ver" (.int out.2.1)) f)

def evTypeIn (types : List PackT) : MEv → Prop
  | .close t _ => t ∈ types
  | .create t _ _ => t ∈ types
  | .drop _ _ => True

/-- a `filterMap` that succeeds on every key, with a result carrying that key, keeps the list of keys -/
theorem filterMap_keys {α β : Type} (f : α → Option β) (key : β → α) (l : List α)
    (h : ∀ n ∈ l, ∃ g, f n = some g ∧ key g = n) : (l.filterMap f).map key = l := by
  induction l with
  | nil => rfl
  | cons n l ih =>
    obtain ⟨g, hg, hk⟩ := h n (by simp)
    rw [List.filterMap_cons, hg, List.map_cons, hk, ih (fun m hm => h m (by simp [hm]))]

theorem route_inv (R : Routing) (types : List PackT)
    (hn : (types.map (·.name)).Nodup)
    (hsame : ∀ t ∈ types, R.closePool t.name = R.createPool t.name)
    (hinj : ∀ t ∈ types, ∀ u ∈ types, R.createPool t.name = R.createPool u.name → t.name = u.name)
    (hclr : ∀ t ∈ types, t.clearTotal = true)
    (evs : List MEv) (hev : ∀ e ∈ evs, evTypeIn types e) (ps : Pools) (hinv : PoolsInv R types ps) :
    ∃ outs, runM R evs ps = some outs ∧ ∀ out ∈ outs, out.1 ∈ types ∧ CleanOut out := by
  induction evs generalizing ps with
  | nil => exact ⟨[], rfl, by intro o ho; cases ho⟩
  | cons ev evs ih =>
    have hrest : ∀ e ∈ evs, evTypeIn types e := fun e he => hev e (by simp [he])
    have herase : ∀ (pool : String) (i : Nat), PoolsInv R types (ps.setPool pool ((ps pool).eraseIdx i)) := by
      intro pool i P o ho
      simp only [Pools.setPool] at ho
      split at ho
      · rename_i hP; subst hP; exact hinv P o (List.mem_of_mem_eraseIdx ho)
      · exact hinv P o ho
    cases ev with
    | close t p =>
      have ht : t ∈ types := hev (.close t p) (by simp)
      simp only [runM]
      apply ih hrest
      intro P o ho
      simp only [Pools.put] at ho
      split at ho
      · rename_i hP
        rcases List.mem_cons.mp ho with rfl | ho
        · exact ⟨t, ht, rfl, by rw [← hsame t ht, hP], fun f hf => t.clear_const (hclr t ht) p f hf⟩
        · exact hinv P o ho
      · exact hinv P o ho
    | drop pool i =>
      simp only [runM]
      exact ih hrest _ (herase pool i)
    | create t pick ver =>
      have ht : t ∈ types := hev (.create t pick ver) (by simp)
      simp only [runM]
      have hfresh : ∀ ps', PoolsInv R types ps' →
          ∃ outs, Option.map (fun x => (t, ver, t.freshRec.set "Ver" (.int ver)) :: x) (runM R evs ps') = some outs ∧
            ∀ out ∈ outs, out.1 ∈ types ∧ CleanOut out := by
        intro ps' hinv'
        obtain ⟨outs, hr, ho⟩ := ih hrest ps' hinv'
        refine ⟨_, by rw [hr]; rfl, ?_⟩
        intro out hout
        rcases List.mem_cons.mp hout with rfl | hout
        · exact ⟨ht, Or.inr (fun f _ => rfl)⟩
        · exact ho out hout
      cases pick with
      | none => exact hfresh ps hinv
      | some i =>
        by_cases hi : i < (ps (R.createPool t.name)).length
        · simp only [hi, dite_true]
          obtain ⟨u, hu, hname, hpool, hclean⟩ := hinv _ _ (List.getElem_mem hi)
          have hnm : u.name = t.name := hinj u hu t ht hpool
          have hut : u = t := Golib.eq_of_nodup_map (·.name) types hn u t hu ht hnm
          subst hut
          have htag : (ps (R.createPool u.name))[i].1 = u.name := hname.symm
          obtain ⟨outs, hr, ho⟩ := ih hrest _ (herase (R.createPool u.name) i)
          refine ⟨_, by simp only [htag, if_true, hr]; rfl, ?_⟩
          intro out hout
          rcases List.mem_cons.mp hout with rfl | hout
          · exact ⟨ht, Or.inl (Rec.set_congr hclean "Ver" (.int ver))⟩
          · exact ho out hout
        · simp only [hi, dite_false]
          exact hfresh ps hinv

/-- **pool routing**: every history of CreatePack / ClosePack / drops over the pools of several
    types, starting with empty pools, runs without a type-assertion panic and hands out only
    never-used packs of the type asked for -/
theorem route_clean (R : Routing) (types : List PackT)
    (hn : (types.map (·.name)).Nodup)
    (hsame : ∀ t ∈ types, R.closePool t.name = R.createPool t.name)
    (hinj : ∀ t ∈ types, ∀ u ∈ types, R.createPool t.name = R.createPool u.name → t.name = u.name)
    (hclr : ∀ t ∈ types, t.clearTotal = true)
    (evs : List MEv) (hev : ∀ e ∈ evs, evTypeIn types e) :
    ∃ outs, runM R evs (fun _ => []) = some outs ∧ ∀ out ∈ outs, out.1 ∈ types ∧ CleanOut out :=
  route_inv R types hn hsame hinj hclr evs hev _ (by intro P o ho; cases ho)

/-- both switches name the type's own pool and no two types share a pool: the two routing hypotheses of `route_clean` -/
theorem routing_of_pool (R : Routing) (types : List PackT) (hnd : (types.map (·.pool)).Nodup)
    (hp : ∀ t ∈ types, R.closePool t.name = t.pool ∧ R.createPool t.name = t.pool) :
    (∀ t ∈ types, R.closePool t.name = R.createPool t.name) ∧
    (∀ t ∈ types, ∀ u ∈ types, R.createPool t.name = R.createPool u.name → t.name = u.name) :=
  ⟨fun t ht => (hp t ht).1.trans (hp t ht).2.symm,
   fun t ht u hu h => congrArg (·.name) (Golib.eq_of_nodup_map (·.pool) types hnd t u ht hu
     ((hp t ht).2.symm.trans (h.trans (hp u hu).2)))⟩

/-- … and whatever such a pack is used for next (decode or fill, then Process()) ends as on a
    never-used pack of that type -/
theorem route_use_clean (out : PackT × Int × Rec) (hc : CleanOut out) (hr : readsInFields out.1 = true) (u : Use) :
    (match u.run out.1 out.2.1 out.2.2, u.run out.1 out.2.1 (out.1.clearedRec.set "Ver" (.int out.2.1)) with
      | none, none => True
      | some a, some b => ∀ f ∈ out.1.fieldNames, a f = b f
      | _, _ => False) ∨
    (match u.run out.1 out.2.1 out.2.2, u.run out.1 out.2.1 (out.1.freshRec.set "Ver" (.int out.2.1)) with
      | none, none => True
      | some a, some b => ∀ f ∈ out.1.fieldNames, a f = b f
      | _, _ => False) := by
  rcases hc with h | h
  · exact Or.inl (use_congr out.1 hr out.2.1 u _ _ h)
  · exact Or.inr (use_congr out.1 hr out.2.1 u _ _ h)

/-- the routing of the model: both switches use the type's own pool -/
def modelRouting : Routing where
  closePool := fun n => match allPacks.find? (·.name == n) with | some t => t.pool | none => ""
  createPool := fun n => match allPacks.find? (·.name == n) with | some t => t.pool | none => ""

theorem modelRouting_createPool (t : PackT) (hn : (allPacks.map (·.name)).Nodup) (ht : t ∈ allPacks) :
    modelRouting.createPool t.name = t.pool := by
  simp only [modelRouting, Golib.find?_key (·.name) allPacks hn t ht]

/-- what goes wrong without the routing hypothesis: ACTIVE_STACK filed into the ACTIVE_STACK_1 pool -/
def misRouting : Routing where
  closePool := fun n => if n = "UdpActiveStackPack" then "udpActiveStack1Pool" else modelRouting.closePool n
  createPool := modelRouting.createPool

end Udp
