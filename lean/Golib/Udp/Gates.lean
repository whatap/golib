/-
  Golib.Udp.Gates — finitely many versions represent all versions.

  A layout looks at the version only through comparisons with its gate constants.  For every
  version `v` there is a representative among `0` and `g-1, g, g+1` (g a gate of the layout) on
  which every comparison has the same outcome, hence on which writer, reader, `post` and the carried
  fields coincide with those at `v`.  This is why the correspondence harness exercises exactly the
  versions around every gate (plus random ones).
-/
import Golib.Udp.Layout

namespace Udp
namespace Layout

def Cond.gate : Cond → Int
  | .verGt n | .verGe n | .verLt n | .verLe n | .verEq n | .verNe n => n

def conds : Layout → List Cond
  | .nil => []
  | .fld _ _ _ rest => conds rest
  | .ite c t e rest => c :: (conds t ++ conds e ++ conds rest)
  | .setC _ _ rest => conds rest
  | .setJoin _ _ rest => conds rest
  | .rawLen _ _ rest => conds rest
  | .unknown _ => []

/-- the representative versions of a layout -/
def versionReps (l : Layout) : List Int :=
  0 :: (conds l).flatMap (fun c => [Cond.gate c - 1, Cond.gate c, Cond.gate c + 1])

/-- same outcome of every comparison with `n` -/
def sameSide (n v r : Int) : Prop :=
  (v > n ↔ r > n) ∧ (v ≥ n ↔ r ≥ n) ∧ (v < n ↔ r < n) ∧ (v ≤ n ↔ r ≤ n) ∧ (v = n ↔ r = n)

/-- the three cells `< n`, `= n`, `> n` of a gate are convex -/
theorem sameSide_between {n v r r' : Int} (h : sameSide n v r) (hb : (r ≤ r' ∧ r' ≤ v) ∨ (v ≤ r' ∧ r' ≤ r)) :
    sameSide n v r' := by
  unfold sameSide at *; omega

theorem reps_exist (ns : List Int) (v : Int) :
    ∃ r ∈ (0 :: ns.flatMap (fun n => [n - 1, n, n + 1])), ∀ n ∈ ns, sameSide n v r := by
  induction ns with
  | nil => exact ⟨0, by simp, fun _ h => by cases h⟩
  | cons m ns ih =>
    obtain ⟨r, hr, hs⟩ := ih
    -- keep `r` if it is on `v`'s side of the new gate `m`; else take the neighbour of `m` on `v`'s side: it lies
    -- between `r` and `v`, hence in the cell of every older gate
    have key : ∃ r', (r' = r ∨ r' = m - 1 ∨ r' = m ∨ r' = m + 1) ∧ sameSide m v r' ∧
        ((r ≤ r' ∧ r' ≤ v) ∨ (v ≤ r' ∧ r' ≤ r)) := by
      by_cases h1 : v = m
      · exact ⟨m, by simp, by unfold sameSide; omega, by omega⟩
      · by_cases h2 : m < v
        · by_cases h3 : m < r
          · exact ⟨r, by simp, by unfold sameSide; omega, by omega⟩
          · exact ⟨m + 1, by simp, by unfold sameSide; omega, by omega⟩
        · by_cases h3 : r < m
          · exact ⟨r, by simp, by unfold sameSide; omega, by omega⟩
          · exact ⟨m - 1, by simp, by unfold sameSide; omega, by omega⟩
    obtain ⟨r', hmem, hm, hb⟩ := key
    refine ⟨r', ?_, ?_⟩
    · simp only [List.flatMap_cons, List.mem_cons, List.mem_append, List.not_mem_nil, or_false] at hr ⊢
      rcases hmem with rfl | rfl | rfl | rfl
      · rcases hr with h | h
        · exact .inl h
        · exact .inr (.inr h)
      all_goals simp
    · intro n hn
      rcases List.mem_cons.mp hn with rfl | hn
      · exact hm
      · exact sameSide_between (hs n hn) hb

theorem eval_same (c : Cond) (v r : Int) (h : sameSide (Cond.gate c) v r) : c.eval v = c.eval r := by
  obtain ⟨h1, h2, h3, h4, h5⟩ := h
  cases c <;> simp only [Cond.eval, Cond.gate] at * <;> simp only [decide_eq_decide] <;>
    first | exact h1 | exact h2 | exact h3 | exact h4 | exact h5 | (exact not_congr h5)

/-- a layout behaves at `v` as at any `r` on the same side of all its gates -/
theorem same_behaviour (l : Layout) (v r : Int) (h : ∀ c ∈ conds l, c.eval v = c.eval r) :
    (∀ x, write l v x = write l r x) ∧ (∀ st, read l v st = read l r st) ∧
    (∀ x st, post l v x st = post l r x st) ∧ carried l v = carried l r := by
  induction l with
  | nil => exact ⟨fun _ => rfl, fun _ => rfl, fun _ _ => rfl, rfl⟩
  | fld nm p c rest ih =>
    obtain ⟨a, b, c', d⟩ := ih h
    exact ⟨fun x => by simp only [write, a], fun st => by simp only [read, b],
      fun x st => by simp only [post, c'], by simp only [carried, d]⟩
  | ite c t e rest iht ihe ihr =>
    have hc : c.eval v = c.eval r := h c (by simp [conds])
    obtain ⟨a1, b1, c1, d1⟩ := iht (fun k hk => h k (by simp [conds, hk]))
    obtain ⟨a2, b2, c2, d2⟩ := ihe (fun k hk => h k (by simp [conds, hk]))
    obtain ⟨a3, b3, c3, d3⟩ := ihr (fun k hk => h k (by simp [conds, hk]))
    refine ⟨?_, ?_, ?_, ?_⟩
    · intro x; simp only [write, hc, a1, a2, a3]
    · intro st
      simp only [read, hc, b1, b2]
      congr 1; funext st'; exact b3 st'
    · intro x st; simp only [post, hc, c1, c2, c3]
    · simp only [carried, hc, d1, d2, d3]
  | setC nm val rest ih =>
    obtain ⟨a, b, c', d⟩ := ih h
    exact ⟨fun x => by simp only [write, a], fun st => by simp only [read, b],
      fun x st => by simp only [post, c'], by simp only [carried, d]⟩
  | setJoin nm src rest ih =>
    obtain ⟨a, b, c', d⟩ := ih h
    exact ⟨fun x => by simp only [write, a], fun st => by simp only [read, b],
      fun x st => by simp only [post, c'], by simp only [carried, d]⟩
  | rawLen nm ln rest ih =>
    obtain ⟨a, b, c', d⟩ := ih h
    refine ⟨fun x => by simp only [write, a], ?_, fun x st => by simp only [post, c'], by simp only [carried, d]⟩
    intro st
    simp only [read]
    split
    · rfl
    · congr 1; funext bs; exact b _
  | unknown why => exact ⟨fun _ => rfl, fun _ => rfl, fun _ _ => rfl, rfl⟩

/-- **version coverage**: every version behaves like one of the representatives -/
theorem version_coverage (l : Layout) (v : Int) :
    ∃ r ∈ versionReps l,
      (∀ x, write l v x = write l r x) ∧ (∀ st, read l v st = read l r st) ∧
      (∀ x st, post l v x st = post l r x st) ∧ carried l v = carried l r := by
  obtain ⟨r, hr, hs⟩ := reps_exist ((conds l).map Cond.gate) v
  refine ⟨r, ?_, same_behaviour l v r ?_⟩
  · unfold versionReps
    rcases List.mem_cons.mp hr with h | h
    · simp [h]
    · apply List.mem_cons_of_mem
      obtain ⟨n, hn, hrn⟩ := List.mem_flatMap.mp h
      obtain ⟨c, hc, rfl⟩ := List.mem_map.mp hn
      exact List.mem_flatMap.mpr ⟨c, hc, hrn⟩
  · intro c hc
    exact eval_same c v r (hs _ (List.mem_map.mpr ⟨c, hc, rfl⟩))

end Layout
end Udp
