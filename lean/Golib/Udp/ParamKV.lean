/-
  Golib.Udp.ParamKV — CodeModel of util/paramtext/ParamKV.go and of the connection-string
  masking in `Process()` of UdpTxSqlPack / UdpTxSqlParamPack / UdpTxDbcPack.

  Strings are byte lists (Go strings are; UTF-8 only matters to `TrimSpace`, which is modelled by
  the byte forms of the white-space characters).  In `ToPair` (D52, fixed in /repo)
  the key ends at the first `=` *of the string itself*; before the fix the code took the offset of the
  first `=` in `strings.ToLower(s)` and applied it to `s`, which is a different offset whenever
  lower-casing changes the UTF-8 length of the key.

    NewParamKVSeperate(s, sep, "=")   tokens = strings.Split(s, sep); kvMap[k] = v for every token
                                      whose trimmed key is non-empty (a later token overwrites)
    ToStringStr(key, val)             if key is in the map: kvMap[key] = val; then ToString()
    ToString()                        every token with a key is rebuilt as k "=" kvMap[k], the others
                                      are copied; joined by sep
-/
import Golib.Basic

namespace Udp

/-- `strings.Split(s, string(c))` for a one-byte separator (never empty: `"" ↦ [""]`) -/
def splitOn (c : Nat) : Bytes → List Bytes
  | [] => [[]]
  | x :: xs =>
    if x = c then [] :: splitOn c xs
    else match splitOn c xs with
      | [] => [[x]]
      | h :: t => (x :: h) :: t

/-- `strings.Join(parts, string(c))` -/
def joinOn (c : Nat) : List Bytes → Bytes
  | [] => []
  | [x] => x
  | x :: y :: r => x ++ c :: joinOn c (y :: r)

/-- the UTF-8 forms of the characters `unicode.IsSpace` accepts: U+0009–000D, U+0020, U+0085,
    U+00A0, U+1680, U+2000–200A, U+2028, U+2029, U+202F, U+205F, U+3000 -/
def spaceSeqs : List Bytes :=
  [[9], [10], [11], [12], [13], [32], [194, 133], [194, 160], [225, 154, 128],
   [226, 128, 128], [226, 128, 129], [226, 128, 130], [226, 128, 131], [226, 128, 132], [226, 128, 133],
   [226, 128, 134], [226, 128, 135], [226, 128, 136], [226, 128, 137], [226, 128, 138],
   [226, 128, 168], [226, 128, 169], [226, 128, 175], [226, 129, 159], [227, 128, 128]]

/-- remove one leading sequence of `seqs`, if there is one -/
def dropOne (seqs : List Bytes) (s : Bytes) : Option Bytes :=
  seqs.findSome? fun q => if q.isPrefixOf s then some (s.drop q.length) else none

def dropAll (seqs : List Bytes) : Nat → Bytes → Bytes
  | 0, s => s
  | n + 1, s =>
    match dropOne seqs s with
    | some r => dropAll seqs n r
    | none => s

def trimLeft (s : Bytes) : Bytes := dropAll spaceSeqs s.length s
def trimRight (s : Bytes) : Bytes := (dropAll (spaceSeqs.map List.reverse) s.length s.reverse).reverse
/-- `strings.TrimSpace`: leading and trailing white-space characters removed (an invalid byte is
    not white space) -/
def trim (s : Bytes) : Bytes := trimRight (trimLeft s)

/-- `paramtext.ToPair(s, "=")`: split at the first `=`; no `=` ↦ ("", "") -/
def toPair (s : Bytes) : Bytes × Bytes :=
  if s.contains 61 then
    (trim (s.takeWhile (· != 61)), trim ((s.dropWhile (· != 61)).drop 1))
  else ([], [])

def keyOf (s : Bytes) : Bytes := (toPair s).1
def valOf (s : Bytes) : Bytes := (toPair s).2

/-- `kvMap[k]` after the constructor: the value of the last token with key `k` -/
def lookupLast (k : Bytes) (toks : List Bytes) : Bytes :=
  match toks.reverse.find? (fun t => keyOf t == k) with
  | some t => valOf t
  | none => []

/-- `NewParamKVSeperate(s, sep, "=").ToStringStr(key, val)` -/
def maskPass (c : Nat) (key val : Bytes) (s : Bytes) : Bytes :=
  let toks := splitOn c s
  joinOn c (toks.map fun t =>
    let k := keyOf t
    if k.isEmpty then t
    else k ++ 61 :: (if k == key then val else lookupLast k toks))

def kwPassword : Bytes := [112, 97, 115, 115, 119, 111, 114, 100]   -- "password"
def kwHash : Bytes := [35]                                            -- "#"

/-- the `if this.Dbc != "" { … " " … ";" … }` block of `Process()` -/
def maskDbc (s : Bytes) : Bytes :=
  if s.isEmpty then s else maskPass 59 kwPassword kwHash (maskPass 32 kwPassword kwHash s)

/-- families whose `Process()` masks the connection string: Go (`Ver > 50000`) and PHP (the final
    `else`, `Ver ≤ 20000`) -/
def masksAt (ver : Int) : Bool := decide (ver > 50000) || decide (ver ≤ 20000)

/-- `Dbc` after `Process()` of an SQL / SQL-param / DB-connection pack at version `ver` -/
def processDbc (ver : Int) (dbc : Bytes) : Bytes := if masksAt ver then maskDbc dbc else dbc

/-- the tokens of a connection string: split at `;` and at space -/
def tokens2 (s : Bytes) : List Bytes := (splitOn 59 s).flatMap (splitOn 32)

/-- no password key keeps a value -/
def leakFree (s : Bytes) : Prop := ∀ t ∈ tokens2 s, keyOf t = kwPassword → valOf t = kwHash

end Udp
