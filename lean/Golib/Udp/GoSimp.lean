/-
  Golib.Udp.GoSimp — the simp set `udp_go` (declared here because an attribute cannot be used in the
  module that declares it; its members are named in Golib.Udp.GoIR and Golib.Props.C07Go).
-/
import Lean.Meta.Tactic.Simp.RegisterCommand

/-- the evaluation equations of the Go IR (Golib.Udp.GoIR): one step of `execSs` / `execS` for every statement form
    (loops stay folded), `evalE` / `evalEs`, the builtins `biApply` / `binApply` / `vEq`, assignment and lookup
    (`setL`, `getL`, `initLoc`, `upd`) and the call `runFn` -/
register_simp_attr udp_go
