/-
  Golib.Udp.Layout — the layout IR of the UDP tracer packs (lang/pack/udp).

  A `Layout` is the transcription of one `Write(*DataOutputX)` or
  `Read(*DataInputX)` body: a sequence (continuation style: every item carries
  the rest) of field transfers, version gates and the few plain assignments
  those bodies contain.  The same IR is

    * written by hand per pack type in Golib.Udp.Packs (the CodeModel, one merged
      layout per type), run by the driver `drv_c07` against the real code (tie B);
    * regenerated from the Go source by `xlate/c07`, separately for every `Write`
      and every `Read` (tie A), and compared with the hand-written layout through
      the writer's view `wv` and the reader's view `rv`.

  `write l ver x`        bytes produced by the writer for pack `x` at version `ver`
  `read l ver st`        decoder (a `P` program) updating the receiving pack `st`
  `post l ver x st`      the receiving pack after a successful read: what the wire carries
  `roundtrip`            proved once, by induction on the IR, for *every* `ver : Int`
-/
import Golib.Udp.NumText

namespace Udp
open Prim

/-- field values of a pack (strings are byte strings, as in Go) -/
inductive Val where
  | int (v : Int)
  | str (b : Bytes)
  | ints (xs : List Int)      -- []int16
  | bool (b : Bool)
  | strs (xs : List Bytes)    -- []string, map[string]string (as "k=v" entries in insertion order): Clear tables, fields derived by Process()
  | null                      -- nil pointer / slice / map
deriving DecidableEq, Repr, Inhabited

def Val.asInt : Val → Int
  | .int v => v
  | _ => 0
def Val.asStr : Val → Bytes
  | .str b => b
  | _ => []
def Val.asInts : Val → List Int
  | .ints xs => xs
  | _ => []

/-- a pack: field name ↦ value -/
abbrev Rec := String → Val

def Rec.set (r : Rec) (k : String) (v : Val) : Rec := fun k' => if k' = k then v else r k'

def Rec.ofList (kvs : List (String × Val)) (dflt : Rec) : Rec :=
  kvs.foldl (fun r kv => r.set kv.1 kv.2) dflt

/-- two packs that agree on the fields `L` still do after the same assignment -/
theorem Rec.set_congr {s1 s2 : Rec} {L : List String} (h : ∀ f ∈ L, s1 f = s2 f) (k : String) (v : Val) :
    ∀ f ∈ L, s1.set k v f = s2.set k v f := by
  intro f hf; simp only [Rec.set]; split
  · rfl
  · exact h f hf

/-- wire primitive of a field transfer -/
inductive Fmt where
  | i32      -- WriteInt / ReadInt
  | i64      -- WriteLong / ReadLong
  | text16   -- WriteTextShortLength / ReadTextShortLength
deriving DecidableEq, Repr

/-- conversion between the field and the value handed to / taken from the stream -/
inductive Conv where
  | id
  | trunc (n : Nat)       -- writer: stringutil.Truncate(this.F, n)
  | numText (w : Nat)     -- writer: ParseStringZeroToEmpty(int64(this.F)); reader: ParseInt32 (w=4) / ParseInt64 (w=8)
  | rune                  -- writer: string(this.F) on an integer field (Go's rune conversion)
deriving DecidableEq, Repr

inductive Cond where
  | verGt (n : Int) | verGe (n : Int) | verLt (n : Int) | verLe (n : Int) | verEq (n : Int) | verNe (n : Int)
deriving DecidableEq, Repr

def Cond.eval : Cond → Int → Bool
  | .verGt n, v => decide (v > n)
  | .verGe n, v => decide (v ≥ n)
  | .verLt n, v => decide (v < n)
  | .verLe n, v => decide (v ≤ n)
  | .verEq n, v => decide (v = n)
  | .verNe n, v => decide (v ≠ n)

inductive Layout where
  | nil
  | fld (name : String) (p : Fmt) (c : Conv) (rest : Layout)
  | ite (c : Cond) (t e : Layout) (rest : Layout)
  | setC (name : String) (v : Val) (rest : Layout)        -- reader: this.F = <constant>
  | setJoin (name src : String) (rest : Layout)           -- writer: this.F = ArrayInt16ToString(this.G, ",")
  | rawLen (name len : String) (rest : Layout)            -- WriteBytes(this.F) / this.F = ReadBytes(this.G)
  | unknown (why : String)                                -- a statement the translator does not understand
deriving DecidableEq, Repr

/-- writer side: field value ↦ wire value -/
def convW : Conv → Val → Val
  | .id, v => v
  | .trunc n, v => .str (v.asStr.take n)
  | .numText _, v => .str (zeroToEmpty v.asInt)
  | .rune, v => .str (utf8Rune v.asInt)

/-- reader side: wire value ↦ field value -/
def convR : Conv → Val → Val
  | .numText w, v => .int (parseIntW w v.asStr)
  | _, v => v

def encF : Fmt → Val → Bytes
  | .i32, v => encI 4 v.asInt
  | .i64, v => encI 8 v.asInt
  | .text16, v => encBytes16 v.asStr

def decF : Fmt → P Val
  | .i32 => P.bind (rdI 4) (fun v => .pure (.int v))
  | .i64 => P.bind (rdI 8) (fun v => .pure (.int v))
  | .text16 => P.bind decBytes16 (fun b => .pure (.str b))

namespace Layout

def write : Layout → Int → Rec → Bytes
  | .nil, _, _ => []
  | .fld nm p c rest, ver, x => encF p (convW c (x nm)) ++ write rest ver x
  | .ite c t e rest, ver, x => (if c.eval ver then write t ver x else write e ver x) ++ write rest ver x
  | .setC _ _ rest, ver, x => write rest ver x
  | .setJoin nm src rest, ver, x => write rest ver (x.set nm (.str (joinInts 44 (x src).asInts)))
  | .rawLen nm _ rest, ver, x => (x nm).asStr ++ write rest ver x
  | .unknown _, _, _ => []

def read : Layout → Int → Rec → P Rec
  | .nil, _, st => .pure st
  | .fld nm p c rest, ver, st => P.bind (decF p) (fun w => read rest ver (st.set nm (convR c w)))
  | .ite c t e rest, ver, st =>
      P.bind (if c.eval ver then read t ver st else read e ver st) (fun st' => read rest ver st')
  | .setC nm v rest, ver, st => read rest ver (st.set nm v)
  | .setJoin _ _ rest, ver, st => read rest ver st
  | .rawLen nm ln rest, ver, st =>
      let n := (st ln).asInt
      if n < 0 then .fail
      else P.bind (rdBytes n.toNat) (fun b => read rest ver (st.set nm (.str b)))
  | .unknown _, _, _ => .fail

/-- the receiving pack after reading what `x` wrote: every transferred field holds what the wire
    carried for it (`convR c (convW c v)`: the value itself, its truncation, or the re-parsed number),
    every other field is what it was (or the constant the reader assigns) -/
def post : Layout → Int → Rec → Rec → Rec
  | .nil, _, _, st => st
  | .fld nm _ c rest, ver, x, st => post rest ver x (st.set nm (convR c (convW c (x nm))))
  | .ite c t e rest, ver, x, st =>
      post rest ver x (if c.eval ver then post t ver x st else post e ver x st)
  | .setC nm v rest, ver, x, st => post rest ver x (st.set nm v)
  | .setJoin nm src rest, ver, x, st => post rest ver (x.set nm (.str (joinInts 44 (x src).asInts))) st
  | .rawLen nm _ rest, ver, x, st => post rest ver x (st.set nm (.str (x nm).asStr))
  | .unknown _, _, _, st => st

/-- well-formed field value for a transfer: integers within the declared width, texts within the
    16-bit length range (after the writer's cap) -/
def wfFld : Fmt → Conv → Val → Prop
  | .i32, .id, v => ∃ n, v = .int n ∧ inRange 4 n
  | .i64, .id, v => ∃ n, v = .int n ∧ inRange 8 n
  | .text16, .id, v => ∃ b, v = .str b ∧ b.length ≤ 65535
  | .text16, .trunc n, v => ∃ b, v = .str b ∧ (b.take n).length ≤ 65535
  | .text16, .numText w, v => ∃ n, v = .int n ∧ inRange w n ∧ (w = 4 ∨ w = 8)
  | .text16, .rune, v => ∃ n, v = .int n
  | _, _, _ => False

def WF : Layout → Int → Rec → Rec → Prop
  | .nil, _, _, _ => True
  | .fld nm p c rest, ver, x, st =>
      wfFld p c (x nm) ∧ WF rest ver x (st.set nm (convR c (convW c (x nm))))
  | .ite c t e rest, ver, x, st =>
      (if c.eval ver then WF t ver x st else WF e ver x st) ∧
      WF rest ver x (if c.eval ver then post t ver x st else post e ver x st)
  | .setC nm v rest, ver, x, st => WF rest ver x (st.set nm v)
  | .setJoin nm src rest, ver, x, st => WF rest ver (x.set nm (.str (joinInts 44 (x src).asInts))) st
  | .rawLen nm ln rest, ver, x, st =>
      (∃ b, x nm = .str b ∧ st ln = .int b.length) ∧ WF rest ver x (st.set nm (.str (x nm).asStr))
  | .unknown _, _, _, _ => False

end Layout

theorem run_decF_text16 (b r : Bytes) (h : b.length ≤ 65535) :
    P.run (decF .text16) (encF .text16 (.str b) ++ r) = some (.str b, r) :=
  P.run_map_some _ (run_decBytes16 b r h)

/-- one field transfer: the reader takes back exactly the wire value -/
theorem run_decF (p : Fmt) (c : Conv) (v : Val) (r : Bytes) (h : Layout.wfFld p c v) :
    P.run (decF p) (encF p (convW c v) ++ r) = some (convW c v, r) := by
  cases p <;> cases c <;> simp only [Layout.wfFld] at h
  · obtain ⟨n, rfl, hn⟩ := h; exact P.run_map_some _ (run_rdI 4 n r hn)
  · obtain ⟨n, rfl, hn⟩ := h; exact P.run_map_some _ (run_rdI 8 n r hn)
  · obtain ⟨b, rfl, hb⟩ := h; exact run_decF_text16 b r hb
  · obtain ⟨b, rfl, hb⟩ := h; exact run_decF_text16 _ r hb
  · obtain ⟨n, rfl, hn, hw⟩ := h
    refine run_decF_text16 _ r ?_
    have h8 : inRange 8 n := by
      rcases hw with rfl | rfl
      · exact inRange_mono (by decide) hn
      · exact hn
    have := zeroToEmpty_length n h8
    simp only [Val.asInt]; omega
  · obtain ⟨n, rfl⟩ := h
    refine run_decF_text16 _ r ?_
    have := utf8Rune_length n
    simp only [Val.asInt]; omega

namespace Layout

/-- the reader takes back exactly the writer's bytes and leaves `post`: by induction on the IR, one `Reads.bind`
    per item -/
theorem reads (l : Layout) (ver : Int) (x st : Rec) (h : WF l ver x st) :
    (read l ver st).Reads (write l ver x) (post l ver x st) := by
  induction l generalizing x st with
  | nil => exact .pure st
  | unknown why => exact h.elim
  | fld nm p c rest ih => exact .bind (run_decF p c (x nm) · h.1) (ih x _ h.2)
  | setC nm v rest ih => exact ih x _ h
  | setJoin nm src rest ih => exact ih _ st h
  | ite c t e rest iht ihe ihr =>
    simp only [read, write, post, WF] at h ⊢
    cases hc : c.eval ver <;> simp only [hc, Bool.false_eq_true, if_true, if_false] at h ⊢
    · exact .bind (ihe x st h.1) (ihr x _ h.2)
    · exact .bind (iht x st h.1) (ihr x _ h.2)
  | rawLen nm ln rest ih =>
    obtain ⟨⟨b, hb, hl⟩, h2⟩ := h
    simp only [read, write, post, hl, hb, Val.asInt, Val.asStr, Int.not_lt.mpr (Int.natCast_nonneg _), if_false,
      Int.toNat_natCast] at h2 ⊢
    exact .bind (run_rdBytes b) (ih x _ h2)

/-- **generic round trip**: for every layout, every version, every well-formed pack and whatever
    follows on the wire, the reader consumes exactly the writer's bytes and leaves `post` -/
theorem roundtrip (l : Layout) (ver : Int) (x st : Rec) (r : Bytes) (h : WF l ver x st) :
    P.run (read l ver st) (write l ver x ++ r) = some (post l ver x st, r) := reads l ver x st h r

/-- a strict prefix of what the writer produced never reads back -/
theorem prefix_fails (l : Layout) (ver : Int) (x st : Rec) (q s : Bytes) (h : WF l ver x st)
    (hs : s ≠ []) (hq : q ++ s = write l ver x) : P.run (read l ver st) q = none :=
  Reads.prefix_fails (reads l ver x st h) (P.run_stable _) hs hq

/-! ### the writer's view and the reader's view (tie A)

  `xlate/c07` transcribes `Write` and `Read` separately.  The writer never executes the reader's
  constant assignments, the reader never sees the writer's caps or pre-assignments: `wv` and `rv`
  erase exactly what the other side cannot see.  A writer transcription `w` and a reader
  transcription `r` *agree through* a merged layout `m` when `wv w = wv m` and `rv r = rv m`;
  then `read r ∘ write w` is `read m ∘ write m`, to which `roundtrip` applies. -/

/-- a gate with two empty arms is no statement at all (the packs are full of empty
    `if this.Ver > 50000 { } else if … { }` family ladders) -/
def mkIte (c : Cond) (t e rest : Layout) : Layout :=
  if t = .nil ∧ e = .nil then rest else .ite c t e rest

theorem write_mkIte (c : Cond) (t e rest : Layout) (ver : Int) (x : Rec) :
    write (mkIte c t e rest) ver x = write (.ite c t e rest) ver x := by
  unfold mkIte
  split
  · rename_i h; obtain ⟨rfl, rfl⟩ := h; simp [write]
  · rfl

theorem read_mkIte (c : Cond) (t e rest : Layout) (ver : Int) (st : Rec) :
    read (mkIte c t e rest) ver st = read (.ite c t e rest) ver st := by
  unfold mkIte
  split
  · rename_i h; obtain ⟨rfl, rfl⟩ := h
    simp only [read]
    cases c.eval ver <;> rfl
  · rfl

def wv : Layout → Layout
  | .nil => .nil
  | .fld nm p c rest => .fld nm p c (wv rest)
  | .ite c t e rest => mkIte c (wv t) (wv e) (wv rest)
  | .setC _ _ rest => wv rest
  | .setJoin nm src rest => .setJoin nm src (wv rest)
  | .rawLen nm _ rest => .rawLen nm "" (wv rest)
  | .unknown why => .unknown why

/-- reader side of a conversion -/
def rconv : Conv → Conv
  | .numText w => .numText w
  | _ => .id

def rv : Layout → Layout
  | .nil => .nil
  | .fld nm p c rest => .fld nm p (rconv c) (rv rest)
  | .ite c t e rest => mkIte c (rv t) (rv e) (rv rest)
  | .setC nm v rest => .setC nm v (rv rest)
  | .setJoin _ _ rest => rv rest
  | .rawLen nm ln rest => .rawLen nm ln (rv rest)
  | .unknown why => .unknown why

theorem write_wv (l : Layout) (ver : Int) (x : Rec) : write (wv l) ver x = write l ver x := by
  induction l generalizing x with
  | nil => rfl
  | fld nm p c rest ih => simp only [wv, write, ih]
  | ite c t e rest iht ihe ihr => simp only [wv, write_mkIte, write, iht, ihe, ihr]
  | setC nm v rest ih => simp only [wv, write, ih]
  | setJoin nm src rest ih => simp only [wv, write, ih]
  | rawLen nm ln rest ih => simp only [wv, write, ih]
  | unknown why => rfl

theorem convR_rconv (c : Conv) : convR (rconv c) = convR c := by
  cases c <;> rfl

theorem read_rv (l : Layout) (ver : Int) (st : Rec) : read (rv l) ver st = read l ver st := by
  induction l generalizing st with
  | nil => rfl
  | fld nm p c rest ih => simp only [rv, read, ih, convR_rconv]
  | ite c t e rest iht ihe ihr => simp only [rv, read_mkIte, read, iht, ihe, ihr]
  | setC nm v rest ih => simp only [rv, read, ih]
  | setJoin nm src rest ih => simp only [rv, read, ih]
  | rawLen nm ln rest ih => simp only [rv, read, ih]
  | unknown why => rfl

/-- does the layout contain an untranslated statement? -/
def hasUnknown : Layout → Bool
  | .nil => false
  | .fld _ _ _ rest => hasUnknown rest
  | .ite _ t e rest => hasUnknown t || hasUnknown e || hasUnknown rest
  | .setC _ _ rest => hasUnknown rest
  | .setJoin _ _ rest => hasUnknown rest
  | .rawLen _ _ rest => hasUnknown rest
  | .unknown _ => true

/-- writer transcription `w` and reader transcription `r` agree through the merged layout `m` -/
def agree (w r m : Layout) : Bool :=
  decide (wv w = wv m) && decide (rv r = rv m) && !hasUnknown m

theorem agree_roundtrip (w r m : Layout) (ha : agree w r m = true)
    (ver : Int) (x st : Rec) (rest : Bytes) (h : WF m ver x st) :
    P.run (read r ver st) (write w ver x ++ rest) = some (post m ver x st, rest) := by
  simp only [agree, Bool.and_eq_true, decide_eq_true_eq] at ha
  obtain ⟨⟨hw, hr⟩, _⟩ := ha
  rw [← write_wv w, hw, write_wv, ← read_rv r, hr, read_rv]
  exact roundtrip m ver x st rest h

/-- the fields the reader assigns, in order, at version `ver` (transfers and constants) -/
def assigned : Layout → Int → List String
  | .nil, _ => []
  | .fld nm _ _ rest, ver => nm :: assigned rest ver
  | .ite c t e rest, ver => (if c.eval ver then assigned t ver else assigned e ver) ++ assigned rest ver
  | .setC nm _ rest, ver => nm :: assigned rest ver
  | .setJoin _ _ rest, ver => assigned rest ver
  | .rawLen nm _ rest, ver => nm :: assigned rest ver
  | .unknown _, _ => []

/-- the fields carried by the wire at version `ver`, in wire order -/
def carried : Layout → Int → List String
  | .nil, _ => []
  | .fld nm _ _ rest, ver => nm :: carried rest ver
  | .ite c t e rest, ver => (if c.eval ver then carried t ver else carried e ver) ++ carried rest ver
  | .setC _ _ rest, ver => carried rest ver
  | .setJoin _ _ rest, ver => carried rest ver
  | .rawLen nm _ rest, ver => nm :: carried rest ver
  | .unknown _, _ => []

/-- a field the reader does not assign keeps its value -/
theorem post_unassigned (l : Layout) (ver : Int) (x st : Rec) (f : String)
    (h : f ∉ assigned l ver) : post l ver x st f = st f := by
  induction l generalizing x st with
  | nil => rfl
  | fld nm p c rest ih =>
    simp only [assigned, List.mem_cons, not_or] at h
    simp only [post]; rw [ih _ _ h.2]; simp [Rec.set, h.1]
  | ite c t e rest iht ihe ihr =>
    simp only [assigned, List.mem_append, not_or] at h
    simp only [post]; rw [ihr _ _ h.2]
    cases hc : c.eval ver
    · simp only [hc, Bool.false_eq_true, if_false] at h ⊢; exact ihe _ _ h.1
    · simp only [hc, if_true] at h ⊢; exact iht _ _ h.1
  | setC nm v rest ih =>
    simp only [assigned, List.mem_cons, not_or] at h
    simp only [post]; rw [ih _ _ h.2]; simp [Rec.set, h.1]
  | setJoin nm src rest ih => simp only [assigned] at h; simp only [post]; exact ih _ _ h
  | rawLen nm ln rest ih =>
    simp only [assigned, List.mem_cons, not_or] at h
    simp only [post]; rw [ih _ _ h.2]; simp [Rec.set, h.1]
  | unknown why => rfl

/-- all version constants a layout compares with -/
def gates : Layout → List Int
  | .nil => []
  | .fld _ _ _ rest => gates rest
  | .ite c t e rest =>
      (match c with
        | .verGt n | .verGe n | .verLt n | .verLe n | .verEq n | .verNe n => n) :: (gates t ++ gates e ++ gates rest)
  | .setC _ _ rest => gates rest
  | .setJoin _ _ rest => gates rest
  | .rawLen _ _ rest => gates rest
  | .unknown _ => []

/-- the writer-side caps of a layout: (field, cap) -/
def caps : Layout → List (String × Nat)
  | .nil => []
  | .fld nm _ c rest => (match c with | .trunc n => [(nm, n)] | _ => []) ++ caps rest
  | .ite _ t e rest => caps t ++ caps e ++ caps rest
  | .setC _ _ rest => caps rest
  | .setJoin _ _ rest => caps rest
  | .rawLen _ _ rest => caps rest
  | .unknown _ => []

/-- the integer-as-text transfers of a layout: (field, width) -/
def numTexts : Layout → List (String × Nat)
  | .nil => []
  | .fld nm _ c rest => (match c with | .numText w => [(nm, w)] | _ => []) ++ numTexts rest
  | .ite _ t e rest => numTexts t ++ numTexts e ++ numTexts rest
  | .setC _ _ rest => numTexts rest
  | .setJoin _ _ rest => numTexts rest
  | .rawLen _ _ rest => numTexts rest
  | .unknown _ => []

def append : Layout → Layout → Layout
  | .nil, k => k
  | .fld nm p c rest, k => .fld nm p c (append rest k)
  | .ite c t e rest, k => .ite c t e (append rest k)
  | .setC nm v rest, k => .setC nm v (append rest k)
  | .setJoin nm src rest, k => .setJoin nm src (append rest k)
  | .rawLen nm ln rest, k => .rawLen nm ln (append rest k)
  | .unknown why, _ => .unknown why

end Layout

/-! ### what one transfer carries (Spec side of `post`) -/

/-- the value the reader ends up with for a well-formed field: itself, or its documented cap -/
def carry : Conv → Val → Val
  | .trunc n, v => .str (v.asStr.take n)
  | .rune, v => .str (utf8Rune v.asInt)
  | _, v => v

theorem carry_spec (p : Fmt) (c : Conv) (v : Val) (h : Layout.wfFld p c v) :
    convR c (convW c v) = carry c v := by
  cases p <;> cases c <;> simp only [Layout.wfFld] at h <;> try rfl
  obtain ⟨n, rfl, hn, _⟩ := h
  simp only [convR, convW, carry, Val.asInt, Val.asStr, numtext_roundtrip _ n hn]

end Udp
