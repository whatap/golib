/-
  Golib.Udp.Mask — the connection-string masking of `Process()` leaves no password.

  Grammar: a connection string is a sequence of tokens `key=value` separated by blanks or
  semicolons (freely mixed); keys and values are *plain* (`Plain`): they contain no blank, no `;`,
  no `=`, and neither begin nor end with a white-space character in the sense of `strings.TrimSpace`;
  everything else is allowed (arbitrary UTF-8, invalid bytes, white space other than the blank in the
  middle).  Keys and values may be empty.

  `maskDbc` runs ParamKV twice — first splitting at blanks, then at semicolons.  The proof follows
  the two passes on a grouped presentation of the string:

    pass 1   blank-separated groups of `;`-joined tokens: a group whose first key is `password`
             becomes `password=#`, every other group becomes (a copy of) a group of the input
    regroup  the `;`-separated pieces of that result are blank-joined runs in which every token
             but the first is the first token of a pass-1 group
    pass 2   a run whose first key is `password` becomes `password=#`; every other run is rebuilt
             from its key and the (trimmed) value of a run of the same shape
-/
import Golib.Udp.Split

namespace Udp

abbrev Tok := Bytes × Bytes

def render (t : Tok) : Bytes := t.1 ++ 61 :: t.2

/-- the bytes with a meaning in the grammar: blank, `;`, `=` -/
def sepByte (b : Nat) : Bool := b == 32 || b == 59 || b == 61

/-- a key or value of the grammar: free of blank, `;` and `=`, and neither beginning nor ending with
    a white-space character (`strings.TrimSpace` leaves it alone).  Any other bytes are allowed —
    UTF-8 text, invalid bytes, white space in the middle. -/
def Plain (s : Bytes) : Prop := 32 ∉ s ∧ 59 ∉ s ∧ 61 ∉ s ∧ Clean s
def PlainTok (t : Tok) : Prop := Plain t.1 ∧ Plain t.2

instance (s : Bytes) : Decidable (Plain s) := by unfold Plain; infer_instance

/-- a password token is masked -/
def pwOK (t : Tok) : Prop := t.1 = kwPassword → t.2 = kwHash

/-- the tokens of a group joined by `d` -/
def renderGrp (d : Nat) (g : List Tok) : Bytes := joinOn d (g.map render)
/-- groups joined by `c`, tokens inside a group by `d` -/
def renderAll (c d : Nat) (gs : List (List Tok)) : Bytes := joinOn c (gs.map (renderGrp d))

theorem plain_no (s : Bytes) (h : Plain s) (c : Nat) (hc : sepByte c = true) : c ∉ s := by
  simp only [sepByte, Bool.or_eq_true, beq_iff_eq] at hc
  rcases hc with (rfl | rfl) | rfl
  · exact h.1
  · exact h.2.1
  · exact h.2.2.1

theorem trim_plain {s : Bytes} (h : Plain s) : trim s = s := trim_clean s h.2.2.2

/-- text without white-space lead bytes, `;` and `=` is plain (a grammar that can be checked byte by byte) -/
theorem plain_of_noLead (s : Bytes) (h : ∀ b ∈ s, isLead b = false ∧ b ≠ 59 ∧ b ≠ 61) : Plain s := by
  refine ⟨?_, ?_, ?_, clean_noLead s (fun b hb => (h b hb).1)⟩
  · intro hm; have := (h 32 hm).1; simp [isLead] at this
  · intro hm; exact (h 59 hm).2.1 rfl
  · intro hm; exact (h 61 hm).2.2 rfl

theorem keyOf_kv (k rest : Bytes) (h : Plain k) : keyOf (k ++ 61 :: rest) = k := by
  unfold keyOf; rw [toPair_kv _ _ h.2.2.1]; exact trim_plain h

theorem valOf_kv (k rest : Bytes) (h : Plain k) : valOf (k ++ 61 :: rest) = trim rest := by
  unfold valOf; rw [toPair_kv _ _ h.2.2.1]

theorem keyOf_render (t : Tok) (h : PlainTok t) : keyOf (render t) = t.1 := keyOf_kv _ _ h.1

theorem valOf_render (t : Tok) (h : PlainTok t) : valOf (render t) = t.2 :=
  (valOf_kv _ _ h.1).trans (trim_plain h.2)

theorem render_nomem (t : Tok) (h : PlainTok t) (c : Nat) (hc : sepByte c = true) (h61 : c ≠ 61) :
    c ∉ render t := by
  simp only [render, List.mem_append, List.mem_cons, not_or]
  exact ⟨plain_no _ h.1 c hc, h61, plain_no _ h.2 c hc⟩

/-- the text after the first token of a group -/
def tailStr (d : Nat) (r : List Tok) : Bytes := r.flatMap (fun u => d :: render u)

theorem renderGrp_cons (d : Nat) (t : Tok) (r : List Tok) :
    renderGrp d (t :: r) = render t ++ tailStr d r := by
  induction r generalizing t with
  | nil => simp [renderGrp, joinOn, tailStr]
  | cons u r ih =>
    have := ih u
    simp only [renderGrp, List.map_cons, joinOn] at this ⊢
    rw [this]; simp [tailStr]

theorem renderGrp_cons_cons (d : Nat) (t u : Tok) (r : List Tok) :
    renderGrp d (t :: u :: r) = render t ++ d :: renderGrp d (u :: r) := by
  simp [renderGrp, joinOn]

theorem renderGrp_nomem (d c : Nat) (g : List Tok) (hg : ∀ t ∈ g, PlainTok t)
    (hc : sepByte c = true) (h61 : c ≠ 61) (hd : c ≠ d) : c ∉ renderGrp d g := by
  unfold renderGrp
  apply joinOn_nomem d c _ hd
  intro x hx
  obtain ⟨t, ht, rfl⟩ := List.mem_map.mp hx
  exact render_nomem t (hg t ht) c hc h61

/-- splitting `c`-joined plain tokens at `c` (blank or semicolon) gives the tokens back -/
theorem splitOn_renderGrp (c : Nat) (hc : c = 32 ∨ c = 59) (toks : List Tok) (hne : toks ≠ [])
    (h : ∀ u ∈ toks, PlainTok u) : splitOn c (renderGrp c toks) = toks.map render := by
  have hsep : sepByte c = true ∧ c ≠ 61 := by rcases hc with rfl | rfl <;> decide
  unfold renderGrp
  apply splitOn_joinOn c _ (by simpa using hne)
  intro x hx
  obtain ⟨t, ht, rfl⟩ := List.mem_map.mp hx
  exact render_nomem t (h t ht) c hsep.1 hsep.2

/-- the value part of a group: what follows the first `=` -/
def valStr (d : Nat) (t : Tok) (r : List Tok) : Bytes := t.2 ++ tailStr d r

theorem renderGrp_kv (d : Nat) (t : Tok) (r : List Tok) :
    renderGrp d (t :: r) = t.1 ++ 61 :: valStr d t r := by
  rw [renderGrp_cons]; simp [render, valStr]

theorem keyOf_grp (d : Nat) (t : Tok) (r : List Tok) (h : PlainTok t) :
    keyOf (renderGrp d (t :: r)) = t.1 := by
  rw [renderGrp_kv]; exact keyOf_kv _ _ h.1

theorem valOf_grp (d : Nat) (t : Tok) (r : List Tok) (h : PlainTok t) :
    valOf (renderGrp d (t :: r)) = trim (valStr d t r) := by
  rw [renderGrp_kv]; exact valOf_kv _ _ h.1

/-- `valStr` as a join: the first value, then the other tokens -/
theorem valStr_join (d : Nat) (t : Tok) (r : List Tok) :
    valStr d t r = joinOn d (t.2 :: r.map render) := by
  unfold valStr tailStr
  induction r generalizing t with
  | nil => simp [joinOn]
  | cons u r ih =>
    have := ih (([], render u) : Tok)
    simp only [List.map_cons, joinOn, List.flatMap_cons] at this ⊢
    have e : joinOn d (render u :: r.map render) = render u ++ List.flatMap (fun u => d :: render u) r := by
      simpa using this.symm
    rw [e]; simp

def rebuild (key val : Bytes) (toks : List Bytes) (t : Bytes) : Bytes :=
  let k := keyOf t
  if k.isEmpty then t else k ++ 61 :: (if k == key then val else lookupLast k toks)

theorem maskPass_eq (c : Nat) (key val s : Bytes) :
    maskPass c key val s = joinOn c ((splitOn c s).map (rebuild key val (splitOn c s))) := rfl

theorem lookupLast_spec (k : Bytes) (toks : List Bytes) (h : ∃ u ∈ toks, keyOf u = k) :
    ∃ u ∈ toks, keyOf u = k ∧ lookupLast k toks = valOf u := by
  unfold lookupLast
  cases hf : toks.reverse.find? (fun t => keyOf t == k) with
  | none =>
    obtain ⟨u, hu, hk⟩ := h
    have := List.find?_eq_none.mp hf u (List.mem_reverse.mpr hu)
    simp [hk] at this
  | some u =>
    have h1 := List.find?_some hf
    have h2 := List.mem_of_find?_eq_some hf
    exact ⟨u, List.mem_reverse.mp h2, by simpa using h1, rfl⟩

/-- mapping with a pointwise representation result -/
theorem map_repr {α β γ : Type} (f : α → β) (h : γ → β) (P : γ → Prop) (l : List α)
    (hp : ∀ x ∈ l, ∃ y, f x = h y ∧ P y) :
    ∃ l' : List γ, l.map f = l'.map h ∧ (∀ y ∈ l', P y) ∧ l'.length = l.length := by
  induction l with
  | nil => exact ⟨[], rfl, by simp, rfl⟩
  | cons x xs ih =>
    obtain ⟨y, hy, py⟩ := hp x (by simp)
    obtain ⟨l', hl, pl, len⟩ := ih (fun z hz => hp z (by simp [hz]))
    refine ⟨y :: l', by simp [hy, hl], ?_, by simp [len]⟩
    intro z hz
    rcases List.mem_cons.mp hz with rfl | hz
    · exact py
    · exact pl z hz

/-- a group of pass 1 / a run of pass 2 -/
def GoodGrp (g : List Tok) : Prop := g ≠ [] ∧ ∀ t ∈ g, PlainTok t

theorem kw_ne_nil : kwPassword ≠ [] := by decide
theorem kwHash_plain : Plain kwHash := by decide
theorem kwPassword_plain : Plain kwPassword := by decide

/-- the value of the last token of `t :: r` -/
def lastVal : Tok → List Tok → Bytes
  | t, [] => t.2
  | _, u :: r => lastVal u r

theorem lastVal_plain (t : Tok) (r : List Tok) (ht : PlainTok t) (hr : ∀ u ∈ r, PlainTok u) :
    Plain (lastVal t r) := by
  induction r generalizing t with
  | nil => exact ht.2
  | cons u r ih => exact ih u (hr u (by simp)) (fun v hv => hr v (by simp [hv]))

/-- a value text with more than one token ends with `=` and the last value -/
theorem valStr_end (d : Nat) (t : Tok) (r : List Tok) (hne : r ≠ []) :
    ∃ Z, valStr d t r = Z ++ 61 :: lastVal t r := by
  induction r generalizing t with
  | nil => exact absurd rfl hne
  | cons u r ih =>
    cases r with
    | nil => exact ⟨t.2 ++ d :: u.1, by simp [valStr, tailStr, render, lastVal]⟩
    | cons u' r' =>
      obtain ⟨Z, hZ⟩ := ih u (by simp)
      refine ⟨t.2 ++ d :: u.1 ++ 61 :: Z, ?_⟩
      have e : valStr d t (u :: u' :: r') = t.2 ++ d :: u.1 ++ 61 :: valStr d u (u' :: r') := by
        simp [valStr, tailStr, render]
      rw [e, hZ]; simp [lastVal]

/-- TrimSpace does not touch the right end of a value text -/
theorem valStr_right (d : Nat) (t : Tok) (r : List Tok) (ht : PlainTok t) (hr : ∀ u ∈ r, PlainTok u) :
    dropOne (spaceSeqs.map List.reverse) (valStr d t r).reverse = none := by
  cases r with
  | nil => simpa [valStr, tailStr] using ht.2.2.2.2.2
  | cons u r' =>
    obtain ⟨Z, hZ⟩ := valStr_end d t (u :: r') (by simp)
    rw [hZ, List.reverse_append, List.reverse_cons, List.append_assoc, List.singleton_append]
    exact dropOne_append_sep _ _ _ 61 spaceSeqsRev_no61 (lastVal_plain t (u :: r') ht hr).2.2.2.2

theorem trim_valStr59 (t : Tok) (r : List Tok) (ht : PlainTok t) (hr : ∀ u ∈ r, PlainTok u) :
    trim (valStr 59 t r) = valStr 59 t r := by
  apply trim_clean
  refine ⟨?_, valStr_right 59 t r ht hr⟩
  cases r with
  | nil => simpa [valStr, tailStr] using ht.2.2.2.2.1
  | cons u r' =>
    have e : valStr 59 t (u :: r') = t.2 ++ 59 :: (render u ++ tailStr 59 r') := by simp [valStr, tailStr]
    rw [e]
    exact dropOne_append_sep _ _ _ 59 spaceSeqs_no59 ht.2.2.2.2.1

theorem pass1 (gs : List (List Tok)) (hne : gs ≠ []) (hg : ∀ g ∈ gs, GoodGrp g) :
    ∃ gs' : List (List Tok), gs' ≠ [] ∧
      (∀ g ∈ gs', GoodGrp g ∧ ∀ t, g.head? = some t → pwOK t) ∧
      maskPass 32 kwPassword kwHash (renderAll 32 59 gs) = renderAll 32 59 gs' := by
  have hsplit : splitOn 32 (renderAll 32 59 gs) = gs.map (renderGrp 59) := by
    unfold renderAll
    apply splitOn_joinOn 32 _ (by simpa using hne)
    intro x hx
    obtain ⟨g, hgm, rfl⟩ := List.mem_map.mp hx
    exact renderGrp_nomem 59 32 g (hg g hgm).2 (by decide) (by decide) (by decide)
  rw [maskPass_eq, hsplit, List.map_map]
  have hp : ∀ g ∈ gs, ∃ g' : List Tok,
      (rebuild kwPassword kwHash (gs.map (renderGrp 59)) ∘ renderGrp 59) g = renderGrp 59 g' ∧
      (GoodGrp g' ∧ ∀ t, g'.head? = some t → pwOK t) := by
    intro g hgm
    obtain ⟨gne, gpl⟩ := hg g hgm
    cases g with
    | nil => exact absurd rfl gne
    | cons t r =>
      have ht := gpl t (by simp)
      have hk := keyOf_grp 59 t r ht
      simp only [Function.comp, rebuild, hk]
      by_cases h0 : t.1 = []
      · refine ⟨t :: r, by simp [h0], ⟨gne, gpl⟩, ?_⟩
        intro t' ht'; simp at ht'; subst ht'
        intro hpw; rw [h0] at hpw; exact absurd hpw.symm kw_ne_nil
      · have hne0 : t.1.isEmpty = false := by simpa using h0
        simp only [hne0, Bool.false_eq_true, if_false]
        by_cases hpw : t.1 = kwPassword
        · refine ⟨[(kwPassword, kwHash)], by simp [hpw, renderGrp, joinOn, render], ⟨by simp, ?_⟩, ?_⟩
          · intro u hu; simp at hu; subst hu; exact ⟨kwPassword_plain, kwHash_plain⟩
          · intro t' ht'; simp at ht'; subst ht'; intro _; rfl
        · have hb : (t.1 == kwPassword) = false := by simpa using hpw
          simp only [hb, Bool.false_eq_true, if_false]
          obtain ⟨u, hu, huk, hlv⟩ := lookupLast_spec t.1 (gs.map (renderGrp 59))
            ⟨renderGrp 59 (t :: r), List.mem_map.mpr ⟨t :: r, hgm, rfl⟩, hk⟩
          obtain ⟨g2, hg2m, rfl⟩ := List.mem_map.mp hu
          obtain ⟨g2ne, g2pl⟩ := hg g2 hg2m
          cases g2 with
          | nil => exact absurd rfl g2ne
          | cons t2 r2 =>
            have ht2 := g2pl t2 (by simp)
            rw [keyOf_grp 59 t2 r2 ht2] at huk
            rw [hlv, valOf_grp 59 t2 r2 ht2, trim_valStr59 t2 r2 ht2 (fun u hu => g2pl u (by simp [hu]))]
            refine ⟨t2 :: r2, by rw [renderGrp_kv, huk], ⟨g2ne, g2pl⟩, ?_⟩
            intro t' ht'; simp at ht'; subst ht'
            intro h; rw [huk] at h; exact absurd h hpw
  obtain ⟨gs', hmap, hgood, hlen⟩ := map_repr _ (renderGrp 59) _ gs hp
  refine ⟨gs', ?_, hgood, by rw [hmap]; rfl⟩
  intro e; subst e; simp at hlen; exact hne (List.eq_nil_of_length_eq_zero hlen.symm)

/-! ### regrouping: the `;`-pieces of a blank-joined list of `;`-joined groups -/

/-- a run of pass 2: tokens joined by blanks, all but the first already masked -/
def GoodRun (run : List Tok) : Prop := GoodGrp run ∧ ∀ t ∈ run.tail, pwOK t

theorem attach (g : List Tok) (hg : GoodGrp g) (R : Bytes) (H : List Tok) (tlR : List (List Tok))
    (hR : splitOn 59 R = renderGrp 32 H :: tlR.map (renderGrp 32))
    (hH : GoodGrp H) (hHok : ∀ t ∈ H, pwOK t) (htl : ∀ run ∈ tlR, GoodRun run) :
    ∃ (H' : List Tok) (tl' : List (List Tok)),
      splitOn 59 (renderGrp 59 g ++ 32 :: R) = renderGrp 32 H' :: tl'.map (renderGrp 32) ∧
      GoodGrp H' ∧ H'.head? = g.head? ∧ (∀ t ∈ H'.tail, pwOK t) ∧ ∀ run ∈ tl', GoodRun run := by
  obtain ⟨gne, gpl⟩ := hg
  obtain ⟨u, H', rfl⟩ := List.exists_cons_of_ne_nil hH.1
  induction g with
  | nil => exact absurd rfl gne
  | cons t r ih =>
    have ht := gpl t (by simp)
    cases r with
    | nil =>
      refine ⟨t :: u :: H', tlR, ?_, ⟨by simp, ?_⟩, rfl, by simpa using hHok, htl⟩
      · have h59 : 59 ∉ render t ++ [32] := by
          simp only [List.mem_append, List.mem_singleton, not_or]
          exact ⟨render_nomem t ht 59 (by decide) (by decide), by decide⟩
        have : renderGrp 59 [t] ++ 32 :: R = (render t ++ [32]) ++ R := by
          simp [renderGrp, joinOn]
        rw [this, splitOn_append_nosep 59 _ _ h59, hR, renderGrp_cons_cons]
        simp [consHead]
      · intro u hu
        rcases List.mem_cons.mp hu with rfl | hu
        · exact ht
        · exact hH.2 _ hu
    | cons t' r' =>
      obtain ⟨H2, tl2, hs2, hH2, hhead2, htail2, htl2⟩ :=
        ih (by simp) (fun u hu => gpl u (by simp [hu]))
      refine ⟨[t], H2 :: tl2, ?_, ⟨by simp, by intro u hu; simp at hu; subst hu; exact ht⟩, rfl,
        by simp, ?_⟩
      · rw [renderGrp_cons_cons, List.append_assoc, List.cons_append, splitOn_append_sep,
          splitOn_nosep 59 _ (render_nomem t ht 59 (by decide) (by decide)), hs2]
        simp [renderGrp, joinOn]
      · intro run hrun
        rcases List.mem_cons.mp hrun with rfl | hrun
        · exact ⟨hH2, htail2⟩
        · exact htl2 run hrun

theorem regroup (gs : List (List Tok)) (hne : gs ≠ [])
    (hg : ∀ g ∈ gs, GoodGrp g ∧ ∀ t, g.head? = some t → pwOK t) :
    ∃ (H : List Tok) (tl : List (List Tok)),
      splitOn 59 (renderAll 32 59 gs) = renderGrp 32 H :: tl.map (renderGrp 32) ∧
      GoodGrp H ∧ (∀ t ∈ H, pwOK t) ∧ ∀ run ∈ tl, GoodRun run := by
  induction gs with
  | nil => exact absurd rfl hne
  | cons g rest ih =>
    obtain ⟨⟨gne, gpl⟩, ghead⟩ := hg g (by simp)
    cases rest with
    | nil =>
      cases g with
      | nil => exact absurd rfl gne
      | cons t r =>
        refine ⟨[t], r.map (fun u => [u]), ?_, ⟨by simp, ?_⟩, ?_, ?_⟩
        · have : renderAll 32 59 [t :: r] = renderGrp 59 (t :: r) := by simp [renderAll, joinOn]
          rw [this, splitOn_renderGrp 59 (Or.inr rfl) _ gne gpl]
          simp [renderGrp, joinOn, Function.comp]
        · intro u hu; simp at hu; subst hu; exact gpl u (by simp)
        · intro u hu; simp at hu; subst hu; exact ghead u rfl
        · intro run hrun
          obtain ⟨u, hu, rfl⟩ := List.mem_map.mp hrun
          exact ⟨⟨by simp, by intro v hv; simp at hv; subst hv; exact gpl v (by simp [hu])⟩, by simp⟩
    | cons g2 rest' =>
      obtain ⟨H, tl, hs, hH, hHok, htl⟩ := ih (by simp) (fun x hx => hg x (by simp [hx]))
      have e : renderAll 32 59 (g :: g2 :: rest') = renderGrp 59 g ++ 32 :: renderAll 32 59 (g2 :: rest') := by
        simp [renderAll, joinOn]
      obtain ⟨H', tl', hs', hH', hhead', htail', htl'⟩ := attach g ⟨gne, gpl⟩ _ H tl hs hH hHok htl
      refine ⟨H', tl', by rw [e, hs'], hH', ?_, htl'⟩
      intro u hu
      cases H' with
      | nil => exact absurd rfl hH'.1
      | cons a b =>
        rcases List.mem_cons.mp hu with rfl | hu
        · exact ghead u (by simpa using hhead'.symm)
        · exact htail' u hu

/-- a token of the result is harmless: if its key is `password` its value is `#` -/
def leakOK (p : Bytes) : Prop := keyOf p = kwPassword → valOf p = kwHash

theorem leakOK_render (u : Tok) (hu : PlainTok u) (hok : pwOK u) : leakOK (render u) := by
  unfold leakOK; rw [keyOf_render u hu, valOf_render u hu]; exact hok

/-- the blank-separated pieces of a value text contain no blank and no `;` -/
theorem valStr_pieces (c : Nat) (hc : sepByte c = true) (h61 : c ≠ 61) (t : Tok) (r : List Tok)
    (ht : PlainTok t) (hr : ∀ u ∈ r, PlainTok u) : ∀ x ∈ t.2 :: r.map render, c ∉ x := by
  intro x hx
  rcases List.mem_cons.mp hx with rfl | hx
  · exact plain_no _ ht.2 c hc
  · obtain ⟨u, hu, rfl⟩ := List.mem_map.mp hx
    exact render_nomem u (hr u hu) c hc h61

/-- TrimSpace of a blank-joined value text: only a leading blank (left by an empty first value) goes -/
theorem trim_valStr32 (t : Tok) (r : List Tok) (ht : PlainTok t) (hr : ∀ u ∈ r, PlainTok u) :
    trim (valStr 32 t r) = if t.2 = [] ∧ r ≠ [] then renderGrp 32 r else valStr 32 t r := by
  cases r with
  | nil =>
    simp only [ne_eq, not_true_eq_false, and_false, if_false]
    exact trim_clean _ ⟨by simpa [valStr, tailStr] using ht.2.2.2.2.1, valStr_right 32 t [] ht hr⟩
  | cons u r' =>
    have hu := hr u (by simp)
    have hr' : ∀ v ∈ r', PlainTok v := fun v hv => hr v (by simp [hv])
    have e : valStr 32 t (u :: r') = t.2 ++ 32 :: renderGrp 32 (u :: r') := by
      rw [renderGrp_cons]; simp [valStr, tailStr]
    by_cases h2 : t.2 = []
    · have hc : t.2 = [] ∧ u :: r' ≠ [] := ⟨h2, by simp⟩
      rw [if_pos hc]
      unfold trim
      have hY : dropOne spaceSeqs (renderGrp 32 (u :: r')) = none := by
        rw [renderGrp_kv]
        exact dropOne_append_sep _ _ _ 61 spaceSeqs_no61 hu.1.2.2.2.1
      have hR : dropOne (spaceSeqs.map List.reverse) (renderGrp 32 (u :: r')).reverse = none := by
        have := valStr_right 32 t (u :: r') ht hr
        rw [e, h2, List.nil_append, List.reverse_cons] at this
        -- the right end of `" " ++ Y` is the right end of `Y`
        rw [dropOne_none_iff] at this ⊢
        intro q hq
        cases hp : q.isPrefixOf (renderGrp 32 (u :: r')).reverse
        · rfl
        · have := this q hq
          have hpre : q.isPrefixOf ((renderGrp 32 (u :: r')).reverse ++ [32]) = true :=
            List.isPrefixOf_iff_prefix.mpr
              ((List.isPrefixOf_iff_prefix.mp hp).trans (List.prefix_append _ _))
          rw [hpre] at this; cases this
      rw [e, h2, List.nil_append, trimLeft_blank _ hY, trimRight_of_none _ hR]
    · have hc : ¬ (t.2 = [] ∧ u :: r' ≠ []) := fun h => h2 h.1
      rw [if_neg hc]
      apply trim_clean
      refine ⟨?_, valStr_right 32 t (u :: r') ht hr⟩
      rw [e]
      exact dropOne_append_blank _ _ _ spaceSeqs_blank h2 ht.2.2.2.2.1

/-- what pass 2 makes of one run: free of `;`, and every blank-separated piece is harmless -/
theorem pass2_run (runs : List (List Tok)) (hruns : ∀ run ∈ runs, GoodRun run)
    (run : List Tok) (hrun : run ∈ runs) :
    let T := rebuild kwPassword kwHash (runs.map (renderGrp 32)) (renderGrp 32 run)
    59 ∉ T ∧ ∀ p ∈ splitOn 32 T, leakOK p := by
  obtain ⟨⟨rne, rpl⟩, rtail⟩ := hruns run hrun
  cases run with
  | nil => exact absurd rfl rne
  | cons t r =>
    have ht := rpl t (by simp)
    have hr : ∀ u ∈ r, PlainTok u := fun u hu => rpl u (by simp [hu])
    have hk := keyOf_grp 32 t r ht
    simp only [rebuild, hk]
    by_cases h0 : t.1 = []
    · -- no key: the run is copied
      simp only [h0, List.isEmpty_nil, if_true]
      constructor
      · exact renderGrp_nomem 32 59 _ rpl (by decide) (by decide) (by decide)
      · rw [splitOn_renderGrp 32 (Or.inl rfl) _ rne rpl]
        intro p hp
        obtain ⟨u, hu, rfl⟩ := List.mem_map.mp hp
        rcases List.mem_cons.mp hu with rfl | hu
        · apply leakOK_render u ht
          intro hpw; rw [h0] at hpw; exact absurd hpw.symm kw_ne_nil
        · exact leakOK_render u (hr u hu) (rtail u (by simpa using hu))
    · have hne0 : t.1.isEmpty = false := by simpa using h0
      simp only [hne0, Bool.false_eq_true, if_false]
      by_cases hpw : t.1 = kwPassword
      · -- the password run
        simp only [hpw, beq_self_eq_true, if_true]
        constructor
        · decide
        · have : splitOn 32 (kwPassword ++ 61 :: kwHash) = [kwPassword ++ 61 :: kwHash] := by decide
          rw [this]
          intro p hp; simp at hp; subst hp
          exact leakOK_render (kwPassword, kwHash) ⟨kwPassword_plain, kwHash_plain⟩ (fun _ => rfl)
      · have hb : (t.1 == kwPassword) = false := by simpa using hpw
        simp only [hb, Bool.false_eq_true, if_false]
        obtain ⟨u, hu, huk, hlv⟩ := lookupLast_spec t.1 (runs.map (renderGrp 32))
          ⟨renderGrp 32 (t :: r), List.mem_map.mpr ⟨t :: r, hrun, rfl⟩, hk⟩
        obtain ⟨run2, hrun2, rfl⟩ := List.mem_map.mp hu
        obtain ⟨⟨r2ne, r2pl⟩, r2tail⟩ := hruns run2 hrun2
        cases run2 with
        | nil => exact absurd rfl r2ne
        | cons t2 r2 =>
          have ht2 := r2pl t2 (by simp)
          have hr2 : ∀ u ∈ r2, PlainTok u := fun u hu => r2pl u (by simp [hu])
          rw [hlv, valOf_grp 32 t2 r2 ht2]
          have htrim := trim_valStr32 t2 r2 ht2 hr2
          -- what is left of the value text after TrimSpace: free of `;`, pieces among those of the text
          have h59 : 59 ∉ trim (valStr 32 t2 r2) := by
            rw [htrim]; split
            · exact renderGrp_nomem 32 59 r2 hr2 (by decide) (by decide) (by decide)
            · rw [valStr_join]
              exact joinOn_nomem 32 59 _ (by decide) (valStr_pieces 59 (by decide) (by decide) t2 r2 ht2 hr2)
          have hpieces : ∀ p ∈ splitOn 32 (trim (valStr 32 t2 r2)), p ∈ t2.2 :: r2.map render := by
            rw [htrim]; split
            · rename_i hc
              rw [splitOn_renderGrp 32 (Or.inl rfl) r2 hc.2 hr2]
              intro p hp; exact List.mem_cons_of_mem _ hp
            · rw [valStr_join, splitOn_joinOn 32 _ (by simp)
                (valStr_pieces 32 (by decide) (by decide) t2 r2 ht2 hr2)]
              intro p hp; exact hp
          constructor
          · simp only [List.mem_append, List.mem_cons, not_or]
            exact ⟨plain_no _ ht.1 59 (by decide), by decide, h59⟩
          · have h32 : 32 ∉ t.1 ++ [61] := by
              simp only [List.mem_append, List.mem_singleton, not_or]
              exact ⟨plain_no _ ht.1 32 (by decide), by decide⟩
            have e : t.1 ++ 61 :: trim (valStr 32 t2 r2) = (t.1 ++ [61]) ++ trim (valStr 32 t2 r2) := by simp
            rw [e, splitOn_append_nosep 32 _ _ h32]
            intro p hp
            cases hsp : splitOn 32 (trim (valStr 32 t2 r2)) with
            | nil => exact absurd hsp (splitOn_ne_nil _ _)
            | cons h tl =>
              rw [hsp] at hp
              simp only [consHead, List.mem_cons] at hp
              rcases hp with rfl | hp
              · -- the first piece keeps the run's own key, which is not `password`
                unfold leakOK
                intro hkp
                rw [List.append_assoc, List.singleton_append, keyOf_kv _ _ ht.1] at hkp
                exact absurd hkp hpw
              · -- the other pieces are pieces of the value text of `run2`
                have hp2 : p ∈ splitOn 32 (trim (valStr 32 t2 r2)) := by rw [hsp]; simp [hp]
                have hp3 := hpieces p hp2
                rcases List.mem_cons.mp hp3 with rfl | hp3
                · unfold leakOK keyOf
                  rw [toPair_noEq _ (plain_no _ ht2.2 61 (by decide))]
                  intro hkp; exact absurd hkp.symm kw_ne_nil
                · obtain ⟨u, hu, rfl⟩ := List.mem_map.mp hp3
                  exact leakOK_render u (hr2 u hu) (r2tail u (by simpa using hu))

theorem pass2 (s1 : Bytes) (runs : List (List Tok)) (hne : runs ≠ [])
    (hruns : ∀ run ∈ runs, GoodRun run) (hs : splitOn 59 s1 = runs.map (renderGrp 32)) :
    leakFree (maskPass 59 kwPassword kwHash s1) := by
  unfold leakFree tokens2
  rw [maskPass_eq, hs, List.map_map]
  have hfree : ∀ x ∈ runs.map (rebuild kwPassword kwHash (runs.map (renderGrp 32)) ∘ renderGrp 32), 59 ∉ x := by
    intro x hx
    obtain ⟨run, hrun, rfl⟩ := List.mem_map.mp hx
    exact (pass2_run runs hruns run hrun).1
  rw [splitOn_joinOn 59 _ (by simpa using hne) hfree]
  intro p hp
  obtain ⟨x, hx, hpx⟩ := List.mem_flatMap.mp hp
  obtain ⟨run, hrun, rfl⟩ := List.mem_map.mp hx
  exact (pass2_run runs hruns run hrun).2 p hpx

theorem maskDbc_groups (gs : List (List Tok)) (hne : gs ≠ []) (hg : ∀ g ∈ gs, GoodGrp g) :
    leakFree (maskDbc (renderAll 32 59 gs)) := by
  unfold maskDbc
  split
  · rename_i he
    have : renderAll 32 59 gs = [] := by simpa using he
    rw [this]
    intro t ht
    have : t = [] := by simpa [tokens2, splitOn] using ht
    subst this
    intro hk
    have : keyOf [] = [] := by decide
    rw [this] at hk; exact absurd hk.symm kw_ne_nil
  · obtain ⟨gs', hne', hg', he⟩ := pass1 gs hne hg
    rw [he]
    obtain ⟨H, tl, hs, hH, hHok, htl⟩ := regroup gs' hne' hg'
    apply pass2 _ (H :: tl) (by simp)
    · intro run hrun
      rcases List.mem_cons.mp hrun with rfl | hrun
      · exact ⟨hH, fun t ht => hHok t (List.mem_of_mem_tail ht)⟩
      · exact htl run hrun
    · simpa using hs

/-! ### every mixed-separator string of the grammar has a grouped presentation -/

/-- first token, then (separator, token) pairs -/
def renderFlat (t : Tok) : List (Nat × Tok) → Bytes
  | [] => render t
  | (c, u) :: rest => render t ++ c :: renderFlat u rest

theorem flat_groups (t : Tok) (rest : List (Nat × Tok)) (ht : PlainTok t)
    (hrest : ∀ cu ∈ rest, (cu.1 = 32 ∨ cu.1 = 59) ∧ PlainTok cu.2) :
    ∃ (g : List Tok) (gs : List (List Tok)), (∀ x ∈ (t :: g) :: gs, GoodGrp x) ∧
      renderFlat t rest = renderAll 32 59 ((t :: g) :: gs) := by
  induction rest generalizing t with
  | nil =>
    refine ⟨[], [], ?_, by simp [renderFlat, renderAll, renderGrp, joinOn]⟩
    intro x hx; simp at hx; subst hx
    exact ⟨by simp, by intro u hu; simp at hu; subst hu; exact ht⟩
  | cons cu rest ih =>
    obtain ⟨hc, hu⟩ := hrest cu (by simp)
    obtain ⟨g, gs, hgood, he⟩ := ih cu.2 hu (fun x hx => hrest x (by simp [hx]))
    simp only [renderFlat]
    rcases hc with hc | hc
    · -- a blank: the token starts a new group
      refine ⟨[], (cu.2 :: g) :: gs, ?_, ?_⟩
      · intro x hx
        rcases List.mem_cons.mp hx with rfl | hx
        · exact ⟨by simp, by intro u hu'; simp at hu'; subst hu'; exact ht⟩
        · exact hgood x hx
      · rw [he, hc]; simp [renderAll, renderGrp, joinOn]
    · -- a semicolon: the token joins the group of its successor
      refine ⟨cu.2 :: g, gs, ?_, ?_⟩
      · intro x hx
        rcases List.mem_cons.mp hx with rfl | hx
        · refine ⟨by simp, ?_⟩
          intro u hu'
          rcases List.mem_cons.mp hu' with rfl | hu'
          · exact ht
          · exact (hgood (cu.2 :: g) (by simp)).2 u hu'
        · exact hgood x (by simp [hx])
      · rw [he, hc]
        cases gs with
        | nil => simp [renderAll, renderGrp, joinOn]
        | cons g2 gs2 => simp [renderAll, renderGrp, joinOn]

/-- **masking**: for every connection string built from plain `key=value` tokens separated by
    blanks or semicolons, and every version of a family that masks (Go, PHP), no token of the
    result has the key `password` with a value other than `#` -/
theorem mask_password (ver : Int) (t : Tok) (rest : List (Nat × Tok)) (ht : PlainTok t)
    (hrest : ∀ cu ∈ rest, (cu.1 = 32 ∨ cu.1 = 59) ∧ PlainTok cu.2) (hv : masksAt ver = true) :
    leakFree (processDbc ver (renderFlat t rest)) := by
  unfold processDbc
  rw [hv]; simp only [if_true]
  obtain ⟨g, gs, hgood, he⟩ := flat_groups t rest ht hrest
  rw [he]
  exact maskDbc_groups _ (by simp) hgood

end Udp
