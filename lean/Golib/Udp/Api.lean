/-
  Golib.Udp.Api — the remaining exported surface of the anchor files, as model functions
  (each is run by the driver and compared with the implementation, harness stage `api`):

    ParamKV.ExistsKey / GetValue        `existsKey`, `getValue`   (the map built by the constructor)
    UdpTxEndPack.SetMcallerUrlHash      `setMcallerUrlHash`       (hash + its decimal text)
    UdpTxStartPack / UdpTxStartEndPack.SetStaticContents   `setStaticContents`
    WritePack … WritePack into one DataOutputX, ReadPack … ReadPack from one DataInputX
                                        `writeStream`, `readStream` (a datagram with several packs)
-/
import Golib.Udp.Packs
import Golib.Udp.ParamKV

namespace Udp
open Layout

/-- `NewParamKVSeperate(s, c, "=").ExistsKey(key)`: the constructor stores only non-empty keys -/
def existsKey (c : Nat) (key s : Bytes) : Bool :=
  !key.isEmpty && (splitOn c s).any (fun t => keyOf t == key)

/-- `NewParamKVSeperate(s, c, "=").GetValue(key)`: the value of the last token with that key, `""` without one -/
def getValue (c : Nat) (key s : Bytes) : Bytes :=
  if existsKey c key s then lookupLast key (splitOn c s) else []

/-- `UdpTxEndPack.SetMcallerUrlHash(v)` -/
def setMcallerUrlHash (v : Int) (st : Rec) : Rec :=
  (st.set "McallerUrlHash" (.int v)).set "McallerUrl" (.str (showInt v))

/-- `SetStaticContents(b)` of UdpTxStartPack / UdpTxStartEndPack -/
def setStaticContents (b : Bool) (st : Rec) : Rec :=
  (st.set "IsStatic" (.bool b)).set "IsStaticContents" (.str (if b then [49] else [48]))

/-- several packs written one after the other into the same buffer (`WritePack` … `WritePack`) -/
def writeStream : List (PackT × Int × Rec) → Bytes
  | [] => []
  | (t, ver, x) :: r => write t.layout ver x ++ writeStream r

/-- … and read one after the other from the same reader (`Read` of a pack of each type; third
    component = the receiving pack) -/
def readStream : List (PackT × Int × Rec) → P (List Rec)
  | [] => .pure []
  | (t, ver, st) :: r => (read t.layout ver st).bind fun a => (readStream r).bind fun as => .pure (a :: as)

end Udp
