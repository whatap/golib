/-
  Golib.Udp.Split — lemmas about `splitOn` / `joinOn` / `trim` / `toPair` (Golib.Udp.ParamKV).
-/
import Golib.Udp.ParamKV

namespace Udp

theorem splitOn_ne_nil (c : Nat) (s : Bytes) : splitOn c s ≠ [] := by
  fun_induction splitOn c s <;> simp

/-- prepend `a` to the first piece -/
def consHead (a : Bytes) : List Bytes → List Bytes
  | [] => [a]
  | h :: t => (a ++ h) :: t

theorem splitOn_cons_ne (c x : Nat) (xs : Bytes) (h : x ≠ c) :
    splitOn c (x :: xs) = consHead [x] (splitOn c xs) := by
  simp only [splitOn, h, if_false]
  cases splitOn c xs <;> rfl

theorem splitOn_cons_eq (c : Nat) (xs : Bytes) : splitOn c (c :: xs) = [] :: splitOn c xs := by
  simp [splitOn]

/-- a separator-free prefix stays in the first piece -/
theorem splitOn_append_nosep (c : Nat) (a b : Bytes) (h : c ∉ a) :
    splitOn c (a ++ b) = consHead a (splitOn c b) := by
  induction a with
  | nil => cases hb : splitOn c b with
    | nil => exact absurd hb (splitOn_ne_nil c b)
    | cons x y => simp [consHead, hb]
  | cons x xs ih =>
    have hx : x ≠ c := by intro e; apply h; simp [e]
    have hxs : c ∉ xs := by intro e; apply h; simp [e]
    rw [List.cons_append, splitOn_cons_ne c x _ hx, ih hxs]
    cases hb : splitOn c b with
    | nil => exact absurd hb (splitOn_ne_nil c b)
    | cons p q => rfl

theorem splitOn_nosep (c : Nat) (a : Bytes) (h : c ∉ a) : splitOn c a = [a] := by
  have := splitOn_append_nosep c a [] h
  simpa [splitOn, consHead] using this

/-- splitting at an occurrence of the separator -/
theorem splitOn_append_sep (c : Nat) (a b : Bytes) :
    splitOn c (a ++ c :: b) = splitOn c a ++ splitOn c b := by
  induction a with
  | nil => simp [splitOn]
  | cons x xs ih =>
    by_cases hx : x = c
    · subst hx
      rw [List.cons_append, splitOn_cons_eq, splitOn_cons_eq, ih]; rfl
    · rw [List.cons_append, splitOn_cons_ne c x _ hx, splitOn_cons_ne c x _ hx, ih]
      cases hs : splitOn c xs with
      | nil => exact absurd hs (splitOn_ne_nil c xs)
      | cons p q => simp [consHead]

/-- `Split ∘ Join = id` on separator-free pieces -/
theorem splitOn_joinOn (c : Nat) (xs : List Bytes) (hne : xs ≠ []) (h : ∀ x ∈ xs, c ∉ x) :
    splitOn c (joinOn c xs) = xs := by
  fun_induction joinOn c xs with
  | case1 => exact absurd rfl hne
  | case2 x => exact splitOn_nosep c x (h x (by simp))
  | case3 x y r ih =>
    rw [splitOn_append_sep, splitOn_nosep c x (h x (by simp)), ih (by simp) (fun z hz => h z (by simp [hz]))]
    rfl

theorem joinOn_nomem (c d : Nat) (xs : List Bytes) (hd : d ≠ c) (h : ∀ x ∈ xs, d ∉ x) :
    d ∉ joinOn c xs := by
  fun_induction joinOn c xs with
  | case1 => simp
  | case2 x => exact h x (by simp)
  | case3 x y r ih =>
    simp only [List.mem_append, List.mem_cons, not_or]
    exact ⟨h x (by simp), hd, ih (fun z hz => h z (by simp [hz]))⟩

theorem joinOn_bytes (c : Nat) (xs : List Bytes) (P : Nat → Prop) (hc : P c)
    (h : ∀ x ∈ xs, ∀ b ∈ x, P b) : ∀ b ∈ joinOn c xs, P b := by
  fun_induction joinOn c xs with
  | case1 => intro b hb; cases hb
  | case2 x => exact h x (by simp)
  | case3 x y r ih =>
    intro b hb
    rcases List.mem_append.mp hb with hb | hb
    · exact h x (by simp) b hb
    · rcases List.mem_cons.mp hb with rfl | hb
      · exact hc
      · exact ih (fun z hz => h z (by simp [hz])) b hb

/-- the bytes that can begin a white-space character -/
def isLead (b : Nat) : Bool :=
  b == 9 || b == 10 || b == 11 || b == 12 || b == 13 || b == 32 || b == 194 || b == 225 || b == 226 || b == 227

/-- the blank is a white-space character by itself; every other one has a lead byte and no blank in it -/
theorem spaceSeqs_blank : ∀ q ∈ spaceSeqs, q = [32] ∨ 32 ∉ q ∧ ∃ b ∈ q, isLead b = true := by decide

theorem spaceSeqsRev_blank :
    ∀ q ∈ spaceSeqs.map List.reverse, q = [32] ∨ 32 ∉ q ∧ ∃ b ∈ q, isLead b = true := by
  simpa only [List.forall_mem_map, List.mem_reverse, List.reverse_eq_iff, List.reverse_cons,
    List.reverse_nil, List.nil_append] using spaceSeqs_blank

theorem spaceSeqs_lead : ∀ q ∈ spaceSeqs, ∃ b ∈ q, isLead b = true := fun q hq =>
  (spaceSeqs_blank q hq).elim (fun e => ⟨32, by simp [e], rfl⟩) (·.2)

theorem spaceSeqsRev_lead : ∀ q ∈ spaceSeqs.map List.reverse, ∃ b ∈ q, isLead b = true := by
  simpa only [List.forall_mem_map, List.mem_reverse] using spaceSeqs_lead

theorem dropOne_none (seqs : List Bytes) (s : Bytes)
    (hseq : ∀ q ∈ seqs, ∃ b ∈ q, isLead b = true) (hs : ∀ b ∈ s, isLead b = false) :
    dropOne seqs s = none := by
  unfold dropOne
  rw [List.findSome?_eq_none_iff]
  intro q hq
  split
  · rename_i hp
    obtain ⟨b, hb, hl⟩ := hseq q hq
    have := hs b ((List.isPrefixOf_iff_prefix.mp hp).subset hb)
    rw [hl] at this; cases this
  · rfl

theorem dropAll_of_none (seqs : List Bytes) (n : Nat) (s : Bytes) (h : dropOne seqs s = none) :
    dropAll seqs n s = s := by
  cases n with
  | zero => rfl
  | succ n => simp only [dropAll, h]

/-- on text whose only white-space lead byte is the blank, one step removes one leading blank -/
theorem dropOne_blank (seqs : List Bytes) (s : Bytes)
    (hseq : ∀ q ∈ seqs, q = [32] ∨ 32 ∉ q ∧ ∃ b ∈ q, isLead b = true)
    (hs : ∀ b ∈ s, b = 32 ∨ isLead b = false) :
    dropOne seqs s = none ∨ ∃ r, s = 32 :: r ∧ dropOne seqs s = some r := by
  unfold dropOne
  induction seqs with
  | nil => left; rfl
  | cons q qs ih =>
    simp only [List.findSome?_cons]
    split
    · rename_i r hr
      split at hr
      · rename_i hp
        rcases hseq q (by simp) with rfl | ⟨hne, b, hb, hl⟩
        · cases s with
          | nil => simp [List.isPrefixOf] at hp
          | cons y s' =>
            simp only [List.isPrefixOf, Bool.and_eq_true, beq_iff_eq] at hp
            right
            refine ⟨s', by rw [hp.1], ?_⟩
            simp at hr; rw [← hr]
        · have hm := (List.isPrefixOf_iff_prefix.mp hp).subset hb
          rcases hs b hm with h32 | hnl
          · exact absurd (h32 ▸ hb) hne
          · rw [hl] at hnl; cases hnl
      · cases hr
    · exact ih (fun q' hq' => hseq q' (by simp [hq']))

/-- … so all steps together remove the leading blanks and nothing else -/
theorem dropAll_blank (seqs : List Bytes) (n : Nat) (s : Bytes)
    (hseq : ∀ q ∈ seqs, q = [32] ∨ 32 ∉ q ∧ ∃ b ∈ q, isLead b = true)
    (hs : ∀ b ∈ s, b = 32 ∨ isLead b = false) :
    ∃ w, (∀ b ∈ w, b = 32) ∧ s = w ++ dropAll seqs n s := by
  induction n generalizing s with
  | zero => exact ⟨[], by simp, by simp [dropAll]⟩
  | succ n ih =>
    simp only [dropAll]
    rcases dropOne_blank seqs s hseq hs with h | ⟨r, hsr, h⟩
    · rw [h]; exact ⟨[], by simp, by simp⟩
    · rw [h]
      have hr : ∀ b ∈ r, b = 32 ∨ isLead b = false := by
        intro b hb; exact hs b (by rw [hsr]; simp [hb])
      obtain ⟨w, hw, hrw⟩ := ih r hr
      refine ⟨32 :: w, ?_, ?_⟩
      · intro b hb; rcases List.mem_cons.mp hb with rfl | hb
        · rfl
        · exact hw b hb
      · rw [hsr, List.cons_append, ← hrw]

/-- TrimSpace of text whose only white space is the blank: blanks removed at both ends -/
theorem trim_blank (s : Bytes) (hs : ∀ b ∈ s, b = 32 ∨ isLead b = false) :
    ∃ w1 w2, (∀ b ∈ w1, b = 32) ∧ (∀ b ∈ w2, b = 32) ∧ s = w1 ++ trim s ++ w2 := by
  unfold trim
  obtain ⟨w1, hw1, e1⟩ := dropAll_blank spaceSeqs s.length s spaceSeqs_blank hs
  have hs2 : ∀ b ∈ trimLeft s, b = 32 ∨ isLead b = false := by
    intro b hb; apply hs; unfold trimLeft at hb; rw [e1]; simp [hb]
  have hs3 : ∀ b ∈ (trimLeft s).reverse, b = 32 ∨ isLead b = false := by
    intro b hb; exact hs2 b (List.mem_reverse.mp hb)
  obtain ⟨w2, hw2, e2⟩ := dropAll_blank (spaceSeqs.map List.reverse) (trimLeft s).length
    (trimLeft s).reverse spaceSeqsRev_blank hs3
  refine ⟨w1, w2.reverse, hw1, ?_, ?_⟩
  · intro b hb; exact hw2 b (List.mem_reverse.mp hb)
  · have e3 : trimLeft s = trimRight (trimLeft s) ++ w2.reverse := by
      unfold trimRight
      have := congrArg List.reverse e2
      rw [List.reverse_reverse, List.reverse_append] at this
      exact this
    rw [List.append_assoc, ← e3]
    exact e1

/-- pieces of a blank-trimmed text are pieces of the text (or empty) -/
theorem splitOn_trim_blank (s : Bytes) (hs : ∀ b ∈ s, b = 32 ∨ isLead b = false) :
    ∀ p ∈ splitOn 32 (trim s), p ∈ splitOn 32 s := by
  obtain ⟨w1, w2, hw1, hw2, e⟩ := trim_blank s hs
  have right : ∀ (t w : Bytes), (∀ b ∈ w, b = 32) → ∀ p ∈ splitOn 32 t, p ∈ splitOn 32 (t ++ w) := by
    intro t w hw p hp
    cases w with
    | nil => simpa using hp
    | cons x w' =>
      have : x = 32 := hw x (by simp)
      subst this
      rw [splitOn_append_sep]; exact List.mem_append_left _ hp
  have left : ∀ (w t : Bytes), (∀ b ∈ w, b = 32) → ∀ p ∈ splitOn 32 t, p ∈ splitOn 32 (w ++ t) := by
    intro w
    induction w with
    | nil => intro t _ p hp; simpa using hp
    | cons x w' ih =>
      intro t hw p hp
      have : x = 32 := hw x (by simp)
      subst this
      rw [List.cons_append, splitOn_cons_eq]
      exact List.mem_cons_of_mem _ (ih t (fun b hb => hw b (by simp [hb])) p hp)
  intro p hp
  rw [e, List.append_assoc]
  exact left w1 _ hw1 p (right _ w2 hw2 p hp)

/-- a token `k=rest` with an `=`-free `k` -/
theorem toPair_kv (k rest : Bytes) (h : 61 ∉ k) :
    toPair (k ++ 61 :: rest) = (trim k, trim rest) := by
  unfold toPair
  have hc : (k ++ 61 :: rest).contains 61 = true := by simp
  have hk : ∀ a ∈ k, (a != 61) = true := by intro a ha; simpa using fun (e : a = 61) => h (e ▸ ha)
  rw [hc, List.takeWhile_append_of_pos hk, List.dropWhile_append_of_pos hk]
  simp

theorem toPair_noEq (s : Bytes) (h : 61 ∉ s) : toPair s = ([], []) := by
  unfold toPair
  have : s.contains 61 = false := by simpa using h
  rw [this]; simp

/-! ### TrimSpace on arbitrary bytes: only the two ends matter -/

theorem dropOne_none_iff (seqs : List Bytes) (s : Bytes) :
    dropOne seqs s = none ↔ ∀ q ∈ seqs, q.isPrefixOf s = false := by
  unfold dropOne
  rw [List.findSome?_eq_none_iff]
  constructor
  · intro h q hq
    have := h q hq
    cases hp : q.isPrefixOf s
    · rfl
    · rw [hp] at this; simp at this
  · intro h q hq; simp [h q hq]

theorem prefix_append_sep (q a Y : Bytes) (c : Nat) (h : q.isPrefixOf (a ++ c :: Y) = true) :
    q.isPrefixOf a = true ∨ c ∈ q := by
  induction a generalizing q with
  | nil =>
    cases q with
    | nil => left; rfl
    | cons x q' =>
      simp only [List.nil_append, List.isPrefixOf, Bool.and_eq_true, beq_iff_eq] at h
      right; rw [h.1]; simp
  | cons y a' ih =>
    cases q with
    | nil => left; rfl
    | cons x q' =>
      simp only [List.cons_append, List.isPrefixOf, Bool.and_eq_true, beq_iff_eq] at h
      rcases ih q' h.2 with h' | h'
      · left; simp [List.isPrefixOf, h.1, h']
      · right; simp [h']

/-- text that does not begin with white space still does not when an ASCII separator and more follow -/
theorem dropOne_append_sep (seqs : List Bytes) (a Y : Bytes) (c : Nat) (hc : ∀ q ∈ seqs, c ∉ q)
    (ha : dropOne seqs a = none) : dropOne seqs (a ++ c :: Y) = none := by
  rw [dropOne_none_iff] at ha ⊢
  intro q hq
  cases hp : q.isPrefixOf (a ++ c :: Y)
  · rfl
  · rcases prefix_append_sep q a Y c hp with h | h
    · rw [ha q hq] at h; cases h
    · exact absurd h (hc q hq)

/-- … also when a blank follows, provided the text is not empty -/
theorem dropOne_append_blank (seqs : List Bytes) (a Y : Bytes) (hq : ∀ q ∈ seqs, q = [32] ∨ 32 ∉ q ∧ ∃ b ∈ q, isLead b = true)
    (hne : a ≠ []) (ha : dropOne seqs a = none) : dropOne seqs (a ++ 32 :: Y) = none := by
  rw [dropOne_none_iff] at ha ⊢
  intro q hqm
  cases hp : q.isPrefixOf (a ++ 32 :: Y)
  · rfl
  · rcases prefix_append_sep q a Y 32 hp with h | h
    · rw [ha q hqm] at h; cases h
    · rcases hq q hqm with rfl | h'
      · cases a with
        | nil => exact absurd rfl hne
        | cons y a' =>
          simp only [List.cons_append, List.isPrefixOf, Bool.and_eq_true, beq_iff_eq] at hp
          have := ha [32] hqm
          simp [List.isPrefixOf, hp.1] at this
      · exact absurd h h'.1

theorem spaceSeqs_no59 : ∀ q ∈ spaceSeqs, 59 ∉ q := by decide
theorem spaceSeqs_no61 : ∀ q ∈ spaceSeqs, 61 ∉ q := by decide
theorem spaceSeqsRev_no61 : ∀ q ∈ spaceSeqs.map List.reverse, 61 ∉ q := by
  simpa only [List.forall_mem_map, List.mem_reverse] using spaceSeqs_no61

theorem dropOne_blank_head (Y : Bytes) : dropOne spaceSeqs (32 :: Y) = some Y := by
  simp [dropOne, spaceSeqs, List.findSome?]

theorem trimLeft_of_none (s : Bytes) (h : dropOne spaceSeqs s = none) : trimLeft s = s :=
  dropAll_of_none _ _ _ h

theorem trimRight_of_none (s : Bytes) (h : dropOne (spaceSeqs.map List.reverse) s.reverse = none) :
    trimRight s = s := by
  unfold trimRight; rw [dropAll_of_none _ _ _ h]; simp

/-- one leading blank before text that does not begin with white space -/
theorem trimLeft_blank (Y : Bytes) (h : dropOne spaceSeqs Y = none) : trimLeft (32 :: Y) = Y := by
  unfold trimLeft
  simp only [List.length_cons, dropAll, dropOne_blank_head]
  exact dropAll_of_none _ _ _ h

/-- a text neither begins nor ends with a white-space character -/
def Clean (s : Bytes) : Prop :=
  dropOne spaceSeqs s = none ∧ dropOne (spaceSeqs.map List.reverse) s.reverse = none

instance (s : Bytes) : Decidable (Clean s) := by unfold Clean; infer_instance

theorem trim_clean (s : Bytes) (h : Clean s) : trim s = s := by
  unfold trim; rw [trimLeft_of_none s h.1, trimRight_of_none s h.2]

theorem clean_nil : Clean [] := by decide

/-- text without white-space lead bytes is clean -/
theorem clean_noLead (s : Bytes) (hs : ∀ b ∈ s, isLead b = false) : Clean s :=
  ⟨dropOne_none _ _ spaceSeqs_lead hs,
   dropOne_none _ _ spaceSeqsRev_lead (by intro b hb; exact hs b (List.mem_reverse.mp hb))⟩

/-- text without any white-space lead byte is not changed by TrimSpace -/
theorem trim_noLead (s : Bytes) (hs : ∀ b ∈ s, isLead b = false) : trim s = s :=
  trim_clean s (clean_noLead s hs)

end Udp
