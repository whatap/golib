/-
  Golib.Lists.LinkedAtomic — what every interleaving of ATOMIC LinkedList operations conserves.

  The public mutators of LinkedList take the list's mutex, so a concurrent run is some sequential
  interleaving of them (linearizable).  For every sequential history of mutators, whatever its
  order: the elements still in the list together with the elements handed out by the Remove*
  calls are, as a multiset, the initial elements together with the elements added.  Tie B's
  concurrent stage checks exactly this conservation (and size = adds − removes) on the
  implementation, driving every public mutator alias from several goroutines.
-/
import Golib.Lists.LinkedSpec

namespace Lists.Linked

/-- the operations that only move elements in or out (no queries, no Clear, no PutBefore/Remove on a
    missing entity) -/
def Op.mutator : Op → Bool
  | .addFirst _ | .addLast _ | .add _ | .removeFirst | .removeLast | .removeAt _ => true
  | _ => false

def Op.added : Op → List Int
  | .addFirst v | .addLast v | .add v => [v]
  | _ => []

def Out.handedOut : Out → List Int
  | .val v => [v]
  | _ => []

theorem perm_eraseIdx {α : Type} (s : List α) (k : Nat) (v : α) (h : s[k]? = some v) :
    (s.eraseIdx k ++ [v]).Perm s := by
  obtain ⟨hk, rfl⟩ := List.getElem?_eq_some_iff.mp h
  rw [List.eraseIdx_eq_take_drop_succ, List.append_assoc]
  conv => rhs; rw [← List.take_append_drop k s, List.drop_eq_getElem_cons hk]
  exact List.Perm.append_left _ List.perm_append_comm

theorem step_conserves (op : Op) (s : List Int) (h : op.mutator = true) :
    ((Spec.step op s).2 ++ (Spec.step op s).1.handedOut).Perm (s ++ op.added) := by
  cases op <;> simp only [Op.mutator] at h <;> try (cases h)
  case addFirst v =>
    simp only [Spec.step, Out.handedOut, Op.added, List.append_nil]
    exact (List.perm_append_comm (l₁ := [v]) (l₂ := s))
  case addLast v => simp [Spec.step, Out.handedOut, Op.added]
  case add v => simp [Spec.step, Out.handedOut, Op.added]
  case removeFirst =>
    simp only [Spec.step, Op.added, List.append_nil]
    cases hs : s[0]? with
    | none => simp [Out.handedOut]
    | some v => simpa [Out.handedOut] using perm_eraseIdx s 0 v hs
  case removeLast =>
    simp only [Spec.step, Op.added, List.append_nil]
    cases hs : s[s.length - 1]? with
    | none => simp [Out.handedOut]
    | some v => simpa [Out.handedOut] using perm_eraseIdx s _ v hs
  case removeAt k =>
    simp only [Spec.step, Op.added, List.append_nil]
    cases hs : s[k]? with
    | none => simp [Out.handedOut]
    | some v => simpa [Out.handedOut] using perm_eraseIdx s k v hs

/-- **conservation over any history**: elements left ++ elements handed out ~ initial ++ added -/
theorem run_conserves (ops : List Op) (s : List Int) (h : ∀ op ∈ ops, op.mutator = true) :
    ((Spec.run ops s).2 ++ ((Spec.run ops s).1.map Out.handedOut).flatten).Perm
      (s ++ (ops.map Op.added).flatten) := by
  induction ops generalizing s with
  | nil => simp [Spec.run]
  | cons op ops ih =>
    have h1 := step_conserves op s (h op (by simp))
    have h2 := ih (Spec.step op s).2 (fun o ho => h o (by simp [ho]))
    simp only [Spec.run, List.map_cons, List.flatten_cons]
    rw [List.perm_iff_count] at h1 h2 ⊢
    intro x
    have c1 := h1 x
    have c2 := h2 x
    simp only [List.count_append] at c1 c2 ⊢
    omega

/-- hence the order in which concurrent (atomic) calls take effect does not matter for what is
    conserved: two interleavings of the same calls agree on "left ++ handed out" as multisets -/
theorem interleavings_agree (ops1 ops2 : List Op) (s : List Int) (hp : ops1.Perm ops2)
    (h : ∀ op ∈ ops1, op.mutator = true) :
    ((Spec.run ops1 s).2 ++ ((Spec.run ops1 s).1.map Out.handedOut).flatten).Perm
      ((Spec.run ops2 s).2 ++ ((Spec.run ops2 s).1.map Out.handedOut).flatten) := by
  have h2 : ∀ op ∈ ops2, op.mutator = true := fun o ho => h o (hp.mem_iff.mpr ho)
  refine (run_conserves ops1 s h).trans (List.Perm.trans ?_ (run_conserves ops2 s h2).symm)
  exact List.Perm.append_left _ ((hp.map Op.added).flatten)

end Lists.Linked
