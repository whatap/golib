/-
  Golib.Lists.Run — operation histories on a typed list: the CodeModel run, the
  Spec run (a plain `List α`) and the refinement between them.
-/
import Golib.Lists.Typed

namespace Lists

inductive Op (α : Type) where
  | add (v : α)                              -- AddX(v)
  | addAllArray (xs : List α)                -- AddAllArray(xs)
  | addAll (xs : List α) (pad : Nat)         -- AddAll(other); other holds xs and has `pad` spare slots
  | addAllSelf                               -- AddAll(this)
  | set (i : Int) (v : α)                    -- SetX(i, v)
  | get (i : Int)                            -- GetX(i)
  | size                                     -- Size()
  | toArray                                  -- ToArray()

inductive Out (α : Type) where
  | unit
  | panic
  | val (v : α)
  | size (n : Nat)
  | arr (xs : List α)
  deriving DecidableEq, Repr

/-- the other list object handed to `AddAll`: `xs` followed by `pad` unused slots -/
def otherOf {α : Type} (z : α) (xs : List α) (pad : Nat) : TL α :=
  { size := xs.length, isNil := false, table := (xs ++ List.replicate pad z).toArray }

theorem inv_otherOf {α : Type} (z : α) (xs : List α) (pad : Nat) : TL.Inv (otherOf z xs pad) := by
  simp [TL.Inv, otherOf]

@[simp] theorem abs_otherOf {α : Type} (z : α) (xs : List α) (pad : Nat) :
    TL.abs (otherOf z xs pad) = xs := by
  simp [TL.abs, otherOf]

namespace Code
variable {α : Type}

def orPanic (l : TL α) : Option (TL α) → Out α × TL α
  | some l' => (.unit, l')
  | none => (.panic, l)

def step (g : Growth) (z : α) (op : Op α) (l : TL α) : Out α × TL α :=
  match op with
  | .add v => orPanic l (TL.add g z v l)
  | .addAllArray xs => orPanic l (TL.addAllArray g z xs l)
  | .addAll xs pad => orPanic l (TL.addAll g z (otherOf z xs pad) l)
  | .addAllSelf => orPanic l (TL.addAllSelf g z l)
  | .set i v => orPanic l (TL.set l i v)
  | .get i => match TL.get l i with
    | some v => (.val v, l)
    | none => (.panic, l)
  | .size => (.size l.size, l)
  | .toArray => (.arr (TL.toArray l), l)

def run (g : Growth) (z : α) : List (Op α) → TL α → List (Out α) × TL α
  | [], l => ([], l)
  | op :: ops, l =>
    let r := step g z op l
    let rs := run g z ops r.2
    (r.1 :: rs.1, rs.2)

/-- tail-recursive form used by the driver -/
def runTR (g : Growth) (z : α) : List (Op α) → TL α → List (Out α) → List (Out α) × TL α
  | [], l, acc => (acc.reverse, l)
  | op :: ops, l, acc =>
    let r := step g z op l
    runTR g z ops r.2 (r.1 :: acc)

theorem runTR_eq (g : Growth) (z : α) (ops : List (Op α)) (l : TL α) (acc : List (Out α)) :
    runTR g z ops l acc = (acc.reverse ++ (run g z ops l).1, (run g z ops l).2) := by
  induction ops generalizing l acc with
  | nil => simp [runTR, run]
  | cons op ops ih => simp [runTR, run, ih]

end Code

namespace Spec
variable {α : Type}

def get (s : List α) (i : Int) : Option α :=
  if 0 ≤ i ∧ i < s.length then s[i.toNat]? else none

def step (op : Op α) (s : List α) : Out α × List α :=
  match op with
  | .add v => (.unit, s ++ [v])
  | .addAllArray xs => (.unit, s ++ xs)
  | .addAll xs _ => (.unit, s ++ xs)
  | .addAllSelf => (.unit, s ++ s)
  | .set i v => if 0 ≤ i ∧ i < s.length then (.unit, s.set i.toNat v) else (.panic, s)
  | .get i => match get s i with
    | some v => (.val v, s)
    | none => (.panic, s)
  | .size => (.size s.length, s)
  | .toArray => (.arr s, s)

def run : List (Op α) → List α → List (Out α) × List α
  | [], s => ([], s)
  | op :: ops, s =>
    let r := step op s
    let rs := run ops r.2
    (r.1 :: rs.1, rs.2)

theorem step_length_mono (op : Op α) (s : List α) : s.length ≤ (step op s).2.length := by
  cases op <;> simp [step]
  case set i v => split <;> simp
  case get i => split <;> simp

theorem run_length_mono (ops : List (Op α)) (s : List α) : s.length ≤ (run ops s).2.length := by
  induction ops generalizing s with
  | nil => simp [run]
  | cons op ops ih =>
    simp only [run]
    exact Nat.le_trans (step_length_mono op s) (ih _)

/-- `Filtering(index)` on a sequence: the selected elements in that order; fails iff an index is
    out of range -/
def filtering (s : List α) : List Int → Option (List α)
  | [] => some []
  | i :: is =>
    match get s i with
    | none => none
    | some v => (filtering s is).map (v :: ·)

theorem filtering_eq_none_iff (s : List α) (idx : List Int) :
    filtering s idx = none ↔ ∃ i ∈ idx, ¬ (0 ≤ i ∧ i < s.length) := by
  fun_induction filtering s idx with
  | case1 => simp
  | case2 i is hn =>
    refine ⟨fun _ => ⟨i, List.mem_cons_self, fun h => ?_⟩, fun _ => rfl⟩
    rw [get, if_pos h, List.getElem?_eq_getElem (by omega)] at hn; cases hn
  | case3 i is v hv ih =>
    have : 0 ≤ i ∧ i < (s.length : Int) := by
      unfold get at hv; split at hv
      · assumption
      · cases hv
    simp only [Option.map_eq_none_iff, ih, List.mem_cons, exists_eq_or_imp]
    exact ⟨Or.inr, fun h => h.resolve_left (fun hn => hn this)⟩

theorem filtering_eq_map (s : List α) (idx : List Int) (vs : List α)
    (h : filtering s idx = some vs) : vs.map some = idx.map (fun i => s[i.toNat]?) := by
  fun_induction filtering s idx generalizing vs with
  | case1 => cases h; rfl
  | case2 => cases h
  | case3 i is v hv ih =>
    obtain ⟨ws, hf, rfl⟩ := Option.map_eq_some_iff.mp h
    unfold get at hv; split at hv
    · simp only [List.map_cons, ih ws hf, hv]
    · cases hv

end Spec

variable {α : Type}

theorem get_eq_spec {l : TL α} (hi : TL.Inv l) (i : Int) : TL.get l i = Spec.get (TL.abs l) i :=
  TL.get_spec l i hi

/-- an operation that succeeds, leaving the sequence `xs`, answers `unit` with a list standing for `xs` -/
theorem orPanic_refines {l : TL α} {r : Option (TL α)} {xs : List α}
    (hr : ∃ l', r = some l' ∧ TL.abs l' = xs ∧ TL.Inv l') :
    (Code.orPanic l r).1 = .unit ∧ TL.abs (Code.orPanic l r).2 = xs ∧ TL.Inv (Code.orPanic l r).2 := by
  obtain ⟨l', rfl, ha, hi⟩ := hr
  exact ⟨rfl, ha, hi⟩

theorem step_refines (g : Growth) (hg : g.OK) (z : α) (op : Op α) (l : TL α) (hi : TL.Inv l)
    (hb : (Spec.step op (TL.abs l)).2.length ≤ TL.BOUND) :
    (Code.step g z op l).1 = (Spec.step op (TL.abs l)).1 ∧
    TL.abs (Code.step g z op l).2 = (Spec.step op (TL.abs l)).2 ∧
    TL.Inv (Code.step g z op l).2 := by
  have hlen := TL.abs_length hi
  cases op with
  | add v =>
    simp only [Spec.step, List.length_append, List.length_singleton, hlen] at hb
    exact orPanic_refines (TL.add_spec g hg z v l hi hb)
  | addAllArray xs =>
    simp only [Spec.step, List.length_append, hlen] at hb
    exact orPanic_refines (TL.addAllArray_spec g hg z xs l hi hb)
  | addAll xs pad =>
    simp only [Spec.step, List.length_append, hlen] at hb
    have := TL.addAll_spec g hg z (otherOf z xs pad) l hi (inv_otherOf z xs pad) hb
    rw [abs_otherOf] at this
    exact orPanic_refines this
  | addAllSelf =>
    simp only [Spec.step, List.length_append, hlen] at hb
    exact orPanic_refines (TL.addAllSelf_spec g hg z l hi hb)
  | set i v =>
    have hs := TL.set_spec l i v hi
    simp only [Code.step, Spec.step]
    split
    · rename_i hr; exact orPanic_refines (hs.1 hr)
    · rename_i hr; rw [hs.2 hr]; exact ⟨rfl, rfl, hi⟩
  | get i =>
    simp only [Code.step, Spec.step, get_eq_spec hi]
    split <;> exact ⟨rfl, rfl, hi⟩
  | size => exact ⟨congrArg _ hlen.symm, rfl, hi⟩
  | toArray => exact ⟨rfl, rfl, hi⟩

theorem run_refines (g : Growth) (hg : g.OK) (z : α) (ops : List (Op α)) (l : TL α) (hi : TL.Inv l)
    (hb : (Spec.run ops (TL.abs l)).2.length ≤ TL.BOUND) :
    (Code.run g z ops l).1 = (Spec.run ops (TL.abs l)).1 ∧
    TL.abs (Code.run g z ops l).2 = (Spec.run ops (TL.abs l)).2 ∧
    TL.Inv (Code.run g z ops l).2 := by
  induction ops generalizing l with
  | nil => simp [Code.run, Spec.run, hi]
  | cons op ops ih =>
    simp only [Spec.run] at hb
    have hb1 : (Spec.step op (TL.abs l)).2.length ≤ TL.BOUND :=
      Nat.le_trans (Spec.run_length_mono ops _) hb
    obtain ⟨h1, h2, h3⟩ := step_refines g hg z op l hi hb1
    have := ih (Code.step g z op l).2 h3 (by rw [h2]; exact hb)
    rw [h2] at this
    simp only [Code.run, Spec.run, h1, this.1, this.2.1, this.2.2, and_self]

theorem filteringLoop_spec (g : Growth) (hg : g.OK) (z : α) (l : TL α) (hi : TL.Inv l) (idx : List Int) (out : TL α)
    (ho : TL.Inv out) (hb : out.size + idx.length ≤ TL.BOUND) :
    match Spec.filtering (TL.abs l) idx with
    | some vs => ∃ out', TL.filteringLoop g z l idx out = some out' ∧
        TL.abs out' = TL.abs out ++ vs ∧ TL.Inv out'
    | none => TL.filteringLoop g z l idx out = none := by
  fun_induction Spec.filtering (TL.abs l) idx generalizing out with
  | case1 => exact ⟨out, rfl, by simp, ho⟩
  | case2 i is hn => simp only [TL.filteringLoop, get_eq_spec hi, hn]
  | case3 i is v hv ih =>
    simp only [List.length_cons] at hb
    obtain ⟨o1, h1, ha1, hi1⟩ := TL.add_spec g hg z v out ho (by omega)
    have hs1 : o1.size = out.size + 1 := by
      rw [← TL.abs_length hi1, ha1, List.length_append, TL.abs_length ho]; rfl
    have := ih o1 hi1 (by omega)
    simp only [TL.filteringLoop, get_eq_spec hi, hv, h1, Option.bind_some]
    split at this
    · rename_i ws hf
      obtain ⟨o2, h2, ha2, hi2⟩ := this
      simp only [hf, Option.map_some]
      exact ⟨o2, h2, by rw [ha2, ha1]; simp, hi2⟩
    · rename_i hf; simpa [hf] using this
theorem filtering_spec (g : Growth) (hg : g.OK) (z : α) (l : TL α) (hi : TL.Inv l) (idx : List Int)
    (hb : idx.length ≤ TL.BOUND) :
    match Spec.filtering (TL.abs l) idx with
    | some vs => ∃ out, TL.filtering g z l idx = some out ∧ TL.abs out = vs ∧ TL.Inv out
    | none => TL.filtering g z l idx = none := by
  have := filteringLoop_spec g hg z l hi idx (TL.mk' z l.size) (TL.inv_mk' z l.size)
    (by simpa [TL.mk'] using hb)
  unfold TL.filtering
  cases hf : Spec.filtering (TL.abs l) idx with
  | none => rw [hf] at this; exact this
  | some vs => rw [hf] at this; simpa using this

end Lists
