/-
  Golib.Lists.Cross — the cross-type convenience methods of `AnyList` that move between
  integers and their decimal text:

    IntList / LongList :  AddString / SetString (strconv.Atoi / ParseInt(v, 10, 64); error → panic),
                          GetString (strconv.Itoa / FormatInt(v, 10)); AddInt / AddLong / GetInt / GetLong
                          are the element operations themselves (Go `int` is 64 bits)
    StringList         :  AddInt / AddLong / SetInt / SetLong (Itoa), GetInt / GetLong (Atoi; error → panic)

  `strconv` is modelled by explicit digit functions (`itoa`, `atoi`) on byte strings.
  The numeric conversions (`AddFloat` on an int list, …) are in Golib.Lists.CrossNum, the float
  texts (`GetString` of a float list, …) in Golib.Lists.FloatText.
-/
import Golib.Basic
import Golib.Lists.Run

namespace Lists.Cross

/-- decimal digits of a natural, most significant first, as ASCII bytes -/
def decDigits (n : Nat) : Bytes :=
  if n < 10 then [48 + n] else decDigits (n / 10) ++ [48 + n % 10]
decreasing_by omega

/-- `strconv.Itoa` / `FormatInt(v, 10)` -/
def itoa (v : Int) : Bytes :=
  if v < 0 then 45 :: decDigits (-v).toNat else decDigits v.toNat

def parseDigits : Bytes → Nat → Option Nat
  | [], acc => some acc
  | d :: ds, acc => if 48 ≤ d ∧ d ≤ 57 then parseDigits ds (acc * 10 + (d - 48)) else none

/-- `strconv.Atoi` / `ParseInt(s, 10, 64)`: optional sign, then at least one digit and nothing but
    digits; a value outside int64 is an error -/
def atoi (s : Bytes) : Option Int :=
  let neg : Bool := s.head? == some 45
  let body : Bytes := if s.head? == some 45 || s.head? == some 43 then s.tail else s
  if body.isEmpty then none
  else match parseDigits body 0 with
    | none => none
    | some n =>
      let v : Int := if neg then -(n : Int) else (n : Int)
      if -9223372036854775808 ≤ v ∧ v ≤ 9223372036854775807 then some v else none

theorem parseDigits_append (a b : Bytes) (acc : Nat) :
    parseDigits (a ++ b) acc = (parseDigits a acc).bind (parseDigits b) := by
  induction a generalizing acc with
  | nil => rfl
  | cons d ds ih =>
    simp only [List.cons_append, parseDigits]
    split
    · exact ih _
    · rfl

theorem parseDigits_decDigits (n acc : Nat) :
    parseDigits (decDigits n) acc = some (acc * 10 ^ (decDigits n).length + n) := by
  fun_induction decDigits n generalizing acc with
  | case1 n h =>
    have : 48 ≤ 48 + n ∧ 48 + n ≤ 57 := by omega
    simp only [parseDigits, List.length_singleton, Nat.pow_one, this, and_self, if_true]
    congr 1; omega
  | case2 n h ih =>
    have : 48 ≤ 48 + n % 10 ∧ 48 + n % 10 ≤ 57 := by omega
    simp only [parseDigits_append, ih, Option.bind_some, parseDigits, List.length_append,
      List.length_singleton, this, and_self, if_true]
    congr 1
    rw [Nat.pow_succ]
    have := Nat.div_add_mod n 10
    have e : (acc * 10 ^ (decDigits (n / 10)).length + n / 10) * 10 =
        acc * (10 ^ (decDigits (n / 10)).length * 10) + n / 10 * 10 := by
      rw [Nat.add_mul, Nat.mul_assoc]
    rw [e]; omega

theorem decDigits_ne_nil (n : Nat) : decDigits n ≠ [] := by
  rw [decDigits]; split <;> simp

theorem decDigits_head (n : Nat) : ∀ d ∈ (decDigits n).head?, 48 ≤ d ∧ d ≤ 57 := by
  fun_induction decDigits n with
  | case1 n h => intro d hd; simp only [List.head?_cons, Option.mem_def, Option.some.injEq] at hd; omega
  | case2 n h ih =>
    intro d hd
    rw [List.head?_append, Option.mem_def] at hd
    cases hq : (decDigits (n / 10)).head? with
    | none => exact absurd (List.head?_eq_none_iff.mp hq) (decDigits_ne_nil _)
    | some q => rw [hq] at hd ih; exact ih d hd

theorem atoi_itoa (v : Int) (h : -9223372036854775808 ≤ v ∧ v ≤ 9223372036854775807) :
    atoi (itoa v) = some v := by
  unfold itoa
  by_cases hv : v < 0
  · have hne := decDigits_ne_nil (-v).toNat
    have hemp : (decDigits (-v).toNat).isEmpty = false := by
      cases hd : decDigits (-v).toNat with
      | nil => exact absurd hd hne
      | cons _ _ => rfl
    have e : -(((-v).toNat : Nat) : Int) = v := by omega
    simp only [hv, if_true, atoi, List.head?_cons, beq_self_eq_true, Bool.true_or, List.tail_cons,
      hemp, Bool.false_eq_true, if_false, parseDigits_decDigits, Nat.zero_mul, Nat.zero_add, e]
    simp [h]
  · have hne := decDigits_ne_nil v.toNat
    have hh := decDigits_head v.toNat
    cases hd : decDigits v.toNat with
    | nil => exact absurd hd hne
    | cons d ds =>
      have hdr : 48 ≤ d ∧ d ≤ 57 := hh d (by rw [hd]; simp)
      have h45 : (some d == some 45) = false := by simp; omega
      have h43 : (some d == some 43) = false := by simp; omega
      have e : ((v.toNat : Nat) : Int) = v := by omega
      simp only [hv, if_false, atoi, List.head?_cons, h45, h43, Bool.or_self, Bool.false_eq_true,
        List.isEmpty_cons]
      rw [← hd, parseDigits_decDigits]
      simp only [Nat.zero_mul, Nat.zero_add, e]
      simp [h]

inductive IOp where
  | addInt (v : Int)                 -- AddInt / AddLong
  | addString (s : Bytes)            -- AddString
  | setInt (i : Int) (v : Int)       -- SetInt / SetLong
  | setString (i : Int) (s : Bytes)  -- SetString
  | getInt (i : Int)                 -- GetInt / GetLong
  | getString (i : Int)              -- GetString
  | toArray

inductive XOut where
  | unit
  | panic
  | int (v : Int)
  | str (s : Bytes)
  | ints (xs : List Int)
  | strs (xs : List Bytes)
  deriving DecidableEq, Repr

def orPanic {α : Type} (l : TL α) : Option (TL α) → XOut × TL α
  | some l' => (.unit, l')
  | none => (.panic, l)

/-- the methods as the code has them: parse first (a parse error panics before the index is looked at) -/
def stepI (g : Growth) (op : IOp) (l : TL Int) : XOut × TL Int :=
  match op with
  | .addInt v => orPanic l (TL.add g 0 v l)
  | .addString s => match atoi s with
    | some n => orPanic l (TL.add g 0 n l)
    | none => (.panic, l)
  | .setInt i v => orPanic l (TL.set l i v)
  | .setString i s => match atoi s with
    | some n => orPanic l (TL.set l i n)
    | none => (.panic, l)
  | .getInt i => match TL.get l i with
    | some v => (.int v, l)
    | none => (.panic, l)
  | .getString i => match TL.get l i with
    | some v => (.str (itoa v), l)
    | none => (.panic, l)
  | .toArray => (.ints (TL.toArray l), l)

def specI (op : IOp) (s : List Int) : XOut × List Int :=
  match op with
  | .addInt v => (.unit, s ++ [v])
  | .addString t => match atoi t with
    | some n => (.unit, s ++ [n])
    | none => (.panic, s)
  | .setInt i v => if 0 ≤ i ∧ i < s.length then (.unit, s.set i.toNat v) else (.panic, s)
  | .setString i t => match atoi t with
    | some n => if 0 ≤ i ∧ i < s.length then (.unit, s.set i.toNat n) else (.panic, s)
    | none => (.panic, s)
  | .getInt i => match Spec.get s i with
    | some v => (.int v, s)
    | none => (.panic, s)
  | .getString i => match Spec.get s i with
    | some v => (.str (itoa v), s)
    | none => (.panic, s)
  | .toArray => (.ints s, s)

theorem add_refines {α : Type} (g : Growth) (hg : g.OK) (z v : α) (l : TL α) (hi : TL.Inv l)
    (hb : (TL.abs l).length + 1 ≤ TL.BOUND) :
    (orPanic l (TL.add g z v l)).1 = .unit ∧ TL.abs (orPanic l (TL.add g z v l)).2 = TL.abs l ++ [v] ∧
    TL.Inv (orPanic l (TL.add g z v l)).2 := by
  rw [TL.abs_length hi] at hb
  obtain ⟨l', h1, h2, h3⟩ := TL.add_spec g hg z v l hi hb
  simp [h1, orPanic, h2, h3]

theorem set_refines {α : Type} (v : α) (l : TL α) (hi : TL.Inv l) (i : Int) :
    (orPanic l (TL.set l i v)).1 = (if 0 ≤ i ∧ i < (TL.abs l).length then XOut.unit else XOut.panic) ∧
    TL.abs (orPanic l (TL.set l i v)).2 =
      (if 0 ≤ i ∧ i < (TL.abs l).length then (TL.abs l).set i.toNat v else TL.abs l) ∧
    TL.Inv (orPanic l (TL.set l i v)).2 := by
  have hs := TL.set_spec l i v hi
  by_cases hr : 0 ≤ i ∧ i < ((TL.abs l).length : Int)
  · obtain ⟨l', h1, h2, h3⟩ := hs.1 hr
    simp [h1, orPanic, h2, h3, hr]
  · simp [hs.2 hr, orPanic, hi, hr]

theorem stepI_refines (g : Growth) (hg : g.OK) (op : IOp) (l : TL Int) (hi : TL.Inv l)
    (hb : (TL.abs l).length + 1 ≤ TL.BOUND) :
    (stepI g op l).1 = (specI op (TL.abs l)).1 ∧ TL.abs (stepI g op l).2 = (specI op (TL.abs l)).2 ∧
    TL.Inv (stepI g op l).2 := by
  cases op with
  | addInt v => simpa [stepI, specI] using add_refines g hg 0 v l hi hb
  | addString s =>
    simp only [stepI, specI]
    cases atoi s with
    | none => exact ⟨rfl, rfl, hi⟩
    | some n => simpa using add_refines g hg 0 n l hi hb
  | setInt i v =>
    have := set_refines v l hi i
    simp only [stepI, specI]
    split <;> simp_all
  | setString i s =>
    simp only [stepI, specI]
    cases atoi s with
    | none => exact ⟨rfl, rfl, hi⟩
    | some n =>
      have := set_refines n l hi i
      simp only []
      split <;> simp_all
  | getInt i => simp only [stepI, specI, get_eq_spec hi]; split <;> exact ⟨rfl, rfl, hi⟩
  | getString i => simp only [stepI, specI, get_eq_spec hi]; split <;> exact ⟨rfl, rfl, hi⟩
  | toArray => exact ⟨rfl, rfl, hi⟩

inductive SOp where
  | addString (s : Bytes)
  | addInt (v : Int)                 -- AddInt / AddLong: Itoa
  | setString (i : Int) (s : Bytes)
  | setInt (i : Int) (v : Int)
  | getString (i : Int)
  | getInt (i : Int)                 -- GetInt / GetLong: Atoi, error → panic
  | toArray

def stepS (g : Growth) (op : SOp) (l : TL Bytes) : XOut × TL Bytes :=
  match op with
  | .addString s => orPanic l (TL.add g [] s l)
  | .addInt v => orPanic l (TL.add g [] (itoa v) l)
  | .setString i s => orPanic l (TL.set l i s)
  | .setInt i v => orPanic l (TL.set l i (itoa v))
  | .getString i => match TL.get l i with
    | some s => (.str s, l)
    | none => (.panic, l)
  | .getInt i => match TL.get l i with
    | some s => match atoi s with
      | some n => (.int n, l)
      | none => (.panic, l)
    | none => (.panic, l)
  | .toArray => (.strs (TL.toArray l), l)

def specS (op : SOp) (s : List Bytes) : XOut × List Bytes :=
  match op with
  | .addString t => (.unit, s ++ [t])
  | .addInt v => (.unit, s ++ [itoa v])
  | .setString i t => if 0 ≤ i ∧ i < s.length then (.unit, s.set i.toNat t) else (.panic, s)
  | .setInt i v => if 0 ≤ i ∧ i < s.length then (.unit, s.set i.toNat (itoa v)) else (.panic, s)
  | .getString i => match Spec.get s i with
    | some t => (.str t, s)
    | none => (.panic, s)
  | .getInt i => match Spec.get s i with
    | some t => match atoi t with
      | some n => (.int n, s)
      | none => (.panic, s)
    | none => (.panic, s)
  | .toArray => (.strs s, s)

theorem stepS_refines (g : Growth) (hg : g.OK) (op : SOp) (l : TL Bytes) (hi : TL.Inv l)
    (hb : (TL.abs l).length + 1 ≤ TL.BOUND) :
    (stepS g op l).1 = (specS op (TL.abs l)).1 ∧ TL.abs (stepS g op l).2 = (specS op (TL.abs l)).2 ∧
    TL.Inv (stepS g op l).2 := by
  cases op with
  | addString s => simpa [stepS, specS] using add_refines g hg [] s l hi hb
  | addInt v => simpa [stepS, specS] using add_refines g hg [] (itoa v) l hi hb
  | setString i s =>
    have := set_refines s l hi i
    simp only [stepS, specS]
    split <;> simp_all
  | setInt i v =>
    have := set_refines (itoa v) l hi i
    simp only [stepS, specS]
    split <;> simp_all
  | getString i => simp only [stepS, specS, get_eq_spec hi]; split <;> exact ⟨rfl, rfl, hi⟩
  | getInt i =>
    simp only [stepS, specS, get_eq_spec hi]
    split
    · split <;> exact ⟨rfl, rfl, hi⟩
    · exact ⟨rfl, rfl, hi⟩
  | toArray => exact ⟨rfl, rfl, hi⟩

/-! tail-recursive runners for the driver -/

def runI (g : Growth) : List IOp → TL Int → List XOut → List XOut
  | [], _, acc => acc.reverse
  | op :: ops, l, acc => let r := stepI g op l; runI g ops r.2 (r.1 :: acc)

def runS (g : Growth) : List SOp → TL Bytes → List XOut → List XOut
  | [], _, acc => acc.reverse
  | op :: ops, l, acc => let r := stepS g op l; runS g ops r.2 (r.1 :: acc)

end Lists.Cross
