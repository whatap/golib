/-
  Golib.Lists.FloatText — the cross-type methods of `AnyList` that move between floats and text:

    FloatList / DoubleList : AddString / SetString   strconv.ParseFloat(v, 32 | 64); error → panic
                             GetString               strconv.FormatFloat(x, 'f', 6, 32 | 64)
    StringList             : AddFloat / SetFloat / AddDouble / SetDouble   FormatFloat(v, 'f', 6, 32 | 64)
                             GetFloat / GetDouble    ParseFloat(get(i), 32 | 64); error → panic

  `strconv` is modelled on bit patterns and exact integers:

    fmtF6   the value ±m·2^e scaled by 10^6 and rounded to the nearest integer N, ties to even
            (`scaled6`), printed as  [-] N/10^6 . (N mod 10^6 on six digits);  NaN, +Inf, -Inf
    parseF  the decimal grammar of ParseFloat ([+-] digits [. digits] [(e|E) [+-] digits], at least one
            mantissa digit, the exponent accumulated while below 10000 as the code does), "inf" /
            "infinity" with optional sign and "nan" in any case; the rational mant·10^exp rounded
            to the nearest value of the format, ties to even (`encodeQ`), overflow → error (ErrRange).
            EXCLUDED (answer `excluded`, never generated by tie B): texts with '_' and hexadecimal
            texts (0x…) — Go accepts some of them — and "nan" (NaN is outside the property's quantifier).

  The code's quirk kept in the model: `DoubleList.SetString` parses with bitSize 32 (the statement was
  copied from FloatList) while `DoubleList.AddString` parses with 64 — `cinF … (isSet := true)`.
-/
import Golib.Basic
import Golib.Lists.Run
import Golib.Lists.Cross
import Golib.Lists.FloatConv

namespace Lists.FloatText
open FloatConv

/-! ### FormatFloat(x, 'f', 6, ·) -/

/-- `n / d` rounded to nearest, ties to even (`d > 0`) -/
def divRNE (n d : Nat) : Nat :=
  let q := n / d
  let r := n % d
  if 2 * r > d || (2 * r == d && q % 2 == 1) then q + 1 else q

/-- the magnitude `m·2^e` times 10^6, rounded to the nearest integer, ties to even -/
def scaled6 (m : Nat) (e : Int) : Nat :=
  if e ≥ 0 then m * 2 ^ e.toNat * 1000000 else divRNE (m * 1000000) (2 ^ (-e).toNat)

def pad6 (n : Nat) : Bytes :=
  [48 + n / 100000 % 10, 48 + n / 10000 % 10, 48 + n / 1000 % 10, 48 + n / 100 % 10, 48 + n / 10 % 10, 48 + n % 10]

def fixed6 (neg : Bool) (N : Nat) : Bytes :=
  (if neg then [45] else []) ++ Cross.decDigits (N / 1000000) ++ [46] ++ pad6 (N % 1000000)

def fmtF6 (f : Fmt) (bits : Nat) : Bytes :=
  match decode f bits with
  | some (neg, m, e) => fixed6 neg (scaled6 m e)
  | none =>
    if isNaN f bits then [78, 97, 78]                                   -- "NaN"
    else if bits / f.signBit % 2 == 1 then [45, 73, 110, 102]           -- "-Inf"
    else [43, 73, 110, 102]                                             -- "+Inf"

/-- the printed number is the value rounded correctly to six decimals: `|m·10^6 / d − N| ≤ 1/2` -/
theorem divRNE_nearest (n d : Nat) (hd : 0 < d) :
    2 * (d * divRNE n d) ≤ 2 * n + d ∧ 2 * n ≤ 2 * (d * divRNE n d) + d := by
  have h1 := Nat.div_add_mod n d
  have h2 := Nat.mod_lt n hd
  unfold divRNE
  simp only []
  split
  · rename_i h
    have : 2 * (n % d) ≥ d := by
      simp only [Bool.or_eq_true, decide_eq_true_eq, Bool.and_eq_true, beq_iff_eq] at h
      omega
    rw [Nat.mul_add, Nat.mul_one]
    omega
  · rename_i h
    have : 2 * (n % d) ≤ d := by
      simp only [Bool.or_eq_true, decide_eq_true_eq, Bool.and_eq_true, beq_iff_eq, not_or] at h
      omega
    omega

/-! ### ParseFloat(s, ·) -/

inductive PF where
  | ok (bits : Nat)
  | err
  | excluded
  deriving DecidableEq, Repr

def lower (c : Nat) : Nat := if 65 ≤ c ∧ c ≤ 90 then c + 32 else c

def isDigit (c : Nat) : Bool := 48 ≤ c && c ≤ 57

/-- digits with at most one '.': (mantissa as an integer, digits behind the dot, saw a digit, rest) -/
def scanMant : Bytes → Nat → Nat → Bool → Bool → Nat × Nat × Bool × Bytes
  | [], m, fr, _, dg => (m, fr, dg, [])
  | c :: cs, m, fr, dot, dg =>
    if isDigit c then scanMant cs (m * 10 + (c - 48)) (if dot then fr + 1 else fr) dot true
    else if c == 46 && !dot then scanMant cs m fr true dg
    else (m, fr, dg, c :: cs)

/-- the exponent digits: `if e < 10000 { e = e*10 + d }`; `none` on a non-digit -/
def scanExp : Bytes → Nat → Option Nat
  | [], e => some e
  | c :: cs, e => if isDigit c then scanExp cs (if e < 10000 then e * 10 + (c - 48) else e) else none

/-- the exponent part behind the mantissa: nothing, or (e|E) [+-] digit+ up to the end of the text -/
def expPart (rest : Bytes) : Option Int :=
  match rest with
  | [] => some 0
  | c :: r =>
    if lower c == 101 then
      let (neg, ds) := match r with
        | 43 :: t => (false, t)
        | 45 :: t => (true, t)
        | t => (false, t)
      if ds.isEmpty then none
      else (scanExp ds 0).map (fun e => if neg then -(e : Int) else (e : Int))
    else none

/-- `num / den` (`den > 0`) rounded to the nearest value of the format, ties to even;
    subnormals; overflow → ±Inf -/
def encodeQ (f : Fmt) (neg : Bool) (n d : Nat) : Nat :=
  let s := if neg then f.signBit else 0
  if n = 0 then s else
  let L : Int := (Nat.log2 n : Int) - (Nat.log2 d : Int)
  let ge : Bool := if L ≥ 0 then decide (n ≥ d * 2 ^ L.toNat) else decide (n * 2 ^ (-L).toNat ≥ d)
  let E : Int := if ge then L else L - 1                    -- 2^E ≤ n/d < 2^(E+1)
  let q0 : Int := max (E - (f.mbits : Int)) f.qmin          -- exponent of the last kept bit
  let M0 := if q0 ≥ 0 then divRNE n (d * 2 ^ q0.toNat) else divRNE (n * 2 ^ (-q0).toNat) d
  let carry := M0 ≥ 2 ^ (f.mbits + 1)
  let M := if carry then M0 / 2 else M0
  let q : Int := if carry then q0 + 1 else q0
  if M < 2 ^ f.mbits then s + M
  else
    let ef : Int := q + (f.mbits : Int) + (f.bias : Int)
    if ef ≥ ((2 ^ f.ebits - 1 : Nat) : Int) then s + f.inf
    else s + ef.toNat * 2 ^ f.mbits + (M - 2 ^ f.mbits)

def infWord : Bytes := [105, 110, 102]
def infinityWord : Bytes := [105, 110, 102, 105, 110, 105, 116, 121]
def nanWord : Bytes := [110, 97, 110]

def stripSign (s : Bytes) : Bool × Bytes :=
  match s with
  | 43 :: t => (false, t)
  | 45 :: t => (true, t)
  | t => (false, t)

def isHex (body : Bytes) : Bool :=
  match body with
  | 48 :: x :: _ :: _ => lower x == 120
  | _ => false

def parseF (f : Fmt) (s : Bytes) : PF :=
  let (neg, body) := stripSign s
  let lb := body.map lower
  if lb == infWord || lb == infinityWord then .ok ((if neg then f.signBit else 0) + f.inf)
  else if s.map lower == nanWord then .excluded
  else if s.contains 95 || isHex body then .excluded
  else
    let (m, fr, dg, rest) := scanMant body 0 0 false false
    if !dg then .err
    else match expPart rest with
      | none => .err
      | some e =>
        let x : Int := e - (fr : Int)
        let bits := if x ≥ 0 then encodeQ f neg (m * 10 ^ x.toNat) 1 else encodeQ f neg m (10 ^ (-x).toNat)
        if bits % f.signBit == f.inf then .err else .ok bits

/-! ### the lists seen through these conversions: one generic step, two instances -/

/-- what goes into / comes out of the cross-type methods -/
inductive TV where
  | text (s : Bytes)
  | f32 (b : Nat)
  | f64 (b : Nat)
  deriving DecidableEq, Repr

inductive TSel where
  | text | f32 | f64
  deriving DecidableEq, Repr

inductive R (β : Type) where
  | ok (y : β)
  | panic
  | excluded
  deriving DecidableEq

inductive VOp where
  | add (x : TV)                  -- AddString / AddFloat / AddDouble
  | set (i : Int) (x : TV)        -- SetString / SetFloat / SetDouble
  | get (i : Int) (sel : TSel)    -- GetString / GetFloat / GetDouble
  | toArray

inductive VOut (α : Type) where
  | unit
  | panic
  | excluded
  | val (o : TV)
  | arr (xs : List α)
  deriving DecidableEq

structure View (α : Type) where
  zero : α
  cin : Bool → TV → R α           -- the Bool: through a Set… method
  cout : TSel → α → R TV

def stepV {α : Type} (g : Growth) (v : View α) (op : VOp) (l : TL α) : VOut α × TL α :=
  match op with
  | .add x => match v.cin false x with
    | .ok y => match TL.add g v.zero y l with
      | some l' => (.unit, l')
      | none => (.panic, l)
    | .panic => (.panic, l)
    | .excluded => (.excluded, l)
  | .set i x => match v.cin true x with
    | .ok y => match TL.set l i y with
      | some l' => (.unit, l')
      | none => (.panic, l)
    | .panic => (.panic, l)
    | .excluded => (.excluded, l)
  | .get i sel => match TL.get l i with
    | some y => match v.cout sel y with
      | .ok o => (.val o, l)
      | .panic => (.panic, l)
      | .excluded => (.excluded, l)
    | none => (.panic, l)
  | .toArray => (.arr (TL.toArray l), l)

def specV {α : Type} (v : View α) (op : VOp) (s : List α) : VOut α × List α :=
  match op with
  | .add x => match v.cin false x with
    | .ok y => (.unit, s ++ [y])
    | .panic => (.panic, s)
    | .excluded => (.excluded, s)
  | .set i x => match v.cin true x with
    | .ok y => if 0 ≤ i ∧ i < s.length then (.unit, s.set i.toNat y) else (.panic, s)
    | .panic => (.panic, s)
    | .excluded => (.excluded, s)
  | .get i sel => match Spec.get s i with
    | some y => match v.cout sel y with
      | .ok o => (.val o, s)
      | .panic => (.panic, s)
      | .excluded => (.excluded, s)
    | none => (.panic, s)
  | .toArray => (.arr s, s)

theorem stepV_refines {α : Type} (g : Growth) (hg : g.OK) (v : View α) (op : VOp) (l : TL α)
    (hi : TL.Inv l) (hb : (TL.abs l).length + 1 ≤ TL.BOUND) :
    (stepV g v op l).1 = (specV v op (TL.abs l)).1 ∧ TL.abs (stepV g v op l).2 = (specV v op (TL.abs l)).2 ∧
    TL.Inv (stepV g v op l).2 := by
  cases op with
  | add x =>
    simp only [stepV, specV]
    cases v.cin false x with
    | panic => exact ⟨rfl, rfl, hi⟩
    | excluded => exact ⟨rfl, rfl, hi⟩
    | ok y =>
      rw [TL.abs_length hi] at hb
      obtain ⟨l', h1, h2, h3⟩ := TL.add_spec g hg v.zero y l hi hb
      simp [h1, h2, h3]
  | set i x =>
    simp only [stepV, specV]
    cases v.cin true x with
    | panic => exact ⟨rfl, rfl, hi⟩
    | excluded => exact ⟨rfl, rfl, hi⟩
    | ok y =>
      have hs := TL.set_spec l i y hi
      by_cases hr : 0 ≤ i ∧ i < ((TL.abs l).length : Int)
      · obtain ⟨l', h1, h2, h3⟩ := hs.1 hr
        simp [h1, h2, h3, hr]
      · simp [hs.2 hr, hi, hr]
  | get i sel =>
    simp only [stepV, specV, get_eq_spec hi]
    split
    · split <;> exact ⟨rfl, rfl, hi⟩
    · exact ⟨rfl, rfl, hi⟩
  | toArray => exact ⟨rfl, rfl, hi⟩

theorem specV_len {α : Type} (v : View α) (op : VOp) (s : List α) : (specV v op s).2.length ≤ s.length + 1 := by
  cases op <;> simp only [specV] <;> (repeat' split) <;> simp

def ofPF : PF → R Nat
  | .ok b => .ok b
  | .err => .panic
  | .excluded => .excluded

def ofOpt {β : Type} : Option β → R β
  | some y => .ok y
  | none => .excluded

/-- FloatList (`dbl = false`) / DoubleList (`dbl = true`), elements as bit patterns.
    `quirk = true` is `DoubleList.SetString` before fix-D46, parsing with bitSize 32;
    `quirk = false` is the statement /repo has (proposed/C13/fix-D46.diff: bitSize 64). -/
def floatView (dbl : Bool) (quirk : Bool := true) : View Nat where
  zero := 0
  cin := fun isSet x =>
    match dbl, x with
    | false, .text s => ofPF (parseF f32 s)
    | false, .f32 b => .ok b
    | false, .f64 b => ofOpt (fToF f64 f32 b)
    | true, .text s =>
      if isSet && quirk then                         -- DoubleList.SetString: ParseFloat(v, 32)
        match parseF f32 s with
        | .ok b => ofOpt (fToF f32 f64 b)
        | .err => .panic
        | .excluded => .excluded
      else ofPF (parseF f64 s)
    | true, .f32 b => ofOpt (fToF f32 f64 b)
    | true, .f64 b => .ok b
  cout := fun sel y =>
    match dbl, sel with
    | false, .text => .ok (.text (fmtF6 f32 y))
    | false, .f32 => .ok (.f32 y)
    | false, .f64 => (match fToF f32 f64 y with | some b => .ok (.f64 b) | none => .excluded)
    | true, .text => .ok (.text (fmtF6 f64 y))
    | true, .f32 => (match fToF f64 f32 y with | some b => .ok (.f32 b) | none => .excluded)
    | true, .f64 => .ok (.f64 y)

/-- StringList -/
def stringView : View Bytes where
  zero := []
  cin := fun _ x =>
    match x with
    | .text s => .ok s
    | .f32 b => .ok (fmtF6 f32 b)
    | .f64 b => .ok (fmtF6 f64 b)
  cout := fun sel s =>
    match sel with
    | .text => .ok (.text s)
    | .f32 => (match parseF f32 s with | .ok b => .ok (.f32 b) | .err => .panic | .excluded => .excluded)
    | .f64 => (match parseF f64 s with | .ok b => .ok (.f64 b) | .err => .panic | .excluded => .excluded)

def runV {α : Type} (g : Growth) (v : View α) : List VOp → TL α → List (VOut α) → List (VOut α)
  | [], _, acc => acc.reverse
  | op :: ops, l, acc => let r := stepV g v op l; runV g v ops r.2 (r.1 :: acc)

/-! fixed points of the definitions (tied to Go by the harness on boundary-rich inputs) -/

/-- the scaled integer `fmtF6` prints (sign, N) -/
def scaledOf (f : Fmt) (bits : Nat) : Option (Bool × Nat) :=
  (decode f bits).map (fun x => (x.1, scaled6 x.2.1 x.2.2))

example : scaledOf f64 0x3ff8000000000000 = some (false, 1500000) ∧                     -- 1.5
    scaledOf f64 0x8000000000000000 = some (true, 0) ∧                                   -- -0 → "-0.000000"
    scaledOf f64 0x3ec4f8b588e368f1 = some (false, 3) ∧                                  -- 2.5e-6 (above the tie)
    scaledOf f32 0x3627c5ac = some (false, 2) ∧                                          -- float32(2.5e-6) (below)
    scaledOf f64 0x3eb0c6f7a0b5ed8d = some (false, 1) ∧                                  -- 1e-6
    scaledOf f32 0x7f800000 = none ∧ scaledOf f64 1 = some (false, 0) ∧
    pad6 42 = [48, 48, 48, 48, 52, 50] := by
  decide +kernel

example : parseF f64 [48, 46, 49] = .ok 0x3fb999999999999a ∧                              -- "0.1"
    parseF f32 [48, 46, 49] = .ok 0x3dcccccd ∧
    parseF f64 [49, 101, 52, 48, 48] = .err ∧                                             -- "1e400": ErrRange
    parseF f64 [49, 101, 45, 52, 48, 48] = .ok 0 ∧                                        -- "1e-400" → 0
    parseF f32 [49, 101, 51, 57] = .err ∧ parseF f64 [49, 101] = .err ∧                   -- "1e39", "1e"
    parseF f64 [46] = .err ∧ parseF f64 [53, 46] = .ok 0x4014000000000000 ∧               -- ".", "5."
    parseF f64 [45, 73, 78, 70] = .ok 0xfff0000000000000 ∧                                -- "-INF"
    parseF f64 [49, 95, 48] = .excluded ∧ parseF f64 [43, 110, 97, 110] = .err ∧          -- "1_0", "+nan"
    parseF f64 [52, 46, 57, 101, 45, 51, 50, 52] = .ok 1 := by                            -- "4.9e-324"
  decide +kernel

end Lists.FloatText
