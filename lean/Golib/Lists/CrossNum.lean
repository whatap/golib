/-
  Golib.Lists.CrossNum — the numeric cross-type methods of `AnyList` on IntList / LongList /
  FloatList / DoubleList (each is one Go conversion around the element operation):

    AddInt/AddLong/AddFloat/AddDouble(v)   add(T(v))
    SetInt/…(i, v)                          set(i, T(v))
    GetInt/GetLong/GetFloat/GetDouble(i)    U(get(i))

  and the views every list type has: GetValue(i) (the element wrapped in the value type of the
  list), GetObject(i) (always nil, no index check), ToString() (`fmt.Sprintf("%v", table)`: the WHOLE
  table, unused capacity included — modelled for the integer and string lists).
-/
import Golib.Basic
import Golib.Lists.Run
import Golib.Lists.Cross
import Golib.Lists.FloatConv

namespace Lists.CrossNum
open FloatConv

/-- a number of one of the three kinds: int64, float32 bits, float64 bits -/
inductive Num where
  | int (v : Int)
  | f32 (b : Nat)
  | f64 (b : Nat)
  deriving DecidableEq, Repr, Inhabited

inductive Kind where
  | int | f32 | f64
  deriving DecidableEq, Repr

def Kind.zero : Kind → Num
  | .int => .int 0
  | .f32 => .f32 0
  | .f64 => .f64 0

/-- the Go conversion of `x` to kind `k`; `none` where Go leaves the result open (float → int of
    NaN / Inf / out of int64) or for NaN inputs (excluded by the property's quantifier) -/
def conv (k : Kind) (x : Num) : Option Num :=
  match k, x with
  | .int, .int v => some (.int v)
  | .int, .f32 b => (fToInt FloatConv.f32 b).map .int
  | .int, .f64 b => (fToInt FloatConv.f64 b).map .int
  | .f32, .int v => some (.f32 (intToF FloatConv.f32 v))
  | .f32, .f32 b => some (.f32 b)
  | .f32, .f64 b => (fToF FloatConv.f64 FloatConv.f32 b).map .f32
  | .f64, .int v => some (.f64 (intToF FloatConv.f64 v))
  | .f64, .f32 b => (fToF FloatConv.f32 FloatConv.f64 b).map .f64
  | .f64, .f64 b => some (.f64 b)

inductive NOp where
  | add (x : Num)                 -- AddInt / AddLong / AddFloat / AddDouble by the kind of x
  | set (i : Int) (x : Num)
  | get (i : Int) (as : Kind)     -- GetInt / GetLong / GetFloat / GetDouble
  | getValue (i : Int)
  | getObject (i : Int)
  | toArray

inductive NOut where
  | unit
  | panic
  | excluded                       -- an input outside the modelled domain (never generated)
  | num (x : Num)
  | value (tag : String) (x : Num) -- GetValue: DecimalValue / FloatValue / DoubleValue
  | nil
  | nums (xs : List Num)
  deriving DecidableEq, Repr

def valueTag : Kind → String
  | .int => "decimal"
  | .f32 => "float"
  | .f64 => "double"

def orPanic (l : TL Num) : Option (TL Num) → NOut × TL Num
  | some l' => (.unit, l')
  | none => (.panic, l)

/-- one method call on a list of kind `k` -/
def step (g : Growth) (k : Kind) (op : NOp) (l : TL Num) : NOut × TL Num :=
  match op with
  | .add x => match conv k x with
    | some y => orPanic l (TL.add g k.zero y l)
    | none => (.excluded, l)
  | .set i x => match conv k x with
    | some y => orPanic l (TL.set l i y)
    | none => (.excluded, l)
  | .get i as => match TL.get l i with
    | some y => match conv as y with
      | some r => (.num r, l)
      | none => (.excluded, l)
    | none => (.panic, l)
  | .getValue i => match TL.get l i with
    | some y => (.value (valueTag k) y, l)
    | none => (.panic, l)
  | .getObject _ => (.nil, l)
  | .toArray => (.nums (TL.toArray l), l)

def spec (k : Kind) (op : NOp) (s : List Num) : NOut × List Num :=
  match op with
  | .add x => match conv k x with
    | some y => (.unit, s ++ [y])
    | none => (.excluded, s)
  | .set i x => match conv k x with
    | some y => if 0 ≤ i ∧ i < s.length then (.unit, s.set i.toNat y) else (.panic, s)
    | none => (.excluded, s)
  | .get i as => match Spec.get s i with
    | some y => match conv as y with
      | some r => (.num r, s)
      | none => (.excluded, s)
    | none => (.panic, s)
  | .getValue i => match Spec.get s i with
    | some y => (.value (valueTag k) y, s)
    | none => (.panic, s)
  | .getObject _ => (.nil, s)
  | .toArray => (.nums s, s)

theorem step_refines (g : Growth) (hg : g.OK) (k : Kind) (op : NOp) (l : TL Num) (hi : TL.Inv l)
    (hb : (TL.abs l).length + 1 ≤ TL.BOUND) :
    (step g k op l).1 = (spec k op (TL.abs l)).1 ∧ TL.abs (step g k op l).2 = (spec k op (TL.abs l)).2 ∧
    TL.Inv (step g k op l).2 := by
  cases op with
  | add x =>
    simp only [step, spec]
    cases conv k x with
    | none => exact ⟨rfl, rfl, hi⟩
    | some y =>
      rw [TL.abs_length hi] at hb
      obtain ⟨l', h1, h2, h3⟩ := TL.add_spec g hg k.zero y l hi hb
      simp [h1, orPanic, h2, h3]
  | set i x =>
    simp only [step, spec]
    cases conv k x with
    | none => exact ⟨rfl, rfl, hi⟩
    | some y =>
      have hs := TL.set_spec l i y hi
      by_cases hr : 0 ≤ i ∧ i < ((TL.abs l).length : Int)
      · obtain ⟨l', h1, h2, h3⟩ := hs.1 hr
        simp [h1, orPanic, h2, h3, hr]
      · simp [hs.2 hr, orPanic, hi, hr]
  | get i as =>
    simp only [step, spec, get_eq_spec hi]
    split
    · split <;> exact ⟨rfl, rfl, hi⟩
    · exact ⟨rfl, rfl, hi⟩
  | getValue i => simp only [step, spec, get_eq_spec hi]; split <;> exact ⟨rfl, rfl, hi⟩
  | getObject i => exact ⟨rfl, rfl, hi⟩
  | toArray => exact ⟨rfl, rfl, hi⟩

def run (g : Growth) (k : Kind) : List NOp → TL Num → List NOut → List NOut
  | [], _, acc => acc.reverse
  | op :: ops, l, acc => let r := step g k op l; run g k ops r.2 (r.1 :: acc)

/-! ### ToString: `fmt.Sprintf("%v", this.table)` -/

def joinSp : List Bytes → Bytes
  | [] => []
  | [x] => x
  | x :: rest => x ++ [32] ++ joinSp rest

/-- IntList / LongList: every table slot in decimal, unused capacity (zeros) included -/
def toStringInts (l : TL Int) : Bytes := [91] ++ joinSp (l.table.toList.map Cross.itoa) ++ [93]

/-- StringList: every table slot as it is, unused capacity (empty strings) included -/
def toStringStrs (l : TL Bytes) : Bytes := [91] ++ joinSp l.table.toList ++ [93]

end Lists.CrossNum
