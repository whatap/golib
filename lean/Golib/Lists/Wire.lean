/-
  Golib.Lists.Wire — wire form of the typed lists.

    Write:  out.WriteInt3(int32(size)); for i < size { out.WriteX(get(i)) }
    Read :  count := int(in.ReadInt3()); for i < count { add(in.ReadX()) }

  Element codec per list type (Golib.Prim.Codec = model of io.DataOutputX/DataInputX):
    IntList, LongList  WriteDecimal / ReadDecimal
    FloatList          WriteFloat   / ReadFloat     (IEEE-754 bit pattern, 4 bytes)
    DoubleList         WriteDouble  / ReadDouble    (bit pattern, 8 bytes)
    StringList         WriteText    / ReadText      (blob of the string's bytes)
-/
import Golib.Prim.Codec
import Golib.Lists.Typed

namespace Lists
open Prim

structure Codec (α : Type) where
  enc : α → Bytes
  dec : P α
  wf : α → Prop
  rt : ∀ x r, wf x → P.run dec (enc x ++ r) = some (x, r)

/-- int / int64 elements (Go `int` is 64 bits on the supported platforms) -/
def decimalCodec : Codec Int :=
  { enc := encDecimal, dec := decDecimal, wf := inRange 8, rt := run_decDecimal }

/-- float32 elements as bit patterns -/
def floatCodec : Codec Nat :=
  { enc := beN 4, dec := rdU 4, wf := fun b => b < 256 ^ 4, rt := fun x r h => run_rdU 4 x r h }

/-- float64 elements as bit patterns -/
def doubleCodec : Codec Nat :=
  { enc := beN 8, dec := rdU 8, wf := fun b => b < 256 ^ 8, rt := fun x r h => run_rdU 8 x r h }

/-- strings as byte lists -/
def textCodec : Codec Bytes :=
  { enc := encBlob, dec := decBlob, wf := fun bs => bs.length < 2147483648, rt := run_decBlob }

variable {α : Type}

/-- `Write` -/
def write (c : Codec α) (l : TL α) : Bytes :=
  encI 3 l.size ++ encMany c.enc (TL.toArray l)

/-- the `for` loop of `Read`: one element, one `add` -/
def readLoop (g : Growth) (c : Codec α) (z : α) : Nat → TL α → P (TL α)
  | 0, l => .pure l
  | n+1, l => P.bind c.dec (fun x =>
      match TL.add g z x l with
      | some l' => readLoop g c z n l'
      | none => .fail)

/-- `Read` into the receiver `l` (a negative count runs the loop zero times) -/
def read (g : Growth) (c : Codec α) (z : α) (l : TL α) : P (TL α) :=
  P.bind (rdI 3) (fun n => readLoop g c z n.toNat l)

theorem run_readLoop (g : Growth) (hg : g.OK) (c : Codec α) (z : α) (xs : List α) (l : TL α) (r : Bytes)
    (hi : TL.Inv l) (hw : ∀ x ∈ xs, c.wf x) (hb : l.size + xs.length ≤ TL.BOUND) :
    ∃ l', P.run (readLoop g c z xs.length l) (encMany c.enc xs ++ r) = some (l', r) ∧
      TL.abs l' = TL.abs l ++ xs ∧ TL.Inv l' := by
  induction xs generalizing l with
  | nil => exact ⟨l, by simp [readLoop, encMany], by simp, hi⟩
  | cons x xs ih =>
    simp only [List.length_cons] at hb
    obtain ⟨l1, h1, ha1, hi1⟩ := TL.add_spec g hg z x l hi (by omega)
    have hs1 : l1.size = l.size + 1 := by
      rw [← TL.abs_length hi1, ha1, List.length_append, TL.abs_length hi]; rfl
    obtain ⟨l2, h2, ha2, hi2⟩ := ih l1 hi1 (fun y hy => hw y (by simp [hy])) (by omega)
    refine ⟨l2, ?_, by rw [ha2, ha1]; simp, hi2⟩
    simp only [List.length_cons, readLoop, encMany, List.append_assoc]
    rw [P.run_bind_some _ _ _ _ _ (c.rt x _ (hw x (by simp)))]
    simp only [h1]
    exact h2

/-- round trip: reading what `Write` produced appends exactly the written sequence -/
theorem run_read_write (g : Growth) (hg : g.OK) (c : Codec α) (z : α) (l l0 : TL α) (r : Bytes)
    (hi : TL.Inv l) (hi0 : TL.Inv l0) (hsz : l.size < 8388608)
    (hw : ∀ x ∈ TL.abs l, c.wf x) (hb : l0.size + l.size ≤ TL.BOUND) :
    ∃ l', P.run (read g c z l0) (write c l ++ r) = some (l', r) ∧
      TL.abs l' = TL.abs l0 ++ TL.abs l ∧ TL.Inv l' := by
  have hlen : (TL.abs l).length = l.size := TL.abs_length hi
  obtain ⟨l', h, ha, hi'⟩ := run_readLoop g hg c z (TL.abs l) l0 r hi0 hw (by omega)
  refine ⟨l', ?_, ha, hi'⟩
  unfold read write
  rw [List.append_assoc, P.run_bind_some _ _ _ _ _ (run_rdI 3 (l.size : Int) _
      ((inRange_3 _).mpr (by omega)))]
  simp only [Int.toNat_natCast, TL.toArray_eq_abs]
  rw [← hlen]; exact h

end Lists
