/-
  Golib.Lists.LinkedText — the text views of the linked list:

    LinkedList.ToString()         x := first; for i < size { if i > 0 {","}; x.ToString(); x = x.next }
    LinkedListEntity.ToString()   "" for a nil Value, fmt.Sprint(Value) otherwise (decimal for the
                                  integers the histories hold)

  and the fact the history theorems need: the representation invariant holds after every history.
-/
import Golib.Lists.LinkedProof
import Golib.Lists.Cross

namespace Lists.Linked

def sprint : Option Int → Bytes
  | none => []
  | some v => Cross.itoa v

def joinComma : List Bytes → Bytes
  | [] => []
  | [x] => x
  | x :: rest => x ++ [44] ++ joinComma rest

/-- `ToString()`: walks `size` steps as `ToArray()` does (a nil `next` inside is a nil dereference) -/
def LL.toStringL (o : LL) : Option Bytes := o.toArray.map (fun xs => joinComma (xs.map sprint))

/-- `e := GetFirst(); k × { e = GetNext(e) }; e.ToString()` — `none`: nil dereference -/
def LL.entityToString (o : LL) (k : Nat) : Option Bytes :=
  match walk o.heap o.first k with
  | some (some x) => some (sprint (o.valueOf (some x)))
  | _ => none

theorem run_rep (ops : List Op) (o : LL) (ids : List Nat) (vals : List Int) (h : Rep o ids vals) :
    ∃ ids', Rep (LL.run ops o).2 ids' (Spec.run ops vals).2 :=
  (run_refines ops o ids vals h).2

theorem toStringL_spec {o : LL} {ids : List Nat} {vals : List Int} (h : Rep o ids vals) :
    o.toStringL = some (joinComma (vals.map Cross.itoa)) := by
  simp only [LL.toStringL, toArray_spec h, Option.map_some, List.map_map]
  rfl

theorem entityToString_spec {o : LL} {ids : List Nat} {vals : List Int} (h : Rep o ids vals) (k : Nat) :
    o.entityToString k = vals[k]?.map Cross.itoa := by
  unfold LL.entityToString
  split
  · rename_i x hw
    have hx := (walk_first h k x).mp hw
    have hkv : k < vals.length := h.len ▸ (List.getElem?_eq_some_iff.mp hx).1
    rw [← hx, valueOf_spec h k, List.getElem?_eq_getElem hkv]
    rfl
  · rename_i hno
    rw [h.none_at (walk_first_none h hno)]
    rfl

end Lists.Linked
