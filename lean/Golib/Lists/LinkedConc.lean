/-
  Golib.Lists.LinkedConc — LinkedList under its mutex, for every schedule.

  C10's mutex-object machine (`Golib/Conc/Mutex.lean`): any number of threads, a schedule is an
  arbitrary list of `inv / acq / load / store / rel / ret` actions, the body of an operation runs
  between `acq` and `rel`.  Instantiated with the pointer-level model of
  LinkedList.go (`Conc.Inst.llStep`) and C13's refinement (`Conc.Inst.list_simulates`), C10's
  `mutex_refines` gives: the linearization points of every reachable state are a legal sequential
  history of the deque.  Composed with `Linked.run_conserves`:

    for EVERY schedule, the elements in the list together with the elements handed out by Remove*
    are the elements added — nothing is lost or duplicated, whatever the interleaving.

  That the code is an instance of this machine — every public mutator takes `o.lock` first thing
  and releases it by `defer`, or does nothing but delegate to one that does — is a fact about the
  source, regenerated on every run (`Golib/Gen/Locks.lean`, `C13Gen.linkedlist_*_locked`).
-/
import Golib.Conc.Instances
import Golib.Conc.Refine
import Golib.Lists.LinkedAtomic

namespace Lists.Linked
open Conc Conc.Inst

/-- the operations of a linearization, in order -/
def opsOf (l : List (Nat × Op × Out)) : List Op := l.map (fun x => x.2.1)
/-- the results recorded for them -/
def outsOf (l : List (Nat × Op × Out)) : List Out := l.map (fun x => x.2.2)

theorem runAbs_is_run (l : List (Nat × Op × Out)) (s : List Int) :
    runAbs llSpec l s = (Spec.run (opsOf l) s).2 := by
  induction l generalizing s with
  | nil => rfl
  | cons x xs ih =>
    obtain ⟨t, op, r⟩ := x
    simp only [runAbs, opsOf, List.map_cons, Spec.run, llSpec] at *
    exact ih _

theorem legalAbs_is_run (l : List (Nat × Op × Out)) (s : List Int)
    (h : legalAbs llSpec (fun r r' => r = r') l s) : outsOf l = (Spec.run (opsOf l) s).1 := by
  induction l generalizing s with
  | nil => rfl
  | cons x xs ih =>
    obtain ⟨t, op, r⟩ := x
    obtain ⟨h1, h2⟩ := h
    simp only [outsOf, opsOf, List.map_cons, Spec.run, llSpec] at *
    rw [h1]
    exact congrArg _ (ih _ h2)

/-- **LinkedList under its lock, every schedule.**  From the empty list, after any schedule of the
    mutex-object machine over the pointer model: the heap represents some list `vals`; `vals` is
    what the deque holds after the linearized operations, the recorded results are the deque's; and
    if the operations are mutators, `vals` together with the handed-out elements is a permutation
    of the added elements. -/
theorem locked_conservation (sched : List (Act Op)) (s : St LL Op Out)
    (hs : runActs llStep (initSt LL.empty) sched = some s) :
    ∃ vals, ListRel s.sh vals ∧
      vals = (Spec.run (opsOf (linOps s.log)) []).2 ∧
      outsOf (linOps s.log) = (Spec.run (opsOf (linOps s.log)) []).1 ∧
      ((∀ op ∈ opsOf (linOps s.log), op.mutator = true) →
        (vals ++ ((outsOf (linOps s.log)).map Out.handedOut).flatten).Perm
          (((opsOf (linOps s.log)).map Op.added).flatten)) := by
  obtain ⟨_, hlegal, hrel⟩ := mutex_refines llStep llSpec ListRel (fun r r' => r = r')
    list_simulates LL.empty [] list_init sched s hs
  refine ⟨_, hrel, runAbs_is_run _ _, legalAbs_is_run _ _ hlegal, ?_⟩
  intro hm
  rw [runAbs_is_run, legalAbs_is_run _ _ hlegal]
  simpa using run_conserves (opsOf (linOps s.log)) [] hm

/-- … and at no moment are two threads inside a mutator body -/
theorem locked_mutual_exclusion (sched : List (Act Op)) (s : St LL Op Out)
    (hs : runActs llStep (initSt LL.empty) sched = some s) (t u : Nat)
    (ht : inCS (s.ph t)) (hu : inCS (s.ph u)) : t = u :=
  mutual_exclusion llStep LL.empty sched s hs t u ht hu

end Lists.Linked
