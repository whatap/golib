/-
  Golib.Lists.RunLift — from one call to every history: a per-step refinement that needs room for
  one more element lifts to all op sequences that fit under the bound.
-/
import Golib.Lists.Cross
import Golib.Lists.CrossNum

namespace Lists.RunLift

def runG {Op Out σ : Type} (step : Op → σ → Out × σ) : List Op → σ → List Out × σ
  | [], s => ([], s)
  | op :: ops, s =>
    let r := step op s
    let rs := runG step ops r.2
    (r.1 :: rs.1, rs.2)

theorem lift {Op Out α : Type} (stepC : Op → TL α → Out × TL α) (stepA : Op → List α → Out × List α)
    (hstep : ∀ op l, TL.Inv l → (TL.abs l).length + 1 ≤ TL.BOUND →
      (stepC op l).1 = (stepA op (TL.abs l)).1 ∧ TL.abs (stepC op l).2 = (stepA op (TL.abs l)).2 ∧
      TL.Inv (stepC op l).2)
    (hlen : ∀ op a, (stepA op a).2.length ≤ a.length + 1)
    (ops : List Op) (l : TL α) (hi : TL.Inv l) (hb : (TL.abs l).length + ops.length ≤ TL.BOUND) :
    (runG stepC ops l).1 = (runG stepA ops (TL.abs l)).1 ∧
    TL.abs (runG stepC ops l).2 = (runG stepA ops (TL.abs l)).2 := by
  induction ops generalizing l with
  | nil => exact ⟨rfl, rfl⟩
  | cons op ops ih =>
    simp only [List.length_cons] at hb
    obtain ⟨h1, h2, h3⟩ := hstep op l hi (by omega)
    have := hlen op (TL.abs l)
    obtain ⟨h4, h5⟩ := ih _ h3 (by rw [h2]; omega)
    rw [h2] at h4 h5
    simp only [runG]
    exact ⟨by rw [h1, h4], h5⟩

open Cross in
theorem specI_len (op : IOp) (s : List Int) : (specI op s).2.length ≤ s.length + 1 := by
  cases op <;> simp only [specI] <;> (repeat' split) <;> simp

open Cross in
theorem specS_len (op : SOp) (s : List Bytes) : (specS op s).2.length ≤ s.length + 1 := by
  cases op <;> simp only [specS] <;> (repeat' split) <;> simp

open CrossNum in
theorem specN_len (k : Kind) (op : NOp) (s : List Num) : (spec k op s).2.length ≤ s.length + 1 := by
  cases op <;> simp only [spec] <;> (repeat' split) <;> simp

end Lists.RunLift
