/-
  Golib.Lists.TableWire — StatGeneralPack.writeTable / readTable:

    writeTable:  WriteShort(count); per entry  WriteText(key) ; WriteByte(list.GetType()) ; list.Write
    readTable :  cnt := int(ReadShort()); cnt × { key := ReadText(); a := create(ReadByte()); a.Read(in); data.Put(key, a) }

  (the pack's own header around these bytes — AbstractPack, Id, the 24-bit length — is C03's)
-/
import Golib.Lists.Table
import Golib.Lists.Wire
import Golib.Prim.Ops

namespace Lists.Table
open Prim

/-- the element codec of a list type, on tagged values -/
def encV (ty : Nat) : V → Bytes
  | .i x => if ty = 1 ∨ ty = 2 then encDecimal x else []
  | .b x => if ty = 3 then beN 4 x else if ty = 4 then beN 8 x else []
  | .s x => if ty = 1 ∨ ty = 2 ∨ ty = 3 ∨ ty = 4 then [] else encBlob x

def decV (ty : Nat) : P V :=
  if ty = 1 ∨ ty = 2 then P.map V.i decDecimal
  else if ty = 3 then P.map V.b (rdU 4)
  else if ty = 4 then P.map V.b (rdU 8)
  else P.map V.s decBlob

/-- a value a list of type `ty` can hold -/
def wfV (ty : Nat) : V → Prop
  | .i x => (ty = 1 ∨ ty = 2) ∧ inRange 8 x
  | .b x => (ty = 3 ∧ x < 256 ^ 4) ∨ (ty = 4 ∧ x < 256 ^ 8)
  | .s x => ¬ (ty = 1 ∨ ty = 2 ∨ ty = 3 ∨ ty = 4) ∧ x.length < 2147483648

theorem decV_encV (ty : Nat) (v : V) (r : Bytes) (h : wfV ty v) :
    P.run (decV ty) (encV ty v ++ r) = some (v, r) := by
  cases v with
  | i x =>
    obtain ⟨ht, hx⟩ := h
    simp only [decV, encV, ht, if_true]
    exact P.run_map_some V.i (run_decDecimal x r hx)
  | b x =>
    rcases h with ⟨ht, hx⟩ | ⟨ht, hx⟩
    · subst ht
      simp only [decV, encV, if_true, show ¬ ((3 : Nat) = 1 ∨ (3 : Nat) = 2) by omega, if_false]
      exact P.run_map_some V.b (run_rdU 4 x r hx)
    · subst ht
      simp only [decV, encV, if_true, show ¬ ((4 : Nat) = 1 ∨ (4 : Nat) = 2) by omega,
        show ¬ ((4 : Nat) = 3) by omega, if_false]
      exact P.run_map_some V.b (run_rdU 8 x r hx)
  | s x =>
    obtain ⟨ht, hx⟩ := h
    have h12 : ¬ (ty = 1 ∨ ty = 2) := fun e => ht (by omega)
    have h3 : ¬ ty = 3 := fun e => ht (by omega)
    have h4 : ¬ ty = 4 := fun e => ht (by omega)
    have he : encV ty (.s x) = encBlob x := by simp only [encV, ht, if_false]
    rw [he]
    simp only [decV, h12, h3, h4, if_false]
    exact P.run_map_some V.s (run_decBlob x r hx)

def codecV (ty : Nat) : Codec V :=
  { enc := encV ty, dec := decV ty, wf := wfV ty, rt := fun x r h => decV_encV ty x r h }

/-- one entry of `writeTable` -/
def writeEntry (e : Bytes × Col) : Bytes :=
  encBlob e.1 ++ [e.2.ty] ++ write (codecV e.2.ty) e.2.l

def writeEntries : T → Bytes
  | [] => []
  | e :: r => writeEntry e ++ writeEntries r

/-- `writeTable(data)` -/
def writeTable (t : T) : Bytes := encI 2 t.length ++ writeEntries t

/-- the loop of `readTable` -/
def readEntries (g : Growth) : Nat → T → P T
  | 0, t => .pure t
  | n + 1, t =>
    P.bind decBlob (fun k =>
    P.bind (rdU 1) (fun code =>
      let c := create code
      P.bind (read g (codecV c.ty) (zeroOfTy c.ty) c.l) (fun l' =>
        readEntries g n (put t k { ty := c.ty, l := l' }))))

/-- `readTable(bytes, data)` (a negative count runs the loop zero times) -/
def readTable (g : Growth) (t0 : T) : P T :=
  P.bind (rdI 2) (fun n => readEntries g n.toNat t0)

/-- what a table must satisfy to travel: type codes 1..5, well-formed lists below 2^23 elements
    holding values of their type, keys shorter than 2^31 bytes -/
def WFEntry (e : Bytes × Col) : Prop :=
  (1 ≤ e.2.ty ∧ e.2.ty ≤ 5) ∧ TL.Inv e.2.l ∧ e.2.l.size < 8388608 ∧
  (∀ x ∈ TL.abs e.2.l, wfV e.2.ty x) ∧ e.1.length < 2147483648

theorem put_fresh (t : T) (k : Bytes) (c : Col) (h : ∀ e ∈ t, (e.1 == k) = false) :
    put t k c = t ++ [(k, c)] := by
  fun_induction put t k c with
  | case1 => rfl
  | case2 k' c' r k c hk => exact absurd hk (by simpa using h (k', c') (by simp))
  | case3 k' c' r k c hk ih => rw [ih (fun e he => h e (by simp [he]))]; rfl

theorem create_of_code (ty : Nat) (h : 1 ≤ ty ∧ ty ≤ 5) : (create ty).ty = ty := by
  simp only [create]
  split
  · rfl
  · omega

/-- the columns put one after the other (what the loop of `readTable` does to the receiver) -/
def putAll (acc : T) (es : T) : T := es.foldl (fun t e => put t e.1 e.2) acc

theorem putAll_fresh (acc es : T)
    (hd : es.Pairwise (fun a b => (a.1 == b.1) = false))
    (hf : ∀ a ∈ acc, ∀ e ∈ es, (a.1 == e.1) = false) : putAll acc es = acc ++ es := by
  induction es generalizing acc with
  | nil => simp [putAll]
  | cons e rest ih =>
    rw [List.pairwise_cons] at hd
    have h1 : put acc e.1 e.2 = acc ++ [e] := put_fresh acc e.1 e.2 (fun a ha => hf a ha e (by simp))
    have : putAll acc (e :: rest) = putAll (acc ++ [e]) rest := by
      simp only [putAll, List.foldl_cons, h1]
    rw [this, ih (acc ++ [e]) hd.2 (by
      intro a ha x hx
      rcases List.mem_append.mp ha with ha | ha
      · exact hf a ha x (by simp [hx])
      · simp only [List.mem_singleton] at ha; subst ha; exact hd.1 x hx)]
    simp

/-- **readTable into ANY receiver, ANY keys**: the entries of a written table are decoded (lists
    equal, types through `create`) and PUT into the receiver one after the other — a key that is
    already there (in the receiver, or earlier in the same table) is replaced in place, new keys go
    last.  No distinctness hypothesis. -/
theorem run_readEntries_gen (g : Growth) (hg : g.OK) (es : T) (acc : T) (r : Bytes)
    (hw : ∀ e ∈ es, WFEntry e) :
    ∃ es', P.run (readEntries g es.length acc) (writeEntries es ++ r) = some (putAll acc es', r) ∧
      absT es' = absT es ∧ InvT es' := by
  induction es generalizing acc with
  | nil => exact ⟨[], by simp [readEntries, writeEntries, putAll], rfl, fun e he => by cases he⟩
  | cons e rest ih =>
    obtain ⟨k, c⟩ := e
    obtain ⟨hty, hinv, hsz, hvals, hkl⟩ := hw (k, c) (by simp)
    simp only at hty hinv hsz hvals hkl
    have hct : (create c.ty).ty = c.ty := create_of_code c.ty hty
    have hcl : (create c.ty).l = TL.mk' (zeroOfTy c.ty) 0 := by
      simp only [create]
      split
      · rfl
      · have : c.ty = 5 := by omega
        simp [this]
    obtain ⟨l', hread, habs, hinv'⟩ := run_read_write g hg (codecV c.ty) (zeroOfTy c.ty) c.l
      (TL.mk' (zeroOfTy c.ty) 0) (writeEntries rest ++ r) hinv (TL.inv_mk' _ _) hsz hvals
      (by simp [TL.mk', TL.BOUND]; omega)
    obtain ⟨es', hrest, habs', hinvs⟩ := ih (put acc k { ty := c.ty, l := l' })
      (fun e he => hw e (by simp [he]))
    refine ⟨(k, { ty := c.ty, l := l' }) :: es', ?_, ?_, ?_⟩
    · simp only [List.length_cons, readEntries, writeEntries, writeEntry, List.append_assoc]
      rw [P.run_bind_some _ _ _ _ _ (run_decBlob k _ hkl)]
      have hb : c.ty < 256 ^ 1 := by omega
      have hbyte : ([c.ty] : Bytes) = beN 1 c.ty := by
        simp [beN, Nat.mod_eq_of_lt (show c.ty < 256 by omega)]
      rw [List.singleton_append, ← List.singleton_append, hbyte,
        P.run_bind_some _ _ _ _ _ (run_rdU 1 c.ty _ hb)]
      simp only [hct, hcl]
      rw [P.run_bind_some _ _ _ _ _ hread]
      simpa [putAll] using hrest
    · simp only [absT, List.map_cons] at habs' ⊢
      rw [habs', habs]; simp
    · intro e he
      rcases List.mem_cons.mp he with e1 | e1
      · subst e1; exact hinv'
      · exact hinvs e e1

theorem run_readTable_gen (g : Growth) (hg : g.OK) (t acc : T) (r : Bytes)
    (hn : t.length ≤ 32767) (hw : ∀ e ∈ t, WFEntry e) :
    ∃ es', P.run (readTable g acc) (writeTable t ++ r) = some (putAll acc es', r) ∧
      absT es' = absT t ∧ InvT es' := by
  obtain ⟨es', h1, h2, h3⟩ := run_readEntries_gen g hg t acc r hw
  refine ⟨es', ?_, h2, h3⟩
  unfold readTable writeTable
  rw [List.append_assoc, P.run_bind_some _ _ _ _ _ (run_rdI 2 (t.length : Int) _
      ((inRange_2 _).mpr (by omega)))]
  simpa using h1

/-- with pairwise distinct keys, none of them in the receiver, putting the decoded columns one after
    the other appends them -/
theorem run_readTable_fresh (g : Growth) (hg : g.OK) (t acc : T) (r : Bytes)
    (hn : t.length ≤ 32767) (hw : ∀ e ∈ t, WFEntry e)
    (hd : t.Pairwise (fun a b => (a.1 == b.1) = false))
    (hf : ∀ a ∈ acc, ∀ e ∈ t, (a.1 == e.1) = false) :
    ∃ es', P.run (readTable g acc) (writeTable t ++ r) = some (acc ++ es', r) ∧
      absT es' = absT t ∧ InvT es' := by
  obtain ⟨es', h1, h2, h3⟩ := run_readTable_gen g hg t acc r hn hw
  -- the decoded columns carry the keys of `t`, so the hypotheses on keys pass to them
  have hk : es'.map (·.1) = t.map (·.1) := by
    simpa only [absT, List.map_map, Function.comp_def] using congrArg (List.map (·.1)) h2
  have hd' : es'.Pairwise (fun a b => (a.1 == b.1) = false) := by
    have := (List.pairwise_map (f := fun e : Bytes × Col => e.1)
      (R := fun a b => (a == b) = false)).mpr hd
    rw [← hk] at this
    exact List.pairwise_map.mp this
  have hf' : ∀ a ∈ acc, ∀ e ∈ es', (a.1 == e.1) = false := by
    intro a ha e he
    have : e.1 ∈ t.map (·.1) := hk ▸ List.mem_map_of_mem he
    obtain ⟨e0, he0, h0⟩ := List.mem_map.mp this
    rw [← h0]
    exact hf a ha e0 he0
  rw [putAll_fresh acc es' hd' hf'] at h1
  exact ⟨es', h1, h2, h3⟩

end Lists.Table
