/-
  Golib.Lists.Multi — histories over SEVERAL live objects: a pool of typed lists (slots 0,1,2,…)
  and a pool of Go slices handed in and out (`AddAllArray(arr)`, `arr = ToArray()`).

  In the model lists and slices are values: an operation on one object cannot reach another.
  That *is* the specification ("no aliasing"): `AddAll(other)` copies, `AddAllArray(arr)` copies,
  `ToArray()` and `Filtering` return fresh storage.  The frame theorems below state it; tie B checks
  it on the implementation by comparing ALL live objects with this model after every operation.
-/
import Golib.Lists.Run

namespace Lists.Multi
variable {α : Type}

inductive MOp (α : Type) where
  | newList (j : Nat) (cap : Option Nat)      -- slot j := new(XList) (none) / NewXList(cap)
  | add (j : Nat) (v : α)                      -- lists[j].AddX(v)
  | addAllArray (j k : Nat)                    -- lists[j].AddAllArray(arrs[k])
  | addAll (j k : Nat)                         -- lists[j].AddAll(lists[k])     (k = j: AddAll(this))
  | set (j : Nat) (i : Int) (v : α)            -- lists[j].SetX(i, v)
  | get (j : Nat) (i : Int)                    -- lists[j].GetX(i)
  | toArray (j k : Nat)                        -- arrs[k] = lists[j].ToArray()
  | arr (k : Nat) (xs : List α)                -- arrs[k] = []X{…}
  | arrSet (k : Nat) (i : Nat) (v : α)         -- arrs[k][i] = v   (the caller writes into its slice)
  | filtering (dst src : Nat) (idx : List Int) -- lists[dst] = lists[src].Filtering(idx)
  | sortScribble (j : Nat)                     -- p := lists[j].Sorting(..); overwrite p — no list may change

/-- the list slot an op may change (none: it changes no list) -/
def MOp.targetList : MOp α → Option Nat
  | .newList j _ => some j
  | .add j _ => some j
  | .addAllArray j _ => some j
  | .addAll j _ => some j
  | .set j _ _ => some j
  | .filtering dst _ _ => some dst
  | _ => none

/-- the slice slot an op may change -/
def MOp.targetArr : MOp α → Option Nat
  | .toArray _ k => some k
  | .arr k _ => some k
  | .arrSet k _ _ => some k
  | _ => none

def upd {β : Type} (f : Nat → β) (j : Nat) (x : β) : Nat → β := fun i => if i = j then x else f i

@[simp] theorem upd_same {β : Type} (f : Nat → β) (j : Nat) (x : β) : upd f j x j = x := by simp [upd]
theorem upd_other {β : Type} (f : Nat → β) (j i : Nat) (x : β) (h : i ≠ j) : upd f j x i = f i := by
  simp [upd, h]

structure MState (α : Type) where
  lists : Nat → TL α
  arrs : Nat → List α

def MState.init : MState α := { lists := fun _ => TL.zeroValue, arrs := fun _ => [] }

def setList (st : MState α) (j : Nat) : Option (TL α) → Out α × MState α
  | some l => (.unit, { st with lists := upd st.lists j l })
  | none => (.panic, st)

def step (g : Growth) (z : α) (op : MOp α) (st : MState α) : Out α × MState α :=
  match op with
  | .newList j none => (.unit, { st with lists := upd st.lists j TL.zeroValue })
  | .newList j (some cap) => (.unit, { st with lists := upd st.lists j (TL.mk' z cap) })
  | .add j v => setList st j (TL.add g z v (st.lists j))
  | .addAllArray j k => setList st j (TL.addAllArray g z (st.arrs k) (st.lists j))
  | .addAll j k =>
    if k = j then setList st j (TL.addAllSelf g z (st.lists j))
    else setList st j (TL.addAll g z (st.lists k) (st.lists j))
  | .set j i v => setList st j (TL.set (st.lists j) i v)
  | .get j i => match TL.get (st.lists j) i with
    | some v => (.val v, st)
    | none => (.panic, st)
  | .toArray j k => (.unit, { st with arrs := upd st.arrs k (TL.toArray (st.lists j)) })
  | .arr k xs => (.unit, { st with arrs := upd st.arrs k xs })
  | .arrSet k i v =>
    if i < (st.arrs k).length then (.unit, { st with arrs := upd st.arrs k ((st.arrs k).set i v) })
    else (.panic, st)
  | .filtering dst src idx => setList st dst (TL.filtering g z (st.lists src) idx)
  | .sortScribble _ => (.unit, st)

/-! ### no aliasing: an op changes at most its own target -/

theorem setList_frame (st : MState α) (j : Nat) (r : Option (TL α)) (i : Nat) (h : some j ≠ some i) :
    (setList st j r).2.lists i = st.lists i := by
  have : i ≠ j := fun e => h (congrArg some e.symm)
  cases r <;> simp [setList, upd_other, this]

theorem setList_arrs (st : MState α) (j : Nat) (r : Option (TL α)) :
    (setList st j r).2.arrs = st.arrs := by
  cases r <;> rfl

/-- an operation either writes its one list slot through `setList` (and then no slice), or leaves
    every list alone and writes at most its own slice slot -/
theorem step_shape (g : Growth) (z : α) (op : MOp α) (st : MState α) :
    (∃ j r, op.targetList = some j ∧ step g z op st = setList st j r) ∨
    ((step g z op st).2.lists = st.lists ∧
      ∀ k, op.targetArr ≠ some k → (step g z op st).2.arrs k = st.arrs k) := by
  have other : ∀ {k' k : Nat}, some k' ≠ some k → k ≠ k' := fun h e => h (congrArg some e.symm)
  cases op with
  | newList j c => cases c <;> exact .inl ⟨j, some _, rfl, rfl⟩
  | add j v | addAllArray j k | set j i v | filtering j s idx => exact .inl ⟨j, _, rfl, rfl⟩
  | addAll j k =>
    refine .inl ⟨j, if k = j then TL.addAllSelf g z (st.lists j)
      else TL.addAll g z (st.lists k) (st.lists j), rfl, ?_⟩
    simp only [step]; split <;> rfl
  | get j i => refine .inr ⟨?_, fun _ _ => ?_⟩ <;> simp only [step] <;> split <;> rfl
  | sortScribble j => exact .inr ⟨rfl, fun _ _ => rfl⟩
  | toArray j k' | arr k' xs => exact .inr ⟨rfl, fun k h => upd_other _ _ _ _ (other h)⟩
  | arrSet k' i v =>
    refine .inr ⟨?_, fun k h => ?_⟩ <;> simp only [step] <;> split
    · rfl
    · rfl
    · exact upd_other _ _ _ _ (other h)
    · rfl

/-! ### Spec: every object is a plain sequence of its own -/

structure SState (α : Type) where
  lists : Nat → List α
  arrs : Nat → List α

def SState.init : SState α := { lists := fun _ => [], arrs := fun _ => [] }

def sstep (op : MOp α) (s : SState α) : Out α × SState α :=
  match op with
  | .newList j _ => (.unit, { s with lists := upd s.lists j [] })
  | .add j v => (.unit, { s with lists := upd s.lists j (s.lists j ++ [v]) })
  | .addAllArray j k => (.unit, { s with lists := upd s.lists j (s.lists j ++ s.arrs k) })
  | .addAll j k => (.unit, { s with lists := upd s.lists j (s.lists j ++ s.lists k) })
  | .set j i v =>
    if 0 ≤ i ∧ i < (s.lists j).length then
      (.unit, { s with lists := upd s.lists j ((s.lists j).set i.toNat v) })
    else (.panic, s)
  | .get j i => match Spec.get (s.lists j) i with
    | some v => (.val v, s)
    | none => (.panic, s)
  | .toArray j k => (.unit, { s with arrs := upd s.arrs k (s.lists j) })
  | .arr k xs => (.unit, { s with arrs := upd s.arrs k xs })
  | .arrSet k i v =>
    if i < (s.arrs k).length then (.unit, { s with arrs := upd s.arrs k ((s.arrs k).set i v) })
    else (.panic, s)
  | .filtering dst src idx => match Spec.filtering (s.lists src) idx with
    | some vs => (.unit, { s with lists := upd s.lists dst vs })
    | none => (.panic, s)
  | .sortScribble _ => (.unit, s)

/-- the state relation: every list object is well formed and stands for its sequence; slices equal -/
structure Rel (st : MState α) (s : SState α) : Prop where
  inv : ∀ i, TL.Inv (st.lists i)
  abs : ∀ i, TL.abs (st.lists i) = s.lists i
  arrs : st.arrs = s.arrs

theorem Rel.init : Rel (MState.init : MState α) SState.init :=
  ⟨fun _ => TL.inv_zeroValue, fun _ => by simp [MState.init, SState.init], rfl⟩

/-- sizes stay below the bound under which `ensure` cannot panic -/
def Small (op : MOp α) (s : SState α) : Prop :=
  (∀ i, ((sstep op s).2.lists i).length ≤ TL.BOUND) ∧
  (match op with | .filtering _ _ idx => idx.length ≤ TL.BOUND | _ => True)

theorem rel_setList {st : MState α} {s : SState α} (h : Rel st s) (j : Nat) (l : TL α) (xs : List α)
    (hi : TL.Inv l) (ha : TL.abs l = xs) :
    Rel { st with lists := upd st.lists j l } { s with lists := upd s.lists j xs } := by
  refine ⟨fun i => ?_, fun i => ?_, h.arrs⟩
  · by_cases e : i = j
    · subst e; simpa using hi
    · simpa [upd_other, e] using h.inv i
  · by_cases e : i = j
    · subst e; simpa using ha
    · simpa [upd_other, e] using h.abs i

theorem Rel.size {st : MState α} {s : SState α} (h : Rel st s) (i : Nat) :
    (s.lists i).length = (st.lists i).size := by
  rw [← h.abs i, TL.abs_length (h.inv i)]

/-- a list operation that succeeds on its target, leaving the sequence `xs` there, answers `unit`
    and keeps the relation -/
theorem setList_refines {st : MState α} {s : SState α} (h : Rel st s) (j : Nat) {r : Option (TL α)}
    {xs : List α} (hr : ∃ l', r = some l' ∧ TL.abs l' = xs ∧ TL.Inv l') :
    (setList st j r).1 = .unit ∧ Rel (setList st j r).2 { s with lists := upd s.lists j xs } := by
  obtain ⟨l', rfl, ha, hi⟩ := hr
  exact ⟨rfl, rel_setList h j l' xs hi ha⟩

/-- **multi-object refinement, one step**: same answer, and afterwards every object again stands
    for its own sequence -/
theorem step_refines (g : Growth) (hg : g.OK) (z : α) (op : MOp α) (st : MState α) (s : SState α)
    (h : Rel st s) (hs : Small op s) :
    (step g z op st).1 = (sstep op s).1 ∧ Rel (step g z op st).2 (sstep op s).2 := by
  obtain ⟨hb, hop⟩ := hs
  cases op with
  | newList j c =>
    cases c with
    | none => exact ⟨rfl, rel_setList h j _ _ TL.inv_zeroValue (by simp)⟩
    | some cap => exact ⟨rfl, rel_setList h j _ _ (TL.inv_mk' z cap) (by simp)⟩
  | add j v =>
    have hbj := hb j
    simp only [sstep, upd_same, List.length_append, List.length_singleton, h.size] at hbj
    have := TL.add_spec g hg z v (st.lists j) (h.inv j) hbj
    rw [h.abs j] at this
    exact setList_refines h j this
  | addAllArray j k =>
    have hbj := hb j
    simp only [sstep, upd_same, List.length_append, h.size, ← h.arrs] at hbj
    obtain ⟨l', h1, h2, h3⟩ := TL.addAllArray_spec g hg z (st.arrs k) (st.lists j) (h.inv j) hbj
    exact setList_refines h j ⟨l', h1, by rw [h2, h.abs j, h.arrs], h3⟩
  | addAll j k =>
    have hbj := hb j
    simp only [sstep, upd_same, List.length_append, h.size] at hbj
    simp only [step]
    split
    · rename_i e; subst e
      have := TL.addAllSelf_spec g hg z (st.lists k) (h.inv k) hbj
      rw [h.abs k] at this
      exact setList_refines h k this
    · have := TL.addAll_spec g hg z (st.lists k) (st.lists j) (h.inv j) (h.inv k) hbj
      rw [h.abs j, h.abs k] at this
      exact setList_refines h j this
  | set j i v =>
    have hsp := TL.set_spec (st.lists j) i v (h.inv j)
    rw [h.abs j] at hsp
    simp only [step, sstep]
    split
    · rename_i hr; exact setList_refines h j (hsp.1 hr)
    · rename_i hr; rw [hsp.2 hr]; exact ⟨rfl, h⟩
  | get j i =>
    simp only [step, sstep, get_eq_spec (h.inv j), h.abs j]
    split <;> exact ⟨rfl, h⟩
  | toArray j k =>
    refine ⟨rfl, ⟨h.inv, h.abs, ?_⟩⟩
    simp only [step, sstep, TL.toArray_eq_abs, h.abs j, h.arrs]
  | arr k xs =>
    refine ⟨rfl, ⟨h.inv, h.abs, ?_⟩⟩
    simp only [step, sstep, h.arrs]
  | arrSet k i v =>
    simp only [step, sstep, h.arrs]
    split
    · exact ⟨rfl, ⟨h.inv, h.abs, rfl⟩⟩
    · exact ⟨rfl, h⟩
  | filtering dst src idx =>
    have hf := filtering_spec g hg z (st.lists src) (h.inv src) idx hop
    rw [h.abs src] at hf
    simp only [step, sstep]
    cases hsf : Spec.filtering (s.lists src) idx with
    | none => rw [hsf] at hf; rw [hf]; exact ⟨rfl, h⟩
    | some vs => rw [hsf] at hf; exact setList_refines h dst hf
  | sortScribble j => exact ⟨rfl, h⟩

def run (g : Growth) (z : α) : List (MOp α) → MState α → List (Out α) × MState α
  | [], st => ([], st)
  | op :: ops, st =>
    let r := step g z op st
    let rs := run g z ops r.2
    (r.1 :: rs.1, rs.2)

def srun : List (MOp α) → SState α → List (Out α) × SState α
  | [], s => ([], s)
  | op :: ops, s =>
    let r := sstep op s
    let rs := srun ops r.2
    (r.1 :: rs.1, rs.2)

/-- every step of the history stays below the bound -/
def SmallRun : List (MOp α) → SState α → Prop
  | [], _ => True
  | op :: ops, s => Small op s ∧ SmallRun ops (sstep op s).2

/-- **multi-object refinement**: for every history over the pools, all answers are those of
    independent plain sequences, and at the end every list and every slice holds exactly its own
    sequence -/
theorem run_refines (g : Growth) (hg : g.OK) (z : α) (ops : List (MOp α)) (st : MState α) (s : SState α)
    (h : Rel st s) (hs : SmallRun ops s) :
    (run g z ops st).1 = (srun ops s).1 ∧ Rel (run g z ops st).2 (srun ops s).2 := by
  induction ops generalizing st s with
  | nil => exact ⟨rfl, h⟩
  | cons op ops ih =>
    obtain ⟨h1, h2⟩ := step_refines g hg z op st s h hs.1
    obtain ⟨h3, h4⟩ := ih _ _ h2 hs.2
    simp only [run, srun, h1, h3]
    exact ⟨trivial, h4⟩

end Lists.Multi
