/-
  Golib.Lists.PackTable — the lazy table of lang/pack/StatGeneralPack.go, as the code has it:
  three fields — `dataBytes` (the encoded table: what `Read` stored or what `Write` cached),
  `dataBytesSize`, `data` (the in-memory table) — and the methods that move between them.

    Read            dataBytes := the table bytes of the input; `data` is left as it is
    unpack          if len(dataBytes) > 0 { readTable(dataBytes, data); dataBytes = nil; size = 0 }
                    — the wire columns are PUT into the in-memory table: a key that is already there
                    is replaced in place by the wire column, new keys go last
    Get / GetDataTable   unpack first;   Put / Sort / SortAnyList   do NOT unpack
    Write           if data.Size() > 0 && len(dataBytes) == 0 { dataBytes = writeTable(data) }   (a cache)
                    then emits dataBytesSize and dataBytes
    IsEmpty         dataBytesSize == 0 && data.IsEmpty()

  (C04's `Golib/FailClosed/Lazy.lean` models the failing side of the same `unpack` — damaged bytes
  are kept so that every later access fails too; here only decodable tables occur and the
  interest is in histories mixing wire state and in-memory edits.)
-/
import Golib.Lists.TableWire

namespace Lists.PackTable
open Table

structure St where
  raw : Bytes          -- dataBytes
  rawSize : Nat        -- dataBytesSize
  table : T            -- data

def empty : St := { raw := [], rawSize := 0, table := [] }

/-- `unpack`; `none` = readTable panicked (bytes kept, as in FailClosed.Lazy) -/
def unpack (g : Growth) (s : St) : Option St :=
  if s.raw.isEmpty then some s
  else match P.run (readTable g s.table) s.raw with
    | some (t, _) => some { raw := [], rawSize := 0, table := t }
    | none => none

def read (s : St) (tableBytes : Bytes) : St :=
  { s with raw := tableBytes, rawSize := tableBytes.length }

def put (s : St) (k : Bytes) (c : Col) : St := { s with table := Table.put s.table k c }

/-- `Write`: the state afterwards (cache filled) and the table bytes emitted with their length field -/
def write (s : St) : St × (Nat × Bytes) :=
  let s' : St :=
    if !s.table.isEmpty && s.raw.isEmpty then
      { s with raw := writeTable s.table, rawSize := (writeTable s.table).length }
    else s
  (s', (s'.rawSize, s'.raw))

def isEmpty (s : St) : Bool := s.rawSize == 0 && s.table.isEmpty

/-- `Get(key)`: unpack, then the column (absent key: the nil interface conversion panics) -/
def get (g : Growth) (s : St) (k : Bytes) : Option (St × Col) :=
  match unpack g s with
  | none => none
  | some s' => (Table.get s'.table k).map (fun c => (s', c))

/-- `Get(key)` followed by a mutation of the list it returned (the pack holds the same object) -/
def getEdit (g : Growth) (s : St) (k : Bytes) (f : Col → Option Col) : Option St :=
  match get g s k with
  | none => none
  | some (s', c) => match f c with
    | none => none
    | some c' => some { s' with table := Table.put s'.table k c' }

def sort (srt : Sort.SortFn) (g : Growth) (s : St) (k : Bytes) (asc : Bool) : Option St :=
  (sortTable srt g s.table k asc).map (fun t => { s with table := t })

def sortAny (srt : Sort.SortFn) (g : Growth) (s : St) (k : Bytes) (asc : Bool) (k2 : Bytes) (asc2 : Bool) :
    Option St :=
  (sortAnyTable srt g s.table k asc k2 asc2).map (fun t => { s with table := t })

/-- `Iterate(h)`: unpack; nothing for an empty table; otherwise `h(keys, lists, i)` for every `i`
    below the size of the FIRST column.  The answer: the keys handed over and the number of calls. -/
def iterate (g : Growth) (s : St) : Option (St × Option (List Bytes × Nat)) :=
  match unpack g s with
  | none => none
  | some s' => match s'.table with
    | [] => some (s', none)
    | e :: _ => some (s', some (s'.table.map (fun x => x.1), e.2.l.size))

/-- what `ToString()` shows of the lazy state: `data.Size()`, `dataBytesSize`, `len(dataBytes)` -/
def sizes (s : St) : Nat × Nat × Nat := (s.table.length, s.rawSize, s.raw.length)

/-- Write with an empty cache encodes the CURRENT in-memory table -/
theorem write_current (s : St) (h1 : s.raw = []) (h2 : s.table ≠ []) :
    (write s).2 = ((writeTable s.table).length, writeTable s.table) := by
  cases ht : s.table with
  | nil => exact absurd ht h2
  | cons e r => simp [write, h1, ht]

/-- Write with a filled cache re-emits the cache, whatever was Put or edited in memory since:
    only an `unpack` (Get / GetDataTable / Iterate) empties the cache -/
theorem write_cached (s : St) (h : s.raw ≠ []) : (write s).2 = (s.rawSize, s.raw) ∧ (write s).1 = s := by
  cases hr : s.raw with
  | nil => exact absurd hr h
  | cons b r => simp [write, hr]

/-- after an unpack the cache is empty, so the next Write encodes the current table -/
theorem unpack_clears_cache (g : Growth) (s s' : St) (h : unpack g s = some s') : s'.raw = [] := by
  unfold unpack at h
  split at h
  · rename_i he
    cases h
    cases hr : s.raw with
    | nil => rfl
    | cons _ _ => rw [hr] at he; simp at he
  · split at h
    · cases h; rfl
    · cases h

theorem put_keeps_wire (s : St) (k : Bytes) (c : Col) : (put s k c).raw = s.raw ∧ (put s k c).rawSize = s.rawSize :=
  ⟨rfl, rfl⟩

/-- a written table starts with its two-byte count -/
theorem writeTable_nonempty (t : T) : (writeTable t).isEmpty = false := by
  unfold writeTable
  cases hq : Prim.encI 2 (t.length : Int) with
  | nil => have := Prim.encI_length 2 (t.length : Int); rw [hq] at this; simp at this
  | cons _ _ => rfl

theorem unpack_of_run (g : Growth) (s : St) (t : T) (r : Bytes) (h1 : s.raw.isEmpty = false)
    (h2 : P.run (readTable g s.table) s.raw = some (t, r)) :
    unpack g s = some { raw := [], rawSize := 0, table := t } := by
  unfold unpack
  rw [h1, h2]
  rfl

/-! ### the merge in general (keys may collide) -/

/-- `Put` on plain columns -/
def aput : AT → Bytes × Nat × List V → AT
  | [], e => [e]
  | (k, x) :: r, e => if k == e.1 then e :: r else (k, x) :: aput r e

theorem absT_put (t : T) (k : Bytes) (c : Col) :
    absT (Table.put t k c) = aput (absT t) (k, c.ty, TL.abs c.l) := by
  fun_induction Table.put t k c with
  | case1 => rfl
  | case2 k' c' r k c hk => cases beq_iff_eq.mp hk; simp [absT, aput]
  | case3 k' c' r k c hk ih => simp only [absT, List.map_cons, aput, hk] at ih ⊢; exact congrArg _ ih

theorem absT_putAll (acc es : T) :
    absT (putAll acc es) = (absT es).foldl aput (absT acc) := by
  induction es generalizing acc with
  | nil => rfl
  | cons e rest ih =>
    simp only [putAll, List.foldl_cons, absT, List.map_cons] at ih ⊢
    rw [ih (Table.put acc e.1 e.2)]
    congr 1
    exact absT_put acc e.1 e.2

end Lists.PackTable
