/-
  Golib.Lists.Table — CodeModel of how lang/pack/StatGeneralPack.go uses the typed lists:
  a table = insertion-ordered map  key ↦ AnyList  (hmap.StringKeyLinkedMap, modelled as an
  association list: `Put` replaces in place or appends, as PUT_LAST does; C09 owns the map itself),

    create(t)                      the list type for a wire type code (default arm: StringList)
    Put / Get
    Sort(data, key, asc)           ord := data[key].Sorting(asc);  every column ↦ Filtering(ord)
    SortAnyList(data, k, asc, k2, asc2)   ord := data[k].SortingAnyList(asc, data[k2], asc2); same

  Columns of different element types live in one table, so elements are the tagged values `V`
  and a column carries its type code (ANYLIST_INT … ANYLIST_STRING = 1 … 5).
-/
import Golib.Basic
import Golib.Lists.Run
import Golib.Lists.Sort

namespace Lists

/-- one element of any of the five list types -/
inductive V where
  | i (v : Int)          -- IntList, LongList
  | b (bits : Nat)       -- FloatList, DoubleList: IEEE-754 bit pattern
  | s (bs : Bytes)       -- StringList
  deriving Inhabited, DecidableEq, Repr

namespace Table
open Lists.Sort

def V.rank : V → Nat
  | .i _ => 0
  | .b _ => 1
  | .s _ => 2

/-- the element order of a list type on tagged values: integers exactly, floats by IEEE order
    (`w` = 31 for float32, 63 for float64), strings bytewise; values of different kinds (never in
    one column) are ordered by kind so that the order is total on all of `V` -/
def vLe (w : Nat) : V → V → Bool
  | .i x, .i y => intLe x y
  | .b x, .b y => floatLe w x y
  | .s x, .s y => lexLe x y
  | a, b => decide (V.rank a ≤ V.rank b)

/-- same kind: the order of that kind; different kinds: decided by the kind alone -/
theorem vLe_tp (w : Nat) : TotalPreorder (vLe w) := by
  constructor
  · intro a b
    cases a <;> cases b
    case i.i => exact intLe_tp.total _ _
    case b.b => exact (floatLe_tp w).total _ _
    case s.s => exact lexLe_tp.total _ _
    all_goals simp [vLe, V.rank]
  · intro a b c
    cases a <;> cases b <;> cases c
    case i.i.i => exact intLe_tp.trans _ _ _
    case b.b.b => exact (floatLe_tp w).trans _ _ _
    case s.s.s => exact lexLe_tp.trans _ _ _
    all_goals simp [vLe, V.rank]

/-- a column: type code and list object -/
structure Col where
  ty : Nat
  l : TL V

def zeroOfTy (ty : Nat) : V :=
  if ty = 1 ∨ ty = 2 then .i 0 else if ty = 3 ∨ ty = 4 then .b 0 else .s []

def widthOfTy (ty : Nat) : Nat := if ty = 3 then 31 else 63

/-- `StatGeneralPack.create(t)` -/
def create (code : Nat) : Col :=
  let ty := if code = 1 ∨ code = 2 ∨ code = 3 ∨ code = 4 then code else 5
  { ty := ty, l := TL.mk' (zeroOfTy ty) 0 }

abbrev T := List (Bytes × Col)

/-- `data.Get(key)` (nil when absent) -/
def get : T → Bytes → Option Col
  | [], _ => none
  | (k, c) :: r, key => if k == key then some c else get r key

/-- `data.Put(key, list)`: an existing key keeps its place, a new one goes last -/
def put : T → Bytes → Col → T
  | [], key, c => [(key, c)]
  | (k, c') :: r, key, c => if k == key then (k, c) :: r else (k, c') :: put r key c

/-- the loop `for each key { data2.Put(key, data.Get(key).Filtering(ord)) }`
    (a failing Filtering panics out of the whole call) -/
def filterCols (g : Growth) : T → List Int → Option T
  | [], _ => some []
  | (k, c) :: r, idx =>
    match TL.filtering g (zeroOfTy c.ty) c.l idx with
    | none => none
    | some l' => (filterCols g r idx).map (fun r' => (k, { ty := c.ty, l := l' }) :: r')

/-- `this.get(i)` as the sort closures read it -/
def cell (c : Col) (i : Nat) : V := c.l.table.getD i (zeroOfTy c.ty)

/-- `Sort(data, sortKey, asc)`; `none` = panic (absent key: the nil interface conversion; a column
    shorter than the sort column: Filtering's index panic) -/
def sortTable (sort : SortFn) (g : Growth) (t : T) (key : Bytes) (asc : Bool) : Option T :=
  match get t key with
  | none => none
  | some c =>
    let ord := sorting sort (vLe (widthOfTy c.ty)) asc (cell c) c.l.size
    filterCols g t (ord.map Int.ofNat)

/-- `SortAnyList(data, sortKey, asc, sortKey2, asc2)` -/
def sortAnyTable (sort : SortFn) (g : Growth) (t : T) (key : Bytes) (asc : Bool)
    (key2 : Bytes) (asc2 : Bool) : Option T :=
  match get t key, get t key2 with
  | some c, some c2 =>
    let ord := sortingAnyList sort (vLe (widthOfTy c.ty)) asc (cell c)
      (vLe (widthOfTy c2.ty)) (cell c2) asc2 c.l.size
    filterCols g t (ord.map Int.ofNat)
  | _, _ => none

/-! ### Spec: a table of plain columns -/

abbrev AT := List (Bytes × Nat × List V)

def absT (t : T) : AT := t.map (fun e => (e.1, e.2.ty, TL.abs e.2.l))

/-- every column selected by the same index list -/
def specFilter : AT → List Int → Option AT
  | [], _ => some []
  | (k, ty, xs) :: r, idx =>
    match Spec.filtering xs idx with
    | none => none
    | some ys => (specFilter r idx).map (fun r' => (k, ty, ys) :: r')

def InvT (t : T) : Prop := ∀ e ∈ t, TL.Inv e.2.l

theorem filterCols_spec (g : Growth) (hg : g.OK) (t : T) (hi : InvT t) (idx : List Int)
    (hb : idx.length ≤ TL.BOUND) :
    match specFilter (absT t) idx with
    | some a' => ∃ t', filterCols g t idx = some t' ∧ absT t' = a' ∧ InvT t'
    | none => filterCols g t idx = none := by
  induction t with
  | nil => exact ⟨[], rfl, rfl, fun e he => by cases he⟩
  | cons e r ih =>
    obtain ⟨k, c⟩ := e
    have hic : TL.Inv c.l := hi (k, c) (by simp)
    have hir : InvT r := fun e he => hi e (by simp [he])
    have hf := filtering_spec g hg (zeroOfTy c.ty) c.l hic idx hb
    simp only [absT, List.map_cons, specFilter, filterCols]
    cases hs : Spec.filtering (TL.abs c.l) idx with
    | none => rw [hs] at hf; simp [hf]
    | some ys =>
      rw [hs] at hf
      obtain ⟨out, h1, h2, h3⟩ := hf
      have ihr := ih hir
      simp only [h1]
      cases hr : specFilter (absT r) idx with
      | none =>
        rw [hr] at ihr
        have : specFilter (List.map (fun e => (e.1, e.2.ty, TL.abs e.2.l)) r) idx = none := hr
        simp [this, ihr]
      | some a' =>
        rw [hr] at ihr
        obtain ⟨t', h4, h5, h6⟩ := ihr
        have : specFilter (List.map (fun e => (e.1, e.2.ty, TL.abs e.2.l)) r) idx = some a' := hr
        simp only [this, Option.map_some, h4]
        refine ⟨_, rfl, ?_, ?_⟩
        · simp [absT, h2, ← h5]
        · intro e he
          rcases List.mem_cons.mp he with e1 | e1
          · subst e1; exact h3
          · exact h6 e e1

/-- selection of a column by indices that are all in range -/
def pick (xs : List V) (idx : List Int) : List V := idx.filterMap (fun i => xs[i.toNat]?)

theorem filtering_valid (xs : List V) (idx : List Int)
    (h : ∀ i ∈ idx, 0 ≤ i ∧ i < (xs.length : Int)) : Spec.filtering xs idx = some (pick xs idx) := by
  induction idx with
  | nil => rfl
  | cons i is ih =>
    have hi := h i (by simp)
    have hl : i.toNat < xs.length := by omega
    have hg : Spec.get xs i = some xs[i.toNat] := by simp [Spec.get, hi, hl]
    simp only [Spec.filtering, hg, ih (fun j hj => h j (by simp [hj])), Option.map_some, pick,
      List.filterMap_cons, List.getElem?_eq_getElem hl]

theorem pick_length (xs : List V) (idx : List Int)
    (h : ∀ i ∈ idx, 0 ≤ i ∧ i < (xs.length : Int)) : (pick xs idx).length = idx.length := by
  induction idx with
  | nil => rfl
  | cons i is ih =>
    have hi := h i (by simp)
    have hl : i.toNat < xs.length := by omega
    simp only [pick, List.filterMap_cons, List.getElem?_eq_getElem hl, List.length_cons]
    exact congrArg (· + 1) (ih (fun j hj => h j (by simp [hj])))

/-- row `r` of a selected column is row `idx[r]` of the source column -/
theorem pick_getElem (xs : List V) (idx : List Int)
    (h : ∀ i ∈ idx, 0 ≤ i ∧ i < (xs.length : Int)) (r : Nat) :
    (pick xs idx)[r]? = (idx[r]?).bind (fun i => xs[i.toNat]?) := by
  induction idx generalizing r with
  | nil => simp [pick]
  | cons i is ih =>
    have hi := h i (by simp)
    have hl : i.toNat < xs.length := by omega
    have ih' := ih (fun j hj => h j (by simp [hj]))
    simp only [pick, List.filterMap_cons, List.getElem?_eq_getElem hl]
    cases r with
    | zero => simp [List.getElem?_eq_getElem hl]
    | succ r => simpa [pick] using ih' r

/-- selecting all rows in their own order gives the column back -/
theorem pick_range (xs : List V) : pick xs ((List.range xs.length).map Int.ofNat) = xs := by
  apply List.ext_getElem?
  intro r
  have hv : ∀ i ∈ (List.range xs.length).map Int.ofNat, 0 ≤ i ∧ i < (xs.length : Int) := by
    intro i hi
    obtain ⟨j, hj, rfl⟩ := List.mem_map.mp hi
    exact ⟨Int.natCast_nonneg j, Int.ofNat_lt.mpr (List.mem_range.mp hj)⟩
  rw [pick_getElem xs _ hv r]
  by_cases h : r < xs.length
  · simp [h]
  · have : xs[r]? = none := List.getElem?_eq_none (by omega)
    simp [h]

/-- when every index is in range for every column, the whole table is selected row-wise:
    all columns by the same indices — **rows stay aligned** -/
theorem specFilter_valid (a : AT) (idx : List Int)
    (h : ∀ e ∈ a, ∀ i ∈ idx, 0 ≤ i ∧ i < (e.2.2.length : Int)) :
    specFilter a idx = some (a.map (fun e => (e.1, e.2.1, pick e.2.2 idx))) := by
  induction a with
  | nil => rfl
  | cons e r ih =>
    obtain ⟨k, ty, xs⟩ := e
    have h1 := filtering_valid xs idx (h (k, ty, xs) (by simp))
    have h2 := ih (fun e he => h e (by simp [he]))
    simp [specFilter, h1, h2]

/-- an out-of-range index for some column makes the whole operation panic -/
theorem specFilter_invalid (a : AT) (idx : List Int)
    (h : ∃ e ∈ a, ∃ i ∈ idx, ¬ (0 ≤ i ∧ i < (e.2.2.length : Int))) : specFilter a idx = none := by
  fun_induction specFilter a idx with
  | case1 => obtain ⟨e, he, _⟩ := h; cases he
  | case2 => rfl
  | case3 k ty xs r idx ys hy ih =>
    obtain ⟨e', he', i, hi, hbad⟩ := h
    rcases List.mem_cons.mp he' with rfl | e1
    · rw [(Spec.filtering_eq_none_iff xs idx).mpr ⟨i, hi, hbad⟩] at hy; cases hy
    · simp [ih ⟨e', e1, i, hi, hbad⟩]

theorem get_put_same (t : T) (k : Bytes) (c : Col) : get (put t k c) k = some c := by
  fun_induction put t k c with
  | case1 => simp [get]
  | case2 k' c' r k c hk => simp [get, hk]
  | case3 k' c' r k c hk ih => simp [get, hk, ih]

theorem get_put_other (t : T) (k k2 : Bytes) (c : Col) (h : (k == k2) = false) :
    get (put t k c) k2 = get t k2 := by
  fun_induction put t k c with
  | case1 => simp [get, h]
  | case2 k' c' r k c hk => cases beq_iff_eq.mp hk; simp [get, h]
  | case3 k' c' r k c hk ih => simp only [get, ih h]

/-- putting a new key appends; putting an existing key keeps the column order -/
theorem keys_put (t : T) (k : Bytes) (c : Col) :
    (put t k c).map (·.1) = if (t.map (·.1)).contains k then t.map (·.1) else t.map (·.1) ++ [k] := by
  fun_induction put t k c with
  | case1 => simp
  | case2 k' c' r k c hk => cases beq_iff_eq.mp hk; simp
  | case3 k' c' r k c hk ih =>
    have hk2 : (k == k') = false := beq_eq_false_iff_ne.mpr fun e => hk (beq_iff_eq.mpr e.symm)
    simp only [List.map_cons, ih, List.contains_cons, hk2, Bool.false_or]
    split <;> simp

/-- the cells the closures read are the column's elements -/
theorem cell_eq_abs (c : Col) (hi : TL.Inv c.l) (i : Nat) (h : i < c.l.size) :
    (TL.abs c.l)[i]? = some (cell c i) := by
  have ht : i < c.l.table.size := Nat.lt_of_lt_of_le h hi.1
  simp [TL.abs, cell, h, Array.getD, ht]

/-- selecting every column along one permutation of the row numbers of a table whose columns all
    have `n` rows: no index is out of range, so the loop succeeds and selects row-wise -/
theorem filterCols_perm (g : Growth) (hg : g.OK) (t : T) (hi : InvT t) (n : Nat)
    (hlen : ∀ e ∈ t, e.2.l.size = n) (hb : n ≤ TL.BOUND) (ord : List Nat)
    (hperm : ord.Perm (List.range n)) :
    ∃ t', filterCols g t (ord.map Int.ofNat) = some t' ∧
      absT t' = (absT t).map (fun e => (e.1, e.2.1, pick e.2.2 (ord.map Int.ofNat))) := by
  have hvalid : ∀ e ∈ absT t, ∀ i ∈ ord.map Int.ofNat, 0 ≤ i ∧ i < (e.2.2.length : Int) := by
    intro e he i hi'
    obtain ⟨e0, he0, rfl⟩ := List.mem_map.mp he
    obtain ⟨j, hj, rfl⟩ := List.mem_map.mp hi'
    have hj' : j < n := List.mem_range.mp (hperm.mem_iff.mp hj)
    have : (TL.abs e0.2.l).length = n := by rw [TL.abs_length (hi e0 he0), hlen e0 he0]
    simp only [this]
    exact ⟨Int.natCast_nonneg j, Int.ofNat_lt.mpr hj'⟩
  have hf := filterCols_spec g hg t hi (ord.map Int.ofNat)
    (by rw [List.length_map, hperm.length_eq, List.length_range]; exact hb)
  rw [specFilter_valid (absT t) _ hvalid] at hf
  obtain ⟨t', h1, h2, _⟩ := hf
  exact ⟨t', h1, h2⟩

/-- an absent sort key panics (Go: the nil interface conversion in `data.Get(key).(list.AnyList)`,
    before the `== nil` test the code intends) -/
theorem sortTable_absent (sort : SortFn) (g : Growth) (t : T) (key : Bytes) (asc : Bool)
    (h : get t key = none) : sortTable sort g t key asc = none := by
  simp [sortTable, h]

end Table
end Lists
