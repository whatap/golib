/-
  Golib.Lists.LinkedProof — the pointer structure of util/list/LinkedList.go (Golib.Lists.Linked)
  refines the deque on a plain list (Golib.Lists.LinkedSpec).

  Representation invariant `Rep o ids vals`: `ids` are the addresses of the nodes in list order
  (pairwise distinct), `vals` their values; `first`/`last` point at the ends, and the node at
  position k has prev = ids[k-1] (nil for k = 0), next = ids[k+1] (nil at the end), value vals[k].
  Underneath, `Seg heap p ids vals q` is a doubly linked run of nodes entered from `p` and left
  towards `q`: segments compose (`seg_append`), depend on the heap only at their own nodes
  (`seg_congr`) and can be re-targeted at either end (`seg_setPrev`, `seg_setNext`); `Rep` is a
  whole-list segment (`rep_iff`).  All pointer surgery is in `remove_split` (unlink the node between
  two segments) and `insert_split` (link a fresh node between two segments); `remove_spec` and
  `insert_spec` are their positional forms.  AddFirst / AddLast / PutBefore are instances of the
  latter, RemoveFirst / RemoveLast / Remove of the former.
-/
import Golib.Lists.Linked
namespace Lists.Linked
open LL

theorem getElem?_upd (h : Array Node) (id j : Nat) (f : Node → Node) :
    (upd h id f)[j]? = if j = id then h[j]?.map f else h[j]? := by
  fun_cases upd h id f with
  | case1 hlt =>
    rw [Array.getElem?_set]
    by_cases hj : id = j
    · subst hj; simp [*]
    · rw [if_neg hj, if_neg (fun e => hj e.symm)]
  | case2 hlt =>
    split
    · subst ‹j = id›; rw [Array.getElem?_eq_none (Nat.le_of_not_lt hlt)]; rfl
    · rfl

theorem getElem?_updOpt (h : Array Node) (p : Option Nat) (j : Nat) (f : Node → Node) :
    (updOpt h p f)[j]? = if p = some j then h[j]?.map f else h[j]? := by
  cases p with
  | none => rfl
  | some id =>
    simp only [updOpt, getElem?_upd, Option.some.injEq]
    by_cases e : j = id
    · rw [if_pos e, if_pos e.symm]
    · rw [if_neg e, if_neg (fun e' => e e'.symm)]

theorem getElem?_updOpt_ne {h : Array Node} {p : Option Nat} {j : Nat} (f : Node → Node)
    (hne : p ≠ some j) : (updOpt h p f)[j]? = h[j]? := by
  rw [getElem?_updOpt, if_neg hne]

structure Rep (o : LL) (ids : List Nat) (vals : List Int) : Prop where
  inj : ∀ (a b id : Nat), ids[a]? = some id → ids[b]? = some id → a = b
  len : ids.length = vals.length
  size : o.size = ids.length
  first : o.first = ids[0]?
  last : o.last = ids[ids.length - 1]?
  node : ∀ (k id : Nat), ids[k]? = some id → ∃ n, o.heap[id]? = some n ∧
      n.prev = (if k = 0 then none else ids[k-1]?) ∧ n.next = ids[k+1]? ∧ n.value = vals[k]?

theorem Rep.lt_size {o : LL} {ids : List Nat} {vals : List Int} (h : Rep o ids vals)
    {k y : Nat} (hy : ids[k]? = some y) : y < o.heap.size := by
  obtain ⟨n, hn, _⟩ := h.node k y hy
  exact (Array.getElem?_eq_some_iff.mp hn).1

/-- the nodes at `ids` are linked in this order and hold `vals`; `p` is what the first points back
    to, `q` what the last points on to.  The empty segment constrains neither `p` nor `q`: that is
    why `seg_append` passes `b.head?.or q` and `a.getLast?.or p` across the joint. -/
def Seg (h : Array Node) : Option Nat → List Nat → List Int → Option Nat → Prop
  | _, [], _, _ => True
  | p, x :: xs, vs, q => h[x]? = some ⟨p, xs.head?.or q, vs.head?⟩ ∧ Seg h (some x) xs vs.tail q

theorem seg_append {h : Array Node} {b : List Nat} {vb : List Int} {q : Option Nat} :
    ∀ {a : List Nat} {va : List Int} {p : Option Nat}, a.length = va.length →
      (Seg h p (a ++ b) (va ++ vb) q ↔
        Seg h p a va (b.head?.or q) ∧ Seg h (a.getLast?.or p) b vb q)
  | [], [], _, _ => by simp [Seg]
  | x :: xs, v :: vs, p, hl => by
    have ih := seg_append (h := h) (b := b) (vb := vb) (q := q) (a := xs) (va := vs) (p := some x)
      (Nat.succ.inj hl)
    simp only [List.cons_append, Seg, List.head?_cons, List.tail_cons, ih, List.head?_append,
      Option.or_assoc, List.getLast?_cons, and_assoc]
    cases xs.getLast? <;> simp

/-- a segment depends on the heap only at its own nodes -/
theorem seg_congr {h h' : Array Node} {q : Option Nat} :
    ∀ {a : List Nat} {va : List Int} {p : Option Nat}, (∀ x ∈ a, h'[x]? = h[x]?) →
      Seg h p a va q → Seg h' p a va q
  | [], _, _, _, _ => trivial
  | x :: _, _, _, hf, hs =>
    ⟨(hf x (List.mem_cons_self ..)).trans hs.1,
     seg_congr (fun y hy => hf y (List.mem_cons_of_mem _ hy)) hs.2⟩

/-- redirecting the `prev` of the first node re-enters the segment from `p'` -/
theorem seg_setPrev {h : Array Node} {q p p' : Option Nat} {a : List Nat} {va : List Int}
    (hn : a.Nodup) (hs : Seg h p a va q) :
    Seg (updOpt h a.head? (fun n => { n with prev := p' })) p' a va q := by
  cases a with
  | nil => trivial
  | cons x xs =>
    have hx : x ∉ xs := (List.nodup_cons.mp hn).1
    refine ⟨by simp [updOpt, getElem?_upd, hs.1], seg_congr (fun y hy => ?_) hs.2⟩
    simp only [List.head?_cons, updOpt, getElem?_upd]
    exact if_neg (fun (e : y = x) => hx (e ▸ hy))

/-- redirecting the `next` of the last node leaves the segment towards `q'` -/
theorem seg_setNext {h : Array Node} {q q' : Option Nat} :
    ∀ {a : List Nat} {va : List Int} {p : Option Nat}, a.Nodup → Seg h p a va q →
      Seg (updOpt h a.getLast? (fun n => { n with next := q' })) p a va q'
  | [], _, _, _, _ => trivial
  | [x], _, _, _, hs => ⟨by simp [updOpt, getElem?_upd, hs.1], trivial⟩
  | x :: y :: ys, _, _, hn, hs => by
    have hx : x ∉ y :: ys := (List.nodup_cons.mp hn).1
    have hl : (y :: ys).getLast? = some ((y :: ys).getLast (List.cons_ne_nil y ys)) :=
      List.getLast?_eq_some_getLast _
    have := seg_setNext (q' := q') (List.nodup_cons.mp hn).2 hs.2
    rw [List.getLast?_cons_cons]
    refine ⟨?_, this⟩
    rw [hl, updOpt, getElem?_upd, if_neg (fun (e : x = _) => hx (e ▸ List.getLast_mem _))]
    exact hs.1

theorem seg_iff_getElem {h : Array Node} {q : Option Nat} {ids : List Nat} {vals : List Int} {p : Option Nat} :
      Seg h p ids vals q ↔ ∀ k x, ids[k]? = some x → ∃ n, h[x]? = some n ∧
        n.prev = (if k = 0 then p else ids[k-1]?) ∧ n.next = ids[k+1]?.or q ∧ n.value = vals[k]? := by
  induction ids generalizing vals p with
  | nil => exact ⟨fun _ k x hk => (nomatch hk), fun _ => trivial⟩
  | cons y ys ih =>
    rw [Seg, ih]
    constructor
    · rintro ⟨h0, ht⟩ k x hk
      cases k with
      | zero =>
        cases Option.some.inj hk
        exact ⟨_, h0, rfl, by rw [List.head?_eq_getElem?]; rfl, List.head?_eq_getElem?⟩
      | succ k =>
        obtain ⟨n, h1, h2, h3, h4⟩ := ht k x hk
        refine ⟨n, h1, ?_, h3, h4.trans List.getElem?_tail⟩
        rw [h2]; cases k <;> rfl
    · intro hh
      refine ⟨?_, fun k x hk => ?_⟩
      · obtain ⟨⟨_, _, _⟩, h1, h2, h3, h4⟩ := hh 0 y rfl
        subst h2 h3 h4
        rw [h1, List.head?_eq_getElem?, List.head?_eq_getElem?]; rfl
      · obtain ⟨n, h1, h2, h3, h4⟩ := hh (k + 1) x hk
        refine ⟨n, h1, ?_, h3, h4.trans List.getElem?_tail.symm⟩
        rw [h2]; cases k <;> rfl

theorem rep_iff {o : LL} {ids : List Nat} {vals : List Int} :
    Rep o ids vals ↔ ids.Nodup ∧ ids.length = vals.length ∧ o.size = ids.length ∧
      o.first = ids.head? ∧ o.last = ids.getLast? ∧ Seg o.heap none ids vals none := by
  rw [seg_iff_getElem, List.head?_eq_getElem?, List.getLast?_eq_getElem?]
  constructor
  · intro h
    refine ⟨List.pairwise_iff_getElem.mpr fun i j hi hj hij e => Nat.ne_of_lt hij
      (h.inj i j ids[i] (List.getElem?_eq_getElem hi) (e ▸ List.getElem?_eq_getElem hj)),
      h.len, h.size, h.first, h.last, fun k x hk => ?_⟩
    simpa only [Option.or_none] using h.node k x hk
  · rintro ⟨hn, hl, hs, hf, hla, hnode⟩
    refine ⟨fun a b id ha hb => ?_, hl, hs, hf, hla, fun k x hk => ?_⟩
    · exact (List.getElem?_inj (List.getElem?_eq_some_iff.mp ha).1 hn).mp (ha.trans hb.symm)
    · simpa only [Option.or_none] using hnode k x hk

theorem insertIdx_eq_take_drop {α : Type} (a : α) :
    ∀ (l : List α) (k : Nat), k ≤ l.length → l.insertIdx k a = l.take k ++ a :: l.drop k
  | _, 0, _ => rfl
  | x :: l, k + 1, hk => by
    rw [List.insertIdx_succ_cons, insertIdx_eq_take_drop a l k (Nat.le_of_succ_le_succ hk)]; rfl

/-- unlinking the node `x` that stands between `pre` and `post` -/
theorem remove_split {o : LL} {pre post : List Nat} {vpre vpost : List Int} {x : Nat} {v : Int}
    (hl : pre.length = vpre.length) (h : Rep o (pre ++ x :: post) (vpre ++ v :: vpost)) :
    ∃ o', o.remove x = some (some v, o') ∧ Rep o' (pre ++ post) (vpre ++ vpost) := by
  obtain ⟨hn, hlen, hsz, hf, hla, hs⟩ := rep_iff.mp h
  obtain ⟨hpre, hx, hpost⟩ := (seg_append hl).mp hs
  obtain ⟨npre, nxp, hdis⟩ := List.nodup_append.mp hn
  obtain ⟨hxpost, npost⟩ := List.nodup_cons.mp nxp
  simp only [Option.or_none, List.head?_cons] at hpre hx
  refine ⟨_, by simp only [remove, hx]; rfl, ?_⟩
  refine rep_iff.mpr ⟨?_, ?_, ?_, ?_, ?_, (seg_append hl).mpr ⟨?_, ?_⟩⟩
  · exact List.nodup_append.mpr ⟨npre, npost, fun a ha b hb => hdis a ha b (List.mem_cons_of_mem _ hb)⟩
  · simp only [List.length_append, List.length_cons] at hlen ⊢; omega
  · simp only [hsz, List.length_append, List.length_cons]; omega
  · show (match pre.getLast? with | none => post.head? | some _ => o.first) = _
    rw [hf]; cases pre <;> simp [List.getLast?_cons]
  · show (match post.head? with | none => pre.getLast? | some _ => o.last) = _
    rw [hla]; cases post <;> simp
  · -- `pre` now leaves towards `post`; neither `x` nor the head of `post` is among its nodes
    rw [Option.or_none]
    refine seg_congr (fun y hy => ?_) (seg_setNext (q' := post.head?) npre hpre)
    rw [getElem?_upd, if_neg (fun e => hdis y hy x (List.mem_cons_self ..) e),
      getElem?_updOpt_ne]
    exact fun e => hdis y hy y (List.mem_cons_of_mem _ (List.mem_of_mem_head? e)) rfl
  · -- `post` is now entered from the end of `pre`, which is not among its nodes either
    rw [Option.or_none]
    refine seg_congr (fun y hy => ?_) (seg_setPrev (p' := pre.getLast?) npost
      (seg_congr (h' := updOpt o.heap pre.getLast? fun n => { n with next := post.head? })
        (fun y hy => ?_) hpost))
    · rw [getElem?_upd, if_neg (fun (e : y = x) => hxpost (e ▸ hy))]
    · exact getElem?_updOpt_ne _ fun e => hdis y (List.mem_of_mem_getLast? e) y (List.mem_cons_of_mem _ hy) rfl

/-- removing the entity at position `k` (shared by RemoveFirst / RemoveLast / Remove) -/
theorem removePos_refines {o : LL} {ids : List Nat} {vals : List Int} (h : Rep o ids vals)
    (k x : Nat) (hx : ids[k]? = some x) :
    ∃ v o', o.remove x = some (some v, o') ∧ vals[k]? = some v ∧
      Rep o' (ids.eraseIdx k) (vals.eraseIdx k) := by
  obtain ⟨hk, rfl⟩ := List.getElem?_eq_some_iff.mp hx
  have hkv : k < vals.length := h.len ▸ hk
  have hl : (ids.take k).length = (vals.take k).length := by
    rw [List.length_take, List.length_take, h.len]
  rw [List.eraseIdx_eq_take_drop_succ, List.eraseIdx_eq_take_drop_succ]
  rw [← List.take_append_drop k ids, ← List.take_append_drop k vals,
    List.drop_eq_getElem_cons hk, List.drop_eq_getElem_cons hkv] at h
  obtain ⟨o', h1, h2⟩ := remove_split hl h
  exact ⟨vals[k], o', h1, List.getElem?_eq_getElem hkv, h2⟩

theorem remove_spec (o : LL) (ids : List Nat) (vals : List Int) (h : Rep o ids vals)
    (k x : Nat) (hx : ids[k]? = some x) :
    ∃ o', o.remove x = some (vals[k]?, o') ∧ Rep o' (ids.eraseIdx k) (vals.eraseIdx k) := by
  obtain ⟨v, o', h1, h2, h3⟩ := removePos_refines h k x hx
  exact ⟨o', h2 ▸ h1, h3⟩

/-- one new node between `pred` and `succ` (either may be nil): what AddFirst, AddLast and
    PutBefore all do -/
def insertNode (o : LL) (v : Int) (pred succ : Option Nat) : LL :=
  { size := o.size + 1,
    first := if pred = none then some o.heap.size else o.first,
    last := if succ = none then some o.heap.size else o.last,
    heap := updOpt (updOpt (o.heap.push { prev := pred, value := some v, next := succ }) succ
      (fun n => { n with prev := some o.heap.size })) pred (fun n => { n with next := some o.heap.size }) }

/-- linking a fresh node between `pre` and `post` -/
theorem insert_split {o : LL} {pre post : List Nat} {vpre vpost : List Int} (v : Int)
    (hl : pre.length = vpre.length) (h : Rep o (pre ++ post) (vpre ++ vpost)) :
    Rep (insertNode o v pre.getLast? post.head?) (pre ++ o.heap.size :: post) (vpre ++ v :: vpost) := by
  obtain ⟨hn, hlen, hsz, hf, hla, hs⟩ := rep_iff.mp h
  obtain ⟨hpre, hpost⟩ := (seg_append hl).mp hs
  obtain ⟨npre, npost, hdis⟩ := List.nodup_append.mp hn
  rw [Option.or_none] at hpre hpost
  have old : ∀ y ∈ pre ++ post, y < o.heap.size := fun y hy => by
    obtain ⟨k, hk⟩ := List.getElem?_of_mem hy
    exact h.lt_size hk
  have oldP : ∀ y ∈ pre, y ≠ o.heap.size := fun y hy => Nat.ne_of_lt (old y (List.mem_append_left _ hy))
  have oldQ : ∀ y ∈ post, y ≠ o.heap.size := fun y hy => Nat.ne_of_lt (old y (List.mem_append_right _ hy))
  have push : ∀ y ∈ pre ++ post, (o.heap.push ⟨pre.getLast?, post.head?, some v⟩)[y]? = o.heap[y]? :=
    fun y hy => by rw [Array.getElem?_push, if_neg (Nat.ne_of_lt (old y hy))]
  refine rep_iff.mpr ⟨?_, ?_, ?_, ?_, ?_, (seg_append hl).mpr ⟨?_, ?_, ?_⟩⟩
  · refine List.nodup_append.mpr ⟨npre, List.nodup_cons.mpr ⟨fun hm => oldQ _ hm rfl, npost⟩,
      fun a ha b hb => ?_⟩
    rcases List.mem_cons.mp hb with rfl | hb
    · exact oldP a ha
    · exact hdis a ha b hb
  · simp only [List.length_append, List.length_cons] at hlen ⊢; omega
  · show o.size + 1 = _
    simp only [hsz, List.length_append, List.length_cons]; omega
  · show (if pre.getLast? = none then some o.heap.size else o.first) = _
    rw [hf]; cases pre <;> simp [List.getLast?_cons]
  · show (if post.head? = none then some o.heap.size else o.last) = _
    rw [hla]; cases post <;> simp
  · -- the new address is fresh: pushing the node leaves both segments as they were; then `pre` is
    -- left towards it and `post` entered from it
    refine seg_setNext (q' := some o.heap.size) npre (seg_congr (fun y hy => ?_) hpre)
    rw [getElem?_updOpt_ne _ fun e => hdis y hy y (List.mem_of_mem_head? e) rfl]
    exact push y (List.mem_append_left _ hy)
  · show (insertNode o v pre.getLast? post.head?).heap[o.heap.size]? = _
    rw [insertNode, getElem?_updOpt_ne _ fun e => oldP _ (List.mem_of_mem_getLast? e) rfl,
      getElem?_updOpt_ne _ fun e => oldQ _ (List.mem_of_mem_head? e) rfl, Array.getElem?_push, if_pos rfl,
      Option.or_none, Option.or_none]
    rfl
  · refine seg_congr (fun y hy => ?_) (seg_setPrev (p' := some o.heap.size) npost
      (seg_congr (fun y hy => push y (List.mem_append_right _ hy)) hpost))
    exact getElem?_updOpt_ne _ fun e => hdis y (List.mem_of_mem_getLast? e) y hy rfl

theorem insert_spec (o : LL) (ids : List Nat) (vals : List Int) (h : Rep o ids vals)
    (k : Nat) (v : Int) (hk : k ≤ ids.length) :
    Rep (insertNode o v (if k = 0 then none else ids[k-1]?) ids[k]?)
      (ids.insertIdx k o.heap.size) (vals.insertIdx k v) := by
  have hl : (ids.take k).length = (vals.take k).length := by
    rw [List.length_take, List.length_take, h.len]
  have hp : (if k = 0 then none else ids[k-1]?) = (ids.take k).getLast? := by
    rw [List.getLast?_take]; split
    · rfl
    · rw [List.getElem?_eq_getElem (by omega)]; rfl
  rw [insertIdx_eq_take_drop _ ids k hk, insertIdx_eq_take_drop _ vals k (h.len ▸ hk), hp,
    ← List.head?_drop]
  rw [← List.take_append_drop k ids, ← List.take_append_drop k vals] at h
  exact insert_split v hl h

theorem addFirst_eq (o : LL) (v : Int) : o.addFirst v = insertNode o v none o.first := by
  unfold addFirst insertNode
  cases o.first <;> simp [updOpt]

theorem addLast_eq (o : LL) (v : Int) : o.addLast v = insertNode o v o.last none := by
  unfold addLast insertNode
  cases o.last <;> simp [updOpt]

theorem putBefore_eq (o : LL) (v : Int) (succ : Nat) (ns : Node) (h : o.heap[succ]? = some ns) :
    o.putBefore v succ = some (insertNode o v ns.prev (some succ)) := by
  unfold putBefore insertNode
  simp only [h]
  cases ns.prev <;> simp [updOpt]

theorem Rep.empty : Rep LL.empty [] [] := by
  constructor <;> simp [LL.empty]

theorem Rep.clear (o : LL) : Rep o.clear [] [] := by
  constructor <;> simp [LL.clear]

theorem walk_spec {o : LL} {ids : List Nat} {vals : List Int} (h : Rep o ids vals) :
    ∀ (k i : Nat), i ≤ ids.length →
      walk o.heap ids[i]? k = if i + k ≤ ids.length then some ids[i+k]? else none := by
  intro k
  induction k with
  | zero => intro i hi; simp [walk, hi]
  | succ k ih =>
    intro i hi
    by_cases hlt : i < ids.length
    · have hy : ids[i]? = some ids[i] := List.getElem?_eq_getElem hlt
      obtain ⟨n, hn, _, hnx, _⟩ := h.node i _ hy
      rw [hy]
      simp only [walk, hn, hnx]
      rw [ih (i+1) (by omega)]
      have : i + 1 + k = i + (k + 1) := by omega
      rw [this]
    · have : ids[i]? = none := List.getElem?_eq_none (by omega)
      rw [this]
      have : ¬ (i + (k + 1) ≤ ids.length) := by omega
      simp [walk, this]

/-- the entity `k` steps after `GetFirst()` is the node at position `k`; from `size` on there is none
    (`nil` at `k = size`, a nil dereference beyond) -/
theorem walk_first {o : LL} {ids : List Nat} {vals : List Int} (h : Rep o ids vals) (k x : Nat) :
    walk o.heap o.first k = some (some x) ↔ ids[k]? = some x := by
  have hw := walk_spec h k 0 (Nat.zero_le _)
  rw [Nat.zero_add, ← h.first] at hw
  rw [hw]
  split
  · exact Option.some_inj
  · rename_i hk
    simp [List.getElem?_eq_none (Nat.le_of_lt (Nat.lt_of_not_le hk))]

/-- … so when the walk yields no entity, position `k` is outside the list -/
theorem walk_first_none {o : LL} {ids : List Nat} {vals : List Int} (h : Rep o ids vals) {k : Nat}
    (hno : ∀ x, walk o.heap o.first k = some (some x) → False) : ids[k]? = none :=
  Option.eq_none_iff_forall_ne_some.mpr (fun x hx => hno x ((walk_first h k x).mpr hx))

/-- walking a segment from its entry collects its values -/
theorem seg_toArrayLoop {h : Array Node} {q : Option Nat} :
    ∀ {a : List Nat} {va : List Int} {p : Option Nat} (acc : List (Option Int)),
      a.length = va.length → Seg h p a va q →
      toArrayLoop h a.length (a.head?.or q) acc = some (acc.reverse ++ va.map some)
  | [], [], _, acc, _, _ => by simp [toArrayLoop]
  | x :: xs, v :: vs, _, acc, hl, hs => by
    have ih := seg_toArrayLoop (some v :: acc) (Nat.succ.inj hl) hs.2
    show toArrayLoop h (xs.length + 1) (some x) acc = _
    simp only [toArrayLoop, hs.1, List.head?_cons] at ih ⊢
    simpa using ih

theorem toArray_spec {o : LL} {ids : List Nat} {vals : List Int} (h : Rep o ids vals) :
    o.toArray = some (vals.map some) := by
  obtain ⟨_, hl, hs, hf, _, hseg⟩ := rep_iff.mp h
  have := seg_toArrayLoop [] hl hseg
  rwa [Option.or_none, ← hf, ← hs] at this

theorem Rep.none_at {o : LL} {ids : List Nat} {vals : List Int} (h : Rep o ids vals) {k : Nat}
    (hk : ids[k]? = none) : vals[k]? = none :=
  List.getElem?_eq_none (h.len ▸ List.getElem?_eq_none_iff.mp hk)

theorem valueOf_spec {o : LL} {ids : List Nat} {vals : List Int} (h : Rep o ids vals) (k : Nat) :
    o.valueOf ids[k]? = vals[k]? := by
  by_cases hlt : k < ids.length
  · have hy : ids[k]? = some ids[k] := List.getElem?_eq_getElem hlt
    obtain ⟨n, hn, _, _, hnv⟩ := h.node k _ hy
    rw [hy]; simp [valueOf, hn, hnv]
  · have h1 : ids[k]? = none := List.getElem?_eq_none (by omega)
    rw [h1, h.none_at h1]; rfl

/-- AddLast (and Add, which calls it) links the new node behind the whole list -/
theorem addLast_rep {o : LL} {ids : List Nat} {vals : List Int} (h : Rep o ids vals) (v : Int) :
    Rep (o.addLast v) (ids ++ [o.heap.size]) (vals ++ [v]) := by
  rw [addLast_eq, h.last, ← List.getLast?_eq_getElem?]
  exact insert_split (post := []) (vpost := []) v h.len (by rwa [List.append_nil, List.append_nil])

/-- AddFirst links it in front -/
theorem addFirst_rep {o : LL} {ids : List Nat} {vals : List Int} (h : Rep o ids vals) (v : Int) :
    Rep (o.addFirst v) (o.heap.size :: ids) (v :: vals) := by
  rw [addFirst_eq, h.first, ← List.head?_eq_getElem?]
  exact insert_split (pre := []) (vpre := []) v rfl h

theorem step_refines (op : Op) (o : LL) (ids : List Nat) (vals : List Int) (h : Rep o ids vals) :
    (LL.step op o).1 = (Spec.step op vals).1 ∧
    ∃ ids', Rep (LL.step op o).2 ids' (Spec.step op vals).2 := by
  cases op with
  | addFirst v =>
    exact ⟨rfl, _, addFirst_rep h v⟩
  | addLast v =>
    exact ⟨rfl, _, addLast_rep h v⟩
  | add v =>
    exact ⟨rfl, _, addLast_rep h v⟩
  | removeFirst =>
    simp only [LL.step, Spec.step, removeFirst, h.first]
    cases hx : ids[0]? with
    | none =>
      simp only [h.none_at hx]
      exact ⟨rfl, ids, h⟩
    | some x =>
      obtain ⟨v, o', h1, h2, h3⟩ := removePos_refines h 0 x hx
      simp only [h1, h2]
      exact ⟨rfl, _, h3⟩
  | removeLast =>
    simp only [LL.step, Spec.step, removeLast, h.last]
    cases hx : ids[ids.length - 1]? with
    | none =>
      have := h.none_at hx
      rw [h.len] at this
      simp only [this]
      exact ⟨rfl, ids, h⟩
    | some x =>
      obtain ⟨v, o', h1, h2, h3⟩ := removePos_refines h _ x hx
      rw [h.len] at h2 h3
      simp only [h1, h2]
      exact ⟨rfl, _, h3⟩
  | removeAt k =>
    simp only [LL.step, Spec.step]
    split
    · rename_i x hw
      obtain ⟨v, o', h1, h2, h3⟩ := removePos_refines h k x ((walk_first h k x).mp hw)
      simp only [h1, h2]
      exact ⟨rfl, _, h3⟩
    · rename_i hno
      simp only [h.none_at (walk_first_none h hno)]
      exact ⟨trivial, ids, h⟩
  | putBefore k v =>
    simp only [LL.step, Spec.step]
    split
    · rename_i x hw
      have hx := (walk_first h k x).mp hw
      obtain ⟨ns, hns, hnp, _, _⟩ := h.node k x hx
      have hk : k < ids.length := (List.getElem?_eq_some_iff.mp hx).1
      simp only [putBefore_eq o v x ns hns, ← h.len, hk, if_true]
      refine ⟨trivial, ids.insertIdx k o.heap.size, ?_⟩
      have := insert_spec o ids vals h k v (Nat.le_of_lt hk)
      rwa [hx, ← hnp] at this
    · rename_i hno
      have hk : ¬ k < vals.length := h.len ▸ Nat.not_lt.mpr (List.getElem?_eq_none_iff.mp (walk_first_none h hno))
      simp only [hk, if_false]
      exact ⟨trivial, ids, h⟩
  | clear => exact ⟨rfl, [], by simpa [LL.step, Spec.step] using Rep.clear o⟩
  | toArray =>
    refine ⟨?_, ids, by simpa [LL.step, Spec.step, toArray_spec h] using h⟩
    simp [LL.step, Spec.step, toArray_spec h, Function.comp_def]
  | size => exact ⟨by simp [LL.step, Spec.step, h.size, h.len], ids, by simpa [LL.step, Spec.step] using h⟩
  | first =>
    refine ⟨?_, ids, by
      simp only [LL.step, Spec.step]; split <;> exact h⟩
    simp only [LL.step, Spec.step, h.first, valueOf_spec h 0]
    cases vals[0]? <;> rfl
  | last =>
    refine ⟨?_, ids, by
      simp only [LL.step, Spec.step]; split <;> exact h⟩
    simp only [LL.step, Spec.step, h.last, valueOf_spec h, h.len]
    cases vals[vals.length - 1]? <;> rfl

/-- every history from a represented list: the deque's answers, and a represented list again -/
theorem run_refines (ops : List Op) (o : LL) (ids : List Nat) (vals : List Int) (h : Rep o ids vals) :
    (LL.run ops o).1 = (Spec.run ops vals).1 ∧
    ∃ ids', Rep (LL.run ops o).2 ids' (Spec.run ops vals).2 := by
  induction ops generalizing o ids vals with
  | nil => exact ⟨rfl, ids, h⟩
  | cons op ops ih =>
    obtain ⟨h1, ids', h2⟩ := step_refines op o ids vals h
    obtain ⟨h3, h4⟩ := ih _ _ _ h2
    exact ⟨by simp only [LL.run, Spec.run, h1, h3], h4⟩

theorem run_refines_empty (ops : List Op) :
    (LL.run ops LL.empty).1 = (Spec.run ops []).1 := (run_refines ops _ _ _ Rep.empty).1

end Lists.Linked
