/-
  Golib.Lists.Typed — CodeModel of util/list/{Int,Long,Float,Double,String}List.go
  (the five files are the same program over different element types).

    type XList struct { size int; table []X }

  `TL α` keeps exactly these two fields (plus the fact "table == nil", which the
  code tests in `ensure`).  Every function below follows the Go function of the
  same name statement by statement; a Go panic is `none`.

  In two places /repo has been repaired (proposed/C13/fix-D44.diff, fix-D45.diff) and the model
  follows the repaired code; the statements from before the repairs are kept next to them as
  `ensureOrig` / `addAllSelfOrig` together with witness theorems
  (`Golib/Props/C13.lean: finding_D44, finding_D45`).

  Spec: a plain `List α`.
-/
namespace Lists

/-- `ANYLIST_DEFAULT_CAPACITY` -/
def DEFAULT_CAPACITY : Nat := 10
/-- `ANYLIST_MAX_SIZE = math.MaxInt32 - 8` -/
def MAX_SIZE : Nat := 2147483639
/-- the grow rule `oldSize + (oldSize >> 1)` -/
def growBy (old : Nat) : Nat := old + old / 2

/-- the capacity policy of `ensure`: the theorems hold for every policy that is `OK`; the one
    in /repo is `Growth.go`, and tie A re-derives it from the source on every run
    (Golib.Gen.C13, obligations in Golib/Props/C13Gen.lean) -/
structure Growth where
  /-- `newSize := oldSize + (oldSize >> 1); if newSize < minCapacity { newSize = minCapacity }` -/
  newSize : Nat → Nat → Nat
  /-- `ANYLIST_DEFAULT_CAPACITY` -/
  dcap : Nat
  /-- `ANYLIST_MAX_SIZE` -/
  maxSize : Nat

def Growth.go : Growth :=
  { newSize := fun oldSize minCapacity =>
      if growBy oldSize < minCapacity then minCapacity else growBy oldSize,
    dcap := DEFAULT_CAPACITY, maxSize := MAX_SIZE }

structure TL (α : Type) where
  size : Nat
  isNil : Bool
  table : Array α

namespace TL
variable {α : Type}

/-- `new(XList)` — the zero value: `table == nil` -/
def zeroValue : TL α := { size := 0, isNil := true, table := #[] }
/-- `NewXList(initialCapa)`: `make([]X, initialCapa)`;  `NewXListDefault()` is `mk 0` -/
def mk' (z : α) (cap : Nat) : TL α := { size := 0, isNil := false, table := Array.replicate cap z }

/-- `ensure(minCapacity)` (with fix-D44: `math.Max` on a nil table, where the code had `math.Min`) -/
def ensure (g : Growth) (z : α) (minCap : Nat) (l : TL α) : Option (TL α) :=
  if minCap > l.table.size then
    let minCap := if l.isNil then max g.dcap minCap else minCap
    let old := l.table.size
    let newSize := g.newSize old minCap
    if newSize > g.maxSize then none           -- panic("too big size")
    else some { size := l.size, isNil := false,
                table := l.table ++ Array.replicate (newSize - old) z }   -- make + copy
  else some l

/-- `ensure` before fix-D44: `minCapacity = min(DEFAULT_CAPACITY, minCapacity)` on a nil table -/
def ensureOrig (z : α) (minCap : Nat) (l : TL α) : Option (TL α) :=
  if minCap > l.table.size then
    let minCap := if l.isNil then min DEFAULT_CAPACITY minCap else minCap
    let old := l.table.size
    let new0 := growBy old
    let newSize := if new0 < minCap then minCap else new0
    if newSize > MAX_SIZE then none
    else some { size := l.size, isNil := false,
                table := l.table ++ Array.replicate (newSize - old) z }
  else some l

/-- `this.table[this.size] = e; this.size++` (index out of range → runtime panic) -/
def put (l : TL α) (e : α) : Option (TL α) :=
  match l with
  | ⟨size, nil, table⟩ =>
    if h : size < table.size then some ⟨size + 1, nil, table.set size e h⟩ else none

/-- the `for` loop of `AddAllArray` / `AddAll` over the elements taken from the other side -/
def putAll : List α → TL α → Option (TL α)
  | [], l => some l
  | x :: xs, l => (put l x).bind (putAll xs)

def add (g : Growth) (z : α) (e : α) (l : TL α) : Option (TL α) :=
  (ensure g z (l.size + 1) l).bind (fun l => put l e)

def addAllArray (g : Growth) (z : α) (xs : List α) (l : TL α) : Option (TL α) :=
  (ensure g z (l.size + xs.length) l).bind (putAll xs)

/-- the elements `other.table[0 .. other.size)` that `AddAll(other)` reads -/
def elems (l : TL α) : List α := (l.table.extract 0 l.size).toList

/-- `AddAll(other)` with `other` a different object -/
def addAll (g : Growth) (z : α) (other : TL α) (l : TL α) : Option (TL α) :=
  (ensure g z (l.size + other.size) l).bind (putAll other.elems)

/-- loop of `AddAll(this)` with the bound read once (`n := other.size`, fix-D45):
    `for i := 0; i < n; i++ { table[size] = table[i]; size++ }` — first argument: rounds left (n - i) -/
def selfLoop : Nat → Nat → TL α → Option (TL α)
  | 0, _, l => some l
  | r + 1, i, l =>
    match l.table[i]? with
    | none => none
    | some x => (put l x).bind (selfLoop r (i + 1))

def addAllSelf (g : Growth) (z : α) (l : TL α) : Option (TL α) :=
  (ensure g z (l.size + l.size) l).bind (fun l' => selfLoop l.size 0 l')

/-- loop of `AddAll(this)` before fix-D45: `i < other.size` is re-read every round and
    `other.size` *is* `this.size`, so the loop can only leave through the index panic -/
def selfLoopOrig (i : Nat) (l : TL α) : Option (TL α) :=
  if i < l.size then
    match l.table[i]? with
    | none => none
    | some x =>
      if h : l.size < l.table.size then
        selfLoopOrig (i + 1) ⟨l.size + 1, l.isNil, l.table.set l.size x h⟩
      else none
  else some l
termination_by l.table.size - l.size
decreasing_by simp [Array.size_set]; omega

def addAllSelfOrig (g : Growth) (z : α) (l : TL α) : Option (TL α) :=
  (ensure g z (l.size + l.size) l).bind (selfLoopOrig 0)

/-- `get(i)`: the explicit `i >= size` panic, then the slice access (negative index → runtime panic) -/
def get (l : TL α) (i : Int) : Option α :=
  if i ≥ (l.size : Int) then none
  else if i < 0 then none
  else l.table[i.toNat]?

/-- `set(i, v)` -/
def set (l : TL α) (i : Int) (v : α) : Option (TL α) :=
  if i ≥ (l.size : Int) then none
  else if i < 0 then none
  else if h : i.toNat < l.table.size then
    some { size := l.size, isNil := l.isNil, table := l.table.set i.toNat v h }
  else none

/-- `ToArray()`: `make([]X, size); copy(newArray, table)` -/
def toArray (l : TL α) : List α := l.table.toList.take l.size

/-- `Filtering(index)`: `out := NewXList(size); for … out.add(this.get(index[i]))` -/
def filteringLoop (g : Growth) (z : α) (l : TL α) : List Int → TL α → Option (TL α)
  | [], out => some out
  | i :: is, out =>
    match l.get i with
    | none => none
    | some v => (add g z v out).bind (filteringLoop g z l is)

def filtering (g : Growth) (z : α) (l : TL α) (idx : List Int) : Option (TL α) :=
  filteringLoop g z l idx (mk' z l.size)

/-- the sequence a list object stands for -/
def abs (l : TL α) : List α := l.table.toList.take l.size

/-- `size ≤ len(table)`, and a nil table is empty -/
def Inv (l : TL α) : Prop := l.size ≤ l.table.size ∧ (l.isNil = true → l.table.size = 0)

theorem inv_zeroValue : Inv (zeroValue : TL α) := by simp [Inv, zeroValue]
theorem inv_mk' (z : α) (cap : Nat) : Inv (mk' z cap) := by simp [Inv, mk']
@[simp] theorem abs_zeroValue : abs (zeroValue : TL α) = [] := by simp [abs, zeroValue]
@[simp] theorem abs_mk' (z : α) (cap : Nat) : abs (mk' z cap) = [] := by simp [abs, mk']

theorem abs_length {l : TL α} (h : Inv l) : (abs l).length = l.size := by
  simp [abs, List.length_take]; exact Nat.min_eq_left h.1

theorem toArray_eq_abs (l : TL α) : toArray l = abs l := rfl

theorem elems_eq_abs {l : TL α} (_h : Inv l) : elems l = abs l := by
  unfold elems abs
  simp [Array.toList_extract, List.extract_eq_take_drop]

/-- bound under which `ensure` cannot hit "too big size": the largest `B` with `B + B/2 ≤ MAX_SIZE` -/
def BOUND : Nat := 1431655759

/-- what the refinement needs of a capacity policy: below `BOUND` elements it never reaches the
    "too big size" panic -/
structure _root_.Lists.Growth.OK (g : Growth) : Prop where
  ge_min : ∀ old m, m ≤ g.newSize old m
  le_max : ∀ old m, old < m → m ≤ BOUND → g.newSize old m ≤ g.maxSize
  dcap_le : g.dcap ≤ BOUND

theorem _root_.Lists.Growth.go_ok : Growth.go.OK :=
  ⟨fun old m => by simp only [Growth.go]; split <;> omega,
   fun old m h1 h2 => by
     simp only [Growth.go, growBy, MAX_SIZE]; unfold BOUND at h2
     by_cases h : old + old / 2 < m <;> simp only [h, if_true, if_false] <;> omega,
   by simp [Growth.go, DEFAULT_CAPACITY, BOUND]⟩

theorem ensure_spec (g : Growth) (hg : g.OK) (z : α) (m : Nat) (l : TL α) (hi : Inv l) (hm : m ≤ BOUND) :
    ∃ l', ensure g z m l = some l' ∧ l'.size = l.size ∧ abs l' = abs l ∧ m ≤ l'.table.size ∧ Inv l' := by
  unfold ensure
  split
  · rename_i hgt
    -- `c`: the capacity asked of the policy; all that matters is `m ≤ c ≤ BOUND`
    generalize hc : (if l.isNil = true then max g.dcap m else m) = c
    have hmc : m ≤ c ∧ c ≤ BOUND := by have := hg.dcap_le; subst hc; split <;> omega
    have hge := hg.ge_min l.table.size c
    simp only [if_neg (Nat.not_lt.mpr (hg.le_max l.table.size c (by omega) hmc.2))]
    refine ⟨_, rfl, rfl, ?_, ?_, ?_, fun h => by cases h⟩
    · simp only [abs, Array.toList_append]
      exact List.take_append_of_le_length (by simpa using hi.1)
    · simp only [Array.size_append, Array.size_replicate]
      omega
    · simp only [Array.size_append, Array.size_replicate]
      have := hi.1; omega
  · exact ⟨l, rfl, rfl, rfl, by omega, hi⟩

theorem put_spec (l : TL α) (e : α) (hi : Inv l) (hc : l.size < l.table.size) :
    ∃ l', put l e = some l' ∧ l'.size = l.size + 1 ∧ abs l' = abs l ++ [e] ∧
      l'.table.size = l.table.size ∧ Inv l' ∧ l'.table.toList = l.table.toList.set l.size e := by
  obtain ⟨size, nil, table⟩ := l
  simp only at hc
  refine ⟨⟨size + 1, nil, table.set size e hc⟩, by simp [put, hc], rfl, ?_, by simp, ?_, by simp⟩
  · simp only [abs, Array.toList_set]
    rw [List.take_add_one, List.take_set_of_le (Nat.le_refl _)]
    simp [hc]
  · constructor
    · simp; omega
    · intro h; have := hi.2 h; simp only at this; omega

theorem putAll_spec (xs : List α) (l : TL α) (hi : Inv l) (hc : l.size + xs.length ≤ l.table.size) :
    ∃ l', putAll xs l = some l' ∧ l'.size = l.size + xs.length ∧ abs l' = abs l ++ xs ∧
      l'.table.size = l.table.size ∧ Inv l' := by
  induction xs generalizing l with
  | nil => exact ⟨l, rfl, by simp, by simp, rfl, hi⟩
  | cons x xs ih =>
    simp only [List.length_cons] at hc
    obtain ⟨l1, h1, hs1, ha1, ht1, hi1, _⟩ := put_spec l x hi (by omega)
    obtain ⟨l2, h2, hs2, ha2, ht2, hi2⟩ := ih l1 hi1 (by omega)
    refine ⟨l2, by simp [putAll, h1, h2], ?_, ?_, by omega, hi2⟩
    · simp only [List.length_cons]; omega
    · rw [ha2, ha1]; simp

theorem add_spec (g : Growth) (hg : g.OK) (z e : α) (l : TL α) (hi : Inv l) (hb : l.size + 1 ≤ BOUND) :
    ∃ l', add g z e l = some l' ∧ abs l' = abs l ++ [e] ∧ Inv l' := by
  obtain ⟨l1, h1, hs1, ha1, hc1, hi1⟩ := ensure_spec g hg z (l.size + 1) l hi hb
  obtain ⟨l2, h2, _, ha2, _, hi2, _⟩ := put_spec l1 e hi1 (by omega)
  exact ⟨l2, by simp [add, h1, h2], by rw [ha2, ha1], hi2⟩

theorem addAllArray_spec (g : Growth) (hg : g.OK) (z : α) (xs : List α) (l : TL α) (hi : Inv l)
    (hb : l.size + xs.length ≤ BOUND) :
    ∃ l', addAllArray g z xs l = some l' ∧ abs l' = abs l ++ xs ∧ Inv l' := by
  obtain ⟨l1, h1, hs1, ha1, hc1, hi1⟩ := ensure_spec g hg z (l.size + xs.length) l hi hb
  obtain ⟨l2, h2, _, ha2, _, hi2⟩ := putAll_spec xs l1 hi1 (by omega)
  exact ⟨l2, by simp [addAllArray, h1, h2], by rw [ha2, ha1], hi2⟩

theorem addAll_spec (g : Growth) (hg : g.OK) (z : α) (o l : TL α) (hi : Inv l) (ho : Inv o)
    (hb : l.size + o.size ≤ BOUND) :
    ∃ l', addAll g z o l = some l' ∧ abs l' = abs l ++ abs o ∧ Inv l' := by
  obtain ⟨l1, h1, hs1, ha1, hc1, hi1⟩ := ensure_spec g hg z (l.size + o.size) l hi hb
  have hl : (elems o).length = o.size := by rw [elems_eq_abs ho, abs_length ho]
  obtain ⟨l2, h2, _, ha2, _, hi2⟩ := putAll_spec (elems o) l1 hi1 (by omega)
  exact ⟨l2, by simp [addAll, h1, h2], by rw [ha2, ha1, elems_eq_abs ho], hi2⟩

theorem get_spec (l : TL α) (i : Int) (hi : Inv l) :
    get l i = if 0 ≤ i ∧ i < (abs l).length then (abs l)[i.toNat]? else none := by
  rw [abs_length hi]
  fun_cases get l i with
  | case1 h => rw [if_neg (by omega)]
  | case2 _ h => rw [if_neg (by omega)]
  | case3 h1 h2 =>
    rw [if_pos (by omega), abs, List.getElem?_take_of_lt (by omega), Array.getElem?_toList]

theorem set_spec (l : TL α) (i : Int) (v : α) (hi : Inv l) :
    (0 ≤ i ∧ i < (abs l).length →
        ∃ l', set l i v = some l' ∧ abs l' = (abs l).set i.toNat v ∧ Inv l') ∧
    (¬ (0 ≤ i ∧ i < (abs l).length) → set l i v = none) := by
  rw [abs_length hi]
  fun_cases set l i v with
  | case1 h => exact ⟨fun hr => by omega, fun _ => rfl⟩
  | case2 _ h => exact ⟨fun hr => by omega, fun _ => rfl⟩
  | case3 h1 h2 ht =>
    exact ⟨fun _ => ⟨_, rfl, by simp only [abs, Array.toList_set, List.take_set],
      by simpa using hi.1, fun h => by simpa using hi.2 h⟩, fun hr => by omega⟩
  | case4 h1 h2 ht => exact ⟨fun hr => by have := hi.1; omega, fun _ => rfl⟩

/-- round `i` of `n` (`k` rounds left) copies `A[i]`, the `i`-th of the first `n` table slots,
    which the appends beyond slot `n` leave alone -/
theorem selfLoop_spec (n : Nat) (A : List α) (hAl : A.length = n) :
    ∀ (k i : Nat) (l : TL α), i + k = n → Inv l → l.table.toList.take n = A →
      l.size = n + i → n + n ≤ l.table.size →
      ∃ l', selfLoop k i l = some l' ∧ abs l' = abs l ++ A.drop i ∧ Inv l' := by
  intro k
  induction k with
  | zero =>
    intro i l hk hi hA hs hc
    exact ⟨l, rfl, by
      have : A.length ≤ i := Nat.le_of_eq (hAl.trans hk.symm)
      rw [List.drop_of_length_le this, List.append_nil], hi⟩
  | succ k ih =>
    intro i l hk hi hA hs hc
    have hlt : i < n := by omega
    have hiA : i < A.length := hAl ▸ hlt
    have hget : l.table[i]? = some A[i] := by
      rw [← Array.getElem?_toList, ← List.getElem?_take_of_lt hlt, hA, List.getElem?_eq_getElem hiA]
    obtain ⟨l1, h1, hs1, ha1, ht1, hi1, htl⟩ := put_spec l A[i] hi (by omega)
    have hA1 : l1.table.toList.take n = A := by
      rw [htl, List.take_set_of_le (by omega)]; exact hA
    obtain ⟨l2, h2, ha2, hi2⟩ := ih (i + 1) l1 (by omega) hi1 hA1 (by omega) (by omega)
    refine ⟨l2, ?_, ?_, hi2⟩
    · simp only [selfLoop, hget, h1, Option.bind_some, h2]
    · rw [ha2, ha1, List.append_assoc, List.singleton_append, ← List.drop_eq_getElem_cons hiA]

theorem addAllSelf_spec (g : Growth) (hg : g.OK) (z : α) (l : TL α) (hi : Inv l) (hb : l.size + l.size ≤ BOUND) :
    ∃ l', addAllSelf g z l = some l' ∧ abs l' = abs l ++ abs l ∧ Inv l' := by
  obtain ⟨l1, h1, hs1, ha1, hc1, hi1⟩ := ensure_spec g hg z (l.size + l.size) l hi hb
  have hA : l1.table.toList.take l.size = abs l := by rw [← ha1, abs, hs1]
  obtain ⟨l2, h2, ha2, hi2⟩ := selfLoop_spec l.size (abs l) (abs_length hi) l.size 0 l1
    (Nat.zero_add _) hi1 hA hs1 hc1
  exact ⟨l2, by simp [addAllSelf, h1, h2], by rw [ha2, ha1]; simp, hi2⟩

/-! ### the two statements from before the repairs (witnesses for fix-D44, fix-D45) -/

/-- `AddAllArray` with `ensure` from before fix-D44 -/
def addAllArrayOrig (z : α) (xs : List α) (l : TL α) : Option (TL α) :=
  (ensureOrig z (l.size + xs.length) l).bind (putAll xs)

theorem putAll_overflow (xs : List α) (l : TL α) (hs : l.size ≤ l.table.size)
    (h : l.table.size < l.size + xs.length) : putAll xs l = none := by
  induction xs generalizing l with
  | nil => simp at h; omega
  | cons x xs ih =>
    obtain ⟨size, nil, table⟩ := l
    simp only [List.length_cons] at h
    simp only [putAll, put]
    by_cases hc : size < table.size
    · simp only [hc, dite_true, Option.bind_some]
      exact ih _ (by simp; omega) (by simp; omega)
    · simp [hc]

/-- D45: with the loop bound re-read (`i < other.size`, `other == this`) the loop never ends
    normally: `i < size` is preserved by every round -/
theorem selfLoopOrig_panics (i : Nat) (l : TL α) (hi : i < l.size) : selfLoopOrig i l = none := by
  fun_induction selfLoopOrig i l with
  | case1 | case3 => rfl
  | case2 _ _ _ _ _ _ ih => exact ih (Nat.succ_lt_succ hi)
  | case4 _ _ h => exact absurd hi h

end TL
end Lists
